import NfcVerif.Model.NfcDep
/-!
# Reference definitions for the function-translator group DepPdu (`Props/FnBridgeDepPdu.lean`)

`Model/NfcDep.lean` describes the Target of NFC-DEP as a state machine on decoded PDUs (`tRx`).  The decision
which `Target.send_dep_res_recv_dep_req` (`nfc/dep.py`) takes for a DEP_REQ of the right device identifier is
buried in it (`tRx.tRxActive`, case `.dep`); it is isolated here in spec style so that the regenerated dispatch
chain of the source can be compared with it, and the model with it (`Props/FnBridgeDepPdu.lean`:
`tRxActive_dep_eq`).

NFC Forum Digital Protocol, NFC-DEP target rules: an attention request is answered with an attention response;
a NACK and a request that repeats the packet number of the last answered request are retransmission requests:
the last response is sent again; a timeout extension response (RTOX request of the Initiator) is a new PDU for
the upper layer only while the Target's own RTOX request is outstanding, else it repeats one already answered;
everything else is a new request.
-/
namespace NfcVerif.DepPduRef
open NfcVerif.NfcDep

/-- what the Target does with a received DEP_REQ -/
inductive TgtAct
  /-- answer with an attention response, keep waiting -/
  | atn
  /-- send the saved response again, keep waiting -/
  | resend
  /-- hand the request to `exchange` -/
  | accept
  deriving DecidableEq, Repr

/-- `fmt`, `rpni`: PDU type and packet number of the request; `pni`: the Target's packet number (`None` before the
first exchange); `rtoxPending`: the saved response is the Target's own RTOX request -/
def tgtDecide (fmt rpni : Nat) (pni : Option Nat) (rtoxPending : Bool) : TgtAct :=
  if fmt = fATN then .atn
  else if fmt = fNAK then .resend
  else if fmt = fTOX then (if rtoxPending then .accept else .resend)
  else if pni = some rpni then .resend
  else .accept

/-- a new request is never taken for a retransmission: a request with a packet number different from the Target's
that is neither ATN, NAK nor RTOX is accepted -/
theorem new_request_accepted (fmt rpni : Nat) (pni : Option Nat) (b : Bool)
    (h1 : fmt ≠ fATN) (h2 : fmt ≠ fNAK) (h3 : fmt ≠ fTOX) (h4 : pni ≠ some rpni) :
    tgtDecide fmt rpni pni b = .accept := by
  unfold tgtDecide; simp [h1, h2, h3, h4]

/-- a duplicate is never delivered twice: a request that repeats the Target's packet number (and is not an RTOX
response while RTOX is outstanding) is answered from the saved response -/
theorem duplicate_resent (fmt rpni : Nat) (b : Bool) (h1 : fmt ≠ fATN) (h3 : fmt ≠ fTOX) :
    tgtDecide fmt rpni (some rpni) b = .resend := by
  unfold tgtDecide; simp [h1, h3]

/-- what `send_dep_res_recv_dep_req` does with a received request -/
inductive TgtOuter
  /-- not for this device / not a data exchange PDU: nothing is sent, keep waiting -/
  | ignore
  /-- DSL_REQ / RLS_REQ: answer it and leave `exchange` with None -/
  | leave
  /-- DEP_REQ: see `TgtAct` -/
  | dep (a : TgtAct)
  deriving DecidableEq, Repr

def tgtDispatch (didMismatch isDsl isRls isDep : Bool) (fmt rpni : Nat) (pni : Option Nat) (rtoxPending : Bool) : TgtOuter :=
  if didMismatch then .ignore
  else if isDsl || isRls then .leave
  else if isDep then .dep (tgtDecide fmt rpni pni rtoxPending)
  else .ignore

/-- a request for another device identifier is never handed to `exchange` nor answered -/
theorem other_did_ignored (isDsl isRls isDep : Bool) (fmt rpni : Nat) (pni : Option Nat) (b : Bool) :
    tgtDispatch true isDsl isRls isDep fmt rpni pni b = .ignore := rfl

end NfcVerif.DepPduRef
