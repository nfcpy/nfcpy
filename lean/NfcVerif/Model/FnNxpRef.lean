import NfcVerif.Model.Auth
import NfcVerif.Model.FnVendorRef
import NfcVerif.PyFn
/-!
# Reference semantics of the NXP Type 2 Tag vendor methods (`nfc/tag/tt2_nxp.py`) over uninterpreted tag commands

`Model/Auth.lean` has `NTAG21x._authenticate` / `_protect_with_password` as functions of the answers that
arrived; `Model/CtlC03.lean` has the protect / format methods over a page memory.  Here the SAME decisions are
written with everything below the method as a parameter - the tag commands (`tx`, `rd`, `wr`: what
`transceive`, `read`, `write` return or raise), `authenticate` where `protect` calls it, and the cipher
(`D key iv data`, `E key iv data`: what `triple_des(key, CBC, iv).decrypt/encrypt(data)` of pyDes return) - so that
the regenerated definitions of group Nxp (`Gen/FnNxp.lean`) can be compared with them for ALL behaviours of tag,
channel and cipher, and the property-relevant facts can be stated with DES uninterpreted:

* NTAG21x `authenticate` returns True iff the tag answered PWD_AUTH(key[0:4]) with exactly key[4:6] (PACK)
  (`ntagAuthenticate_true_iff`);
* Ultralight C `authenticate` returns True iff the tag's second answer decrypts (key, start value = second
  ciphertext block sent) to RndA rotated left by one octet, RndA being the random number of THIS call
  (`ulcAuthenticate_true_iff`);
* `protect(p)` sends WRITE commands only for the key / configuration pages of the product (Ultralight C: 42..47,
  NTAG21x: cfgpage..cfgpage+3) and, when the tag is NDEF formatted and protection starts at page 3, for the
  capability container page 3 - never for a user data page (`ulcProtectWrites_pages`, `ntagCfgWrites_pages`);
  the data written to the key pages is the key derived from `p` (`ulcKeyWrites_data`; `ntagCfg` splices the key
  into octets 8..13 of the configuration).

The WRITE commands of a method are a LIST of (page, data) run in order (`runWrites`): what is written where is a
statement about that list.
-/
namespace NfcVerif.NxpRef
open NfcVerif NfcVerif.PyFn NfcVerif.VendorRef

abbrev Tx := Bytes → Py Bytes
abbrev Rd := Int → Py Bytes
abbrev Wr := Int → Bytes → Py Int
/-- pyDes `triple_des(key, CBC, iv).decrypt(data)` / `.encrypt(data)`: key, start value, data -/
abbrev Cipher := Bytes → Bytes → Bytes → Bytes

/-- WRITE commands in order; the first failure ends the method -/
def runWrites (wr : Wr) : List (Int × Bytes) → Py Unit
  | [] => .ok ()
  | (p, d) :: l => wr p d >>= fun _ => runWrites wr l

/-- `except tt2.Type2TagCommandError: return v` -/
def catchTagCmd {α} (r : Py α) (v : α) : Py α :=
  match r with
  | .error (.tagCmd _) => .ok v
  | r => r

/-- a result other than the handler's value comes from the body -/
theorem catchTagCmd_eq_ok {α} {r : Py α} {v b : α} (h : b ≠ v) : catchTagCmd r v = .ok b ↔ r = .ok b := by
  unfold catchTagCmd
  cases r with
  | ok a => exact Iff.rfl
  | error e => cases e <;> simp [h.symm]

/-! ## NTAG21x `_authenticate` -/

/-- body of the `try`: PWD_AUTH with PWD = key[0:4]; the answer must be PACK = key[4:6] -/
def ntagAuthTry (key : Bytes) (tx : Tx) : Py Bool :=
  tx ([0x1B] ++ slice key 0 4) >>= fun rsp => .ok (decide (rsp = slice key 4 6))

def ntagAuthenticate (pw : Bytes) (tx : Tx) : Py Bool :=
  Auth.ntagKey pw >>= fun key => catchTagCmd (ntagAuthTry key tx) false

/-- True iff the tag's answer to PWD_AUTH(key[0:4]) is exactly key[4:6] -/
theorem ntagAuthenticate_true_iff (pw : Bytes) (tx : Tx) :
    ntagAuthenticate pw tx = .ok true ↔
      ∃ key, Auth.ntagKey pw = .ok key ∧ tx ([0x1B] ++ slice key 0 4) = .ok (slice key 4 6) := by
  unfold ntagAuthenticate ntagAuthTry
  simp only [Py.bind_eq_ok, catchTagCmd_eq_ok (by decide : true ≠ false), Except.ok.injEq, decide_eq_true_eq, exists_eq_right]

/-- a tag command error (no answer, NAK) is False, never an exception -/
theorem ntagAuthenticate_tagCmd (pw key : Bytes) (tx : Tx) (n : Nat) (hk : Auth.ntagKey pw = .ok key)
    (ht : tx ([0x1B] ++ slice key 0 4) = .error (.tagCmd n)) : ntagAuthenticate pw tx = .ok false := by
  unfold ntagAuthenticate ntagAuthTry catchTagCmd
  rw [hk]; simp only [Py.bind_ok]; rw [ht]; rfl

/-! ## Mifare Ultralight C `_authenticate` -/

/-- `struct.pack("B", x[0])`: the first octet as a byte string -/
def firstOctet (x : Bytes) : Py Bytes := getB x 0 >>= fun b => pack [.B] [b]

def zeros8 : Bytes := [0, 0, 0, 0, 0, 0, 0, 0]

/-- the second command: AF | E_key,iv=ek(RndB) (RndA | RndB rotated left) -/
def ulcM2 (E : Cipher) (key ra ekRndB rndB b0 : Bytes) : Bytes := E key ekRndB (ra ++ slice rndB 1 8 ++ b0)

def ulcAuthenticate (D E : Cipher) (pw ra : Bytes) (tx : Tx) : Py Bool :=
  ulcKey pw >>= fun key =>
  tx [0x1A, 0] >>= fun r1 =>
  firstOctet (D key zeros8 (slice r1 1 9)) >>= fun b0 =>
  match tx ([0xAF] ++ ulcM2 E key ra (slice r1 1 9) (D key zeros8 (slice r1 1 9)) b0) with
  | .error (.tagCmd _) => .ok false
  | .error e => .error e
  | .ok r2 =>
    firstOctet ra >>= fun a0 =>
    .ok (decide (D key (slice (ulcM2 E key ra (slice r1 1 9) (D key zeros8 (slice r1 1 9)) b0) 8 16) (slice r2 1 9)
                  = slice ra 1 9 ++ a0))

/-- True iff the tag's second answer decrypts - under the key derived from the password and the start value that
is the second ciphertext block of THIS call - to this call's RndA rotated left by one octet -/
theorem ulcAuthenticate_true_iff (D E : Cipher) (pw ra : Bytes) (tx : Tx) :
    ulcAuthenticate D E pw ra tx = .ok true ↔
      ∃ key r1 b0 r2 a0, ulcKey pw = .ok key ∧ tx [0x1A, 0] = .ok r1
        ∧ firstOctet (D key zeros8 (slice r1 1 9)) = .ok b0
        ∧ tx ([0xAF] ++ ulcM2 E key ra (slice r1 1 9) (D key zeros8 (slice r1 1 9)) b0) = .ok r2
        ∧ firstOctet ra = .ok a0
        ∧ D key (slice (ulcM2 E key ra (slice r1 1 9) (D key zeros8 (slice r1 1 9)) b0) 8 16) (slice r2 1 9)
            = slice ra 1 9 ++ a0 := by
  unfold ulcAuthenticate
  simp only [Py.bind_eq_ok]
  constructor
  · rintro ⟨key, hk, r1, h1, b0, hb, h⟩
    cases h2 : tx ([0xAF] ++ ulcM2 E key ra (slice r1 1 9) (D key zeros8 (slice r1 1 9)) b0) with
    | error e => rw [h2] at h; cases e <;> cases h
    | ok r2 =>
      rw [h2] at h
      obtain ⟨a0, ha, hd⟩ := Py.bind_eq_ok.mp h
      exact ⟨key, r1, b0, r2, a0, hk, h1, hb, h2, ha, of_decide_eq_true (Except.ok.inj hd)⟩
  · rintro ⟨key, r1, b0, r2, a0, hk, h1, hb, h2, ha, hd⟩
    refine ⟨key, hk, r1, h1, b0, hb, ?_⟩
    rw [h2]
    exact Py.bind_eq_ok.mpr ⟨a0, ha, by rw [hd, decide_eq_true rfl]⟩

/-- every failure of the first command is raised (only the second command failing with a tag command error is False) -/
theorem ulcAuthenticate_first_fails (D E : Cipher) (pw ra key : Bytes) (tx : Tx) (e : Exc) (hk : ulcKey pw = .ok key)
    (h1 : tx [0x1A, 0] = .error e) : ulcAuthenticate D E pw ra tx = .error e := by
  unfold ulcAuthenticate; rw [hk]; simp only [Py.bind_ok]; rw [h1]; rfl

/-! ## `_protect_with_password` -/

/-- capability container test of the password protection: magic E1, major version 1 -/
def ccValidPw (cc : Bytes) : Py Bool :=
  getB cc 0 >>= fun a => if a = 225 then getB cc 1 >>= fun b => .ok (decide (band b 240 = 16)) else .ok false

/-- protection from page 3 (or below) on an NDEF formatted tag: proprietary access (8) into the write nibble, with
read protection also into the read nibble, of CC byte 3; the ONLY page written is page 3 -/
def ccAccess (rd : Rd) (wr : Wr) (rp : Bool) (pf : Int) : Py Unit :=
  if pf ≤ 3 then
    rd 3 >>= fun t =>
    ccValidPw (slice t 0 4) >>= fun v =>
    if v = true then
      getB (slice t 0 4) 3 >>= fun c =>
      setB (slice t 0 4) 3 (bor c (if rp = true then 136 else 8)) >>= fun cc' =>
      runWrites wr [(3, cc')]
    else .ok ()
  else .ok ()

/-- `return self.authenticate(key) if self.target else False` after the re-activation -/
def reauth (target : Option Int) (auth : Bytes → Py Bool) (key : Bytes) : Py Bool :=
  match target with
  | none => .ok false
  | some t => if t ≠ 0 then auth key else .ok false

/-- Ultralight C: the key as the tag stores it (each half reversed) in pages 44..47 -/
def ulcKeyWrites (key : Bytes) : List (Int × Bytes) :=
  [(44, slice (sliceRev key (some 7) none) 0 4), (45, slice (sliceRev key (some 7) none) 4 8),
   (46, slice (sliceRev key (some 15) (some 7)) 0 4), (47, slice (sliceRev key (some 15) (some 7)) 4 8)]

/-- all WRITE commands of the Ultralight C password protection in front of the capability container update -/
def ulcProtectWrites (key : Bytes) (rp : Bool) (pf : Int) : List (Int × Bytes) :=
  ulcKeyWrites key ++ [(42, ulcAuth0 pf), (43, ulcAuth1 rp)]

def ulcProtectPw (pw : Bytes) (rp : Bool) (pf : Int) (target : Option Int) (auth : Bytes → Py Bool) (rd : Rd) (wr : Wr) :
    Py Bool :=
  ulcKey pw >>= fun key =>
  runWrites wr (ulcProtectWrites key rp pf) >>= fun _ =>
  ccAccess rd wr rp pf >>= fun _ =>
  reauth target auth key

/-- key pages 44..47, AUTH0 42, AUTH1 43: all behind the user memory (pages 4..39) and the lock / counter pages -/
theorem ulcProtectWrites_pages (key : Bytes) (rp : Bool) (pf : Int) :
    ∀ w ∈ ulcProtectWrites key rp pf, 42 ≤ w.1 ∧ w.1 ≤ 47 := by
  intro w hw
  simp only [ulcProtectWrites, ulcKeyWrites, List.cons_append, List.nil_append, List.mem_cons, List.not_mem_nil, or_false] at hw
  rcases hw with h | h | h | h | h | h <;> subst h <;> refine ⟨?_, ?_⟩ <;> simp

/-- the octets sent to pages 44..47 are, in order, the two key halves each reversed - the key derived from the
password and nothing else -/
theorem ulcKeyWrites_data (key : Bytes) :
    (ulcKeyWrites key).map (·.2) =
      [slice (sliceRev key (some 7) none) 0 4, slice (sliceRev key (some 7) none) 4 8,
       slice (sliceRev key (some 15) (some 7)) 0 4, slice (sliceRev key (some 15) (some 7)) 4 8] := by
  simp only [ulcKeyWrites, List.map_cons, List.map_nil]

/-- NTAG21x: PWD / PACK, AUTH0 and PROT put into the 16 octets read at the configuration page -/
def ntagCfg (cfg key : Bytes) (rp : Bool) (pf : Int) : Py Bytes :=
  setB (setSlice cfg 8 14 key) 3 (imax 3 (imin pf 255)) >>= fun c =>
  (if rp = true then getB c 4 >>= fun a => .ok (bor a 128) else getB c 4 >>= fun a => .ok (band a 127)) >>= fun v =>
  setB c 4 v

/-- the four configuration pages, written back in order -/
def ntagCfgWrites (cfgpage : Int) (c : Bytes) : List (Int × Bytes) :=
  [(cfgpage + 0, slice c (0 * 4) ((0 + 1) * 4)), (cfgpage + 1, slice c (1 * 4) ((1 + 1) * 4)),
   (cfgpage + 2, slice c (2 * 4) ((2 + 1) * 4)), (cfgpage + 3, slice c (3 * 4) ((3 + 1) * 4))]

def ntagProtectPw (pw : Bytes) (rp : Bool) (pf cfgpage : Int) (target : Option Int) (auth : Bytes → Py Bool)
    (rd : Rd) (wr : Wr) : Py Bool :=
  Auth.ntagKey pw >>= fun key =>
  rd cfgpage >>= fun cfg =>
  ntagCfg cfg key rp pf >>= fun c =>
  runWrites wr (ntagCfgWrites cfgpage c) >>= fun _ =>
  ccAccess rd wr rp pf >>= fun _ =>
  reauth target auth key

/-- only the four configuration pages of the product -/
theorem ntagCfgWrites_pages (cfgpage : Int) (c : Bytes) :
    ∀ w ∈ ntagCfgWrites cfgpage c, cfgpage ≤ w.1 ∧ w.1 ≤ cfgpage + 3 := by
  intro w hw
  simp only [ntagCfgWrites, List.mem_cons, List.not_mem_nil, or_false] at hw
  rcases hw with h | h | h | h <;> subst h <;> constructor <;> simp <;> omega

/-- the capability container update writes page 3 and nothing else (when it writes at all) -/
theorem ccAccess_no_write (rd : Rd) (rp : Bool) (pf : Int) (wr wr' : Wr) (h : ∀ d, wr 3 d = wr' 3 d) :
    ccAccess rd wr rp pf = ccAccess rd wr' rp pf := by
  unfold ccAccess runWrites runWrites
  simp only [h]

/-! ## lock bit protection -/

/-- capability container test of the lock bit protection -/
def ccValid (cc : Bytes) : Py Bool :=
  getB cc 0 >>= fun a => if a = 225 then getB cc 1 >>= fun b => .ok (decide (shr b 4 = 1)) else .ok false

/-- NDEF formatted: CC byte 3 := 0F (no write access), written to page 3 -/
def ccReadOnly (rd : Rd) (wr : Wr) : Py Unit :=
  rd 3 >>= fun t =>
  ccValid (slice t 0 4) >>= fun v =>
  if v = true then setB (slice t 0 4) 3 15 >>= fun cc' => runWrites wr [(3, cc')] else .ok ()

/-- Ultralight C / NTAG203: CC read-only, static lock bytes (page 2), dynamic lock bytes (page 40) -/
def lockbits40 (dyn : Bytes) (rd : Rd) (wr : Wr) : Py Bool :=
  ccReadOnly rd wr >>= fun _ => runWrites wr [(2, [0, 0, 255, 255]), (40, dyn)] >>= fun _ => .ok true

/-- NTAG21x: CC read-only, static lock bytes, dynamic lock bytes in front of the configuration pages (products with
more than 16 pages), CFGLCK (ACCESS bit 6) unless it is set -/
def ntagLockbits (cfgpage : Int) (rd : Rd) (wr : Wr) : Py Bool :=
  ccReadOnly rd wr >>= fun _ =>
  runWrites wr ([(2, [0, 0, 255, 255])] ++ (if cfgpage > 16 then [(cfgpage - 1, [255, 255, 255, 0])] else [])) >>= fun _ =>
  rd cfgpage >>= fun cfg =>
  getB cfg 4 >>= fun a =>
  if band a 64 = 0 then
    setB cfg 4 (bor a 64) >>= fun cfg' => runWrites wr [(cfgpage + 1, slice cfg' 4 8)] >>= fun _ => .ok true
  else .ok true

/-! ## NDEF capability data -/

/-- the override on top of the generic Type 2 Tag capability read: after a successful authentication the
proprietary access nibbles (8) count as readable / writeable (writeable only without lock bits set) -/
def capFlags (mem : Bytes) (readable writeable auth : Bool) : Py (Bool × Bool) :=
  if auth = true then
    (if ¬ readable = true then getB mem 15 >>= fun b => .ok (decide (shr b 4 = 8)) else .ok false) >>= fun r =>
    (if ¬ writeable = true then getB mem 15 >>= fun b => .ok (decide (band b 15 = 8)) else .ok false) >>= fun w =>
    .ok (if r = true then true else readable, if w = true then decide (slice mem 10 12 = [0, 0]) else writeable)
  else .ok (readable, writeable)

/-- without authentication the flags are what the generic code derived -/
theorem capFlags_unauthenticated (mem : Bytes) (r w : Bool) : capFlags mem r w false = .ok (r, w) := rfl

/-- a flag that is set stays set -/
theorem capFlags_monotone (mem : Bytes) (r w a r' w' : Bool) (h : capFlags mem r w a = .ok (r', w')) :
    (r = true → r' = true) ∧ (w = true → w' = true) := by
  unfold capFlags at h
  cases a
  · cases h; exact ⟨id, id⟩
  · simp only [if_true, Py.bind_eq_ok, Except.ok.injEq, Prod.mk.injEq] at h
    obtain ⟨rr, -, ww, hw, rfl, rfl⟩ := h
    refine ⟨fun hr => by rw [hr]; cases rr <;> rfl, fun hw' => ?_⟩
    -- a tag that was writeable is not looked at again
    rw [hw', if_neg (fun hn => hn rfl)] at hw
    cases hw
    exact hw'

/-! ## `_format`: factory content of pages 4, 5 when no NDEF management data was found -/

def formatNxp (p4 p5 : Bytes) (version : Int) (wipe : Option Int) (ndef : Option Bytes) (wr : Wr)
    (base : Int → Option Int → Py Bool) : Py Bool :=
  (match ndef with
   | none => runWrites wr [(4, p4), (5, p5)]
   | some _ => .ok ()) >>= fun _ => base version wipe

/-- a tag with NDEF management data is handed to the generic format untouched -/
theorem formatNxp_some (p4 p5 : Bytes) (version : Int) (wipe : Option Int) (n : Bytes) (wr : Wr)
    (base : Int → Option Int → Py Bool) : formatNxp p4 p5 version wipe (some n) wr base = base version wipe := rfl

/-! ## `activate`: behind the GET_VERSION exchange -/

def activateVersion (clf target : Int) (rsp : Bytes) (known : Bool) (sense : Int → Py (Option Int))
    (mkv mk203 : Int → Int → Int) : Py (Option Int) :=
  if known = true then .ok (some (mkv clf target))
  else if rsp = [0] then
    sense target >>= fun t => match t with
      | none => .ok none
      | some _ => .ok (some (mk203 clf target))
  else .ok none

end NfcVerif.NxpRef
