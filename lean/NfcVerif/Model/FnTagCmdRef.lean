import NfcVerif.Py
import NfcVerif.Lemmas.PyYields
/-!
# Reference definitions for the command framing of Type 1 / Type 2 / Type 3 tags

Spec-style definitions of what the command builders and response checks of `nfc/tag/tt1.py`,
`nfc/tag/tt2.py`, `nfc/tag/tt3.py` have to compute, written from the tag specifications (NFC Forum
Type 1/2/3 Tag Operation, Topaz / NTAG / FeliCa manuals), where the property models inline the
octets (`Model/AdvT12.lean`: `stageA`, `stageB`, `segLoop`, `read2`, `sectorSelect`) or are abstract
(`Model/Retry.lean`: command tokens).  `Props/FnBridgeTagCmd.lean` proves the regenerated source
functions equal to these and `Lemmas/FnBridgeTagCmd.lean` connects them with the model functions.

Facts proved here are the property-relevant ones: command lengths, address octets inside the
addressable range (C16: a command that is retried is the same frame; C01-C03: the address octet of a
write names the unit the model writes), response data of the exact size.
-/
namespace NfcVerif.TagCmdRef

def zeros8 : Bytes := [0, 0, 0, 0, 0, 0, 0, 0]

/-! ## Type 1 Tag (`opcode ADD DAT UID-echo`, static commands 7 octets, dynamic ones 14) -/

/-- RID -/
def t1Rid : Bytes := [0x78, 0, 0, 0, 0, 0, 0]

/-- RALL -/
def t1Rall (uid : Bytes) : Bytes := [0x00, 0, 0] ++ uid

/-- READ: byte address `block << 3 | byte` of the static memory, 0..127 -/
def t1Read (addr : Int) (uid : Bytes) : Py Bytes :=
  if addr < 0 ∨ addr > 127 then .error .value else .ok ([0x01, addr.toNat, 0] ++ uid)

/-- WRITE-E (53h, erase first) / WRITE-NE (1Ah) -/
def t1Write (addr data : Int) (erase : Bool) (uid : Bytes) : Py Bytes :=
  if addr < 0 ∨ addr ≥ 128 then .error .value
  else if data < 0 ∨ data > 255 then .error .value
  else .ok ([if erase then 0x53 else 0x1A, addr.toNat, data.toNat] ++ uid)

/-- READ8: block number 0..255 -/
def t1Read8 (block : Int) (uid : Bytes) : Py Bytes :=
  if block < 0 ∨ block > 255 then .error .value else .ok ([0x02, block.toNat] ++ zeros8 ++ uid)

/-- RSEG: segment 0..15 in the upper nibble of ADDS -/
def t1Rseg (segment : Int) (uid : Bytes) : Py Bytes :=
  if segment < 0 ∨ segment > 15 then .error .value else .ok ([0x10, segment.toNat * 16] ++ zeros8 ++ uid)

/-- WRITE-E8 (54h) / WRITE-NE8 (1Bh) -/
def t1Write8 (block : Int) (data : Bytes) (erase : Bool) (uid : Bytes) : Py Bytes :=
  if block < 0 ∨ block > 255 then .error .value
  else .ok ([if erase then 0x54 else 0x1B, block.toNat] ++ data ++ uid)

/-- READ8 answer `ADD8 D0..D7`: the eight data octets, RESPONSE_ERROR (2) when the answer is short -/
def t1Read8Rsp (rsp : Bytes) : Py Bytes :=
  if rsp.length < 9 then .error (.tagCmd 2) else .ok ((rsp.drop 1).take 8)

/-- RSEG answer `ADDS D0..D127` -/
def t1RsegRsp (rsp : Bytes) : Py Bytes :=
  if rsp.length < 129 then .error (.tagCmd 2) else .ok ((rsp.drop 1).take 128)

/-- WRITE-E8 answer: the tag echoes the block content; WRITE_ERROR (3) when it differs after an erasing write -/
def t1Write8Rsp (rsp data : Bytes) (erase : Bool) : Py Unit :=
  if rsp.length < 9 then .error (.tagCmd 2)
  else if erase ∧ (rsp.drop 1).take 8 ≠ data then .error (.tagCmd 3)
  else .ok ()

theorem t1Rall_length (uid : Bytes) : (t1Rall uid).length = 3 + uid.length := by
  simp [t1Rall]; omega

theorem t1Read_spec (addr : Int) (uid cmd : Bytes) (h : t1Read addr uid = .ok cmd) :
    cmd.length = 3 + uid.length ∧ ∃ a : Nat, a < 128 ∧ (a : Int) = addr ∧ cmd = [0x01, a, 0] ++ uid := by
  revert cmd
  exact Yields.ite' (fun _ => .error _) fun _ => .ok ⟨by simp; omega, addr.toNat, by omega, by omega, rfl⟩

theorem t1Write_spec (addr data : Int) (erase : Bool) (uid cmd : Bytes) (h : t1Write addr data erase uid = .ok cmd) :
    cmd.length = 3 + uid.length ∧ ∃ a d : Nat, a < 128 ∧ d < 256 ∧ (a : Int) = addr ∧ (d : Int) = data ∧
      cmd = [if erase then 0x53 else 0x1A, a, d] ++ uid := by
  revert cmd
  exact Yields.ite' (fun _ => .error _) fun _ => .ite' (fun _ => .error _) fun _ =>
    .ok ⟨by simp; omega, addr.toNat, data.toNat, by omega, by omega, by omega, by omega, rfl⟩

theorem t1Read8_spec (block : Int) (uid cmd : Bytes) (h : t1Read8 block uid = .ok cmd) :
    cmd.length = 10 + uid.length ∧ ∃ b : Nat, b < 256 ∧ (b : Int) = block ∧ cmd = [0x02, b] ++ zeros8 ++ uid := by
  revert cmd
  exact Yields.ite' (fun _ => .error _) fun _ => .ok ⟨by simp [zeros8]; omega, block.toNat, by omega, by omega, rfl⟩

/-- the ADDS octet of RSEG is a valid octet whose lower nibble is zero -/
theorem t1Rseg_spec (segment : Int) (uid cmd : Bytes) (h : t1Rseg segment uid = .ok cmd) :
    cmd.length = 10 + uid.length ∧ ∃ s : Nat, s < 16 ∧ (s : Int) = segment ∧ cmd = [0x10, s * 16] ++ zeros8 ++ uid
      ∧ s * 16 < 256 := by
  revert cmd
  exact Yields.ite' (fun _ => .error _) fun _ =>
    .ok ⟨by simp [zeros8]; omega, segment.toNat, by omega, by omega, rfl, by omega⟩

theorem t1Write8_spec (block : Int) (data : Bytes) (erase : Bool) (uid cmd : Bytes)
    (h : t1Write8 block data erase uid = .ok cmd) :
    cmd.length = 2 + data.length + uid.length ∧ ∃ b : Nat, b < 256 ∧ (b : Int) = block ∧
      cmd = [if erase then 0x54 else 0x1B, b] ++ data ++ uid := by
  revert cmd
  exact Yields.ite' (fun _ => .error _) fun _ => .ok ⟨by simp; omega, block.toNat, by omega, by omega, rfl⟩

theorem t1Read8Rsp_length (rsp d : Bytes) (h : t1Read8Rsp rsp = .ok d) : d.length = 8 := by
  revert d
  exact Yields.ite' (fun _ => .error _) fun _ => .ok (by simp; omega)

theorem t1RsegRsp_length (rsp d : Bytes) (h : t1RsegRsp rsp = .ok d) : d.length = 128 := by
  revert d
  exact Yields.ite' (fun _ => .error _) fun _ => .ok (by simp; omega)

/-! ## Type 2 Tag -/

/-- READ (30h): page number modulo 256 inside the selected sector -/
def t2ReadCmd (page : Int) : Bytes := [0x30, (page % 256).toNat]

/-- a 4 bit NAK answer to READ: one octet with only bits 0 and 2 possibly set besides ... `rsp & FAh = 0` -/
def t2IsNak (rsp : Bytes) : Bool :=
  match rsp with
  | [b] => b &&& 0xFA == 0
  | _ => false

/-- READ answer: sixteen octets (four pages), INVALID_RESPONSE_ERROR (3) otherwise -/
def t2ReadRsp (data : Bytes) : Py Bytes := if data.length ≠ 16 then .error (.tagCmd 3) else .ok data

/-- WRITE (A2h): exactly one page of four octets -/
def t2WriteCmd (page : Int) (data : Bytes) : Py Bytes :=
  if data.length ≠ 4 then .error .value else .ok ([0xA2, (page % 256).toNat] ++ data)

/-- WRITE answer: the 4 bit ACK `Ah`; another single octet is a NAK (INVALID_PAGE_ERROR, 2), anything else
INVALID_RESPONSE_ERROR (3) -/
def t2WriteRsp (rsp : Bytes) : Py Bool :=
  match rsp with
  | [b] => if b ≠ 0x0A then .error (.tagCmd 2) else .ok true
  | _ => .error (.tagCmd 3)

/-- SECTOR SELECT packet 2: sector number and three RFU octets -/
def t2SectorSelect2 (sector : Int) : Py Bytes :=
  if sector < 0 ∨ sector > 255 then .error .struct else .ok [sector.toNat, 0, 0, 0]

/-- byte address -> sector (1 kB) and page (4 octets) -/
def t2Sector (index : Nat) : Nat := index / 1024
def t2Page (index : Nat) : Nat := index / 4

theorem t2ReadCmd_spec (page : Int) : ∃ p : Nat, p < 256 ∧ t2ReadCmd page = [0x30, p] :=
  ⟨(page % 256).toNat, by omega, rfl⟩

theorem t2ReadRsp_length (d r : Bytes) (h : t2ReadRsp d = .ok r) : r.length = 16 ∧ r = d := by
  revert r
  exact Yields.ite' (fun _ => .error _) fun _ => .ok ⟨by omega, rfl⟩

theorem t2WriteCmd_spec (page : Int) (data cmd : Bytes) (h : t2WriteCmd page data = .ok cmd) :
    cmd.length = 6 ∧ ∃ p : Nat, p < 256 ∧ cmd = [0xA2, p] ++ data := by
  revert cmd
  exact Yields.ite' (fun _ => .error _) fun _ => .ok ⟨by simp; omega, (page % 256).toNat, by omega, rfl⟩

/-- the page octet of READ/WRITE addresses the same page inside the sector as the byte address:
`(index >> 2) % 256 = (index % 1024) / 4` -/
theorem t2_page_in_sector (index : Nat) : t2Page index % 256 = (index % 1024) / 4 := by
  unfold t2Page; omega

theorem t2WriteRsp_ok (rsp : Bytes) : t2WriteRsp rsp = .ok true ↔ rsp = [0x0A] := by
  unfold t2WriteRsp
  constructor
  · intro h
    split at h
    · rename_i b
      split at h
      · cases h
      · rename_i hb; simp at hb; rw [hb]
    · cases h
  · intro h; subst h; simp

/-! ## Type 3 Tag -/

/-- little-endian service code: 10 bit service number, 6 bit attribute -/
def t3ServiceCode (number attr : Nat) : Bytes :=
  let v := (number % 1024) * 64 + attr % 64
  [v % 256, v / 256]

theorem t3ServiceCode_isBytes (n a : Nat) : IsBytes (t3ServiceCode n a) := by
  unfold t3ServiceCode IsBytes
  intro b hb
  simp at hb
  rcases hb with h | h <;> omega

/-- block list element: 2 octets (`80h | access << 4 | service`, number) for a block number below 256,
else 3 octets (number little-endian) -/
def t3BlockCode (number access service : Nat) : Py Bytes :=
  let b0 := (access % 8) * 16 + service % 16
  if number < 256 then .ok [0x80 + b0, number]
  else if number < 65536 then .ok [b0, number % 256, number / 256]
  else .error .struct

theorem t3BlockCode_length (n a s : Nat) (b : Bytes) (h : t3BlockCode n a s = .ok b) :
    b.length = (if n < 256 then 2 else 3) ∧ IsBytes b := by
  unfold t3BlockCode at h
  by_cases h1 : n < 256
  · simp [h1] at h; subst h; simp [h1, IsBytes]; omega
  · by_cases h2 : n < 65536
    · simp [h1, h2] at h; subst h; simp [h1, IsBytes]; omega
    · simp [h1, h2] at h

/-- polling command data: system code, request code 0..2, time slot number 0/1/3/7/15 -/
def t3PollingCmd (sys rc tsn : Int) : Py Bytes :=
  if ¬ (tsn = 0 ∨ tsn = 1 ∨ tsn = 3 ∨ tsn = 7 ∨ tsn = 15) then .error .value
  else if ¬ (rc = 0 ∨ rc = 1 ∨ rc = 2) then .error .value
  else if sys < 0 ∨ sys > 65535 then .error .struct
  else .ok [sys.toNat / 256, sys.toNat % 256, rc.toNat, tsn.toNat]

/-- polling answer after the frame checks: IDm + PMm, plus two octets of request data when asked for;
DATA_SIZE_ERROR (4) otherwise -/
def t3PollingLen (rc : Int) (d : Bytes) : Py Unit :=
  if (d.length : Int) ≠ (if rc = 0 then 16 else 18) then .error (.tagCmd 4) else .ok ()

theorem t3PollingCmd_spec (sys rc tsn : Int) (d : Bytes) (h : t3PollingCmd sys rc tsn = .ok d) :
    d.length = 4 ∧ IsBytes d := by
  revert d
  exact Yields.ite' (fun _ => .error _) fun _ => .ite' (fun _ => .error _) fun _ => .ite' (fun _ => .error _) fun _ =>
    .ok ⟨rfl, fun b hb => by simp at hb; omega⟩


/-! ## write units, header flags, Type 3 response checks -/

/-- HR0 = 1xh and not 11h: a dynamic memory tag, written in 8-byte blocks (WRITE-E8); otherwise byte-wise -/
def t1Dynamic (hr0 : Nat) : Bool := hr0 / 16 = 1 ∧ hr0 % 16 ≠ 1
def t1Unit (hr0 : Nat) : Nat := if t1Dynamic hr0 then 8 else 1

theorem t1Unit_pos (hr0 : Nat) : 0 < t1Unit hr0 := by unfold t1Unit; split <;> omega
theorem t1Unit_topaz : t1Unit 0x11 = 1 ∧ t1Unit 0x12 = 8 := by decide

/-- the ACK of SECTOR SELECT packet 1 -/
def t2SectorAck (rsp : Bytes) : Bool := rsp = [0x0A]

/-- first byte address that `_read_from_tag` fetches: the cache is filled in units of 16 octets (one READ) -/
def t2ReadStart (n : Nat) : Nat := n / 16 * 16

theorem t2ReadStart_spec (n : Nat) : t2ReadStart n ≤ n ∧ n < t2ReadStart n + 16 ∧ t2ReadStart n % 16 = 0 := by
  unfold t2ReadStart; omega

/-- the checks of `Type3Tag.send_cmd_recv_rsp` on the frame that arrived:
`LEN code+1 [IDm(8) [S1 S2]] data`; RSP_LENGTH_ERROR (1), RSP_CODE_ERROR (2), TAG_IDM_ERROR (3), status flags
S1 S2 as error number when S1 is not zero -/
def t3CheckRsp (code : Nat) (sendIdm checkStatus : Bool) (idm rsp : Bytes) : Py Bytes :=
  let minLen := if ¬ sendIdm then 2 else if checkStatus then 12 else 10
  if rsp.length < minLen ∨ (rsp[0]?).getD 0 ≠ rsp.length then .error (.tagCmd 1)
  else if (rsp[1]?).getD 0 ≠ code + 1 then .error (.tagCmd 2)
  else if sendIdm ∧ (rsp.drop 2).take 8 ≠ idm then .error (.tagCmd 3)
  else if ¬ sendIdm then .ok (rsp.drop 2)
  else if checkStatus ∧ (rsp[10]?).getD 0 ≠ 0 then
    .error (.tagCmd (((rsp[10]?).getD 0 * 256 + (rsp[11]?).getD 0 : Nat) : Int))
  else if ¬ checkStatus then .ok (rsp.drop 10)
  else .ok (rsp.drop 12)

/-- whatever arrives, the reader answers with a command error or hands out a suffix of the frame -/
theorem t3CheckRsp_spec (code : Nat) (sendIdm checkStatus : Bool) (idm rsp : Bytes) :
    (∀ e, t3CheckRsp code sendIdm checkStatus idm rsp = .error e → ∃ n, e = .tagCmd n) ∧
    (∀ d, t3CheckRsp code sendIdm checkStatus idm rsp = .ok d → ∃ k, d = rsp.drop k) := by
  show Safe (fun e => ∃ n, e = .tagCmd n) _ ∧ Yields (fun d => ∃ k, d = rsp.drop k) _
  unfold t3CheckRsp
  exact ⟨.ite (.throw ⟨_, rfl⟩) <| .ite (.throw ⟨_, rfl⟩) <| .ite (.throw ⟨_, rfl⟩) <| .ite (.ok _) <|
      .ite (.throw ⟨_, rfl⟩) <| .ite (.ok _) (.ok _),
    .ite (.error _) <| .ite (.error _) <| .ite (.error _) <| .ite (.ok ⟨_, rfl⟩) <|
      .ite (.error _) <| .ite (.ok ⟨_, rfl⟩) (.ok ⟨_, rfl⟩)⟩

/-- `read_without_encryption` after the frame checks: one octet (number of blocks) and 16 octets per block -/
def t3ReadRsp (nblocks : Nat) (d : Bytes) : Py Bytes :=
  if d.length ≠ 1 + nblocks * 16 then .error (.tagCmd 4) else .ok (d.drop 1)

theorem t3ReadRsp_length (n : Nat) (d r : Bytes) (h : t3ReadRsp n d = .ok r) : r.length = n * 16 := by
  revert r
  exact Yields.ite' (fun _ => .error _) fun _ => .ok (by simp; omega)

/-- a count octet of the service / block list: at most 255 entries -/
def t3Count (n : Nat) : Py Bytes := if n > 255 then .error .value else .ok [n]

/-- the parts of a polling answer: IDm, PMm and, for an 18 octet answer, the request data -/
def t3PollingParts (d : Bytes) : List Bytes :=
  if d.length = 16 then [d.take 8, (d.drop 8).take 8] else [d.take 8, (d.drop 8).take 8, (d.drop 16).take 2]


end NfcVerif.TagCmdRef
