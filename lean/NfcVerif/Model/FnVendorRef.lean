import NfcVerif.Py
/-!
# Reference definitions for vendor specific tag arithmetic without a model counterpart

* Mifare Ultralight C (`tt2_nxp.py`): key selection and the AUTH0 / AUTH1 configuration pages (MF0ICU2
  data sheet: AUTH0 = first page that needs authentication, 30h = no protection; AUTH1 bit 0 = 1: only
  write access is restricted);
* FeliCa Lite `format()` (`tt3_sony.py`): the number of user blocks that the memory configuration
  block declares writeable (MC bytes 0..1, little-endian, bit `n` = block `n`).
-/
namespace NfcVerif.VendorRef

/-- "IEMKAERB!NACUOYF": the factory key `BREAKMEIFYOUCAN!` as the tag stores it (each half reversed) -/
def ulcDefaultKey : Bytes := [73, 69, 77, 75, 65, 69, 82, 66, 33, 78, 65, 67, 85, 79, 89, 70]

/-- key of `protect(password)`: the first 16 octets, the factory key for the empty password -/
def ulcKey (pw : Bytes) : Py Bytes :=
  if pw ≠ [] ∧ pw.length < 16 then .error .value else .ok (if pw = [] then ulcDefaultKey else pw.take 16)

theorem ulcKey_length (pw key : Bytes) (h : ulcKey pw = .ok key) : key.length = 16 := by
  unfold ulcKey at h
  by_cases hc : pw ≠ [] ∧ pw.length < 16
  · rw [if_pos hc] at h; cases h
  rw [if_neg hc] at h
  cases h
  by_cases hp : pw = []
  · rw [if_pos hp]; rfl
  · rw [if_neg hp, List.length_take]; have : ¬ pw.length < 16 := fun hl => hc ⟨hp, hl⟩; omega

/-- AUTH0 page: first protected page, clamped to 3..48 -/
def ulcAuth0 (protectFrom : Int) : Bytes := [(max 3 (min protectFrom 48)).toNat, 0, 0, 0]

theorem ulcAuth0_range (pf : Int) : ∃ p : Nat, 3 ≤ p ∧ p ≤ 48 ∧ ulcAuth0 pf = [p, 0, 0, 0] :=
  ⟨(max 3 (min pf 48)).toNat, by omega, by omega, rfl⟩

/-- AUTH1 page: 0 = read and write need authentication, 1 = write only -/
def ulcAuth1 (readProtect : Bool) : Bytes := if readProtect then [0, 0, 0, 0] else [1, 0, 0, 0]

/-- `for nmaxb in range(14): if rw_bits >> (nmaxb + 1) & 1 == 0: break` over the candidates `l`;
`last` is the value the loop variable holds when the list is exhausted -/
def firstClear (rw : Nat) : List Nat → Nat → Nat
  | [], last => last
  | n :: ns, _ => if (rw >>> (n + 1)) % 2 = 0 then n else firstClear rw ns n

/-- Nmaxb of a FeliCa Lite: user blocks 1.. that are writeable without a gap, at most 13 -/
def liteNmaxb (rw : Nat) : Nat := firstClear rw (List.range 14) 0

theorem firstClear_spec (rw : Nat) : ∀ (l : List Nat) (last : Nat),
    (firstClear rw l last = last ∧ (∀ n ∈ l, (rw >>> (n + 1)) % 2 = 1) ∧ l = []) ∨
    (firstClear rw l last ∈ l ∧ ((rw >>> (firstClear rw l last + 1)) % 2 = 0 ∨ l.getLast? = some (firstClear rw l last)))
  | [], last => Or.inl ⟨rfl, by simp, rfl⟩
  | n :: ns, last => by
    right
    unfold firstClear
    by_cases h : (rw >>> (n + 1)) % 2 = 0
    · simp [h]
    · simp only [h, if_false]
      rcases firstClear_spec rw ns n with ⟨h1, _, h3⟩ | ⟨h1, h2⟩
      · subst h3; simp [firstClear]
      · refine ⟨List.mem_cons_of_mem _ h1, ?_⟩
        rcases h2 with h2 | h2
        · exact Or.inl h2
        · right
          cases ns with
          | nil => simp at h1
          | cons a as => simpa [List.getLast?_cons_cons] using h2

/-- the declared number of blocks never exceeds the 13 user blocks behind the attribute block -/
theorem liteNmaxb_le (rw : Nat) : liteNmaxb rw ≤ 13 := by
  unfold liteNmaxb
  rcases firstClear_spec rw (List.range 14) 0 with ⟨_, _, h⟩ | ⟨h, _⟩
  · simp at h
  · have := List.mem_range.mp h; omega

/-- blocks 1 .. Nmaxb are all writeable according to the permission bits -/
theorem liteNmaxb_writeable (rw : Nat) : ∀ b, 1 ≤ b → b ≤ liteNmaxb rw → (rw >>> b) % 2 = 1 := by
  have key : ∀ (l : List Nat) (last : Nat) (k : Nat), l = List.range' k l.length →
      (∀ b, 1 ≤ b → b ≤ k → (rw >>> b) % 2 = 1) → last + 1 = k ∨ (k = 0 ∧ last = 0) →
      ∀ b, 1 ≤ b → b ≤ firstClear rw l last → (rw >>> b) % 2 = 1 := by
    intro l
    induction l with
    | nil =>
      intro last k _ hk hl b hb1 hb2
      simp only [firstClear] at hb2
      apply hk b hb1; omega
    | cons n ns ih =>
      intro last k hrange hk hl b hb1 hb2
      simp only [List.length_cons, List.range'_succ, List.cons.injEq] at hrange
      obtain ⟨hn, hns⟩ := hrange
      subst hn
      unfold firstClear at hb2
      by_cases h : (rw >>> (n + 1)) % 2 = 0
      · simp only [h, if_true] at hb2
        exact hk b hb1 hb2
      · simp only [h, if_false] at hb2
        have h1 : (rw >>> (n + 1)) % 2 = 1 := by omega
        apply ih n (n + 1) hns ?_ (Or.inl rfl) b hb1 hb2
        intro c hc1 hc2
        by_cases hcn : c = n + 1
        · subst hcn; exact h1
        · exact hk c hc1 (by omega)
  unfold liteNmaxb
  intro b hb1 hb2
  exact key (List.range 14) 0 0 (by simp [List.range_eq_range']) (by intro c h1 h2; omega) (Or.inr ⟨rfl, rfl⟩) b hb1 hb2

example : liteNmaxb 0x7FFF = 13 ∧ liteNmaxb 0x001F = 4 ∧ liteNmaxb 0x0001 = 0 ∧ liteNmaxb 0x7FEF = 3 := by decide

end NfcVerif.VendorRef
