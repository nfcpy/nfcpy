import NfcVerif.Model.AuthHist
import NfcVerif.PyFn
/-!
# Reference semantics of the FeliCa vendor methods (`nfc/tag/tt3_sony.py`) over uninterpreted tag commands

`Model/Auth.lean` and `Model/AuthHist.lean` have these methods with the Type 3 Tag frames and an air
interface below them.  Here the SAME decisions are written once more with everything below the method
as a parameter - the tag commands (`rd`, `wr`, `rm`, `wm`: what `read_without_mac`, `write_without_mac`,
`read_with_mac`, `write_with_mac` return or raise), the MAC function (`gm`, in the code
`generate_mac`) and the cipher object (`enc`, in the code `triple_des(..).encrypt`) - so that the
regenerated definitions of group Sony (`Gen/FnSony.lean`) can be compared with them for ALL behaviours of
tag, channel and cipher, and so that the property-relevant facts can be stated without any assumption
about DES:

* a MAC-protected read is accepted iff the received MAC equals the MAC computed over exactly the received
  data with the session key (`macCheck_some_iff`);
* `authenticate` returns True iff the MAC the card sent over its ID block equals the MAC computed with the
  session key derived from the password and the challenge of THIS call (`authenticate_true_iff`), and then
  exactly that session is stored; on failure nothing of this call is stored (`authenticate_false`);
* `protect(p)` sends the key derived from `p` to the key block for EVERY byte string `p`, the empty one
  included (`liteProtect_writes_key`), never without a password (`liteProtect_none_no_key`), and locks the
  system blocks last (`liteProtectTail_locks`).

A command "is issued" is expressed through the only observation a pure function offers: when the command
fails, the method fails with that exception.

Integers of the regenerated definitions are `Int`; block numbers and tokens stay `Int` here.
-/
namespace NfcVerif.SonyRef
open NfcVerif NfcVerif.Mac NfcVerif.Auth

/-! ## MAC-protected read -/

/-- behind `read_without_encryption` in `read_with_mac`: `data` is the block data that arrived (requested
blocks, then the MAC block), `mac d` what `generate_mac(d, sk, iv)` gives -/
def macCheck (mac : Bytes → Py Bytes) (data : Bytes) : Py (Option Bytes) :=
  mac (slice data 0 (-16)) >>= fun m =>
  if slice data (-16) (-8) ≠ m then .ok none else .ok (some (slice data 0 (-16)))

/-- accepted iff the received MAC field equals the MAC computed over exactly the received data -/
theorem macCheck_some_iff (mac : Bytes → Py Bytes) (data d : Bytes) :
    macCheck mac data = .ok (some d) ↔ d = slice data 0 (-16) ∧ mac d = .ok (slice data (-16) (-8)) := by
  unfold macCheck
  simp only [Py.bind_eq_ok]
  constructor
  · rintro ⟨m, hm, h⟩
    by_cases hc : slice data (-16) (-8) ≠ m
    · rw [if_pos hc] at h; cases h
    · rw [if_neg hc] at h; cases h; exact ⟨rfl, by rw [hm, Classical.not_not.mp hc]⟩
  · rintro ⟨rfl, hm⟩
    exact ⟨_, hm, by rw [if_neg (not_not_intro rfl)]⟩

/-- a MAC that differs, or a MAC function that fails, never yields data -/
theorem macCheck_none (mac : Bytes → Py Bytes) (data m : Bytes) (hm : mac (slice data 0 (-16)) = .ok m)
    (hne : slice data (-16) (-8) ≠ m) : macCheck mac data = .ok none := by
  unfold macCheck; rw [hm]; simp [hne]

/-- `read_with_mac` refuses to run without a session -/
def sessionGuard (sk iv : Option Bytes) : Py (Option Int) :=
  if sk = none ∨ iv = none then .error .runtime else .ok none

/-! ## `FelicaLite._authenticate` -/

/-- outcome of one `_authenticate(password)` call: (_authenticated, _sk, _iv, read_from_ndef_service);
`sk0`, `iv0`, `rfs0` are the attribute values left by the reset in front of the first command, `macRd` the
token of `read_with_mac` -/
def authenticate (pw rc : Bytes) (macRd : Int) (sk0 iv0 : Option Bytes) (rfs0 : Int)
    (sk : Bytes) (gm : Bytes → Bytes → Bytes → Py Bytes) (rd : Int → Int → Py Bytes) (wr : Bytes → Int → Py Int) : Py (Bool × Option Bytes × Option Bytes × Int) :=
  liteKey pw >>= fun _ =>
  wr (revHalves rc) 128 >>= fun _ =>
  rd 130 129 >>= fun data =>
  gm (slice data 0 (-16)) sk (slice rc 0 8) >>= fun m =>
  if slice data (-16) (-8) = m then .ok (true, some sk, some (slice rc 0 8), macRd)
  else .ok (false, sk0, iv0, rfs0)

/-- a call returns iff all four steps return; the outcome is decided by the MAC comparison alone -/
theorem authenticate_eq_ok (pw rc : Bytes) (macRd : Int) (sk0 iv0 : Option Bytes) (rfs0 : Int)
    (sk : Bytes) (gm : Bytes → Bytes → Bytes → Py Bytes) (rd : Int → Int → Py Bytes) (wr : Bytes → Int → Py Int)
    (o : Bool × Option Bytes × Option Bytes × Int) :
    authenticate pw rc macRd sk0 iv0 rfs0 sk gm rd wr = .ok o ↔
      ∃ key w data m, liteKey pw = .ok key ∧ wr (revHalves rc) 128 = .ok w ∧ rd 130 129 = .ok data
        ∧ gm (slice data 0 (-16)) sk (slice rc 0 8) = .ok m
        ∧ o = if slice data (-16) (-8) = m then (true, some sk, some (slice rc 0 8), macRd) else (false, sk0, iv0, rfs0) := by
  unfold authenticate
  simp only [Py.bind_eq_ok, ← apply_ite Except.ok, Except.ok.injEq]
  constructor
  · rintro ⟨key, hk, w, hw, data, hr, m, hg, h⟩
    exact ⟨key, w, data, m, hk, hw, hr, hg, h.symm⟩
  · rintro ⟨key, w, data, m, hk, hw, hr, hg, h⟩
    exact ⟨key, hk, w, hw, data, hr, m, hg, h.symm⟩

/-- True iff the card's MAC over its ID block equals the MAC under the session key of THIS call's
challenge; exactly that session is stored -/
theorem authenticate_true_iff (pw rc : Bytes) (macRd : Int) (sk0 iv0 : Option Bytes) (rfs0 : Int)
    (sk : Bytes) (gm : Bytes → Bytes → Bytes → Py Bytes) (rd : Int → Int → Py Bytes) (wr : Bytes → Int → Py Int) (s i : Option Bytes) (r : Int) :
    authenticate pw rc macRd sk0 iv0 rfs0 sk gm rd wr = .ok (true, s, i, r) ↔
      ∃ key w data, liteKey pw = .ok key ∧ wr (revHalves rc) 128 = .ok w ∧ rd 130 129 = .ok data
        ∧ gm (slice data 0 (-16)) sk (slice rc 0 8) = .ok (slice data (-16) (-8))
        ∧ s = some sk ∧ i = some (slice rc 0 8) ∧ r = macRd := by
  rw [authenticate_eq_ok]
  constructor
  · rintro ⟨key, w, data, m, hk, hw, hr, hg, h⟩
    by_cases hc : slice data (-16) (-8) = m
    · rw [if_pos hc] at h; cases h; exact ⟨key, w, data, hk, hw, hr, by rw [hg, hc], rfl, rfl, rfl⟩
    · rw [if_neg hc] at h; cases h
  · rintro ⟨key, w, data, hk, hw, hr, hg, rfl, rfl, rfl⟩
    exact ⟨key, w, data, _, hk, hw, hr, hg, by rw [if_pos rfl]⟩

/-- a call that returns False stores nothing of its own: the attributes are what the reset left -/
theorem authenticate_false (pw rc : Bytes) (macRd : Int) (sk0 iv0 : Option Bytes) (rfs0 : Int)
    (sk : Bytes) (gm : Bytes → Bytes → Bytes → Py Bytes) (rd : Int → Int → Py Bytes) (wr : Bytes → Int → Py Int) (s i : Option Bytes) (r : Int)
    (h : authenticate pw rc macRd sk0 iv0 rfs0 sk gm rd wr = .ok (false, s, i, r)) : s = sk0 ∧ i = iv0 ∧ r = rfs0 := by
  obtain ⟨key, w, data, m, -, -, -, -, h⟩ := (authenticate_eq_ok ..).mp h
  by_cases hc : slice data (-16) (-8) = m
  · rw [if_pos hc] at h; cases h
  · rw [if_neg hc] at h; cases h; exact ⟨rfl, rfl, rfl⟩

/-- the challenge is written before anything else happens on the air: a failing write is the outcome -/
theorem authenticate_challenge_first (pw rc key : Bytes) (macRd : Int) (sk0 iv0 : Option Bytes) (rfs0 : Int)
    (sk : Bytes) (gm : Bytes → Bytes → Bytes → Py Bytes) (rd : Int → Int → Py Bytes) (wr : Bytes → Int → Py Int) (e : Exc) (hk : liteKey pw = .ok key) (hw : wr (revHalves rc) 128 = .error e) :
    authenticate pw rc macRd sk0 iv0 rfs0 sk gm rd wr = .error e := by
  unfold authenticate; rw [hk, hw]; rfl

/-! ## `FelicaLite._protect` -/

/-- `protect_from == 0 and self.ndef is not None`: the NDEF attribute block is read, RWFlag set to 00, the
checksum renewed, and written back -/
def attrReadOnly (pf : Int) (ndef : Option Bytes) (rd : Int → Py Bytes) (wr : Bytes → Int → Py Int) : Py Unit :=
  if pf = 0 ∧ ndef ≠ none then
    rd 0 >>= fun a =>
    PyFn.setB a 10 0 >>= fun a1 =>
    PyFn.pack [.Hbe] [PyFn.sum (PyFn.ints (slice a1 0 14))] >>= fun ck =>
    wr (PyFn.setSlice a1 14 16 ck) 0 >>= fun _ => .ok ()
  else .ok ()

/-- the common end of `_protect`: permission word, NDEF attribute block, lock of the system blocks -/
def liteProtectTail (pf : Int) (ndef : Option Bytes) (mc : Bytes) (rd : Int → Py Bytes) (wr : Bytes → Int → Py Int) : Py Bool :=
  (if pf < 14 then
     PyFn.pack [.Hle] [PyFn.bxor 32767 (PyFn.pow 2 14 - PyFn.pow 2 pf)] >>= fun w => .ok (PyFn.setSlice mc 0 2 w)
   else .ok mc) >>= fun mc1 =>
  attrReadOnly pf ndef rd wr >>= fun _ =>
  PyFn.setB mc1 2 0 >>= fun mc2 =>
  wr mc2 136 >>= fun _ => .ok true

/-- the end of `FelicaLiteS._protect` behind the write protection masks: system blocks locked, CK / CKV writeable with MAC -/
def litesProtectTail (pf : Int) (ndef : Option Bytes) (mc : Bytes) (rd : Int → Py Bytes) (wr : Bytes → Int → Py Int) : Py Bool :=
  attrReadOnly pf ndef rd wr >>= fun _ =>
  PyFn.setB mc 2 0 >>= fun mc1 =>
  PyFn.setB mc1 5 1 >>= fun mc2 =>
  wr mc2 136 >>= fun _ => .ok true

/-- `FelicaLite._protect(password, read_protect, protect_from)` behind the password length check -/
def liteProtect (pw : Option Bytes) (rp : Bool) (pf : Int) (ndef : Option Bytes) (rd : Int → Py Bytes)
    (wr : Bytes → Int → Py Int) : Py Bool :=
  if pf < 0 then .error .value else
  if rp then .ok false else
  rd 136 >>= fun mc =>
  match pw with
  | none => liteProtectTail pf ndef mc rd wr
  | some p =>
    PyFn.getB mc 2 >>= fun m2 =>
    if m2 ≠ 255 then .ok false else
    wr (revHalves (AuthHist.keyOf p)) 135 >>= fun _ =>
    liteProtectTail pf ndef mc rd wr

/-- EVERY byte string given as password - the empty one included - makes `protect` send the card key
derived from it (`keyOf`: factory key for the empty password) to the key block 0x87 of a card whose system
blocks are writeable: when that write fails, `protect` fails with it -/
theorem liteProtect_writes_key (p : Bytes) (pf : Int) (ndef : Option Bytes) (rd : Int → Py Bytes)
    (wr : Bytes → Int → Py Int) (mc : Bytes) (e : Exc) (hpf : 0 ≤ pf) (hmc : rd 136 = .ok mc)
    (h2 : PyFn.getB mc 2 = .ok 255) (hw : wr (revHalves (AuthHist.keyOf p)) 135 = .error e) :
    liteProtect (some p) false pf ndef rd wr = .error e := by
  unfold liteProtect
  have : ¬ pf < 0 := by omega
  simp only [this, if_false, hmc, Py.bind_ok, h2, hw]
  rfl

/-- the empty password provisions the factory key of sixteen zero octets -/
theorem liteProtect_empty_password (pf : Int) (ndef : Option Bytes) (rd : Int → Py Bytes)
    (wr : Bytes → Int → Py Int) (mc : Bytes) (e : Exc) (hpf : 0 ≤ pf) (hmc : rd 136 = .ok mc)
    (h2 : PyFn.getB mc 2 = .ok 255) (hw : wr (List.replicate 16 0) 135 = .error e) :
    liteProtect (some []) false pf ndef rd wr = .error e :=
  liteProtect_writes_key [] pf ndef rd wr mc e hpf hmc h2 (by simpa [AuthHist.keyOf, revHalves, zeros] using hw)

/-- without a password the key block is not written: the outcome does not depend on what a write to
block 0x87 would do -/
theorem liteProtect_none_no_key (rp : Bool) (pf : Int) (ndef : Option Bytes) (rd : Int → Py Bytes)
    (wr wr' : Bytes → Int → Py Int) (h : ∀ d b, b ≠ 135 → wr d b = wr' d b) :
    liteProtect none rp pf ndef rd wr = liteProtect none rp pf ndef rd wr' := by
  unfold liteProtect liteProtectTail attrReadOnly
  simp only [h _ 136 (by decide), h _ 0 (by decide)]

/-- the last command locks the system blocks: `True` is returned only after the MC block, with octet 2 set
to 00, was written to block 0x88 and that write succeeded -/
theorem liteProtectTail_locks (pf : Int) (ndef : Option Bytes) (mc : Bytes) (rd : Int → Py Bytes)
    (wr : Bytes → Int → Py Int) (h : liteProtectTail pf ndef mc rd wr = .ok true) :
    ∃ mc1 mc2 w, PyFn.setB mc1 2 0 = .ok mc2 ∧ wr mc2 136 = .ok w := by
  unfold liteProtectTail at h
  simp only [Py.bind_eq_ok] at h
  obtain ⟨mc1, -, _, -, mc2, hs, w, hw, -⟩ := h
  exact ⟨mc1, mc2, w, hs, hw⟩

/-! ## `FelicaLiteS._protect`: the key change; `FelicaLite._format`: the NDEF compatibility flag -/

/-- the key change once it is allowed: card key version incremented (saturating), key block written, mutual
authentication with the NEW key, read protection mask; `.bool false` = the method returned False -/
def litesKeyChange (p : Bytes) (rp : Bool) (pf : Int) (mc : Bytes) (auth : Bytes → Py Bool) (rd : Int → Py Bytes)
    (wr : Bytes → Int → Py Int) : Py PyFn.Val :=
  rd 134 >>= fun ckv =>
  PyFn.needExact (slice ckv 0 2) 2 >>= fun _ =>
  PyFn.pack [.Hle] [PyFn.imin (PyFn.ule (slice ckv 0 2) 0 2 + 1) 65535] >>= fun v =>
  wr (v ++ PyFn.repeatL [0] 14) 134 >>= fun _ =>
  wr (revHalves (AuthHist.keyOf p)) 135 >>= fun _ =>
  auth (AuthHist.keyOf p) >>= fun ok =>
  if ¬ (ok = true) then .ok (.bool false) else
  (if rp = true ∧ pf < 14 then
     PyFn.pack [.Hle] [PyFn.pow 2 14 - PyFn.pow 2 pf] >>= fun m => .ok (PyFn.setSlice mc 6 8 m)
   else .ok mc) >>= fun mc2 =>
  .ok (.bytes mc2)

/-- body of `if password is not None:`: with locked system blocks the key can only be changed when MC octet 5 bit 0
allows it and the tag object is authenticated -/
def litesProtectKey (p : Bytes) (rp : Bool) (pf : Int) (mc : Bytes) (authed : Bool) (auth : Bytes → Py Bool)
    (rd : Int → Py Bytes) (wr : Bytes → Int → Py Int) : Py PyFn.Val :=
  PyFn.getB mc 2 >>= fun m2 =>
  if m2 ≠ 255 then
    PyFn.getB mc 5 >>= fun m5 =>
    if PyFn.band m5 1 = 0 then .ok (.bool false) else
    if authed = false then .ok (.bool false) else
    litesKeyChange p rp pf mc auth rd wr
  else litesKeyChange p rp pf mc auth rd wr

/-- every byte string - the empty one included - is turned into a key that is written to block 0x87 -/
theorem litesKeyChange_writes_key (p : Bytes) (rp : Bool) (pf : Int) (mc : Bytes) (auth : Bytes → Py Bool)
    (rd : Int → Py Bytes) (wr : Bytes → Int → Py Int) (ckv v : Bytes) (x : Int) (e : Exc)
    (h1 : rd 134 = .ok ckv) (h2 : PyFn.needExact (slice ckv 0 2) 2 = .ok ())
    (h3 : PyFn.pack [.Hle] [PyFn.imin (PyFn.ule (slice ckv 0 2) 0 2 + 1) 65535] = .ok v)
    (h4 : wr (v ++ PyFn.repeatL [0] 14) 134 = .ok x) (hw : wr (revHalves (AuthHist.keyOf p)) 135 = .error e) :
    litesKeyChange p rp pf mc auth rd wr = .error e := by
  simp only [litesKeyChange, h1, h2, h3, h4, hw, Py.bind_ok, Py.bind_error]

/-- `FelicaLite._format`: a card without the NDEF flag gets it only while the MC block is still writeable
(`.bool false` = the method returned False, else the MC block as it is on the card afterwards) -/
def formatCompat (mc : Bytes) (wr : Bytes → Int → Py Int) : Py PyFn.Val :=
  PyFn.getB mc 3 >>= fun m3 =>
  if ¬ (PyFn.band m3 1 ≠ 0) then
    PyFn.getB mc 2 >>= fun m2 =>
    if m2 = 255 then PyFn.setB mc 3 (PyFn.bor m3 1) >>= fun mc1 => wr mc1 136 >>= fun _ => .ok (.bytes mc1)
    else .ok (.bool false)
  else .ok (.bytes mc)

/-! ## `FelicaLiteS.authenticate`: the external half -/

/-- after the internal authentication: (_authenticated, read accessor, write accessor) - the MAC'ed
accessors are installed only when the state block, read with MAC, shows EXT_AUTH = 01 -/
def extAuth (plainRd plainWr macRd macWr : Int) (rm : Int → Py (Option Bytes)) (wm : Bytes → Int → Py Int) :
    Py (Bool × Int × Int) :=
  wm ([1] ++ List.replicate 15 0) 146 >>= fun _ =>
  rm 146 >>= fun st =>
  match st with
  | none => .ok (false, plainRd, plainWr)
  | some s =>
    PyFn.getB s 0 >>= fun b =>
    if b = 1 then .ok (true, macRd, macWr) else .ok (false, plainRd, plainWr)

/-! ## `FelicaLiteS.NDEF._read_attribute_data` -/

/-- (attributes, _writeable): the override only ever changes `_writeable`, and only when the tag object is
authenticated and attribute data was read -/
def litesAttr (authenticated writeable : Bool) (a : Option Int) (rd : Int → Py Bytes) : Py (Option Int × Bool) :=
  if a ≠ none ∧ authenticated = true then
    rd 136 >>= fun mc =>
    if (slice mc 0 2).length ≠ 2 then .error .struct else
    .ok (a, decide (PyFn.band (PyFn.ule (slice mc 0 2) 0 2) 1023 = 1023))
  else .ok (a, writeable)

/-- not authenticated: nothing is read and the writeable flag of the generic Type 3 code stands -/
theorem litesAttr_unauthenticated (writeable : Bool) (rd : Int → Py Bytes) (a : Option Int) :
    litesAttr false writeable a rd = .ok (a, writeable) := by
  unfold litesAttr; simp

/-! ## FelicaStandard: response length checks; `activate` -/

/-- the response length tests (true = `DATA_SIZE_ERROR`): `request_response` exactly one octet; `request_service` one count
octet and two octets per requested service; `request_system_code` the count octet says how many two-octet codes follow -/
def requestResponseBad (data : Bytes) : Bool := decide (data.length ≠ 1)

def requestServiceBad (data : Bytes) (n : Int) : Bool := decide ((data.length : Int) ≠ 1 + n * 2)

def requestSystemCodeBad (data : Bytes) : Py Bool :=
  match data with
  | [] => .error .index
  | c :: rest => .ok (decide (rest.length ≠ c * 2))

/-- class selection by IC code (SENSF_RES octet 10): first match in the order Lite, Lite-S, Standard, Mobile, Plug -/
def activate (ic : Int) (k0 k1 k2 k3 k4 : List Int) (t0 t1 t2 t3 t4 : Int) : Option Int :=
  if ic ∈ k0 then some t0 else if ic ∈ k1 then some t1 else if ic ∈ k2 then some t2
  else if ic ∈ k3 then some t3 else if ic ∈ k4 then some t4 else none

end NfcVerif.SonyRef
