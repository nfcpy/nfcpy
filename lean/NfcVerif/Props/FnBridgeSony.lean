import NfcVerif.Lemmas.FnBridgeSony
import NfcVerif.Props.FnBridgeVendor
import NfcVerif.Lemmas.Auth
/-!
# Bridge theorems, group Sony (`nfc/tag/tt3_sony.py` -> `Gen/FnSony.lean`)

Properties C20 (`read_with_mac`, `_authenticate`, `_protect`, `FelicaLiteS.authenticate`, `write_with_mac`,
`generate_mac`), C16 (which NDEF accessors a tag object carries after an authentication attempt), C02 (the NDEF
attribute overrides: the readable flag is never touched), C01 (`format` helpers), and the response length checks of the
FelicaStandard commands.

The regenerated definitions have every tag command, the MAC function and the cipher object as function parameters;
the theorems hold for ALL such functions (all tags, channels, ciphers).  Model counterparts: `Auth.readWithMac`,
`Auth.liteAuthenticate`, `Auth.liteKey`, `Auth.revHalves`, `AuthHist.keyOf`, `Mac.generateMac` and the
reference semantics `Model/FnSonyRef.lean`.
-/
namespace NfcVerif.FnBridge.Sony
open NfcVerif NfcVerif.PyFn NfcVerif.FnBridge.TagCmd NfcVerif.FnBridge.Vendor NfcVerif.SonyRef

/-! ## `read_with_mac` -/

/-- the session guard -/
theorem rwm_guard_bridge (sk iv : Option Bytes) : Gen.Fn.sony_rwm_guard sk iv = sessionGuard sk iv := by
  unfold Gen.Fn.sony_rwm_guard sessionGuard
  cases sk <;> cases iv <;> simp

/-- `Auth.readWithMac` raises the same `RuntimeError` without a session (`_sk`, `_iv` are set together) -/
theorem rwm_guard_model (C : Mac.Cipher) (idm : Bytes) (blocks : List Nat) (rsp : Bytes) :
    Auth.readWithMac C idm none blocks rsp = (Gen.Fn.sony_rwm_guard none none >>= fun _ => .ok none) := rfl

example : Gen.Fn.sony_rwm_guard (some [1]) none = .error .runtime ∧ Gen.Fn.sony_rwm_guard (some [1]) (some [2]) = .ok none := by
  decide

/-- ONE command: the requested blocks, then the MAC block 0x81 (`Auth.readWithMac`: `blocks ++ [0x81]`) -/
theorem rwm_blocks_bridge (blocks : List Int) (bc : Int → Int) :
    Gen.Fn.sony_rwm_blocks blocks bc = (blocks ++ [0x81]).map bc := by
  unfold Gen.Fn.sony_rwm_blocks; simp

example : Gen.Fn.sony_rwm_blocks [5, 6] (fun n => n + 1000) = [1005, 1006, 1129] := by decide

/-- the decision behind the read command -/
theorem rwm_check_bridge (data sk iv : Bytes) (gm : Bytes → Bytes → Bytes → Py Bytes) :
    Gen.Fn.sony_rwm_check data sk iv gm = macCheck (fun d => gm d sk iv) data := by
  unfold Gen.Fn.sony_rwm_check macCheck
  refine bind_congr fun m => ?_
  split <;> rfl

/-- the C20 model function `Auth.readWithMac` IS the frame handling followed by the regenerated decision with
`generate_mac` := `Mac.generateMac C` -/
theorem rwm_check_model (C : Mac.Cipher) (idm : Bytes) (s : Auth.Session) (blocks : List Nat) (rsp : Bytes) :
    Auth.readWithMac C idm (some s) blocks rsp =
      (Auth.readCmd idm (blocks ++ [0x81]) >>= fun _ =>
       Auth.readRsp idm (blocks ++ [0x81]) rsp >>= fun data =>
       Gen.Fn.sony_rwm_check data s.sk s.iv (fun d k i => Mac.generateMac C d k i false)) := by
  simp only [rwm_check_bridge]
  rfl

/-- C20 for the regenerated function, for every MAC function: data is returned iff the received MAC field (all eight
octets) equals the MAC computed over exactly the returned data (all of it) with the session key and start value -/
theorem gen_rwm_accept_iff (data sk iv d : Bytes) (gm : Bytes → Bytes → Bytes → Py Bytes) :
    Gen.Fn.sony_rwm_check data sk iv gm = .ok (some d) ↔
      d = slice data 0 (-16) ∧ gm d sk iv = .ok (slice data (-16) (-8)) := by
  rw [rwm_check_bridge]; exact macCheck_some_iff _ data d

/-- a MAC field that differs in any octet: `None`, never data -/
theorem gen_rwm_mismatch_none (data sk iv m : Bytes) (gm : Bytes → Bytes → Bytes → Py Bytes)
    (hm : gm (slice data 0 (-16)) sk iv = .ok m) (hne : slice data (-16) (-8) ≠ m) :
    Gen.Fn.sony_rwm_check data sk iv gm = .ok none := by
  rw [rwm_check_bridge]; exact macCheck_none _ data m hm hne

/-- C20 `mac_field_compared`, restated with the regenerated decision in place of the model's -/
theorem gen_mac_field_compared (C : Mac.Cipher) (idm : Bytes) (s : Auth.Session) (blocks : List Nat) (rsp d : Bytes)
    (h : Auth.readWithMac C idm (some s) blocks rsp = .ok (some d)) :
    ∃ data, Auth.readRsp idm (blocks ++ [0x81]) rsp = .ok data ∧
      Gen.Fn.sony_rwm_check data s.sk s.iv (fun d k i => Mac.generateMac C d k i false) = .ok (some d) := by
  obtain ⟨data, h1, h2, h3⟩ := Auth.readWithMac_some C idm s blocks rsp d h
  exact ⟨data, h1, (gen_rwm_accept_iff data s.sk s.iv d _).mpr ⟨h2, h3⟩⟩

example : Gen.Fn.sony_rwm_check (List.range 16 ++ [9, 9, 9, 9, 9, 9, 9, 9] ++ List.replicate 8 0) [1] [2]
    (fun _ _ _ => .ok [9, 9, 9, 9, 9, 9, 9, 9]) = .ok (some (List.range 16)) := by decide +kernel
example : Gen.Fn.sony_rwm_check (List.range 16 ++ [9, 9, 9, 9, 9, 9, 9, 8] ++ List.replicate 8 0) [1] [2]
    (fun _ _ _ => .ok [9, 9, 9, 9, 9, 9, 9, 9]) = .ok none := by decide +kernel

/-! ## `generate_mac`: the last statement -/

/-- the MAC is the last eight octets of the ciphertext, last octet first (`Mac.macBlocks`: the last CBC block reversed) -/
theorem mac_tail_bridge (c : Bytes) : Gen.Fn.sony_mac_tail c = (c.drop (c.length - 8)).reverse := by
  unfold Gen.Fn.sony_mac_tail sliceRev
  simp only
  by_cases h8 : c.length < 9
  · have e1 : (if (-9 : Int) + (c.length : Int) < 0 then (-1 : Int)
        else if (-9 : Int) + (c.length : Int) ≥ (c.length : Int) then (c.length : Int) - 1 else (-9 : Int) + (c.length : Int)) = -1 := by
      split <;> omega
    simp only [show ((-9 : Int) < 0) = True from by simp, if_true, e1]
    have e2 : ((c.length : Int) - 1 + 1).toNat = c.length := by omega
    have e3 : ((-1 : Int) + 1).toNat = 0 := by omega
    rw [e2, e3, List.take_length, List.drop_zero, show c.length - 8 = 0 from by omega, List.drop_zero]
  · have e1 : (if (-9 : Int) + (c.length : Int) < 0 then (-1 : Int)
        else if (-9 : Int) + (c.length : Int) ≥ (c.length : Int) then (c.length : Int) - 1 else (-9 : Int) + (c.length : Int)) = (c.length : Int) - 9 := by
      split
      · omega
      · split <;> omega
    simp only [show ((-9 : Int) < 0) = True from by simp, if_true, e1]
    have e2 : ((c.length : Int) - 1 + 1).toNat = c.length := by omega
    have e3 : ((c.length : Int) - 9 + 1).toNat = c.length - 8 := by omega
    rw [e2, e3, List.take_length]

/-- for a ciphertext of whole 8-octet blocks the regenerated tail is the model's "last block, reversed" -/
theorem gen_mac_tail_last_block (pre last : Bytes) (h : last.length = 8) : Gen.Fn.sony_mac_tail (pre ++ last) = last.reverse := by
  rw [mac_tail_bridge]
  have : (pre ++ last).length - 8 = pre.length := by simp [h]
  rw [this, List.drop_left]

example : Gen.Fn.sony_mac_tail (List.range 16) = [15, 14, 13, 12, 11, 10, 9, 8] := by decide +kernel

/-! ## `FelicaLite._authenticate` -/

/-- everything in front of the first command: the key (`Auth.liteKey`), `_authenticated = False` and BOTH NDEF
accessors back to the plain commands - before the challenge is written, whatever the outcome will be -/
theorem auth_reset_bridge (pw : Bytes) (plainRd plainWr : Int) :
    Gen.Fn.sony_auth_reset pw plainRd plainWr = (Auth.liteKey pw >>= fun key => .ok (key, false, plainRd, plainWr)) := by
  unfold Gen.Fn.sony_auth_reset
  rw [← lite_auth_key_bridge pw]
  unfold Gen.Fn.lite_auth_key
  -- the one thing that happens in front of the assignments is the key selection of `lite_auth_key`
  by_cases h : pw ≠ [] ∧ len pw < 16
  · rw [if_pos h, if_pos h]; rfl
  · rw [if_neg h, if_neg h]; rfl

example : Gen.Fn.sony_auth_reset [] 10 11 = .ok (List.replicate 16 0, false, 10, 11) := by decide +kernel

/-- the method body against the reference semantics -/
theorem authenticate_bridge (pw rc : Bytes) (macRd : Int) (sk0 iv0 : Option Bytes) (rfs0 : Int)
    (sk : Bytes) (gm : Bytes → Bytes → Bytes → Py Bytes) (rd : Int → Int → Py Bytes) (wr : Bytes → Int → Py Int) :
    Gen.Fn.sony_authenticate pw macRd rc sk0 iv0 rfs0 sk gm rd wr = authenticate pw rc macRd sk0 iv0 rfs0 sk gm rd wr := by
  unfold Gen.Fn.sony_authenticate authenticate
  rw [← lite_auth_key_bridge pw]
  unfold Gen.Fn.lite_auth_key
  by_cases h : pw ≠ [] ∧ len pw < 16
  · rw [if_pos h, if_pos h]; rfl
  · rw [if_neg h, if_neg h]
    simp only [Py.bind_ok, revHalves_gen']
    refine bind_congr fun _ => bind_congr fun data => bind_congr fun m => ?_
    split <;> rfl

/-- C20: `_authenticate` returns True iff the MAC the card sent over its ID block (all eight octets) equals the MAC
computed under the session key `sk` (in the code: what the cipher object built from the password key gives for the
challenge of THIS call);
exactly that session key, the first challenge half as start value and the MAC'ed read accessor are stored -/
theorem gen_authenticate_true_iff (pw rc : Bytes) (macRd : Int) (sk0 iv0 : Option Bytes) (rfs0 : Int)
    (sk : Bytes) (gm : Bytes → Bytes → Bytes → Py Bytes) (rd : Int → Int → Py Bytes) (wr : Bytes → Int → Py Int)
    (s i : Option Bytes) (r : Int) :
    Gen.Fn.sony_authenticate pw macRd rc sk0 iv0 rfs0 sk gm rd wr = .ok (true, s, i, r) ↔
      ∃ key w data, Auth.liteKey pw = .ok key ∧ wr (Auth.revHalves rc) 128 = .ok w ∧ rd 130 129 = .ok data
        ∧ gm (slice data 0 (-16)) sk (slice rc 0 8) = .ok (slice data (-16) (-8))
        ∧ s = some sk ∧ i = some (slice rc 0 8) ∧ r = macRd := by
  rw [authenticate_bridge]; exact authenticate_true_iff pw rc macRd sk0 iv0 rfs0 sk gm rd wr s i r

/-- a failed authentication stores nothing of its own -/
theorem gen_authenticate_false (pw rc : Bytes) (macRd : Int) (sk0 iv0 : Option Bytes) (rfs0 : Int)
    (sk : Bytes) (gm : Bytes → Bytes → Bytes → Py Bytes) (rd : Int → Int → Py Bytes) (wr : Bytes → Int → Py Int)
    (s i : Option Bytes) (r : Int)
    (h : Gen.Fn.sony_authenticate pw macRd rc sk0 iv0 rfs0 sk gm rd wr = .ok (false, s, i, r)) : s = sk0 ∧ i = iv0 ∧ r = rfs0 := by
  rw [authenticate_bridge] at h; exact authenticate_false pw rc macRd sk0 iv0 rfs0 sk gm rd wr s i r h

/-- C16: composed with the reset, a failed attempt leaves the PLAIN read accessor installed (never a stale MAC'ed one) -/
theorem gen_failed_auth_plain_accessor (pw rc key : Bytes) (plainRd plainWr macRd : Int) (a : Bool) (rfs wts : Int)
    (sk : Bytes) (gm : Bytes → Bytes → Bytes → Py Bytes) (rd : Int → Int → Py Bytes) (wr : Bytes → Int → Py Int)
    (s i : Option Bytes) (r : Int)
    (h0 : Gen.Fn.sony_auth_reset pw plainRd plainWr = .ok (key, a, rfs, wts))
    (h : Gen.Fn.sony_authenticate pw macRd rc none none rfs sk gm rd wr = .ok (false, s, i, r)) :
    a = false ∧ wts = plainWr ∧ r = plainRd ∧ s = none ∧ i = none := by
  rw [auth_reset_bridge] at h0
  cases hk : Auth.liteKey pw with
  | error e => rw [hk] at h0; cases h0
  | ok k =>
    rw [hk] at h0
    cases h0
    obtain ⟨h1, h2, h3⟩ := gen_authenticate_false pw rc macRd none none plainRd sk gm rd wr s i r h
    exact ⟨rfl, rfl, h3, h1, h2⟩

/-- the challenge block is written first: a failing write is the outcome of the call -/
theorem gen_authenticate_challenge_first (pw rc key : Bytes) (macRd : Int) (sk0 iv0 : Option Bytes) (rfs0 : Int)
    (sk : Bytes) (gm : Bytes → Bytes → Bytes → Py Bytes) (rd : Int → Int → Py Bytes) (wr : Bytes → Int → Py Int)
    (e : Exc) (hk : Auth.liteKey pw = .ok key) (hw : wr (Auth.revHalves rc) 128 = .error e) :
    Gen.Fn.sony_authenticate pw macRd rc sk0 iv0 rfs0 sk gm rd wr = .error e := by
  rw [authenticate_bridge]; exact authenticate_challenge_first pw rc key macRd sk0 iv0 rfs0 sk gm rd wr e hk hw

/-- the C20 model function `Auth.liteAuthenticate` is the regenerated method body with the frame functions of
`Model/Auth.lean` as the commands, `Mac.sessionKey` as what the cipher object computes and `Mac.generateMac` as the MAC -/
theorem authenticate_model (C : Mac.Cipher) (idm pw rc rsp1 rsp2 key sk : Bytes) (macRd rfs0 : Int)
    (hk : Auth.liteKey pw = .ok key) (hs : Mac.sessionKey C key rc = .ok sk) :
    Auth.liteAuthenticate C idm pw rc rsp1 rsp2 =
      (Gen.Fn.sony_authenticate pw macRd rc none none rfs0 sk
        (fun d k i => Mac.generateMac C d k i false)
        (fun _ _ => Auth.readCmd idm [0x82, 0x81] >>= fun _ => Auth.readRsp idm [0x82, 0x81] rsp2)
        (fun d _ => Auth.writeCmd idm [0x80] d >>= fun _ => Auth.writeRsp idm rsp1 >>= fun _ => .ok 0) >>= fun o =>
       .ok (o.1, match o.2.1, o.2.2.1 with
                 | some sk, some iv => some ⟨sk, iv⟩
                 | _, _ => none)) := by
  rw [authenticate_bridge]
  unfold Auth.liteAuthenticate authenticate Auth.liteChallengeCmd
  rw [hk]
  simp only [Py.bind_ok, bind_assoc, hs, slice0_lit, ite_bind]

/-! ## `FelicaLite._protect` -/

/-- the password length check is `AuthHist.pwCheck` -/
theorem protect_pwcheck_bridge (pw : Bytes) :
    Gen.Fn.sony_protect_pwcheck pw = (AuthHist.pwCheck (some pw) >>= fun _ => .ok none) := by
  unfold Gen.Fn.sony_protect_pwcheck AuthHist.pwCheck
  py_nat

theorem lites_protect_pwcheck_bridge (pw : Bytes) :
    Gen.Fn.sony_lites_protect_pwcheck pw = (AuthHist.pwCheck (some pw) >>= fun _ => .ok none) :=
  protect_pwcheck_bridge pw

example : Gen.Fn.sony_protect_pwcheck [] = .ok none ∧ Gen.Fn.sony_protect_pwcheck [1, 2, 3] = .error .value := by decide +kernel

/-- the method body behind the length check against the reference semantics: the card key is `AuthHist.keyOf` of the
password, sent in the layout `Auth.revHalves` to block 0x87 -/
theorem lite_protect_bridge (pw : Option Bytes) (rp : Bool) (pf : Int) (ndef : Option Bytes) (rd : Int → Py Bytes)
    (wr : Bytes → Int → Py Int) :
    Gen.Fn.sony_lite_protect pw rp pf ndef rd wr = liteProtect pw rp pf ndef rd wr := by
  unfold Gen.Fn.sony_lite_protect liteProtect liteProtectTail attrReadOnly
  by_cases h0 : pf < 0
  · rw [if_pos h0, if_pos h0]
  rw [if_neg h0, if_neg h0]
  cases rp with
  | true => rfl
  | false =>
    simp only [Bool.false_eq_true, if_false]
    refine bind_congr fun mc => ?_
    cases pw with
    | none => rfl
    | some p => simp only [revHalves_gen', keyOf_gen]

/-- C20: EVERY byte string given as password, the empty one included, makes the regenerated `_protect` send the key
derived from it to the key block of a card with writeable system blocks -/
theorem gen_protect_writes_key (p : Bytes) (pf : Int) (ndef : Option Bytes) (rd : Int → Py Bytes)
    (wr : Bytes → Int → Py Int) (mc : Bytes) (e : Exc) (hpf : 0 ≤ pf) (hmc : rd 136 = .ok mc)
    (h2 : PyFn.getB mc 2 = .ok 255) (hw : wr (Auth.revHalves (AuthHist.keyOf p)) 135 = .error e) :
    Gen.Fn.sony_lite_protect (some p) false pf ndef rd wr = .error e := by
  rw [lite_protect_bridge]; exact liteProtect_writes_key p pf ndef rd wr mc e hpf hmc h2 hw

/-- C20 (seeds C20-m2, r3m2, r5m3): the EMPTY password writes the factory key of sixteen zero octets -/
theorem gen_protect_empty_password (pf : Int) (ndef : Option Bytes) (rd : Int → Py Bytes)
    (wr : Bytes → Int → Py Int) (mc : Bytes) (e : Exc) (hpf : 0 ≤ pf) (hmc : rd 136 = .ok mc)
    (h2 : PyFn.getB mc 2 = .ok 255) (hw : wr (List.replicate 16 0) 135 = .error e) :
    Gen.Fn.sony_lite_protect (some []) false pf ndef rd wr = .error e := by
  rw [lite_protect_bridge]; exact liteProtect_empty_password pf ndef rd wr mc e hpf hmc h2 hw

/-- without a password no command goes to the key block -/
theorem gen_protect_none_no_key (rp : Bool) (pf : Int) (ndef : Option Bytes) (rd : Int → Py Bytes)
    (wr wr' : Bytes → Int → Py Int) (h : ∀ d b, b ≠ 135 → wr d b = wr' d b) :
    Gen.Fn.sony_lite_protect none rp pf ndef rd wr = Gen.Fn.sony_lite_protect none rp pf ndef rd wr' := by
  rw [lite_protect_bridge, lite_protect_bridge]; exact liteProtect_none_no_key rp pf ndef rd wr wr' h

/-- the key the regenerated `_protect` provisions is the key the regenerated `_authenticate` will use for the same password -/
theorem gen_protect_auth_same_key (pw key : Bytes) (a : Bool) (r w : Int)
    (h : Gen.Fn.sony_auth_reset pw r w = .ok (key, a, r, w)) : AuthHist.keyOf pw = key := by
  rw [auth_reset_bridge] at h
  obtain ⟨k, hk, h⟩ := Py.bind_eq_ok.mp h
  cases h
  exact keyOf_of_liteKey hk

example : Gen.Fn.sony_lite_protect (some []) false 14 none (fun _ => .ok (List.replicate 16 0xFF))
    (fun d b => if b = 135 ∧ d = List.replicate 16 0 then .error .timeout else .ok 0) = .error .timeout := by decide +kernel
example : Gen.Fn.sony_lite_protect none false 14 none (fun _ => .ok (List.replicate 16 0xFF))
    (fun _ b => if b = 135 then .error .timeout else .ok 0) = .ok true := by decide +kernel

/-! ## `FelicaLiteS._protect` -/

theorem lites_protect_head_bridge (pw : Option Bytes) (rp : Bool) (pf : Int) (rd : Int → Py Bytes) :
    Gen.Fn.sony_lites_protect_head pw rp pf rd = if pf < 0 then .error .value else rd 136 := by
  unfold Gen.Fn.sony_lites_protect_head
  py_nat

/-- the end of the method: system blocks locked (octet 2 = 00), CK/CKV writeable with MAC (octet 5 = 01) -/
theorem lites_protect_tail_bridge (mc : Bytes) (pf : Int) (ndef : Option Bytes) (rd : Int → Py Bytes)
    (wr : Bytes → Int → Py Int) :
    Gen.Fn.sony_lites_protect_tail mc pf ndef rd wr = litesProtectTail pf ndef mc rd wr := by
  unfold Gen.Fn.sony_lites_protect_tail litesProtectTail attrReadOnly
  rfl

/-- the body of `if password is not None:` (byte string passwords) against the reference semantics -/
theorem lites_protect_key_bridge (p : Bytes) (rp : Bool) (pf : Int) (mc : Bytes) (authed : Bool) (auth : Bytes → Py Bool)
    (rd : Int → Py Bytes) (wr : Bytes → Int → Py Int) :
    Gen.Fn.sony_lites_protect_key p rp pf mc authed auth rd wr = litesProtectKey p rp pf mc authed auth rd wr := by
  unfold Gen.Fn.sony_lites_protect_key litesProtectKey litesKeyChange
  dsimp only
  simp only [revHalves_gen', keyOf_gen]

/-- C20: on a Lite-S with writeable system blocks EVERY byte string given as password, the empty one included, is
turned into a key (`AuthHist.keyOf`) that is written to the key block -/
theorem gen_lites_protect_writes_key (p : Bytes) (rp : Bool) (pf : Int) (mc : Bytes) (authed : Bool) (auth : Bytes → Py Bool)
    (rd : Int → Py Bytes) (wr : Bytes → Int → Py Int) (ckv v : Bytes) (x : Int) (e : Exc)
    (hmc : PyFn.getB mc 2 = .ok 255)
    (h1 : rd 134 = .ok ckv) (h2 : PyFn.needExact (slice ckv 0 2) 2 = .ok ())
    (h3 : PyFn.pack [.Hle] [PyFn.imin (PyFn.ule (slice ckv 0 2) 0 2 + 1) 65535] = .ok v)
    (h4 : wr (v ++ PyFn.repeatL [0] 14) 134 = .ok x) (hw : wr (Auth.revHalves (AuthHist.keyOf p)) 135 = .error e) :
    Gen.Fn.sony_lites_protect_key p rp pf mc authed auth rd wr = .error e := by
  rw [lites_protect_key_bridge]
  unfold litesProtectKey
  rw [hmc]
  simp only [Py.bind_ok, ne_eq, not_true_eq_false, if_false]
  exact litesKeyChange_writes_key p rp pf mc auth rd wr ckv v x e h1 h2 h3 h4 hw

/-- `FelicaLite._format`: the NDEF compatibility flag -/
theorem format_compat_bridge (mc : Bytes) (wr : Bytes → Int → Py Int) :
    Gen.Fn.sony_format_compat mc wr = formatCompat mc wr := by
  unfold Gen.Fn.sony_format_compat formatCompat
  cases getB mc 3 with
  | error e => rfl
  | ok m3 => simp only [Py.bind_ok]

/-! ## `FelicaLiteS.authenticate`: external authentication -/

theorem lites_ext_auth_bridge (plainRd plainWr : Int) (rm : Int → Py (Option Bytes)) (wm : Bytes → Int → Py Int) :
    Gen.Fn.sony_lites_ext_auth plainRd plainWr rm wm =
      (wm ([1] ++ List.replicate 15 0) 146 >>= fun _ => rm 146 >>= fun st => .ok (false, plainRd, plainWr, st)) := by
  unfold Gen.Fn.sony_lites_ext_auth
  rfl

theorem lites_ext_cond_bridge (state : Bytes) :
    Gen.Fn.sony_lites_ext_cond state = (getB state 0 >>= fun b => .ok (decide (b = 1))) := by
  unfold Gen.Fn.sony_lites_ext_cond
  py_nat

theorem lites_ext_ok_bridge (macRd macWr : Int) : Gen.Fn.sony_lites_ext_ok macRd macWr = (true, macRd, macWr) := rfl

/-- the three regenerated pieces assembled are the reference semantics of the external authentication
(`Model/AuthHist.lean` `extAuthS`: a failed MAC check of the state block yields False) -/
theorem ext_auth_assembled (plainRd plainWr macRd macWr : Int) (rm : Int → Py (Option Bytes)) (wm : Bytes → Int → Py Int) :
    extAuth plainRd plainWr macRd macWr rm wm =
      (Gen.Fn.sony_lites_ext_auth plainRd plainWr rm wm >>= fun o =>
        match o.2.2.2 with
        | none => .ok (o.1, o.2.1, o.2.2.1)
        | some s => Gen.Fn.sony_lites_ext_cond s >>= fun c =>
            if c then .ok (Gen.Fn.sony_lites_ext_ok macRd macWr) else .ok (o.1, o.2.1, o.2.2.1)) := by
  rw [lites_ext_auth_bridge]
  unfold extAuth
  simp only [bind_assoc, Py.bind_ok]
  refine bind_congr fun _ => bind_congr fun st => ?_
  cases st with
  | none => rfl
  | some s =>
    simp only [lites_ext_cond_bridge, lites_ext_ok_bridge, bind_assoc, Py.bind_ok]
    refine bind_congr fun b => ?_
    by_cases hb : b = 1 <;> simp [hb]

/-- C16 / C20: the MAC'ed accessors are installed only when the MAC-verified state block shows EXT_AUTH = 01; in every
other completed case the tag object keeps the plain accessors and `_authenticated = False` -/
theorem gen_ext_auth_accessors (plainRd plainWr macRd macWr : Int) (rm : Int → Py (Option Bytes)) (wm : Bytes → Int → Py Int)
    (a : Bool) (r w : Int) (h : extAuth plainRd plainWr macRd macWr rm wm = .ok (a, r, w)) :
    (a = true ∧ r = macRd ∧ w = macWr ∧ ∃ s, rm 146 = .ok (some s) ∧ getB s 0 = .ok 1) ∨
    (a = false ∧ r = plainRd ∧ w = plainWr) := by
  unfold extAuth at h
  simp only [Py.bind_eq_ok] at h
  obtain ⟨_, -, st, hr, h⟩ := h
  cases st with
  | none => cases h; exact Or.inr ⟨rfl, rfl, rfl⟩
  | some s =>
    obtain ⟨b, hb, h⟩ := Py.bind_eq_ok.mp h
    by_cases h1 : b = 1
    · rw [if_pos h1] at h; cases h
      exact Or.inl ⟨rfl, rfl, rfl, s, hr, by rw [hb, h1]⟩
    · rw [if_neg h1] at h; cases h
      exact Or.inr ⟨rfl, rfl, rfl⟩

example : extAuth 1 2 3 4 (fun _ => .ok (some [1, 0])) (fun _ _ => .ok 0) = .ok (true, 3, 4) := by decide +kernel
example : extAuth 1 2 3 4 (fun _ => .ok none) (fun _ _ => .ok 0) = .ok (false, 1, 2) := by decide +kernel

/-! ## `write_with_mac`, `write_without_mac` -/

theorem wwm_guard_bridge (data : Bytes) (block : Int) (sk iv : Option Bytes) :
    Gen.Fn.sony_wwm_guard data block sk iv =
      if data.length ≠ 16 then .error .value else if sk = none ∨ iv = none then .error .runtime else .ok none := by
  unfold Gen.Fn.sony_wwm_guard
  have e : (len data ≠ 16) ↔ data.length ≠ 16 := by simp only [len_eq]; omega
  simp only [e]
  split
  · rfl
  · cases sk <;> cases iv <;> simp

/-- WCNT is read from the tag (block 0x90) in EVERY call; the MAC input is WCNT, 00, block, 00 91 00, data; MAC_A is the
MAC followed by WCNT and five zero octets (`Auth.writeWithMacCmd`) -/
theorem wwm_body_bridge (data : Bytes) (block : Int) (sk iv : Bytes) (flip : Bytes → Bytes)
    (gm : Bytes → Bytes → Bytes → Py Bytes) (rd : Int → Py Bytes) :
    Gen.Fn.sony_wwm_body data block sk iv flip gm rd =
      (rd 144 >>= fun w =>
       mkBytes [block] >>= fun b =>
       gm (w.take 3 ++ [0] ++ b ++ [0, 145, 0] ++ data) (flip sk) iv >>= fun m =>
       .ok (w.take 3 ++ [0] ++ b ++ [0, 145, 0] ++ data, m ++ w.take 3 ++ List.replicate 5 0)) := by
  unfold Gen.Fn.sony_wwm_body
  refine bind_congr fun w => ?_
  -- `w[0:3]` is `take 3`; `5 * b"\0"` is `replicate 5 0` by evaluation
  rw [slice0_lit]
  rfl

/-- a failing WCNT read is the outcome: the counter is never taken from the tag object -/
theorem gen_wwm_reads_counter (data : Bytes) (block : Int) (sk iv : Bytes) (flip : Bytes → Bytes)
    (gm : Bytes → Bytes → Bytes → Py Bytes) (rd : Int → Py Bytes) (e : Exc) (h : rd 144 = .error e) :
    Gen.Fn.sony_wwm_body data block sk iv flip gm rd = .error e := by
  rw [wwm_body_bridge, h]; rfl

theorem wwm_payload_bridge (data maca : Bytes) : Gen.Fn.sony_wwm_payload data maca = sliceN data 8 24 ++ maca := by
  unfold Gen.Fn.sony_wwm_payload
  py_nat

theorem wwm_blocks_bridge (block : Int) (bc : Int → Int) : Gen.Fn.sony_wwm_blocks block bc = [bc block, bc 0x91] := rfl

/-- `write_without_mac`: exactly sixteen octets (`AuthHist.writePlain`) -/
theorem wwom_assert_bridge (data : Bytes) (block : Int) :
    Gen.Fn.sony_wwom_assert data block = if data.length ≠ 16 then .error .assertion else .ok none := by
  unfold Gen.Fn.sony_wwom_assert
  have e : (¬ (len data = 16 ∧ True)) ↔ data.length ≠ 16 := by simp only [len_eq, and_true]; omega
  simp only [e]

example : Gen.Fn.sony_wwm_body (List.replicate 16 7) 0x92 [1] [2] (fun k => k) (fun _ _ _ => .ok [9]) (fun _ => .ok [4, 5, 6, 0]) =
    .ok ([4, 5, 6, 0, 0x92, 0, 0x91, 0] ++ List.replicate 16 7, [9, 4, 5, 6, 0, 0, 0, 0, 0]) := by decide +kernel

/-! ## NDEF attribute data overrides (C02) -/

theorem lite_attr_cond_bridge (a : Option Int) (auth : Bool) : Gen.Fn.sony_lite_attr_cond a auth = (a.isSome && auth) := by
  unfold Gen.Fn.sony_lite_attr_cond
  cases a <;> cases auth <;> rfl

/-- the Lite-S override against the reference semantics -/
theorem lites_attr_bridge (authenticated writeable : Bool) (a : Option Int) (rd : Int → Py Bytes) :
    Gen.Fn.sony_lites_attr authenticated writeable a rd = litesAttr authenticated writeable a rd := by
  unfold Gen.Fn.sony_lites_attr litesAttr
  dsimp only
  cases a with
  | none => simp
  | some v =>
    cases authenticated with
    | false => simp
    | true =>
      simp only [decide_true, if_true, ne_eq, reduceCtorEq, not_false_eq_true, and_self]
      cases rd 136 with
      | error e => rfl
      | ok mc =>
        simp only [Py.bind_ok]
        unfold needExact
        by_cases hl : (slice mc 0 2).length = 2
        · have hlen : len (slice mc 0 2) = 2 := by simp only [len_eq]; omega
          simp [hlen, hl]
        · have hlen : ¬ len (slice mc 0 2) = 2 := by simp only [len_eq]; omega
          simp [hlen, hl]

/-- C02 (seed C02-r4m3): the override hands on the attributes of the generic Type 3 code unchanged and assigns NO
attribute besides `_writeable` - in particular never `_readable`: the result of the regenerated definition has exactly
the two components (attributes, _writeable), and an assignment to any other attribute is refused by the translator -/
theorem gen_lites_attr_passes_attributes (authenticated writeable : Bool) (a a' : Option Int) (rd : Int → Py Bytes)
    (w : Bool) (h : Gen.Fn.sony_lites_attr authenticated writeable a rd = .ok (a', w)) : a' = a := by
  rw [lites_attr_bridge] at h
  unfold litesAttr at h
  by_cases hc : a ≠ none ∧ authenticated = true
  · rw [if_pos hc] at h
    obtain ⟨mc, -, h⟩ := Py.bind_eq_ok.mp h
    split at h <;> cases h
    rfl
  · rw [if_neg hc] at h; cases h; rfl

/-- an unauthenticated tag object: no command, the writeable flag stands -/
theorem gen_lites_attr_unauthenticated (writeable : Bool) (rd : Int → Py Bytes) (a : Option Int) :
    Gen.Fn.sony_lites_attr false writeable a rd = .ok (a, writeable) := by
  rw [lites_attr_bridge]; exact litesAttr_unauthenticated writeable rd a

example : Gen.Fn.sony_lites_attr true false (some 7) (fun _ => .ok [0xFF, 0x03, 0, 0]) = .ok (some 7, true) := by decide +kernel
example : Gen.Fn.sony_lites_attr true true (some 7) (fun _ => .ok [0xFE, 0x03, 0, 0]) = .ok (some 7, false) := by decide +kernel

/-! ## `FelicaLite._format`: the wipe -/

theorem format_wipe_none (nmaxb : Int) (wr : Bytes → Int → Py Int) : Gen.Fn.sony_format_wipe none nmaxb wr = .ok true := rfl

/-- a requested wipe writes sixteen copies of the wipe octet to blocks 1 .. Nmaxb, in that order -/
theorem format_wipe_some (w nmaxb : Int) (wr : Bytes → Int → Py Int) :
    Gen.Fn.sony_format_wipe (some w) nmaxb wr =
      (mkBytes (repeatL [w] 16) >>= fun d =>
       forM (PyFn.range 1 (nmaxb + 1)) () (fun _ b => wr d b >>= fun _ => .ok ()) >>= fun _ => .ok true) := by
  unfold Gen.Fn.sony_format_wipe
  py_nat

/-! ## FelicaStandard -/

theorem request_response_chk_bridge (data : Bytes) : Gen.Fn.sony_request_response_chk data = requestResponseBad data := by
  unfold Gen.Fn.sony_request_response_chk requestResponseBad
  py_nat

theorem request_response_pmm_bridge (pmm : Bytes) :
    Gen.Fn.sony_request_response_pmm pmm = (getB pmm 3 >>= fun v => .ok (band v 7, band (shr v 3) 7, shr v 6)) := by
  unfold Gen.Fn.sony_request_response_pmm
  cases getB pmm 3 <;> rfl

theorem request_service_chk_bridge (data : Bytes) (n : Int) :
    Gen.Fn.sony_request_service_chk data n = requestServiceBad data n := rfl

theorem request_system_code_chk_bridge (data : Bytes) :
    Gen.Fn.sony_request_system_code_chk data = requestSystemCodeBad data := by
  unfold Gen.Fn.sony_request_system_code_chk requestSystemCodeBad
  match data with
  | [] => rfl
  | c :: rest =>
    rw [getB_zero]
    simp only [Py.bind_ok, len_eq, List.length_cons]
    have e : (((rest.length + 1 : Nat) : Int) ≠ 1 + (c : Int) * 2) ↔ rest.length ≠ c * 2 := by omega
    simp only [e]

/-- the answers of the three commands pass the test only when their length is the announced one -/
theorem gen_request_lengths (data : Bytes) :
    (Gen.Fn.sony_request_response_chk data = false → data.length = 1) ∧
    (∀ n, Gen.Fn.sony_request_service_chk data n = false → (data.length : Int) = 1 + n * 2) ∧
    (Gen.Fn.sony_request_system_code_chk data = .ok false → data.length = 1 + at0 data 0 * 2) := by
  refine ⟨?_, ?_, ?_⟩
  · intro h
    rw [request_response_chk_bridge] at h
    unfold requestResponseBad at h
    simpa using h
  · intro n h
    rw [request_service_chk_bridge] at h
    unfold requestServiceBad at h
    simpa using h
  · intro h
    rw [request_system_code_chk_bridge] at h
    unfold requestSystemCodeBad at h
    split at h
    · cases h
    · rename_i c rest
      have h' : decide (rest.length ≠ c * 2) = false := Except.ok.inj h
      simp only [List.length_cons, at0_cons_zero]
      simp at h'
      omega

example : Gen.Fn.sony_request_response_chk [2] = false ∧ Gen.Fn.sony_request_response_chk [2, 0] = true := by decide +kernel
example : Gen.Fn.sony_request_system_code_chk [2, 0x12, 0xFC, 0x88, 0xB4] = .ok false := by decide +kernel

theorem search_service_code_cmd_bridge (i : Int) : Gen.Fn.sony_search_service_code_cmd i = PyFn.pack [.Hle] [i] := by
  unfold Gen.Fn.sony_search_service_code_cmd
  exact bind_ok_id _

theorem search_service_code_none_bridge (data : Bytes) : Gen.Fn.sony_search_service_code_none data = decide (data ≠ [0xFF, 0xFF]) := rfl

theorem search_service_code_fmt_bridge (data : Bytes) :
    Gen.Fn.sony_search_service_code_fmt data = if data.length = 2 then "<H" else "<HH" := by
  unfold Gen.Fn.sony_search_service_code_fmt
  py_nat

/-! ## `activate` -/

/-- class selection by the IC code of SENSF_RES octet 10, first match in the order Lite, Lite-S, Standard, Mobile, Plug -/
theorem activate_bridge (clf target : Int) (sensf : Bytes) (k0 k1 k2 k3 k4 : List Int) (mk0 mk1 mk3 mk4 mk2 : Int → Int → Int) :
    Gen.Fn.sony_activate clf target sensf k0 k1 k2 k3 k4 mk0 mk1 mk3 mk4 mk2 =
      (getB sensf 10 >>= fun ic =>
        .ok (activate ic k0 k1 k2 k3 k4 (mk0 clf target) (mk1 clf target) (mk2 clf target) (mk3 clf target) (mk4 clf target))) := by
  unfold Gen.Fn.sony_activate activate
  rfl

end NfcVerif.FnBridge.Sony
