import NfcVerif.Lemmas.ExcFlowBits
import NfcVerif.Gen.ClassTree
import NfcVerif.Gen.ExcFlow
/-!
# Exception flow of the current nfcpy source (T-tie for "only documented exceptions escape")

Common part; the instance theorems are in `Props/ExcFlowTags.lean` (C16, C12), `ExcFlowNdef.lean` (C08, C16),
`ExcFlowDrivers.lean` (C13), `ExcFlowDiscovery.lean` (C13, C18), `ExcFlowTransport.lean` (C13, C14), `ExcFlowClf.lean`
(C18, C09), `ExcFlowLlc.lean` (C07, C09), `ExcFlowDep.lean` (C04, C07), `ExcFlowSock.lean` (C09, C17, C05),
`ExcFlowClients.lean` (C06, C07, C09) - one module per group so that a statement that stops holding breaks only the
checks that use it.

`Gen/ClassTree.lean` and `Gen/ExcFlow.lean` are regenerated from `/repo/src/nfc` by
`harness/translate_exc.py` on every run of a check that calls `excflow.run`; every theorem below is
therefore re-checked against what the code says now: the kernel evaluates `checkM`, the analysis on bit sets of
`Lemmas/ExcFlowBits.lean`, on the regenerated terms, and `checkAll_of_checkM` carries the result to `checkAll` /
`escapesWithin` / `canEscape`.  The generic part (`Lemmas/ExcFlow.lean`) is proved once:

* `Only f allowed` (`EscapesOnly`): for **every** behaviour of the primitive call sites that stays within
  the assumption table `Gen.ExcFlow.table` (site `k` raises only classes below a class listed for `k`;
  unlisted sites raise anything), an exception that leaves an execution of the translated function `f` -
  translated callees are executed, not assumed - is a subclass of one of `allowed`.
* `Can f c` (`CanEscape`): there **is** such a behaviour and an execution of `f` that ends with exception `c`
  (in the abstract semantics: branches and loop counts are free).  Used as non-vacuity witness ("the
  handler that turns X into Y is reached") and to state what the current code does *not* guarantee.
* `NeverEscapes world table prog f banned`: under the same behaviours no exception that leaves `f` is a subclass of one
  of `banned`; used where the list of an `Only` statement names a base class of which one subclass is excluded.

What an instance theorem does not say: exceptions raised implicitly by data operations (an index out of
range, `struct.error`, `.index()` ...) are not call sites of the table and are outside this analysis; they
are the subject of the executable models of the same properties.
-/
namespace NfcVerif.ExcFlowProps
open NfcVerif.ExcFlow NfcVerif.Gen.ClassTree NfcVerif.Gen.ExcFlow

/-- the generated class tree lists every class before its bases: `sub` is `issubclass` on it -/
theorem tree_ordered : ordered world.tree = true := by decide +kernel

/-- the two classes the semantics refers to, and the class the translator raises for `assert`, are the ones the
generated names say -/
theorem world_names : names.lookup world.top = some "BaseException" ∧ names.lookup world.rte = some "RuntimeError" ∧
    names.lookup Cls.AssertionError = some "AssertionError" := by decide +kernel

abbrev Only (f : Site) (allowed : List Cls) : Prop := EscapesOnly world table prog f allowed
abbrev Can (f : Site) (c : Cls) : Prop := CanEscape world table prog f c

/-- all statements of a checked list -/
theorem only_all {specs : List (Site × List Cls)} (h : checkOnly world table prog specs = true) :
    ∀ fa ∈ specs, Only fa.1 fa.2 :=
  fun _ hm => escapesOnly_of_checkOnly tree_ordered h hm

theorem only_each {specs : List (Site × List Cls)} (h : checkOnly world table prog specs = true) {fs : List Site}
    {allowed : List Cls} (hm : ∀ f ∈ fs, (f, allowed) ∈ specs) : ∀ f ∈ fs, Only f allowed :=
  fun f hf => escapesOnly_of_checkOnly tree_ordered h (hm f hf)

theorem never_each {specs : List (Site × List Cls)} (h : checkNever world table prog specs = true) {fs : List Site}
    {banned : List Cls} (hm : ∀ f ∈ fs, (f, banned) ∈ specs) : ∀ f ∈ fs, NeverEscapes world table prog f banned :=
  fun f hf => neverEscapes_of_checkNever tree_ordered h (hm f hf)

/-- the same with a host link that may fail: `clf.exchange` / `clf.sense` may also raise `IOError` -/
def tableIO : List (Site × List Cls) :=
  [(Site.self_clf_exchange, [Cls.clf_CommunicationError, Cls.OSError]),
   (Site.clf_exchange, [Cls.clf_CommunicationError, Cls.OSError]),
   (Site.self_clf_sense, [Cls.OSError]), (Site.clf_sense, [Cls.OSError])] ++ table
abbrev OnlyIO (f : Site) (allowed : List Cls) : Prop := EscapesOnly world tableIO prog f allowed

/-- unfolding of `Only`: the statement about `Runs` on the generated body -/
theorem only_iff_runs {f : Site} {body : Stmt} {rest : Prog} (h : progFrom f prog = (f, body) :: rest)
    (allowed : List Cls) :
    Only f allowed ↔ ∀ prim : Site → Cls → Prop, Respects world prim (lookupAbs world table) →
      ∀ c, Runs world (link world prim rest) none body (.raised c) → ∃ A, A ∈ allowed ∧ Below world.tree c A := by
  constructor
  · intro ho prim hp c hr
    exact ho prim hp c ((link_at prim prog h c).mpr hr)
  · intro ho prim hp c hl
    exact ho prim hp c ((link_at prim prog h c).mp hl)

/-! ## sanity of the machinery on hand-written programs -/

section examples
open Stmt Handlers

/-- a concrete derivation: three attempts fail with `TimeoutError`, the `else` clause raises the tag error -/
example : Runs world (fun k c => k = 7 ∧ c = Cls.clf_TimeoutError) none
    (loop (tryExcept (seq (call 7) brk) (.cons [Cls.clf_CommunicationError] skip .nil) skip)
      (raise Cls.tag_tt2_Type2TagCommandError))
    (.raised Cls.tag_tt2_Type2TagCommandError) := by
  have hsel : Selects world.tree Cls.clf_TimeoutError (.cons [Cls.clf_CommunicationError] skip .nil) (some skip) :=
    .hit ⟨_, List.mem_singleton.mpr rfl, (sub_iff_below tree_ordered _ _).mp (by decide +kernel)⟩
  have step : Runs world (fun k c => k = 7 ∧ c = Cls.clf_TimeoutError) none
      (tryExcept (seq (call 7) brk) (.cons [Cls.clf_CommunicationError] skip .nil) skip) .normal :=
    .tryCaught (.seqStop (.callRaise ⟨rfl, rfl⟩) (by simp)) hsel .skip
  exact .loopNext step (.inl rfl) (.loopNext step (.inl rfl) (.loopNext step (.inl rfl) (.loopEnd .raise)))

def tbl0 : List (Site × List Cls) := [(7, [Cls.clf_CommunicationError])]
-- handlers are tried in order and a subclass handler placed after its base class is dead
example : escapesWithin world tbl0 [(1, tryExcept (call 7) (.cons [Cls.clf_CommunicationError] skip
    (.cons [Cls.clf_TimeoutError] (raise Cls.SystemExit) .nil)) skip)] 1 [] = true :=
  escapesWithin_of_checkM tree_ordered (by decide +kernel)
example : canEscape world tbl0 [(1, tryExcept (call 7) (.cons [Cls.clf_TimeoutError] (raise Cls.SystemExit)
    (.cons [Cls.clf_CommunicationError] skip .nil)) skip)] 1 Cls.SystemExit = true :=
  canEscape_of_checkM tree_ordered (by decide +kernel)
-- `finally` runs on the exceptional exit and its `return` swallows the exception
example : escapesWithin world tbl0 [(1, tryFinally (call 7) ret)] 1 [] = true :=
  escapesWithin_of_checkM tree_ordered (by decide +kernel)
example : canEscape world tbl0 [(1, tryFinally (call 7) skip)] 1 Cls.clf_BrokenLinkError = true :=
  canEscape_of_checkM tree_ordered (by decide +kernel)
-- an exception raised in a handler replaces the handled one; bare `raise` re-raises it
example : escapesWithin world tbl0 [(1, tryExcept (call 7) (.cons [Cls.clf_Error] (raise Cls.OSError) .nil) skip)] 1
    [Cls.OSError] = true :=
  escapesWithin_of_checkM tree_ordered (by decide +kernel)
example : canEscape world tbl0 [(1, tryExcept (call 7) (.cons [Cls.clf_Error] reraise .nil) skip)] 1
    Cls.clf_ProtocolError = true :=
  canEscape_of_checkM tree_ordered (by decide +kernel)
-- the `else` clause is not protected by the handlers
example : canEscape world tbl0 [(1, tryExcept skip (.cons [Cls.BaseException] skip .nil) (call 7))] 1
    Cls.clf_TimeoutError = true :=
  canEscape_of_checkM tree_ordered (by decide +kernel)
-- an untranslatable statement or an unknown site may raise anything
example : canEscape world tbl0 [(1, other "exec(code)")] 1 Cls.KeyboardInterrupt = true :=
  canEscape_of_checkM tree_ordered (by decide +kernel)
example : canEscape world tbl0 [(1, call 99)] 1 Cls.SystemExit = true :=
  canEscape_of_checkM tree_ordered (by decide +kernel)
-- a translated callee is executed: its handlers count
example : escapesWithin world tbl0 [(2, call 1), (1, tryExcept (call 7) (.cons [Cls.clf_Error] ret .nil) skip)] 2 [] = true :=
  escapesWithin_of_checkM tree_ordered (by decide +kernel)
end examples

end NfcVerif.ExcFlowProps
