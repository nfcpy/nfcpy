import NfcVerif.Gen.FnAcr122
import NfcVerif.Lemmas.FnBridgeAcr122
import NfcVerif.Lemmas.HostFrame
/-!
# Bridge theorems, group Acr122 (`nfc/clf/acr122.py` -> `Gen/FnAcr122.lean` -> `Model/HostFrame.lean`)

Properties C14 (the CCID escape envelope and the pseudo APDU are well formed) and C13 (which exception
a malformed reader response becomes).  `Gen/FnAcr122.lean` is regenerated from the source on every run.

Encodings: a command code is the Python int `(cmd : Nat)`; the models take naturals, the source ints -
what the source does outside `0..255` (`ValueError` from `bytearray([0xD4, cmd_code])`) is stated
separately (`cmd_build_value`).  The model `ccidBuild` has no counterpart of `struct.error` for a block of
2^32 octets or more; the bridge states where the source raises it.
-/
namespace NfcVerif.FnBridge.Acr122
open NfcVerif NfcVerif.PyFn NfcVerif.HostFrame NfcVerif.FnBridge.HostLink

/-- `ccid_xfr_block`: the octets handed to `transport.write` are `ccidBuild data`, for every block
shorter than 2^32 octets; `struct.error` otherwise -/
theorem ccid_build_bridge (data : Bytes) :
    Gen.Fn.acr122_ccid_build data
      = if data.length < 4294967296 then .ok (ccidBuild data) else .error .struct := by
  unfold Gen.Fn.acr122_ccid_build ccidBuild
  simp only [lit_cast, len_eq, ccid_header]
  by_cases h : data.length < 4294967296 <;> simp [h]

example : Gen.Fn.acr122_ccid_build [0xFF, 0, 0x48, 0, 0] = .ok [0x6F, 5, 0, 0, 0, 0, 0, 0, 0, 0, 0xFF, 0, 0x48, 0, 0] := by
  decide +kernel

/-- `command`: a command code outside `0..255` is a `ValueError` (first `bytearray([..])` display) -/
theorem cmd_build_value (cmd : Int) (d : Bytes) (h : cmd < 0 ∨ cmd > 255) :
    Gen.Fn.acr122_cmd_build cmd d = .error .value := by
  unfold Gen.Fn.acr122_cmd_build
  rw [mkBytes_code_bad cmd [] h]; rfl

/-- `command` followed by `ccid_xfr_block`: what reaches the transport is `acrBuild cmd d`, for every
command code in `0..255` and every payload (`ValueError` when the pseudo APDU body exceeds 255 octets) -/
theorem cmd_build_bridge (cmd : Nat) (d : Bytes) (h : cmd < 256) :
    (Gen.Fn.acr122_cmd_build cmd d >>= Gen.Fn.acr122_ccid_build) = acrBuild cmd d := by
  unfold Gen.Fn.acr122_cmd_build acrBuild
  simp only [lit_cast, len_eq, mkBytes_cons, mkBytes_nil, h, Py.bind_ok, if_true, Nat.reduceLT]
  generalize hn : ([212, cmd] ++ d).length = n
  have hn' : n = d.length + 2 := by rw [← hn]; simp
  by_cases hl : n < 256
  · have h2 : ¬ n > 255 := by omega
    have h3 : ([255, 0, 0, 0, n] ++ ([212, cmd] ++ d)).length < 4294967296 := by simp; omega
    simp only [hl, h2, if_true, if_false, Py.bind_ok, ccid_build_bridge, h3]
    rfl
  · have h2 : n > 255 := by omega
    simp only [hl, h2, if_true, if_false, Py.bind_error]
    rfl

example : (Gen.Fn.acr122_cmd_build 0x4A [1, 0] >>= Gen.Fn.acr122_ccid_build)
    = .ok [0x6F, 9, 0, 0, 0, 0, 0, 0, 0, 0, 0xFF, 0, 0, 0, 4, 0xD4, 0x4A, 1, 0] := by decide +kernel
example : Gen.Fn.acr122_cmd_build 0x4A (List.replicate 254 0) = .error .value := by decide +kernel

/-- `C14.acr122_build_valid` for the regenerated functions: whenever the source hands a frame to the
transport, the independent reading of the CCID escape envelope and the pseudo APDU recovers the command
code and the payload -/
theorem gen_build_valid (cmd : Nat) (d w : Bytes) (hc : cmd < 256)
    (h : (Gen.Fn.acr122_cmd_build cmd d >>= Gen.Fn.acr122_ccid_build) = .ok w) :
    Spec.acrCommand w = some (cmd, d) := by
  rw [cmd_build_bridge cmd d hc] at h
  exact acr_build_valid cmd d w h

/-- `ccid_xfr_block`, response header checks (behind `transport.read`): `ccidAccept`, for every byte string -/
theorem ccid_accept_bridge (f : Bytes) : Gen.Fn.acr122_ccid_accept f = ccidAccept f := by
  unfold Gen.Fn.acr122_ccid_accept ccidAccept HostFrame.EIO
  py_nat
  by_cases h : f.length < 10
  · simp only [h, or_true, if_true]
  · have hne : f ≠ [] := by intro e; rw [e] at h; simp at h
    have h4 : (sliceN f 1 5).length = 4 := by simp [sliceN]; omega
    simp only [h, hne, not_true_eq_false, or_self, if_false, not_false_eq_true]
    rw [idxN_eq_at0 (by omega)]
    simp only [Py.bind_ok, h4, if_true, List.drop_zero, List.take_of_length_le (Nat.le_of_eq h4), beNat_reverse_unLe32 h4,
      ite_ite_and]

example : Gen.Fn.acr122_ccid_accept [0x80, 2, 0, 0, 0, 0, 0, 0, 0, 0, 0x90, 0] = .ok [0x90, 0] := by decide +kernel
example : Gen.Fn.acr122_ccid_accept [0x80, 3, 0, 0, 0, 0, 0, 0, 0, 0, 0x90, 0] = .error (.io 5) := by decide +kernel

/-- `command`, checks on the pseudo APDU response (behind `ccid_xfr_block`): `acrBody`, for every command
code and every byte string -/
theorem cmd_accept_bridge (cmd : Nat) (f : Bytes) : Gen.Fn.acr122_cmd_accept f cmd = acrBody cmd f := by
  unfold Gen.Fn.acr122_cmd_accept acrBody HostFrame.EIO
  simp only [getB_idx]
  py_nat
  -- the reference reads both octets of a pair before it tests them; behind the length test every read succeeds
  by_cases h : f.length < 4
  · simp only [h, or_true, if_true]
  · have hne : f ≠ [] := by intro e; rw [e] at h; simp at h
    simp only [h, hne, not_true_eq_false, or_self, if_false, not_false_eq_true]
    rw [idx_neg 1 (by omega) (by omega), idx_neg 2 (by omega) (by omega), idxN_eq_at0 (by omega : 0 < f.length),
      idxN_eq_at0 (by omega : 1 < f.length)]
    simp only [Py.bind_ok, ite_ite_and, and_assoc]

example : Gen.Fn.acr122_cmd_accept [0xD5, 0x4B, 0x77, 0x90, 0] 0x4A = .ok [0x77] := by decide +kernel
example : Gen.Fn.acr122_cmd_accept [0xD5, 0x4B, 0x77, 0x63, 0] 0x4A = .error (.io 5) := by decide +kernel

/-- both slices in sequence are the model's `acrAccept` -/
theorem accept_bridge (cmd : Nat) (raw : Bytes) :
    (Gen.Fn.acr122_ccid_accept raw >>= fun f => Gen.Fn.acr122_cmd_accept f cmd) = acrAccept cmd raw := by
  unfold acrAccept
  rw [ccid_accept_bridge]
  congr 1
  funext f
  exact cmd_accept_bridge cmd f

/-- `C14.acr122_accept_sound` for the regenerated checks: data is returned only for a CCID data block that
carries `D5, cmd+1, data, 90 00` -/
theorem gen_accept_sound (cmd : Nat) (raw data : Bytes)
    (h : (Gen.Fn.acr122_ccid_accept raw >>= fun f => Gen.Fn.acr122_cmd_accept f cmd) = .ok data) :
    Spec.acrResponse raw = some (cmd + 1, data) := by
  rw [accept_bridge] at h
  exact acr_accept_sound cmd raw data h

/-- `C14.acr122_accept_documented` / C13: every other response - any byte string - ends in `IOError(EIO)` -/
theorem gen_accept_documented (cmd : Nat) (raw : Bytes) :
    Safe (fun e => e = .io 5) (Gen.Fn.acr122_ccid_accept raw >>= fun f => Gen.Fn.acr122_cmd_accept f cmd) := by
  rw [accept_bridge]
  exact acr_accept_doc cmd raw

end NfcVerif.FnBridge.Acr122
