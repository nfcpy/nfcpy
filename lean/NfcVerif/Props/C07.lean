import NfcVerif.Lemmas.PeerDep
import NfcVerif.Lemmas.PeerPax
import NfcVerif.Lemmas.PeerDispatch
import NfcVerif.Lemmas.PeerT3
import NfcVerif.Lemmas.PeerDecode
import NfcVerif.Lemmas.PeerT3Gen
import NfcVerif.Lemmas.PeerSnep
import NfcVerif.Lemmas.PduSafe
/-!
# Property C07: bytes from the remote peer cannot crash or hang the stack

The models are `Model/PeerDep`, `Model/PeerPax`, `Model/PeerDispatch`, `Model/PeerT3Gen`,
`Model/PeerSnep` (+ `Model/Pdu` of C11, `Model/NfcDep` of C04, `Model/T3Emu` of C01), tied to the
code by `harness/props/c07.py`.  The theorems are about the REPAIRED code
(fixes/C07/0001..0009 and fixes/C09/0001); for every repaired defect the code as
found has a counter-example theorem whose witness is replayed by the L3 oracle.
What several statements rest on is in the lemma modules; a proof that serves one statement only is
given here, under that statement (`snep_request_is_c06`, `snep_request_safe`, `t3emu_total`).

* `pdu_decode_total`        every octet string decodes to a PDU or raises `DecodeError` (from C11)
* `dep_decode_total`        every octet string as an NFC-DEP frame, both roles, both framings:
                            a PDU, `ProtocolError` or `TransmissionError`
* `dep_rtox_total`          the RTOX value taken from a timeout extension PDU: value or `ProtocolError`;
                            `dep_target_rtox_total`, `dep_after_deselect_total` likewise
* `pax_total`               `llc.activate` on any general bytes: activated or `False`, never an exception
* `t3emu_total`             `process_command` on any command, tagtool's callbacks: response / `None`
* `dispatch_total`          `dispatch` of any PDU on any well-formed SAP table: no exception, table stays well formed
* `peer_octets_dispatch_total`  any octet string: DecodeError, or a PDU whose dispatch raises nothing and never waits
* `linkloop_never_waits`    `dispatch` of any PDU (aggregates included) on any SAP table never reaches
                            a wait on the link-loop thread
* `peer_bytes_flow`         every exception the decoders can raise ends the run loop through
                            `terminate()` with a normal return, and `connect()` returns normally
* `flow_contains`, `connect_returns_normally`, `card_loop_contains`  the same as closure properties
* `t3emu_total_any_services` `process_command` for ANY registered services with total callbacks, ids of any
                            size a SENSF_RES slice can have: a response or `None`, NO exception - every
                            `bytearray([..])` of a computed value (status flags, block count, length octets) is in range
* `t3emu_response_framed`   every response of the emulation starts with its own length (<= 255)
* `card_session_returns`    `_card_connect` with the emulation: any commands and any `CommunicationError`s in between
                            end in a normal return
* `t3emu_status_flag_octet`, `t3emu_status_flag_counterexample`  the flag `1 << (i % 8)` is an octet for every list
                            position; `1 << i` is not from position 8 on
* `snep_request_total`, `snep_request_safe`  `process_snep_request` on any message: a response with a header
* `snep_serve_total`        `SnepServer._serve` on ANY sequence of fragments: ends orderly, no exception
* `snep_request_is_c06`     the `Py`-level request handler equals the one inside C06's SNEP model
* `snep_client_get_total`, `snep_client_put_total`  the client's response path on ANY fragments
-/
namespace NfcVerif.C07
open NfcVerif NfcVerif.Peer NfcVerif.NfcDep

/-- `pdu.decode(data)` of ANY octet string yields a PDU or `DecodeError` (the statement of C11's
`pdu_decode_total`, proved from the same lemma `Pdu.Impl.decodeAt_safe`; the run loop relies on it
through `llc.exchange`). -/
theorem pdu_decode_total (b : Bytes) : Safe Pdu.OnlyDecodeError (Pdu.Impl.decode b) :=
  Pdu.Impl.decodeAt_safe b 0 b.length

example : Pdu.Impl.decode [0x00, 0x80, 0x00, 0x02, 0x00, 0x80] = .error .decodeError := by decide

/-- `decode_frame` + the PDU class `decode` of the repaired code: for every octet string, for the
Initiator and the Target, with and without the 106 kbps start byte, the result is a PDU,
`ProtocolError` or `TransmissionError`. -/
theorem dep_decode_total (b106 req : Bool) (frame : Bytes) :
    Safe FrameErr (decodeFrameV true b106 req frame) :=
  Peer.dep_decode_total b106 req frame

example : decodeFrameV true false false [3, 0xD5, 1] = .error .protocol := by decide
example : decodeFrameV true true true [0xF0, 6, 0xD4, 6, 0x0C, 1, 2] = .ok (.dep 0 0 (some 1) (some 2) []) := by decide

/-- F11 on the code as found: the empty frame, the lone start byte and a 3-byte ATR_RES raise
`IndexError` / `ValueError`. -/
theorem dep_decode_counterexample :
    decodeFrameV false false false [] = .error .index ∧
    decodeFrameV false true true [0xF0] = .error .index ∧
    decodeFrameV false false false [3, 0xD5, 1] = .error .value ∧
    ¬ (∀ b106 req frame, Safe FrameErr (decodeFrameV false b106 req frame)) := by
  refine ⟨by decide, by decide, by decide, ?_⟩
  intro h
  have := h false false [] .index (by decide)
  rcases this with h | h <;> cases h

/-- the repaired frame model IS the frame decoder of property C04 (whose model follows the repaired
`dep.py`), so `dep_decode_total` is a statement about the decoder inside C04's state machines too -/
theorem dep_decode_is_c04 (b106 req : Bool) (frame : Bytes) :
    decodeFrameV true b106 req frame = NfcDep.decodeFrame b106 req frame :=
  Peer.decodeFrameV_repaired b106 req frame

theorem dep_decode_total_c04 (b106 req : Bool) (frame : Bytes) :
    Safe FrameErr (NfcDep.decodeFrame b106 req frame) := by
  rw [← Peer.decodeFrameV_repaired]; exact Peer.dep_decode_total b106 req frame

example : NfcDep.decodeFrame false false [] = .error .transmission := by decide

/-- `Initiator.exchange`: the RTOX value of a timeout extension response is a value in 1..59 or
`ProtocolError`, for every data field (repaired). -/
theorem dep_rtox_total (data : Bytes) : Safe (fun e => e = .protocol) (rtoxOf true data) := by
  unfold rtoxOf
  simp only [if_true]
  match data with
  | [] => exact Safe.throw rfl
  | v :: _ => exact Safe.ite (Safe.ok _) (Safe.throw rfl)

example : rtoxOf true [5] = .ok 5 := by decide
theorem dep_rtox_counterexample : rtoxOf false [] = .error .index := by decide

/-- `Target.send_timeout_extension` never raises on the initiator's answer (repaired) -/
theorem dep_target_rtox_total (data : Bytes) : ∃ r, tRtoxOf true data = .ok r := by
  unfold tRtoxOf
  match data with
  | [] => exact ⟨_, rfl⟩
  | v :: _ => exact ⟨_, rfl⟩

theorem dep_target_rtox_counterexample : tRtoxOf false [] = .error .index := by decide

/-- after DSL_REQ / RLS_REQ `Target.exchange` returns `None` whatever frame follows (repaired);
as found an ATR/PSL/DSL/RLS request at that position raises `AttributeError` -/
theorem dep_after_deselect_total (nxt : Option Pdu) : afterDeselect true nxt = .ok none := rfl

theorem dep_after_deselect_counterexample : afterDeselect false (some (.dsl none)) = .error .attr := rfl

/-- `llc.activate()` handles ANY general bytes: the link is activated or not, no exception (repaired) -/
theorem pax_total (gb : Option Bytes) : ∃ r, activateGb true gb = .ok r := Peer.pax_total gb

example : activateGb true (some [0x46, 0x66, 0x6D, 1, 1, 0x11, 2, 2, 7, 0xFF]) =
    .ok (some ⟨0x11, 2175, 100, 0, 0⟩) := by decide

/-- as found: a TLV with a wrong or truncated length makes `activate()` raise `DecodeError` -/
theorem pax_counterexample :
    activateGb false (some [0x46, 0x66, 0x6D, 1, 5, 0x11]) = .error .decodeError ∧
    activateGb true (some [0x46, 0x66, 0x6D, 1, 5, 0x11]) = .ok none := by decide

/-- `process_command` (repaired) on ANY command, for an emulation whose IDm/PMm/system code have
their sizes (8/8/2, slices of SENSF_RES): a response or `None`; the only exception left is the
`TypeError` of tagtool's own write callback of the read-only service (`lambda: False` called with
four arguments) - application code, reached only by a well-formed write command to service 000Bh.
No `IndexError`, `KeyError` (block-count dictionary) or `ValueError` (response above 255 octets). -/
theorem t3emu_total (e : T3Emu.Emu) (hl : e.idm.length = 8 ∧ e.pmm.length = 8 ∧ e.sys.length = 2) (cmd : Bytes) :
    Safe (fun x => x = .type_) (processCommandR e cmd) := by
  intro x h
  unfold Peer.processCommandR at h
  split at h
  · cases h
  · rename_i hne
    rcases Peer.processCommand_safe (S := fun x => x = .index ∨ x = .type_) (Or.inl rfl) (Or.inr rfl) e
      (fun hv => by omega) cmd x h with h1 | h1
    · subst h1; exact absurd h hne
    · exact h1

example : processCommandR ⟨[1,2,3,4,5,6,7,8], [0,0,0,0,0,0,0,0], [0x12, 0xFC], []⟩ [1] =
    .ok (none, [], []) := by decide

/-- F23 as found: the empty command, a 1-byte command and a truncated read raise `IndexError` -/
theorem t3emu_counterexample :
    T3Emu.processCommand ⟨[1,2,3,4,5,6,7,8], [0,0,0,0,0,0,0,0], [0x12, 0xFC], []⟩ [] = .error .index ∧
    T3Emu.processCommand ⟨[1,2,3,4,5,6,7,8], [0,0,0,0,0,0,0,0], [0x12, 0xFC], []⟩
      [11, 6, 1, 2, 3, 4, 5, 6, 7, 8, 5] = .error .index := by decide

/-- `process_command` (repaired) for ANY set of services registered with `add_service` whose callbacks
return (`ReadOk`: a read callback hands back at most one 16 octet block or `None`; write callbacks any
truth value), IDm / PMm / system code of whatever size the slices of SENSF_RES have, ANY application
state and ANY command octets: a response or `None` - no `IndexError`, no `KeyError`, and no `ValueError`
from any `bytearray([..])` built from a computed number (status flag 1 of the `A2`/`A3` error responses for
a failing element at ANY block list position, block count of the read response, length octets). -/
theorem t3emu_total_any_services {σ : Type} (e : PeerT3.Emu σ) (hl : PeerT3.IdsOk e) (hr : PeerT3.ReadOk e.svc)
    (s : σ) (cmd : Bytes) : ∃ r, PeerT3.processCommandR e s cmd = .ok r :=
  PeerT3.processCommandR_total e hl hr s cmd

/-- every response the emulation hands to the device is a well-formed frame: its first octet is its
length and fits one octet (IDm of 8 octets), for every command and any services - the reader is answered,
never sent a frame the driver would have to refuse -/
theorem t3emu_response_framed {σ : Type} (e : PeerT3.Emu σ) (hi : e.idm.length = 8) (s : σ) (cmd r : Bytes) (s' : σ)
    (lg : List T3Emu.Call) (h : PeerT3.processCommandR e s cmd = .ok (some r, s', lg)) :
    r.head? = some r.length ∧ r.length ≤ 255 := by
  unfold PeerT3.processCommandR at h
  split at h
  · cases h
  · exact PeerT3.processCommand_framed e hi s cmd _ h r rfl

/-- the services of the correspondence run satisfy the hypothesis, for every table -/
example (tab : List (Nat × PeerT3.Mode)) : PeerT3.ReadOk (PeerT3.storeSvc tab) := PeerT3.storeSvc_readOk tab

/-- eight readable blocks followed by one beyond the tag: flag 1 names list position 8 as `1 << 0` -/
example :
    (PeerT3.processCommandR ⟨[1,2,3,4,5,6,7,8], [0,0,0,0,0,0,0,0], [0x12, 0xFC], PeerT3.storeSvc [(9, .rw)]⟩
      (List.replicate 32 7)
      ([32, 6, 1,2,3,4,5,6,7,8, 1, 9, 0, 9] ++ [0x80,0, 0x80,1, 0x80,0, 0x80,1, 0x80,0, 0x80,1, 0x80,0, 0x80,1, 0x80,2])).map (·.1)
    = .ok (some [12, 7, 1,2,3,4,5,6,7,8, 1, 0xA2]) := by decide +kernel

/-- the status flag is an octet at every block list position -/
theorem t3emu_status_flag_octet (i : Nat) (c : Nat) (hc : c < 256) :
    PeerT3.mkBytes [PeerT3.flag1 i, c] = .ok [PeerT3.flag1 i, c] :=
  PeerT3.mkBytes_flag i c hc

/-- why the `% 8` matters: `bytearray([1 << 8, 0xA2])` raises `ValueError`, which neither
`process_command` nor `_card_connect` handles (`card_loop_counterexample`) -/
theorem t3emu_status_flag_counterexample : PeerT3.mkBytes [2 ^ 8, 0xA2] = .error .value := by decide

/-- `connect(card=..)` with an emulated Type 3 Tag: whatever the reader sends - the activating command, any
sequence of further commands, any `CommunicationError` of the exchange in between - `process_command` answers
every command and `_card_connect` ends with a normal return (`terminate()` or `BrokenLinkError`), for any
services with total callbacks.  Composition of `t3emu_total_any_services` with the handler structure. -/
theorem card_session_returns {σ : Type} (e : PeerT3.Emu σ) (hl : PeerT3.IdsOk e) (hr : PeerT3.ReadOk e.svc) (s : σ)
    (first : Bytes) (script : List PeerT3.CardEv) (hs : ∀ x, PeerT3.CardEv.err x ∈ script → Peer.isComm x = true) :
    PeerT3.cardSession e s first script = .returned := by
  unfold PeerT3.cardSession
  obtain ⟨r, hr'⟩ := PeerT3.processCommandR_total e hl hr s first
  rw [hr']
  exact PeerT3.cardLoop_returns e hl hr script hs _

example : PeerT3.cardSession ⟨[1,2,3,4,5,6,7,8], [0,0,0,0,0,0,0,0], [0x12, 0xFC], PeerT3.storeSvc [(9, .rw)]⟩ (List.replicate 16 0)
    [6, 0, 0x12, 0xFC, 0, 0] [.cmd [], .err .timeout, .cmd [10, 4, 1,2,3,4,5,6,7,8], .err .brokenLink, .err .index] = .returned := by
  decide +kernel

/-- an exception that is no `CommunicationError` does leave the loop (cf. `card_loop_counterexample`) -/
example : PeerT3.cardSession ⟨[1,2,3,4,5,6,7,8], [0,0,0,0,0,0,0,0], [0x12, 0xFC], PeerT3.storeSvc [(9, .rw)]⟩ (List.replicate 16 0)
    [6, 0, 0x12, 0xFC, 0, 0] [.err .value] = .raised .value := by decide +kernel

/-- `SnepServer.process_snep_request` on ANY message of two or more octets (`_serve` hands over six or
more), for any decoder/application/encoder that keeps the contract `AppOk` (codes are octets, only the
handled exceptions): a response with a complete header, never an exception - in particular the
acceptable-length field of a GET request is only unpacked when it is there. -/
theorem snep_request_total (app : PeerSnep.App) (h : PeerSnep.AppOk app) (data : Bytes) (hd : 2 ≤ data.length) :
    ∃ r, PeerSnep.processRequest app data = .ok r ∧ 6 ≤ r.length ∧ r.take 1 = [0x10] :=
  PeerSnep.processRequest_total app h data hd

/-- the default server: GET is not implemented (E0h), PUT succeeds, the decoder accepts `valid` -/
def defaultApp (valid : Bytes → Bool) : PeerSnep.App where
  get o := if valid o then .ok (.inl 0xE0) else .error .ndefDecode
  put o := if valid o then .ok 0x81 else .error .ndefDecode

example (valid : Bytes → Bool) : PeerSnep.AppOk (defaultApp valid) := by
  constructor
  · intro o; simp only [defaultApp]; cases valid o <;> simp
  · intro o; simp only [defaultApp]; cases valid o <;> simp

/-- a GET request of six octets (no acceptable-length field): Bad Request, not `struct.error` -/
example : PeerSnep.processRequest (defaultApp fun _ => true) [0x10, 1, 0, 0, 0, 0] = .ok [0x10, 0xC2, 0, 0, 0, 0] := by decide

example : PeerSnep.unpackL (sliceN [0x10, 1, 0, 0, 0, 3, 1, 2, 3] 6 10) = .error .struct := by decide

/-- for every message at all: the only exception is the `IndexError` of `request_data[1]` on fewer than two octets -/
theorem snep_request_safe (app : PeerSnep.App) (h : PeerSnep.AppOk app) (data : Bytes) :
    Safe (fun e => e = .index) (PeerSnep.processRequest app data) := by
  intro e he
  by_cases hd : 2 ≤ data.length
  · obtain ⟨r, hr, _⟩ := PeerSnep.processRequest_total app h data hd
    rw [hr] at he; cases he
  · have h1 : idxN data 1 = .error .index := idxN_ge (by omega)
    unfold PeerSnep.processRequest PeerSnep.requestBody at he
    simp only [h1] at he
    cases he; rfl

/-- `SnepServer._serve` on ANY sequence of fragments received on the connection, any send MIU and
acceptable length: the thread ends orderly (the messages it sent are the result), it is never killed by an
exception, and one turn of the receive loop per fragment suffices (no `OutOfFuel`). -/
theorem snep_serve_total (cfg : PeerSnep.Cfg) (h : PeerSnep.AppOk cfg.app) (inbox : List Bytes) :
    ∃ out, PeerSnep.serve cfg (inbox.length + 1) inbox [] = .ok out :=
  PeerSnep.serve_total cfg h _ inbox [] (Nat.lt_succ_self _)

/-- a GET announced with 100 octets of which 3 arrive before the peer leaves: Continue, then Bad Request -/
example : PeerSnep.serve ⟨1024, 128, defaultApp fun _ => true⟩ 3 [[0x10, 1, 0, 0, 0, 100, 0, 0], [0]] [] =
    .ok [[0x10, 0x80, 0, 0, 0, 0], [0x10, 0xC2, 0, 0, 0, 0]] := by decide

/-- the request handler of property C06's SNEP model is this one (handlers within the field ranges) -/
theorem snep_request_is_c06 (h : Snep.Handlers) (hb : PeerSnep.HandlersOk h) (data : Bytes) :
    PeerSnep.processRequest (PeerSnep.ofHandlers h) data = (Snep.process h data >>= fun r => .ok r.1) := by
  unfold PeerSnep.processRequest PeerSnep.requestBody Snep.process
  cases h1 : idxN data 1 with
  | error e =>
    cases idxN_error h1
    rfl
  | ok code =>
    simp only [Py.bind_ok]
    by_cases hc : code = 1 ∧ data.length ≥ 10
    · rw [if_pos hc, if_pos hc, PeerSnep.unpackL_slice data hc.2]
      simp only [PeerSnep.ofHandlers]
      by_cases hv : h.valid (data.drop 10) = false
      · rw [if_pos hv, if_pos hv]
        exact PeerSnep.packResponse_ok 0xC2 [] (by decide) (by simp)
      · rw [if_neg hv, if_neg hv]
        have hg := hb.2 (data.drop 10)
        have hacc : beNat (sliceN data 6 10) = beNat ((data.drop 6).take 4) := by simp [sliceN]
        cases hr : h.get (data.drop 10) with
        | inl c =>
          rw [hr] at hg
          simp only at hg
          simp only [Nat.not_lt_zero, if_false, List.length_nil, Py.bind_ok]
          exact PeerSnep.packResponse_ok c [] hg (by simp)
        | inr d =>
          rw [hr] at hg
          simp only at hg
          simp only [Py.bind_ok, hacc]
          split
          · exact PeerSnep.packResponse_ok 0xC1 [] (by decide) (by simp)
          · exact PeerSnep.packResponse_ok 0x81 d (by decide) hg
    · rw [if_neg hc, if_neg hc]
      by_cases h2 : code = 2
      · rw [if_pos h2, if_pos h2]
        simp only [PeerSnep.ofHandlers]
        by_cases hv : h.valid (data.drop 6) = false
        · rw [if_pos hv, if_pos hv]
          exact PeerSnep.packResponse_ok 0xC2 [] (by decide) (by simp)
        · rw [if_neg hv, if_neg hv]
          exact PeerSnep.packResponse_ok _ [] (hb.1 _) (by simp)
      · rw [if_neg h2, if_neg h2]
        exact PeerSnep.packResponse_ok 0xC2 [] (by decide) (by simp)

/-- the response path of `SnepClient.get_octets` / `put_octets` on ANY fragments from the server:
data, `None`/`True` or `SnepError` - no other exception -/
theorem snep_client_get_total (acc : Nat) (inbox : List Bytes) : ∃ r, PeerSnep.getOctets acc inbox = .ok r :=
  PeerSnep.status_total acc inbox _ _ fun _ _ => by split <;> exact ⟨_, rfl⟩

theorem snep_client_put_total (inbox : List Bytes) : ∃ r, PeerSnep.putOctets inbox = .ok r :=
  PeerSnep.status_total 0 inbox _ _ fun _ _ => by split <;> exact ⟨_, rfl⟩

example : PeerSnep.getOctets 1024 [[0x10, 0x81, 0, 0, 0, 3, 0xD0], [0, 0]] = .ok (.data [0xD0, 0, 0]) := by decide
example : PeerSnep.getOctets 1024 [[0x10, 0xC0, 0, 0, 0, 0]] = .ok (.snepError 0xC0) := by decide

/-- `dispatch` (repaired: fixes/C09/0001) of ANY PDU, aggregate or not, against ANY table of service
access points with sockets of any kind in any state: the link-loop thread is never left waiting. -/
theorem linkloop_never_waits (f : Fix) (hf : f.f39 = true) (w : Llc) (p : Pdu.Pdu) :
    dispatch f w p ≠ .ok none :=
  Peer.dispatch_never_waits f hf w p

/-- `dispatch` (repaired) of ANY PDU whose DSAP fields are SAP numbers (`PduOk`: true of every decoded
PDU, the field is six bits wide - the tie runs this model on the decoded octets) against any
well-formed table: no exception, no wait, and the table stays well formed - so the statement
extends to every sequence of received PDUs. -/
theorem dispatch_total (f : Fix) (hf : f.f39 = true) (w : Llc) (hw : LlcOk w) (p : Pdu.Pdu) (hp : PduOk p) :
    ∃ w', dispatch f w p = .ok (some w') ∧ LlcOk w' :=
  Peer.dispatch_total f hf w hw p hp

/-- ANY octet string received from the peer, at any moment (any well-formed SAP table, sockets of any
kind in any state): `pdu.decode` raises `DecodeError` (-> `llc.exchange` returns None, `peer_bytes_flow`)
or yields a PDU whose `dispatch` raises nothing, never waits, and leaves the table well formed. -/
theorem peer_octets_dispatch_total (f : Fix) (hf : f.f39 = true) (w : Llc) (hw : LlcOk w) (b : Bytes) (hb : IsBytes b) :
    Pdu.Impl.decode b = .error .decodeError ∨
    ∃ p w', Pdu.Impl.decode b = .ok p ∧ dispatch f w p = .ok (some w') ∧ LlcOk w' := by
  cases hd : Pdu.Impl.decode b with
  | error e => left; rw [pdu_decode_total b e hd]
  | ok p =>
    right
    obtain ⟨w', h1, h2⟩ := dispatch_total f hf w hw p (Peer.decode_pduOk hb hd)
    exact ⟨p, w', rfl, h1, h2⟩

example : IsBytes [0x90, 0xE0] := by decide

/-- the established data link connection of the witness -/
def estab36 : Sock := ⟨.dlc, .established, 36, some 32, true, 0, 2, 128, 0, 0, 0, 0, []⟩

def world36 : Llc :=
  ⟨((List.replicate 64 Entry.empty).set 1 (.sdp [] 0)).set 36 (.sap ⟨[estab36], []⟩), []⟩

example : LlcOk world36 := ⟨by decide, ⟨[], 0, by decide⟩, by intro e he; cases he⟩

example : dispatch Fix.repaired world36 (.simple (.ui 36 32 [])) ≠ .ok none :=
  linkloop_never_waits _ rfl _ _

/-- F39 as found: a UI PDU (octets `90 E0`) - also as an element of an aggregate - addressed to an
established data link connection blocks the link loop for ever -/
theorem linkloop_never_waits_counterexample :
    dispatch Fix.asFound world36 (.simple (.ui 36 32 [])) = .ok none ∧
    dispatch Fix.asFound world36 (.agf 0 0 [.symm 0 0, .unknown 11 36 32 [1]]) = .ok none := by
  decide

/-- a second CC in the same aggregate is not queued for the connecting socket (repaired: fixes/C07/0009) -/
theorem second_cc_ignored (s : Sock) (hs : s.kind = .dlc ∧ s.st = .connect ∧ s.rq ≠ 0) (d a m r : Nat) :
    sockEnqueue Fix.repaired s (.cc d a m r) = some s := by
  obtain ⟨hk, hst, hq⟩ := hs
  unfold sockEnqueue dlcEnqueue
  simp [hk, hst, hq, isDlcPdu, Fix.repaired]

example : (sockEnqueue Fix.asFound { estab36 with st := .connect, rq := 1 } (.cc 36 32 128 1)).map (·.rq) = some 2 := by
  decide

/-- For every exception the decoders above can produce at the link loop (`ProtocolError`,
`TransmissionError`, `TimeoutError`, `BrokenLinkError`, `DecodeError`), raised by
`mac.exchange` / `pdu.decode` inside `llc.exchange`: `exchange` returns `None`, the run loop
returns normally after `terminate()`, and `connect()` returns normally. -/
theorem peer_bytes_flow (e : Exc) (h : PeerExc e) :
    llcExchange (.error e : Py Unit) = .ok none ∧
    runLoop (.error e : Py Unit) (fun _ => .ok ()) = some ⟨.returned, true⟩ ∧
    connectLlcp (.ok true) (runLoop (.error e : Py Unit) (fun _ => .ok ())) = some ⟨.returned, true⟩ := by
  have hr := runLoop_peer (α := Unit) e h (fun _ => .ok ())
  refine ⟨?_, hr, ?_⟩
  · unfold llcExchange; simp only [peerExc_caught h, if_true]
  · rw [hr]; rfl

example : PeerExc .protocol := Or.inl rfl

/-- why totality of the decoders matters: an internal exception is NOT contained - it leaves the
run loop without `terminate()` and leaves `connect()` -/
theorem peer_bytes_flow_counterexample :
    connectLlcp (.ok true) (runLoop (.error .index : Py Unit) (fun _ => .ok ())) = some ⟨.raised .index, false⟩ ∧
    connectLlcp (.error .decodeError) none = some ⟨.raised .decodeError, false⟩ := by
  decide

/-- one turn of the run loop with total decoders and a total dispatch/collect: the loop goes on or
ends with `terminate()` and a normal return -/
theorem flow_contains {α : Type} (x : Py α) (d : α → Py Unit)
    (hx : ∀ e, x = .error e → PeerExc e) (hd : ∀ a, ∃ u, d a = .ok u) :
    runLoop x d = none ∨ runLoop x d = some ⟨.returned, true⟩ := by
  match x, hx with
  | .error e, hx => exact Or.inr (runLoop_peer e (hx e rfl) d)
  | .ok a, _ =>
    obtain ⟨u, hu⟩ := hd a
    left
    unfold runLoop runTurn llcExchange
    simp only [Py.bind_ok, hu]

example : runLoop (.ok 5 : Py Nat) (fun _ => .ok ()) = none := rfl

/-- `connect(llcp=..)`: with an activation that does not raise (`pax_total`, `dep_decode_total`) and a
contained run loop, `connect()` does not raise -/
theorem connect_returns_normally (act : Py Bool) (run : Option Flow)
    (ha : ∀ e, act ≠ .error e) (hr : run = none ∨ run = some ⟨.returned, true⟩) :
    connectLlcp act run = none ∨ connectLlcp act run = some ⟨.returned, false⟩ ∨
      connectLlcp act run = some ⟨.returned, true⟩ := by
  match act, ha with
  | .error e, ha => exact absurd rfl (ha e)
  | .ok false, _ => exact Or.inr (Or.inl rfl)
  | .ok true, _ =>
    rcases hr with hr | hr <;> subst hr
    · exact Or.inl rfl
    · exact Or.inr (Or.inr rfl)

example : connectLlcp (.ok false) none = some ⟨.returned, false⟩ := rfl

/-- `connect(card=..)`: a `process_command` that returns (`t3emu_total`) and any
`CommunicationError` from the exchange keep the loop going or end `connect()` normally -/
theorem card_loop_contains {α : Type} (a : α) (e : Exc) (h : Peer.isComm e = true) :
    cardTurn (.ok a : Py α) (.error e) = none ∨ cardTurn (.ok a : Py α) (.error e) = some .returned := by
  cases e <;> simp_all [cardTurn, Peer.isComm]

/-- F23 at the level of `connect()`: an `IndexError` of `process_command` leaves `connect()` -/
theorem card_loop_counterexample : cardTurn (.error .index : Py Unit) (.ok ()) = some (.raised .index) := rfl

end NfcVerif.C07
