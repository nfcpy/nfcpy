import NfcVerif.Props.ExcFlow
/-!
# Exception flow, instance theorems: C04 / C07: NFC-DEP (`nfc/dep.py`)

Re-checked on the regenerated `Gen/ExcFlow.lean` (see `Props/ExcFlow.lean` for what `Only` / `Can` mean).

Layer boundary (assumption table): `ContactlessFrontend.exchange` raises `CommunicationError` subclasses;
`sense()` / `listen()` raise `CommunicationError` subclasses or `UnsupportedTargetError`.  Everything of
`nfc/dep.py` between that boundary and `Initiator/Target.activate/exchange/deactivate` is translated: the retry
machinery (`send_dep_req_recv_dep_res`, `request_attention`, `request_retransmission`,
`send_dep_res_recv_dep_req`, `send_res_recv_req`), `encode_frame` / `decode_frame` of both roles and
`decode` / `encode` of the ATR/PSL/DEP/DSL/RLS protocol data units.  The `*_io` theorems repeat the statements
with a host link that can fail (`IOError` at the three boundary sites): it passes through unchanged.
-/
namespace NfcVerif.ExcFlowProps
open NfcVerif.ExcFlow NfcVerif.Gen.ClassTree NfcVerif.Gen.ExcFlow

/-- the `Only` statements of this module -/
def depOnly : List (Site × List Cls) := [
  (Site.fn_dep_Initiator_exchange, [Cls.clf_CommunicationError]),
  (Site.fn_dep_Target_exchange, [Cls.clf_CommunicationError, Cls.ValueError, Cls.AssertionError]),
  (Site.fn_dep_Initiator_activate, [Cls.clf_CommunicationError, Cls.clf_UnsupportedTargetError, Cls.AssertionError]),
  (Site.fn_dep_Target_activate, [Cls.clf_CommunicationError, Cls.clf_UnsupportedTargetError]),
  (Site.fn_dep_Initiator_deactivate, []),
  (Site.fn_dep_Target_deactivate, []),
  (Site.fn_dep_Initiator_send_dep_req_recv_dep_res, [Cls.clf_CommunicationError]),
  (Site.fn_dep_Initiator_send_req_recv_res, [Cls.clf_CommunicationError]),
  (Site.fn_dep_Initiator_request_attention, [Cls.clf_TimeoutError, Cls.clf_ProtocolError]),
  (Site.fn_dep_Initiator_request_retransmission, [Cls.clf_TimeoutError, Cls.clf_ProtocolError]),
  (Site.fn_dep_Target_send_dep_res_recv_dep_req, [Cls.clf_CommunicationError]),
  (Site.fn_dep_Target_send_res_recv_req, [Cls.clf_CommunicationError]),
  (Site.fn_dep_Target_send_timeout_extension, [Cls.clf_CommunicationError]),
  (Site.fn_dep_Initiator_encode_frame, []),
  (Site.fn_dep_Target_encode_frame, []),
  (Site.fn_dep_Initiator_decode_frame, [Cls.clf_ProtocolError, Cls.clf_TransmissionError]),
  (Site.fn_dep_Target_decode_frame, [Cls.clf_ProtocolError, Cls.clf_TransmissionError]),
  (Site.fn_dep_ATR_REQ_decode, [Cls.clf_ProtocolError]),
  (Site.fn_dep_ATR_RES_decode, [Cls.clf_ProtocolError]),
  (Site.fn_dep_PSL_REQ_RES_decode, [Cls.clf_ProtocolError]),
  (Site.fn_dep_DEP_REQ_RES_decode, [Cls.clf_ProtocolError]),
  (Site.fn_dep_DSL_REQ_RES_decode, [Cls.clf_ProtocolError]),
  (Site.fn_dep_ATR_REQ_encode, []),
  (Site.fn_dep_ATR_RES_encode, []),
  (Site.fn_dep_PSL_REQ_encode, []),
  (Site.fn_dep_PSL_RES_encode, []),
  (Site.fn_dep_DEP_REQ_RES_encode, []),
  (Site.fn_dep_DSL_REQ_RES_encode, [])]

/-- the assumption table with a host link that may fail: `IOError` at the boundary sites of `nfc/dep.py` -/
def tblDepIO : List (Site × List Cls) :=
  [(Site.dep_Initiator_activate_self_clf_sense, [Cls.clf_CommunicationError, Cls.clf_UnsupportedTargetError, Cls.OSError]),
   (Site.dep_Target_activate_self_clf_listen, [Cls.clf_CommunicationError, Cls.clf_UnsupportedTargetError, Cls.OSError])]
  ++ tableIO
abbrev OnlyDepIO (f : Site) (allowed : List Cls) : Prop := EscapesOnly world tblDepIO prog f allowed
def depOnlyIO : List (Site × List Cls) := [
  (Site.fn_dep_Initiator_exchange, [Cls.clf_CommunicationError, Cls.OSError]),
  (Site.fn_dep_Target_exchange, [Cls.clf_CommunicationError, Cls.OSError, Cls.ValueError, Cls.AssertionError]),
  (Site.fn_dep_Initiator_activate, [Cls.clf_CommunicationError, Cls.OSError, Cls.clf_UnsupportedTargetError, Cls.AssertionError]),
  (Site.fn_dep_Target_activate, [Cls.clf_CommunicationError, Cls.OSError, Cls.clf_UnsupportedTargetError]),
  (Site.fn_dep_Initiator_deactivate, [Cls.OSError]),
  (Site.fn_dep_Target_deactivate, [Cls.OSError])]
theorem depOnlyIO_ok : checkOnly world tblDepIO prog depOnlyIO = true :=
  checkOnly_of_checkM tree_ordered (by decide +kernel)

/-- classes that never leave (`checkNever`) -/
def depNever : List (Site × List Cls) := [
  (Site.fn_dep_Initiator_exchange, [Cls.clf_TransmissionError]),
  (Site.fn_dep_Initiator_send_dep_req_recv_dep_res, [Cls.clf_TransmissionError])]

def depCan : List (Site × Cls) := [
  (Site.fn_dep_Initiator_exchange, Cls.clf_TimeoutError),
  (Site.fn_dep_Initiator_exchange, Cls.clf_ProtocolError),
  (Site.fn_dep_Initiator_exchange, Cls.clf_BrokenLinkError),
  (Site.fn_dep_Initiator_send_req_recv_res, Cls.clf_TransmissionError),
  (Site.fn_dep_Target_exchange, Cls.clf_TransmissionError),
  (Site.fn_dep_Target_exchange, Cls.ValueError),
  (Site.fn_dep_Target_exchange, Cls.AssertionError),
  (Site.fn_dep_Initiator_activate, Cls.clf_UnsupportedTargetError),
  (Site.fn_dep_Initiator_activate, Cls.clf_TimeoutError),
  (Site.fn_dep_Initiator_activate, Cls.AssertionError),
  (Site.fn_dep_Target_activate, Cls.clf_TimeoutError),
  (Site.fn_dep_Target_activate, Cls.clf_ProtocolError),
  (Site.fn_dep_Target_send_res_recv_req, Cls.clf_TimeoutError),
  (Site.fn_dep_Initiator_send_req_recv_res, Cls.clf_TimeoutError),
  (Site.fn_dep_Initiator_decode_frame, Cls.clf_TransmissionError),
  (Site.fn_dep_Target_decode_frame, Cls.clf_ProtocolError),
  (Site.fn_dep_PSL_REQ_RES_decode, Cls.clf_ProtocolError),
  (Site.fn_dep_DEP_REQ_RES_decode, Cls.clf_ProtocolError)]
/-- every statement of this module about the table `table`, checked with one evaluation of the summary table -/
theorem depAll_ok : checkAll world table prog depOnly depNever depCan = true :=
  checkAll_of_checkM tree_ordered (by decide +kernel)
theorem depOnly_ok : checkOnly world table prog depOnly = true := (checkAll_split depAll_ok).1
theorem depNever_ok : checkNever world table prog depNever = true := (checkAll_split depAll_ok).2.1
theorem depCan_ok : checkCan world table prog depCan = true := (checkAll_split depAll_ok).2.2

/-- C04 "the caller gets a CommunicationError": only `CommunicationError` subclasses leave `Initiator.exchange`
(no residual at all: the function contains no `assert`, and what `decode_frame` / the PDU decoders raise is
`ProtocolError` / `TransmissionError`) -/
theorem dep_initiator_exchange_escapes : Only Site.fn_dep_Initiator_exchange [Cls.clf_CommunicationError] :=
  escapesOnly_of_checkOnly tree_ordered depOnly_ok (by decide)
/-- C04 "any single corrupted frame is recovered": a `TransmissionError` (of `clf.exchange` or of `decode_frame`)
never leaves `Initiator.exchange` / `send_dep_req_recv_dep_res`: it is answered with NAK retransmission requests
and ends, when those fail too, as `ProtocolError` or `TimeoutError` -/
theorem dep_initiator_exchange_no_transmission_error :
    NeverEscapes world table prog Site.fn_dep_Initiator_exchange [Cls.clf_TransmissionError] ∧
    NeverEscapes world table prog Site.fn_dep_Initiator_send_dep_req_recv_dep_res [Cls.clf_TransmissionError] := by
  and_intros <;> exact neverEscapes_of_checkNever tree_ordered depNever_ok (by decide)
/-- non-vacuity: the retry machinery does give up (`TimeoutError`: deadline; `ProtocolError`: retries used up or
a wrong PDU; `BrokenLinkError`: passed on from `clf.exchange`), and the `TransmissionError` it absorbs is raised
underneath -/
theorem dep_initiator_exchange_can_fail : Can Site.fn_dep_Initiator_exchange Cls.clf_TimeoutError ∧
    Can Site.fn_dep_Initiator_exchange Cls.clf_ProtocolError ∧ Can Site.fn_dep_Initiator_exchange Cls.clf_BrokenLinkError ∧
    Can Site.fn_dep_Initiator_send_req_recv_res Cls.clf_TransmissionError := by
  and_intros <;> exact canEscape_of_checkCan tree_ordered depCan_ok (by decide)

/-- `Target.exchange`: `CommunicationError` subclasses, plus the two argument checks of the function itself:
`ValueError("send_data must not be empty")` and `assert send_data is None` on the first call -/
theorem dep_target_exchange_escapes : Only Site.fn_dep_Target_exchange
    [Cls.clf_CommunicationError, Cls.ValueError, Cls.AssertionError] :=
  escapesOnly_of_checkOnly tree_ordered depOnly_ok (by decide)
/-- the Target does not retransmit on its own: the `TransmissionError` of `decode_frame` leaves `exchange`; the
two argument checks are reachable -/
theorem dep_target_exchange_can_fail : Can Site.fn_dep_Target_exchange Cls.clf_TransmissionError ∧
    Can Site.fn_dep_Target_exchange Cls.ValueError ∧ Can Site.fn_dep_Target_exchange Cls.AssertionError := by
  and_intros <;> exact canEscape_of_checkCan tree_ordered depCan_ok (by decide)

/-- the helpers underneath -/
theorem dep_helpers_escape : ∀ f ∈ [Site.fn_dep_Initiator_send_dep_req_recv_dep_res, Site.fn_dep_Initiator_send_req_recv_res,
    Site.fn_dep_Target_send_dep_res_recv_dep_req, Site.fn_dep_Target_send_res_recv_req,
    Site.fn_dep_Target_send_timeout_extension], Only f [Cls.clf_CommunicationError] :=
  only_each depOnly_ok (by decide)
/-- the attention / retransmission requests of the Initiator end with `TimeoutError` (deadline) or `ProtocolError`
(retries used up, unexpected answer) only -/
theorem dep_recovery_escapes : ∀ f ∈ [Site.fn_dep_Initiator_request_attention, Site.fn_dep_Initiator_request_retransmission],
    Only f [Cls.clf_TimeoutError, Cls.clf_ProtocolError] :=
  only_each depOnly_ok (by decide)

/-- `Initiator.activate`: what `sense()` raises for the passive-mode searches (they are outside every handler),
plus the `assert`s on the `did` / `nad` options.  The `CommunicationError` of the ATR_REQ / PSL_REQ exchange and of
the active-mode search is absorbed (`None` is returned). -/
theorem dep_initiator_activate_escapes : Only Site.fn_dep_Initiator_activate
    [Cls.clf_CommunicationError, Cls.clf_UnsupportedTargetError, Cls.AssertionError] :=
  escapesOnly_of_checkOnly tree_ordered depOnly_ok (by decide)
/-- `Target.activate`: what `listen()` raises, and the `ProtocolError` of `ATR_REQ.decode` (the ATR_REQ captured by
the driver is decoded outside every handler) -/
theorem dep_target_activate_escapes : Only Site.fn_dep_Target_activate
    [Cls.clf_CommunicationError, Cls.clf_UnsupportedTargetError] :=
  escapesOnly_of_checkOnly tree_ordered depOnly_ok (by decide)
theorem dep_activate_can_fail : Can Site.fn_dep_Initiator_activate Cls.clf_UnsupportedTargetError ∧
    Can Site.fn_dep_Initiator_activate Cls.clf_TimeoutError ∧ Can Site.fn_dep_Initiator_activate Cls.AssertionError ∧
    Can Site.fn_dep_Target_activate Cls.clf_TimeoutError ∧ Can Site.fn_dep_Target_activate Cls.clf_ProtocolError := by
  and_intros <;> exact canEscape_of_checkCan tree_ordered depCan_ok (by decide)

/-- `deactivate` of both roles: nothing escapes (the `CommunicationError` of the release / deselect exchange is
absorbed) -/
theorem dep_deactivate_escapes : Only Site.fn_dep_Initiator_deactivate [] ∧ Only Site.fn_dep_Target_deactivate [] := by
  and_intros <;> exact escapesOnly_of_checkOnly tree_ordered depOnly_ok (by decide)
/-- non-vacuity: the exchanges inside `deactivate` do fail -/
theorem dep_deactivate_inner_raises : Can Site.fn_dep_Target_send_res_recv_req Cls.clf_TimeoutError ∧
    Can Site.fn_dep_Initiator_send_req_recv_res Cls.clf_TimeoutError := by
  and_intros <;> exact canEscape_of_checkCan tree_ordered depCan_ok (by decide)

/-! ### frames and protocol data units (C07: "NFC-DEP frames (ATR/PSL/DEP/DSL/RLS) ... documented exception types") -/

/-- `decode_frame` of both roles: `ProtocolError` or `TransmissionError`; `encode_frame`: nothing -/
theorem dep_frame_codec_escapes : (∀ f ∈ [Site.fn_dep_Initiator_decode_frame, Site.fn_dep_Target_decode_frame],
      Only f [Cls.clf_ProtocolError, Cls.clf_TransmissionError]) ∧
    (∀ f ∈ [Site.fn_dep_Initiator_encode_frame, Site.fn_dep_Target_encode_frame], Only f []) :=
  ⟨only_each depOnly_ok (by decide), only_each depOnly_ok (by decide)⟩
/-- the PDU decoders raise `ProtocolError` only - the `TypeError` of `cls(*data[2:])` (PSL) and the `IndexError` of
`data.pop(0)` (DEP) are caught and replaced; the encoders raise nothing -/
theorem dep_pdu_codec_escapes : (∀ f ∈ [Site.fn_dep_ATR_REQ_decode, Site.fn_dep_ATR_RES_decode, Site.fn_dep_PSL_REQ_RES_decode,
      Site.fn_dep_DEP_REQ_RES_decode, Site.fn_dep_DSL_REQ_RES_decode], Only f [Cls.clf_ProtocolError]) ∧
    (∀ f ∈ [Site.fn_dep_ATR_REQ_encode, Site.fn_dep_ATR_RES_encode, Site.fn_dep_PSL_REQ_encode, Site.fn_dep_PSL_RES_encode,
      Site.fn_dep_DEP_REQ_RES_encode, Site.fn_dep_DSL_REQ_RES_encode], Only f []) :=
  ⟨only_each depOnly_ok (by decide), only_each depOnly_ok (by decide)⟩
theorem dep_codec_can_fail : Can Site.fn_dep_Initiator_decode_frame Cls.clf_TransmissionError ∧
    Can Site.fn_dep_Target_decode_frame Cls.clf_ProtocolError ∧ Can Site.fn_dep_PSL_REQ_RES_decode Cls.clf_ProtocolError ∧
    Can Site.fn_dep_DEP_REQ_RES_decode Cls.clf_ProtocolError := by
  and_intros <;> exact canEscape_of_checkCan tree_ordered depCan_ok (by decide)

/-- `IOError` of `clf.exchange` / `sense()` / `listen()` passes through `exchange` / `activate` / `deactivate`
unchanged (no handler of `nfc/dep.py` names `IOError` or a base class of it) and nothing else appears -/
theorem dep_exchange_escapes_io : OnlyDepIO Site.fn_dep_Initiator_exchange [Cls.clf_CommunicationError, Cls.OSError] ∧
    OnlyDepIO Site.fn_dep_Target_exchange [Cls.clf_CommunicationError, Cls.OSError, Cls.ValueError, Cls.AssertionError] := by
  and_intros <;> exact escapesOnly_of_checkOnly tree_ordered depOnlyIO_ok (by decide)
theorem dep_activate_escapes_io : OnlyDepIO Site.fn_dep_Initiator_activate
      [Cls.clf_CommunicationError, Cls.OSError, Cls.clf_UnsupportedTargetError, Cls.AssertionError] ∧
    OnlyDepIO Site.fn_dep_Target_activate [Cls.clf_CommunicationError, Cls.OSError, Cls.clf_UnsupportedTargetError] ∧
    OnlyDepIO Site.fn_dep_Initiator_deactivate [Cls.OSError] ∧ OnlyDepIO Site.fn_dep_Target_deactivate [Cls.OSError] := by
  and_intros <;> exact escapesOnly_of_checkOnly tree_ordered depOnlyIO_ok (by decide)

end NfcVerif.ExcFlowProps
