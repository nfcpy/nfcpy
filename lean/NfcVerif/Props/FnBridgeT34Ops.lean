import NfcVerif.Gen.FnT34Ops
import NfcVerif.Model.FnT34OpsRef
import NfcVerif.Lemmas.FnBridgeT34Ops
import NfcVerif.Props.FnBridgeT4
/-!
# Bridge theorems, group T34Ops (`nfc/tag/tt3.py`, `nfc/tag/tt4.py` -> `Gen/FnT34Ops.lean` -> `Model/FnT34OpsRef.lean`,
`Model/IsoDep.lean`; C01, C02, C03, C07, C08, C12, C16)

Every `<name>_bridge` holds for all inputs (tag commands are arbitrary functions).  The `gen_*` corollaries restate the
property-relevant facts of `Lemmas/FnBridgeT34Ops.lean` for the regenerated definitions.
-/
namespace NfcVerif.FnBridge.T34Ops
open NfcVerif NfcVerif.PyFn NfcVerif.T34OpsRef NfcVerif.FnBridge.Pdu

/-! ## Type 3 Tag reader -/

theorem t3_polling_bad_len_bridge (rc : Int) (data : Bytes) :
    Gen.Fn.ops_t3_polling_bad_len rc data = pollingRefused rc data.length := by
  unfold Gen.Fn.ops_t3_polling_bad_len pollingRefused pollingLen
  py_nat

/-- request code 0: an accepted response has 16 data octets, `polling` returns the pair (IDm, PMm) -/
theorem gen_polling_pair (data : Bytes) (h : Gen.Fn.ops_t3_polling_bad_len 0 data = false) : data.length = 16 :=
  pollingRefused_rc0 (by rw [← t3_polling_bad_len_bridge]; exact h)

example : Gen.Fn.ops_t3_polling_bad_len 0 (List.replicate 18 0) = true := by decide
example : Gen.Fn.ops_t3_polling_bad_len 1 (List.replicate 18 0) = false := by decide

theorem t3_read_bridge (xchg : Int → Bytes → Int → Py Bytes) (bl : List Int) (data : Bytes) (timeout : Int) :
    Gen.Fn.ops_t3_read bl data timeout xchg = readCmd xchg bl.length data timeout := by
  unfold Gen.Fn.ops_t3_read readCmd DATA_SIZE_ERROR
  py_nat
  generalize xchg _ data timeout = x
  cases x with
  | error e => rfl
  | ok r => exact ite_congr_iff (by omega) (fun _ => rfl) fun _ => rfl

/-- an accepted Read Without Encryption response carries exactly the requested number of blocks -/
theorem gen_read_blocks {xchg : Int → Bytes → Int → Py Bytes} {bl : List Int} {data r : Bytes} {timeout : Int}
    (h : Gen.Fn.ops_t3_read bl data timeout xchg = .ok r) : r.length = 16 * bl.length :=
  readCmd_blocks (by rw [← t3_read_bridge]; exact h)

theorem gen_read_empty_answer {xchg : Int → Bytes → Int → Py Bytes} {bl : List Int} {data : Bytes} {timeout : Int}
    (h : xchg 6 data timeout = .ok []) : Gen.Fn.ops_t3_read bl data timeout xchg = .error (.tagCmd 4) := by
  rw [t3_read_bridge]; exact readCmd_empty h

example : Gen.Fn.ops_t3_read [1, 2] [9] 0 (fun _ _ _ => .ok (7 :: List.replicate 32 5)) = .ok (List.replicate 32 5) := by decide
example : Gen.Fn.ops_t3_read [1, 2] [9] 0 (fun _ _ _ => .ok [0]) = .error (.tagCmd 4) := by decide

theorem t3_write_bridge (xchg : Int → Bytes → Int → Py Bytes) (data : Bytes) (timeout : Int) :
    Gen.Fn.ops_t3_write data timeout xchg = writeCmd xchg data timeout := by
  unfold Gen.Fn.ops_t3_write writeCmd
  cases xchg 8 data timeout <;> rfl

example : Gen.Fn.ops_t3_write [1] 0 (fun c _ _ => if c = 8 then .ok [] else .error .timeout) = .ok none := by decide

theorem t3_attr_unverified_bridge (d : Option Bytes) : Gen.Fn.ops_t3_attr_unverified d = d := by
  cases d <;> rfl

/-- both data exits of `_read_attribute_data` leave DATA_SIZE_ERROR (what `T3.writeNdef` reports as `.tagCmd 4`) -/
theorem t3_attr_errno_bridge :
    Gen.Fn.ops_t3_attr_errno_unverified = DATA_SIZE_ERROR ∧ Gen.Fn.ops_t3_attr_errno_checksum = DATA_SIZE_ERROR := ⟨rfl, rfl⟩

theorem t3_write_plan_bridge (d : Bytes) :
    Gen.Fn.ops_t3_write_plan d = .ok ((((writePlan d).1 : Nat) : Int), (writePlan d).2) := by
  unfold Gen.Fn.ops_t3_write_plan writePlan padded
  have hc := blocksFor_ceil d.length
  have hz : (-(PyFn.len d)) % 16 = ((16 * blocksFor d.length - d.length : Nat) : Int) := by
    unfold blocksFor at *; simp only [len_eq]; omega
  have h1 : (1 + ((PyFn.len d) + 15) / 16 : Int) = ((1 + blocksFor d.length : Nat) : Int) := by
    unfold blocksFor; simp only [len_eq]; omega
  rw [hz, h1]
  have : ¬ (((16 * blocksFor d.length - d.length : Nat) : Int) < 0) := by omega
  simp only [PyFn.zeros, this, if_false, Py.bind_ok, Int.toNat_natCast]

/-- the number of data blocks written is ceil(len/16) <= Nmaxb; the padded data fill them exactly -/
theorem gen_write_plan_blocks {d pd : Bytes} {last : Int} {nmaxb : Nat} (hcap : d.length ≤ 16 * nmaxb)
    (h : Gen.Fn.ops_t3_write_plan d = .ok (last, pd)) :
    last ≤ nmaxb + 1 ∧ (pd.length : Int) = 16 * (last - 1) ∧ pd.take d.length = d := by
  rw [t3_write_plan_bridge] at h
  simp only [Except.ok.injEq, Prod.mk.injEq] at h
  obtain ⟨h1, h2⟩ := h
  have hl := writePlan_last hcap
  subst h1 h2
  refine ⟨by omega, ?_, padded_prefix d⟩
  simp only [writePlan, padded_length]; omega

/-- a message of whole blocks is written without an extra block (seed C03-r5m3) -/
theorem gen_write_plan_exact {d : Bytes} (h : d.length % 16 = 0) :
    Gen.Fn.ops_t3_write_plan d = .ok (((1 + d.length / 16 : Nat) : Int), d) := by
  rw [t3_write_plan_bridge]
  simp only [writePlan, padded_exact h]
  have : blocksFor d.length = d.length / 16 := by unfold blocksFor; omega
  rw [this]

example : Gen.Fn.ops_t3_write_plan (List.replicate 16 7) = .ok (2, List.replicate 16 7) := by decide
example : Gen.Fn.ops_t3_write_plan [1, 2] = .ok (2, [1, 2] ++ List.replicate 14 0) := by decide

theorem rangeStep_starts (last step : Nat) : PyFn.rangeStep 1 (last : Int) (step : Int) = startsPy last step := by
  unfold startsPy starts
  by_cases h0 : step = 0
  · subst h0; rfl
  · have hs : 0 < step := by omega
    -- `range(1, last, step)` has `ceil((last - 1) / step)` members; without data blocks (`last = 0`) both counts are 0
    have e : (last - 1 + step - 1) / step = (last + step - 2) / step := by
      by_cases hl : last = 0
      · subst hl; rw [(Nat.div_eq_zero_iff_lt hs).mpr (by omega), (Nat.div_eq_zero_iff_lt hs).mpr (by omega)]
      · congr 1; omega
    rw [if_neg h0, show (1 : Int) = ((1 : Nat) : Int) from rfl, rangeStep_nat 1 last step hs, List.map_map, e]
    rfl

theorem t3_write_starts_bridge (last nbw : Nat) : Gen.Fn.ops_t3_write_starts last nbw = startsPy last nbw :=
  rangeStep_starts last nbw
theorem t3_read_starts_bridge (last nbr : Nat) : Gen.Fn.ops_t3_read_starts last nbr = startsPy last nbr :=
  rangeStep_starts last nbr

/-- no data block in front of `last` is skipped by the write loop -/
theorem gen_write_starts_cover {last nbw b : Nat} {l : List Int} (h : Gen.Fn.ops_t3_write_starts last nbw = .ok l)
    (h1 : 1 ≤ b) (h2 : b < last) : ∃ s : Nat, (s : Int) ∈ l ∧ s ≤ b ∧ b < s + nbw := by
  rw [t3_write_starts_bridge] at h
  unfold startsPy at h
  by_cases h0 : nbw = 0
  · simp [h0] at h
  · simp only [h0, if_false, Except.ok.injEq] at h
    obtain ⟨s, hs, h3, h4⟩ := starts_cover (step := nbw) (by omega) h1 h2
    exact ⟨s, by rw [← h]; exact List.mem_map.mpr ⟨s, hs, rfl⟩, h3, h4⟩

example : Gen.Fn.ops_t3_write_starts 6 2 = .ok [1, 3, 5] := by decide
example : Gen.Fn.ops_t3_read_starts 6 0 = .error .value := by decide

/-! ## Type 3 Tag emulation -/

theorem t3e_rd_too_many_bridge (l : List Int) : Gen.Fn.ops_t3e_rd_too_many l = emuRefuses l.length := by
  unfold Gen.Fn.ops_t3e_rd_too_many emuRefuses
  py_nat

/-- a command of the reader's batch size min(Nbr, 15) is never refused for its block count (seed C01-r5m3) -/
theorem gen_reader_batch_served (l : List Int) (nbr : Nat) (h : l.length = min nbr 15) :
    Gen.Fn.ops_t3e_rd_too_many l = false := by
  rw [t3e_rd_too_many_bridge, h]; exact reader_batch_not_refused nbr

theorem flag_eq (i : Nat) : PyFn.shl 1 ((i : Int) % 8) = ((statusFlag i : Nat) : Int) := by
  have e1 : (1 : Int) = ((1 : Nat) : Int) := rfl
  have e2 : (i : Int) % 8 = ((i % 8 : Nat) : Int) := by omega
  rw [e1, e2, shl_ofNat, Nat.shiftLeft_eq, Nat.one_mul]; rfl

theorem t3e_flags_bridge (i : Nat) :
    Gen.Fn.ops_t3e_rd_flag_a3 i = ((statusFlag i : Nat) : Int) ∧ Gen.Fn.ops_t3e_rd_flag_a2 i = ((statusFlag i : Nat) : Int) ∧
    Gen.Fn.ops_t3e_wr_flag_a3 i = ((statusFlag i : Nat) : Int) ∧ Gen.Fn.ops_t3e_wr_flag_a2 i = ((statusFlag i : Nat) : Int) :=
  ⟨flag_eq i, flag_eq i, flag_eq i, flag_eq i⟩

/-- the status octets of every error answer are a byte string: no ValueError (seed C07-r5m2) -/
theorem gen_status_is_bytes (i : Nat) (s2 : Nat) (h2 : s2 < 256) :
    PyFn.mkBytes [Gen.Fn.ops_t3e_rd_flag_a3 i, (s2 : Int)] = .ok [statusFlag i, s2] ∧
    PyFn.mkBytes [Gen.Fn.ops_t3e_wr_flag_a2 i, (s2 : Int)] = .ok [statusFlag i, s2] := by
  have hb := statusFlag_byte i
  rw [(t3e_flags_bridge i).1, (t3e_flags_bridge i).2.2.2]
  exact ⟨mkBytes_two _ _ hb.2 h2, mkBytes_two _ _ hb.2 h2⟩

example : Gen.Fn.ops_t3e_rd_flag_a2 14 = 64 := by decide

/-! ## Type 4 Tag -/

/-- the glue of `send_apdu`: the command of `t4_apdu_build` (group T4), ONE `transceive`, then `t4_apdu_status` -/
theorem t4_send_apdu_glue (cla ins p1 p2 : Int) (data : Bytes) (mrl : Int) (cs ext : Bool) (trx : Bytes → Py Bytes) :
    Gen.Fn.ops_t4_send_apdu cla ins p1 p2 data mrl cs ext trx
      = (Gen.Fn.t4_apdu_build cla ins p1 p2 data mrl ext >>= fun a => trx a >>= fun r => Gen.Fn.t4_apdu_status r cs) := by
  unfold Gen.Fn.ops_t4_send_apdu Gen.Fn.t4_apdu_build Gen.Fn.t4_apdu_status
  py_nat

theorem t4_send_apdu_bridge (trx : Bytes → Py Bytes) (ext : Bool) (cla ins p1 p2 : Nat) (data : Bytes) (mrl : Nat) (cs : Bool) :
    Gen.Fn.ops_t4_send_apdu cla ins p1 p2 data mrl cs ext trx = sendApduVia trx ext cla ins p1 p2 data mrl cs := by
  rw [t4_send_apdu_glue, T4.apdu_build_bridge]
  unfold sendApduVia
  cases IsoDep.encodeApdu ext cla ins p1 p2 data mrl with
  | error e => rfl
  | ok cmd =>
    simp only [Py.bind_ok]
    cases trx cmd with
    | error e => rfl
    | ok rsp => simp only [Py.bind_ok]; exact T4.apdu_status_bridge rsp cs

example : Gen.Fn.ops_t4_send_apdu 0 0xB0 0 0 [] 2 true false (fun c => .ok (c ++ [0x90, 0])) = .ok [0, 0xB0, 0, 0, 2] := by decide

theorem read_tail (x : Py Bytes) (X : Int) :
    (x >>= fun t3 => if PyFn.len t3 > PyFn.imax X 0 then Except.error (Exc.tagCmd (-2)) else Except.ok t3)
      = (match x with
         | .error e => .error e
         | .ok d => if (d.length : Int) > max X 0 then .error (.tagCmd (-2)) else .ok d) := by
  cases x with
  | error e => rfl
  | ok d => rw [Py.bind_ok, len_eq, imax_eq_max]

theorem t4_read_binary_bridge (apdu : Int → Int → Int → Int → Int → Py Bytes) (maxLe : Int) (off : Nat) (size : Int) :
    Gen.Fn.ops_t4_read_binary off size maxLe apdu = readBinaryVia apdu maxLe off size := by
  unfold Gen.Fn.ops_t4_read_binary readBinaryVia
  simp only [T4.p1p2]
  by_cases h : off > 65535
  · simp [h]
  · simp only [h, if_false, PyFn.imin, IsoDep.PROTOCOL_ERROR]
    exact read_tail _ _

theorem t4_update_binary_bridge (apdu : Int → Int → Int → Int → Bytes → Py Bytes) (maxLc off : Nat) (data : Bytes) :
    Gen.Fn.ops_t4_update_binary off data maxLc apdu = updateBinaryVia apdu maxLc off data := by
  unfold Gen.Fn.ops_t4_update_binary updateBinaryVia
  simp only [T4.p1p2]
  by_cases h : off > 65535
  · simp [h]
  · have hm : PyFn.imin (maxLc : Int) (data.length : Int) = ((min maxLc data.length : Nat) : Int) := T4.imin_nat _ _
    simp only [h, if_false, len_eq, hm, sliceTo_ofNat]
    cases apdu 0 214 ((off / 256 : Nat) : Int) ((off % 256 : Nat) : Int) (List.take (min maxLc data.length) data) <;> rfl

/-- the chunk of one UPDATE BINARY is at most MLc octets and the method returns its length -/
theorem gen_update_binary_le {apdu : Int → Int → Int → Int → Bytes → Py Bytes} {maxLc off : Nat} {data : Bytes} {n : Int}
    (h : Gen.Fn.ops_t4_update_binary off data maxLc apdu = .ok n) : 0 ≤ n ∧ n ≤ maxLc ∧ n ≤ data.length :=
  updateBinaryVia_le (by rw [← t4_update_binary_bridge]; exact h)

theorem gen_read_binary_le {apdu : Int → Int → Int → Int → Int → Py Bytes} {maxLe : Int} {off : Nat} {size : Int} {d : Bytes}
    (h : Gen.Fn.ops_t4_read_binary off size maxLe apdu = .ok d) : (d.length : Int) ≤ max size 0 ∧ (d.length : Int) ≤ max maxLe 0 :=
  readBinaryVia_le (by rw [← t4_read_binary_bridge]; exact h)

example : Gen.Fn.ops_t4_update_binary 258 [1, 2, 3] 2 (fun _ ins p1 p2 d => if ins = 0xD6 ∧ p1 = 1 ∧ p2 = 2 ∧ d = [1, 2] then .ok [] else .error .value) = .ok 2 := by decide
example : Gen.Fn.ops_t4_read_binary 0 2 15 (fun _ _ _ _ le => .ok (List.replicate (le.toNat + 1) 0)) = .error (.tagCmd (-2)) := by decide

theorem t4_single_update_bridge (nlen data : Bytes) (maxLc : Nat) :
    Gen.Fn.ops_t4_single_update nlen data maxLc = singleUpdate nlen.length data.length maxLc := by
  unfold Gen.Fn.ops_t4_single_update singleUpdate
  py_nat

/-- a single UPDATE BINARY is chosen only when NLEN and data fit MLc (seed C02-r5m1) -/
theorem gen_single_update_fits {nlen data : Bytes} {maxLc : Nat} (h : Gen.Fn.ops_t4_single_update nlen data maxLc = true) :
    nlen.length + data.length ≤ maxLc := by
  rw [t4_single_update_bridge] at h; simpa [singleUpdate] using h

example : Gen.Fn.ops_t4_single_update [0, 14] (List.replicate 14 1) 15 = false := by decide

theorem t4_capacity_bridge (mfs tag : Int) :
    Gen.Fn.ops_t4_capacity mfs tag = capacity mfs tag ∧ Gen.Fn.ops_t4_nlen_size tag = nlenSize tag := by
  unfold Gen.Fn.ops_t4_capacity Gen.Fn.ops_t4_nlen_size capacity nlenSize PyFn.imin
  refine ⟨?_, rfl⟩
  split <;> split <;> omega

/-- capacity + NLEN size <= min(file size, 65536) (seed C01-r5m2) -/
theorem gen_capacity_sound (mfs tag : Int) :
    Gen.Fn.ops_t4_capacity mfs tag + Gen.Fn.ops_t4_nlen_size tag ≤ mfs ∧
    Gen.Fn.ops_t4_capacity mfs tag + Gen.Fn.ops_t4_nlen_size tag ≤ 65536 := by
  rw [(t4_capacity_bridge mfs tag).1, (t4_capacity_bridge mfs tag).2]; exact capacity_sound mfs tag

example : Gen.Fn.ops_t4_capacity 131072 6 = 65532 := by decide

theorem t4a_rats_cmd_bridge (m : Int) : Gen.Fn.ops_t4a_rats_cmd m = ratsCmd m := by
  unfold Gen.Fn.ops_t4a_rats_cmd ratsCmd
  split <;> rfl

theorem t4a_has_t0_bridge (ats : Bytes) : Gen.Fn.ops_t4a_has_t0 ats = hasT0 ats.length := by
  unfold Gen.Fn.ops_t4a_has_t0 hasT0
  py_nat
  rfl

/-- an ATS of TL and T0 only is evaluated (seed C12-r5m2) -/
theorem gen_ats_t0_only (tl t0 : Nat) : Gen.Fn.ops_t4a_has_t0 [tl, t0] = true := by
  rw [t4a_has_t0_bridge]; rfl

theorem t4b_attrib_cmd_bridge (m : Int) (nfcid : Bytes) : Gen.Fn.ops_t4b_attrib_cmd m nfcid = attribCmd m nfcid := by
  unfold Gen.Fn.ops_t4b_attrib_cmd attribCmd
  split <;> rfl

theorem t4b_nfcid_bridge (s : Bytes) : Gen.Fn.ops_t4b_nfcid s = nfcid0 s := by
  unfold Gen.Fn.ops_t4b_nfcid nfcid0
  py_nat
  rfl

example : Gen.Fn.ops_t4b_attrib_cmd 64 [1, 2, 3, 4] = [0x1D, 1, 2, 3, 4, 0, 7, 1, 0] := by decide

theorem iso_latched_bridge (c : Option Bytes) (e : Option Int) : Gen.Fn.ops_iso_latched c e = latched c e := by
  cases c <;> cases e <;> rfl

/-- the latch also holds after TIMEOUT_ERROR = 0 (seed C12-r5m1) -/
theorem gen_latched_timeout (c : Bytes) : Gen.Fn.ops_iso_latched (some c) (some 0) = true := by
  rw [iso_latched_bridge]; rfl

theorem iso_inf_bridge (c : Bytes) (o m : Nat) :
    Gen.Fn.ops_iso_first_inf c o m = infField c o m ∧ Gen.Fn.ops_iso_resend_inf c o m = infField c o m := by
  unfold Gen.Fn.ops_iso_first_inf Gen.Fn.ops_iso_resend_inf infField
  rw [slice_add_cast]
  exact ⟨rfl, rfl⟩

/-- the retransmitted I-block carries the INF field of the block as first sent, at every offset (seed C12-r5m3) -/
theorem gen_resend_same_inf (c : Bytes) (o m : Int) : Gen.Fn.ops_iso_resend_inf c o m = Gen.Fn.ops_iso_first_inf c o m := rfl

example : Gen.Fn.ops_iso_resend_inf [1, 2, 3, 4, 5] 2 2 = [3, 4] := by decide

/-! ## `_write_ndef_data` as a whole: the two UPDATE BINARY loops over an arbitrary `_update_binary` -/

theorem whileM_updLoop (upd : Int → Bytes → Py Int) (buf : Bytes) : ∀ (fuel : Nat) (off : Int),
    PyFn.whileM fuel off (fun (o : Int) => Except.ok (decide (o < PyFn.len buf)))
      (fun (o : Int) => upd o (PyFn.sliceFrom buf o) >>= fun t => Except.ok (o + t)) = updLoop upd buf fuel off := by
  intro fuel
  induction fuel with
  | zero => intro off; rfl
  | succ n ih =>
    intro off
    unfold PyFn.whileM updLoop
    by_cases h : off < (buf.length : Int)
    · have hd : decide (off < PyFn.len buf) = true := by simp [len_eq, h]
      simp only [hd, h, if_true]
      unfold PyFn.sliceFrom
      cases upd off (List.drop (clampBound buf.length off) buf) with
      | error e => rfl
      | ok t => simp only [Py.bind_ok]; exact ih (off + t)
    · have hd : decide (off < PyFn.len buf) = false := by simp [len_eq, h]
      simp only [hd, h, if_false]

theorem t4_write_ndef_bridge (upd : Int → Bytes → Py Int) (fuel : Nat) (data : Bytes) (nlen_size : Int) (maxLc : Nat) :
    Gen.Fn.ops_t4_write_ndef fuel data nlen_size maxLc upd
      = ((if nlen_size = 4 then PyFn.pack [.Ibe] [PyFn.len data] else PyFn.pack [.Hbe] [PyFn.len data]) >>= fun nlen =>
          writeNdefVia upd fuel nlen data maxLc) := by
  unfold Gen.Fn.ops_t4_write_ndef
  simp only [whileM_updLoop]
  generalize (if nlen_size = 4 then PyFn.pack [.Ibe] [PyFn.len data] else PyFn.pack [.Hbe] [PyFn.len data]) = pk
  cases pk with
  | error e => rfl
  | ok nlen =>
    simp only [Py.bind_ok]
    unfold writeNdefVia firstBuf singleUpdate
    have hz : PyFn.zeros (PyFn.len nlen) = .ok (List.replicate nlen.length 0) := zeros_nat _
    by_cases hs : nlen.length + data.length ≤ maxLc
    · have hi : (PyFn.len nlen + PyFn.len data ≤ (maxLc : Int)) := by simp only [len_eq]; omega
      simp only [hi, hs, if_true, Py.bind_ok, decide_true, true_or]
      cases updLoop upd (nlen ++ data) fuel 0 <;> rfl
    · have hi : ¬ (PyFn.len nlen + PyFn.len data ≤ (maxLc : Int)) := by simp only [len_eq]; omega
      simp only [hi, hs, if_false, hz, Py.bind_ok, decide_false, false_or, Bool.false_eq_true]
      cases updLoop upd (List.replicate nlen.length 0 ++ data) fuel 0 with
      | error e => rfl
      | ok o =>
        simp only [Py.bind_ok]
        by_cases hn : nlen = []
        · simp [hn]
        · simp only [hn, ne_eq, not_false_eq_true, if_true, if_false]
          cases updLoop upd nlen fuel 0 <;> rfl

/-- with `_update_binary` = the regenerated method over any `send_apdu`: when NLEN and message do not fit MLc the first
loop writes a zero length field (the final NLEN is only written by the second loop, after the message) -/
theorem gen_write_ndef_first_zero {nlen data : Bytes} {maxLc : Nat} (h : ¬ nlen.length + data.length ≤ maxLc) :
    (firstBuf nlen data maxLc).take nlen.length = List.replicate nlen.length 0 := firstBuf_zero h

example : Gen.Fn.ops_t4_write_ndef 10 [7, 8, 9] 2 4 (fun _ d => .ok (min 4 d.length)) = .ok true := by decide

end NfcVerif.FnBridge.T34Ops
