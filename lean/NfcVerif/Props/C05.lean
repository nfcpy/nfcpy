import NfcVerif.Lemmas.DlcProgress
/-!
# C05 - LLCP connections deliver in order, exactly once, within the window

The theorems are read off the invariant `Dir` of one direction of data flow, which every atomic step
preserves (`Lemmas/Dlc.lean`); `Lemmas/DlcLlc.lean` and `Lemmas/DlcProgress.lean` hold the composition of steps
into `collect()` / `dispatch()` and the progress argument.

Model: `Model/Dlc.lean` - two endpoints with the state of `DataLinkConnection`
(`tco.py`), two FIFO wires, one step per critical section of the source; `run s ops`
executes any finite sequence `ops : List (Side × Op)` of steps of both sides, i.e.
every interleaving of application calls (`send recv busy poll close closeFin`) with
link activity (`deq ack dlv`).  `init c` is the state after a CONNECT/CC handshake
with parameters `c`; `c.ok` says RW is in 0..15 on both sides (0: the peer can never send) and each side sends
with the window and at most the MIU the other side announced.  MIU values are
arbitrary naturals.  `Model/DlcLlc.lean` composes the steps into `collect()`
(with and without aggregation) and `dispatch()`.

The theorems quantify over all step sequences; what they cannot exhibit is a
preemption *inside* one critical section (atomicity of a step rests on the
`with self.lock` regions of `tco.py`).

That the PDUs of a connection reach exactly its two endpoints when the service
access point holds further sockets (listening socket, other connections, stale
sockets of earlier connections from the same source address) is the subject of
`Props/C05Sap.lean`.
-/
namespace NfcVerif.C05
open NfcVerif NfcVerif.Dlc

/-- In order, exactly once, nothing invented - always, also after `close`, DISC, DM:
what the application of one side has received is a prefix of what the application
of the other side had accepted by `send`; both directions. -/
theorem dlc_prefix (c : Cfg) (hc : c.ok) (ops : List (Side × Op)) :
    (run (init c) ops).b.delivered <+: (run (init c) ops).a.accepted ∧
    (run (init c) ops).a.delivered <+: (run (init c) ops).b.accepted :=
  ⟨(reach_inv c hc ops).1.prefix, (reach_inv c hc ops).2.prefix⟩

/-- Nothing is lost while both ends are established: every accepted message is either
delivered, or waits in the peer's receive queue, or is on the wire, or is still in the
send queue - in this order; both directions. (`close()` discards the part that is
not yet delivered; by `dlc_prefix` nothing else.) -/
theorem dlc_conservation (c : Cfg) (hc : c.ok) (ops : List (Side × Op))
    (ha : (run (init c) ops).a.st = .established) (hb : (run (init c) ops).b.st = .established) :
    (run (init c) ops).a.accepted =
      (run (init c) ops).b.delivered ++ rqMsgs (run (init c) ops).b.rq ++
      (iPart (run (init c) ops).wab).map Prod.snd ++ (sqI (run (init c) ops).a.sq).map Prod.snd ∧
    (run (init c) ops).b.accepted =
      (run (init c) ops).a.delivered ++ rqMsgs (run (init c) ops).a.rq ++
      (iPart (run (init c) ops).wba).map Prod.snd ++ (sqI (run (init c) ops).b.sq).map Prod.snd :=
  ⟨(reach_inv c hc ops).1.conservation ha hb, (reach_inv c hc ops).2.conservation hb ha⟩

/-- Window: `(V(S) - V(SA)) mod 16` is exactly the number of messages accepted and not yet
acknowledged, it never exceeds the receive window the peer announced, and the number of
messages accepted but not yet received by the peer *application* never exceeds it either. -/
theorem dlc_window (c : Cfg) (hc : c.ok) (ops : List (Side × Op)) :
    let s := run (init c) ops
    (((s.a.vs : Int) - s.a.vsa) % 16).toNat + s.a.gSA = s.a.accepted.length ∧
    ((s.a.vs : Int) - s.a.vsa) % 16 ≤ s.b.recvWin ∧
    s.a.accepted.length ≤ s.b.delivered.length + s.b.recvWin ∧
    (((s.b.vs : Int) - s.b.vsa) % 16).toNat + s.b.gSA = s.b.accepted.length ∧
    ((s.b.vs : Int) - s.b.vsa) % 16 ≤ s.a.recvWin ∧
    s.b.accepted.length ≤ s.a.delivered.length + s.a.recvWin := by
  intro s
  have h : Inv s := reach_inv c hc ops
  have hl : EpLen s.a ∧ EpLen s.b := reach_len c ops
  obtain ⟨a1, a2, a3⟩ := h.1.window hl.1 hl.2
  obtain ⟨b1, b2, b3⟩ := h.2.window hl.2 hl.1
  exact ⟨a1, a2, a3, b1, b2, b3⟩

/-- Sequence numbers stay consistent through the modulo-16 wrap: between two correct
endpoints no FRMR is ever generated, no I PDU is discarded for lack of queue space and
`recv()` never sees more unconfirmed messages than the window; the I PDU at the head of a
wire has `N(S) = V(R)`, fits the receiver's MIU and finds room in the receive queue. -/
theorem dlc_seq_consistent (c : Cfg) (hc : c.ok) (ops : List (Side × Op)) :
    let s := run (init c) ops
    (s.a.gFrmr = false ∧ s.a.gDiscard = false ∧ s.a.gOverrun = false) ∧
    (s.b.gFrmr = false ∧ s.b.gDiscard = false ∧ s.b.gOverrun = false) ∧
    (∀ ns nr d rest, s.wab = .i ns nr d :: rest → s.b.st = .established →
       ns = s.b.vr ∧ d.length ≤ s.b.recvMiu ∧ s.b.rq.length < s.b.recvWin) ∧
    (∀ ns nr d rest, s.wba = .i ns nr d :: rest → s.a.st = .established →
       ns = s.a.vr ∧ d.length ≤ s.a.recvMiu ∧ s.a.rq.length < s.a.recvWin) := by
  intro s
  have h : Inv s := reach_inv c hc ops
  refine ⟨h.2.flags, h.1.flags, ?_, ?_⟩
  · intro ns nr d rest hw hst
    obtain ⟨h1, h2, h3, _⟩ := h.1.enqI (wF' := rest) ns d hst (by rw [hw]; rfl)
    exact ⟨h2, h1, h3⟩
  · intro ns nr d rest hw hst
    obtain ⟨h1, h2, h3, _⟩ := h.2.enqI (wF' := rest) ns d hst (by rw [hw]; rfl)
    exact ⟨h2, h1, h3⟩

/-- `send` of a message longer than the connection MIU is refused with EMSGSIZE (errno 90)
and changes nothing - in every state of an established endpoint, on either side. -/
theorem dlc_emsgsize (s : Sys) (m : Bytes) :
    (s.a.st = .established → m.length > s.a.sendMiu → step s .A (.send m) = (s, .exc (.llcp 90))) ∧
    (s.b.st = .established → m.length > s.b.sendMiu → step s .B (.send m) = (s, .exc (.llcp 90))) := by
  constructor
  · intro hst h
    simp [step, stepA, Ep.send, hst, h]
  · intro hst h
    simp [step, stepA, Ep.send, Sys.swap, hst, h]

/-- Blocking `send()` is the non-blocking step retried after every wake-up (`send_token.wait()`
inside `while send_window_slots == 0`).  A thread that is woken while the window is still full - because
another thread took the slot first, or spuriously - does not send: the step changes nothing and reports
"would block", whatever the message.  Since `run` contains every such retry at every position, all
theorems above cover every wake-up order of any number of blocked senders; that the code re-checks the
window after each wake-up is what the schedule exploration of the harness ties to the real sockets. -/
theorem dlc_wakeup_rechecks (s : Sys) (m : Bytes) :
    (s.a.st = .established → s.a.sendSlots = 0 →
       (step s .A (.send m)).1 = s ∧
       ((step s .A (.send m)).2 = .exc (.llcp 11) ∨ (step s .A (.send m)).2 = .exc (.llcp 90))) ∧
    (s.b.st = .established → s.b.sendSlots = 0 →
       (step s .B (.send m)).1 = s ∧
       ((step s .B (.send m)).2 = .exc (.llcp 11) ∨ (step s .B (.send m)).2 = .exc (.llcp 90))) := by
  constructor
  · intro hst hw
    by_cases h : m.length > s.a.sendMiu <;> simp [step, stepA, Ep.send, hst, hw, h]
  · intro hst hw
    by_cases h : m.length > s.b.sendMiu <;> simp [step, stepA, Ep.send, Sys.swap, hst, hw, h]

/-- `close()` of an established connection always announces itself: whatever is unsent and whatever is unread,
the call waits for the DM (`pending`) with nothing but DISC in the send queue and an empty receive queue, and the
next `dequeue` (any budget >= 0) puts DISC on the wire - the peer is told.  (Repair fixes/C05/0002: before it,
unread data ended the wait at once and the DISC was dropped.) -/
theorem dlc_close_sends_disc (s : Sys) (b : Int) (hb : 0 ≤ b) (h1 : s.a.bound = true) (h2 : s.a.closing = false)
    (h3 : s.a.st = .established) :
    (step s .A .close).2 = .pending ∧ (step s .A .close).1.a.sq = [.disc] ∧ (step s .A .close).1.a.rq = [] ∧
    (step s .A .close).1.a.st = .disconnect ∧
    (step (step s .A .close).1 .A (.deq b)).2 = .pdu (some .disc) ∧
    (step (step s .A .close).1 .A (.deq b)).1.wab = s.wab ++ [.disc] := by
  have hc : s.a.close = ({ s.a with st := .disconnect, sq := [.disc], rq := [], closing := true }, .pending) := by
    unfold Ep.close
    rw [if_neg (by simp [h1, h2]), if_pos h3]
  have hd : ({ s.a with st := St.disconnect, sq := [Out.disc], rq := [], closing := true } : Ep).deq b =
      ({ s.a with st := St.disconnect, sq := [], rq := [], closing := true }, some .disc) := by
    unfold Ep.deq
    simp [Out.infoSize]
    omega
  simp [step, stepA, hc, hd]

/-- Frame boundaries do not matter: the state after `collect()` (any link MIU, aggregation on or
off) and after `dispatch()` of a frame is reached by atomic steps, hence satisfies everything above. -/
theorem dlc_collect_covered (s : Sys) (x : Side) (link : Nat) (agf : Bool) (fuel n : Nat) :
    (∃ ops, (collect s x link agf fuel).1 = run s ops) ∧
    deliverN s x n = run s (List.replicate n (x, .dlv)) :=
  ⟨collect_is_run s x link agf fuel, deliverN_is_run s x n⟩

/-- Progress (no stuck state): while both ends are established and some accepted message has
not yet been delivered - in either direction - some step other than `send` is enabled, i.e.
changes the state: `recv` at the peer, delivery of the PDU at the head of a wire, or `dequeue`
of the head of the send queue.  (Safety-style progress only: no fairness or termination claim.) -/
theorem dlc_no_stuck (c : Cfg) (hc : c.ok) (ops : List (Side × Op))
    (ha : (run (init c) ops).a.st = .established) (hb : (run (init c) ops).b.st = .established)
    (hne : (run (init c) ops).a.accepted ≠ (run (init c) ops).b.delivered ∨
           (run (init c) ops).b.accepted ≠ (run (init c) ops).a.delivered) :
    ∃ x op, (∀ m, op ≠ .send m) ∧ (step (run (init c) ops) x op).1 ≠ run (init c) ops := by
  rcases hne with hne | hne
  · exact no_stuck_ab _ (reach_inv c hc ops) ha hb hne
  · exact no_stuck_ba _ (reach_inv c hc ops) ha hb hne

/-! Non-vacuity: concrete histories. -/
def cfg23 : Cfg := ⟨128, 128, 3, 2, 128, 128, 2, 3⟩
example : cfg23.ok := by decide
/-- two messages A->B, delivered in order; the second `send` beyond the window (RW(B)=3, here the
fourth message) is refused with EWOULDBLOCK -/
example : (run (init cfg23) [(.A, .send [1]), (.A, .send [2]), (.A, .deq 128), (.A, .deq 128), (.B, .dlv), (.B, .dlv),
    (.B, .recv), (.B, .recv)]).b.delivered = [[1], [2]] := by decide
example : (step (run (init cfg23) [(.A, .send [1]), (.A, .send [2]), (.A, .send [3])]) .A (.send [4])).2
    = .exc (.llcp 11) := by decide
/-- a history with `close` on one side: the unsent message is discarded, DISC goes out, DM comes back -/
example : let s := run (init cfg23) [(.A, .send [1]), (.A, .close), (.A, .deq 128), (.B, .dlv), (.B, .deq 128), (.A, .dlv), (.A, .closeFin)]
    s.a.st = .shutdown ∧ s.b.st = .closeWait ∧ s.a.accepted = [[1]] ∧ s.b.delivered = [] := by decide
example : (step (init ⟨3, 3, 3, 2, 3, 3, 2, 3⟩) .A (.send [1, 2, 3, 4])).2 = .exc (.llcp 90) := by decide
/-- RW = 0 announced by B: A can never send, B (window 2) can -/
example : (⟨128, 128, 0, 2, 128, 128, 2, 0⟩ : Cfg).ok := by decide
example : (step (init ⟨128, 128, 0, 2, 128, 128, 2, 0⟩) .A (.send [1])).2 = .exc (.llcp 11) ∧
    (step (init ⟨128, 128, 0, 2, 128, 128, 2, 0⟩) .B (.send [1])).2 = .ok := by decide
/-- `close()` with an unread message: DISC goes out, the peer ends in CLOSE_WAIT -/
example : let s := run (init cfg23) [(.B, .send [1]), (.B, .deq 128), (.A, .dlv), (.A, .close), (.A, .deq 128), (.B, .dlv)]
    s.a.st = .disconnect ∧ s.a.closing = true ∧ s.b.st = .closeWait := by decide
/-- a woken sender with RW(B)=1 and one unacknowledged I PDU: window still full, nothing happens -/
example : let s := run (init ⟨128, 128, 1, 1, 128, 128, 1, 1⟩) [(.A, .send [1])]
    s.a.sendSlots = 0 ∧ (step s .A (.send [2])).1 = s := by decide

end NfcVerif.C05
