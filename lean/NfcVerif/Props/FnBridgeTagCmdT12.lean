import NfcVerif.Gen.FnTagCmd
import NfcVerif.Lemmas.FnBridgeTagCmd
import NfcVerif.Model.Tlv
import NfcVerif.Model.CtlC03
/-!
# Bridge theorems, group TagCmd, Type 1 and Type 2 (`nfc/tag/tt1.py`, `tt2.py`)

Commands and answer checks (C16), the commands of the C08 memory-reader models (`Adv.stageA`, `stageB`, `segLoop`, `read2`)
in regenerated functions, write units and address arithmetic, NDEF header size, capability container and TLV walk, the
lock control fields of `protect()` (C01-C03).  Header comment of the group: `Props/FnBridgeTagCmd.lean`.

Rests on: `py_nat` and `mkBytes_ok` (`Lemmas/FnBridgeBase.lean`) for the regenerated text; `single_octet`, `zeros8_gen`
(`Lemmas/FnBridgeTagCmdPrelude.lean`); the equations `stageA_cmd`, `stageB_cmd`, `segLoop_cmd`, `read2_cmd` of
`Lemmas/FnBridgeTagCmd.lean`, which say what the C08 models send in terms of the reference commands, so that a `gen_*`
statement here is such an equation with the bridges of this file rewritten in.
-/
namespace NfcVerif.FnBridge.TagCmd
open NfcVerif NfcVerif.PyFn NfcVerif.TagCmdRef

/-! ## Type 1 Tag: commands and answers -/

/-- `Type1Tag.read_id`: the RID command -/
theorem t1_read_id_cmd_bridge : Gen.Fn.t1_read_id_cmd = t1Rid := rfl

/-- `self.uid = target.rid_res[2:6]` -/
theorem t1_uid_bridge (rid : Bytes) : Gen.Fn.t1_uid rid = sliceN rid 2 6 := slice_ofNat rid 2 6

example : Gen.Fn.t1_uid [0x11, 0x48, 1, 2, 3, 4] = [1, 2, 3, 4] := by decide +kernel

/-- `Type1Tag.read_all`: the RALL command -/
theorem t1_read_all_cmd_bridge (uid : Bytes) : Gen.Fn.t1_read_all_cmd uid = t1Rall uid := rfl

example : Gen.Fn.t1_read_all_cmd [1, 2, 3, 4] = [0, 0, 0, 1, 2, 3, 4] := by decide

/-- `Type1Tag.read_byte(addr)`: address check and READ command, for every int -/
theorem t1_read_byte_cmd_bridge (addr : Int) (uid : Bytes) :
    Gen.Fn.t1_read_byte_cmd addr uid = t1Read addr uid := by
  unfold Gen.Fn.t1_read_byte_cmd t1Read
  split
  · rfl
  · rw [mkBytes_ok _ (by simp; omega)]; rfl

example : Gen.Fn.t1_read_byte_cmd 127 [1, 2, 3, 4] = .ok [1, 127, 0, 1, 2, 3, 4] := by decide +kernel
example : Gen.Fn.t1_read_byte_cmd 128 [1, 2, 3, 4] = .error .value := by decide +kernel

/-- a READ command that is built addresses the static memory and has the fixed length -/
theorem gen_read_byte_cmd_spec (addr : Int) (uid cmd : Bytes) (h : Gen.Fn.t1_read_byte_cmd addr uid = .ok cmd) :
    cmd.length = 3 + uid.length ∧ ∃ a : Nat, a < 128 ∧ (a : Int) = addr ∧ cmd = [0x01, a, 0] ++ uid :=
  t1Read_spec addr uid cmd (by rw [← t1_read_byte_cmd_bridge]; exact h)

/-- `Type1Tag.read_block`: block number check and READ8 command, for every int -/
theorem t1_read_block_cmd_bridge (block : Int) (uid : Bytes) : Gen.Fn.t1_read_block_cmd block uid = t1Read8 block uid := by
  unfold Gen.Fn.t1_read_block_cmd t1Read8
  rw [zeros8_gen]
  split
  · rfl
  · rw [mkBytes_ok _ (by simp; omega)]; rfl

/-- `Type1Tag.read_segment`: segment number check and RSEG command, for every int -/
theorem t1_read_segment_cmd_bridge (segment : Int) (uid : Bytes) : Gen.Fn.t1_read_segment_cmd segment uid = t1Rseg segment uid := by
  unfold Gen.Fn.t1_read_segment_cmd t1Rseg
  rw [zeros8_gen, show shl segment 4 = segment * 16 from rfl]
  split
  · rfl
  · rw [mkBytes_ok _ (by simp; omega)]
    -- the ADDS octet: `(segment << 4).toNat`, in the reference `segment.toNat * 16`
    have hs : (segment * 16).toNat = segment.toNat * 16 := by omega
    simp only [List.cons_append, List.nil_append, List.map_cons, List.map_nil, hs]
    rfl

example : Gen.Fn.t1_read_block_cmd 15 [1, 2, 3, 4] = .ok [0x02, 15, 0, 0, 0, 0, 0, 0, 0, 0, 1, 2, 3, 4] := by decide +kernel
example : Gen.Fn.t1_read_segment_cmd 3 [1, 2, 3, 4] = .ok [0x10, 0x30, 0, 0, 0, 0, 0, 0, 0, 0, 1, 2, 3, 4] := by decide +kernel
example : Gen.Fn.t1_read_segment_cmd 16 [1, 2, 3, 4] = .error .value := by decide +kernel

/-- `Type1Tag.read_block`: what is done with the READ8 answer -/
theorem t1_read_block_rsp_bridge (rsp : Bytes) : Gen.Fn.t1_read_block_rsp rsp = t1Read8Rsp rsp := by
  unfold Gen.Fn.t1_read_block_rsp t1Read8Rsp
  py_nat
  rfl

example : Gen.Fn.t1_read_block_rsp [0x78, 1, 2, 3, 4, 5, 6, 7, 8, 9] = .ok [1, 2, 3, 4, 5, 6, 7, 8] := by decide +kernel
example : Gen.Fn.t1_read_block_rsp [0x78, 1, 2, 3, 4, 5, 6, 7] = .error (.tagCmd 2) := by decide +kernel

/-- `Type1Tag.read_segment`: what is done with the RSEG answer -/
theorem t1_read_segment_rsp_bridge (rsp : Bytes) : Gen.Fn.t1_read_segment_rsp rsp = t1RsegRsp rsp := by
  unfold Gen.Fn.t1_read_segment_rsp t1RsegRsp
  py_nat
  rfl

example : Gen.Fn.t1_read_segment_rsp (List.replicate 130 7) = .ok (List.replicate 128 7) := by decide +kernel

/-- `Type1Tag.write_byte`: address check and WRITE-E / WRITE-NE command, for all ints -/
theorem t1_write_byte_cmd_bridge (addr data : Int) (erase : Bool) (uid : Bytes) :
    Gen.Fn.t1_write_byte_cmd addr data erase uid = t1Write addr data erase uid := by
  unfold Gen.Fn.t1_write_byte_cmd t1Write
  by_cases h : addr < 0 ∨ addr ≥ 128
  · rw [if_pos h, if_pos h]
  · rw [if_neg h, if_neg h]
    by_cases hd : data < 0 ∨ data > 255
    · rw [if_pos hd, mkBytes_error _ (by simp; omega)]; rfl
    · rw [if_neg hd, mkBytes_ok _ (by simp; omega)]; cases erase <;> rfl

example : Gen.Fn.t1_write_byte_cmd 11 0x0F false [1, 2, 3, 4] = .ok [0x1A, 11, 0x0F, 1, 2, 3, 4] := by decide +kernel
example : Gen.Fn.t1_write_byte_cmd 11 0x0F true [1, 2, 3, 4] = .ok [0x53, 11, 0x0F, 1, 2, 3, 4] := by decide +kernel
example : Gen.Fn.t1_write_byte_cmd 128 0 true [1, 2, 3, 4] = .error .value := by decide +kernel

/-- a WRITE command that is built names a byte of the static memory (C01-C03: the unit the model writes) -/
theorem gen_write_byte_cmd_spec (addr data : Int) (erase : Bool) (uid cmd : Bytes)
    (h : Gen.Fn.t1_write_byte_cmd addr data erase uid = .ok cmd) :
    cmd.length = 3 + uid.length ∧ ∃ a d : Nat, a < 128 ∧ d < 256 ∧ (a : Int) = addr ∧ (d : Int) = data ∧
      cmd = [if erase then 0x53 else 0x1A, a, d] ++ uid :=
  t1Write_spec addr data erase uid cmd (by rw [← t1_write_byte_cmd_bridge]; exact h)

/-- `Type1Tag.write_block`: block number check and WRITE-E8 / WRITE-NE8 command -/
theorem t1_write_block_cmd_bridge (block : Int) (data : Bytes) (erase : Bool) (uid : Bytes) :
    Gen.Fn.t1_write_block_cmd block data erase uid = t1Write8 block data erase uid := by
  unfold Gen.Fn.t1_write_block_cmd t1Write8
  by_cases h : block < 0 ∨ block > 255
  · rw [if_pos h, if_pos h]
  · rw [if_neg h, if_neg h, mkBytes_ok _ (by simp; omega)]; cases erase <;> rfl

example : Gen.Fn.t1_write_block_cmd 16 [1, 2, 3, 4, 5, 6, 7, 8] true [9, 9, 9, 9]
    = .ok [0x54, 16, 1, 2, 3, 4, 5, 6, 7, 8, 9, 9, 9, 9] := by decide +kernel
example : Gen.Fn.t1_write_block_cmd 256 [] true [] = .error .value := by decide +kernel

/-- `Type1Tag.write_block`: the answer check -/
theorem t1_write_block_rsp_bridge (rsp data : Bytes) (erase : Bool) :
    Gen.Fn.t1_write_block_rsp rsp data erase = t1Write8Rsp rsp data erase := by
  unfold Gen.Fn.t1_write_block_rsp t1Write8Rsp
  py_nat
  rfl

example : Gen.Fn.t1_write_block_rsp [16, 1, 2, 3, 4, 5, 6, 7, 8] [1, 2, 3, 4, 5, 6, 7, 9] true = .error (.tagCmd 3) := by
  decide +kernel
example : Gen.Fn.t1_write_block_rsp [16, 1, 2, 3, 4, 5, 6, 7, 8] [1, 2, 3, 4, 5, 6, 7, 9] false = .ok () := by decide +kernel

/-! ## Type 1 memory reader: which commands fill the cache (`Adv.stageA`, `Adv.stageB`, `Adv.segLoop`, C08), write units -/

theorem t1_need_rall_bridge (n : Nat) : Gen.Fn.t1_need_rall n = decide (n < 120) := by
  unfold Gen.Fn.t1_need_rall; py_nat
theorem t1_need_block15_bridge (stop n : Nat) : Gen.Fn.t1_need_block15 stop n = decide (stop > 120 ∧ n < 128) := by
  unfold Gen.Fn.t1_need_block15; py_nat
theorem t1_rall_short_bridge (r : Bytes) : Gen.Fn.t1_rall_short r = decide (r.length < 2) := by
  unfold Gen.Fn.t1_rall_short; py_nat
theorem t1_rall_hdr_bridge (r : Bytes) : Gen.Fn.t1_rall_hdr r = r.take 2 := by
  unfold Gen.Fn.t1_rall_hdr
  py_nat
  rfl
theorem t1_rall_mem_bridge (r : Bytes) : Gen.Fn.t1_rall_mem r = r.drop 2 := sliceFrom_ofNat r 2

/-- the C08 reader model sends the regenerated RALL command -/
theorem gen_stageA_cmd (t : Adv.Tag) (uid : Bytes) (s : Adv.S1) (h : s.cache.length < 120) :
    Adv.stageA t uid s =
      match Adv.trans1 t (Gen.Fn.t1_read_all_cmd uid) s with
      | (.error e, s1) => (.error e, s1)
      | (.ok rsp, s1) =>
        if rsp.length < 2 then (.error (.tagCmd 2), s1)
        else (.ok (), { s1 with hdr := rsp.take 2, cache := rsp.drop 2 }) := by
  rw [stageA_cmd, if_pos h, t1_read_all_cmd_bridge]
  rfl

/-- `Adv.stageA` / `Adv.stageB` (C08) with the regenerated conditions and answer split -/
theorem gen_stageA (t : Adv.Tag) (uid : Bytes) (s : Adv.S1) :
    Adv.stageA t uid s =
      if Gen.Fn.t1_need_rall s.cache.length then
        match Adv.trans1 t (Gen.Fn.t1_read_all_cmd uid) s with
        | (.error e, s1) => (.error e, s1)
        | (.ok rsp, s1) =>
          if Gen.Fn.t1_rall_short rsp then (.error (.tagCmd 2), s1)
          else (.ok (), { s1 with hdr := Gen.Fn.t1_rall_hdr rsp, cache := Gen.Fn.t1_rall_mem rsp })
      else (.ok (), s) := by
  rw [stageA_cmd, t1_need_rall_bridge, t1_read_all_cmd_bridge]
  simp only [t1_rall_short_bridge, t1_rall_hdr_bridge, t1_rall_mem_bridge, decide_eq_true_eq]
  rfl

/-- the READ8 command of `Adv.stageB` is the regenerated one -/
theorem gen_stageB_cmd : Gen.Fn.t1_read_block_cmd 15 uid = .ok ([0x02, 15] ++ Adv.zeros8 ++ uid) := by
  rw [t1_read_block_cmd_bridge]; simp [t1Read8, TagCmdRef.zeros8, Adv.zeros8]

theorem gen_stageB_cond (t : Adv.Tag) (uid : Bytes) (stop : Nat) (s1 : Adv.S1) (h : Gen.Fn.t1_need_block15 stop s1.cache.length = false) :
    Adv.stageB t uid stop s1 = (.ok (), s1) := by
  rw [t1_need_block15_bridge] at h
  rw [stageB_cmd, if_neg (by simpa using h)]

/-- segment number of the RSEG call: `Adv.segLoop` uses `cache.length / 128` -/
theorem t1_segment_of_bridge (n : Nat) : Gen.Fn.t1_segment_of n = ((n / 128 : Nat) : Int) := by
  unfold Gen.Fn.t1_segment_of
  py_nat

/-- the C08 segment loop checks the answer with the regenerated function -/
theorem gen_segLoop_rsp (t : Adv.Tag) (uid : Bytes) (stop f : Nat) (s : Adv.S1) (h : ¬ s.cache.length ≥ stop)
    (cmd : Bytes) (hc : t1Rseg ((s.cache.length / 128 : Nat) : Int) uid = .ok cmd) :
    Adv.segLoop t uid stop (f + 1) s =
      match Adv.trans1 t cmd s with
      | (.error e, s1) => (.error e, s1)
      | (.ok rsp, s1) =>
        match Gen.Fn.t1_read_segment_rsp rsp with
        | .error e => (.error e, s1)
        | .ok d => Adv.segLoop t uid stop f { s1 with cache := s1.cache ++ d } := by
  rw [segLoop_cmd, if_neg h, hc]
  simp only [t1_read_segment_rsp_bridge]
  rfl

/-- the C08 segment loop asks for the regenerated segment number -/
theorem gen_segLoop_segment (t : Adv.Tag) (uid : Bytes) (stop f : Nat) (s : Adv.S1) (h : ¬ s.cache.length ≥ stop) :
    Adv.segLoop t uid stop (f + 1) s =
      match t1Rseg (Gen.Fn.t1_segment_of s.cache.length) uid with
      | .error e => (.error e, s)
      | .ok cmd =>
        match Adv.trans1 t cmd s with
        | (.error e, s1) => (.error e, s1)
        | (.ok rsp, s1) =>
          match Gen.Fn.t1_read_segment_rsp rsp with
          | .error e => (.error e, s1)
          | .ok d => Adv.segLoop t uid stop f { s1 with cache := s1.cache ++ d } := by
  rw [segLoop_cmd, if_neg h, t1_segment_of_bridge]
  simp only [t1_read_segment_rsp_bridge]
  rfl

/-- one round of the C08 segment loop entirely in regenerated functions: segment number, RSEG command, answer check -/
theorem gen_segLoop (t : Adv.Tag) (uid : Bytes) (stop f : Nat) (s : Adv.S1) (h : ¬ s.cache.length ≥ stop) :
    Adv.segLoop t uid stop (f + 1) s =
      match Gen.Fn.t1_read_segment_cmd (Gen.Fn.t1_segment_of s.cache.length) uid with
      | .error e => (.error e, s)
      | .ok cmd =>
        match Adv.trans1 t cmd s with
        | (.error e, s1) => (.error e, s1)
        | (.ok rsp, s1) =>
          match Gen.Fn.t1_read_segment_rsp rsp with
          | .error e => (.error e, s1)
          | .ok d => Adv.segLoop t uid stop f { s1 with cache := s1.cache ++ d } := by
  rw [gen_segLoop_segment t uid stop f s h, t1_read_segment_cmd_bridge]

/-- write unit of `synchronize()`: the `unit` of `Tlv.t1Cfg` -/
theorem t1_unit_size_bridge (hr0 : Nat) : Gen.Fn.t1_unit_size hr0 = ((t1Unit hr0 : Nat) : Int) := by
  unfold Gen.Fn.t1_unit_size t1Unit t1Dynamic
  py_nat

theorem t1_dynamic_bridge (hr0 : Nat) : Gen.Fn.t1_dynamic hr0 = t1Dynamic hr0 := by
  unfold Gen.Fn.t1_dynamic t1Dynamic
  py_nat

example : Gen.Fn.t1_unit_size 0x11 = 1 ∧ Gen.Fn.t1_unit_size 0x12 = 8 := by decide +kernel

/-- the write configuration of the C01-C03 model for a tag with header ROM byte `hr0` -/
theorem gen_t1Cfg_unit (hr0 : Nat) : ((Tlv.t1Cfg (t1Unit hr0)).unit : Int) = Gen.Fn.t1_unit_size hr0 ∧ 0 < (Tlv.t1Cfg (t1Unit hr0)).unit :=
  ⟨(t1_unit_size_bridge hr0).symm, t1Unit_pos hr0⟩

/-- block number of the WRITE-E8 call for byte address `i` -/
theorem t1_block_of_bridge (i : Nat) : Gen.Fn.t1_block_of i = ((i / 8 : Nat) : Int) := by
  unfold Gen.Fn.t1_block_of; omega

/-- the block written for unit `k` of `Tlv.diffUnits 8` (byte address `k * 8`) is block `k` -/
theorem gen_block_of_unit (k : Nat) : Gen.Fn.t1_block_of ((k * 8 : Nat) : Int) = (k : Int) := by
  rw [t1_block_of_bridge]; omega

/-! ## Type 1 NDEF: header size, capability container, TLV walk -/

/-- `offset += 2 if len(data) < 255 else 4` of `Type1Tag.NDEF._write_ndef_data` -/
theorem t1_hdr_len_bridge (data : Bytes) (offset : Nat) :
    Gen.Fn.t1_hdr_len data offset = ((offset + Tlv.hdrLen data.length : Nat) : Int) := by
  unfold Gen.Fn.t1_hdr_len Tlv.hdrLen
  py_nat

example : Gen.Fn.t1_hdr_len (List.replicate 255 0) 12 = 16 := by decide +kernel

/-- tag memory size from CC byte 2 -/
theorem t1_area_end_bridge (sz : Nat) : Gen.Fn.t1_area_end sz = ((Tlv.Cfg.areaEnd (Tlv.t1Cfg 1) sz : Nat) : Int) := by
  unfold Gen.Fn.t1_area_end Tlv.Cfg.areaEnd Tlv.t1Cfg
  py_nat

/-- capability container checks of `Type1Tag.NDEF._read_ndef_data` as in `Adv.readNdef1` / `Tlv.readNdefRaw` -/
theorem t1_cc_magic_bridge (b : Nat) : Gen.Fn.t1_cc_magic b = decide (b ≠ 0xE1) := by
  unfold Gen.Fn.t1_cc_magic; py_nat
theorem t1_cc_version_bridge (b : Nat) : Gen.Fn.t1_cc_version b = decide (b / 16 ≠ 1) := by
  unfold Gen.Fn.t1_cc_version; py_nat
theorem t1_cc_readable_bridge (b : Nat) : Gen.Fn.t1_cc_readable b = decide (b / 16 = 0) := by
  unfold Gen.Fn.t1_cc_readable; py_nat
theorem t1_cc_writeable_bridge (b : Nat) : Gen.Fn.t1_cc_writeable b = decide (b % 16 = 0) := by
  unfold Gen.Fn.t1_cc_writeable; py_nat

example : Gen.Fn.t1_cc_magic 0xE1 = false ∧ Gen.Fn.t1_cc_version 0x10 = false ∧ Gen.Fn.t1_cc_readable 0x0F = true
    ∧ Gen.Fn.t1_cc_writeable 0x0F = false := by decide +kernel

/-- end of the static reserved range: `Tlv.Cfg.initSkip` of the Type 1 configuration -/
theorem t1_skip_end_bridge (size : Nat) (u : Nat) :
    (Tlv.t1Cfg u).initSkip size = [(104, (Gen.Fn.t1_skip_end size).toNat)] := by
  unfold Gen.Fn.t1_skip_end Tlv.Cfg.initSkip Tlv.t1Cfg
  py_nat

/-- distance to the next TLV (`Adv.walk`, `Tlv.walkPre`) -/
theorem t1_next_tlv_bridge (o l : Nat) :
    (o : Int) + Gen.Fn.t1_next_tlv l = ((o + l + 1 + (if l < 255 then 1 else 3) : Nat) : Int) := by
  unfold Gen.Fn.t1_next_tlv
  py_nat
  split <;> omega

/-! ## Type 2 Tag: commands and answers -/

/-- `Type2Tag.read`: the READ command, for every int page number -/
theorem t2_read_cmd_bridge (page : Int) : Gen.Fn.t2_read_cmd page = .ok (t2ReadCmd page) := by
  unfold Gen.Fn.t2_read_cmd
  rw [mkBytes_ok _ (by simp; omega)]; rfl

example : Gen.Fn.t2_read_cmd 260 = .ok [0x30, 4] := by decide +kernel

/-- NAK recognition -/
theorem t2_is_nak_bridge (data : Bytes) : Gen.Fn.t2_is_nak data = .ok (t2IsNak data) := by
  unfold Gen.Fn.t2_is_nak t2IsNak
  rw [single_octet]
  match data with
  | [] | _ :: _ :: _ => rfl
  | [b] => py_nat; simp [Bool.beq_eq_decide_eq]

example : Gen.Fn.t2_is_nak [0x00] = .ok true ∧ Gen.Fn.t2_is_nak [0x05] = .ok true ∧ Gen.Fn.t2_is_nak [0x0A] = .ok false
    ∧ Gen.Fn.t2_is_nak [0, 0] = .ok false := by decide +kernel

/-- `Type2Tag.read`: the length check of the answer -/
theorem t2_read_rsp_bridge (data : Bytes) : Gen.Fn.t2_read_rsp data = t2ReadRsp data := by
  unfold Gen.Fn.t2_read_rsp t2ReadRsp
  py_nat

example : Gen.Fn.t2_read_rsp [0] = .error (.tagCmd 3) := by decide +kernel

/-- `Adv.read2` (C08) in terms of the regenerated command, NAK test and length check -/
theorem gen_read2 (t : Adv.Tag) (page : Nat) (s : Adv.S2) :
    (Gen.Fn.t2_read_cmd page >>= fun cmd =>
      .ok (match Adv.trans2 t 3 cmd s with
        | (.error e, s') => (.error e, s')
        | (.ok d, s') =>
          if Gen.Fn.t2_is_nak d = .ok true then
            match Adv.xchg t s'.w [] with
            | (some _, w') => ((.error (.tagCmd 2) : Py Bytes), { s' with w := w', alive := true, sector := 0 })
            | (none, w') => (.error (.tagCmd (-1)), { s' with w := w', alive := false, sector := 0 })
          else (Gen.Fn.t2_read_rsp d, s'))) = .ok (Adv.read2 t page s) := by
  rw [t2_read_cmd_bridge, read2_cmd]
  simp only [Py.bind_ok, t2_is_nak_bridge, t2_read_rsp_bridge, Except.ok.injEq]
  rfl

/-- `Type2Tag.write`: argument check -/
theorem t2_write_check_bridge (page : Int) (data : Bytes) :
    Gen.Fn.t2_write_check page data = (t2WriteCmd page data >>= fun _ => .ok ()) := by
  unfold Gen.Fn.t2_write_check t2WriteCmd
  py_nat

example : Gen.Fn.t2_write_check 4 [1, 2, 3] = .error .value := by decide +kernel
example : Gen.Fn.t2_write_check 4 [1, 2, 3, 4] = .ok () := by decide +kernel

/-- `Type2Tag.write`: argument check and WRITE command -/
theorem t2_write_cmd_bridge (page : Int) (data : Bytes) :
    (Gen.Fn.t2_write_check page data >>= fun _ => Gen.Fn.t2_write_cmd page data) = t2WriteCmd page data := by
  unfold Gen.Fn.t2_write_check Gen.Fn.t2_write_cmd t2WriteCmd
  rw [mkBytes_ok _ (by simp; omega)]
  py_nat
  split <;> rfl

example : Gen.Fn.t2_write_cmd 5 [1, 2, 3, 4] = .ok [0xA2, 5, 1, 2, 3, 4] := by decide +kernel

/-- `Type2Tag.write`: ACK / NAK recognition -/
theorem t2_write_rsp_bridge (rsp data : Bytes) : Gen.Fn.t2_write_rsp rsp data = t2WriteRsp rsp := by
  unfold Gen.Fn.t2_write_rsp t2WriteRsp
  rw [ite_not, single_octet]
  match rsp with
  | [] | _ :: _ :: _ => rfl
  | [b] => py_nat

example : Gen.Fn.t2_write_rsp [0x0A] [1, 2, 3, 4] = .ok true := by decide +kernel
example : Gen.Fn.t2_write_rsp [0x00] [1, 2, 3, 4] = .error (.tagCmd 2) := by decide +kernel

/-- a write is reported successful exactly for the 4 bit ACK -/
theorem gen_write_rsp_ok (rsp data : Bytes) : Gen.Fn.t2_write_rsp rsp data = .ok true ↔ rsp = [0x0A] := by
  rw [t2_write_rsp_bridge]; exact t2WriteRsp_ok rsp

/-- SECTOR SELECT packet 2 -/
theorem t2_sector_select_2_bridge (sector : Int) : Gen.Fn.t2_sector_select_2 sector = t2SectorSelect2 sector := by
  unfold Gen.Fn.t2_sector_select_2 t2SectorSelect2
  simp only [PyFn.pack, packField_B]
  by_cases h : sector < 0 ∨ sector > 255
  · rw [if_pos h, if_pos h]; rfl
  · rw [if_neg h, if_neg h]; rfl

example : Gen.Fn.t2_sector_select_2 1 = .ok [1, 0, 0, 0] := by decide +kernel
example : Gen.Fn.t2_sector_select_2 256 = .error .struct := by decide +kernel

/-- ACK of SECTOR SELECT packet 1 -/
theorem t2_sector_ack_bridge (rsp : Bytes) : Gen.Fn.t2_sector_ack rsp = .ok (t2SectorAck rsp) := by
  unfold Gen.Fn.t2_sector_ack t2SectorAck
  rw [single_octet]
  match rsp with
  | [] | _ :: _ :: _ => simp
  | [b] => py_nat; simp

/-! ## Type 2 memory reader: sector and page of a byte address -/

/-- sector and page of a byte address, as `Adv.fill2` computes them -/
theorem t2_sector_of_bridge (index : Nat) : Gen.Fn.t2_sector_of index = ((t2Sector index : Nat) : Int) := by
  unfold Gen.Fn.t2_sector_of t2Sector; py_nat
theorem t2_page_of_bridge (index : Nat) : Gen.Fn.t2_page_of index = ((t2Page index : Nat) : Int) := by
  unfold Gen.Fn.t2_page_of t2Page; py_nat

/-- the page octet that goes on the air addresses the right page of the selected sector -/
theorem gen_page_in_sector (index : Nat) :
    Gen.Fn.t2_read_cmd (Gen.Fn.t2_page_of index) = .ok [0x30, (index % 1024) / 4] := by
  rw [t2_read_cmd_bridge, t2_page_of_bridge]
  unfold t2ReadCmd
  have : (((t2Page index : Nat) : Int) % 256).toNat = (index % 1024) / 4 := by
    have := t2_page_in_sector index; omega
  rw [this]

/-- first byte address of a read -/
theorem t2_read_start_bridge (n : Nat) : Gen.Fn.t2_read_start n = ((t2ReadStart n : Nat) : Int) := by
  unfold Gen.Fn.t2_read_start t2ReadStart; py_nat

/-! ## Type 2 NDEF: header size, capability container, TLV walk -/

/-- `offset += 2 if len(data) < 255 else 4` of `Type2Tag.NDEF._write_ndef_data` -/
theorem t2_hdr_len_bridge (data : Bytes) (offset : Nat) :
    Gen.Fn.t2_hdr_len data offset = ((offset + Tlv.hdrLen data.length : Nat) : Int) :=
  t1_hdr_len_bridge data offset

/-- end of the data area: `Tlv.Cfg.areaEnd` of the Type 2 configuration -/
theorem t2_area_end_bridge (sz : Nat) : Gen.Fn.t2_area_end sz = ((Tlv.Cfg.areaEnd Tlv.t2Cfg sz : Nat) : Int) := by
  unfold Gen.Fn.t2_area_end Tlv.Cfg.areaEnd Tlv.t2Cfg
  py_nat

/-- the complete terminator test of the Type 2 writer (`Tlv.phase2`: `nextFree .. < areaEnd`) -/
theorem t2_term_cond_bridge (off sz : Nat) : Gen.Fn.t2_term_cond off sz = decide (off < Tlv.Cfg.areaEnd Tlv.t2Cfg sz) := by
  unfold Gen.Fn.t2_term_cond Tlv.Cfg.areaEnd Tlv.t2Cfg
  py_nat

theorem t2_cc_magic_bridge (b : Nat) : Gen.Fn.t2_cc_magic b = decide (b ≠ 0xE1) := t1_cc_magic_bridge b
theorem t2_cc_version_bridge (b : Nat) : Gen.Fn.t2_cc_version b = decide (b / 16 ≠ 1) := t1_cc_version_bridge b
theorem t2_cc_readable_bridge (b : Nat) : Gen.Fn.t2_cc_readable b = decide (b / 16 = 0) := t1_cc_readable_bridge b
theorem t2_cc_writeable_bridge (b : Nat) : Gen.Fn.t2_cc_writeable b = decide (b % 16 = 0) := t1_cc_writeable_bridge b

theorem t2_next_tlv_bridge (o l : Nat) :
    (o : Int) + Gen.Fn.t2_next_tlv l = ((o + l + 1 + (if l < 255 then 1 else 3) : Nat) : Int) :=
  t1_next_tlv_bridge o l

/-- first value byte of the NDEF TLV (`CtlC03.readNdefT2`: `head`) -/
theorem t2_ndef_head_bridge (off l0 : Nat) :
    Gen.Fn.t2_ndef_head off l0 = ((off + (if l0 = 0xFF then 4 else 2) : Nat) : Int) := by
  unfold Gen.Fn.t2_ndef_head
  py_nat

/-! ## Type 2 `protect()`: Lock Control TLV fields and the default dynamic lock bits (C03) -/

/-- first lock byte from the value of a Lock Control TLV (`Tlv.protWalk`: `specFirst d0 d2`) -/
theorem t2_lock_first_bridge (v : Bytes) :
    Gen.Fn.t2_lock_first v = (idxN v 0 >>= fun d0 => idxN v 2 >>= fun d2 => .ok ((Tlv.specFirst d0 d2 : Nat) : Int)) := by
  unfold Gen.Fn.t2_lock_first Tlv.specFirst
  py_nat
  -- the source reads `v[0]` twice
  cases idxN v 0 <;> rfl

/-- number of lock bits (`specBits d1`) -/
theorem t2_lock_bits_bridge (v : Bytes) :
    Gen.Fn.t2_lock_bits v = (idxN v 1 >>= fun d1 => .ok ((Tlv.specBits d1 : Nat) : Int)) := by
  unfold Gen.Fn.t2_lock_bits Tlv.specBits
  py_nat
  -- the source reads `v[1]` a second time behind `v[1] > 0`
  cases idxN v 1 with
  | error e => rfl
  | ok d1 => by_cases h0 : d1 = 0 <;> simp [h0, Nat.pos_of_ne_zero]

example : Gen.Fn.t2_lock_first [0xA0, 0x10, 0x44] = .ok 160 ∧ Gen.Fn.t2_lock_bits [0xA0, 0x00, 0x44] = .ok 256 := by decide +kernel

/-- default dynamic lock bits (`Tlv.defaultLocks`) -/
theorem t2_lock_default_cond_bridge (sz nlock : Nat) : Gen.Fn.t2_lock_default_cond sz nlock = decide (sz > 6 ∧ nlock = 0) := by
  unfold Gen.Fn.t2_lock_default_cond; py_nat
theorem t2_lock_default_addr_bridge (sz : Nat) : Gen.Fn.t2_lock_default_addr ((sz * 8 : Nat) : Int) = ((16 + sz * 8 : Nat) : Int) := by
  unfold Gen.Fn.t2_lock_default_addr; omega
theorem t2_lock_default_bits_bridge (sz : Nat) (h : sz > 6) :
    Gen.Fn.t2_lock_default_bits ((sz * 8 : Nat) : Int) = (((sz * 8 - 48 + 7) / 8 : Nat) : Int) := by
  unfold Gen.Fn.t2_lock_default_bits; omega

/-- C03 `defaultLocks` with the regenerated arithmetic -/
theorem gen_defaultLocks (sz : Nat) (found : List (Nat × Nat)) :
    Tlv.defaultLocks sz found =
      if Gen.Fn.t2_lock_default_cond sz found.length then
        [((Gen.Fn.t2_lock_default_addr ((sz * 8 : Nat) : Int)).toNat, (Gen.Fn.t2_lock_default_bits ((sz * 8 : Nat) : Int)).toNat)]
      else found := by
  unfold Tlv.defaultLocks
  rw [t2_lock_default_cond_bridge]
  by_cases h : sz > 6 ∧ found = []
  · have h2 : sz > 6 ∧ found.length = 0 := ⟨h.1, by rw [h.2]; rfl⟩
    rw [if_pos h, if_pos (by simpa using h2), t2_lock_default_addr_bridge, t2_lock_default_bits_bridge sz h.1]
    simp only [Int.toNat_natCast]
  · have h2 : ¬ (sz > 6 ∧ found.length = 0) := by
      intro hc; exact h ⟨hc.1, List.eq_nil_of_length_eq_zero hc.2⟩
    rw [if_neg h, if_neg (by simpa using h2)]

/-- lock bytes and bits (`Tlv.setAllLocks`: `(b + 7) / 8` bytes; `Tlv.lockByteVal`: bit `i` lives in byte `i >> 3`) -/
theorem t2_lock_byte_size_bridge (b : Nat) : Gen.Fn.t2_lock_byte_size b = (((b + 7) / 8 : Nat) : Int) := by
  unfold Gen.Fn.t2_lock_byte_size; omega
theorem t2_lock_byte_index_bridge (a i : Nat) : Gen.Fn.t2_lock_byte_index a i = ((a + i / 8 : Nat) : Int) := by
  unfold Gen.Fn.t2_lock_byte_index; py_nat
theorem t2_lock_bit_bridge (i : Nat) : Gen.Fn.t2_lock_bit i = ((2 ^ (i % 8) : Nat) : Int) := by
  unfold Gen.Fn.t2_lock_bit; py_nat; omega

end NfcVerif.FnBridge.TagCmd
