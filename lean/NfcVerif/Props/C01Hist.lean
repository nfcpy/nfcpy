import NfcVerif.Lemmas.HistC01
import NfcVerif.Lemmas.HistC01R
import NfcVerif.Lemmas.HistC01T34
/-!
# C01, part hist - an assignment that completes is read back, whatever failed before it

Statements about `NfcVerif.Hist` (`Model/HistC01.lean`): assignments `tag.ndef.octets = data` through ONE tag
object, some of them aborted by a communication fault on a state-changing command (`Fault ⟨k, late⟩`:
command number `k` of the attempt fails; `late = false` - not executed by the tag, `late = true` - executed,
but the reader gets no answer).  The lemmas are in `Lemmas/HistC01R.lean` (Type 1 / Type 2, repaired memory reader),
`Lemmas/HistC01.lean` (the memory reader as found) and `Lemmas/HistC01T34.lean` (Type 3, Type 4).

`history c L (fresh m) hs` runs the attempts `hs` through the object that found layout `L` on image `m`;
`attempt ... data none` is one more assignment without a fault.
-/
namespace NfcVerif.C01Hist
open NfcVerif NfcVerif.Tlv NfcVerif.T34 NfcVerif.Hist

/-! ## Type 1 / Type 2 -/

/-- Without a fault an attempt on a freshly activated object IS the writer of `Model/Tlv.lean`: same ordered
command list, same outcome - for every image (well formed or not), every layout record and every message.  The
theorems and the correspondence runs about `setOctets` (`Props/C01.lean`) therefore speak about this model too. -/
theorem t12_attempt_clean (c : Cfg) (hu : 0 < c.unit) (m : Bytes) (L : Layout) (data : Bytes) :
    (attempt c L (fresh m) data none).cmds = (setOctets c m L data).cmds ∧
    (attempt c L (fresh m) data none).res = (setOctets c m L data).res :=
  attempt_clean c hu m L data

/-- **Cache coherence over a whole history.**  As long as no failed command was executed by the tag, after any
number of attempts (completed, failed at any command, oversize, ...) the memory reader's picture
`_data_from_tag` equals the tag, all images keep the size of the tag memory, and tag and cache still hold the
original bytes in front of the NDEF TLV's length field. -/
theorem t12_cache_coherent (c : Cfg) (m : Bytes) (L : Layout) (hread : readNdef c m = .ok (some L))
    (hwf : WF c m L) (hs : List (Bytes × Option Fault)) (hnl : ∀ a ∈ hs, ∀ f, a.2 = some f → f.late = false) :
    (history c L (fresh m) hs).1.tag = (history c L (fresh m) hs).1.belief ∧
    (history c L (fresh m) hs).1.tag.length = m.length ∧
    ∀ x, x < L.off + 1 → (history c L (fresh m) hs).1.tag[x]? = m[x]? := by
  have hi := history_inv c m L ((readNdef_some c m L).1 hread) hwf hs hnl (fresh m) (Inv.fresh m _)
  exact ⟨hi.coh, hi.len.tag, hi.tag⟩

/-- **Round trip after any history of failed attempts.**  For every well-formed image, every history `hs` of
attempts through the same object - any number, any messages (also oversize ones), each completed or failed at any
state-changing command that the tag did not execute - and every final message up to the capacity: the final
assignment succeeds and a fresh reader of the tag finds the same TLV offset, skip set, capacity, flags and
exactly that message - also under the stricter rule of the present readers that the TLV must lie completely inside
the data area (`readBack`). -/
theorem t12_history_roundtrip (c : Cfg) (m : Bytes) (L : Layout) (hread : readNdef c m = .ok (some L))
    (hwf : WF c m L) (hw : L.writeable = true) (hs : List (Bytes × Option Fault))
    (hnl : ∀ a ∈ hs, ∀ f, a.2 = some f → f.late = false) (data : Bytes) (hcap : (data.length : Int) ≤ L.cap) :
    (attempt c L (history c L (fresh m) hs).1 data none).res = .ok () ∧
    readNdef c (attempt c L (history c L (fresh m) hs).1 data none).st.tag = .ok (some { L with ndef := data }) ∧
    readBack c (attempt c L (history c L (fresh m) hs).1 data none).st.tag = .ok (some { L with ndef := data }) := by
  have hr := (readNdef_some c m L).1 hread
  have hi := history_inv c m L hr hwf hs hnl (fresh m) (Inv.fresh m _)
  obtain ⟨-, d, e, -⟩ := attemptR_spec c m L data _ none hr hwf (hi.lift c.unit)
  rw [attempt_lift]
  exact ⟨e hw hcap rfl, (readNdef_some c _ _).2 (d (e hw hcap rfl)).1, (d (e hw hcap rfl)).2⟩

/-! A Type 2 image whose NDEF TLV lies at 18: its length byte is the last byte of page 4, the value starts in
page 5. -/
def cxM : Bytes := List.replicate 12 0 ++ [0xE1, 0x10, 6, 0] ++ [0, 0, 3, 2, 0xAA, 0xBB, 0xFE] ++ List.replicate 41 0
def cxL : Layout :=
  { off := 18, skip := [], areaEnd := 64, cap := 44, readable := true, writeable := true, ndef := [0xAA, 0xBB] }

/-- **The statement is false for an executed but unacknowledged command (finding
`t12-empty-after-unacknowledged-length-write`, repaired by `fixes/C02/0002`).**  Writing `01 02 03` sends three
WRITE commands; the tag executes the last one (page 4 with the length byte 03) but its answer is lost.  The memory reader still believes
that page 4 holds length 00, so the empty message assigned next through the same object sends only page 5 (the
terminator): the assignment returns normally, the tag keeps length 03 and a fresh reader sees `FE 02 03`. -/
theorem t12_unacknowledged_counterexample :
    readNdef t2Cfg cxM = .ok (some cxL) ∧ WF t2Cfg cxM cxL ∧
    (history t2Cfg cxL (fresh cxM) [([1, 2, 3], some ⟨2, true⟩)]).2
      = [([(16, [0, 0, 3, 0]), (20, [1, 2, 3, 0xFE]), (16, [0, 0, 3, 3])], .error faultErr)] ∧
    attempt t2Cfg cxL (history t2Cfg cxL (fresh cxM) [([1, 2, 3], some ⟨2, true⟩)]).1 [] none
      = ⟨⟨(history t2Cfg cxL (fresh cxM) [([1, 2, 3], some ⟨2, true⟩)]).1.tag |>.set 20 0xFE,
          (history t2Cfg cxL (fresh cxM) [([1, 2, 3], some ⟨2, true⟩)]).1.belief |>.set 20 0xFE,
          (history t2Cfg cxL (fresh cxM) [([1, 2, 3], some ⟨2, true⟩)]).1.cache |>.set 19 0 |>.set 20 0xFE⟩,
         [(20, [0xFE, 2, 3, 0xFE])], .ok ()⟩ ∧
    readNdef t2Cfg (attempt t2Cfg cxL (history t2Cfg cxL (fresh cxM) [([1, 2, 3], some ⟨2, true⟩)]).1 [] none).st.tag
      = .ok (some { cxL with ndef := [0xFE, 2, 3] }) := by
  refine ⟨?_, ?_, ?_, ?_, ?_⟩ <;> decide +kernel

/-! ### the repaired memory reader (`syncUnitsR`: the unit of a write command that did not return is sent again at
the next `synchronize()`); the check asks the tree under test which reader it has and compares with that model -/

/-- without a fault the repaired reader sends exactly what the reader as found sends -/
theorem t12_repaired_attempt_clean (c : Cfg) (L : Layout) (m data : Bytes) :
    (attemptR c L (freshR m) data none).cmds = (attempt c L (fresh m) data none).cmds ∧
    (attemptR c L (freshR m) data none).res = (attempt c L (fresh m) data none).res :=
  attemptR_clean c L m data

/-- **With the repair the round trip holds after EVERY history**: faults of both kinds - also commands the tag
executed without the reader learning it -, any number of failed attempts, any messages: the final assignment of
any message up to the capacity succeeds and a fresh reader sees exactly it. -/
theorem t12_history_roundtrip_repaired (c : Cfg) (m : Bytes) (L : Layout) (hread : readNdef c m = .ok (some L))
    (hwf : WF c m L) (hw : L.writeable = true) (hs : List (Bytes × Option Fault)) (data : Bytes)
    (hcap : (data.length : Int) ≤ L.cap) :
    (attemptR c L (historyR c L (freshR m) hs).1 data none).res = .ok () ∧
    readNdef c (attemptR c L (historyR c L (freshR m) hs).1 data none).st.tag = .ok (some { L with ndef := data }) ∧
    readBack c (attemptR c L (historyR c L (freshR m) hs).1 data none).st.tag = .ok (some { L with ndef := data }) := by
  have hr := (readNdef_some c m L).1 hread
  obtain ⟨-, d, e, -⟩ := attemptR_spec c m L data _ none hr hwf (historyR_inv c m L hr hwf hs (freshR m) (InvR.fresh _ m _))
  exact ⟨e hw hcap rfl, (readNdef_some c _ _).2 (d (e hw hcap rfl)).1, (d (e hw hcap rfl)).2⟩

/-- the history of the counter-example on the repaired reader: page 4 (still unconfirmed) is sent again with length
00, then the terminator; a fresh reader sees the empty message -/
example : (attemptR t2Cfg cxL (historyR t2Cfg cxL (freshR cxM) [([1, 2, 3], some ⟨2, true⟩)]).1 [] none).cmds
      = [(16, [0, 0, 3, 0]), (20, [0xFE, 2, 3, 0xFE])] ∧
    readNdef t2Cfg (attemptR t2Cfg cxL (historyR t2Cfg cxL (freshR cxM) [([1, 2, 3], some ⟨2, true⟩)]).1 [] none).st.tag
      = .ok (some { cxL with ndef := [] }) := by
  constructor <;> decide +kernel

/-! ## Type 3 -/

/-- without a fault the Type 3 attempt is `T3.writeNdef` (commands, memory, outcome) -/
theorem t3_attempt_clean (m data : Bytes) :
    (t3Write m data none).sent = (T3.writeNdef m data).sent ∧ (t3Write m data none).mem = (T3.writeNdef m data).mem ∧
    (t3Write m data none).res = (T3.writeNdef m data).res := by
  unfold t3Write
  cases h : T3.readBlocks m 0 1 >>= T3.decodeAttr with
  | error e => exact ⟨rfl, rfl, rfl⟩
  | ok o =>
    cases o with
    | none => exact ⟨rfl, rfl, rfl⟩
    | some a =>
      simp only
      split
      · exact ⟨rfl, rfl, rfl⟩
      · rename_i hn
        rw [runWF_none]
        unfold T3.writeNdef
        rw [h]
        simp [if_neg hn]

/-- **Type 3 round trip after any history**: every well-formed layout, any number of earlier attempts with any
messages, each completed or failed at any write command - executed by the tag or not -, every final message up to
the capacity: the final assignment succeeds and a fresh reader sees exactly it (`WriteF = 0`, `Ln = |data|`). -/
theorem t3_history_roundtrip (m : Bytes) (a : T3.Attr) (wf : T3.WF m a) (seen : Seen)
    (hseen : T3.see m = .ok (some seen)) (hs : List (Bytes × Option Fault)) (data : Bytes)
    (hlen : data.length ≤ 16 * a.nmaxb) :
    (t3Attempt seen (t3History seen m hs).1 data none).res = .ok () ∧
    T3.see (t3Attempt seen (t3History seen m hs).1 data none).mem
      = .ok (some ⟨(a.nmaxb * 16 : Nat), true, true, data⟩) :=
  Hist.t3_history_roundtrip m a wf seen hseen hs data hlen

/-! ## Type 4 -/

/-- without a fault the Type 4 attempt sends the UPDATE BINARY sequence of `T4.writeNdef` -/
theorem t4_attempt_clean (c : T4.Card) (us : List T4.UCmd) (file : Bytes) : runUF c file us none = T4.runU c file us :=
  runUF_none c us file

/-- **Type 4 round trip after any history**: every well-formed layout (mapping versions 1-3, NLEN of 2 or 4
octets), any number of earlier attempts, each completed or failed at any UPDATE BINARY - executed or not -, every
final message up to the capacity (final NLEN update looped or `MLc ≥ NLEN size`): the final assignment succeeds
and a fresh reader sees exactly it. -/
theorem t4_history_roundtrip (v : T4.Variant) (c : T4.Card) (i : T4.Info) (wf : T4.WF v c i) (nd : T4.Ndef)
    (hnd : T4.readNdef v c = .ok (some nd)) (hs : List (Bytes × Option Fault)) (data : Bytes)
    (hlen : (data.length : Int) ≤ i.capacity) (hv : v.nlenLoop = true ∨ i.nlenSize ≤ i.maxLc) :
    (t4Attempt v c nd (t4History v c nd c.file hs).1 data none).res = .ok () ∧
    T4.see v { c with file := (t4Attempt v c nd (t4History v c nd c.file hs).1 data none).file }
      = .ok (some ⟨i.capacity, i.readable, true, data⟩) :=
  Hist.t4_history_roundtrip v c i wf nd hnd hs data hlen hv

/-! ## Non-vacuity -/

/-- the image of the counter-example satisfies the hypotheses of `t12_history_roundtrip`; with the same fault NOT
executed by the tag the empty message is read back -/
example : (attempt t2Cfg cxL (history t2Cfg cxL (fresh cxM) [([1, 2, 3], some ⟨2, false⟩)]).1 [] none).res = .ok () ∧
    readNdef t2Cfg (attempt t2Cfg cxL (history t2Cfg cxL (fresh cxM) [([1, 2, 3], some ⟨2, false⟩)]).1 [] none).st.tag
      = .ok (some { cxL with ndef := [] }) ∧
    readBack t2Cfg (attempt t2Cfg cxL (history t2Cfg cxL (fresh cxM) [([1, 2, 3], some ⟨2, false⟩)]).1 [] none).st.tag
      = .ok (some { cxL with ndef := [] }) :=
  t12_history_roundtrip t2Cfg cxM cxL (by decide +kernel) (by decide +kernel) rfl _
    (by intro a ha f hf; simp only [List.mem_singleton] at ha; subst ha; cases hf; rfl) [] (by decide)

/-- three failed attempts (first, middle and last command), then a message: the commands of the last attempt -
its first `synchronize()` also flushes what the failed third attempt left in the cache (page 5 = `09 FE 06 07`) -/
example : (attempt t2Cfg cxL (history t2Cfg cxL (fresh cxM)
      [([1, 2, 3], some ⟨0, false⟩), ([4, 5, 6, 7, 8], some ⟨1, false⟩), ([9], some ⟨2, false⟩)]).1 [7, 7] none).cmds
    = [(20, [9, 0xFE, 6, 7]), (20, [7, 7, 0xFE, 7]), (16, [0, 0, 3, 2])] := by decide +kernel

def exM3 : Bytes := T3.encodeAttr ⟨0x10, 4, 3, 2, 0, 1, 5⟩ ++ [1, 2, 3, 4, 5] ++ List.replicate 27 7
/-- Type 3: the second of the four commands is executed but unacknowledged, then the same message is assigned -/
example : (t3History ⟨32, true, true, [1, 2, 3, 4, 5]⟩ exM3 [(List.replicate 20 9, some ⟨1, true⟩)]).2.map
      (fun a => (a.1.map fun c => (c.blk, c.n), a.2)) = [([(0, 1), (1, 2)], .error faultErr)] := by decide +kernel

end NfcVerif.C01Hist
