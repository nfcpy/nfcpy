import NfcVerif.Lemmas.FnBridgeTagCmdNdef
import NfcVerif.Props.FnBridgeTagCmdT12
import NfcVerif.Props.FnBridgeTagCmdT3
/-!
# Bridge theorems, group TagCmd (`nfc/tag/tt1.py`, `tt2.py`, `tt3.py` -> `Gen/FnTagCmd.lean`)

Properties C16 (the frame that is retried), C08 (what the readers send to / accept from an adversarial
tag), C01-C03 (the address octets of the write commands, the NDEF TLV header size, the loops that place and
fetch a message around the reserved bytes), C07 (element decoding and response framing of the Type 3 emulation),
C20 (frame and response checks of the authentication model).

The regenerated functions are the pure statement ranges in front of and behind the `transceive` /
`exchange` call of each command method (the cut is named in the doc comment of each generated
definition).  Each is proved equal, for all inputs, to the reference definition of
`Model/FnTagCmdRef.lean` or to the model function that already existed (`Tlv.hdrLen`,
`Auth.t3Command`, `Adv.checkRsp3`, `Adv.blockCode`); `Lemmas/FnBridgeTagCmd.lean` shows that the C08
reader models (`stageA`, `stageB`, `segLoop`, `read2`) send and check exactly these reference
commands.  Encodings: Python ints are `Int`; where the model's domain is the naturals the theorem
is stated for a cast natural.

The group is three modules, all in this namespace: `Props/FnBridgeTagCmdT12.lean` (Type 1 and Type 2: commands, answers,
memory readers, capability container / TLV / lock arithmetic), `Props/FnBridgeTagCmdT3.lean` (Type 3: codes, frame, answer
checks, attribute block, block arithmetic, the emulation) and this one, which holds the loops of the NDEF writer / reader
of `tt1.py`, `tt2.py` on the cached image (over `Lemmas/FnBridgeTagCmdNdef.lean`) and imports the other two.
-/
namespace NfcVerif.FnBridge.TagCmd
open NfcVerif NfcVerif.PyFn NfcVerif.TagCmdRef

/-! ## NDEF writer: data placement (C01) -/
section placement
open NfcVerif.Tlv NfcVerif.FnBridge.Tlv

/-! The Python set `skip_bytes` is related to the model's list of ranges by `SameSkip` (as in `FnBridgeTlv`); `tag_memory`
is the cached image, so that a write behind its end is `IndexError` in the regenerated function and the command
error of the fetch in the model (`wrState` forgets which); the loops get `fuel`: more than the end of the last
reserved range (`skipMax`) resp. the data area size is enough. -/

/-- `Type1Tag.NDEF._write_ndef_data`, copy loop: `Tlv.place` -/
theorem t1_place_bridge (c : Cfg) (s : Skip) (sk : List Int) (h : SameSkip s sk) (fuel : Nat) (hf : skipMax s < fuel)
    (mem data : Bytes) (hb : IsBytes data) (off : Nat) :
    Gen.Fn.t1_place fuel mem sk off data =
      match Tlv.place c s mem off data with
      | .ok (m', a') => .ok (m', (a' : Int) - (data.length : Int))
      | .error _ => .error .index := by
  unfold Gen.Fn.t1_place
  rw [len_eq, range0_cast, place_forM c s sk h fuel hf data hb data 0 off _ mem rfl (Int.sub_zero _).symm, Nat.zero_add]
  · unfold placeState
    cases Tlv.place c s mem off data <;> rfl
  · -- the generated body has the shape `place_forM` asks for: it reads `data[k]` (there for `k < len(data)`) behind the skip loop
    intro o m k hk
    simp only [getB_nat, if_pos hk, Py.bind_ok]

/-- terminator placement of the Type 1 writer -/
theorem t1_term_bridge (c : Cfg) (s : Skip) (sk : List Int) (h : SameSkip s sk) (fuel : Nat)
    (mem data : Bytes) (off : Int) (a size : Nat) (ha : off + (data.length : Int) = (a : Int)) (hf : size - a < fuel) :
    Gen.Fn.t1_term fuel mem sk off data size =
      wrState (if nextFree s a < size then Tlv.wr c mem (nextFree s a) 0xFE else .ok mem) := by
  unfold Gen.Fn.t1_term
  dsimp only
  rw [len_eq, ha]
  refine (term_loop s sk h size mem fuel a hf).trans ?_
  by_cases hlt : nextFree s a < size
  · simp only [hlt, if_true]
    rw [show (254 : Int) = ((254 : Nat) : Int) from rfl, setB_wr c mem _ 254 (by omega)]
  · simp only [hlt, if_false, wrState]

/-- terminator placement of the Type 2 writer: second half of `Tlv.phase2` -/
theorem t2_term_bridge (s : Skip) (sk : List Int) (h : SameSkip s sk) (fuel : Nat) (hf : skipMax s < fuel)
    (mem data : Bytes) (off : Int) (a : Nat) (ha : off + (data.length : Int) = (a : Int)) (hcc : 14 < mem.length) :
    Gen.Fn.t2_term fuel mem sk off data =
      wrState (if nextFree s a < Tlv.Cfg.areaEnd t2Cfg (at0 mem 14) then Tlv.wr t2Cfg mem (nextFree s a) 0xFE else .ok mem) := by
  unfold Gen.Fn.t2_term
  have hw := while_skip s sk h 0 fuel a (by omega)
  have e : ((at0 mem 14 : Nat) : Int) * 8 + 16 = ((Tlv.Cfg.areaEnd t2Cfg (at0 mem 14) : Nat) : Int) := by
    simp [Tlv.Cfg.areaEnd, t2Cfg]
  simp only [Int.sub_zero, Int.add_zero] at hw
  simp only [len_eq, ha]
  rw [hw, show (14 : Int) = ((14 : Nat) : Int) from rfl, getB_nat, if_pos hcc]
  simp only [Py.bind_ok, e, Int.ofNat_lt]
  by_cases hlt : nextFree s a < Tlv.Cfg.areaEnd t2Cfg (at0 mem 14)
  · rw [if_pos hlt, if_pos hlt, show (254 : Int) = ((254 : Nat) : Int) from rfl, setB_wr t2Cfg mem _ 254 (by omega)]
    cases wrState (Tlv.wr t2Cfg mem (nextFree s a) 254) <;> rfl
  · rw [if_neg hlt, if_neg hlt]; rfl

/-- `Type2Tag.NDEF._write_ndef_data`, copy loop (`for index, octet in enumerate(data)`): `Tlv.place` -/
theorem t2_place_bridge (c : Cfg) (s : Skip) (sk : List Int) (h : SameSkip s sk) (fuel : Nat) (hf : skipMax s < fuel)
    (mem data : Bytes) (hb : IsBytes data) (off : Nat) :
    Gen.Fn.t2_place fuel mem sk off data =
      match Tlv.place c s mem off data with
      | .ok (m', a') => .ok (m', (a' : Int) - (data.length : Int))
      | .error _ => .error .index := by
  unfold Gen.Fn.t2_place
  rw [len_eq, range0_cast, place_forM c s sk h fuel hf data hb data 0 off _ mem rfl (Int.sub_zero _).symm, Nat.zero_add]
  · unfold placeState
    cases Tlv.place c s mem off data <;> rfl
  · -- the generated body has the shape `place_forM` asks for: here `data[k]` is read in front of the skip loop (`enumerate`)
    intro o m k hk
    simp only [getB_nat, if_pos hk, Py.bind_ok]

/-- C01: phase 2 of the Type 2 writer (`Tlv.phase2` with the data area end taken from CC byte 2 of the image): the
regenerated copy loop followed by the regenerated terminator placement -/
theorem gen_t2_phase2 (s : Skip) (sk : List Int) (h : SameSkip s sk) (fuel : Nat) (hf : skipMax s < fuel)
    (m1 data : Bytes) (hb : IsBytes data) (off : Nat) (hoff : 13 ≤ off) (hcc : 14 < m1.length) :
    (Gen.Fn.t2_place fuel m1 sk (Gen.Fn.t2_hdr_len data off) data >>= fun r =>
      Gen.Fn.t2_term fuel r.1 sk r.2 data) = wrState (Tlv.phase2 t2Cfg m1 off s (Tlv.Cfg.areaEnd t2Cfg (at0 m1 14)) data) := by
  rw [t2_hdr_len_bridge, t2_place_bridge t2Cfg s sk h fuel hf m1 data hb]
  unfold Tlv.phase2
  cases hp : Tlv.place t2Cfg s m1 (off + hdrLen data.length) data with
  | error e => rfl
  | ok pe =>
    obtain ⟨m', a'⟩ := pe
    have hh : 2 ≤ hdrLen data.length := by unfold hdrLen; split <;> omega
    obtain ⟨hl, h14⟩ := place_below t2Cfg s data m1 (off + hdrLen data.length) m' a' 14 hp (by omega)
    simp only [Py.bind_ok]
    rw [t2_term_bridge s sk h fuel hf m' data _ a' (by omega) (by omega), h14]

/-- C01: phase 2 of the Type 1 writer (`Tlv.phase2`: message octets around the reserved bytes, then the terminator
TLV at the next free byte inside the data area) is what the regenerated copy loop followed by the regenerated
terminator loop compute -/
theorem gen_t1_phase2 (c : Cfg) (s : Skip) (sk : List Int) (h : SameSkip s sk) (fuel : Nat) (size : Nat)
    (hf : skipMax s < fuel) (hf2 : size < fuel) (m1 data : Bytes) (hb : IsBytes data) (off : Nat) :
    (Gen.Fn.t1_place fuel m1 sk (Gen.Fn.t1_hdr_len data off) data >>= fun r =>
      Gen.Fn.t1_term fuel r.1 sk r.2 data size) = wrState (Tlv.phase2 c m1 off s size data) := by
  rw [t1_hdr_len_bridge, t1_place_bridge c s sk h fuel hf m1 data hb]
  unfold Tlv.phase2
  cases hp : Tlv.place c s m1 (off + hdrLen data.length) data with
  | error e => rfl
  | ok pe =>
    obtain ⟨m', a'⟩ := pe
    simp only [Py.bind_ok]
    rw [t1_term_bridge c s sk h fuel m' data _ a' size (by omega) (by omega)]

example : Gen.Fn.t1_place 200 (List.replicate 20 0) [3, 4] 2 [7, 8, 9] = .ok ([0, 0, 7, 0, 0, 8, 9] ++ List.replicate 13 0, 4) := by
  decide +kernel
example : Gen.Fn.t1_term 200 (List.replicate 8 0) [5] 2 [7, 8, 9] 8 = .ok [0, 0, 0, 0, 0, 0, 0xFE, 0] := by decide +kernel
example : Gen.Fn.t2_term 200 (List.replicate 14 0 ++ [6] ++ List.replicate 60 0) [20] 16 [7, 8, 9, 10]
    = .ok (List.replicate 14 0 ++ [6] ++ List.replicate 6 0 ++ [0xFE] ++ List.replicate 53 0) := by decide +kernel

/-! ### the three octet length field across write units (`Tlv.phase3a`, `Tlv.phase3`; C02) -/

theorem t2_len_pages_bridge (off : Nat) :
    Gen.Fn.t2_len_pages off = [(((off + 1) / 4 : Nat) : Int), (((off + 2) / 4 : Nat) : Int), (((off + 3) / 4 : Nat) : Int)] := by
  unfold Gen.Fn.t2_len_pages
  simp only [List.map_cons, List.map_nil]
  py_nat

theorem t2_len_split_bridge (a b c : Nat) :
    Gen.Fn.t2_len_split [(a : Int), (b : Int), (c : Int)] = .ok (decide (a ≠ b ∧ b = c)) := by
  unfold Gen.Fn.t2_len_split
  have i0 : idx [(a : Int), (b : Int), (c : Int)] 0 = .ok (a : Int) := rfl
  have i1 : idx [(a : Int), (b : Int), (c : Int)] 1 = .ok (b : Int) := rfl
  have i2 : idx [(a : Int), (b : Int), (c : Int)] 2 = .ok (c : Int) := rfl
  rw [i0, i1, i2]
  py_nat
  split <;> simp [*]

/-- the decision of `Tlv.phase3a` for the Type 2 write unit (4 octets): the marker `FF` alone in the first page, both
length octets together in the next one -/
theorem gen_phase3a_split (off : Nat) :
    (Gen.Fn.t2_len_split (Gen.Fn.t2_len_pages off)) =
      .ok (decide ((off + 1) / Tlv.t2Cfg.unit ≠ (off + 2) / Tlv.t2Cfg.unit ∧ (off + 2) / Tlv.t2Cfg.unit = (off + 3) / Tlv.t2Cfg.unit)) := by
  rw [t2_len_pages_bridge, t2_len_split_bridge]; rfl

/-- the two length octets (`Tlv.phase3`: `n / 256`, `n % 256`) -/
theorem t2_nlen_bridge (data : Bytes) :
    Gen.Fn.t2_nlen data = if data.length > 65535 then .error .struct else .ok [data.length / 256, data.length % 256] := by
  unfold Gen.Fn.t2_nlen
  py_nat
  rw [packField_Hbe_nat]
  exact ite_flip (by omega) (fun h => by rw [Nat.mod_eq_of_lt (show data.length / 256 < 256 by omega)]) fun _ => rfl

example : Gen.Fn.t2_len_split (Gen.Fn.t2_len_pages 18) = .ok true ∧ Gen.Fn.t2_len_split (Gen.Fn.t2_len_pages 16) = .ok false := by
  decide +kernel

/-! ### NDEF reader: one TLV -/

/-- `tt2.read_tlv(memory, offset, skip_bytes)` on the cached image: same result as the model functions whenever one of
them succeeds, failure exactly when the other fails -/
theorem t2_read_tlv_bridge (c : Cfg) (s : Skip) (sk : List Int) (h : SameSkip s sk) (fuel : Nat) (hf : skipMax s < fuel)
    (m : Bytes) (hm : IsBytes m) (off : Nat) :
    okOnly (Gen.Fn.t2_read_tlv fuel m off sk) = okOnly (readTlvRef c m s off) := by
  unfold Gen.Fn.t2_read_tlv readTlvRef
  refine okOnly_bind_congr _ (getB_rd c m off) fun t _ => ?_
  by_cases ht : t = 0 ∨ t = 0xFE
  · rw [if_pos ht, if_pos (by omega)]
  · rw [if_neg ht, if_neg (by omega), ← bind_assoc, show ((off : Int) + 1) = ((off + 1 : Nat) : Int) by omega]
    refine okOnly_bind_congr _ (readLen_gen c m (off + 1)) fun lv _ => ?_
    obtain ⟨L, a⟩ := lv
    simp only [zeros_nat, Py.bind_ok, range0_cast]
    have key := fetch_forM c s sk h fuel hf m hm L 0 a (List.replicate L 0) (by simp)
    simp only [show ((0 : Nat) : Int) = 0 from rfl, Int.sub_zero, List.take_zero, List.nil_append, Option.map_id'] at key
    rw [okOnly_map] at key
    -- of the loop state only the collected value is handed on
    show okOnly (PyFn.forM _ ((a : Int), List.replicate L 0) (fetchBody fuel sk m) >>= fun st =>
        Except.ok ((fun v => ((t : Int), (L : Int), some v)) st.2)) = _
    rw [okOnly_map, okOnly_map, ← key, Option.map_map]; rfl

/-- what a successful `readTlvRef` says in terms of the three model functions -/
theorem readTlvRef_ok (c : Cfg) (m : Bytes) (s : Skip) (off : Nat) (t l : Int) (v : Bytes)
    (h : readTlvRef c m s off = .ok (t, l, some v)) :
    ∃ t' lv, rd c m off = .ok t' ∧ (t' : Int) = t ∧ readLen (rd c m) (off + 1) = .ok lv ∧ (lv.1 : Int) = l ∧
      fetch (rd c m) s lv.1 lv.2 = .ok v := by
  unfold readTlvRef at h
  obtain ⟨t', hr, h⟩ := Py.bind_eq_ok.mp h
  by_cases ht : t' = 0 ∨ t' = 0xFE
  · rw [if_pos ht] at h; cases h
  · rw [if_neg ht] at h
    obtain ⟨lv, hl, h⟩ := Py.bind_eq_ok.mp h
    obtain ⟨v', hf, h⟩ := Py.bind_eq_ok.mp h
    cases h
    exact ⟨t', lv, hr, rfl, hl, rfl, hf⟩

example : Gen.Fn.t2_read_tlv 100 [3, 4, 9, 8, 7, 6, 5] 0 [3] = .ok (3, 4, some [9, 7, 6, 5]) := by decide +kernel
example : Gen.Fn.t2_read_tlv 100 [0xFE] 0 [] = .ok (0xFE, -1, none) := by decide +kernel
example : Gen.Fn.t2_read_tlv 100 [3, 0xFF, 0] 0 [] = .error .struct := by decide +kernel

end placement

end NfcVerif.FnBridge.TagCmd
