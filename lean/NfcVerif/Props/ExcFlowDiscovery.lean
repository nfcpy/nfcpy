import NfcVerif.Props.ExcFlow
/-!
# Exception flow, instance theorems: C13 / C18: target discovery of the drivers, `open` / `close`, NFC-DEP activation

Re-checked on the regenerated `Gen/ExcFlow.lean` (see `Props/ExcFlow.lean` for what `Only` / `Can` mean).
Continues `Props/ExcFlowDrivers.lean` (a module of its own so that the two evaluations run in parallel).

Translated in addition to the exchange paths of `Props/ExcFlowDrivers.lean`: `sense_tta/ttb/ttf/dep` and `listen_tta/ttb/ttf/dep`
(with `_listen_*`, `_init_as_target`, `_send_atr_response`, `_send_psl_response` and the nested helpers of the RC-S380
`listen_tta` / `listen_dep`) of every driver class, `close`, `__init__`, `get_max_*_data_size`,
`turn_on/off_led_and_buzzer`, the driver base class `nfc.clf.device.Device`, the Arygon variants, `arygon.init`,
`nfc.clf.device.connect`, `ContactlessFrontend.__init__/open/close`.  `ContactlessFrontend.sense` / `listen`
*call* the drivers (`self.device.sense_tta(...)` is a branch over what each driver class resolves the method to):
nothing is assumed about what a driver's `sense_*` / `listen_*` raises, neither here nor in `Props/ExcFlowClf.lean`.
-/
namespace NfcVerif.ExcFlowProps
open NfcVerif.ExcFlow NfcVerif.Gen.ClassTree NfcVerif.Gen.ExcFlow

/-- `sense_*` of the PN53x family (base class, pn531, pn532, pn533, rcs956, acr122; Arygon inherits pn531 / pn532) -/
def pn53xSenseOnlyFns : List Site := [
  Site.fn_pn53x_Device_sense_tta, Site.fn_pn53x_Device_sense_ttb, Site.fn_pn53x_Device_sense_ttf,
  Site.fn_pn53x_Device_sense_dep, Site.fn_pn531_Device_sense_tta, Site.fn_pn531_Device_sense_ttb,
  Site.fn_pn531_Device_sense_ttf, Site.fn_pn531_Device_sense_dep, Site.fn_pn532_Device_sense_tta,
  Site.fn_pn532_Device_sense_ttb, Site.fn_pn532_Device_sense_ttf, Site.fn_pn532_Device_sense_dep,
  Site.fn_pn533_Device_sense_tta, Site.fn_pn533_Device_sense_ttb, Site.fn_pn533_Device_sense_ttf,
  Site.fn_pn533_Device_sense_dep, Site.fn_rcs956_Device_sense_tta, Site.fn_rcs956_Device_sense_ttb,
  Site.fn_rcs956_Device_sense_ttf, Site.fn_rcs956_Device_sense_dep, Site.fn_acr122_Device_sense_tta,
  Site.fn_acr122_Device_sense_ttb, Site.fn_acr122_Device_sense_ttf, Site.fn_acr122_Device_sense_dep]
/-- `listen_*` of the PN53x family and their helpers -/
def pn53xListenOnlyFns : List Site := [
  Site.fn_pn53x_Device_listen_tta, Site.fn_pn53x_Device_listen_ttf, Site.fn_pn53x_Device_listen_dep,
  Site.fn_pn53x_Device__send_atr_response, Site.fn_pn53x_Device__send_psl_response, Site.fn_pn531_Device_listen_tta,
  Site.fn_pn531_Device_listen_ttb, Site.fn_pn531_Device_listen_ttf, Site.fn_pn531_Device_listen_dep,
  Site.fn_pn531_Device__init_as_target, Site.fn_pn532_Device_listen_tta, Site.fn_pn532_Device_listen_ttb,
  Site.fn_pn532_Device_listen_ttf, Site.fn_pn532_Device_listen_dep, Site.fn_pn532_Device__init_as_target,
  Site.fn_pn533_Device_listen_tta, Site.fn_pn533_Device_listen_ttb, Site.fn_pn533_Device_listen_ttf,
  Site.fn_pn533_Device_listen_dep, Site.fn_pn533_Device__init_as_target, Site.fn_rcs956_Device_listen_tta,
  Site.fn_rcs956_Device_listen_ttb, Site.fn_rcs956_Device_listen_ttf, Site.fn_rcs956_Device_listen_dep,
  Site.fn_rcs956_Device__init_as_target, Site.fn_rcs956_Device__send_atr_response, Site.fn_acr122_Device_listen_tta,
  Site.fn_acr122_Device_listen_ttb, Site.fn_acr122_Device_listen_ttf, Site.fn_acr122_Device_listen_dep]
/-- `sense_*` of the RC-S380 -/
def rcs380SenseOnlyFns : List Site := [
  Site.fn_rcs380_Device_sense_tta, Site.fn_rcs380_Device_sense_ttb, Site.fn_rcs380_Device_sense_ttf,
  Site.fn_rcs380_Device_sense_dep]
/-- `listen_*` of the RC-S380 with the nested helpers of `listen_tta` / `listen_dep` -/
def rcs380ListenOnlyFns : List Site := [
  Site.fn_rcs380_Device_listen_tta, Site.fn_rcs380_Device_listen_ttb, Site.fn_rcs380_Device_listen_ttf,
  Site.fn_rcs380_Device_listen_dep, Site.fn_rcs380_Device_listen_tta_tt2, Site.fn_rcs380_Device_listen_tta_tt4]
/-- `sense_*` of the UDP driver -/
def udpSenseOnlyFns : List Site := [
  Site.fn_udp_Device_sense_tta, Site.fn_udp_Device_sense_ttb, Site.fn_udp_Device_sense_ttf,
  Site.fn_udp_Device_sense_dep]
/-- `listen_*` of the UDP driver -/
def udpListenOnlyFns : List Site := [
  Site.fn_udp_Device_listen_tta, Site.fn_udp_Device_listen_ttb, Site.fn_udp_Device_listen_ttf,
  Site.fn_udp_Device_listen_dep, Site.fn_udp_Device__listen_tta, Site.fn_udp_Device__listen_ttf]

def pn53xSenseOnlyAllowed : List Cls :=
  [Cls.clf_UnsupportedTargetError, Cls.ValueError, Cls.OSError, Cls.AssertionError, Cls.clf_pn53x_Chipset_Error]
def pn53xListenOnlyAllowed : List Cls :=
  [Cls.clf_UnsupportedTargetError, Cls.ValueError, Cls.OSError, Cls.AssertionError, Cls.clf_pn53x_Chipset_Error]
def rcs380SenseOnlyAllowed : List Cls := [Cls.clf_UnsupportedTargetError, Cls.OSError, Cls.clf_rcs380_StatusError]
def rcs380ListenOnlyAllowed : List Cls :=
  [Cls.clf_UnsupportedTargetError, Cls.ValueError, Cls.OSError, Cls.AssertionError, Cls.clf_rcs380_StatusError]
def udpSenseOnlyAllowed : List Cls := [Cls.clf_UnsupportedTargetError, Cls.OSError, Cls.clf_CommunicationError]
def udpListenOnlyAllowed : List Cls := [Cls.OSError, Cls.AssertionError, Cls.clf_CommunicationError]

/-- the frontend, `open` / `close`, initialisation -/
def frontendOnly : List (Site × List Cls) := [
  (Site.fn_clf_sense, [Cls.clf_UnsupportedTargetError, Cls.ValueError, Cls.OSError, Cls.AssertionError,
    Cls.clf_pn53x_Chipset_Error, Cls.clf_rcs380_StatusError, Cls.clf_TransmissionError]),
  (Site.fn_clf_listen, [Cls.clf_UnsupportedTargetError, Cls.ValueError, Cls.OSError, Cls.AssertionError,
    Cls.clf_pn53x_Chipset_Error, Cls.clf_rcs380_StatusError, Cls.clf_CommunicationError]),
  (Site.fn_clf_close, [Cls.AssertionError, Cls.clf_pn53x_Chipset_Error, Cls.clf_rcs380_StatusError, Cls.clf_TransmissionError]),
  (Site.fn_clf_open, [Cls.OSError, Cls.TypeError, Cls.ValueError, Cls.ImportError, Cls.AssertionError,
    Cls.clf_pn53x_Chipset_Error, Cls.clf_rcs380_StatusError, Cls.clf_TransmissionError]),
  (Site.fn_clf_init, [Cls.OSError, Cls.TypeError, Cls.ValueError, Cls.ImportError, Cls.AssertionError,
    Cls.clf_pn53x_Chipset_Error, Cls.clf_rcs380_StatusError, Cls.clf_TransmissionError]),
  (Site.fn_device_connect, [Cls.OSError, Cls.ImportError, Cls.AssertionError]),
  (Site.fn_arygon_init, [Cls.OSError, Cls.AssertionError, Cls.clf_pn53x_Chipset_Error]),
  (Site.fn_arygon_ChipsetA_write_frame, [Cls.OSError]), (Site.fn_arygon_ChipsetB_write_frame, [Cls.OSError]),
  (Site.fn_arygon_DeviceA_close, [Cls.OSError]), (Site.fn_arygon_DeviceB_close, [Cls.OSError]),
  (Site.fn_pn53x_Device___init__, [Cls.OSError, Cls.AssertionError]),
  (Site.fn_pn531_Device___init__, [Cls.OSError, Cls.AssertionError, Cls.clf_pn53x_Chipset_Error]),
  (Site.fn_pn532_Device___init__, [Cls.OSError, Cls.AssertionError, Cls.clf_pn53x_Chipset_Error]),
  (Site.fn_pn533_Device___init__, [Cls.OSError, Cls.AssertionError, Cls.clf_pn53x_Chipset_Error]),
  (Site.fn_rcs956_Device___init__, [Cls.OSError, Cls.AssertionError, Cls.clf_pn53x_Chipset_Error]),
  (Site.fn_acr122_Device___init__, [Cls.OSError, Cls.AssertionError]),
  (Site.fn_pn53x_Device_close, [Cls.OSError]),
  (Site.fn_pn532_Device_close, [Cls.OSError, Cls.AssertionError, Cls.clf_pn53x_Chipset_Error]),
  (Site.fn_rcs380_Device_close, [Cls.OSError, Cls.clf_rcs380_StatusError]),
  (Site.fn_udp_Device_close, [Cls.OSError, Cls.clf_TransmissionError]),
  (Site.fn_pn53x_Device_mute, [Cls.OSError, Cls.AssertionError, Cls.clf_pn53x_Chipset_Error]),
  (Site.fn_rcs380_Device_mute, [Cls.OSError, Cls.clf_rcs380_StatusError]),
  (Site.fn_udp_Device_mute, [Cls.OSError, Cls.clf_TransmissionError]),
  (Site.fn_dep_Target_activate_stack, [Cls.clf_UnsupportedTargetError, Cls.ValueError, Cls.OSError, Cls.AssertionError,
    Cls.clf_pn53x_Chipset_Error, Cls.clf_rcs380_StatusError, Cls.clf_TransmissionError]),
  (Site.fn_dep_Initiator_activate_stack, [Cls.clf_UnsupportedTargetError, Cls.ValueError, Cls.OSError, Cls.AssertionError,
    Cls.clf_pn53x_Chipset_Error, Cls.clf_rcs380_StatusError, Cls.clf_TransmissionError])]

abbrev discoveryOnly : List (Site × List Cls) :=
  pn53xSenseOnlyFns.map (fun f => (f, pn53xSenseOnlyAllowed)) ++ (pn53xListenOnlyFns.map (fun f => (f, pn53xListenOnlyAllowed)) ++
  (rcs380SenseOnlyFns.map (fun f => (f, rcs380SenseOnlyAllowed)) ++ (rcs380ListenOnlyFns.map (fun f => (f, rcs380ListenOnlyAllowed)) ++
  (udpSenseOnlyFns.map (fun f => (f, udpSenseOnlyAllowed)) ++ (udpListenOnlyFns.map (fun f => (f, udpListenOnlyAllowed)) ++
  frontendOnly)))))

/-- classes that never leave -/
def discoveryNever : List (Site × List Cls) := [
  (Site.fn_rcs380_Device_listen_dep, [Cls.clf_rcs380_CommunicationError]),
  (Site.fn_rcs380_Device_listen_tta, [Cls.clf_rcs380_CommunicationError]),
  (Site.fn_rcs380_Device_listen_ttf, [Cls.clf_rcs380_CommunicationError]),
  (Site.fn_rcs380_Device_sense_tta, [Cls.clf_rcs380_CommunicationError]),
  (Site.fn_clf_sense, [Cls.clf_TimeoutError, Cls.clf_BrokenLinkError, Cls.clf_ProtocolError, Cls.clf_rcs380_CommunicationError]),
  (Site.fn_clf_close, [Cls.OSError]),
  (Site.fn_udp_Device_listen_dep, [Cls.clf_TimeoutError, Cls.clf_BrokenLinkError, Cls.clf_ProtocolError]),
  (Site.fn_udp_Device_listen_ttb, [Cls.clf_CommunicationError]),
  (Site.fn_clf_listen, [Cls.clf_TimeoutError, Cls.clf_BrokenLinkError, Cls.clf_ProtocolError]),
  (Site.fn_dep_Target_activate_stack, [Cls.clf_TimeoutError, Cls.clf_BrokenLinkError, Cls.clf_ProtocolError]),
  (Site.fn_dep_Initiator_activate_stack, [Cls.clf_TimeoutError, Cls.clf_BrokenLinkError, Cls.clf_ProtocolError])]

def discoveryCan : List (Site × Cls) := [
  (Site.fn_pn53x_Device_sense_tta, Cls.clf_pn53x_Chipset_Error),
  (Site.fn_pn532_Device_sense_ttf, Cls.clf_pn53x_Chipset_Error),
  (Site.fn_pn53x_Device_listen_dep, Cls.clf_pn53x_Chipset_Error),
  (Site.fn_pn53x_Device_listen_tta, Cls.clf_pn53x_Chipset_Error),
  (Site.fn_rcs380_Device_sense_tta, Cls.clf_rcs380_StatusError),
  (Site.fn_rcs380_Device_listen_dep, Cls.clf_rcs380_StatusError),
  (Site.fn_udp_Device_listen_dep, Cls.clf_TransmissionError),
  (Site.fn_udp_Device_sense_tta, Cls.clf_BrokenLinkError),
  (Site.fn_pn53x_Device_mute, Cls.clf_pn53x_Chipset_Error),
  (Site.fn_rcs380_Device_mute, Cls.clf_rcs380_StatusError),
  (Site.fn_udp_Device_mute, Cls.clf_TransmissionError),
  (Site.fn_clf_sense, Cls.clf_pn53x_Chipset_Error),
  (Site.fn_clf_sense, Cls.clf_rcs380_StatusError),
  (Site.fn_clf_sense, Cls.clf_TransmissionError),
  (Site.fn_clf_sense, Cls.AssertionError),
  (Site.fn_clf_listen, Cls.clf_pn53x_Chipset_Error),
  (Site.fn_clf_listen, Cls.clf_rcs380_StatusError),
  (Site.fn_clf_listen, Cls.clf_TransmissionError),
  (Site.fn_clf_close, Cls.clf_pn53x_Chipset_Error),
  (Site.fn_clf_close, Cls.clf_rcs380_StatusError),
  (Site.fn_clf_close, Cls.clf_TransmissionError),
  (Site.fn_dep_Target_activate_stack, Cls.clf_pn53x_Chipset_Error),
  (Site.fn_dep_Target_activate_stack, Cls.clf_rcs380_StatusError),
  (Site.fn_dep_Initiator_activate_stack, Cls.clf_pn53x_Chipset_Error),
  (Site.fn_clf_connect, Cls.clf_TransmissionError),
  (Site.fn_clf_connect, Cls.clf_pn53x_Chipset_Error),
  (Site.fn_clf_connect, Cls.clf_rcs380_StatusError)]

/-- every statement of this module, checked with one evaluation of the summary table -/
theorem discoveryAll_ok : checkAll world table prog discoveryOnly discoveryNever discoveryCan = true :=
  checkAll_of_checkM tree_ordered (by decide +kernel)
theorem discoveryOnly_ok : checkOnly world table prog discoveryOnly = true := (checkAll_split discoveryAll_ok).1
theorem discoveryNever_ok : checkNever world table prog discoveryNever = true := (checkAll_split discoveryAll_ok).2.1
theorem discoveryCan_ok : checkCan world table prog discoveryCan = true := (checkAll_split discoveryAll_ok).2.2

private theorem mem_mapped {fs : List Site} {al : List Cls} {f : Site} (h : f ∈ fs) : (f, al) ∈ fs.map (fun f => (f, al)) :=
  List.mem_map.mpr ⟨f, h, rfl⟩

/-- **PN53x family** (base class, pn531, pn532, pn533, rcs956, acr122; the Arygon variants inherit): `sense_*` raise
the documented `UnsupportedTargetError` / `ValueError` (refused target or bit rate: `ContactlessFrontend.sense`
handles both), `IOError`, and - outside the documented driver interface - the driver-internal `Chipset.Error`
(`driver_internal_classes_leave_discovery`) and the `AssertionError` of `Chipset.command` / `sense_dep` -/
theorem pn53x_sense_escapes : ∀ f ∈ pn53xSenseOnlyFns, Only f pn53xSenseOnlyAllowed :=
  fun f h => only_all discoveryOnly_ok (f, _) (List.mem_append_left _ (mem_mapped h))
/-- `listen_*` (with `_init_as_target`, `_send_atr_response`, `_send_psl_response`): the same classes -/
theorem pn53x_listen_escapes : ∀ f ∈ pn53xListenOnlyFns, Only f pn53xListenOnlyAllowed :=
  fun f h => only_all discoveryOnly_ok (f, _) (List.mem_append_right _ (List.mem_append_left _ (mem_mapped h)))
/-- **RC-S380**: `UnsupportedTargetError`, `ValueError` / `AssertionError` (argument checks of `listen_*`), `IOError`,
and the driver-internal `StatusError`; the driver-internal `CommunicationError` never leaves
(`rcs380_discovery_no_internal_commerror`) -/
theorem rcs380_sense_escapes : ∀ f ∈ rcs380SenseOnlyFns, Only f rcs380SenseOnlyAllowed :=
  fun f h => only_all discoveryOnly_ok (f, _)
    (List.mem_append_right _ (List.mem_append_right _ (List.mem_append_left _ (mem_mapped h))))
theorem rcs380_listen_escapes : ∀ f ∈ rcs380ListenOnlyFns, Only f rcs380ListenOnlyAllowed :=
  fun f h => only_all discoveryOnly_ok (f, _)
    (List.mem_append_right _ (List.mem_append_right _ (List.mem_append_right _ (List.mem_append_left _ (mem_mapped h)))))
theorem rcs380_discovery_no_internal_commerror : ∀ f ∈ [Site.fn_rcs380_Device_listen_dep, Site.fn_rcs380_Device_listen_tta,
    Site.fn_rcs380_Device_listen_ttf, Site.fn_rcs380_Device_sense_tta],
    NeverEscapes world table prog f [Cls.clf_rcs380_CommunicationError] :=
  never_each discoveryNever_ok (by decide)
/-- **UDP**: `UnsupportedTargetError`, `IOError` of the socket, `AssertionError` (argument checks of `listen_*`), and
`CommunicationError` subclasses: `sense_tta` lets the `TransmissionError` / `BrokenLinkError` of `_send_data` /
`_recv_data` pass, `listen_*` the `TransmissionError` of the short-send check of `_send_data` -/
theorem udp_sense_escapes : ∀ f ∈ udpSenseOnlyFns, Only f udpSenseOnlyAllowed :=
  fun f h => only_all discoveryOnly_ok (f, _) (List.mem_append_right _ (List.mem_append_right _ (List.mem_append_right _
    (List.mem_append_right _ (List.mem_append_left _ (mem_mapped h))))))
theorem udp_listen_escapes : ∀ f ∈ udpListenOnlyFns, Only f udpListenOnlyAllowed :=
  fun f h => only_all discoveryOnly_ok (f, _) (List.mem_append_right _ (List.mem_append_right _ (List.mem_append_right _
    (List.mem_append_right _ (List.mem_append_right _ (List.mem_append_left _ (mem_mapped h)))))))

/-- the frontend and the rest of the driver interface (the lists are in `frontendOnly`): `sense`, `listen`, `close`,
`open`, `__init__`, `device.connect`, the Arygon functions, `Device.__init__` / `close` / `mute` -/
theorem frontend_escapes : ∀ fa ∈ frontendOnly, Only fa.1 fa.2 :=
  fun fa h => only_all discoveryOnly_ok fa (List.mem_append_right _ (List.mem_append_right _ (List.mem_append_right _
    (List.mem_append_right _ (List.mem_append_right _ (List.mem_append_right _ h))))))

/-- **Not guaranteed by the current code** (C13 "driver-internal exception types never escape" holds for `exchange`,
`clf_exchange_escapes`, not for target discovery): the chipset layer's `Chipset.Error` leaves `sense_*` / `listen_*`
/ `mute` of the PN53x family (only `sense_dep`, `sense_ttb` and the RID probe of `sense_tta` have a handler), the
RC-S380 `StatusError` leaves `sense_*` / `listen_*` / `mute`, and with them `ContactlessFrontend.sense()` and
`listen()`, whose handlers name `CommunicationError`, `UnsupportedTargetError` and `ValueError` only.
`udp.Device.mute` lets the `TransmissionError` of its RFOFF datagram through. -/
theorem driver_internal_classes_leave_discovery :
    Can Site.fn_pn53x_Device_sense_tta Cls.clf_pn53x_Chipset_Error ∧ Can Site.fn_pn532_Device_sense_ttf Cls.clf_pn53x_Chipset_Error ∧
    Can Site.fn_pn53x_Device_listen_dep Cls.clf_pn53x_Chipset_Error ∧ Can Site.fn_pn53x_Device_listen_tta Cls.clf_pn53x_Chipset_Error ∧
    Can Site.fn_rcs380_Device_sense_tta Cls.clf_rcs380_StatusError ∧ Can Site.fn_rcs380_Device_listen_dep Cls.clf_rcs380_StatusError ∧
    Can Site.fn_pn53x_Device_mute Cls.clf_pn53x_Chipset_Error ∧ Can Site.fn_rcs380_Device_mute Cls.clf_rcs380_StatusError ∧
    Can Site.fn_udp_Device_mute Cls.clf_TransmissionError := by
  and_intros <;> exact canEscape_of_checkCan tree_ordered discoveryCan_ok (by decide)
/-- ... and reach the application through `sense()` / `listen()` / `close()` -/
theorem clf_sense_listen_internal_classes :
    Can Site.fn_clf_sense Cls.clf_pn53x_Chipset_Error ∧ Can Site.fn_clf_sense Cls.clf_rcs380_StatusError ∧
    Can Site.fn_clf_sense Cls.clf_TransmissionError ∧ Can Site.fn_clf_sense Cls.AssertionError ∧
    Can Site.fn_clf_listen Cls.clf_pn53x_Chipset_Error ∧ Can Site.fn_clf_listen Cls.clf_rcs380_StatusError ∧
    Can Site.fn_clf_close Cls.clf_pn53x_Chipset_Error ∧ Can Site.fn_clf_close Cls.clf_rcs380_StatusError ∧
    Can Site.fn_clf_close Cls.clf_TransmissionError := by
  and_intros <;> exact canEscape_of_checkCan tree_ordered discoveryCan_ok (by decide)
/-- what `sense()` does guarantee: the `CommunicationError` of a driver's `sense_*` is absorbed (a `TransmissionError`
can only come from `udp.Device.mute`); `close()` absorbs `IOError` -/
theorem clf_sense_absorbs_commerror : NeverEscapes world table prog Site.fn_clf_sense
      [Cls.clf_TimeoutError, Cls.clf_BrokenLinkError, Cls.clf_ProtocolError, Cls.clf_rcs380_CommunicationError] ∧
    NeverEscapes world table prog Site.fn_clf_close [Cls.OSError] := by
  and_intros <;> exact neverEscapes_of_checkNever tree_ordered discoveryNever_ok (by decide)
theorem udp_discovery_raises_commerror : Can Site.fn_udp_Device_listen_dep Cls.clf_TransmissionError ∧
    Can Site.fn_udp_Device_sense_tta Cls.clf_BrokenLinkError ∧ Can Site.fn_clf_listen Cls.clf_TransmissionError := by
  and_intros <;> exact canEscape_of_checkCan tree_ordered discoveryCan_ok (by decide)
/-- a driver that waits for activation returns `None` when the peer stops answering: no `TimeoutError`,
`BrokenLinkError`, `ProtocolError` leaves `udp.Device.listen_dep` (no `CommunicationError` at all `listen_ttb`) -
repaired by fixes/C18/0005 - nor `ContactlessFrontend.listen()` for any driver -/
theorem listen_returns_none_when_peer_silent :
    NeverEscapes world table prog Site.fn_udp_Device_listen_dep [Cls.clf_TimeoutError, Cls.clf_BrokenLinkError, Cls.clf_ProtocolError] ∧
    NeverEscapes world table prog Site.fn_udp_Device_listen_ttb [Cls.clf_CommunicationError] ∧
    NeverEscapes world table prog Site.fn_clf_listen [Cls.clf_TimeoutError, Cls.clf_BrokenLinkError, Cls.clf_ProtocolError] := by
  and_intros <;> exact neverEscapes_of_checkNever tree_ordered discoveryNever_ok (by decide)

/-! ### NFC-DEP activation on the real frontend (`connect(llcp=...)`)

`dep.Initiator.activate.stack` / `dep.Target.activate.stack` are `nfc.dep.Initiator.activate` / `Target.activate` in
which `self.clf.sense` / `self.clf.listen` are *calls* of `ContactlessFrontend.sense()` / `listen()` (for a
peer-to-peer target) - and through them of the drivers - instead of assumption sites.  `LogicalLinkController.activate`
calls them, so `clf_connect_escapes` / `clf_connect_no_commerror` (`Props/ExcFlowClf.lean`) need no assumption
about `mac.activate`. -/

/-- what leaves NFC-DEP activation: the lists are in `frontendOnly`; no `TimeoutError`, `BrokenLinkError`,
`ProtocolError` (`ATR_REQ.decode` is given an ATR_REQ whose length `listen()` has checked) -/
theorem dep_activate_stack_escapes :
    NeverEscapes world table prog Site.fn_dep_Target_activate_stack [Cls.clf_TimeoutError, Cls.clf_BrokenLinkError, Cls.clf_ProtocolError] ∧
    NeverEscapes world table prog Site.fn_dep_Initiator_activate_stack [Cls.clf_TimeoutError, Cls.clf_BrokenLinkError, Cls.clf_ProtocolError] := by
  and_intros <;> exact neverEscapes_of_checkNever tree_ordered discoveryNever_ok (by decide)
/-- **Not guaranteed by the current code**: the driver-internal classes and the `TransmissionError` of the UDP driver's
short-send check do leave activation and with it `connect()` (they are in the list of `clf_connect_escapes`) -/
theorem clf_connect_internal_classes : Can Site.fn_dep_Target_activate_stack Cls.clf_pn53x_Chipset_Error ∧
    Can Site.fn_dep_Target_activate_stack Cls.clf_rcs380_StatusError ∧ Can Site.fn_dep_Initiator_activate_stack Cls.clf_pn53x_Chipset_Error ∧
    Can Site.fn_clf_connect Cls.clf_TransmissionError ∧ Can Site.fn_clf_connect Cls.clf_pn53x_Chipset_Error ∧
    Can Site.fn_clf_connect Cls.clf_rcs380_StatusError := by
  and_intros <;> exact canEscape_of_checkCan tree_ordered discoveryCan_ok (by decide)

end NfcVerif.ExcFlowProps
