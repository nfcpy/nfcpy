import NfcVerif.Lemmas.NfcDepOnce
/-!
# C04 - NFC-DEP delivers each payload exactly once, intact, or reports failure

Model: `Model/NfcDep.lean` (Initiator and Target of `nfc/dep.py` composed with a
fault script, `run`).  Lemmas: `Lemmas/NfcDep.lean` (invariants, codec), `NfcDepTx` / `NfcDepTarget` (one
transaction is accepted at most once; phases of the Target), `NfcDepLive` (one transaction recovers; its outcome
against the Target), `NfcDepOnce` (both through the loops: exactly once, recovery).

Proved here, for every fault script of any length, every fuel, every payload list:

* `dep_exactly_once`           what each side's `exchange()` returned is a prefix of what the other side
                               passed in (complete, unmodified, in order, nothing twice) - for EVERY
                               configuration (any DID/NAD/MIU/variant), no hypothesis
* `dep_success_complete`       a run without exception delivered every payload, both ways
* `dep_nothing_after_error`    a Target that raised or returned None never delivers or answers again
* `dep_foreign_did_silent`     a request with a foreign DID is never answered and changes nothing
* `dep_transaction_at_most_once`  one `send_dep_req_recv_dep_res` makes the peer accept the request
                               at most once (generic over the peer; the lemma behind `dep_exactly_once`)
* `dep_frame_bound`            no frame exceeds the LR announced by its receiver
* `dep_error_kind_initiator`   `Initiator.exchange` fails only with CommunicationError classes,
                               `deactivate` never raises (also against an arbitrary peer:
                               `dep_error_kind_initiator_any_peer`)
* `dep_error_kind_target`      `Target.exchange` raises only ProtocolError
* `dep_retransmission_idempotent`  a retransmission, NAK, ATN or corrupted frame never changes
                               a Target that has left `listen`
* `dep_codec_roundtrip`        the PDU-level air is justified: decode (encode p) = p
* `dep_single_fault_recovered`  under every script whose faults are `lose`/`corrupt` and at least four
                               delivered frames apart nothing fails and everything is delivered
* counter-examples for the code as found (F20, F26, F27, F40, F41) and the matching
  witnesses for the repaired behaviour.
-/
namespace NfcVerif.C04
open NfcVerif NfcVerif.NfcDep

/-- configuration as computed by the two `activate()` methods -/
def cAct (v : Variant) (b106 : Bool) (lri lrt : Nat) (did nad : Option Nat) : Cfg :=
  ⟨b106, did, nad, tDidOf did, iMiu lrt did nad, tMiu v.f20 lri (tDidOf did), v⟩

/-- small information units, for short witnesses -/
def cSmall (v : Variant) (did : Option Nat) : Cfg := ⟨true, did, none, did, 4, 4, v⟩

/-- Every frame that crosses the air in any run - any fault script, any number of
exchanges, chaining, retransmissions, ATN, NAK, RTOX, DSL/RLS - carries at most
`LRt` transport bytes when sent by the Initiator and at most `LRi` when sent by the
Target; for all `lri`, `lrt`, DID, NAD, both framings.  (Target MIU as repaired, F20.) -/
theorem dep_frame_bound (c : Cfg) (lri lrt : Nat)
    (hi : c.imiu = iMiu lrt c.idid c.inad) (ht : c.tmiu = tMiu true lri c.tdid)
    (fuel : Nat) (script : List Fault) (rel : Nat) (pi pt : List Bytes) :
    ∀ e ∈ (run c fuel script rel pi pt).wire,
      (e.req = true → e.pdu.tlen ≤ lrTable lrt) ∧ (e.req = false → e.pdu.tlen ≤ lrTable lri) := by
  have b1 := lrTable_bounds lrt
  have b2 := lrTable_bounds lri
  have f1 := flag_le c.idid
  have f2 := flag_le c.inad
  have f3 := flag_le c.tdid
  exact (run_inv c (lrTable lrt) (lrTable lri) b1.2 (by omega)
    (by rw [hi]; unfold iMiu; omega) (by rw [ht]; unfold tMiu; simp; omega) fuel script rel pi pt).1

example : (cAct .repaired true 0 2 (some 3) (some 5)).tmiu = tMiu true 0 (cAct .repaired true 0 2 (some 3) (some 5)).tdid := rfl

/-- As found (F20) the Target ignores the DID byte: 65 transport bytes although LRi = 64. -/
theorem dep_frame_bound_target_counterexample :
    ∃ e ∈ (run (cAct .asFound true 0 0 (some 3) none) 50 [] 0 [[1]] [List.replicate 61 0]).wire,
      e.req = false ∧ e.pdu.tlen > lrTable 0 := by
  decide +kernel

/-- In any run with non-empty payloads every exception that leaves
`Initiator.exchange` is a `CommunicationError` class (`isComm`: Timeout-,
Transmission-, ProtocolError ...; `outOfFuel` is the model's loop bound, not a
Python exception) and `Initiator.deactivate` raises nothing. -/
theorem dep_error_kind_initiator (c : Cfg)
    (hm : c.imiu + 3 + flag c.idid 1 + flag c.inad 1 ≤ 254) (ht : c.tmiu + 3 + flag c.tdid 1 ≤ 254)
    (fuel : Nat) (script : List Fault) (rel : Nat) (pi pt : List Bytes) (hp : ∀ p ∈ pi, p ≠ []) :
    (∀ e, (run c fuel script rel pi pt).errI = some e → isComm e = true ∨ e = .outOfFuel)
    ∧ (run c fuel script rel pi pt).errD = none := by
  have h := run_inv c 254 254 (by omega) (by omega) hm ht fuel script rel pi pt
  exact ⟨fun e he => h.2.1 hp e he, h.2.2⟩

example : (cAct .repaired true 3 3 (some 3) (some 5)).imiu + 3 + flag (some 3) 1 + flag (some 5) 1 ≤ 254 := by decide

/-- The same for the Initiator against an ARBITRARY peer: any responder state machine `P`, any state,
any answers (RTOX with or without its data byte, NAK, foreign PDUs, silence), any fault script -
the only exceptions leaving `Initiator.exchange` are `CommunicationError` classes.  No hypothesis on
the peer (a timeout extension without RTOX value is a ProtocolError since /repo 8ba1bdd). -/
theorem dep_error_kind_initiator_any_peer {σ : Type} (P : Peer σ) (c : Cfg)
    (hm : c.imiu + 3 + flag c.idid 1 + flag c.inad 1 ≤ 254)
    (fuel : Nat) (script : List Fault) (s0 : σ) (pni : Nat) (p : Bytes) (hp : p ≠ []) :
    Safe (fun e => isComm e = true ∨ e = .outOfFuel)
      (exchange P c fuel { script := script, peer := s0, expired := false, wire := [] } pni p).2.2 := by
  let S := mkSpec P c (fun _ => True) (fun _ => True) 254 (by omega) (by omega) hm
    (fun _ _ _ => ⟨trivial, fun _ _ => trivial⟩)
  exact (exchange_spec S fuel _ pni p ⟨trivial, fun e h => by cases h⟩).2 hp

/-- non-vacuity: a responder that answers the first request with an RTOX PDU without data byte -/
example : (runScripted (cSmall .repaired none) 50 [] [some (.dep fTOX 0 none none [])] [1, 2]).2 = .error .protocol := by
  decide +kernel

/-- `Target.exchange` raises nothing but `ProtocolError` (it may also return None after
DSL/RLS, or wait): for every run with non-empty Target payloads, with the first-exchange
deselect handled as repaired (F40) and an information unit that fits the length byte. -/
theorem dep_error_kind_target (c : Cfg)
    (hm : c.imiu + 3 + flag c.idid 1 + flag c.inad 1 ≤ 254) (ht : c.tmiu + 3 + flag c.tdid 1 ≤ 254)
    (hf : c.v.f40 = true)
    (fuel : Nat) (script : List Fault) (rel : Nat) (pi pt : List Bytes) (hpt : ∀ p ∈ pt, p ≠ []) :
    ∀ e, (run c fuel script rel pi pt).t.status = .raised e → e = .protocol := by
  exact (run_spec c (fun t => TInv 254 t ∧ TErrInv t) (TOut 254) 254 (by omega) (by omega) hm
    (fun s rx h => ⟨⟨(tRx_inv c 254 ht s rx h.1).1, tRx_err c ht hf s rx h.2⟩, (tRx_inv c 254 ht s rx h.1).2⟩)
    fuel script rel pi pt ⟨nofun, nofun, hpt⟩).1.2.1

example : (cAct .repaired true 3 3 (some 3) none).tmiu + 3 + flag (cAct .repaired true 3 3 (some 3) none).tdid 1 ≤ 254 := by decide

/-- As found: (F40) the first request is lost, the Initiator's deadline expires, it releases the
Target, and the first `Target.exchange` raises AttributeError; (F20) with LRi = 254 and a DID the
Target's frame needs a length byte of 256 and `struct.error` leaves `Target.exchange`. -/
theorem dep_error_kind_target_counterexample :
    (run (cSmall .asFound none) 50 [.l, .d, .d, .x] 2 [[1, 2]] [[0x81]]).t.status = .raised .attr ∧
    (run (cAct .asFound true 3 3 (some 3) none) 50 [] 0 [[1]] [List.replicate 251 0]).t.status = .raised .struct := by
  decide +kernel

/-- the same inputs on the repaired behaviour: None after the release; the payload is chained -/
example : (run (cSmall .repaired none) 50 [.l, .d, .d, .x] 2 [[1, 2]] [[0x81]]).t.status = .retNone ∧
    (run (cAct .repaired true 3 3 (some 3) none) 50 [] 0 [[1]] [List.replicate 251 0]).gotI = [List.replicate 251 0] := by
  decide +kernel

/-- Once the Target has left `listen`, a request with the PNI it accepted last, a NAK, an ATN
or a corrupted frame leaves its whole state (PNI, reassembly buffer, delivered payloads,
pending response) unchanged: retransmissions caused by any fault never deliver a payload twice. -/
theorem dep_retransmission_idempotent (c : Cfg) (t : TState) (hl : t.loc ≠ .listen) (fmt pni : Nat)
    (did nad : Option Nat) (data : Bytes)
    (h : fmt = fATN ∨ fmt = fNAK ∨ (fmt ≠ fTOX ∧ t.pni = some pni)) :
    (tRx c t (.frame (.dep fmt pni did nad data))).1 = t ∧ (tRx c t .corrupt).1 = t := by
  refine ⟨?_, rfl⟩
  unfold tRx
  dsimp only
  split
  · rfl
  · split
    · rename_i hx _; exact absurd hx hl
    · rename_i hx _; exact absurd hx hl
    · unfold tRx.tRxActive
      split
      · rfl
      · dsimp only
        rcases h with h | h | ⟨h1, h2⟩
        · simp [h]
        · simp [h, fNAK, fATN]
        · simp only [h1, h2, if_true, if_false]
          split
          · rfl
          · split <;> rfl

example : (⟨some 2, .receiving [1], none, [], [], .running⟩ : TState).loc ≠ .listen := by decide

/-- every DEP/DSL/RLS PDU with in-range header fields that `encode_frame` accepts is decoded
by the receiver's `decode_frame` to the same PDU (both roles, both framings): the state
machines may exchange PDUs instead of bytes. -/
theorem dep_codec_roundtrip (b106 req : Bool) (p : Pdu) (hw : p.WF) (f : Bytes)
    (h : encodeFrame b106 req p = .ok f) : decodeFrame b106 req f = .ok p := by
  unfold encodeFrame at h
  dsimp only at h
  split at h <;> cases h
  cases p with
  | dep fmt pni did nad data =>
    exact (decodeFrame_code b106 req 6 _).trans (decodeDep_encode fmt pni did nad data hw.2)
  | dsl did =>
    exact (decodeFrame_code b106 req 8 (optByte did)).trans (by cases did <;> rfl)
  | rls did =>
    exact (decodeFrame_code b106 req 10 (optByte did)).trans (by cases did <;> rfl)
  | atr _ => exact absurd hw id
  | psl _ => exact absurd hw id

example : (Pdu.dep fMORE 3 (some 3) (some 5) [1, 2, 3]).WF ∧
    encodeFrame true true (.dep fMORE 3 (some 3) (some 5) [1, 2, 3]) = .ok [0xF0, 9, 0xD4, 6, 0x1F, 3, 5, 1, 2, 3] :=
  ⟨⟨by decide, by decide⟩, by decide⟩

/-- **Safety, full.**  For every configuration (bit rate framing, DID and NAD on either side, equal or
not, any information unit sizes, any variant of the known defects), every fault script
`deliver/lose/corrupt/expire` of any length, every fuel, every release mode and all payload lists: the
payloads returned so far by `Target.exchange` are a prefix of the payloads the Initiator passed to
`Initiator.exchange`, and the payloads returned by `Initiator.exchange` are a prefix of those the Target
passed in.  List prefix on whole payloads = each one complete, unmodified, in order, none twice, none
invented; after an exception the application stops, so nothing follows an error.  Chaining both ways,
PNI wrap-around (mod 4), retransmission, ATN, NAK are all covered; the Target never sends RTOX. -/
theorem dep_exactly_once (c : Cfg) (fuel : Nat) (script : List Fault) (rel : Nat) (pi pt : List Bytes) :
    (run c fuel script rel pi pt).t.got <+: pi ∧ (run c fuel script rel pi pt).gotI <+: pt := by
  by_cases hdid : c.tdid = c.idid
  · exact ⟨(run_sync c hdid fuel script rel pi pt).1, (run_sync c hdid fuel script rel pi pt).2.1⟩
  · have := run_mismatch c hdid fuel script rel pi pt
    rw [this.1, this.2]; simp

/-- non-vacuity: a run with chaining both ways, two faults, PNI wrap - both lists delivered -/
example : (run (cSmall .repaired (some 3)) 50 [.d, .l, .d, .d, .d, .d, .d, .c] 2
      [[1, 2, 3, 4, 5, 6], [7], [8], [9], [10]] [[0x81, 0x82, 0x83, 0x84, 0x85], [0x86], [0x87], [0x88], [0x89]]).t.got
    = [[1, 2, 3, 4, 5, 6], [7], [8], [9], [10]] := by
  decide +kernel

/-- When the DIDs agree and `Initiator.exchange` never raised, everything was delivered: the Target got
exactly the Initiator's list and the Initiator got the matching answers. -/
theorem dep_success_complete (c : Cfg) (hdid : c.tdid = c.idid) (fuel : Nat) (script : List Fault) (rel : Nat)
    (pi pt : List Bytes) (hok : (run c fuel script rel pi pt).errI = none) :
    (run c fuel script rel pi pt).t.got = pi ∧ (run c fuel script rel pi pt).gotI = pt.take pi.length := by
  obtain ⟨-, ⟨rest, hr⟩, hc⟩ := run_sync c hdid fuel script rel pi pt
  obtain ⟨hg, hl⟩ := hc hok
  refine ⟨hg, ?_⟩
  generalize (run c fuel script rel pi pt).gotI = gI at hr hl ⊢
  subst hr
  rw [← hl]
  exact (List.take_left' rfl).symm

example : (run (cSmall .repaired none) 50 [.d, .c] 0 [[1, 2, 3, 4, 5, 6]] [[0x81]]).errI = none := by decide +kernel

/-- After `Target.exchange` raised, returned None or the application stopped, no frame changes the
Target or is answered: nothing is delivered after an error. -/
theorem dep_nothing_after_error (c : Cfg) (t : TState) (h : t.status ≠ .running) (rx : Rx) :
    tRx c t rx = (t, none) := by
  cases rx with
  | corrupt => rfl
  | frame p => simp [tRx, h]

example : (⟨some 1, .receiving [], none, [], [[1]], .raised .protocol⟩ : TState).status ≠ .running := by decide

/-- **Foreign DID is met with silence.**  A request of any kind (DEP INF/ACK/NAK/ATN/RTOX, DSL, RLS, PSL,
ATR) whose DID differs from the Target's - another DID, no DID while the Target has one, a DID while
the Target has none - is never answered: no saved response, no payload, no PNI leaks to a frame addressed
to another target; and the Target state (PNI, reassembly buffer, delivered and pending payloads, saved
response, status) is unchanged, for every state.  (Only `clf.listen`, which in the simulator returns with
the first DEP_REQ whatever its DID, moves from `listen` to `first`.) -/
theorem dep_foreign_did_silent (c : Cfg) (t : TState) (req : Pdu) (h : req.didAttr ≠ c.tdid) :
    (tRx c t (.frame req)).2 = none ∧
    ((tRx c t (.frame req)).1 = t ∨ (t.loc = .listen ∧ (tRx c t (.frame req)).1 = { t with loc := .first })) :=
  tRx_foreign c t req h

example : (Pdu.dep fINF 1 (some 7) none [0x27]).didAttr ≠ (cSmall .repaired none).tdid := by decide

/-- As found (F41) a repeated RTOX request - the Initiator sends it again when the Target's next
information PDU was lost after a timeout extension - is handed to `Target.exchange` as a new request:
with packet number 3 the check `(pni + 1) & 3 == req.pni` passes and the RTOX value `02` is returned
to the application as a received payload that nobody sent.  Repaired: the saved response is sent again
and nothing changes.  (The Target application of the composed model never requests timeout extensions,
so `dep_exactly_once` is not affected; the oracle runs the scenario on the real code.) -/
theorem dep_rtox_request_counterexample :
    let t : TState := ⟨some 3, .sending [0x84], some (.dep fINF 3 none none [0x84]), [[0x85]], [[1], [2], [3], [4]], .running⟩
    (tRx (cSmall .asFound none) t (.frame (.dep fTOX 0 none none [2]))).1.got = [[1], [2], [3], [4], [2]]
    ∧ (tRx (cSmall .repaired none) t (.frame (.dep fTOX 0 none none [2]))).2 = some (.dep fINF 3 none none [0x84])
    ∧ (tRx (cSmall .repaired none) t (.frame (.dep fTOX 0 none none [2]))).1.got = [[1], [2], [3], [4]]
    ∧ (tRx (cSmall .repaired none) t (.frame (.dep fTOX 0 none none [2]))).1.status = .running := by
  decide +kernel

/-- The lemma behind `dep_exactly_once`, for ANY peer state machine `P`: if `A` (request not yet
accepted) is closed under ATN and accepting `req` leads from `A` to `B` with answer `r1`, and in `B`
a retransmitted `req`, a NAK and an ATN keep `B` and return `r1` or nothing, then for every fault script
and fuel `transact` (= `send_dep_req_recv_dep_res` + RTOX handling) ends in `A` without a result or
in `B`, and a result is exactly `r1`: the request is accepted at most once and the answer is the
answer to this request. -/
theorem dep_transaction_at_most_once {σ : Type} (P : Peer σ) (c : Cfg) (A B : σ → Prop) (r1 : Option Pdu)
    (pni : Nat) (req : Pdu) (H : TXHyp P c A B r1 pni req)
    (hnt : ∀ res, r1 = some res → res.fmt? ≠ some fTOX) (fuel : Nat) (a : Air σ) (h : A a.peer) :
    TXPost A B r1 (transact P c fuel pni a req) :=
  transact_tx H hnt fuel a h

/-- **Recovery, full.**  `sparse K 0 script`: the script contains only `lose`/`corrupt` faults (no
expiry) and after every fault the next `K` frames are delivered.  For every `K ≥ 4` - one fault per
recovery, any number of faults in the conversation, at any frame position: request, response, ATN
exchange excluded only by the spacing - and for every configuration with the same DID on both sides,
ATN carrying the DID and the ACK accepted after NAK (as repaired, F26/F27), frames that fit the length
byte and non-zero information units: no exception is raised, `Target.exchange` returned exactly the
Initiator's payloads and the Initiator got the matching answers.  Any payload sizes (chaining both
ways), any number of exchanges (PNI wraps); `F + 2` is the model's loop bound, payloads `≤ F + 1`. -/
theorem dep_single_fault_recovered (c : Cfg) (L : LiveCfg c) (K F : Nat) (hK : 4 ≤ K) (script : List Fault) (rel : Nat)
    (pi pt : List Bytes) (hs : sparse K 0 script = true) (hlen : pi.length ≤ pt.length)
    (hpi : ∀ p ∈ pi, p ≠ [] ∧ p.length ≤ F + 1) (hpt : ∀ p ∈ pt, p ≠ [] ∧ p.length ≤ F + 1) :
    (run c (F + 2) script rel pi pt).errI = none
    ∧ (run c (F + 2) script rel pi pt).t.got = pi
    ∧ (run c (F + 2) script rel pi pt).gotI = pt.take pi.length := by
  have h := run_live c L K F hK script rel pi pt hs hlen hpi hpt
  exact ⟨h, dep_success_complete c L.did (F + 2) script rel pi pt h⟩

/-- non-vacuity: an activated configuration with DID and NAD, a script with three isolated faults -/
example : LiveCfg (cAct .repaired true 0 2 (some 3) (some 5)) ∧
    sparse 4 0 [.l, .d, .d, .d, .d, .c, .d, .d, .d, .d, .d, .l] = true :=
  ⟨⟨rfl, rfl, rfl, by decide, by decide, by decide, by decide⟩, by decide⟩

/-- the statement specialised to the small configuration, used for the as-found counter-example -/
def SingleFaultStatement (v : Variant) : Prop :=
  ∀ (did : Option Nat) (F : Nat) (script : List Fault) (pi pt : List Bytes),
    sparse 4 0 script = true → pi.length ≤ pt.length →
    (∀ p ∈ pi, p ≠ [] ∧ p.length ≤ F + 1) → (∀ p ∈ pt, p ≠ [] ∧ p.length ≤ F + 1) →
    (run (cSmall v did) (F + 2) script 0 pi pt).errI = none

theorem dep_single_fault_statement_repaired : SingleFaultStatement .repaired := by
  intro did F script pi pt hs hlen hpi hpt
  have L : LiveCfg (cSmall .repaired did) :=
    ⟨rfl, rfl, rfl, by cases did <;> simp [cSmall, flag], by cases did <;> simp [cSmall, flag], by simp [cSmall], by simp [cSmall]⟩
  exact run_live (cSmall .repaired did) L 4 F (by decide) script 0 pi pt hs hlen hpi hpt

/-- As found (F26) one lost frame is never recovered when a DID is used ... -/
theorem dep_no_recovery_with_did_counterexample : ¬ SingleFaultStatement .asFound := by
  intro h
  have := h (some 3) 48 [.l] [[1, 2]] [[0x81]] (by decide) (by decide) (by decide) (by decide)
  revert this
  decide +kernel

/-- ... and (F27) a corrupted ACK during Initiator chaining is fatal even without DID. -/
theorem dep_ack_retransmission_counterexample :
    (run (cSmall .asFound none) 50 [.d, .c] 0 [[1, 2, 3, 4, 5, 6]] [[0x81]]).errI = some .protocol := by
  decide +kernel

/-- the same scripts on the repaired behaviour: recovered, delivered once and intact -/
example : (run (cSmall .repaired (some 3)) 50 [.l] 0 [[1, 2]] [[0x81]]).errI = none ∧
    (run (cSmall .repaired none) 50 [.d, .c] 0 [[1, 2, 3, 4, 5, 6]] [[0x81]]).t.got = [[1, 2, 3, 4, 5, 6]] ∧
    (run (cSmall .repaired none) 50 [.d, .c] 0 [[1, 2, 3, 4, 5, 6]] [[0x81]]).gotI = [[0x81]] := by
  decide +kernel

end NfcVerif.C04
