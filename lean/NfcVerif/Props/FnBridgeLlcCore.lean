import NfcVerif.Lemmas.FnBridgeLlcCore
import NfcVerif.Lemmas.FnBridgeTco
import NfcVerif.Gen.FnLlc
import NfcVerif.Model.Collect
import NfcVerif.Model.Term
/-!
# Bridge theorems, group LlcCore (`nfc/llcp/llc.py`, `nfc/llcp/tco.py` -> `Gen/FnLlcCore.lean` ->
`Model/FnLlcCoreRef.lean`, `Model/Collect.lean`, `Model/Term.lean`)

Loops and method bodies of the link controller and the transmission control objects (C05, C09, C10, C17,
C18).  Every `*_bridge` theorem holds for all inputs; `gen_*` theorems restate a property-relevant fact for the
regenerated definitions.  Effectful calls into other objects are parameters of the regenerated functions
(`Py Unit` / `Py (Option Int)` values and functions); the theorems quantify over them, so an exception
injected into one of them shows whether - and in which order - it is reached.

Encodings: PDU / socket objects are int tokens (0 = an object whose truth value is false), the condition
variables of a data link connection are `Term.Cv`.
-/
namespace NfcVerif.FnBridge.LlcCore
open NfcVerif NfcVerif.PyFn NfcVerif.FnLlcCoreRef

/-! ## `ServiceDiscovery.dequeue` (C10) -/

/-- an SNL PDU is built iff a response or a request is pending (the test of `Collect.Sd.dequeue`) -/
theorem sd_has_work_bridge (s : Collect.Sd) :
    Gen.Fn.lc_sd_has_work s.sdres.length s.sdreq.length = decide (s.sdres ≠ [] ∨ s.sdreq ≠ []) := by
  unfold Gen.Fn.lc_sd_has_work
  cases s.sdres <;> cases s.sdreq <;> simp <;> omega

example : Gen.Fn.lc_sd_has_work 0 2 = true := by decide

/-- one turn of the response loop (`llc_sd_res_cond` of group Llc is the loop condition): the popped answer goes
to the end of the PDU's list and four octets are paid -/
theorem sd_res_bridge (x : Int × Int) (q out : List (Int × Int)) (m : Int) :
    takeRes (x :: q) m out =
      if Gen.Fn.llc_sd_res_cond m then
        takeRes q (Gen.Fn.lc_sd_res_body m x out).1 (Gen.Fn.lc_sd_res_body m x out).2
      else (m, out, x :: q) := by
  unfold Gen.Fn.llc_sd_res_cond Gen.Fn.lc_sd_res_body
  py_nat
  rfl

example : takeRes [(1, 4), (2, 16)] 7 [] = (3, [(1, 4)], [(2, 16)]) := by decide

/-- the request loop makes one turn per request queued at its start -/
theorem sd_req_range_bridge (q : List (Int × Bytes)) : (Gen.Fn.lc_sd_req_range q).length = q.length := by
  unfold Gen.Fn.lc_sd_req_range PyFn.range
  simp [len_eq]

/-- one turn of the request loop: the regenerated body computes budget and PDU contents of the reference loop
(`llc_sd_req_skip` of group Llc is the test whose outcome also decides between `rotate(-1)` and `popleft()` - the
queue operations the cut leaves to `takeReq`).  A request taken is PAID: the budget of the next turn is smaller -/
theorem sd_req_bridge (k : Nat) (x : Int × Bytes) (q out : List (Int × Bytes)) (m : Int) :
    takeReq (k + 1) (x :: q) m out =
      if Gen.Fn.llc_sd_req_skip m x.2 then
        takeReq k (q ++ [x]) (Gen.Fn.lc_sd_req_body m x x out).1 (Gen.Fn.lc_sd_req_body m x x out).2
      else takeReq k q (Gen.Fn.lc_sd_req_body m x x out).1 (Gen.Fn.lc_sd_req_body m x x out).2 := by
  obtain ⟨tid, name⟩ := x
  unfold Gen.Fn.llc_sd_req_skip Gen.Fn.lc_sd_req_body
  simp only [takeReq, sdreqSize, len_eq]
  by_cases h : 3 + (name.length : Int) > m <;> simp [h]

example : takeReq 2 [(1, [1, 2, 3, 4]), (2, [5])] 6 [] = (2, [(2, [5])], [(1, [1, 2, 3, 4])]) := by decide

/-- the reference loop is the loop of `Model/Collect.lean` (which keeps name lengths and counts octets) -/
theorem takeReq_collect : ∀ (k : Nat) (q : List (Int × Bytes)) (m : Int) (out : List (Int × Bytes)) (acc : Nat),
    Collect.takeSdreq k (q.map reqEnc) m acc =
      (acc + (reqSum (takeReq k q m out).2.1 - reqSum out).toNat, (takeReq k q m out).2.2.map reqEnc,
       (takeReq k q m out).1) := by
  intro k
  induction k with
  | zero => intro q m out acc; simp [Collect.takeSdreq, takeReq]
  | succ k ih =>
    intro q m out acc
    cases q with
    | nil => simp [Collect.takeSdreq, takeReq]
    | cons x q =>
      simp only [List.map_cons, Collect.takeSdreq, takeReq, reqEnc, sdreqSize]
      by_cases h : 3 + (x.2.length : Int) > m
      · simp only [h, if_true]
        have := ih (q ++ [x]) m out acc
        simp only [List.map_append, List.map_cons, List.map_nil, reqEnc] at this
        exact this
      · simp only [h, if_false]
        have := ih q (m - (3 + (x.2.length : Int))) (out ++ [x]) (acc + (3 + x.2.length))
        rw [this]
        have b := takeReq_inv k q (m - sdreqSize x.2) (out ++ [x])
        have a := b.1
        rw [reqSum_append] at a
        have e : reqSum [x] = 3 + (x.2.length : Int) := by simp [reqSum, sdreqSize]
        simp only [sdreqSize] at a b ⊢
        have hle := b.2.2
        congr 1
        rw [reqSum_append, e]
        omega

/-- **C10** restated for the regenerated loop bodies (through `sd_res_bridge` / `sd_req_bridge`): the SNL PDU built
from a budget `miu ≥ 0` has an information field of at most `miu` octets -/
theorem gen_snl_within (sdres : List (Int × Int)) (sdreq : List (Int × Bytes)) (miu : Int) (h : 0 ≤ miu) :
    snlInfo (buildSnl sdres sdreq miu).1 (buildSnl sdres sdreq miu).2 ≤ miu :=
  buildSnl_within sdres sdreq miu h

example : buildSnl [(1, 4), (2, 16)] [(3, [1, 2, 3, 4]), (4, [5])] 12 = ([(1, 4), (2, 16)], [(4, [5])]) := by decide

/-! ## `LogicalLinkController.collect`: the aggregation loop (C10) -/

/-- the whole `while miu_size >= 0` loop with its inner pass is the reference `aggLoop`; the fuel bounds the
number of passes as in the reference (no Python run produces `outOfFuel`: every productive pass shrinks a queue) -/
theorem collect_agg_bridge (E : AggEnv) (saps : List Int) (fuel : Nat) (m : Int) (agg : List Int) :
    Gen.Fn.lc_collect_agg fuel m E.icv agg saps E.sendMiu E.doEnc E.enc E.agfLen E.deq =
      aggLoop E saps fuel (m, agg) := by
  unfold Gen.Fn.lc_collect_agg
  show (PyFn.whileC (ρ := Empty) fuel (m, agg) loopCond (loopBody E saps) >>= _) = _
  rw [whileC_loop]
  cases aggLoop E saps fuel (m, agg) with
  | error e => rfl
  | ok r => rfl

/-- **C10** restated: the regenerated aggregation never asks a service access point for a PDU with negative
room - whatever the access points would hand out then (a DM, an RR / RNR, an empty SNL PDU: the dequeue paths
that do not look at the size) cannot end up in the aggregate -/
theorem gen_collect_room (E : AggEnv) (d : Int → Int → Option Int) (h : ∀ m i, 0 ≤ m → E.deq m i = d m i)
    (saps : List Int) (fuel : Nat) (m : Int) (agg : List Int) :
    Gen.Fn.lc_collect_agg fuel m E.icv agg saps E.sendMiu E.doEnc E.enc E.agfLen E.deq =
      Gen.Fn.lc_collect_agg fuel m E.icv agg saps E.sendMiu E.doEnc E.enc E.agfLen d := by
  rw [collect_agg_bridge, aggLoop_room E d h saps fuel m agg]
  exact (collect_agg_bridge (withDeq E d) saps fuel m agg).symm

/-- two access points, room for one more PDU of 10 octets: the second one is not asked any more -/
example : Gen.Fn.lc_collect_agg 5 20 0 [7] [32, 33] 30 false id (fun l => 12 * l.length) (fun m _ => if m ≥ 0 then some 9 else some 5)
    = .ok (-9, [7, 9, 9]) := by decide

/-! ## `TransmissionControlObject` and the connection-less sockets (C10, C17) -/

/-- behind the pop: the PDU is handed out iff it fits (`tcoFit`: no budget = no test, budget 0 = test) -/
theorem tco_dequeue_tail_bridge (miu : Option Int) (icv : Int) (notify : Bool) (tok : Int) (name : String) (len hdr : Int) :
    Gen.Fn.lc_tco_dequeue_tail miu icv notify tok name len hdr =
      if tcoFit miu icv (decide (name = "UI" ∨ name = "I")) len hdr then some tok else none := by
  unfold Gen.Fn.lc_tco_dequeue_tail tcoFit
  cases miu with
  | none => simp
  | some m =>
    by_cases hn : name = "UI" ∨ name = "I"
    · simp only [hn, if_true, decide_true]
      by_cases h : len + icv - hdr > m
      · have : ¬ len + icv - hdr ≤ m := by omega
        simp [h, this]
      · have : len + icv - hdr ≤ m := by omega
        simp [h, this]
    · simp only [hn, if_false, decide_false]
      by_cases h : len - hdr > m
      · have : ¬ len - hdr ≤ m := by omega
        simp [h, this]
      · have : len - hdr ≤ m := by omega
        simp [h, this]

/-- against the model of C10: `Collect.tcoDequeue` leaves the head queued exactly when the regenerated tail says None -/
theorem tco_dequeue_collect (p : Collect.QPdu) (rest : List Collect.QPdu) (miu : Option Int) (icv : Nat) (notify : Bool) :
    Collect.tcoDequeue (p :: rest) miu icv =
      match Gen.Fn.lc_tco_dequeue_tail miu icv notify 1 (Tco.kindName p.kind) p.len p.hdr with
      | none => (none, p :: rest)
      | some _ => (some p, rest) := by
  cases miu with
  | none => rfl
  | some m =>
    rw [Tco.tcoDequeue_some]
    unfold Gen.Fn.lc_tco_dequeue_tail
    simp only [decide_eq_true_eq]
    split <;> split <;> simp only [*]

/-- **C10** restated: a remaining room of exactly 0 still restricts - only an empty information field passes -/
theorem gen_dequeue_zero_room (icv : Int) (notify : Bool) (tok : Int) (name : String) (len hdr : Int)
    (h : Gen.Fn.lc_tco_dequeue_tail (some 0) icv notify tok name len hdr = some tok) : len - hdr ≤ 0 ∨ (len + icv - hdr ≤ 0) := by
  rw [tco_dequeue_tail_bridge] at h
  unfold tcoFit at h
  by_cases hn : name = "UI" ∨ name = "I"
  · simp only [hn, decide_true, if_true] at h
    by_cases hc : len + icv - hdr ≤ 0
    · exact Or.inr hc
    · simp [hc] at h
  · simp only [hn, decide_false] at h
    by_cases hc : len - hdr ≤ 0
    · exact Or.inl hc
    · simp [hc] at h

example : Gen.Fn.lc_tco_dequeue_tail (some 0) 0 true 5 "UI" 122 2 = none := by decide
example : Gen.Fn.lc_tco_dequeue_tail none 0 true 5 "UI" 122 2 = some 5 := by decide

/-- `socket.bind(addr)` stores and returns the address -/
theorem tco_bind_bridge (addr cur : Option Int) : Gen.Fn.lc_tco_bind addr cur = addr := rfl

/-- `poll` of the connection-less sockets accepts `recv` / `send` only -/
theorem raw_poll_check_bridge (event : String) (sh : Bool) : Gen.Fn.lc_raw_poll_check event sh = pollCheck event sh := by
  unfold Gen.Fn.lc_raw_poll_check pollCheck
  py_nat
  rfl

theorem ldl_poll_check_bridge (event : String) (sh : Bool) : Gen.Fn.lc_ldl_poll_check event sh = pollCheck event sh :=
  raw_poll_check_bridge event sh

example : Gen.Fn.lc_raw_poll_check "acks" false = .error (.llcp 22) := by decide

theorem raw_recv_bridge (sh : Bool) (got : Py (Option Int)) : Gen.Fn.lc_raw_recv sh got = rawRecv sh got := by
  unfold Gen.Fn.lc_raw_recv rawRecv wrapExc pipeErr
  cases sh with
  | true => simp [ESHUTDOWN]
  | false =>
    cases got with
    | error e => by_cases h : e = Exc.index <;> simp [h, EPIPE]
    | ok v => simp

theorem ldl_connect_bridge (dest : Int) (sh : Bool) : Gen.Fn.lc_ldl_connect dest sh = ldlConnect dest sh := by
  unfold Gen.Fn.lc_ldl_connect ldlConnect
  py_nat
  rfl

/-- token of the popped object: `none` stays None, a PDU is a true object -/
def tok (o : Option Unit) : Option Int := o.map fun _ => 1

/-- `LogicalDataLink.recvfrom()`: payload and source address of the received datagram as they are -/
theorem ldl_recvfrom_bridge (sh : Bool) (got : Py (Option Unit)) (data : Bytes) (ssap : Int) :
    Gen.Fn.lc_ldl_recvfrom sh data ssap (got.map tok) = recvfrom sh got (data, ssap) := by
  unfold Gen.Fn.lc_ldl_recvfrom recvfrom wrapExc pipeErr tok
  cases sh with
  | true => simp [ESHUTDOWN]
  | false =>
    cases got with
    | error e => by_cases h : e = Exc.index <;> simp [Except.map, h, EPIPE]
    | ok v =>
      cases v with
      | none => simp [Except.map]
      | some u => simp [Except.map]

/-- **C17** restated: a zero-length datagram is returned as `(b'', ssap)` - payload and source address intact -/
theorem gen_empty_datagram (ssap : Int) :
    Gen.Fn.lc_ldl_recvfrom false [] ssap (.ok (some 1)) = .ok (some [], some ssap) := by
  have := ldl_recvfrom_bridge false (.ok (some ())) [] ssap
  simpa [Except.map, tok, recvfrom] using this

example : Gen.Fn.lc_ldl_recvfrom false [1, 2] 32 (.error .index) = .error (.llcp 32) := by decide

/-! ## `DataLinkConnection` (C05, C09) -/

theorem dlc_close_cond_bridge (est bound : Bool) : Gen.Fn.lc_dlc_close_cond est bound = (est && bound) := by
  unfold Gen.Fn.lc_dlc_close_cond; cases est <;> cases bound <;> rfl

/-- the orderly disconnect wakes the senders, then the acknowledgement waiters, and enters DISCONNECT -/
theorem dlc_close_disc_bridge (wa ws : Py Unit) :
    Gen.Fn.lc_dlc_close_disc wa ws = (ws >>= fun _ => wa >>= fun _ => .ok true) := rfl

/-- the unconditional end of `close()` is the notification script of the model: base class close (send_ready,
recv_ready), acks_ready, send_token - in this order -/
theorem dlc_close_tail_bridge (n : Term.Cv → Py Unit) :
    Gen.Fn.lc_dlc_close_tail (n .acksReady) (n .sendToken) (n .sendReady >>= fun _ => n .recvReady) = closeScript n := by
  unfold Gen.Fn.lc_dlc_close_tail closeScript
  cases n .sendReady <;> cases n .recvReady <;> cases n .acksReady <;> cases n .sendToken <;> rfl

/-- a notification that fails with `e`, all others succeed -/
def inject (c : Term.Cv) (e : Exc) : Term.Cv → Py Unit := fun c' => if c' = c then .error e else .ok ()

/-- **C09** restated: every condition variable that `Term.closeNotifies .dlc` lists is notified by the end of
`DataLinkConnection.close()` also when the orderly-disconnect branch is skipped (the socket was unbound by the
link termination): a failure injected into that notification surfaces; one injected elsewhere does not -/
theorem gen_close_wakes (c : Term.Cv) (e : Exc) :
    Gen.Fn.lc_dlc_close_tail (inject c e .acksReady) (inject c e .sendToken)
        (inject c e .sendReady >>= fun _ => inject c e .recvReady) =
      if c ∈ Term.closeNotifies .dlc then .error e else .ok () := by
  cases c <;> simp [Gen.Fn.lc_dlc_close_tail, inject, Term.closeNotifies] <;> rfl

example : Gen.Fn.lc_dlc_close_tail (.ok ()) (.error .runtime) (.ok ()) = .error .runtime := by decide

theorem dlc_deq_busy_change_bridge (sent busy : Bool) : Gen.Fn.lc_dlc_deq_busy_change sent busy = (sent != busy) := by
  unfold Gen.Fn.lc_dlc_deq_busy_change; cases sent <;> cases busy <;> rfl

theorem dlc_deq_dm_closewait_bridge (name : String) (cw : Bool) :
    Gen.Fn.lc_dlc_deq_dm_closewait name cw = (decide (name = "DM") && cw) := by
  unfold Gen.Fn.lc_dlc_deq_dm_closewait; cases cw <;> simp

/-- None / bool result of `_poll` as a dynamically typed value -/
def toVal : Option Bool → PyFn.Val
  | none => .none
  | some b => .bool b

theorem dlc_poll_bridge (event : String) (timeout : Int) (sh est cw info : Bool) (acks : Int)
    (base : String → Int → Py (Option Int)) :
    Gen.Fn.lc_dlc_poll event timeout sh est cw info acks base =
      (dlcPoll event sh est cw info acks (base event timeout)).map toVal := by
  unfold Gen.Fn.lc_dlc_poll dlcPoll
  cases sh with
  | true => simp [Except.map, ESHUTDOWN]
  | false =>
    simp only [Bool.false_eq_true, if_false]
    by_cases h1 : event = "recv"
    · simp only [h1, if_true]
      cases est <;> cases cw <;> simp [Except.map, toVal] <;> cases base "recv" timeout <;> rfl
    · simp only [h1, if_false]
      by_cases h2 : event = "send"
      · simp only [h2, if_true]
        cases est with
        | false => simp [Except.map, toVal]
        | true =>
          simp only [if_true]
          cases hb : base "send" timeout with
          | error e => rfl
          | ok r =>
            by_cases hr : r ≠ none ∧ r ≠ some 0 <;> simp [Except.map, toVal, hr, bind, Except.bind]
      · simp only [h2, if_false]
        by_cases h3 : event = "acks"
        · simp only [h3, if_true]
          by_cases ha : acks > 0 <;> simp [Except.map, toVal, ha]
        · simp [h3, Except.map, EINVAL]

example : Gen.Fn.lc_dlc_poll "acks" 0 false true false false 2 (fun _ _ => .ok none) = .ok (.bool true) := rfl

/-! ## bookkeeping of the service access points -/

/-- a PDU for the peer (DM) is sent after the ones already waiting -/
theorem sap_send_bridge (p : Int) (l : List Int) : Gen.Fn.lc_sap_send p l = l ++ [p] := rfl

/-- `resolve`: the chosen transaction identifier leaves the free list (ValueError if it was not free - `choice`
picks from the list) and the request is queued behind the pending ones -/
theorem sd_resolve_alloc_bridge (name : Bytes) (tids : List Int) (sdreq : List (Int × Bytes)) (choice : List Int → Int) :
    Gen.Fn.lc_sd_resolve_alloc name tids sdreq choice =
      (PyFn.removeFirst tids (choice tids)).map fun t => (t, sdreq ++ [(choice tids, name)]) := by
  unfold Gen.Fn.lc_sd_resolve_alloc
  py_nat
  rfl

/-! ## `LogicalLinkController` (C17, C09, C18) -/

theorem llc_getsockopt_miu_bridge (isLdl isRaw : Bool) (sock link : Int) :
    Gen.Fn.lc_llc_getsockopt_miu isLdl isRaw sock link = if isLdl || isRaw then link else sock := by
  unfold Gen.Fn.lc_llc_getsockopt_miu; cases isLdl <;> cases isRaw <;> rfl

/-- `_bind`: no argument -> anonymous, int -> by address, bytes / str -> by name, anything else EFAULT -/
theorem bind_dispatch_bridge (sock arg : Int) (isNone isInt isBytes isStr : Bool) (encode : String → Int)
    (toBytes : Int → Int) (byAddr byName : Int → Int → Py Unit) (byNone : Int → Py Unit) :
    Gen.Fn.lc_bind_dispatch sock arg isNone isInt isBytes isStr encode toBytes byAddr byName byNone =
      match bindKind isNone isInt isBytes isStr with
      | .byNone => byNone sock
      | .byAddr => byAddr sock arg
      | .byName => byName sock (if isBytes then toBytes arg else encode "latin")
      | .fault => .error (.llcp EFAULT) := by
  unfold Gen.Fn.lc_bind_dispatch bindKind
  -- a call that stands as a statement: `x >>= fun _ => .ok ()` is `x`
  have stmt : ∀ x : Py Unit, (x >>= fun _ => Except.ok ()) = x := fun x => by cases x <;> rfl
  cases isNone <;> cases isInt <;> cases isBytes <;> cases isStr <;> simp [EFAULT, stmt]

theorem sendto_dest_bridge (dest : Option Int) :
    Gen.Fn.lc_sendto_dest dest = if dest = none then .error (.llcp EDESTADDRREQ) else .ok () := by
  unfold Gen.Fn.lc_sendto_dest; cases dest <;> simp [EDESTADDRREQ]

/-- **C09**: the first statement of the `finally` clause of `terminate()` - in front of the shutdown loop - is the
`terminated` flag of the model: from here on `bind` raises ESHUTDOWN (`llc_bind_pre` of group Llc) -/
theorem terminate_flag_bridge (w : Term.World) : (Term.terminate w).1.terminated = Gen.Fn.lc_terminate_flag := rfl

/-- **C18**: every activation starts without a MAC .. -/
theorem activate_reset_bridge : Gen.Fn.lc_activate_reset = none := rfl

/-- .. and reports whether it obtained one -/
theorem activate_result_bridge (mac : Option Int) :
    Gen.Fn.lc_activate_result mac = decide (mac ≠ none ∧ mac ≠ some 0) := rfl

/-- **C18** restated: an activation that finds no peer (the MAC is not set after the reset) returns False, whatever
an earlier activation of the same controller object left behind -/
theorem gen_activate_no_peer : Gen.Fn.lc_activate_result Gen.Fn.lc_activate_reset = false := by decide

/-- **C17** restated for `llc_bind_by_name` (group Llc) as a fact about the address table: a bind by name hands out
either the first free address of 16..31 or the well-known address of the name - the latter only when the table
entry read there (`sapAt`) is None, i.e. never an occupied access point -/
theorem gen_bind_name_free (nm : Bytes) (ok : Bool) (known wks : Option Int) (fi : Int) (sapAt : Option Int) (a : Int)
    (h : Gen.Fn.llc_bind_by_name nm ok known wks fi sapAt = .ok a) :
    (wks = none ∧ a = 16 + fi) ∨ (wks = some a ∧ sapAt = none) := by
  unfold Gen.Fn.llc_bind_by_name at h
  cases ok with
  | false => simp at h
  | true =>
    cases known with
    | some k => simp at h
    | none =>
      cases wks with
      | none =>
        simp [wrapExc] at h
        exact Or.inl ⟨rfl, h.symm⟩
      | some w =>
        cases sapAt with
        | some s => simp at h
        | none =>
          simp at h
          exact Or.inr ⟨by rw [h], rfl⟩

example : Gen.Fn.llc_bind_by_name [] true none (some 4) 0 (some 1) = .error (.llcp 98) := by decide

end NfcVerif.FnBridge.LlcCore
