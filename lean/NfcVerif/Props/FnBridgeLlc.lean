import NfcVerif.Lemmas.FnBridgeLlc
import NfcVerif.Model.Sap
import NfcVerif.Model.SapLink
import NfcVerif.Model.Collect
/-!
# Bridge theorems, group Llc (`nfc/llcp/llc.py`, PAX evaluation of `nfc/llcp/pdu.py` -> `Gen/FnLlc.lean` ->
`Model/Activate.lean`, `Model/Collect.lean`, `Model/Sap.lean`)

Properties C19 (parameter take-over at activation), C10, C17.  Encodings, stated in the theorems: the raw
TLV values of a received PAX PDU are the fields of `Activate.Pax` (`Option Nat`), passed to the regenerated
getters as `int | None` by `oi`.
-/
namespace NfcVerif.FnBridge.Llc
open NfcVerif NfcVerif.PyFn NfcVerif.Activate

/-! ## the getters of `ParameterExchange` that `activate()` stores into `cfg` (llc.py:366-371) -/

/-- `rcvd_pax.version` = `cfg['rcvd-ver']`; `_version is None` is passed as 0 -/
theorem pax_version_bridge (o : LlcOpts) (r : Pax) :
    Gen.Fn.llc_pax_version ((r.version.getD 0 : Nat) : Int) = pi (takeover o r).ver := by
  unfold Gen.Fn.llc_pax_version takeover pi
  cases hv : r.version with
  | none => simp
  | some v =>
    by_cases h0 : v = 0
    · subst h0; simp
    · have : ((v : Int) ≠ 0) := by omega
      simp only [Option.getD_some, this, h0, ne_eq, not_false_eq_true, if_true, if_false]
      py_nat

/-- `rcvd_pax.miu` = `cfg['send-miu']`: MIUX + 128, 128 without a MIUX TLV -/
theorem pax_miu_bridge (o : LlcOpts) (r : Pax) :
    Gen.Fn.llc_pax_miu (oi r.miux) = ((takeover o r).sendMiu : Nat) := by
  unfold Gen.Fn.llc_pax_miu takeover
  cases r.miux <;> simp

/-- `rcvd_pax.wks` = `cfg['send-wks']` -/
theorem pax_wks_bridge (o : LlcOpts) (r : Pax) :
    Gen.Fn.llc_pax_wks (oi r.wks) = ((takeover o r).sendWks : Nat) := by
  unfold Gen.Fn.llc_pax_wks takeover
  cases r.wks <;> simp

/-- `rcvd_pax.lto` = `cfg['recv-lto']` in milliseconds: LTO * 10, 100 ms without an LTO TLV -/
theorem pax_lto_bridge (o : LlcOpts) (r : Pax) :
    Gen.Fn.llc_pax_lto (oi r.lto) = ((takeover o r).recvLto : Nat) := by
  unfold Gen.Fn.llc_pax_lto takeover
  cases r.lto <;> simp

/-- `rcvd_pax.lsc` = `cfg['send-lsc']` -/
theorem pax_lsc_bridge (o : LlcOpts) (r : Pax) :
    Gen.Fn.llc_pax_lsc (oi r.opt) = ((takeover o r).sendLsc : Nat) := by
  unfold Gen.Fn.llc_pax_lsc takeover
  cases r.opt with
  | none => simp
  | some x => simp only [oi_some]; py_nat

/-- `rcvd_pax.dpc if self.cfg['llcp-sec'] else 0` = `cfg['llcp-dpc']` -/
theorem pax_dpc_bridge (o : LlcOpts) (r : Pax) :
    (if o.sec then Gen.Fn.llc_pax_dpc (oi r.opt) else 0) = ((takeover o r).dpc : Nat) := by
  unfold Gen.Fn.llc_pax_dpc takeover
  cases o.sec with
  | false => simp
  | true =>
    cases r.opt with
    | none => simp
    | some x => simp only [oi_some, if_true]; py_nat

/-- all of it: what the model says a controller holds after `activate()` is what the regenerated getters
return for the received PAX (the dictionary stores `self.cfg[..] = ..` themselves are not translated) -/
theorem pax_takeover_bridge (o : LlcOpts) (r : Pax) :
    let h := takeover o r
    pi h.ver = Gen.Fn.llc_pax_version ((r.version.getD 0 : Nat) : Int) ∧
    (h.sendMiu : Int) = Gen.Fn.llc_pax_miu (oi r.miux) ∧
    (h.recvLto : Int) = Gen.Fn.llc_pax_lto (oi r.lto) ∧
    (h.sendWks : Int) = Gen.Fn.llc_pax_wks (oi r.wks) ∧
    (h.sendLsc : Int) = Gen.Fn.llc_pax_lsc (oi r.opt) ∧
    (h.dpc : Int) = (if o.sec then Gen.Fn.llc_pax_dpc (oi r.opt) else 0) ∧
    h.recvMiu = o.miu ∧ h.sendLto = o.lto ∧ h.agf = o.agf ∧ h.sec = o.sec :=
  ⟨(pax_version_bridge o r).symm, (pax_miu_bridge o r).symm, (pax_lto_bridge o r).symm,
   (pax_wks_bridge o r).symm, (pax_lsc_bridge o r).symm, (pax_dpc_bridge o r).symm, rfl, rfl, rfl, rfl⟩

example : Gen.Fn.llc_pax_version 0x13 = (1, 3) := by decide
example : Gen.Fn.llc_pax_miu (some 120) = 248 := by decide
example : Gen.Fn.llc_pax_miu none = 128 := by decide
example : Gen.Fn.llc_pax_lto (some 50) = 500 := by decide
example : Gen.Fn.llc_pax_lsc (some 7) = 3 := by decide
example : Gen.Fn.llc_pax_dpc (some 7) = 1 := by decide

/-- `C19.negotiated_llc` for the regenerated getters: device A, evaluating the general bytes that B built
from any valid options, reads B's MIU, link timeout, service list and link service class - whatever A's
own options are -/
theorem gen_negotiated_llc (A B : LlcOpts) (hB : ValidLlc B) :
    ∃ gb r, encodeGb (sendPax B) = .ok gb ∧ decodeTlvs (gb.drop 3) = .ok r ∧
      Gen.Fn.llc_pax_miu (oi r.miux) = B.miu ∧
      Gen.Fn.llc_pax_lto (oi r.lto) = B.lto ∧
      Gen.Fn.llc_pax_wks (oi r.wks) = (wksOf B.saps : Nat) ∧
      Gen.Fn.llc_pax_lsc (oi r.opt) = B.lsc ∧
      Gen.Fn.llc_pax_version ((r.version.getD 0 : Nat) : Int) = (1, 3) := by
  obtain ⟨t, ht, _, _, hd⟩ := pax_roundtrip (sendPax B) (sendPax_wf B hB)
  refine ⟨magic ++ t, sendPax B, ?_, ?_, ?_⟩
  · simp [encodeGb, ht]
  · simpa [magic] using hd
  · have e := takeover_sendPax A B hB
    obtain ⟨h1, h2, h3, h4, h5, h6, h7⟩ := hB
    rw [pax_miu_bridge A, pax_lto_bridge A, pax_wks_bridge A, pax_lsc_bridge A, pax_version_bridge A, e]
    simp only [agreed, pi]
    -- the options of a valid `B` are non-negative: `toNat` loses nothing
    exact ⟨by omega, by omega, trivial, by omega, rfl⟩

/-! ## the setters of `ParameterExchange` that `activate()` uses to build the PAX it sends (llc.py:329-339) -/

/-- `send_pax.version = (a, b)`: the stored octet is major nibble, minor nibble (both masked) -/
theorem pax_set_version_bridge (a b : Nat) :
    Gen.Fn.llc_pax_set_version ((a : Int), (b : Int)) = (((a % 16) * 16 + b % 16 : Nat) : Int) := by
  unfold Gen.Fn.llc_pax_set_version
  py_nat
  rw [and240, or_nibble _ _ (Nat.mod_lt b (by omega))]
  omega

/-- `send_pax.miu = cfg['recv-miu']` when it is not 128: the MIUX the model's `sendPax` announces -/
theorem pax_set_miu_bridge (o : LlcOpts) :
    (sendPax o).miux = if o.miu ≠ 128 then some (Gen.Fn.llc_pax_set_miu o.miu).toNat else none := by
  unfold sendPax Gen.Fn.llc_pax_set_miu imax
  simp only
  split
  · congr 2
    split <;> omega
  · rfl

/-- `send_pax.wks = wks`: the service list of `sendPax`, masked to 16 bit -/
theorem pax_set_wks_bridge (o : LlcOpts) :
    (sendPax o).wks = some (Gen.Fn.llc_pax_set_wks ((1 + ((o.saps.filter (· < 15)).map (fun s => 2 ^ s)).sum : Nat) : Int)).toNat := by
  unfold sendPax Gen.Fn.llc_pax_set_wks wksOf
  simp only [band_65535]
  congr 1

/-- `send_pax.lto = cfg['send-lto']` when it is not 100: units of 10 ms (floor), one octet, for ANY int option value -/
theorem pax_set_lto_bridge (o : LlcOpts) :
    (sendPax o).lto = if o.lto ≠ 100 then some (Gen.Fn.llc_pax_set_lto o.lto).toNat else none := by
  unfold sendPax Gen.Fn.llc_pax_set_lto
  simp only [band_255, Int.fdiv_eq_ediv_of_nonneg o.lto (show (0 : Int) ≤ 10 by omega)]


example : Gen.Fn.llc_pax_set_version (1, 3) = 0x13 := by decide
example : Gen.Fn.llc_pax_set_miu 248 = 120 := by decide
example : Gen.Fn.llc_pax_set_miu 100 = 0 := by decide
example : Gen.Fn.llc_pax_set_lto 500 = 50 := by decide
example : Gen.Fn.llc_pax_set_wks 0x10013 = 0x13 := by decide

/-- the version octet `activate()` sends is 1.3 (`sendPax.version`) -/
theorem gen_sendPax_version (o : LlcOpts) :
    (sendPax o).version = some (Gen.Fn.llc_pax_set_version (((1 : Nat) : Int), ((3 : Nat) : Int))).toNat := by
  rw [pax_set_version_bridge]; rfl

/-- setter then getter: a MIU option in 128..2175 comes back unchanged (`C19.negotiated_llc` rests on it),
one below 128 is announced as 128 (`C19.miu_below_128_counterexample`) -/
theorem gen_miu_set_get (v : Int) (h : v ≤ 2175) :
    Gen.Fn.llc_pax_miu (some (Gen.Fn.llc_pax_set_miu v)) = max v 128 := by
  unfold Gen.Fn.llc_pax_miu Gen.Fn.llc_pax_set_miu imax
  simp only
  split <;> omega

/-- setter then getter: a link timeout that is a multiple of 10 ms in 0..2550 comes back unchanged -/
theorem gen_lto_set_get (v : Int) (h0 : 0 ≤ v) (h1 : v ≤ 2550) (h10 : v % 10 = 0) :
    Gen.Fn.llc_pax_lto (some (Gen.Fn.llc_pax_set_lto v)) = v := by
  unfold Gen.Fn.llc_pax_lto Gen.Fn.llc_pax_set_lto
  simp only [band_255]
  omega

/-! ## `ParameterExchange.__len__` -/

theorem tlv1_len {t : Nat} {o : Option Nat} {a : Bytes} (h : tlv1 t o = .ok a) :
    (a.length : Int) = if o.isSome then 3 else 0 := by
  cases o with
  | none => cases h; rfl
  | some v =>
    simp only [tlv1] at h
    split at h
    · cases h
    · cases h; rfl

theorem tlv2_len {t : Nat} {o : Option Nat} {a : Bytes} (h : tlv2 t o = .ok a) :
    (a.length : Int) = if o.isSome then 4 else 0 := by
  cases o with
  | none => cases h; rfl
  | some v =>
    simp only [tlv2] at h
    split at h
    · cases h
    · cases h; rfl

/-- 2 octets of header, 3 or 4 for each TLV that is present -/
theorem pax_len_eq (v m w l o : Option Int) : Gen.Fn.llc_pax_len v m w l o =
    2 + (if v.isSome then 3 else 0) + (if m.isSome then 4 else 0) + (if w.isSome then 4 else 0)
      + (if l.isSome then 3 else 0) + (if o.isSome then 3 else 0) := by
  cases v <;> cases m <;> cases w <;> cases l <;> cases o <;> rfl

/-- `len(pax)` is the length of the encoded PDU: header plus the TLVs `encode()` writes -/
theorem pax_len_bridge (p : Pax) (t : Bytes) (h : encodeTlvs p = .ok t) :
    Gen.Fn.llc_pax_len (oi p.version) (oi p.miux) (oi p.wks) (oi p.lto) (oi p.opt) = ((2 + t.length : Nat) : Int) := by
  obtain ⟨a, ha, h⟩ := Py.bind_eq_ok.mp h
  obtain ⟨b, hb, h⟩ := Py.bind_eq_ok.mp h
  obtain ⟨c, hc, h⟩ := Py.bind_eq_ok.mp h
  obtain ⟨d, hd, h⟩ := Py.bind_eq_ok.mp h
  obtain ⟨e, he, h⟩ := Py.bind_eq_ok.mp h
  cases h
  simp only [pax_len_eq, oi, Option.isSome_map, List.length_append, Int.natCast_add, tlv1_len ha, tlv2_len hb, tlv2_len hc,
    tlv1_len hd, tlv1_len he]
  omega

example : Gen.Fn.llc_pax_len (some 0x13) none (some 1) none none = 9 := by decide

/-! ## `listen(socket, backlog)` -/

/-- the backlog of a listening socket: negative -> `ValueError`, otherwise at most 16 -/
theorem listen_backlog_bridge (b : Int) :
    Gen.Fn.llc_listen_backlog b = if b < 0 then .error .value else .ok (min b 16) := by
  unfold Gen.Fn.llc_listen_backlog imin
  by_cases h : b < 0
  · simp [h]
  · simp only [h, if_false]
    congr 1
    by_cases h2 : (16 : Int) < b <;> (simp [h2]; omega)

/-- the backlog handed to `socket.listen` is in `0..16` -/
theorem gen_listen_backlog_range (b r : Int) (h : Gen.Fn.llc_listen_backlog b = .ok r) : 0 ≤ r ∧ r ≤ 16 := by
  rw [listen_backlog_bridge] at h
  split at h
  · cases h
  · cases h; omega

example : Gen.Fn.llc_listen_backlog 40 = .ok 16 := by decide
example : Gen.Fn.llc_listen_backlog (-1) = .error .value := by decide

/-! ## service discovery, connect-by-name, bind (C17) -/

/-- the address a received SDRES value `v` is cached under (`ServiceDiscovery.enqueue`): SAP 1 when the
compatibility bit 6 is set, else the low six bits - the `a` of the model's `Sap.sdResponses` -/
theorem sd_enqueue_sap_bridge (v : Nat) :
    Gen.Fn.llc_sd_enqueue_sap v = ((if (v / 64) % 2 = 1 then 1 else v % 64 : Nat) : Int) := by
  unfold Gen.Fn.llc_sd_enqueue_sap
  py_nat
  have e : (2 : Nat) ^ 6 = 64 := rfl
  rw [e]
  by_cases h : v / 64 % 2 = 1 <;> simp [h]

/-- a resolved address is a valid SAP (0..63) whatever the peer sent -/
theorem gen_sd_enqueue_sap_range (v : Nat) :
    0 ≤ Gen.Fn.llc_sd_enqueue_sap v ∧ Gen.Fn.llc_sd_enqueue_sap v ≤ 63 := by
  rw [sd_enqueue_sap_bridge]; split <;> omega

/-- one step of the model's `sdResponses` written with the regenerated function -/
theorem gen_sdResponses_step (sd : Sap.Sd) (tid v : Nat) (t : List (Nat × Nat)) (nm : Bytes)
    (h : sd.sent.lookup tid = some nm) :
    Sap.sdResponses sd ((tid, v) :: t) =
      Sap.sdResponses { sd with cache := Sap.dictSet nm (Gen.Fn.llc_sd_enqueue_sap v).toNat sd.cache,
                                tids := sd.tids ++ [tid] } t := by
  rw [sd_enqueue_sap_bridge, Int.toNat_natCast]
  simp only [Sap.sdResponses, h]

example : Gen.Fn.llc_sd_enqueue_sap 0x50 = 1 := by decide
example : Gen.Fn.llc_sd_enqueue_sap 0x21 = 33 := by decide

/-- connect-by-name to an unknown service: DM reason 0x10 when the CONNECT carried no service name, 0x02
otherwise - as in the model's `Sap.dispatch` -/
theorem dispatch_dm_reason_bridge (sn : Option Bytes) :
    Gen.Fn.llc_dispatch_dm_reason sn = ((if sn.isNone then 0x10 else 2 : Nat) : Int) := by
  unfold Gen.Fn.llc_dispatch_dm_reason
  cases sn <;> rfl

example : Gen.Fn.llc_dispatch_dm_reason none = 16 := by decide

/-- `_bind_by_addr(socket, addr)`: an address outside 0..63 is refused with EFAULT, exactly when the
model's `Sap.bind` refuses it -/
theorem bind_addr_range_bridge (a : Int) :
    Gen.Fn.llc_bind_addr_range a = if a < 0 ∨ a > 63 then .error (.llcp Sap.EFAULT) else .ok () := rfl

/-- the model's `bind` of an unbound socket to an explicit address starts with the regenerated check -/
theorem gen_bind_addr (c : Sap.Llc) (id : Nat) (a : Int) (hu : (c.sock id).addr = none) :
    (∀ e, Gen.Fn.llc_bind_addr_range a = .error e → Sap.bind c id (.addr a) = .error e) ∧
    (Gen.Fn.llc_bind_addr_range a = .ok () → 0 ≤ a ∧ a ≤ 63 ∧
      Sap.bind c id (.addr a) =
        (if 32 ≤ a ∨ (c.sock id).kind = .raw then
           if (c.sap a.toNat).isNone then pure (Sap.bindAt c id a.toNat) else throw (.llcp Sap.EADDRINUSE)
         else throw (.llcp Sap.EACCES))) := by
  rw [bind_addr_range_bridge]
  unfold Sap.bind
  by_cases h : a < 0 ∨ a > 63
  · simp [h, hu]
  · simp only [h, if_false, hu, Option.isSome_none, Bool.false_eq_true]
    refine ⟨?_, ?_⟩
    · intro e he; cases he
    · intro _; exact ⟨by omega, by omega, trivial⟩

example : Gen.Fn.llc_bind_addr_range 64 = .error (.llcp 14) := by decide
example : Gen.Fn.llc_bind_addr_range 63 = .ok () := by decide

/-! ## construction of the PAX that is sent, acceptance of the received general bytes -/

/-- the OPT octet `activate()` sends: LSC in bits 0-1 (only when the option is not 0), the DPC bit 2 when
security is enabled - `sendPax.opt` through the two setters, for ANY int `lsc` option -/
theorem pax_set_opt_bridge (o : LlcOpts) :
    (sendPax o).opt =
      (let o0 : Option Nat := if o.lsc ≠ 0 then some (Gen.Fn.llc_pax_set_lsc o.lsc none).toNat else none
       if o.sec then some (Gen.Fn.llc_pax_set_dpc 1 (oi o0)).toNat else o0) := by
  have h1 : Gen.Fn.llc_pax_set_lsc o.lsc none = o.lsc % 4 := by
    unfold Gen.Fn.llc_pax_set_lsc
    simp only [band_3]
    have : band 0 252 = 0 := by decide
    rw [this]
    have h : 0 ≤ o.lsc % 4 := by omega
    obtain ⟨n, hn⟩ := Int.eq_ofNat_of_zero_le h
    rw [hn]
    show bor ((0 : Nat) : Int) (n : Int) = _
    rw [bor_ofNat]; simp
  have h2 : ∀ x : Option Nat, Gen.Fn.llc_pax_set_dpc 1 (oi x) = (((x.getD 0 &&& 0xFB) ||| 4 : Nat) : Int) := by
    intro x
    unfold Gen.Fn.llc_pax_set_dpc
    have e4 : shl (if (decide ((1 : Int) ≠ 0)) = true then 1 else 0) 2 = ((4 : Nat) : Int) := by decide
    rw [e4]
    cases x with
    | none =>
      show bor (band ((0 : Nat) : Int) ((251 : Nat) : Int)) _ = _
      rw [band_ofNat, bor_ofNat]; rfl
    | some v =>
      -- `opt or 0`
      have : (if (v : Int) ≠ 0 then (v : Int) else 0) = v := by split <;> omega
      simp only [oi_some, Option.getD_some, this]
      show bor (band (v : Int) ((251 : Nat) : Int)) _ = _
      rw [band_ofNat, bor_ofNat]
  unfold sendPax
  simp only [h1, h2]
  by_cases hl : o.lsc = 0 <;> cases o.sec <;> simp [hl]


/-- which setters `activate()` calls with which option value (statements 4-9): version (1, 3) and the
service list always, MIU unless 128, LTO unless 100, LSC unless 0, DPC := 1 with security enabled -/
theorem activate_pax_bridge (wks miu lto lsc : Int) (sec : Bool) :
    Gen.Fn.llc_activate_pax wks miu lto lsc sec none none none none =
      ((1, 3), wks, (if miu ≠ 128 then some miu else none), (if lto ≠ 100 then some lto else none),
       (if lsc ≠ 0 then some lsc else none), (if sec then some 1 else none)) := by
  unfold Gen.Fn.llc_activate_pax
  py_nat

/-- the general bytes are taken for LLCP parameters iff they start with the magic number and have at least
six octets - the model's `gbAccepted` -/
theorem activate_gb_ok_bridge (gb : Bytes) :
    Gen.Fn.llc_activate_gb_ok gb = gbAccepted gb := by
  unfold Gen.Fn.llc_activate_gb_ok gbAccepted magic
  match gb with
  | [] => simp [len_eq]
  | [a] => simp [len_eq]
  | [a, b] => simp [len_eq]
  | a :: b :: c :: rest =>
    have hp : (List.isPrefixOf [70, 102, 109] (a :: b :: c :: rest) = true) ↔ (a = 70 ∧ b = 102 ∧ c = 109) := by
      simp only [List.isPrefixOf, Bool.and_eq_true, beq_iff_eq, and_true]
      constructor <;> (rintro ⟨h1, h2, h3⟩; exact ⟨h1.symm, h2.symm, h3.symm⟩)
    have ht : ((a :: b :: c :: rest).take 3 == [0x46, 0x66, 0x6D]) = decide (a = 70 ∧ b = 102 ∧ c = 109) := by
      simp only [List.take_succ_cons, List.take_zero]
      by_cases ha : a = 70 <;> by_cases hb : b = 102 <;> by_cases hc : c = 109 <;> simp [ha, hb, hc]
    rw [ht]
    simp only [hp, len_eq, ne_eq, reduceCtorEq, not_false_eq_true, true_and, ge_iff_le, Bool.decide_and]
    congr 2
    apply propext
    simp only [List.length_cons]
    omega

/-- what is handed to `pdu.decode`: the PAX header `00 40` in front of the TLVs behind the magic number -/
theorem activate_pax_bytes_bridge (gb : Bytes) :
    Gen.Fn.llc_activate_pax_bytes gb = [0, 64] ++ gb.drop 3 := by
  unfold Gen.Fn.llc_activate_pax_bytes
  py_nat

/-- `cfg['llcp-dpc']`: the peer's DPC bit, 0 when the local option `sec` is off -/
theorem activate_dpc_bridge (o : LlcOpts) (r : Pax) :
    Gen.Fn.llc_activate_dpc (Gen.Fn.llc_pax_dpc (oi r.opt)) o.sec = ((takeover o r).dpc : Nat) := by
  unfold Gen.Fn.llc_activate_dpc
  exact pax_dpc_bridge o r

/-- the second half of `activate()` in the model (`llcLink`) with the regenerated acceptance test and the
regenerated argument of the decoder -/
theorem gen_llcLink (o : LlcOpts) (gb : Bytes) :
    llcLink o gb =
      if Gen.Fn.llc_activate_gb_ok gb then
        match decodeTlvs ((Gen.Fn.llc_activate_pax_bytes gb).drop 2) with
        | .ok r => .ok (some (takeover o r))
        | .error e => if e = .decodeError then .ok none else .error e
      else .ok none := by
  rw [activate_gb_ok_bridge, activate_pax_bytes_bridge]
  rfl

/-- `secure_data_transfer`: exactly when the agreed DPC value is 1 -/
theorem secure_data_transfer_bridge (dpc : Nat) :
    Gen.Fn.llc_secure_data_transfer dpc = decide (dpc = 1) := by
  unfold Gen.Fn.llc_secure_data_transfer
  py_nat

/-! ## `collect()` -/

/-- `icv_size` of `collect()` is the model's `icvOf` -/
theorem collect_icv_bridge (sec : Option Nat) :
    Gen.Fn.llc_collect_icv sec.isSome ((sec.getD 0 : Nat) : Int) = (Collect.icvOf sec : Nat) := by
  unfold Gen.Fn.llc_collect_icv Collect.icvOf
  cases sec <;> simp

/-- the first PDU is sent alone when its information field fills the link MIU (`Collect.collect`) -/
theorem collect_first_full_bridge (p : Collect.QPdu) (sendMiu : Nat) (h : p.hdr ≤ p.len) :
    Gen.Fn.llc_collect_first_full sendMiu p.len p.hdr = decide ((p.info : Int) ≥ sendMiu) := by
  unfold Gen.Fn.llc_collect_first_full Collect.QPdu.info
  congr 1
  apply propext
  omega

/-- all three computations of the aggregation budget are the model's `Collect.budget` -/
theorem collect_budget_bridge (sendMiu : Nat) (subs : List Collect.QPdu) :
    Gen.Fn.llc_collect_budget0 sendMiu (Collect.agfLen subs) = Collect.budget sendMiu subs ∧
    Gen.Fn.llc_collect_budget1 sendMiu (Collect.agfLen subs) = Collect.budget sendMiu subs ∧
    Gen.Fn.llc_collect_budget2 sendMiu (Collect.agfLen subs) = Collect.budget sendMiu subs :=
  ⟨rfl, rfl, rfl⟩


/-! ## `ServiceDiscovery.dequeue` batching (C10) -/

/-- one turn of the `while miu_size >= 4` loop is one step of the model's `takeSdres` -/
theorem sd_res_bridge (x : Nat) (rest : List Nat) (m : Int) (n : Nat) :
    Collect.takeSdres (x :: rest) m n =
      if Gen.Fn.llc_sd_res_cond m then Collect.takeSdres rest (Gen.Fn.llc_sd_res_take m) (n + 1)
      else (n, x :: rest, m) := by
  unfold Gen.Fn.llc_sd_res_cond Gen.Fn.llc_sd_res_take
  py_nat
  rfl

/-- one turn of the `for i in range(len(self.sdreq))` loop is one step of the model's `takeSdreq`: a request
of `3 + len(name)` octets that does not fit is rotated to the end, otherwise the budget shrinks by its size -/
theorem sd_req_bridge (k tid : Nat) (name : Bytes) (rest : List (Nat × Nat)) (m : Int) (acc : Nat) :
    Collect.takeSdreq (k + 1) ((tid, name.length) :: rest) m acc =
      if Gen.Fn.llc_sd_req_skip m name then Collect.takeSdreq k (rest ++ [(tid, name.length)]) m acc
      else Collect.takeSdreq k rest (Gen.Fn.llc_sd_req_take m name) (acc + (3 + name.length)) := by
  unfold Gen.Fn.llc_sd_req_skip Gen.Fn.llc_sd_req_take
  py_nat
  rfl

/-- a pending DM PDU of the service discovery component is sent only with a positive budget (`Sd.dequeue`) -/
theorem sd_dm_cond_bridge (s : Collect.Sd) (miu : Int) (h : ¬ (s.sdres ≠ [] ∨ s.sdreq ≠ [])) :
    s.dequeue miu =
      if Gen.Fn.llc_sd_dm_cond miu s.dmpdu.length then
        (match s.dmpdu with | p :: rest => (some p, { s with dmpdu := rest }) | [] => (none, s))
      else (none, s) := by
  unfold Gen.Fn.llc_sd_dm_cond Collect.Sd.dequeue
  simp only [h, if_false]
  cases hd : s.dmpdu with
  | nil => simp
  | cons p rest =>
    by_cases hm : miu > 0 <;> simp [hm]

/-! ## socket API (C17, C10) -/

/-- `_bind_by_addr` as a decision: EFAULT outside 0..63, EACCES below 32 unless the socket is a raw access
point, EADDRINUSE when the table entry is taken - the model's `Sap.bind` with an explicit address -/
theorem bind_by_addr_bridge (c : Sap.Llc) (id : Nat) (a : Int) (hu : (c.sock id).addr = none) :
    Sap.bind c id (.addr a) =
      match Gen.Fn.llc_bind_by_addr a (decide ((c.sock id).kind = .raw))
              (if (c.sap a.toNat).isSome then some 1 else none) with
      | .error e => .error e
      | .ok () => .ok (Sap.bindAt c id a.toNat) := by
  unfold Gen.Fn.llc_bind_by_addr Sap.bind
  simp only [hu, Option.isSome_none, Bool.false_eq_true, if_false, mem_range]
  by_cases h : a < 0 ∨ a > 63
  · simp [h]; rfl
  · simp only [h, if_false]
    by_cases h32 : 32 ≤ a
    · have : (32 ≤ a ∧ a < 64) := by omega
      cases hs : (c.sap a.toNat) <;> simp [h32, this] <;> rfl
    · have : ¬ (32 ≤ a ∧ a < 64) := by omega
      by_cases hr : (c.sock id).kind = .raw
      · cases hs : (c.sap a.toNat) <;> simp [h32, hr] <;> rfl
      · simp [h32, hr]; rfl

/-- `llc.setsockopt(SO_RCVMIU)` never sets a connection receive MIU above the link's (`DlcSap.Ctl.newSock`) -/
theorem setsockopt_clamp_bridge (option value recvMiu : Int) :
    Gen.Fn.llc_setsockopt_clamp option value recvMiu = if option = 2 then min value recvMiu else value := by
  unfold Gen.Fn.llc_setsockopt_clamp
  simp only [imin_eq_min]

/-- `llc.connect`: the connection send MIU is the model's `clampSendMiu` (C10 `ui_i_payload_bound`) -/
theorem connect_clamp_bridge (peerMiu linkMiu : Nat) :
    Gen.Fn.llc_connect_clamp peerMiu linkMiu = (Collect.clampSendMiu peerMiu linkMiu : Nat) := by
  unfold Gen.Fn.llc_connect_clamp Collect.clampSendMiu
  py_nat

/-- `llc.accept`: the same clamp -/
theorem accept_clamp_bridge (peerMiu linkMiu : Nat) :
    Gen.Fn.llc_accept_clamp peerMiu linkMiu = (Collect.clampSendMiu peerMiu linkMiu : Nat) := by
  unfold Gen.Fn.llc_accept_clamp Collect.clampSendMiu
  simp only [gt_iff_lt, Int.ofNat_lt, ite_cast]

/-- `llc.poll` / `recvfrom`: EBADF exactly when the model's `badFd` holds -/
theorem poll_badf_bridge (c : Sap.Llc) (addr : Option Nat) :
    Gen.Fn.llc_poll_badf ((addr.getD 0 : Nat) : Int) (match addr with | some a => (c.sap a).isSome | none => false)
      = if Sap.badFd c addr then .error (.llcp Sap.EBADF) else .ok () := by
  unfold Gen.Fn.llc_poll_badf Sap.badFd
  cases addr with
  | none => simp; rfl
  | some a =>
    by_cases h0 : a = 0
    · subst h0; simp; rfl
    · cases hs : c.sap a <;> simp [h0] <;> rfl


example : Gen.Fn.llc_pax_set_lsc 3 none = 3 := by decide
example : Gen.Fn.llc_pax_set_dpc 1 (some 3) = 7 := by decide
example : Gen.Fn.llc_activate_gb_ok [70, 102, 109, 1, 1, 0x13] = true := by decide
example : Gen.Fn.llc_activate_gb_ok [70, 102, 109, 1, 1] = false := by decide
example : Gen.Fn.llc_collect_budget0 128 7 = 118 := by decide
example : Gen.Fn.llc_sd_req_skip 10 [1, 2, 3, 4, 5, 6, 7, 8] = true := by decide
example : Gen.Fn.llc_bind_by_addr 16 false none = .error (.llcp 13) := by decide
example : Gen.Fn.llc_bind_by_addr 16 true none = .ok () := by decide
example : Gen.Fn.llc_bind_by_addr 40 false (some 1) = .error (.llcp 98) := by decide
example : Gen.Fn.llc_connect_clamp 2175 128 = 128 := by decide
example : Gen.Fn.llc_poll_badf 0 true = .error (.llcp 9) := by decide

/-- `gb = b'Ffm' + pdu.encode(send_pax)[2:]`: the magic number and the encoded PDU without its two header
octets; with the model's TLV encoder this is `Activate.encodeGb` -/
theorem activate_gb_bridge (enc : Bytes) : Gen.Fn.llc_activate_gb enc = magic ++ enc.drop 2 := by
  unfold Gen.Fn.llc_activate_gb magic
  py_nat

theorem gen_encodeGb (p : Pax) :
    encodeGb p = encodeTlvs p >>= fun t => .ok (Gen.Fn.llc_activate_gb ([0, 64] ++ t)) := by
  simp only [activate_gb_bridge]
  rfl

example : Gen.Fn.llc_activate_gb [0, 64, 1, 1, 0x13] = [70, 102, 109, 1, 1, 0x13] := by decide

/-! ## bind preconditions, EBADF, connect-by-name -/

/-- `bind(socket, ..)` before the address search: EINVAL (22) for a socket that has an address - the first
test of the model's `Sap.bind` -, ESHUTDOWN (108) once `terminate()` has run -/
theorem bind_pre_bridge (addr : Option Nat) (terminated : Bool) :
    Gen.Fn.llc_bind_pre (oi addr) terminated =
      if addr.isSome then .error (.llcp Sap.EINVAL) else if terminated then .error (.llcp Sap.ESHUTDOWN) else .ok () := by
  unfold Gen.Fn.llc_bind_pre
  cases addr <;> cases terminated <;> rfl

theorem gen_bind_einval (c : Sap.Llc) (id : Nat) (arg : Sap.BindArg) (x : Exc)
    (h : Gen.Fn.llc_bind_pre (oi (c.sock id).addr) false = .error x) : Sap.bind c id arg = .error x := by
  rw [bind_pre_bridge] at h
  unfold Sap.bind
  cases ha : (c.sock id).addr with
  | none => simp [ha] at h
  | some a => simp [ha] at h ⊢; rw [← h]

/-- `recvfrom`: the same EBADF test as `poll` -/
theorem recvfrom_badf_bridge (c : Sap.Llc) (addr : Option Nat) :
    Gen.Fn.llc_recvfrom_badf ((addr.getD 0 : Nat) : Int) (match addr with | some a => (c.sap a).isSome | none => false)
      = if Sap.badFd c addr then .error (.llcp Sap.EBADF) else .ok () :=
  poll_badf_bridge c addr

/-- connect-by-name (`dispatch`): "no such service" when the name is unknown, maps to address 0, or the
address has no service access point - the two `none` branches of the model's `Sap.dispatch` -/
theorem dispatch_unknown_bridge (c : Sap.Llc) (addr : Option Nat) :
    Gen.Fn.llc_dispatch_unknown (oi addr) (match addr with | some a => (if (c.sap a).isSome then some 1 else none) | none => none)
      = match addr with
        | none => true
        | some a => (match (if a = 0 then none else c.sap a) with | none => true | some _ => false) := by
  unfold Gen.Fn.llc_dispatch_unknown
  cases addr with
  | none => simp
  | some a =>
    by_cases h0 : a = 0
    · subst h0; simp
    · cases hs : c.sap a <;> simp [h0, hs]


example : Gen.Fn.llc_bind_pre (some 32) false = .error (.llcp 22) := by decide
example : Gen.Fn.llc_bind_pre none true = .error (.llcp 108) := by decide
example : Gen.Fn.llc_dispatch_unknown (some 4) none = true := by decide
example : Gen.Fn.llc_dispatch_unknown (some 4) (some 1) = false := by decide

/-- **the PAX PDU `activate()` sends is the model's `sendPax`**: the regenerated statements 4-9 of `activate`
decide which setter is called with which option, the regenerated setters compute the stored TLV values
(`wks` is the value of the comprehension in statement 2, the model's sum over the registered SAPs below 15) -/
theorem gen_sendPax (o : LlcOpts) :
    let wks : Nat := 1 + ((o.saps.filter (· < 15)).map (fun s => 2 ^ s)).sum
    let r := Gen.Fn.llc_activate_pax (wks : Int) o.miu o.lto o.lsc o.sec none none none none
    (sendPax o).version = some (Gen.Fn.llc_pax_set_version r.1).toNat ∧
    (sendPax o).wks = some (Gen.Fn.llc_pax_set_wks r.2.1).toNat ∧
    (sendPax o).miux = r.2.2.1.map (fun v => (Gen.Fn.llc_pax_set_miu v).toNat) ∧
    (sendPax o).lto = r.2.2.2.1.map (fun v => (Gen.Fn.llc_pax_set_lto v).toNat) ∧
    (sendPax o).opt =
      (let o0 : Option Nat := r.2.2.2.2.1.map (fun v => (Gen.Fn.llc_pax_set_lsc v none).toNat)
       match r.2.2.2.2.2 with
       | some d => some (Gen.Fn.llc_pax_set_dpc d (oi o0)).toNat
       | none => o0) := by
  intro wks r
  have hr : r = ((1, 3), (wks : Int), (if o.miu ≠ 128 then some o.miu else none),
      (if o.lto ≠ 100 then some o.lto else none), (if o.lsc ≠ 0 then some o.lsc else none),
      (if o.sec then some 1 else none)) := activate_pax_bridge _ _ _ _ _
  rw [hr]
  refine ⟨gen_sendPax_version o, pax_set_wks_bridge o, ?_, ?_, ?_⟩
  · rw [pax_set_miu_bridge]; split <;> rfl
  · rw [pax_set_lto_bridge]; split <;> rfl
  · rw [pax_set_opt_bridge]
    by_cases hl : o.lsc = 0 <;> cases o.sec <;> simp [hl]


/-! ## bind without an address / by service name (C17) -/

/-- the first free address of a range found by the model lies in that range -/
theorem freeIn_range (c : Sap.Llc) (lo cnt a : Nat) (h : Sap.freeIn c lo cnt = some a) :
    lo ≤ a ∧ a < lo + cnt ∧ (c.sap a).isNone = true := by
  unfold Sap.freeIn at h
  have hm := List.mem_of_find?_eq_some h
  have hp := List.find?_some h
  rw [List.mem_range'_1] at hm
  exact ⟨hm.1, hm.2, hp⟩

/-- `_bind_by_none`: with a free entry at `sap[32 + i]` the socket gets address `32 + i`, with none EAGAIN -
the model's `Sap.bind` without an address -/
theorem bind_by_none_bridge (c : Sap.Llc) (id : Nat) (hu : (c.sock id).addr = none) :
    Sap.bind c id .none =
      match Sap.freeIn c 32 32 with
      | none => Gen.Fn.llc_bind_none_full >>= fun _ => .ok c
      | some a => .ok (Sap.bindAt c id (Gen.Fn.llc_bind_none_addr ((a - 32 : Nat) : Int)).toNat) := by
  unfold Sap.bind Gen.Fn.llc_bind_none_full Gen.Fn.llc_bind_none_addr
  simp only [hu, Option.isSome_none, Bool.false_eq_true, if_false]
  cases hf : Sap.freeIn c 32 32 with
  | none => rfl
  | some a =>
    have := (freeIn_range c 32 32 a hf).1
    have e : ((32 : Int) + ((a - 32 : Nat) : Int)).toNat = a := by omega
    simp only [e]; rfl

/-- `_bind_by_name` as a decision, against the model's `Sap.bind` with a service name: `fi` is the index of the
first free entry of `sap[16:32]` (only read when the name is not a well-known one; the hypothesis says the
model finds that address - the exhausted range is the `except ValueError` branch, cut away) -/
theorem bind_by_name_bridge (c : Sap.Llc) (id : Nat) (nm : Bytes) (fi : Nat) (hu : (c.sock id).addr = none)
    (hf : Sap.wks nm = none → Sap.freeIn c 16 16 = some (16 + fi)) :
    Sap.bind c id (.name nm) =
      match Gen.Fn.llc_bind_by_name nm (Sap.validName nm) (oi (c.snl.lookup nm)) (oi (Sap.wks nm)) fi
              (match Sap.wks nm with | some w => (if (c.sap w).isSome then some 1 else none) | none => none) with
      | .error e => .error e
      | .ok a => .ok { Sap.bindAt c id a.toNat with snl := c.snl ++ [(nm, a.toNat)] } := by
  unfold Sap.bind Gen.Fn.llc_bind_by_name
  simp only [hu, Option.isSome_none, Bool.false_eq_true, if_false]
  cases hv : Sap.validName nm with
  | false => simp; rfl
  | true =>
    simp only [Bool.true_eq_false, if_false, not_true_eq_false]
    cases hk : c.snl.lookup nm with
    | some k => simp; rfl
    | none =>
      simp only [Option.isSome_none, Bool.false_eq_true, if_false, oi_none, ne_eq, not_true_eq_false]
      cases hw : Sap.wks nm with
      | none =>
        rw [hf hw]
        simp only [oi_none, wrapExc, Py.bind_ok]
        have e : ((16 : Int) + (fi : Int)).toNat = 16 + fi := by omega
        simp only [e]
        rfl
      | some w =>
        simp only [oi_some]
        by_cases hs : (c.sap w).isSome = true
        · simp [hs]; rfl
        · simp [hs]

/-- the address ranges of property C17: an anonymous bind hands out 32..63, a named (not well-known) service
16..31 - for every index the search over a 32- resp. 16-element slice can return -/
theorem gen_bind_ranges (i : Nat) :
    (i < 32 → 32 ≤ Gen.Fn.llc_bind_none_addr i ∧ Gen.Fn.llc_bind_none_addr i ≤ 63) ∧
    (i < 16 → ∀ nm ok a, Gen.Fn.llc_bind_by_name nm ok none none i none = .ok a → 16 ≤ a ∧ a ≤ 31) := by
  constructor
  · intro h; unfold Gen.Fn.llc_bind_none_addr; simp only; omega
  · intro h nm ok a ha
    unfold Gen.Fn.llc_bind_by_name at ha
    cases ok with
    | false => simp at ha
    | true =>
      simp [wrapExc] at ha
      omega

example : Gen.Fn.llc_bind_by_name [] true none (some 4) 0 (some 1) = .error (.llcp 98) := by decide
example : Gen.Fn.llc_bind_by_name [] true none (some 4) 0 none = .ok 4 := by decide
example : Gen.Fn.llc_bind_by_name [] true none none 3 none = .ok 19 := by decide
example : Gen.Fn.llc_bind_by_name [] true (some 16) none 3 none = .error (.llcp 98) := by decide
example : Gen.Fn.llc_bind_none_full = .error (.llcp 11) := rfl


end NfcVerif.FnBridge.Llc
