import NfcVerif.Props.ExcFlow
/-!
# Exception flow, instance theorems: C13 / C14: the host transports (`nfc/clf/transport.py`)

Re-checked on the regenerated `Gen/ExcFlow.lean` (see `Props/ExcFlow.lean` for what `Only` / `Can` / `NeverEscapes` mean).

The drivers group (`Props/ExcFlowDrivers.lean`) ASSUMES of the host link `"self.transport.*": ["OSError"]`.  Here the
assumption is moved one layer down: `TTY.open/read/write/close`, `USB.__init__/open/read/write/close` are translated,
and what is assumed is what pyserial and libusb1 may raise (table rows `tty.*/..`, `usb.*/..`: `serial.SerialException`
- an `IOError` subclass - with its subclass `SerialTimeoutException`; any `usb1.USBError` subclass).  The theorems
`transport_read_escapes`, `transport_write_escapes`, `transport_close_escapes`, `tty_open_escapes` PROVE the drivers'
assumption for `read`, `write`, `close` of both transports and for opening the serial port: for every pyserial /
libusb1 error only `IOError` (`OSError`) leaves them.  For `USB.open` / `USB.__init__` the assumption of
`device.connect` (`transport.USB: [OSError]`) does NOT hold of the code: `usb_open_raises_usberror`.

Outside this analysis by construction (docs/exc_flow.md section 2): implicit raises of data operations.  For `TTY.read`
that was the `IndexError` of `frame[3]` / `frame[5]` / `frame[6]` on a line that runs dry (finding
`tty-short-read-internal-error`, repaired by fixes/C13/0004; the function-translator group Transport proves of the
repaired source that the index expressions cannot fail: `FnBridge.Transport.read_errors`).
-/
namespace NfcVerif.ExcFlowProps
open NfcVerif.ExcFlow NfcVerif.Gen.ClassTree NfcVerif.Gen.ExcFlow

/-- every `Only` statement of this module -/
def transportOnly : List (Site × List Cls) := [
  (Site.fn_tty_read, [Cls.OSError]),
  (Site.fn_usb_read, [Cls.OSError]),
  (Site.fn_tty_write, [Cls.OSError]),
  (Site.fn_usb_write, [Cls.OSError]),
  (Site.fn_tty_close, [Cls.OSError]),
  (Site.fn_usb_close, []),
  (Site.fn_tty_open, [Cls.OSError]),
  (Site.fn_tty___init__, [Cls.OSError]),
  (Site.fn_usb_open, [Cls.OSError, Cls.usb1_USBError]),
  (Site.fn_usb___init__, [Cls.OSError, Cls.usb1_USBError])]
/-- what never leaves: a libusb1 error out of `read` / `write` -/
def transportNever : List (Site × List Cls) := [
  (Site.fn_usb_read, [Cls.usb1_USBError]),
  (Site.fn_usb_write, [Cls.usb1_USBError])]
def transportCan : List (Site × Cls) := [
  (Site.fn_tty_read, Cls.TimeoutError),
  (Site.fn_tty_read, Cls.serial_SerialException),
  (Site.fn_usb_read, Cls.TimeoutError),
  (Site.fn_usb_read, Cls.OSError),
  (Site.fn_tty_write, Cls.OSError),
  (Site.fn_usb_write, Cls.OSError),
  (Site.fn_usb_open, Cls.OSError),
  (Site.fn_usb_open, Cls.usb1_USBError),
  (Site.fn_usb_open, Cls.usb1_USBErrorIO),
  (Site.fn_usb_open, Cls.usb1_USBErrorOther),
  (Site.fn_usb___init__, Cls.usb1_USBError)]
/-- the three lists, checked with one evaluation of the summary table -/
theorem transportAll_ok : checkAll world table prog transportOnly transportNever transportCan = true :=
  checkAll_of_checkM tree_ordered (by decide +kernel)
theorem transportOnly_ok : checkOnly world table prog transportOnly = true := (checkAll_split transportAll_ok).1
theorem transportNever_ok : checkNever world table prog transportNever = true := (checkAll_split transportAll_ok).2.1
theorem transportCan_ok : checkCan world table prog transportCan = true := (checkAll_split transportAll_ok).2.2

/-- **`transport.read`**: whatever pyserial (`SerialException`) or libusb1 (any `USBError` subclass: timeout, device
gone, I/O, pipe, overflow ...) raises, only `IOError` leaves `TTY.read` and `USB.read` -/
theorem transport_read_escapes : ∀ f ∈ [Site.fn_tty_read, Site.fn_usb_read], Only f [Cls.OSError] :=
  only_each transportOnly_ok (by decide)

/-- **`transport.write`**: only `IOError` leaves `TTY.write` and `USB.write` -/
theorem transport_write_escapes : ∀ f ∈ [Site.fn_tty_write, Site.fn_usb_write], Only f [Cls.OSError] :=
  only_each transportOnly_ok (by decide)

/-- `close`: `TTY.close` only `IOError` (`flushOutput`), `USB.close` nothing -/
theorem transport_close_escapes : Only Site.fn_tty_close [Cls.OSError] ∧ Only Site.fn_usb_close [] := by
  and_intros <;> exact escapesOnly_of_checkOnly tree_ordered transportOnly_ok (by decide)

/-- opening the serial port (`TTY.open`, `TTY.__init__`): only `IOError` -/
theorem tty_open_escapes : ∀ f ∈ [Site.fn_tty_open, Site.fn_tty___init__], Only f [Cls.OSError] :=
  only_each transportOnly_ok (by decide)

/-- the libusb1 errors are mapped, not passed on: no `USBError` (no subclass of it) leaves `USB.read` / `USB.write`.
(pyserial errors are `IOError`s already and pass `TTY.read` / `TTY.write` unchanged: `transport_can_fail`.) -/
theorem transport_maps_library_errors :
    NeverEscapes world table prog Site.fn_usb_read [Cls.usb1_USBError] ∧
    NeverEscapes world table prog Site.fn_usb_write [Cls.usb1_USBError] := by
  and_intros <;> exact neverEscapes_of_checkNever tree_ordered transportNever_ok (by decide)

/-- non-vacuity: the `IOError` paths exist: `IOError(ETIMEDOUT)` (the builtin `TimeoutError`, an `OSError` subclass)
raised by the code, a `SerialException` passed through, `IOError(EIO)` / `IOError(ENODEV)` -/
theorem transport_can_fail :
    Can Site.fn_tty_read Cls.TimeoutError ∧ Can Site.fn_tty_read Cls.serial_SerialException ∧
    Can Site.fn_usb_read Cls.TimeoutError ∧ Can Site.fn_usb_read Cls.OSError ∧
    Can Site.fn_tty_write Cls.OSError ∧ Can Site.fn_usb_write Cls.OSError ∧ Can Site.fn_usb_open Cls.OSError := by
  and_intros <;> exact canEscape_of_checkCan tree_ordered transportCan_ok (by decide)

/-- `USB.open` / `USB.__init__`: `IOError`, or a raw libusb1 error -/
theorem usb_open_escapes : ∀ f ∈ [Site.fn_usb_open, Site.fn_usb___init__], Only f [Cls.OSError, Cls.usb1_USBError] :=
  only_each transportOnly_ok (by decide)

/-- observation (recorded in the group's report, not a C13 / C14 finding: `open` is on the `connect` path): a libusb1
error DOES leave `USB.open` - `getDeviceList` is outside every `try`, the string descriptor reads are guarded for
`USBErrorIO` only, `open()` / `claimInterface(0)` for ACCESS, BUSY, NO_DEVICE only.  So "only IOError leaves `open` of
both transports" is false for `USB.open`, and the assumption `transport.USB: [OSError]` of `device.connect` does not
hold of the code. -/
theorem usb_open_raises_usberror :
    Can Site.fn_usb_open Cls.usb1_USBError ∧ Can Site.fn_usb_open Cls.usb1_USBErrorIO ∧
    Can Site.fn_usb_open Cls.usb1_USBErrorOther ∧ Can Site.fn_usb___init__ Cls.usb1_USBError := by
  and_intros <;> exact canEscape_of_checkCan tree_ordered transportCan_ok (by decide)

end NfcVerif.ExcFlowProps
