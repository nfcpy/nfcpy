import NfcVerif.Lemmas.FnBridgeDepPdu
import NfcVerif.Lemmas.FnBridgeDep
import NfcVerif.Lemmas.PeerDep
import NfcVerif.Model.FnDepPduRef
/-!
# Bridge theorems, group DepPdu (`nfc/dep.py` PDU classes and activation arithmetic -> `Gen/FnDepPdu.lean`
-> `Model/NfcDep.lean`, `Model/PeerDep.lean`, `Model/Activate.lean`)

Properties C04 (codec of the frames both state machines exchange, information unit sizes), C07 (every octet
string the peer can send is decoded without an internal exception), C19 (ATR_REQ / ATR_RES / PSL_REQ octets,
`lr`, `wt`, `miu` as both sides evaluate them).

Encoding of the statements: Python ints that hold octets are cast naturals `((n : Nat) : Int)`; where a function
is total on all ints (`lr`, `wt`) an additional `_total` theorem quantifies over `Int`.
The cuts are listed in `harness/fnspecs/deppdu.py` and in the doc comments of `Gen/FnDepPdu.lean`.
-/
namespace NfcVerif.FnBridge.DepPdu
open NfcVerif NfcVerif.PyFn NfcVerif.NfcDep NfcVerif.DepPduRef

/-! ## `ATR_REQ_RES.lr`, `ATR_RES.wt`, `__len__` -/

/-- `lr` of an ATR whose PP octet is `pp`: the table value selected by bits 5..4 -/
theorem atr_lr_bridge (pp : Nat) :
    Gen.Fn.dep_atr_lr (pp : Int) = .ok ((NfcDep.lrTable (pp / 16) : Nat) : Int) := by
  unfold Gen.Fn.dep_atr_lr
  py_nat
  rw [← idx_ofNat, idx_lr _ (Nat.mod_lt _ (by decide)), lrTable_mod]

/-- `lr` never raises (`IndexError` is unreachable) whatever int the attribute holds, and yields a table value -/
theorem atr_lr_total (pp : Int) : ∃ i : Nat, Gen.Fn.dep_atr_lr pp = .ok ((NfcDep.lrTable i : Nat) : Int) := by
  unfold Gen.Fn.dep_atr_lr
  obtain ⟨r, hr, e⟩ := band_mask_nat (shr pp 4) 2
  refine ⟨r, ?_⟩
  have e' : band (shr pp 4) 3 = (r : Int) := e
  rw [e']
  exact idx_lr r hr

/-- the form `Activate.initiatorSide` / `targetSide` (C19) and `Peer.atrFields` (C07) use -/
theorem atr_lr_activate (pp : Nat) :
    Gen.Fn.dep_atr_lr (pp : Int) = .ok ((Activate.lrTable ((pp / 16) % 4) : Nat) : Int) := by
  rw [atr_lr_bridge, lrTable_eq, lrTable_mod]

example : Gen.Fn.dep_atr_lr 0x32 = .ok 254 := by decide +kernel
example : Gen.Fn.dep_atr_lr (-1) = .ok 254 := by decide +kernel

theorem atr_res_wt_bridge (to : Nat) : Gen.Fn.dep_atr_res_wt (to : Int) = ((to % 16 : Nat) : Int) := by
  unfold Gen.Fn.dep_atr_res_wt; py_nat

/-- `wt` is in `0..15` for every int -/
theorem atr_res_wt_total (to : Int) : ∃ r : Nat, r < 16 ∧ Gen.Fn.dep_atr_res_wt to = (r : Int) :=
  band_mask_nat to 4

example : Gen.Fn.dep_atr_res_wt 0x1E = 14 := by decide +kernel

/-- `len(atr_req)` is the length of the encoded PDU for a 10 octet NFCID3 -/
theorem atr_req_len_bridge (nfcid3 gb : Bytes) (did pp : Nat) (h : nfcid3.length = 10) :
    Gen.Fn.dep_atr_req_len gb = ((Activate.atrReq nfcid3 did pp gb).length : Int) := by
  unfold Gen.Fn.dep_atr_req_len Activate.atrReq
  simp [len_eq, h]; omega

theorem atr_res_len_bridge (nfcid3 gb : Bytes) (to pp : Nat) (h : nfcid3.length = 10) :
    Gen.Fn.dep_atr_res_len gb = ((Activate.atrRes nfcid3 to pp gb).length : Int) := by
  unfold Gen.Fn.dep_atr_res_len Activate.atrRes
  simp [len_eq, h]; omega

/-! ## `ATR_REQ.encode`, `ATR_RES.encode` -/

/-- `ATR_REQ.encode`: the C04 codec view (`encodePdu true (.atr body)`); `ValueError` when a field is not an octet -/
theorem atr_req_encode_bridge (nfcid3 gb : Bytes) (did bs br pp : Nat) :
    Gen.Fn.dep_atr_req_encode nfcid3 (did : Int) (bs : Int) (br : Int) (pp : Int) gb
      = if did < 256 ∧ bs < 256 ∧ br < 256 ∧ pp < 256
        then .ok (encodePdu true (.atr (nfcid3 ++ [did, bs, br, pp] ++ gb))) else .error .value := by
  unfold Gen.Fn.dep_atr_req_encode encodePdu
  py_nat

/-- the octets `Initiator.activate` sends (C19 `Activate.atrReq`): BS = BR = 0 -/
theorem atr_req_encode_activate (nfcid3 gb : Bytes) (did pp : Nat) (hd : did < 256) (hp : pp < 256) :
    Gen.Fn.dep_atr_req_encode nfcid3 (did : Int) 0 0 (pp : Int) gb = .ok (Activate.atrReq nfcid3 did pp gb) := by
  have h := atr_req_encode_bridge nfcid3 gb did 0 0 pp
  simp only [Int.natCast_zero] at h
  rw [h]
  simp [hd, hp, encodePdu, Activate.atrReq]

theorem atr_res_encode_bridge (nfcid3 gb : Bytes) (did bs br to pp : Nat) :
    Gen.Fn.dep_atr_res_encode nfcid3 (did : Int) (bs : Int) (br : Int) (to : Int) (pp : Int) gb
      = if did < 256 ∧ bs < 256 ∧ br < 256 ∧ to < 256 ∧ pp < 256
        then .ok (encodePdu false (.atr (nfcid3 ++ [did, bs, br, to, pp] ++ gb))) else .error .value := by
  unfold Gen.Fn.dep_atr_res_encode encodePdu
  py_nat

/-- the octets `Target.activate` prepares (C19 `Activate.atrRes`): DID = BS = BR = 0 -/
theorem atr_res_encode_activate (nfcid3 gb : Bytes) (to pp : Nat) (ht : to < 256) (hp : pp < 256) :
    Gen.Fn.dep_atr_res_encode nfcid3 0 0 0 (to : Int) (pp : Int) gb = .ok (Activate.atrRes nfcid3 to pp gb) := by
  have h := atr_res_encode_bridge nfcid3 gb 0 0 0 to pp
  simp only [Int.natCast_zero] at h
  rw [h]
  simp [ht, hp, encodePdu, Activate.atrRes]

example : Gen.Fn.dep_atr_req_encode [1, 2, 3, 4, 5, 6, 7, 8, 9, 10] 0 0 0 0x32 [0x46, 0x66, 0x6D]
    = .ok [0xD4, 0, 1, 2, 3, 4, 5, 6, 7, 8, 9, 10, 0, 0, 0, 0x32, 0x46, 0x66, 0x6D] := by decide +kernel
example : Gen.Fn.dep_atr_res_encode [] 0 0 0 256 0 [] = .error .value := by decide +kernel

/-! ## `ATR_REQ.decode`, `ATR_RES.decode` -/

theorem and_bit (x k : Nat) : x &&& 2 ^ k = 2 ^ k * (x / 2 ^ k % 2) := and_two_pow_mul x k

theorem and_two_ne (pp : Nat) : pp &&& 2 ≠ 0 ↔ pp / 2 % 2 = 1 := and_two_pow_ne_zero pp 1

/-- `ATR_REQ.decode` on a frame that starts with `D4 00`: `ProtocolError` below 16 octets, else the fields -/
theorem atr_req_decode_bridge (d : Bytes) :
    Gen.Fn.dep_atr_req_decode (0xD4 :: 0x00 :: d)
      = if d.length < 14 then .error .protocol
        else .ok (some (d.take 10, ((d.drop 10).headD 0 : Nat), ((d.drop 11).headD 0 : Nat), ((d.drop 12).headD 0 : Nat),
                        ((d.drop 13).headD 0 : Nat),
                        if (d.drop 13).headD 0 &&& 2 ≠ 0 then d.drop 14 else [])) := by
  unfold Gen.Fn.dep_atr_req_decode
  rw [if_pos (isPrefixOf_code _ _ d)]
  refine ite_congr (propext (by simp [len_eq]; omega)) (fun _ => rfl) (fun h => ?_)
  have s1 : slice (0xD4 :: 0x00 :: d) 2 12 = d.take 10 := slice_cast _ 2 12
  have s2 : slice (0xD4 :: 0x00 :: d) 12 16 = (d.drop 10).take 4 := slice_cast _ 12 16
  have s3 : PyFn.sliceFrom (0xD4 :: 0x00 :: d) 16 = d.drop 14 := sliceFrom_ofNat _ 16
  have hl : ¬ len ((d.drop 10).take 4) ≠ 4 := by simp [len_eq]; omega
  have g (i : Nat) (hi : i < 4) := getB_take_drop d 10 4 i hi (by omega)
  simp only [s1, s2, s3, hl, if_false, Py.bind_ok]
  simp only [lit_cast, g, Nat.reduceLT, Nat.reduceAdd, Py.bind_ok, band_ofNat, ne_eq, Int.natCast_inj]

/-- `ATR_RES.decode` on a frame that starts with `D5 01`: `ProtocolError` below 17 octets, else the fields -/
theorem atr_res_decode_bridge (d : Bytes) :
    Gen.Fn.dep_atr_res_decode (0xD5 :: 0x01 :: d)
      = if d.length < 15 then .error .protocol
        else .ok (some (d.take 10, ((d.drop 10).headD 0 : Nat), ((d.drop 11).headD 0 : Nat), ((d.drop 12).headD 0 : Nat),
                        ((d.drop 13).headD 0 : Nat), ((d.drop 14).headD 0 : Nat),
                        if (d.drop 14).headD 0 &&& 2 ≠ 0 then d.drop 15 else [])) := by
  unfold Gen.Fn.dep_atr_res_decode
  rw [if_pos (isPrefixOf_code _ _ d)]
  refine ite_congr (propext (by simp [len_eq]; omega)) (fun _ => rfl) (fun h => ?_)
  have s1 : slice (0xD5 :: 0x01 :: d) 2 12 = d.take 10 := slice_cast _ 2 12
  have s2 : slice (0xD5 :: 0x01 :: d) 12 17 = (d.drop 10).take 5 := slice_cast _ 12 17
  have s3 : PyFn.sliceFrom (0xD5 :: 0x01 :: d) 17 = d.drop 15 := sliceFrom_ofNat _ 17
  have hl : ¬ len ((d.drop 10).take 5) ≠ 5 := by simp [len_eq]; omega
  have g (i : Nat) (hi : i < 5) := getB_take_drop d 10 5 i hi (by omega)
  simp only [s1, s2, s3, hl, if_false, Py.bind_ok]
  simp only [lit_cast, g, Nat.reduceLT, Nat.reduceAdd, Py.bind_ok, band_ofNat, ne_eq, Int.natCast_inj]

/-- a frame of another class is not decoded -/
theorem atr_decode_other (data : Bytes) :
    (List.isPrefixOf [0xD4, 0x00] data = false → Gen.Fn.dep_atr_req_decode data = .ok none)
    ∧ (List.isPrefixOf [0xD5, 0x01] data = false → Gen.Fn.dep_atr_res_decode data = .ok none) := by
  unfold Gen.Fn.dep_atr_req_decode Gen.Fn.dep_atr_res_decode
  constructor <;> intro h <;> simp [h]

/-- C04 / C07 codec (`NfcDep.decodeFrameAux`, `Peer.frameBody true`): an ATR body `d` behind the code octets is
accepted iff the regenerated `decode` of the class accepts the frame - `ProtocolError` for a short one -/
theorem atr_decode_model (d : Bytes) :
    ((if d.length < 14 then (.error .protocol : Py Pdu) else .ok (.atr d))
        = Gen.Fn.dep_atr_req_decode (0xD4 :: 0x00 :: d) >>= fun r =>
            match r with | none => .error .attr | some _ => .ok (.atr d))
    ∧ ((if d.length < 15 then (.error .protocol : Py Pdu) else .ok (.atr d))
        = Gen.Fn.dep_atr_res_decode (0xD5 :: 0x01 :: d) >>= fun r =>
            match r with | none => .error .attr | some _ => .ok (.atr d)) := by
  rw [atr_req_decode_bridge, atr_res_decode_bridge]
  constructor <;> split <;> rfl

/-- C07 (`dep_decode_total`): whatever octets follow the code, `decode` raises nothing but `ProtocolError` -/
theorem gen_atr_decode_safe (d : Bytes) :
    Safe (fun e => e = .protocol) (Gen.Fn.dep_atr_req_decode (0xD4 :: 0x00 :: d))
    ∧ Safe (fun e => e = .protocol) (Gen.Fn.dep_atr_res_decode (0xD5 :: 0x01 :: d)) := by
  rw [atr_req_decode_bridge, atr_res_decode_bridge]
  exact ⟨Safe.ite (Safe.throw rfl) (Safe.ok _), Safe.ite (Safe.throw rfl) (Safe.ok _)⟩

/-- what `activate()` reads from a decoded ATR (C07 `Peer.atrFields`): DID, `lr` (through the regenerated property)
and the general bytes, for a body of sufficient length -/
theorem atr_req_fields_peer (d : Bytes) (h : 14 ≤ d.length) :
    Peer.atrFields true d
      = Gen.Fn.dep_atr_req_decode (0xD4 :: 0x00 :: d) >>= fun r =>
          match r with
          | none => .error .attr
          | some (_, did, _, _, pp, gb) => Gen.Fn.dep_atr_lr pp >>= fun lr => .ok (0, lr.toNat, did.toNat, gb) := by
  rw [atr_req_decode_bridge, if_neg (by omega)]
  simp only [Peer.atrFields, if_true, idxN_headD d 10 (by omega), idxN_headD d 13 (by omega), Py.bind_ok,
    atr_lr_bridge, Int.toNat_natCast, and_two_ne]

theorem atr_res_fields_peer (d : Bytes) (h : 15 ≤ d.length) :
    Peer.atrFields false d
      = Gen.Fn.dep_atr_res_decode (0xD5 :: 0x01 :: d) >>= fun r =>
          match r with
          | none => .error .attr
          | some (_, did, _, _, to, pp, gb) =>
            Gen.Fn.dep_atr_lr pp >>= fun lr => .ok ((Gen.Fn.dep_atr_res_wt to).toNat, lr.toNat, did.toNat, gb) := by
  rw [atr_res_decode_bridge, if_neg (by omega)]
  simp only [Peer.atrFields, Bool.false_eq_true, if_false, idxN_headD d 10 (by omega), idxN_headD d 13 (by omega),
    idxN_headD d 14 (by omega), Py.bind_ok, atr_lr_bridge, atr_res_wt_bridge, Int.toNat_natCast, and_two_ne]

/-- C19 (`Activate.decodeAtrReq` inside `targetSide`): on a frame of at least 16 octets the model's decoder is the
regenerated one (a frame with other code octets: `decode` returns None, the first attribute access raises) -/
theorem atr_req_decode_activate (data : Bytes) (h : 16 ≤ data.length) :
    Activate.decodeAtrReq data
      = Gen.Fn.dep_atr_req_decode data >>= fun r =>
          match r with
          | none => .error .attr
          | some (n, did, _, _, pp, gb) => .ok ⟨n, did.toNat, pp.toNat, gb⟩ := by
  unfold Activate.decodeAtrReq
  by_cases hc : data.take 2 = [0xD4, 0x00]
  · have e := eq_code_cons hc
    generalize data.drop 2 = d at e
    subst e
    have hd : 14 ≤ d.length := by simpa using h
    rw [if_neg (not_not_intro hc), atr_req_decode_bridge, if_neg (Nat.not_lt.mpr hd)]
    show (match (d.drop 10).take 4 with | [did, _, _, pp] => _ | _ => _) = _
    rw [take_succ_drop d 10 3 (by omega), take_succ_drop d 11 2 (by omega), take_succ_drop d 12 1 (by omega),
      take_succ_drop d 13 0 (by omega)]
    rfl
  · rw [if_pos hc, (atr_decode_other data).1 (by rw [← Bool.not_eq_true, isPrefixOf_iff_take]; exact hc)]
    rfl

theorem atr_res_decode_activate (data : Bytes) (h : 17 ≤ data.length) :
    Activate.decodeAtrRes data
      = Gen.Fn.dep_atr_res_decode data >>= fun r =>
          match r with
          | none => .error .attr
          | some (n, _, _, _, to, pp, gb) => .ok ⟨n, to.toNat, pp.toNat, gb⟩ := by
  unfold Activate.decodeAtrRes
  by_cases hc : data.take 2 = [0xD5, 0x01]
  · have e := eq_code_cons hc
    generalize data.drop 2 = d at e
    subst e
    have hd : 15 ≤ d.length := by simpa using h
    rw [if_neg (not_not_intro hc), atr_res_decode_bridge, if_neg (Nat.not_lt.mpr hd)]
    show (match (d.drop 10).take 5 with | [_, _, _, to, pp] => _ | _ => _) = _
    rw [take_succ_drop d 10 4 (by omega), take_succ_drop d 11 3 (by omega), take_succ_drop d 12 2 (by omega),
      take_succ_drop d 13 1 (by omega), take_succ_drop d 14 0 (by omega)]
    rfl
  · rw [if_pos hc, (atr_decode_other data).2 (by rw [← Bool.not_eq_true, isPrefixOf_iff_take]; exact hc)]
    rfl

/-- on a SHORT frame the C19 model `Activate.decodeAtrReq` still shows the behaviour before fixes/C07 (`ValueError` of
the tuple unpacking) while the source raises `ProtocolError`.  No flow of `Activate.activate` produces such a frame
(both ATRs come from the encoders bridged above); the C04/C07 models have the repaired behaviour (`atr_decode_model`) -/
theorem atr_decode_short_model_differs :
    Activate.decodeAtrReq [0xD4, 0, 1] = .error .value ∧ Gen.Fn.dep_atr_req_decode [0xD4, 0, 1] = .error .protocol :=
  ⟨rfl, rfl⟩

/-- encode then decode: the ATR_REQ `Initiator.activate` sends is read back field by field -/
theorem atr_req_roundtrip (nfcid3 gb : Bytes) (did pp : Nat) (hn : nfcid3.length = 10) (hd : did < 256) (hp : pp < 256) :
    (Gen.Fn.dep_atr_req_encode nfcid3 (did : Int) 0 0 (pp : Int) gb >>= Gen.Fn.dep_atr_req_decode)
      = .ok (some (nfcid3, (did : Int), 0, 0, (pp : Int), if pp &&& 2 ≠ 0 then gb else [])) := by
  rw [atr_req_encode_activate nfcid3 gb did pp hd hp, Py.bind_ok]
  unfold Activate.atrReq
  have e : [0xD4, 0x00] ++ nfcid3 ++ [did, 0, 0, pp] ++ gb = 0xD4 :: 0x00 :: (nfcid3 ++ [did, 0, 0, pp] ++ gb) := by simp
  rw [e, atr_req_decode_bridge, if_neg (by simp [hn]; omega)]
  match nfcid3, hn with
  | [n0, n1, n2, n3, n4, n5, n6, n7, n8, n9], _ => simp

example : Gen.Fn.dep_atr_req_decode [0xD4, 0, 1, 2, 3, 4, 5, 6, 7, 8, 9, 10, 7, 0, 0, 0x32, 0x46]
    = .ok (some ([1, 2, 3, 4, 5, 6, 7, 8, 9, 10], 7, 0, 0, 0x32, [0x46])) := by rfl
example : Gen.Fn.dep_atr_res_decode [0xD5, 1, 1, 2, 3] = .error .protocol := by rfl

/-! ## `PSL_REQ`, `PSL_RES` -/

theorem psl_req_encode_bridge (did brs fsl : Nat) :
    Gen.Fn.dep_psl_req_encode (did : Int) (brs : Int) (fsl : Int)
      = if did < 256 ∧ brs < 256 ∧ fsl < 256 then .ok (encodePdu true (.psl [did, brs, fsl])) else .error .value := by
  unfold Gen.Fn.dep_psl_req_encode encodePdu
  py_nat

theorem brsByte_lt (brs : Nat) : Activate.brsByte brs < 256 := by
  unfold Activate.brsByte; split <;> omega

/-- the PSL_REQ octets of `Initiator.activate` (C19 `Activate.pslReq`) -/
theorem psl_req_encode_activate (did brs lri : Nat) (hd : did < 256) (hl : lri < 256) :
    Gen.Fn.dep_psl_req_encode (did : Int) (Activate.brsByte brs : Nat) (lri : Int)
      = .ok (Activate.pslReq did brs lri) := by
  rw [psl_req_encode_bridge]
  simp [hd, hl, brsByte_lt, encodePdu, Activate.pslReq]

theorem psl_res_encode_bridge (did : Nat) :
    Gen.Fn.dep_psl_res_encode (did : Int)
      = if did < 256 then .ok (Activate.pslRes did) else .error .value := by
  unfold Gen.Fn.dep_psl_res_encode Activate.pslRes
  py_nat

theorem psl_req_dsi_bridge (brs : Nat) : Gen.Fn.dep_psl_req_dsi (brs : Int) = ((brs / 8 % 8 : Nat) : Int) := by
  unfold Gen.Fn.dep_psl_req_dsi; py_nat

theorem psl_req_dri_bridge (brs : Nat) : Gen.Fn.dep_psl_req_dri (brs : Int) = ((brs % 8 : Nat) : Int) := by
  unfold Gen.Fn.dep_psl_req_dri; py_nat

/-- the bit rate the listening side of the C19 model switches to is `min(dsi, 2)` of the PSL_REQ it received -/
theorem psl_req_dsi_brty (did brs fsl : Nat) :
    ((Activate.pslBrty [0xD4, 0x04, did, brs, fsl] : Nat) : Int) = imin (Gen.Fn.dep_psl_req_dsi (brs : Int)) 2 := by
  rw [psl_req_dsi_bridge]
  unfold Activate.pslBrty imin
  simp only []
  split <;> omega

/-- DSI = DRI = the selected rate for the three BRS octets `Initiator.activate` can send -/
theorem psl_req_dsi_dri_selected (brs : Nat) (h : brs ≤ 2) :
    Gen.Fn.dep_psl_req_dsi ((Activate.brsByte brs : Nat) : Int) = (brs : Int)
    ∧ Gen.Fn.dep_psl_req_dri ((Activate.brsByte brs : Nat) : Int) = (brs : Int) := by
  rw [psl_req_dsi_bridge, psl_req_dri_bridge]
  match brs, h with
  | 0, _ => exact ⟨rfl, rfl⟩
  | 1, _ => exact ⟨rfl, rfl⟩
  | 2, _ => exact ⟨rfl, rfl⟩

theorem psl_req_lr_bridge (fsl : Nat) :
    Gen.Fn.dep_psl_req_lr (fsl : Int) = .ok ((NfcDep.lrTable fsl : Nat) : Int) := by
  unfold Gen.Fn.dep_psl_req_lr
  py_nat
  rw [← idx_ofNat, idx_lr _ (Nat.mod_lt _ (by decide)), lrTable_mod]

example : Gen.Fn.dep_psl_req_encode 0 18 3 = .ok [0xD4, 4, 0, 18, 3] := by decide +kernel
example : Gen.Fn.dep_psl_req_dsi 18 = 2 ∧ Gen.Fn.dep_psl_req_dri 18 = 2 := by decide +kernel

/-! ## `DSL_REQ_RES.encode` / `.decode` as inherited by DSL_REQ, DSL_RES, RLS_REQ, RLS_RES -/

theorem dsl_enc_aux (c0 c1 : Nat) (did : Option Nat) (h : ∀ d, did = some d → d < 256) :
    ((match did.map (fun (d : Nat) => (d : Int)) with
      | none => (Except.ok [] : Py Bytes)
      | some d => PyFn.pack [.B] [d]) >>= fun t => Except.ok ([c0, c1] ++ t))
      = .ok ([c0, c1] ++ optByte did) := by
  cases did with
  | none => rfl
  | some d =>
    have := h d rfl
    simp only [Option.map_some, pack_B, optByte]
    rw [if_neg (by omega)]; rfl

/-- the four encoders are the C04 codec `encodePdu` of a DSL / RLS PDU (`did` an octet); the code octets are the
class constants `PDU_CODE` re-read from the source -/
theorem dsl_encode_bridge (did : Option Nat) (h : ∀ d, did = some d → d < 256) :
    Gen.Fn.dep_dsl_req_encode (did.map (fun (d : Nat) => (d : Int))) = .ok (encodePdu true (.dsl did))
    ∧ Gen.Fn.dep_dsl_res_encode (did.map (fun (d : Nat) => (d : Int))) = .ok (encodePdu false (.dsl did))
    ∧ Gen.Fn.dep_rls_req_encode (did.map (fun (d : Nat) => (d : Int))) = .ok (encodePdu true (.rls did))
    ∧ Gen.Fn.dep_rls_res_encode (did.map (fun (d : Nat) => (d : Int))) = .ok (encodePdu false (.rls did)) := by
  unfold Gen.Fn.dep_dsl_req_encode Gen.Fn.dep_dsl_res_encode Gen.Fn.dep_rls_req_encode Gen.Fn.dep_rls_res_encode
  exact ⟨dsl_enc_aux _ _ did h, dsl_enc_aux _ _ did h, dsl_enc_aux _ _ did h, dsl_enc_aux _ _ did h⟩

/-- a DID that is not an octet is a `struct.error` -/
theorem dsl_encode_overflow (d : Nat) (h : d > 255) :
    Gen.Fn.dep_dsl_req_encode (some (d : Int)) = .error .struct := by
  unfold Gen.Fn.dep_dsl_req_encode
  simp [pack_B, h]

example : Gen.Fn.dep_rls_res_encode (some 7) = .ok [0xD5, 0x0B, 7] := by decide +kernel

/-- the common body of the four decoders, `c0 c1` being the code octets `PDU_CODE` of the class -/
def dslDec (c0 c1 : Nat) (data : Bytes) : Py (Option (Option Int)) :=
  if (List.isPrefixOf [c0, c1] data = true) then
    (if ((PyFn.len data) > 3) then Except.error Exc.protocol else
     (if ((PyFn.len data) = 3) then
        (PyFn.getB data 2 >>= fun t1 =>
         Except.ok (some t1))
      else
        (Except.ok ((none : (Option Int))))) >>= fun t2 =>
     Except.ok (some t2))
  else
  Except.ok ((none : (Option (Option Int))))

theorem dslDec_match (c0 c1 : Nat) (d : Bytes) :
    dslDec c0 c1 (c0 :: c1 :: d)
      = match d with
        | [] => .ok (some none)
        | [x] => .ok (some (some (x : Int)))
        | _ => .error .protocol := by
  unfold dslDec
  rw [if_pos (isPrefixOf_code c0 c1 d)]
  match d with
  | [] => simp [len_eq]
  | [x] => simp [len_eq, getB_two, getB_one, getB_zero]
  | x :: y :: r =>
    have : PyFn.len (c0 :: c1 :: x :: y :: r) > 3 := by simp [len_eq]; omega
    simp [this]

theorem dslDec_model (mk : Option Nat → Pdu) (c0 c1 : Nat) (d : Bytes) :
    decodeDsl mk d
      = dslDec c0 c1 (c0 :: c1 :: d) >>= fun r =>
          match r with
          | none => .error .attr
          | some did => .ok (mk (did.map Int.toNat)) := by
  rw [dslDec_match]
  unfold decodeDsl
  match d with
  | [] => rfl
  | [x] => simp
  | x :: y :: r => rfl

theorem dslDec_safe (c0 c1 : Nat) (data : Bytes) : Safe (fun e => e = .protocol) (dslDec c0 c1 data) := by
  unfold dslDec
  refine Safe.ite (Safe.ite (Safe.throw rfl) (Safe.bind' (Safe.ite' (fun h3 => ?_) fun _ => Safe.ok _) fun _ => Safe.ok _))
    (Safe.ok _)
  have hl : data.length = 3 := by simp only [len_eq] at h3; omega
  match data, hl with
  | [a, b, c], _ => rw [getB_two, getB_one, getB_zero]; exact Safe.ok _

/-- the C04/C07 model decoder `decodeDsl` (applied by `decodeFrame` behind the code check) is the regenerated
`decode` of the class whose code octets the frame carries - for all four classes -/
theorem dsl_decode_bridge (d : Bytes) :
    (decodeDsl .dsl d = Gen.Fn.dep_dsl_req_decode (0xD4 :: 0x08 :: d) >>= fun r =>
        match r with | none => .error .attr | some did => .ok (.dsl (did.map Int.toNat)))
    ∧ (decodeDsl .dsl d = Gen.Fn.dep_dsl_res_decode (0xD5 :: 0x09 :: d) >>= fun r =>
        match r with | none => .error .attr | some did => .ok (.dsl (did.map Int.toNat)))
    ∧ (decodeDsl .rls d = Gen.Fn.dep_rls_req_decode (0xD4 :: 0x0A :: d) >>= fun r =>
        match r with | none => .error .attr | some did => .ok (.rls (did.map Int.toNat)))
    ∧ (decodeDsl .rls d = Gen.Fn.dep_rls_res_decode (0xD5 :: 0x0B :: d) >>= fun r =>
        match r with | none => .error .attr | some did => .ok (.rls (did.map Int.toNat))) :=
  ⟨dslDec_model .dsl 0xD4 0x08 d, dslDec_model .dsl 0xD5 0x09 d, dslDec_model .rls 0xD4 0x0A d,
   dslDec_model .rls 0xD5 0x0B d⟩

/-- a frame of another class is not decoded: `decode` returns None -/
theorem dsl_decode_other (data : Bytes) (h : List.isPrefixOf [0xD4, 0x08] data = false) :
    Gen.Fn.dep_dsl_req_decode data = .ok none := by
  unfold Gen.Fn.dep_dsl_req_decode
  simp [h]

/-- C07 (`dep_decode_total`): whatever the peer sends as DSL/RLS PDU, `decode` raises nothing but `ProtocolError` -/
theorem gen_dsl_decode_safe (data : Bytes) :
    Safe (fun e => e = .protocol) (Gen.Fn.dep_dsl_req_decode data)
    ∧ Safe (fun e => e = .protocol) (Gen.Fn.dep_dsl_res_decode data)
    ∧ Safe (fun e => e = .protocol) (Gen.Fn.dep_rls_req_decode data)
    ∧ Safe (fun e => e = .protocol) (Gen.Fn.dep_rls_res_decode data) :=
  ⟨dslDec_safe 0xD4 0x08 data, dslDec_safe 0xD5 0x09 data, dslDec_safe 0xD4 0x0A data, dslDec_safe 0xD5 0x0B data⟩

example : Gen.Fn.dep_dsl_req_decode [0xD4, 0x08, 5] = .ok (some (some 5)) := by decide +kernel
example : Gen.Fn.dep_rls_res_decode [0xD5, 0x0B, 5, 6] = .error .protocol := by decide +kernel
example : Gen.Fn.dep_rls_res_decode [0xD5, 0x09, 5] = .ok none := by decide +kernel

/-! ## `DEP_REQ_RES.decode` as inherited by DEP_REQ, DEP_RES -/

/-- the C04/C07 model decoder `decodeDep` (applied by `decodeFrame` behind the code check, `d` = frame without the two
code octets) is the regenerated `decode` of DEP_REQ / DEP_RES: PFB split into type, NAD flag, DID flag, PNI; DID then
NAD octet when flagged; a missing octet (`IndexError` of `data.pop(0)`) is a `ProtocolError` -/
theorem dep_decode_bridge (d : Bytes) :
    (decodeDep d = Gen.Fn.dep_dep_req_decode (0xD4 :: 0x06 :: d) >>= depOfRec)
    ∧ (decodeDep d = Gen.Fn.dep_dep_res_decode (0xD5 :: 0x07 :: d) >>= depOfRec) := by
  unfold Gen.Fn.dep_dep_req_decode Gen.Fn.dep_dep_res_decode
  have d1 : PyFn.delSlice (0xD4 :: 0x06 :: d) 0 2 = d := delSlice_zero_cast _ 2
  have d2 : PyFn.delSlice (0xD5 :: 0x07 :: d) 0 2 = d := delSlice_zero_cast _ 2
  rw [if_pos (isPrefixOf_code _ _ d), if_pos (isPrefixOf_code _ _ d)]
  simp only [d1, d2, and_self]
  symm
  unfold decodeDep
  match d with
  | [] => rfl
  | pfb :: r1 =>
    have e8 : (band (pfb : Int) 8 ≠ 0) ↔ (pfb / 8 % 2 = 1) := band_two_pow_ne_zero pfb 3
    have e4 : (band (pfb : Int) 4 ≠ 0) ↔ (pfb / 4 % 2 = 1) := band_two_pow_ne_zero pfb 2
    have es : PyFn.shr (pfb : Int) 4 = ((pfb / 16 : Nat) : Int) := by
      rw [show (4 : Int) = ((4 : Nat) : Int) from rfl, shr_ofNat, Nat.shiftRight_eq_div_pow]
    have e3 : PyFn.band (pfb : Int) 3 = ((pfb % 4 : Nat) : Int) := by
      rw [show (3 : Int) = ((3 : Nat) : Int) from rfl, band_ofNat, and3]
    simp only [pop0, Py.bind_ok, es, e3, e8, e4, decide_eq_true_eq]
    by_cases hd : pfb / 4 % 2 = 1 <;> by_cases hn : pfb / 8 % 2 = 1 <;> simp only [hd, hn, if_true, if_false]
    · rcases r1 with _ | ⟨x, _ | ⟨y, r⟩⟩ <;> rfl
    · rcases r1 with _ | ⟨x, r⟩ <;> rfl
    · rcases r1 with _ | ⟨x, r⟩ <;> rfl
    · rfl

/-- a frame of another class is not decoded: `decode` returns None -/
theorem dep_decode_other (data : Bytes) :
    (List.isPrefixOf [0xD4, 0x06] data = false → Gen.Fn.dep_dep_req_decode data = .ok none)
    ∧ (List.isPrefixOf [0xD5, 0x07] data = false → Gen.Fn.dep_dep_res_decode data = .ok none) := by
  unfold Gen.Fn.dep_dep_req_decode Gen.Fn.dep_dep_res_decode
  constructor <;> intro h <;> simp [h]

/-- C07 (`dep_decode_total`): whatever octets follow the code, DEP `decode` raises nothing but `ProtocolError` /
`TransmissionError` (`Peer.FrameErr`) -/
theorem gen_dep_decode_safe (d : Bytes) :
    Safe Peer.FrameErr (Gen.Fn.dep_dep_req_decode (0xD4 :: 0x06 :: d))
    ∧ Safe Peer.FrameErr (Gen.Fn.dep_dep_res_decode (0xD5 :: 0x07 :: d)) := by
  obtain ⟨h1, h2⟩ := dep_decode_bridge d
  exact ⟨Safe.of_bind (h1 ▸ Peer.decodeDep_safe d), Safe.of_bind (h2 ▸ Peer.decodeDep_safe d)⟩

example : Gen.Fn.dep_dep_req_decode [0xD4, 0x06, 0x05, 7, 1, 2] = .ok (some ((0, false, true, 1), some 7, none, [1, 2])) := by rfl
example : Gen.Fn.dep_dep_res_decode [0xD5, 0x07, 0x4C, 7] = .error .protocol := by rfl

/-! ## `DEP_REQ_RES.encode` as inherited by DEP_REQ, DEP_RES -/

theorem shl4_or (l low : Nat) (h : low < 16) : l <<< 4 ||| low = l * 16 + low := by
  rw [← Nat.shiftLeft_add_eq_or_of_lt (show low < 2 ^ 4 from h), Nat.shiftLeft_eq]

/-- `fmt << 4 | nad << 3 | did << 2 | pni` with one-bit flags and a two-bit packet number is the sum -/
theorem pfb_bits (fmt pni : Nat) (hn hd : Bool) (hp : pni < 4) :
    bor (bor (bor (shl (fmt : Int) 4) (shl (if hn = true then 1 else 0) 3)) (shl (if hd = true then 1 else 0) 2)) (pni : Int)
      = ((fmt * 16 + (if hn then 8 else 0) + (if hd then 4 else 0) + pni : Nat) : Int) := by
  have e4 : shl (fmt : Int) 4 = ((fmt <<< 4 : Nat) : Int) := by
    rw [show (4 : Int) = ((4 : Nat) : Int) from rfl, shl_ofNat]
  have en : shl (if hn = true then 1 else 0) 3 = (((if hn then 8 else 0) : Nat) : Int) := by cases hn <;> rfl
  have ed : shl (if hd = true then 1 else 0) 2 = (((if hd then 4 else 0) : Nat) : Int) := by cases hd <;> rfl
  have hlow : (if hn then 8 else 0) ||| (if hd then 4 else 0) ||| pni = (if hn then 8 else 0) + (if hd then 4 else 0) + pni
      ∧ (if hn then 8 else 0) + (if hd then 4 else 0) + pni < 16 := by
    match pni, hp with
    | 0, _ | 1, _ | 2, _ | 3, _ => cases hn <;> cases hd <;> decide
  rw [e4, en, ed, bor_ofNat, bor_ofNat, bor_ofNat, Nat.or_assoc, Nat.or_assoc, ← Nat.or_assoc (if hn then 8 else 0),
    hlow.1, shl4_or _ _ hlow.2]
  congr 1; omega

/-- `if flag: data += bytearray([self.did])` appends the optional octet -/
theorem opt_octet (o : Option Nat) (h : ∀ v, o = some v → v < 256) (pre : Bytes) :
    (if o.isSome = true then PyFn.mkBytes [((o.getD 0 : Nat) : Int)] >>= fun t => Except.ok (pre ++ t) else .ok pre)
      = .ok (pre ++ optByte o) := by
  cases o with
  | none => exact congrArg Except.ok (List.append_nil pre).symm
  | some v =>
    have e : PyFn.mkBytes [((v : Nat) : Int)] = .ok [v] := mkBytes_isBytes [v] (fun b hb => List.mem_singleton.mp hb ▸ h v rfl)
    simp only [Option.isSome_some, if_true, Option.getD_some, e, Py.bind_ok, optByte]

/-- `DEP_REQ_RES.encode` with the class constant `PDU_CODE = c0 c1` -/
theorem dep_enc_aux (c0 c1 fmt pni : Nat) (did nad : Option Nat) (data : Bytes) (hf : fmt < 16) (hp : pni < 4)
    (hd : ∀ v, did = some v → v < 256) (hn : ∀ v, nad = some v → v < 256) :
    (PyFn.pack [.B] [bor (bor (bor (shl (fmt : Int) 4) (shl (if nad.isSome = true then 1 else 0) 3))
        (shl (if did.isSome = true then 1 else 0) 2)) (pni : Int)] >>= fun t1 =>
      (if did.isSome = true then PyFn.mkBytes [((did.getD 0 : Nat) : Int)] >>= fun t2 => Except.ok (([c0, c1] ++ t1) ++ t2)
        else .ok ([c0, c1] ++ t1)) >>= fun data_3 =>
      (if nad.isSome = true then PyFn.mkBytes [((nad.getD 0 : Nat) : Int)] >>= fun t3 => Except.ok (data_3 ++ t3)
        else .ok data_3) >>= fun data_5 =>
      Except.ok (data_5 ++ data))
      = .ok ([c0, c1, fmt * 16 + flag nad 8 + flag did 4 + pni] ++ optByte did ++ optByte nad ++ data) := by
  rw [pfb_bits fmt pni nad.isSome did.isSome hp, pack_B]
  have hle : ¬ (fmt * 16 + (if nad.isSome then 8 else 0) + (if did.isSome then 4 else 0) + pni > 255) := by
    cases nad.isSome <;> cases did.isSome <;> simp <;> omega
  rw [if_neg hle, Py.bind_ok, opt_octet did hd, Py.bind_ok, opt_octet nad hn, Py.bind_ok]
  rfl

/-- `DEP_REQ.encode` / `DEP_RES.encode`: the C04 codec `encodePdu` of a DEP PDU whose PFB flags say which of DID / NAD
are present (`fmt < 16`, `pni < 4`, DID and NAD octets) -/
theorem dep_req_encode_bridge (fmt pni : Nat) (did nad : Option Nat) (data : Bytes) (hf : fmt < 16) (hp : pni < 4)
    (hd : ∀ v, did = some v → v < 256) (hn : ∀ v, nad = some v → v < 256) :
    Gen.Fn.dep_dep_req_encode ((fmt : Int), nad.isSome, did.isSome, (pni : Int)) ((did.getD 0 : Nat) : Int)
        ((nad.getD 0 : Nat) : Int) data
      = .ok (encodePdu true (.dep fmt pni did nad data)) :=
  dep_enc_aux _ _ fmt pni did nad data hf hp hd hn

theorem dep_res_encode_bridge (fmt pni : Nat) (did nad : Option Nat) (data : Bytes) (hf : fmt < 16) (hp : pni < 4)
    (hd : ∀ v, did = some v → v < 256) (hn : ∀ v, nad = some v → v < 256) :
    Gen.Fn.dep_dep_res_encode ((fmt : Int), nad.isSome, did.isSome, (pni : Int)) ((did.getD 0 : Nat) : Int)
        ((nad.getD 0 : Nat) : Int) data
      = .ok (encodePdu false (.dep fmt pni did nad data)) :=
  dep_enc_aux _ _ fmt pni did nad data hf hp hd hn

example : Gen.Fn.dep_dep_req_encode (1, false, true, 2) 7 0 [9, 9] = .ok [0xD4, 0x06, 0x16, 7, 9, 9] := by decide +kernel
example : Gen.Fn.dep_dep_res_encode (16, false, false, 0) 0 0 [] = .error .struct := by decide +kernel

/-- encode then decode a DEP PDU: the C04 roundtrip `decodeDep (encode ..) = ..` through the regenerated functions -/
theorem dep_req_roundtrip (fmt pni : Nat) (did nad : Option Nat) (data : Bytes) (hf : fmt < 16) (hp : pni < 4)
    (hd : ∀ v, did = some v → v < 256) (hn : ∀ v, nad = some v → v < 256) :
    (Gen.Fn.dep_dep_req_encode ((fmt : Int), nad.isSome, did.isSome, (pni : Int)) ((did.getD 0 : Nat) : Int)
        ((nad.getD 0 : Nat) : Int) data >>= fun f => Gen.Fn.dep_dep_req_decode f >>= depOfRec)
      = decodeDep ((encodePdu true (.dep fmt pni did nad data)).drop 2) := by
  rw [dep_req_encode_bridge fmt pni did nad data hf hp hd hn, Py.bind_ok]
  have e : encodePdu true (.dep fmt pni did nad data)
      = 0xD4 :: 0x06 :: (encodePdu true (.dep fmt pni did nad data)).drop 2 := by
    simp [encodePdu]
  rw [e, ← (dep_decode_bridge _).1]
  simp

/-! ## the dispatch of `decode_frame` with the regenerated PDU decoders -/

/-- the dispatch + model decoders of group Dep (`FnBridge.Dep.tail`, the continuation in
`initiator_decode_frame_bridge` / `target_decode_frame_bridge`) is the dispatch + REGENERATED decoders, on every frame
whose first code octet is the one `decode_frame` has checked -/
theorem tail_eq_genTail (req : Bool) (c1 : Nat) (d : Bytes) :
    FnBridge.Dep.tail req ((if req then 0xD4 else 0xD5) :: c1 :: d) = genTail req ((if req then 0xD4 else 0xD5) :: c1 :: d) := by
  unfold FnBridge.Dep.tail genTail
  cases req
  · by_cases h1 : c1 = 1
    · subst h1; exact (atr_decode_model d).2
    by_cases h5 : c1 = 5
    · subst h5; rfl
    by_cases h7 : c1 = 7
    · subst h7; exact (dep_decode_bridge d).2
    by_cases h9 : c1 = 9
    · subst h9; exact (dsl_decode_bridge d).2.1
    by_cases h11 : c1 = 11
    · subst h11; exact (dsl_decode_bridge d).2.2.2
    by_cases h0 : c1 = 0
    · subst h0; rfl
    have e (k : Nat) : c1 - 1 = k ↔ c1 = k + 1 := by omega
    simp only [Bool.false_eq_true, if_false, h0, and_false, e, Nat.reduceAdd, h1, h5, h7, h9, h11]
  · by_cases h0 : c1 = 0
    · subst h0; exact (atr_decode_model d).1
    by_cases h4 : c1 = 4
    · subst h4; rfl
    by_cases h6 : c1 = 6
    · subst h6; exact (dep_decode_bridge d).1
    by_cases h8 : c1 = 8
    · subst h8; exact (dsl_decode_bridge d).1
    by_cases h10 : c1 = 10
    · subst h10; exact (dsl_decode_bridge d).2.2.1
    simp only [if_true, not_true, false_and, if_false, h0, h4, h6, h8, h10]

/-! ## `Initiator.activate`: option clamps, PP / DID octets, PSL_REQ, `wt`, `miu` -/

theorem clamp_eq (lo hi x : Int) (h0 : 0 ≤ lo) (h : lo ≤ hi) :
    imin (imax lo x) hi = ((Activate.clampI lo hi x : Nat) : Int) := by
  unfold imin imax Activate.clampI
  split <;> split <;> omega

/-- `brs`, `lri` as `Activate.handshake` clamps them (C19), for every value the caller may pass as option -/
theorem ini_opts_bridge (g : String → Int → Int) :
    Gen.Fn.dep_ini_opts g
      = (((Activate.clampI 0 2 (g "brs" 2) : Nat) : Int), ((Activate.clampI 0 3 (g "lri" 3) : Nat) : Int)) := by
  unfold Gen.Fn.dep_ini_opts
  simp only [clamp_eq _ _ _ (Int.le_refl 0) (by decide : (0 : Int) ≤ 2),
    clamp_eq _ _ _ (Int.le_refl 0) (by decide : (0 : Int) ≤ 3)]

theorem clampI_le (lo hi : Int) (x : Int) (h0 : 0 ≤ lo) (h : lo ≤ hi) : ((Activate.clampI lo hi x : Nat) : Int) ≤ hi := by
  unfold Activate.clampI; omega

/-- `lri << 4 | b1 << 1 | b0` for the two flag bits -/
theorem pp_bits (l : Nat) (b1 b0 : Bool) :
    bor (bor (shl (l : Int) 4) (shl (if b1 = true then 1 else 0) 1)) (if b0 = true then 1 else 0)
      = ((l * 16 + Activate.boolBit b1 2 + Activate.boolBit b0 1 : Nat) : Int) := by
  have e4 : shl (l : Int) 4 = ((l <<< 4 : Nat) : Int) := by
    rw [show (4 : Int) = ((4 : Nat) : Int) from rfl, shl_ofNat]
  have e1 : shl (if b1 = true then 1 else 0) 1 = ((Activate.boolBit b1 2 : Nat) : Int) := by cases b1 <;> rfl
  have e0 : (if b0 = true then 1 else 0 : Int) = ((Activate.boolBit b0 1 : Nat) : Int) := by cases b0 <;> rfl
  have hlow : Activate.boolBit b1 2 ||| Activate.boolBit b0 1 = Activate.boolBit b1 2 + Activate.boolBit b0 1
      ∧ Activate.boolBit b1 2 + Activate.boolBit b0 1 < 16 := by cases b1 <;> cases b0 <;> decide
  rw [e4, e1, e0, bor_ofNat, bor_ofNat, Nat.or_assoc, hlow.1, shl4_or _ _ hlow.2, Nat.add_assoc]

/-- PP and DID octets of the ATR_REQ as `Activate.handshake` builds them (`ppiOf`, `didByte`); `did` passed the
`assert self.did is None or 0 <= self.did <= 255` in front of the slice -/
theorem ini_ppi_bridge (lri : Nat) (gbi : Bytes) (nad did : Option Int) (hd : ∀ v, did = some v → 0 ≤ v) :
    Gen.Fn.dep_ini_ppi (lri : Int) gbi nad did
      = (((Activate.ppiOf lri gbi nad : Nat) : Int), ((Activate.didByte did : Nat) : Int)) := by
  unfold Gen.Fn.dep_ini_ppi Activate.ppiOf
  have hb := pp_bits lri (decide (gbi ≠ [])) (decide (nad ≠ none ∧ nad ≠ some 0))
  simp only [hb]
  have e1 : decide (gbi ≠ []) = !gbi.isEmpty := by cases gbi <;> simp
  have e2 : decide (nad ≠ none ∧ nad ≠ some 0) = Activate.optTruthy nad := by
    cases nad with
    | none => simp [Activate.optTruthy]
    | some v => simp [Activate.optTruthy]
  rw [e1, e2]
  cases did with
  | none => rfl
  | some v =>
    have := hd v rfl
    simp only [Activate.didByte]
    congr 1
    omega

/-- the constructor arguments of the PSL_REQ: BRS octet from the table `(0, 9, 18)` (`Activate.brsByte`) -/
theorem ini_psl_req_bridge (did lri : Int) (brs : Nat) (h : brs ≤ 2) :
    Gen.Fn.dep_ini_psl_req did (brs : Int) lri = .ok (did, ((Activate.brsByte brs : Nat) : Int), lri) := by
  unfold Gen.Fn.dep_ini_psl_req
  match brs, h with
  | 0, _ => rfl
  | 1, _ => rfl
  | 2, _ => rfl

/-- constructor arguments + `PSL_REQ.encode` = the PSL_REQ octets of the C19 model -/
theorem ini_psl_req_activate (did lri brs : Nat) (h : brs ≤ 2) (hd : did < 256) (hl : lri < 256) :
    (Gen.Fn.dep_ini_psl_req (did : Int) (brs : Int) (lri : Int) >>= fun r => Gen.Fn.dep_psl_req_encode r.1 r.2.1 r.2.2)
      = .ok (Activate.pslReq did brs lri) := by
  rw [ini_psl_req_bridge _ _ _ h]
  exact psl_req_encode_activate did brs lri hd hl

/-- an out-of-table `brs` would be an `IndexError`; the clamp in front (`ini_opts_bridge`) excludes it -/
example : Gen.Fn.dep_ini_psl_req 0 3 0 = .error .index := by decide +kernel

/-- the exponent of the response waiting time: WT, capped at 14 (`IHeld.wt` of the C19 model) -/
theorem ini_wt_bridge (wt : Nat) : Gen.Fn.dep_ini_wt (wt : Int) = ((if wt < 15 then wt else 14 : Nat) : Int) := by
  unfold Gen.Fn.dep_ini_wt
  py_nat

/-- `ATR_RES.wt` + the cap, on the TO octet of the ATR_RES: the value `Activate.initiatorSide` holds -/
theorem ini_wt_activate (to : Nat) :
    Gen.Fn.dep_ini_wt (Gen.Fn.dep_atr_res_wt (to : Int)) = ((if to % 16 < 15 then to % 16 else 14 : Nat) : Int) := by
  rw [atr_res_wt_bridge, ini_wt_bridge]

theorem ini_miu_bridge (lr : Int) (did nad : Option Int) :
    Gen.Fn.dep_ini_miu lr did nad
      = lr - 3 - (Activate.boolBit did.isSome 1 : Nat) - (Activate.boolBit nad.isSome 1 : Nat) := by
  unfold Gen.Fn.dep_ini_miu
  cases did <;> cases nad <;> simp [Activate.boolBit]

/-- `atr_res.lr` + the miu statement on the PP octet of the ATR_RES: the `miu` of `Activate.initiatorSide` (C19)
and `NfcDep.iMiu` (C04) -/
theorem ini_miu_activate (pp : Nat) (did nad : Option Int) :
    (Gen.Fn.dep_atr_lr (pp : Int) >>= fun lr => .ok (Gen.Fn.dep_ini_miu lr did nad))
      = .ok (((Activate.lrTable ((pp / 16) % 4) - 3 - Activate.boolBit did.isSome 1 - Activate.boolBit nad.isSome 1
              : Nat)) : Int) := by
  rw [atr_lr_activate, Py.bind_ok, ini_miu_bridge]
  have h := lrTable_ge ((pp / 16) % 4)
  rw [← lrTable_eq] at h
  have h1 : Activate.boolBit did.isSome 1 ≤ 1 := by unfold Activate.boolBit; split <;> omega
  have h2 : Activate.boolBit nad.isSome 1 ≤ 1 := by unfold Activate.boolBit; split <;> omega
  congr 1
  omega

theorem ini_miu_c04 (lrt : Nat) (did nad : Option Nat) :
    Gen.Fn.dep_ini_miu ((NfcDep.lrTable lrt : Nat) : Int) (did.map (fun (d : Nat) => (d : Int)))
        (nad.map (fun (d : Nat) => (d : Int)))
      = ((NfcDep.iMiu lrt did nad : Nat) : Int) := by
  rw [ini_miu_bridge]
  unfold NfcDep.iMiu
  have h := lrTable_ge lrt
  cases did <;> cases nad <;> simp [Activate.boolBit, NfcDep.flag] <;> omega

example : Gen.Fn.dep_ini_miu 254 (some 1) none = 250 := by decide +kernel

/-! ## `Target.activate` -/

theorem tgt_opts_bridge (g : String → Int → Int) :
    Gen.Fn.dep_tgt_opts g
      = (((Activate.clampI 0 3 (g "lrt" 3) : Nat) : Int), ((Activate.clampI 0 14 (g "rwt" 8) : Nat) : Int)) := by
  unfold Gen.Fn.dep_tgt_opts
  simp only [clamp_eq _ _ _ (Int.le_refl 0) (by decide : (0 : Int) ≤ 3),
    clamp_eq _ _ _ (Int.le_refl 0) (by decide : (0 : Int) ≤ 14)]

/-- the PP octet of the ATR_RES (`Activate.pptOf`); `Target.nad` is `None` from `__init__` on -/
theorem tgt_pp_bridge (lrt : Nat) (gbt : Bytes) :
    Gen.Fn.dep_tgt_pp (lrt : Int) gbt none = ((Activate.pptOf lrt gbt : Nat) : Int) := by
  unfold Gen.Fn.dep_tgt_pp Activate.pptOf
  have hb := pp_bits lrt (decide (gbt ≠ [])) (decide ((none : Option Int) ≠ none ∧ (none : Option Int) ≠ some 0))
  simp only [hb]
  have e1 : decide (gbt ≠ []) = !gbt.isEmpty := by cases gbt <;> simp
  rw [e1]
  simp [Activate.boolBit]

/-- `miu` and `did` of the Target as `Activate.targetSide` holds them (C19) -/
theorem tgt_miu_bridge (lr : Int) (adid : Nat) :
    Gen.Fn.dep_tgt_miu lr (adid : Int)
      = (lr - 3 - (Activate.boolBit (adid > 0) 1 : Nat),
         (if adid > 0 then some adid else none : Option Nat).map (fun (d : Nat) => (d : Int))) := by
  unfold Gen.Fn.dep_tgt_miu
  by_cases h : adid > 0
  · have h' : ((adid : Nat) : Int) > 0 := by omega
    simp [h, Activate.boolBit]
  · have h' : ¬ ((adid : Nat) : Int) > 0 := by omega
    simp [h, Activate.boolBit]

/-- C04: the Target's information unit size and DID filter (`NfcDep.tMiu` repaired variant F20, `NfcDep.tDidOf`)
from the DID octet `adid` of the ATR_REQ -/
theorem tgt_miu_c04 (lri adid : Nat) :
    Gen.Fn.dep_tgt_miu ((NfcDep.lrTable lri : Nat) : Int) (adid : Int)
      = (((NfcDep.tMiu true lri (NfcDep.tDidOf (some adid)) : Nat) : Int),
         (NfcDep.tDidOf (some adid)).map (fun (d : Nat) => (d : Int))) := by
  rw [tgt_miu_bridge]
  have h := lrTable_ge lri
  unfold NfcDep.tMiu NfcDep.tDidOf
  cases adid with
  | zero => simp [Activate.boolBit, NfcDep.flag]; omega
  | succ k => simp [Activate.boolBit, NfcDep.flag]; omega

/-- `atr_req.lr` + the miu statement on the PP and DID octets of the ATR_REQ: `THeld.miu` of `Activate.targetSide` -/
theorem tgt_miu_activate (pp adid : Nat) :
    (Gen.Fn.dep_atr_lr (pp : Int) >>= fun lr => .ok (Gen.Fn.dep_tgt_miu lr (adid : Int)).1)
      = .ok (((Activate.lrTable ((pp / 16) % 4) - 3 - Activate.boolBit (adid > 0) 1 : Nat)) : Int) := by
  rw [atr_lr_activate, Py.bind_ok, tgt_miu_bridge]
  have h := lrTable_ge ((pp / 16) % 4)
  rw [← lrTable_eq] at h
  have h1 : Activate.boolBit (decide (adid > 0)) 1 ≤ 1 := by unfold Activate.boolBit; split <;> omega
  simp only []
  congr 1
  omega

example : Gen.Fn.dep_tgt_miu 254 7 = (250, some 7) := by decide +kernel
example : Gen.Fn.dep_tgt_miu 64 0 = (61, none) := by decide +kernel

/-- the frame of the first DEP_REQ that `activate` re-injects into `exchange` is `encode_frame` of that PDU -/
theorem tgt_cmd_bridge (brty : String) (p : Pdu) :
    Gen.Fn.dep_tgt_cmd (encodePdu true p) brty = encodeFrame (decide (brty = "106A")) true p :=
  FnBridge.Dep.encode_frame brty _

example : Gen.Fn.dep_tgt_cmd [0xD4, 6, 0, 1, 2] "106A" = .ok [0xF0, 6, 0xD4, 6, 0, 1, 2] := by decide +kernel

/-! ## `exchange()`: chunking, packet number, RTOX; `activate()`: general bytes, NFCID3 -/

/-- one turn of the Initiator's send loop: the chunk is `send_data.take miu`, what remains `send_data.drop miu`
(`NfcDep.sendLoop`: `sd.take c.imiu`, `rest := sd.drop c.imiu`) -/
theorem ini_chunk_bridge (sd : Bytes) (miu : Nat) :
    Gen.Fn.dep_ini_chunk sd (miu : Int) = (sd.take miu, sd.drop miu) := by
  unfold Gen.Fn.dep_ini_chunk
  rw [slice_zero_cast, delSlice_zero_cast]

/-- C04 "no frame exceeds the payload size announced by the receiver": the chunk has at most `miu` octets and
chunk ++ rest is the payload -/
theorem gen_ini_chunk_sound (sd : Bytes) (miu : Nat) :
    (Gen.Fn.dep_ini_chunk sd (miu : Int)).1.length ≤ miu
    ∧ (Gen.Fn.dep_ini_chunk sd (miu : Int)).1 ++ (Gen.Fn.dep_ini_chunk sd (miu : Int)).2 = sd := by
  rw [ini_chunk_bridge]
  exact ⟨by simp [List.length_take]; omega, List.take_append_drop _ _⟩

/-- one turn of the Target's send loop (`NfcDep.tSendChunk`: `data.take c.tmiu`, MORE iff `data.length > c.tmiu`) -/
theorem tgt_chunk_bridge (sd : Bytes) (miu : Nat) :
    Gen.Fn.dep_tgt_chunk sd (miu : Int) = (sd.take miu, decide (sd.length > miu)) := by
  unfold Gen.Fn.dep_tgt_chunk
  py_nat
  rfl

theorem tgt_chunk_rest_bridge (sd : Bytes) (miu : Nat) :
    Gen.Fn.dep_tgt_chunk_rest sd (miu : Int) = sd.drop miu := by
  unfold Gen.Fn.dep_tgt_chunk_rest
  rw [delSlice_zero_cast]

theorem pni_inc (pni : Nat) : band ((pni : Int) + 1) 3 = (((pni + 1) % 4 : Nat) : Int) := by
  py_nat

/-- Initiator, send loop: the response must carry the current packet number, THEN the number is incremented
modulo 4 (`NfcDep.sendLoop`: `if rp ≠ pni then .error .protocol` .. `(pni + 1) % 4`) -/
theorem ini_pni_send_bridge (pni rp : Nat) :
    Gen.Fn.dep_ini_pni_send (pni : Int) (rp : Int)
      = if rp ≠ pni then .error .protocol else .ok (((pni + 1) % 4 : Nat) : Int) := by
  unfold Gen.Fn.dep_ini_pni_send
  rw [pni_inc]
  py_nat

/-- Initiator, receive loop (`NfcDep.recvLoop`): check, append, increment -/
theorem ini_pni_recv_bridge (acc data : Bytes) (pni rp : Nat) :
    Gen.Fn.dep_ini_pni_recv acc (pni : Int) (rp : Int) data
      = if rp ≠ pni then .error .protocol else .ok (acc ++ data, (((pni + 1) % 4 : Nat) : Int)) := by
  unfold Gen.Fn.dep_ini_pni_recv
  rw [pni_inc]
  py_nat

/-- Target, send and receive loops (`NfcDep.tAccept`: `pni := (t.pni + 1) % 4; if rpni ≠ pni then die .protocol`):
the number is incremented FIRST, the request must carry the new value -/
theorem tgt_pni_bridge (pni rp : Nat) :
    Gen.Fn.dep_tgt_pni_send (pni : Int) (rp : Int)
      = (if rp ≠ (pni + 1) % 4 then .error .protocol else .ok (((pni + 1) % 4 : Nat) : Int))
    ∧ Gen.Fn.dep_tgt_pni_recv (pni : Int) (rp : Int)
      = (if rp ≠ (pni + 1) % 4 then .error .protocol else .ok (((pni + 1) % 4 : Nat) : Int)) := by
  unfold Gen.Fn.dep_tgt_pni_send Gen.Fn.dep_tgt_pni_recv
  rw [pni_inc]
  by_cases h : rp = (pni + 1) % 4
  · rw [h]; simp
  · have : ¬ ((rp : Int) = (((pni + 1) % 4 : Nat) : Int)) := by omega
    rw [if_pos h]
    simp only [ne_eq, this, not_false_eq_true, if_true, and_self]

example : Gen.Fn.dep_tgt_pni_recv 3 0 = .ok 0 := by decide +kernel
example : Gen.Fn.dep_tgt_pni_recv 3 4 = .error .protocol := by decide +kernel
example : Gen.Fn.dep_ini_pni_send 3 3 = .ok 0 := by decide +kernel

/-- the PDU builders are called with `(pni, [data, more,] did, nad)` in this order - for EVERY builder `mk`
(the models: `.dep fNAK pni c.idid c.inad []`, `.dep (MORE|INF) pni c.idid c.inad chunk`, `.dep fACK pni ..`) -/
theorem call_sites_bridge (pni : Int) (did nad : Option Int) (data sd : Bytes) (more : Bool)
    (mk3 : Int → Option Int → Option Int → Int × Option Int × Option Int)
    (mk5 : Int → Bytes → Bool → Option Int → Option Int → Int × Bytes × Bool × Option Int × Option Int) :
    Gen.Fn.dep_ini_nak_call pni did nad mk3 = mk3 pni did nad
    ∧ Gen.Fn.dep_ini_ack_call pni did nad mk3 = mk3 pni did nad
    ∧ Gen.Fn.dep_tgt_ack_call pni did nad mk3 = mk3 pni did nad
    ∧ Gen.Fn.dep_ini_inf_call data sd pni did nad mk5 = mk5 pni data (decide (sd ≠ [])) did nad
    ∧ Gen.Fn.dep_tgt_inf_call data more pni did nad mk5 = mk5 pni data more did nad :=
  ⟨rfl, rfl, rfl, rfl, rfl⟩

/-- the RTOX value the Initiator echoes (`Peer.rtoxOf true`, C07: a timeout extension PDU without data octet or
with a value outside 1..59 is a `ProtocolError`, never an `IndexError`) -/
theorem ini_rtox_bridge (data : Bytes) :
    Gen.Fn.dep_ini_rtox data = Peer.rtoxOf true data >>= fun (v : Nat) => .ok (v : Int) := by
  unfold Gen.Fn.dep_ini_rtox Peer.rtoxOf
  rw [rtox_guard]
  rcases data with _ | ⟨v, t⟩
  · rfl
  · by_cases h : 0 < v ∧ v < 60 <;> simp only [h, if_true, if_false] <;> rfl

theorem gen_ini_rtox_safe (data : Bytes) : Safe (fun e => e = .protocol) (Gen.Fn.dep_ini_rtox data) := by
  unfold Gen.Fn.dep_ini_rtox
  rw [rtox_guard]
  match data with
  | [] => exact Safe.throw rfl
  | v :: _ => exact Safe.ite (Safe.ok _) (Safe.throw rfl)

/-- the RTOX value the Target reads back (`Peer.tRtoxOf true`) -/
theorem tgt_rtox_bridge (data : Bytes) :
    Gen.Fn.dep_tgt_rtox data = Peer.tRtoxOf true data >>= fun o => .ok (o.map (fun (v : Nat) => (v : Int))) := by
  unfold Gen.Fn.dep_tgt_rtox Peer.tRtoxOf
  cases data with
  | nil => simp
  | cons v t =>
    simp only [ne_eq, reduceCtorEq, not_false_eq_true, if_true, getB_zero, Py.bind_ok]
    py_nat
    rfl

/-- general bytes are cut to 48 / 47 octets (`Activate.handshake`: `gbI.take 48`, `gbT.take 47`) -/
theorem gb_cut_bridge (g : String → Bytes → Bytes) :
    Gen.Fn.dep_ini_gbi g = (g "gbi" []).take 48 ∧ Gen.Fn.dep_tgt_gbt g = (g "gbt" []).take 47 := by
  unfold Gen.Fn.dep_ini_gbi Gen.Fn.dep_tgt_gbt
  exact ⟨slice_zero_cast _ 48, slice_zero_cast _ 47⟩

/-- NFCID3 of the ATR_REQ after the Initiator's own 212F poll: octets 1..8 of SENSF_RES + "ST"
(`Activate.handshake`: `id3 := nfcid3t.take 8 ++ st` for a SENSF_RES `01 ++ nfcid3t[0:8] ++ ..`) -/
theorem ini_nfcid3_212_bridge (nfcid3t pad : Bytes) (h : 8 ≤ nfcid3t.length) :
    Gen.Fn.dep_ini_nfcid3_212 ([0x01] ++ nfcid3t.take 8 ++ pad) = nfcid3t.take 8 ++ Activate.st := by
  unfold Gen.Fn.dep_ini_nfcid3_212
  have e : slice ([0x01] ++ nfcid3t.take 8 ++ pad) 1 9 = nfcid3t.take 8 := by
    have h1 : slice ([0x01] ++ nfcid3t.take 8 ++ pad) 1 9 = (([0x01] ++ nfcid3t.take 8 ++ pad).drop 1).take (9 - 1) :=
      slice_cast _ 1 9
    rw [h1]
    have h8 : (nfcid3t.take 8).length = 8 := by rw [List.length_take]; omega
    simp only [List.cons_append, List.nil_append, List.drop_succ_cons, List.drop_zero]
    rw [List.take_append_of_le_length (by omega), List.take_of_length_le (by omega)]
  rw [e]; rfl

/-! ## PDU type checks of the exchange loops -/

/-- send loop (`NfcDep.sendLoop`: `if fmt = fACK ∧ rest = [] then .error .protocol`); the constant
`DEP_RES.PositiveAck` is the model's `fACK` -/
theorem ini_ack_chk_bridge (rest : Bytes) (fmt : Nat) :
    Gen.Fn.dep_ini_ack_chk rest (fmt : Int) = if fmt = fACK ∧ rest = [] then .error .protocol else .ok () := by
  unfold Gen.Fn.dep_ini_ack_chk fACK
  py_nat

/-- after the last chunk and inside the receive loop (`NfcDep.exchange`, `recvLoop`:
`if fmt ≠ fINF ∧ fmt ≠ fMORE then .error .protocol`) -/
theorem ini_inf_chk_bridge (fmt : Nat) :
    Gen.Fn.dep_ini_inf_chk (fmt : Int) = (if fmt ≠ fINF ∧ fmt ≠ fMORE then .error .protocol else .ok ())
    ∧ Gen.Fn.dep_ini_chain_chk (fmt : Int) = (if fmt ≠ fINF ∧ fmt ≠ fMORE then .error .protocol else .ok ()) := by
  unfold Gen.Fn.dep_ini_inf_chk Gen.Fn.dep_ini_chain_chk fINF fMORE
  simp only [ne_eq, cast_eq_lit, and_self]

/-- `NfcDep.nakCheck`: a NACK response is a `ProtocolError` -/
theorem ini_nak_chk_bridge (fmt : Nat) :
    Gen.Fn.dep_ini_nak_chk (fmt : Int) = if fmt = fNAK then .error .protocol else .ok () := by
  unfold Gen.Fn.dep_ini_nak_chk fNAK
  py_nat

/-- `NfcDep.reqAttention`: RTOX -> ProtocolError, anything but ATN -> ProtocolError -/
theorem ini_atn_chk_bridge (fmt : Nat) :
    Gen.Fn.dep_ini_atn_chk (fmt : Int)
      = if fmt = fTOX then .error .protocol else if fmt ≠ fATN then .error .protocol else .ok () := by
  unfold Gen.Fn.dep_ini_atn_chk fTOX fATN
  py_nat

/-- loop conditions: timeout extension (`fTOX`), more information (`fMORE`) -/
theorem fmt_tests_bridge (fmt : Nat) :
    Gen.Fn.dep_ini_tox_test (fmt : Int) = decide (fmt = fTOX)
    ∧ Gen.Fn.dep_ini_more_test (fmt : Int) = decide (fmt = fMORE)
    ∧ Gen.Fn.dep_tgt_more_test (fmt : Int) = decide (fmt = fMORE) := by
  unfold Gen.Fn.dep_ini_tox_test Gen.Fn.dep_ini_more_test Gen.Fn.dep_tgt_more_test fTOX fMORE
  simp only [cast_eq_lit, and_self]

example : Gen.Fn.dep_ini_ack_chk [] 4 = .error .protocol := by decide +kernel
example : Gen.Fn.dep_ini_ack_chk [1] 4 = .ok () := by decide +kernel
example : Gen.Fn.dep_ini_atn_chk 8 = .ok () := by decide +kernel

/-- `request_retransmission` (`NfcDep.reqRetrans`, repaired variant F27): RTOX -> ProtocolError; accepted are INF
PDUs and, when the outstanding request was chained (`req.pfb.fmt == MoreInformation`), an ACK -/
theorem ini_retrans_chk_bridge (fmt reqfmt : Nat) :
    Gen.Fn.dep_ini_retrans_chk (fmt : Int) (reqfmt : Int)
      = if fmt = fTOX then .error .protocol
        else if fmt = fINF ∨ fmt = fMORE ∨ (reqfmt = fMORE ∧ fmt = fACK) then .ok ()
        else .error .protocol := by
  unfold Gen.Fn.dep_ini_retrans_chk fTOX fINF fMORE fACK
  py_nat
  by_cases hr : reqfmt = 1 <;> simp [hr, cast_eq_lit]

/-- Target send loop (`NfcDep.tAccept`, `.sending`: `if sd.length > c.tmiu ∧ fmt ≠ fACK then die .protocol`) -/
theorem tgt_ack_chk_bridge (more : Bool) (fmt : Nat) :
    Gen.Fn.dep_tgt_ack_chk more (fmt : Int) = if more = true ∧ fmt ≠ fACK then .error .protocol else .ok () := by
  unfold Gen.Fn.dep_tgt_ack_chk fACK
  simp only [ne_eq, cast_eq_lit]
  cases more <;> by_cases h : fmt = 4 <;> simp [h]

/-- one turn of the Target's send loop once the request `(fmt, rp)` is in: ACK check (when more data follows),
packet number increment, packet number check - the order of `NfcDep.tAccept` -/
theorem tgt_send_step_bridge (more : Bool) (pni fmt rp : Nat) :
    (Gen.Fn.dep_tgt_ack_chk more (fmt : Int) >>= fun _ => Gen.Fn.dep_tgt_pni_send (pni : Int) (rp : Int))
      = if more = true ∧ fmt ≠ fACK then .error .protocol
        else if rp ≠ (pni + 1) % 4 then .error .protocol
        else .ok (((pni + 1) % 4 : Nat) : Int) := by
  rw [tgt_ack_chk_bridge, (tgt_pni_bridge pni rp).1]
  split <;> rfl

example : Gen.Fn.dep_ini_retrans_chk 4 1 = .ok () := by decide +kernel
example : Gen.Fn.dep_ini_retrans_chk 4 0 = .error .protocol := by decide +kernel

/-! ## one turn of the Initiator's loops = the regenerated checks in source order -/

/-- send loop of `Initiator.exchange` once the response `(fmt, rp)` is in: ACK check, packet number check,
increment - the three `if`s of `NfcDep.sendLoop` in the same order (`rest` = what is left to send) -/
theorem ini_send_step_bridge (rest : Bytes) (pni fmt rp : Nat) :
    (Gen.Fn.dep_ini_ack_chk rest (fmt : Int) >>= fun _ => Gen.Fn.dep_ini_pni_send (pni : Int) (rp : Int))
      = if fmt = fACK ∧ rest = [] then .error .protocol
        else if rp ≠ pni then .error .protocol
        else .ok (((pni + 1) % 4 : Nat) : Int) := by
  rw [ini_ack_chk_bridge, ini_pni_send_bridge]
  split <;> rfl

/-- receive loop of `Initiator.exchange`: chaining check, packet number check, append, increment
(`NfcDep.recvLoop`) -/
theorem ini_recv_step_bridge (acc data : Bytes) (pni fmt rp : Nat) :
    (Gen.Fn.dep_ini_chain_chk (fmt : Int) >>= fun _ => Gen.Fn.dep_ini_pni_recv acc (pni : Int) (rp : Int) data)
      = if fmt ≠ fINF ∧ fmt ≠ fMORE then .error .protocol
        else if rp ≠ pni then .error .protocol
        else .ok (acc ++ data, (((pni + 1) % 4 : Nat) : Int)) := by
  rw [(ini_inf_chk_bridge fmt).2, ini_pni_recv_bridge]
  split <;> rfl

/-! ## duplicate detection of the Target (`send_dep_res_recv_dep_req`) against `Model/FnDepPduRef.lean` -/

/-- the DEP_REQ case of the Target state machine of C04 (repaired variant F41) is the reference decision -/
theorem tRxActive_dep_eq (c : Cfg) (t : TState) (fmt rpni : Nat) (did nad : Option Nat) (data : Bytes)
    (hf41 : c.v.f41 = true) (hdid : did = c.tdid) :
    tRx.tRxActive c t (.dep fmt rpni did nad data)
      = match tgtDecide fmt rpni t.pni t.rtoxPending with
        | .atn => (t, some (.dep fATN 0 c.tdid none []))
        | .resend => (t, t.depRes)
        | .accept => tAccept c t fmt rpni data := by
  unfold tRx.tRxActive tgtDecide fATN fNAK fTOX
  have h0 : ¬ ((Pdu.dep fmt rpni did nad data).didAttr ≠ c.tdid) := by simp [Pdu.didAttr, hdid]
  simp only [h0, if_false, hf41, true_and]
  by_cases h1 : fmt = 8
  · simp [h1]
  · by_cases h2 : fmt = 5
    · simp [h2]
    · by_cases h3 : fmt = 9
      · cases t.rtoxPending <;> simp [h3]
      · by_cases h4 : t.pni = some rpni <;> simp [h1, h2, h3, h4]

/-- the dispatch chain of `send_dep_res_recv_dep_req` for `self.pni` held as an int `pni` that equals a packet number
exactly when `pnio` is that number (`None` is kept as -1 in `Lemmas/FnBridgeDepSm.lean`) -/
theorem tgt_dispatch_opt (res dep_res dep_req : Option Int) (req : Int) (reqNone didMismatch isDsl isRls isDep : Bool)
    (fmt rpni drf : Nat) (pnio : Option Nat) (pni : Int) (hp : (rpni : Int) = pni ↔ pnio = some rpni)
    (did nad : Option Int) (mk : Option Int → Option Int → Option Int) :
    Gen.Fn.dep_tgt_dispatch res dep_res dep_req req reqNone didMismatch isDsl isRls isDep (fmt : Int) (rpni : Int)
        pni (drf : Int) did nad mk
      = if reqNone then none
        else match tgtDispatch didMismatch isDsl isRls isDep fmt rpni pnio (dep_res.isSome && decide (drf = fTOX)) with
          | .ignore => some (none, dep_req)
          | .leave => none
          | .dep .atn => some (mk did nad, dep_req)
          | .dep .resend => some (dep_res, dep_req)
          | .dep .accept => some (res, some req) := by
  cases reqNone <;> cases didMismatch <;> cases isDsl <;> cases isRls <;> cases isDep <;> try rfl
  show some (Gen.Fn.dep_tgt_dep_dispatch res dep_res dep_req req (fmt : Int) (rpni : Int) pni (drf : Int) did nad mk) = _
  unfold Gen.Fn.dep_tgt_dep_dispatch
  simp only [tgtDispatch, tgtDecide, fATN, fNAK, fTOX, Bool.false_eq_true, if_false, Bool.or_self, if_true, cast_eq_lit, hp]
  by_cases h1 : fmt = 8
  · simp [h1]
  · by_cases h2 : fmt = 5
    · simp [h2]
    · by_cases h3 : fmt = 9
      · cases dep_res with
        | none => simp [h3]
        | some x => by_cases hd : drf = 9 <;> simp [h3, hd]
      · by_cases h4 : pnio = some rpni <;> simp [h1, h2, h3, h4]

/-- the regenerated dispatch chain of `send_dep_res_recv_dep_req` takes the reference decision: ATN -> `res = ATN(..)`,
resend -> `res = dep_res`, accept -> `dep_req = req`; `rtoxPending` is `dep_res is not None and dep_res.pfb.fmt == 9` -/
theorem tgt_dep_dispatch_bridge (res dep_res dep_req : Option Int) (req : Int) (fmt rpni pni drf : Nat)
    (did nad : Option Int) (mk : Option Int → Option Int → Option Int) :
    Gen.Fn.dep_tgt_dep_dispatch res dep_res dep_req req (fmt : Int) (rpni : Int) (pni : Int) (drf : Int) did nad mk
      = match tgtDecide fmt rpni (some pni) (dep_res.isSome && decide (drf = fTOX)) with
        | .atn => (mk did nad, dep_req)
        | .resend => (dep_res, dep_req)
        | .accept => (res, some req) := by
  have h := tgt_dispatch_opt res dep_res dep_req req false false false false true fmt rpni drf (some pni) pni
    (by rw [Int.natCast_inj, Option.some.injEq, eq_comm]) did nad mk
  simp only [tgtDispatch, Bool.false_eq_true, if_false, Bool.or_self, if_true] at h
  generalize tgtDecide fmt rpni (some pni) (dep_res.isSome && decide (drf = fTOX)) = a at h ⊢
  cases a <;> exact Option.some.inj h

/-- C04 (exactly once): through the regenerated chain a duplicate request leaves `dep_req` alone and selects the saved
response (that a new request becomes `dep_req` follows in the same way from `tgt_dep_dispatch_bridge` and
`new_request_accepted`; the first example below is an instance) -/
theorem gen_tgt_duplicate_resent (res dep_res : Option Int) (req : Int) (fmt pni drf : Nat) (did nad : Option Int)
    (mk : Option Int → Option Int → Option Int) (h1 : fmt ≠ fATN) (h3 : fmt ≠ fTOX) :
    Gen.Fn.dep_tgt_dep_dispatch res dep_res none req (fmt : Int) (pni : Int) (pni : Int) (drf : Int) did nad mk
      = (dep_res, none) := by
  rw [tgt_dep_dispatch_bridge, duplicate_resent fmt pni _ h1 h3]

example : Gen.Fn.dep_tgt_dep_dispatch none (some 7) none 42 0 1 0 0 none none (fun _ _ => some 9) = (none, some 42) := by
  decide +kernel
example : Gen.Fn.dep_tgt_dep_dispatch none (some 7) none 42 0 1 1 0 none none (fun _ _ => some 9) = (some 7, none) := by
  decide +kernel

/-- the whole dispatch chain of `send_dep_res_recv_dep_req` (one turn of its loop after `req` arrived) takes the
reference decision: None = `return None`, else the new `(res, dep_req)` -/
theorem tgt_dispatch_bridge (res dep_res dep_req : Option Int) (req : Int) (reqNone didMismatch isDsl isRls isDep : Bool)
    (fmt rpni pni drf : Nat) (did nad : Option Int) (mk : Option Int → Option Int → Option Int) :
    Gen.Fn.dep_tgt_dispatch res dep_res dep_req req reqNone didMismatch isDsl isRls isDep (fmt : Int) (rpni : Int)
        (pni : Int) (drf : Int) did nad mk
      = if reqNone then none
        else match tgtDispatch didMismatch isDsl isRls isDep fmt rpni (some pni) (dep_res.isSome && decide (drf = fTOX)) with
          | .ignore => some (none, dep_req)
          | .leave => none
          | .dep .atn => some (mk did nad, dep_req)
          | .dep .resend => some (dep_res, dep_req)
          | .dep .accept => some (res, some req) :=
  tgt_dispatch_opt _ _ _ _ _ _ _ _ _ _ _ _ _ _ (by rw [Int.natCast_inj, Option.some.injEq, eq_comm]) _ _ _

/-! ## NFCID3 of the Target, its SENSF_RES, and what the Initiator takes from it -/

theorem tgt_nfcid3_bridge (u : Int → Bytes) : Gen.Fn.dep_tgt_nfcid3 u = Activate.nfcid3tOf (u 6) := by
  unfold Gen.Fn.dep_tgt_nfcid3 Activate.nfcid3tOf Activate.st
  simp

theorem tgt_sensf_bridge (nfcid3t : Bytes) :
    Gen.Fn.dep_tgt_sensf nfcid3t = [0x01] ++ nfcid3t.take 8 ++ [0, 0, 0, 0, 0, 0, 0, 0, 0xFF, 0xFF] := by
  unfold Gen.Fn.dep_tgt_sensf
  py_nat
  rfl

/-- C19 (`Activate.handshake`, `fsearch`): after its own 212F poll the Initiator's ATR_REQ carries
`nfcid3t.take 8 ++ "ST"` of the Target it found - composition of the three regenerated slices -/
theorem nfcid3_212_roundtrip (u : Int → Bytes) (h : (u 6).length = 6) :
    Gen.Fn.dep_ini_nfcid3_212 (Gen.Fn.dep_tgt_sensf (Gen.Fn.dep_tgt_nfcid3 u))
      = (Activate.nfcid3tOf (u 6)).take 8 ++ Activate.st := by
  rw [tgt_nfcid3_bridge, tgt_sensf_bridge]
  have h8 : 8 ≤ (Activate.nfcid3tOf (u 6)).length := by simp [Activate.nfcid3tOf, Activate.st, h]
  exact ini_nfcid3_212_bridge _ _ h8

example : Gen.Fn.dep_tgt_nfcid3 (fun _ => [1, 2, 3, 4, 5, 6]) = [1, 0xFE, 1, 2, 3, 4, 5, 6, 0x53, 0x54] := by
  decide +kernel

end NfcVerif.FnBridge.DepPdu

