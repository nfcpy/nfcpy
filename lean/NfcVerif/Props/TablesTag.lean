import NfcVerif.Gen.Tables
/-!
Bridge theorems (constants of the source = constants of the models). `Gen/Tables.lean` is
regenerated from `/repo/src/nfc` by `harness/translate_tables.py` on every run of a check that
depends on it; each theorem is closed by kernel evaluation, so an edit of a constant in the
source breaks it.  One small module per model so that the checks stay independent.  Here the expected value is
written out in the statement; no model constant carries it.
-/
namespace NfcVerif.Tables
open NfcVerif

/-- reason codes of TagCommandError as used by the tag models (C12, C16, C08) -/
theorem tag_errno_bridge :
    Gen.Tables.tagErrno = [("TIMEOUT_ERROR", 0), ("RECEIVE_ERROR", -1), ("PROTOCOL_ERROR", -2)] := rfl

end NfcVerif.Tables
