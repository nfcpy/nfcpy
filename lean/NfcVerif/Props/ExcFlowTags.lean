import NfcVerif.Props.ExcFlow
/-!
# Exception flow, instance theorems: C16 / C12: tag commands fail only as `TagCommandError`

Re-checked on the regenerated `Gen/ExcFlow.lean` (see `Props/ExcFlow.lean` for what `Only` / `Can` mean).

Assumption (table): `self.clf.exchange` raises `nfc.clf.CommunicationError` subclasses only,
`self.clf.sense` (re-sensing a known target) does not raise.
-/
namespace NfcVerif.ExcFlowProps
open NfcVerif.ExcFlow NfcVerif.Gen.ClassTree NfcVerif.Gen.ExcFlow

/-- the `Only` statements of this module about the table `table`, except those of `tagOpsOnly` -/
def tagsOnly : List (Site × List Cls) := [
  (Site.fn_tt1_transceive, [Cls.tag_TagCommandError, Cls.RuntimeError]),
  (Site.fn_tt2_transceive, [Cls.tag_TagCommandError, Cls.RuntimeError]),
  (Site.fn_tt3_send_cmd_recv_rsp, [Cls.tag_TagCommandError]),
  (Site.fn_tt4_dep_exchange_cmd, [Cls.tag_TagCommandError]),
  (Site.fn_tt4_transceive_cmd, [Cls.tag_TagCommandError]),
  (Site.fn_tt4_transceive, [Cls.tag_TagCommandError, Cls.clf_CommunicationError]),
  (Site.fn_tt4_send_apdu, [Cls.tag_TagCommandError, Cls.ValueError]),
  (Site.fn_tt1_is_present, [Cls.ValueError, Cls.RuntimeError]),
  (Site.fn_tt2_is_present, [Cls.RuntimeError]),
  (Site.fn_tt3_is_present, [Cls.ValueError]),
  (Site.fn_tt4_is_present, []),
  (Site.fn_tag_NDEF_octets_set, [Cls.tag_TagCommandError, Cls.AttributeError, Cls.ValueError, Cls.RuntimeError]),
  (Site.fn_tt1_read_id, [Cls.tag_TagCommandError, Cls.ValueError, Cls.RuntimeError]),
  (Site.fn_tt1_read_all, [Cls.tag_TagCommandError, Cls.ValueError, Cls.RuntimeError]),
  (Site.fn_tt1_read_byte, [Cls.tag_TagCommandError, Cls.ValueError, Cls.RuntimeError]),
  (Site.fn_tt1_read_block, [Cls.tag_TagCommandError, Cls.ValueError, Cls.RuntimeError]),
  (Site.fn_tt1_read_segment, [Cls.tag_TagCommandError, Cls.ValueError, Cls.RuntimeError]),
  (Site.fn_tt1_write_byte, [Cls.tag_TagCommandError, Cls.ValueError, Cls.RuntimeError]),
  (Site.fn_tt1_write_block, [Cls.tag_TagCommandError, Cls.ValueError, Cls.RuntimeError]),
  (Site.fn_tt2_read, [Cls.tag_TagCommandError, Cls.ValueError, Cls.RuntimeError]),
  (Site.fn_tt2_write, [Cls.tag_TagCommandError, Cls.ValueError, Cls.RuntimeError]),
  (Site.fn_tt2_sector_select, [Cls.tag_TagCommandError, Cls.ValueError, Cls.RuntimeError]),
  (Site.fn_tt3_polling, [Cls.tag_TagCommandError, Cls.ValueError]),
  (Site.fn_tt3_read_without_encryption, [Cls.tag_TagCommandError, Cls.ValueError]),
  (Site.fn_tt3_read_from_ndef_service, [Cls.tag_TagCommandError, Cls.ValueError]),
  (Site.fn_tt3_write_without_encryption, [Cls.tag_TagCommandError, Cls.ValueError]),
  (Site.fn_tt3_write_to_ndef_service, [Cls.tag_TagCommandError, Cls.ValueError])]
def tagsOnlyIO : List (Site × List Cls) := [
  (Site.fn_tt2_transceive, [Cls.tag_TagCommandError, Cls.RuntimeError, Cls.OSError]),
  (Site.fn_tt3_send_cmd_recv_rsp, [Cls.tag_TagCommandError, Cls.OSError]),
  (Site.fn_tt4_dep_exchange_cmd, [Cls.tag_TagCommandError, Cls.OSError])]
theorem tagsOnlyIO_ok : checkOnly world tableIO prog tagsOnlyIO = true :=
  checkOnly_of_checkM tree_ordered (by decide +kernel)
def tagsCan : List (Site × Cls) := [
  (Site.fn_tt1_transceive, Cls.tag_tt1_Type1TagCommandError),
  (Site.fn_tt1_transceive, Cls.RuntimeError),
  (Site.fn_tt2_transceive, Cls.tag_tt2_Type2TagCommandError),
  (Site.fn_tt2_transceive, Cls.RuntimeError),
  (Site.fn_tt3_send_cmd_recv_rsp, Cls.tag_tt3_Type3TagCommandError),
  (Site.fn_tt4_dep_exchange_cmd, Cls.tag_tt4_Type4TagCommandError),
  (Site.fn_tt4_dep__exchange, Cls.clf_TimeoutError),
  (Site.fn_tt4_dep_exchange_presence, Cls.clf_TimeoutError)]
/-- the statements about `format` / `protect` / `authenticate` (section "format / protect / authenticate" below) -/
def tagOpsOnly : List (Site × List Cls) := [
  (Site.fn_tag_Tag_authenticate, [Cls.tag_TagCommandError, Cls.ValueError, Cls.RuntimeError, Cls.AssertionError]),
  (Site.fn_tag_Tag_format, [Cls.tag_TagCommandError, Cls.ValueError, Cls.RuntimeError, Cls.AssertionError]),
  (Site.fn_tag_Tag_protect, [Cls.tag_TagCommandError, Cls.ValueError, Cls.RuntimeError, Cls.AssertionError]),
  (Site.fn_tt1_Type1Tag__protect, [Cls.tag_TagCommandError, Cls.ValueError, Cls.RuntimeError, Cls.AssertionError]),
  (Site.fn_tt1_Type1Tag_protect, [Cls.tag_TagCommandError, Cls.ValueError, Cls.RuntimeError, Cls.AssertionError]),
  (Site.fn_tt1_broadcom_Topaz__format, [Cls.tag_TagCommandError, Cls.ValueError, Cls.RuntimeError, Cls.AssertionError]),
  (Site.fn_tt1_broadcom_Topaz__protect, [Cls.tag_TagCommandError, Cls.ValueError, Cls.RuntimeError, Cls.AssertionError]),
  (Site.fn_tt1_broadcom_Topaz_format, [Cls.tag_TagCommandError, Cls.ValueError, Cls.RuntimeError, Cls.AssertionError]),
  (Site.fn_tt1_broadcom_Topaz_protect, [Cls.tag_TagCommandError, Cls.ValueError, Cls.RuntimeError, Cls.AssertionError]),
  (Site.fn_tt1_broadcom_Topaz512__format, [Cls.tag_TagCommandError, Cls.ValueError, Cls.RuntimeError, Cls.AssertionError]),
  (Site.fn_tt1_broadcom_Topaz512__protect, [Cls.tag_TagCommandError, Cls.ValueError, Cls.RuntimeError, Cls.AssertionError]),
  (Site.fn_tt1_broadcom_Topaz512_format, [Cls.tag_TagCommandError, Cls.ValueError, Cls.RuntimeError, Cls.AssertionError]),
  (Site.fn_tt1_broadcom_Topaz512_protect, [Cls.tag_TagCommandError, Cls.ValueError, Cls.RuntimeError, Cls.AssertionError]),
  (Site.fn_tt2_Type2Tag__format, [Cls.tag_TagCommandError, Cls.ValueError, Cls.RuntimeError, Cls.AssertionError]),
  (Site.fn_tt2_Type2Tag__protect, [Cls.tag_TagCommandError, Cls.ValueError, Cls.RuntimeError, Cls.AssertionError]),
  (Site.fn_tt2_Type2Tag_format, [Cls.tag_TagCommandError, Cls.ValueError, Cls.RuntimeError, Cls.AssertionError]),
  (Site.fn_tt2_Type2Tag_protect, [Cls.tag_TagCommandError, Cls.ValueError, Cls.RuntimeError, Cls.AssertionError]),
  (Site.fn_tt2_nxp_MifareUltralightC__authenticate, [Cls.tag_TagCommandError, Cls.ValueError, Cls.RuntimeError, Cls.AssertionError]),
  (Site.fn_tt2_nxp_MifareUltralightC__protect, [Cls.tag_TagCommandError, Cls.ValueError, Cls.RuntimeError, Cls.AssertionError]),
  (Site.fn_tt2_nxp_MifareUltralightC__protect_with_lockbits, [Cls.tag_TagCommandError, Cls.ValueError, Cls.RuntimeError, Cls.AssertionError]),
  (Site.fn_tt2_nxp_MifareUltralightC__protect_with_password, [Cls.tag_TagCommandError, Cls.ValueError, Cls.RuntimeError, Cls.AssertionError]),
  (Site.fn_tt2_nxp_MifareUltralightC_authenticate, [Cls.tag_TagCommandError, Cls.ValueError, Cls.RuntimeError, Cls.AssertionError]),
  (Site.fn_tt2_nxp_MifareUltralightC_protect, [Cls.tag_TagCommandError, Cls.ValueError, Cls.RuntimeError, Cls.AssertionError]),
  (Site.fn_tt2_nxp_NTAG203__format, [Cls.tag_TagCommandError, Cls.ValueError, Cls.RuntimeError, Cls.AssertionError]),
  (Site.fn_tt2_nxp_NTAG203__protect, [Cls.tag_TagCommandError, Cls.ValueError, Cls.RuntimeError, Cls.AssertionError]),
  (Site.fn_tt2_nxp_NTAG203_protect, [Cls.tag_TagCommandError, Cls.ValueError, Cls.RuntimeError, Cls.AssertionError]),
  (Site.fn_tt2_nxp_NTAG210__format, [Cls.tag_TagCommandError, Cls.ValueError, Cls.RuntimeError, Cls.AssertionError]),
  (Site.fn_tt2_nxp_NTAG212__format, [Cls.tag_TagCommandError, Cls.ValueError, Cls.RuntimeError, Cls.AssertionError]),
  (Site.fn_tt2_nxp_NTAG213__format, [Cls.tag_TagCommandError, Cls.ValueError, Cls.RuntimeError, Cls.AssertionError]),
  (Site.fn_tt2_nxp_NTAG215__format, [Cls.tag_TagCommandError, Cls.ValueError, Cls.RuntimeError, Cls.AssertionError]),
  (Site.fn_tt2_nxp_NTAG216__format, [Cls.tag_TagCommandError, Cls.ValueError, Cls.RuntimeError, Cls.AssertionError]),
  (Site.fn_tt2_nxp_NTAG21x__authenticate, [Cls.tag_TagCommandError, Cls.ValueError, Cls.RuntimeError, Cls.AssertionError]),
  (Site.fn_tt2_nxp_NTAG21x__protect, [Cls.tag_TagCommandError, Cls.ValueError, Cls.RuntimeError, Cls.AssertionError]),
  (Site.fn_tt2_nxp_NTAG21x__protect_with_lockbits, [Cls.tag_TagCommandError, Cls.ValueError, Cls.RuntimeError, Cls.AssertionError]),
  (Site.fn_tt2_nxp_NTAG21x__protect_with_password, [Cls.tag_TagCommandError, Cls.ValueError, Cls.RuntimeError, Cls.AssertionError]),
  (Site.fn_tt2_nxp_NTAG21x_authenticate, [Cls.tag_TagCommandError, Cls.ValueError, Cls.RuntimeError, Cls.AssertionError]),
  (Site.fn_tt2_nxp_NTAG21x_protect, [Cls.tag_TagCommandError, Cls.ValueError, Cls.RuntimeError, Cls.AssertionError]),
  (Site.fn_tt3_Type3Tag__format, [Cls.tag_TagCommandError, Cls.ValueError, Cls.RuntimeError, Cls.AssertionError]),
  (Site.fn_tt3_Type3Tag_format, [Cls.tag_TagCommandError, Cls.ValueError, Cls.RuntimeError, Cls.AssertionError]),
  (Site.fn_tt3_sony_FelicaLite__authenticate, [Cls.tag_TagCommandError, Cls.ValueError, Cls.RuntimeError, Cls.AssertionError]),
  (Site.fn_tt3_sony_FelicaLite__format, [Cls.tag_TagCommandError, Cls.ValueError, Cls.RuntimeError, Cls.AssertionError]),
  (Site.fn_tt3_sony_FelicaLite__protect, [Cls.tag_TagCommandError, Cls.ValueError, Cls.RuntimeError, Cls.AssertionError]),
  (Site.fn_tt3_sony_FelicaLite_authenticate, [Cls.tag_TagCommandError, Cls.ValueError, Cls.RuntimeError, Cls.AssertionError]),
  (Site.fn_tt3_sony_FelicaLite_format, [Cls.tag_TagCommandError, Cls.ValueError, Cls.RuntimeError, Cls.AssertionError]),
  (Site.fn_tt3_sony_FelicaLite_protect, [Cls.tag_TagCommandError, Cls.ValueError, Cls.RuntimeError, Cls.AssertionError]),
  (Site.fn_tt3_sony_FelicaLite_read_with_mac, [Cls.tag_TagCommandError, Cls.ValueError, Cls.RuntimeError, Cls.AssertionError]),
  (Site.fn_tt3_sony_FelicaLite_read_without_mac, [Cls.tag_TagCommandError, Cls.ValueError, Cls.RuntimeError, Cls.AssertionError]),
  (Site.fn_tt3_sony_FelicaLite_write_without_mac, [Cls.tag_TagCommandError, Cls.ValueError, Cls.RuntimeError, Cls.AssertionError]),
  (Site.fn_tt3_sony_FelicaLiteS__protect, [Cls.tag_TagCommandError, Cls.ValueError, Cls.RuntimeError, Cls.AssertionError]),
  (Site.fn_tt3_sony_FelicaLiteS_authenticate, [Cls.tag_TagCommandError, Cls.ValueError, Cls.RuntimeError, Cls.AssertionError]),
  (Site.fn_tt3_sony_FelicaLiteS_protect, [Cls.tag_TagCommandError, Cls.ValueError, Cls.RuntimeError, Cls.AssertionError]),
  (Site.fn_tt3_sony_FelicaLiteS_write_with_mac, [Cls.tag_TagCommandError, Cls.ValueError, Cls.RuntimeError, Cls.AssertionError]),
  (Site.fn_tt3_sony_FelicaStandard__is_present, [Cls.tag_TagCommandError, Cls.ValueError, Cls.RuntimeError, Cls.AssertionError]),
  (Site.fn_tt3_sony_FelicaStandard_request_response, [Cls.tag_TagCommandError, Cls.ValueError, Cls.RuntimeError, Cls.AssertionError]),
  (Site.fn_tt3_sony_FelicaStandard_request_service, [Cls.tag_TagCommandError, Cls.ValueError, Cls.RuntimeError, Cls.AssertionError]),
  (Site.fn_tt3_sony_FelicaStandard_request_system_code, [Cls.tag_TagCommandError, Cls.ValueError, Cls.RuntimeError, Cls.AssertionError]),
  (Site.fn_tt3_sony_FelicaStandard_search_service_code, [Cls.tag_TagCommandError, Cls.ValueError, Cls.RuntimeError, Cls.AssertionError]),
  (Site.fn_tt4_Type4Tag__format, [Cls.tag_TagCommandError, Cls.ValueError, Cls.RuntimeError, Cls.AssertionError]),
  (Site.fn_tt4_Type4Tag_format, [Cls.tag_TagCommandError, Cls.ValueError, Cls.RuntimeError, Cls.AssertionError]),
  (Site.fn_tt4_ndef_wipe, [Cls.tag_TagCommandError, Cls.ValueError, Cls.RuntimeError, Cls.AssertionError])]
/-- all lists about the table `table`, checked with one evaluation of the summary table -/
theorem tagsAll_ok : checkAll world table prog (tagsOnly ++ tagOpsOnly) [] tagsCan = true :=
  checkAll_of_checkM tree_ordered (by decide +kernel)
theorem tagsOnly_ok : checkOnly world table prog tagsOnly = true := (checkOnly_append.mp (checkAll_split tagsAll_ok).1).1
theorem tagOpsOnly_ok : checkOnly world table prog tagOpsOnly = true := (checkOnly_append.mp (checkAll_split tagsAll_ok).1).2
theorem tagsCan_ok : checkCan world table prog tagsCan = true := (checkAll_split tagsAll_ok).2.2

/-- `Type1Tag.transceive`: `TagCommandError`, or the `RuntimeError` of the open finding
`t1t2-unknown-commerror-runtimeerror` (a `CommunicationError` that is not one of the three known kinds) -/
theorem tt1_transceive_escapes : Only Site.fn_tt1_transceive [Cls.tag_TagCommandError, Cls.RuntimeError] :=
  escapesOnly_of_checkOnly tree_ordered tagsOnly_ok (by decide)
theorem tt1_transceive_can_fail : Can Site.fn_tt1_transceive Cls.tag_tt1_Type1TagCommandError :=
  canEscape_of_checkCan tree_ordered tagsCan_ok (by decide)
/-- open finding `t1t2-unknown-commerror-runtimeerror`: the `RuntimeError` path exists -/
theorem tt1_transceive_runtimeerror : Can Site.fn_tt1_transceive Cls.RuntimeError :=
  canEscape_of_checkCan tree_ordered tagsCan_ok (by decide)

theorem tt2_transceive_escapes : Only Site.fn_tt2_transceive [Cls.tag_TagCommandError, Cls.RuntimeError] :=
  escapesOnly_of_checkOnly tree_ordered tagsOnly_ok (by decide)
theorem tt2_transceive_can_fail : Can Site.fn_tt2_transceive Cls.tag_tt2_Type2TagCommandError :=
  canEscape_of_checkCan tree_ordered tagsCan_ok (by decide)
theorem tt2_transceive_runtimeerror : Can Site.fn_tt2_transceive Cls.RuntimeError :=
  canEscape_of_checkCan tree_ordered tagsCan_ok (by decide)

/-- `Type3Tag.send_cmd_recv_rsp`: `TagCommandError` only -/
theorem tt3_send_cmd_recv_rsp_escapes : Only Site.fn_tt3_send_cmd_recv_rsp [Cls.tag_TagCommandError] :=
  escapesOnly_of_checkOnly tree_ordered tagsOnly_ok (by decide)
theorem tt3_send_cmd_recv_rsp_can_fail : Can Site.fn_tt3_send_cmd_recv_rsp Cls.tag_tt3_Type3TagCommandError :=
  canEscape_of_checkCan tree_ordered tagsCan_ok (by decide)

/-- `IsoDepInitiator.exchange` / `Type4Tag.transceive` with a command (`command is not None`):
`TagCommandError` only (C12, C16) -/
theorem tt4_exchange_cmd_escapes : Only Site.fn_tt4_dep_exchange_cmd [Cls.tag_TagCommandError] :=
  escapesOnly_of_checkOnly tree_ordered tagsOnly_ok (by decide)
theorem tt4_transceive_cmd_escapes : Only Site.fn_tt4_transceive_cmd [Cls.tag_TagCommandError] :=
  escapesOnly_of_checkOnly tree_ordered tagsOnly_ok (by decide)
theorem tt4_exchange_cmd_can_fail : Can Site.fn_tt4_dep_exchange_cmd Cls.tag_tt4_Type4TagCommandError :=
  canEscape_of_checkCan tree_ordered tagsCan_ok (by decide)
/-- inside, `_exchange` does raise `CommunicationError`: the handlers of `_exchange_command` are what the
theorem above is about -/
theorem tt4_inner_exchange_raises : Can Site.fn_tt4_dep__exchange Cls.clf_TimeoutError :=
  canEscape_of_checkCan tree_ordered tagsCan_ok (by decide)
/-- without the restriction to `command is not None` the raw `CommunicationError` of the presence check
(`exchange(None)`) is part of what `transceive` can raise; `_is_present` is its only caller and absorbs it -/
theorem tt4_transceive_escapes : Only Site.fn_tt4_transceive [Cls.tag_TagCommandError, Cls.clf_CommunicationError] :=
  escapesOnly_of_checkOnly tree_ordered tagsOnly_ok (by decide)
theorem tt4_presence_check_raises_raw : Can Site.fn_tt4_dep_exchange_presence Cls.clf_TimeoutError :=
  canEscape_of_checkCan tree_ordered tagsCan_ok (by decide)
/-- `send_apdu`: `TagCommandError`, or `ValueError` for arguments the APDU format cannot carry (documented) -/
theorem tt4_send_apdu_escapes : Only Site.fn_tt4_send_apdu [Cls.tag_TagCommandError, Cls.ValueError] :=
  escapesOnly_of_checkOnly tree_ordered tagsOnly_ok (by decide)

/-- the memory / block commands built on `transceive` (Type 1): `TagCommandError`, `ValueError` for an
address outside the command format, `RuntimeError` as above -/
theorem tt1_commands_escape : ∀ f ∈ [Site.fn_tt1_read_id, Site.fn_tt1_read_all, Site.fn_tt1_read_byte,
    Site.fn_tt1_read_block, Site.fn_tt1_read_segment, Site.fn_tt1_write_byte, Site.fn_tt1_write_block],
    Only f [Cls.tag_TagCommandError, Cls.ValueError, Cls.RuntimeError] :=
  only_each tagsOnly_ok (by decide)

theorem tt2_commands_escape : ∀ f ∈ [Site.fn_tt2_read, Site.fn_tt2_write, Site.fn_tt2_sector_select],
    Only f [Cls.tag_TagCommandError, Cls.ValueError, Cls.RuntimeError] :=
  only_each tagsOnly_ok (by decide)

theorem tt3_commands_escape : ∀ f ∈ [Site.fn_tt3_polling, Site.fn_tt3_read_without_encryption,
    Site.fn_tt3_read_from_ndef_service, Site.fn_tt3_write_without_encryption, Site.fn_tt3_write_to_ndef_service],
    Only f [Cls.tag_TagCommandError, Cls.ValueError] :=
  only_each tagsOnly_ok (by decide)

/-- presence checks turn the command error into `False`: no `TagCommandError`, no `CommunicationError` -/
theorem is_present_escapes : Only Site.fn_tt1_is_present [Cls.ValueError, Cls.RuntimeError] ∧
    Only Site.fn_tt2_is_present [Cls.RuntimeError] ∧ Only Site.fn_tt3_is_present [Cls.ValueError] ∧
    Only Site.fn_tt4_is_present [] := by
  and_intros <;> exact escapesOnly_of_checkOnly tree_ordered tagsOnly_ok (by decide)

/-- NDEF write (`tag.ndef.octets = ...`): `TagCommandError` (documented), `AttributeError` / `ValueError`
(documented: not writeable / too long), `RuntimeError` as above - never a raw `CommunicationError` -/
theorem ndef_write_escapes : Only Site.fn_tag_NDEF_octets_set
    [Cls.tag_TagCommandError, Cls.AttributeError, Cls.ValueError, Cls.RuntimeError] :=
  escapesOnly_of_checkOnly tree_ordered tagsOnly_ok (by decide)

/-- with a host link that can fail (`IOError` from `clf.exchange`): the `IOError` passes through unchanged -/
theorem tt2_transceive_escapes_io : OnlyIO Site.fn_tt2_transceive [Cls.tag_TagCommandError, Cls.RuntimeError, Cls.OSError] :=
  escapesOnly_of_checkOnly tree_ordered tagsOnlyIO_ok (by decide)
theorem tt3_send_cmd_recv_rsp_escapes_io : OnlyIO Site.fn_tt3_send_cmd_recv_rsp [Cls.tag_TagCommandError, Cls.OSError] :=
  escapesOnly_of_checkOnly tree_ordered tagsOnlyIO_ok (by decide)
theorem tt4_exchange_cmd_escapes_io : OnlyIO Site.fn_tt4_dep_exchange_cmd [Cls.tag_TagCommandError, Cls.OSError] :=
  escapesOnly_of_checkOnly tree_ordered tagsOnlyIO_ok (by decide)

/-! ### format / protect / authenticate and the vendor specific commands (C16)

`Tag.format/protect/authenticate` dispatch to the `_format/_protect/_authenticate` of *any* tag class (the analysis
does not know which tag it is), so every entry lists the union: `TagCommandError` (any type), `ValueError`
(documented argument checks), `RuntimeError` (open finding of `transceive`; MAC mismatch of FeliCa Lite),
`AssertionError` (`assert isinstance` of the Type 1 memory reader).  No raw `CommunicationError`. -/

theorem tag_operations_escape : ∀ fa ∈ tagOpsOnly, Only fa.1 fa.2 := only_all tagOpsOnly_ok

end NfcVerif.ExcFlowProps
