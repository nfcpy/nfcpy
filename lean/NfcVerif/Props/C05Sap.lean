import NfcVerif.Lemmas.DlcSapNet
/-!
# C05, routing layer: several data link connection sockets on one service access point

The theorems are short compositions of `Lemmas/DlcSap.lean` (invariant `SInv` of a `sock_list`, the routing lemma),
`Lemmas/DlcSapInv.lean`, `Lemmas/DlcSapStep.lean` (every operation of a controller keeps the invariant),
`Lemmas/DlcSapCli.lean` (a controller that never listens sends a disciplined stream) and `Lemmas/DlcSapNet.lean`
(two controllers joined by FIFO wires).

Model: `Model/DlcSap.lean` - `ServiceAccessPoint` with its `sock_list` (`insert_socket` = push to the
left, `remove_socket`, `enqueue` with the peer-matching rule, `dequeue`, `sendack`), the connection set-up
of `DataLinkConnection` (`listen`, `accept`, `connect`, CONNECT / CC / DM), `LogicalLinkController`
`collect` / `dispatch` over all access points; an established connection is the endpoint `Ep` of
`Model/Dlc.lean`.  `Ctl.run c ops` executes any finite sequence of application calls (on any socket),
link steps and `dlv frame` - the dispatch of an ARBITRARY inbound frame - of one controller.

Every PDU and socket carries a ghost connection number `cid` (the number of the `connect()` call it stems
from; never read by a transition).  `Disc` is what the theorems assume about the inbound stream: the
CONNECT PDUs of one source address carry increasing numbers, and an I / RR / RNR PDU carries a number that
is not below the last CONNECT of its source address.  A peer that uses one socket per source address at a
time and a FIFO link produces such a stream (a new `connect()` from an address needs the previous socket of
that address to be gone): `client_stream_disciplined` proves that for every controller on which no socket
listens, `net_route_reaches_connection` composes both halves for two controllers joined by FIFO wires, and the
harness checks the real traffic against `Disc` as well.
-/
namespace NfcVerif.C05
open NfcVerif NfcVerif.Dlc NfcVerif.DlcSap

/-- The `for ... else` loop of `ServiceAccessPoint.enqueue`: a PDU that is not a CONNECT goes to the FIRST socket
of the list whose peer is the PDU's source address or that has no peer yet; if there is none the access point
answers DM (reason 1) itself. -/
theorem sap_route_first_match (a : Sap) (w : WPdu) (hw : w.isConn = false) :
    (∃ pre s post, a.socks = pre ++ s :: post ∧ (∀ t ∈ pre, matchPeer w.ssap t = false) ∧ matchPeer w.ssap s = true ∧
        a.enqueue w = { a with socks := pre ++ s.enqueue w :: post }) ∨
    ((∀ t ∈ a.socks, matchPeer w.ssap t = false) ∧
        a.enqueue w = { a with sendList := a.sendList ++ [dmReply w 1] }) := by
  unfold Sap.enqueue
  rw [if_neg (by simp [hw])]
  rcases updFirst_cases (matchPeer w.ssap) (·.enqueue w) a.socks with ⟨pre, s, post, h1, h2, h3, h4⟩ | ⟨h1, h2⟩
  · exact Or.inl ⟨pre, s, post, h1, h2, h3, by rw [h4]⟩
  · exact Or.inr ⟨h1, by rw [h2]⟩

/-- **An inbound I / RR / RNR PDU reaches the socket of its connection.**  For every history `ops` of a
controller (any application calls on any sockets, any link steps, any inbound frames) whose inbound stream,
including the PDU `w` that arrives next, is disciplined: if the access point `w.dsap` holds a socket `σ` whose
peer is the source address of `w` and that belongs to the same connection attempt as `w`, then `σ` is the socket
`ServiceAccessPoint.enqueue` selects - no socket further left in the `sock_list` (an accepted socket of an
earlier connection from that address in CLOSE_WAIT, DISCONNECT or SHUTDOWN, not yet closed by its application,
or a socket without peer) takes the PDU - and after `dispatch` exactly that socket has processed it. -/
theorem sap_route_reaches_connection (link : Nat) (agf : Bool) (ops : List COp) (w : WPdu)
    (hd : Disc (((Ctl.init link agf).run ops).seen ++ [w])) (hw : w.isData = true)
    (a : Sap) (ha : a ∈ ((Ctl.init link agf).run ops).saps) (hda : a.addr = w.dsap)
    (σ : Sock) (hσ : σ ∈ a.socks) (hp : σ.peer = some w.ssap) (hc : σ.cid = w.cid) :
    ∃ pre post, a.socks = pre ++ σ :: post ∧ (∀ τ ∈ pre, matchPeer w.ssap τ = false) ∧
      { a with socks := pre ++ σ.enqueue w :: post } ∈ (((Ctl.init link agf).run ops).dispatch w).saps :=
  (run_inv _ ops (init_inv link agf) hd.prefix).route w hd.last hw a ha hda σ hσ hp hc

/-- **The other half: a controller on which no socket ever listens sends a disciplined stream**, for every history
of application calls (`connect`, re-connects from the same address after `close`, refused connects, ...), link steps
and inbound frames - whatever the peer sends.  Together with the FIFO link this discharges the hypothesis `Disc` of
`sap_route_reaches_connection` for connections initiated by such a controller. -/
theorem client_stream_disciplined (link : Nat) (agf : Bool) (ops : List COp) (ho : ∀ o ∈ ops, isListenOp o = false) :
    Disc ((Ctl.init link agf).run ops).out :=
  (run_k _ ops ho (init_k link agf)).disc

/-- **Closed system.**  Two controllers joined by two FIFO wires; side A only initiates connections (no socket of A
ever listens), side B is arbitrary (listening sockets, accepted connections, its own clients), every interleaving
`hist` of application calls on both sides, `collect()` / single dequeue steps and frame deliveries.  When the frame
at the head of the wire A -> B is dispatched and its PDU `w` (an I, RR or RNR) comes up - `pre` are the PDUs of the
same frame before it - then any socket `σ` of the destination access point that has `w`'s source address as peer
and belongs to the same connection attempt is the one that gets the PDU: a stale socket of an earlier connection
from that address never swallows it. -/
theorem net_route_reaches_connection (link : Nat) (agf : Bool) (hist : List NOp) (hA : ClientA hist)
    (f : List WPdu) (rest : List (List WPdu)) (pre post : List WPdu) (w : WPdu)
    (hwire : ((Net.init link agf).run hist).wab = f :: rest) (hf : f = pre ++ w :: post) (hw : w.isData = true)
    (a : Sap) (ha : a ∈ (((Net.init link agf).run hist).b.dispatchAll pre).saps) (hda : a.addr = w.dsap)
    (σ : Sock) (hσ : σ ∈ a.socks) (hp : σ.peer = some w.ssap) (hc : σ.cid = w.cid) :
    ∃ pre' post', a.socks = pre' ++ σ :: post' ∧ (∀ τ ∈ pre', matchPeer w.ssap τ = false) ∧
      { a with socks := pre' ++ σ.enqueue w :: post' } ∈ ((((Net.init link agf).run hist).b.dispatchAll pre).dispatch w).saps :=
  (netRun_inv _ hist hA (netInit_inv link agf)).route f rest pre post w hwire hf hw a ha hda σ hσ hp hc

/-! ### findings: a proved counter-example on the model of the code as found, and the history of a repaired one -/

/-- the socket object with handle `sid` (`default` when there is none) -/
def sockOf (c : Ctl) (sid : Nat) : Sock := (c.sock? sid).getD default

/-- `accept(); send()` on the server while the client is still in `connect()`: the I PDU leaves before the CC -/
def earlyData : List NOp :=
  [.op .B (.sock 2 128 (.addr 40)), .op .B (.listen 0 1), .op .A (.sock 2 128 (.addr 33)), .op .A (.connect 0 (.addr 40)),
   .op .A .collect, .deliver .B, .op .B (.accept 0), .op .B (.send 1 [1]), .op .B .collect, .op .B .collect,
   .deliver .A, .deliver .A, .op .A (.connFin 0), .op .A .collect, .op .B .collect]

/-- Finding `dlc-data-before-connect-complete`: after this history both ends are ESTABLISHED, every queue and both
wires are empty, the accepting side has had a message accepted by `send()` - and the peer will never receive it. -/
theorem net_early_data_counterexample :
    let n := (Net.init 128 false).run earlyData
    (sockOf n.b 1).ep.accepted = [[1]] ∧ (sockOf n.a 0).ep.delivered = [] ∧ (sockOf n.a 0).ep.rq = [] ∧
    (sockOf n.b 1).ep.sq = [] ∧ n.wab = [] ∧ n.wba = [] ∧
    (sockOf n.a 0).ep.st = .established ∧ (sockOf n.b 1).ep.st = .established ∧
    (sockOf n.a 0).peer = some 40 ∧ (sockOf n.b 1).peer = some 33 := by decide +kernel

/-- `close()` of a socket with an unread message, the closing handshake, then a new connection from the same source
address; the accepted socket of the first connection is never closed by its application -/
def closeUnread : List NOp :=
  [.op .B (.sock 2 128 (.addr 40)), .op .B (.listen 0 1), .op .A (.sock 2 128 (.addr 33)), .op .A (.connect 0 (.addr 40)),
   .op .A .collect, .deliver .B, .op .B (.accept 0), .op .B .collect, .deliver .A, .op .A (.connFin 0),
   .op .B (.send 1 [5]), .op .B .collect, .deliver .A, .op .A (.close 0), .op .A .collect, .deliver .B,
   .op .B .collect, .deliver .A, .op .A (.closeFin 0),
   .op .A (.sock 2 128 (.addr 33)), .op .A (.connect 1 (.addr 40)), .op .A .collect, .deliver .B, .op .B (.accept 0),
   .op .B .collect, .deliver .A, .op .A (.connFin 1),
   .op .B (.send 2 [7]), .op .B .collect, .deliver .A, .op .B (.send 1 [9]), .op .B .collect, .deliver .A,
   .op .A (.recv 1)]

/-- The history of the former finding `dlc-close-unread-data-no-disc` on the repaired code (fixes/C05/0002): `close()`
with an unread message waits (`pending`) with DISC queued and the receive queue empty, the peer's socket goes to
CLOSE_WAIT, its later `send()` is refused (nothing of it is accepted), and the second connection from SAP 33
delivers exactly what its own peer sent. -/
theorem net_close_unread_repaired :
    let n := (Net.init 128 false).run closeUnread
    (sockOf n.a 0).ep.st = .shutdown ∧ (sockOf n.b 1).ep.st = .closeWait ∧ (sockOf n.b 1).ep.accepted = [[5]] ∧
    (sockOf n.a 1).ep.delivered = [[7]] ∧ (sockOf n.b 2).ep.accepted = [[7]] ∧ (sockOf n.a 1).ep.rq = [] ∧
    n.wab = [] ∧ n.wba = [] ∧
    (let m := (Net.init 128 false).run (closeUnread.take 14)
     (sockOf m.a 0).ep.st = .disconnect ∧ (sockOf m.a 0).ep.sq = [.disc] ∧ (sockOf m.a 0).ep.rq = [] ∧
     (sockOf m.a 0).ep.closing = true) := by
  decide +kernel

/-! Non-vacuity of `sap_route_reaches_connection`: a server access point that still holds the accepted socket
of an earlier connection from SAP 33 (CLOSE_WAIT) behind the socket of the current one. -/
def reconnect : List COp :=
  [.sock 2 128 (.addr 40), .listen 0 2,
   .dlv [⟨40, 33, 1, .conn 128 2 none⟩], .accept 0, .collect,
   .dlv [⟨40, 33, 1, .dlc (.i 0 0 [1])⟩], .dlv [⟨40, 33, 1, .dlc .disc⟩], .collect,
   .dlv [⟨40, 33, 2, .conn 128 2 none⟩], .accept 0, .collect]

example : Disc (((Ctl.init 128 false).run reconnect).seen ++ [⟨40, 33, 2, .dlc (.i 0 0 [7])⟩]) := by
  -- each PDU in turn is fine after those before it
  exact (((((Disc.nil.snoc (w := ⟨40, 33, 1, .conn 128 2 none⟩) (by unfold StepOk; decide)).snoc
    (w := ⟨40, 33, 1, .dlc (.i 0 0 [1])⟩) (by unfold StepOk; decide)).snoc (w := ⟨40, 33, 1, .dlc .disc⟩) (by unfold StepOk; decide)).snoc
    (w := ⟨40, 33, 2, .conn 128 2 none⟩) (by unfold StepOk; decide)).snoc (w := ⟨40, 33, 2, .dlc (.i 0 0 [7])⟩)
    (by unfold StepOk; decide))

/-- the list is `[new (ESTABLISHED), old (CLOSE_WAIT), listener]`: the I PDU of connection 2 goes to the new socket -/
example : (((Ctl.init 128 false).run reconnect).saps.map fun a => a.socks.map fun s => (s.sid, s.cid, s.peer, s.ep.st)) =
    [[(2, 2, some 33, .established), (1, 1, some 33, .closeWait), (0, 0, none, .shutdown)]] := by decide


/-! Non-vacuity of `net_route_reaches_connection`: A connects from SAP 33, closes, connects again from SAP 33 while
B still holds the accepted socket of the first connection (CLOSE_WAIT, never closed by its application), and sends.
The I PDU of connection 2 is at the head of the wire; B's list is `[new, stale, listener]`. -/
def reconnectNet : List NOp :=
  [.op .B (.sock 2 128 (.addr 40)), .op .B (.listen 0 2), .op .A (.sock 2 128 (.addr 33)), .op .A (.connect 0 (.addr 40)),
   .op .A .collect, .deliver .B, .op .B (.accept 0), .op .B .collect, .deliver .A, .op .A (.connFin 0),
   .op .A (.close 0), .op .A .collect, .deliver .B, .op .B .collect, .deliver .A, .op .A (.closeFin 0),
   .op .A (.sock 2 128 (.addr 33)), .op .A (.connect 1 (.addr 40)), .op .A .collect, .deliver .B, .op .B (.accept 0),
   .op .B .collect, .deliver .A, .op .A (.connFin 1), .op .A (.send 1 [7]), .op .A .collect]

example : ClientA reconnectNet := ClientA_of_bool _ (by decide)

example : ((Net.init 128 false).run reconnectNet).wab = [[⟨40, 33, 2, .dlc (.i 0 0 [7])⟩]] := by decide +kernel

example : (((Net.init 128 false).run reconnectNet).b.saps.map fun a => a.socks.map (·.sid)) = [[2, 1, 0]] ∧
    (((Net.init 128 false).run reconnectNet).b.saps.map fun a => a.socks.map (·.cid)) = [[2, 1, 0]] ∧
    (((Net.init 128 false).run reconnectNet).b.saps.map fun a => a.socks.map (·.peer)) = [[some 33, some 33, none]] ∧
    (((Net.init 128 false).run reconnectNet).b.saps.map fun a => a.socks.map (·.ep.st)) =
      [[St.established, St.closeWait, St.shutdown]] := by decide +kernel

end NfcVerif.C05
