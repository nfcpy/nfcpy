import NfcVerif.Lemmas.FnBridgeNxp
import NfcVerif.Props.FnBridgeVendor
/-!
# Bridge theorems, group Nxp (`nfc/tag/tt2_nxp.py` -> `Gen/FnNxp.lean`)

Properties C20 (`NTAG21x._authenticate`, `MifareUltralightC._authenticate`, `_protect_with_password`), C03 (`_protect`,
`_protect_with_lockbits`, `_format`: which pages are written), C16 / C02 (the NDEF capability overrides after an
authentication), C01 (`_format` factory defaults), C08 (`activate`: class selection behind GET_VERSION).

The regenerated definitions have every tag command and the cipher objects as function parameters; the theorems hold for
ALL such functions (all tags, channels, ciphers).  Model counterparts: `Auth.ntagKey`, `Auth.ntagAuthCmd`,
`Auth.ntagAuthenticate`, `VendorRef.ulcKey`, `ulcAuth0`, `ulcAuth1` and the reference semantics
`Model/FnNxpRef.lean`.
-/
namespace NfcVerif.FnBridge.Nxp
open NfcVerif NfcVerif.PyFn NfcVerif.FnBridge.TagCmd NfcVerif.FnBridge.Vendor NfcVerif.VendorRef NfcVerif.NxpRef

/-! The whole methods begin with the key selection that group Vendor has as cuts of its own (`ulc_auth_key`, `ulc_protect_key`,
`ntag_protect_key`); the reference calls the key function.  The three lemmas say what the call is in the spelling of the
generated text, in front of any continuation. -/

theorem ulcKey_bind_auth {β} (pw : Bytes) (k : Bytes → Py β) :
    (ulcKey pw >>= k) =
      (let key := (if pw ≠ [] then slice pw 0 16 else [73, 69, 77, 75, 65, 69, 82, 66, 33, 78, 65, 67, 85, 79, 89, 70])
       if len key ≠ 16 then Except.error Exc.value else k key) := by
  rw [← ulc_auth_key_bridge pw]
  unfold Gen.Fn.ulc_auth_key
  exact ite_bind _ _ _ _

theorem ulcKey_bind {β} (pw : Bytes) (k : Bytes → Py β) :
    (ulcKey pw >>= k) =
      if pw ≠ [] ∧ len pw < 16 then Except.error Exc.value
      else k (if pw ≠ [] then slice pw 0 16 else [73, 69, 77, 75, 65, 69, 82, 66, 33, 78, 65, 67, 85, 79, 89, 70]) := by
  rw [← ulc_protect_key_bridge pw false 0]
  unfold Gen.Fn.ulc_protect_key
  exact ite_bind _ _ _ _

theorem ntagKey_bind {β} (pw : Bytes) (k : Bytes → Py β) :
    (Auth.ntagKey pw >>= k) =
      if pw ≠ [] ∧ len pw < 6 then Except.error Exc.value
      else k (if pw ≠ [] then slice pw 0 6 else [255, 255, 255, 255, 0, 0]) := by
  rw [← ntag_protect_key_bridge pw false 0]
  unfold Gen.Fn.ntag_protect_key
  exact ite_bind _ _ _ _

/-! ## `NTAG21x._authenticate` -/

/-- body of the `try`: PWD_AUTH(key[0:4]), answer compared with key[4:6] -/
theorem ntag_auth_try_bridge (key : Bytes) (tx : Tx) : Gen.Fn.nxp_ntag_auth_try key tx = ntagAuthTry key tx := rfl

theorem ntag_auth_fail_bridge : Gen.Fn.nxp_ntag_auth_fail = false := rfl

/-- the method assembled from the regenerated pieces (key selection: group Vendor) is the reference -/
theorem ntag_authenticate_assembled (pw : Bytes) (tx : Tx) :
    (Gen.Fn.ntag_auth_key pw >>= fun key =>
      catchTagCmd (Gen.Fn.nxp_ntag_auth_try key tx) Gen.Fn.nxp_ntag_auth_fail) = ntagAuthenticate pw tx := by
  rw [ntag_auth_key_bridge]; rfl

/-- the C20 model function `Auth.ntagAuthenticate` applied to what the channel gives for the PWD_AUTH command of
`Auth.ntagAuthCmd` IS the reference (and so the assembled regenerated method) -/
theorem ntag_authenticate_model (pw : Bytes) (tx : Tx) :
    ntagAuthenticate pw tx =
      Auth.ntagAuthenticate pw (match Auth.ntagKey pw with | .ok key => tx (Auth.ntagAuthCmd key) | .error e => .error e) := by
  unfold ntagAuthenticate Auth.ntagAuthenticate ntagAuthTry catchTagCmd Auth.ntagAuthCmd
  cases hk : Auth.ntagKey pw with
  | error e => rfl
  | ok key =>
    simp only [Py.bind_ok]
    have e1 : slice key 0 4 = key.take 4 := by rw [slice0_lit]
    have e2 : slice key 4 6 = (key.drop 4).take 2 := slice_ofNat key 4 6
    rw [e1, e2]
    cases tx ([0x1B] ++ key.take 4) with
    | error e => cases e <;> rfl
    | ok r => rfl

/-- C20 for the regenerated method, all tags and channels: True iff the answer to PWD_AUTH(key[0:4]) is exactly the
two PACK octets key[4:6] (seed C20-r5m4 compares fewer octets) -/
theorem gen_ntag_authenticate_true_iff (pw : Bytes) (tx : Tx) :
    (Gen.Fn.ntag_auth_key pw >>= fun key =>
      catchTagCmd (Gen.Fn.nxp_ntag_auth_try key tx) Gen.Fn.nxp_ntag_auth_fail) = .ok true ↔
      ∃ key, Auth.ntagKey pw = .ok key ∧ tx ([0x1B] ++ slice key 0 4) = .ok (slice key 4 6) := by
  rw [ntag_authenticate_assembled]; exact ntagAuthenticate_true_iff pw tx

example : (Gen.Fn.ntag_auth_key [1, 2, 3, 4, 5, 6] >>= fun key =>
    catchTagCmd (Gen.Fn.nxp_ntag_auth_try key (fun c => if c = [0x1B, 1, 2, 3, 4] then .ok [5, 6] else .error (.tagCmd 1)))
      Gen.Fn.nxp_ntag_auth_fail) = .ok true := by decide +kernel
example : (Gen.Fn.ntag_auth_key [1, 2, 3, 4, 5, 6] >>= fun key =>
    catchTagCmd (Gen.Fn.nxp_ntag_auth_try key (fun _ => .ok [5, 7])) Gen.Fn.nxp_ntag_auth_fail) = .ok false := by decide +kernel

/-! ## `MifareUltralightC._authenticate` -/

theorem ulc_auth_iv0_bridge : Gen.Fn.nxp_ulc_auth_iv0 = zeros8 := rfl
theorem ulc_auth_tail_iv_bridge (m2 : Bytes) : Gen.Fn.nxp_ulc_auth_tail_iv m2 = slice m2 8 16 := rfl
theorem ulc_rb0_bridge (rb : Bytes) : Gen.Fn.nxp_ulc_rb0 rb = firstOctet rb := rfl
theorem ulc_ra0_bridge (ra : Bytes) : Gen.Fn.nxp_ulc_ra0 ra = firstOctet ra := rfl
theorem ulc_auth_step2_fail_bridge : Gen.Fn.nxp_ulc_auth_step2_fail = false := rfl

/-- the second command is AF | m2 -/
theorem ulc_auth_step2_bridge (m2 : Bytes) (tx : Tx) : Gen.Fn.nxp_ulc_auth_step2 m2 tx = tx ([0xAF] ++ m2) := by
  unfold Gen.Fn.nxp_ulc_auth_step2
  exact bind_ok_id _

/-- up to the second command: key of the password, AUTHENTICATE 1A 00, m1 = answer[1:9], the start value for the
answer is answer[1:9]; RndA, RndB and m2 are handed through -/
theorem ulc_auth_head_bridge (pw ra rb m2 : Bytes) (tx : Tx) :
    Gen.Fn.nxp_ulc_auth_head pw ra rb m2 tx =
      (ulcKey pw >>= fun key => tx [0x1A, 0] >>= fun r1 => .ok (key, slice r1 1 9, ra, slice r1 1 9, m2)) := by
  unfold Gen.Fn.nxp_ulc_auth_head
  rw [ulcKey_bind_auth]

/-- the plaintext of the second command: RndA | RndB[1:8] | rb0 -/
theorem ulc_auth_plain_bridge (ra rb rb0 : Bytes) : Gen.Fn.nxp_ulc_auth_plain ra rb rb0 = ra ++ slice rb 1 8 ++ rb0 := rfl

theorem ulc_auth_m3_bridge (rsp : Bytes) : Gen.Fn.nxp_ulc_auth_m3 rsp = slice rsp 1 9 := rfl

/-- the decision: the decrypted answer = RndA[1:9] | ra0 -/
theorem ulc_auth_tail_bridge (rsp m2 ra pt ra0 : Bytes) :
    Gen.Fn.nxp_ulc_auth_tail rsp m2 ra pt ra0 = decide (pt = slice ra 1 9 ++ ra0) := rfl

/-- the method assembled from the regenerated pieces, with the cipher calls evaluated as the bound source texts say:
RndB = D key iv0 m1, m2 = E key iv (plaintext) with the `iv` the head reports, RndA' = D key (tail iv) m3 -/
def ulcAssembled (D E : Cipher) (pw ra : Bytes) (tx : Tx) : Py Bool :=
  Gen.Fn.ulc_auth_key pw >>= fun key =>
  tx [0x1A, 0] >>= fun r1 =>
  Gen.Fn.nxp_ulc_rb0 (D key Gen.Fn.nxp_ulc_auth_iv0 (slice r1 1 9)) >>= fun rb0 =>
  Gen.Fn.nxp_ulc_auth_head pw ra (D key Gen.Fn.nxp_ulc_auth_iv0 (slice r1 1 9))
      (E key (slice r1 1 9) (Gen.Fn.nxp_ulc_auth_plain ra (D key Gen.Fn.nxp_ulc_auth_iv0 (slice r1 1 9)) rb0)) tx
    >>= fun (key', _m1, ra', _iv, m2) =>
  match Gen.Fn.nxp_ulc_auth_step2 m2 tx with
  | .error (.tagCmd _) => .ok Gen.Fn.nxp_ulc_auth_step2_fail
  | .error e => .error e
  | .ok r2 =>
    Gen.Fn.nxp_ulc_ra0 ra' >>= fun ra0 =>
    .ok (Gen.Fn.nxp_ulc_auth_tail r2 m2 ra' (D key' (Gen.Fn.nxp_ulc_auth_tail_iv m2) (Gen.Fn.nxp_ulc_auth_m3 r2)) ra0)

/-- what the head reports: m1 and the start value of the `encrypt` object are answer[1:9] - the values `ulcAssembled`
hands to the cipher -/
theorem ulc_auth_head_iv (pw ra rb m2v : Bytes) (tx : Tx) (key m1 ra' iv m2 r1 : Bytes)
    (h1 : tx [0x1A, 0] = .ok r1) (h : Gen.Fn.nxp_ulc_auth_head pw ra rb m2v tx = .ok (key, m1, ra', iv, m2)) :
    m1 = slice r1 1 9 ∧ iv = slice r1 1 9 ∧ ra' = ra ∧ m2 = m2v ∧ ulcKey pw = .ok key := by
  rw [ulc_auth_head_bridge] at h
  cases hk : ulcKey pw with
  | error e => rw [hk] at h; cases h
  | ok k =>
    rw [hk, h1] at h
    simp only [Py.bind_ok] at h
    have := Except.ok.inj h
    simp only [Prod.mk.injEq] at this
    exact ⟨this.2.1.symm, this.2.2.2.1.symm, this.2.2.1.symm, this.2.2.2.2.symm, by rw [this.1]⟩

theorem ulc_authenticate_bridge (D E : Cipher) (pw ra : Bytes) (tx : Tx) :
    ulcAssembled D E pw ra tx = ulcAuthenticate D E pw ra tx := by
  unfold ulcAssembled ulcAuthenticate
  rw [ulc_auth_key_bridge]
  cases hk : ulcKey pw with
  | error e => rfl
  | ok key =>
    simp only [Py.bind_ok]
    cases h1 : tx [0x1A, 0] with
    | error e => rfl
    | ok r1 =>
      simp only [Py.bind_ok, ulc_rb0_bridge, ulc_auth_iv0_bridge]
      cases hb : firstOctet (D key zeros8 (slice r1 1 9)) with
      | error e => rfl
      | ok b0 =>
        simp only [Py.bind_ok]
        rw [ulc_auth_head_bridge, hk, h1]
        simp only [Py.bind_ok, ulc_auth_step2_bridge, ulc_ra0_bridge, ulc_auth_tail_bridge, ulc_auth_tail_iv_bridge,
          ulc_auth_step2_fail_bridge, ulcM2, ulc_auth_plain_bridge, ulc_auth_m3_bridge]
        rfl

/-- C20 for the regenerated method with DES uninterpreted: True iff the second answer decrypts to RndA rotated left -/
theorem gen_ulc_authenticate_true_iff (D E : Cipher) (pw ra : Bytes) (tx : Tx) :
    ulcAssembled D E pw ra tx = .ok true ↔
      ∃ key r1 b0 r2 a0, ulcKey pw = .ok key ∧ tx [0x1A, 0] = .ok r1
        ∧ firstOctet (D key zeros8 (slice r1 1 9)) = .ok b0
        ∧ tx ([0xAF] ++ ulcM2 E key ra (slice r1 1 9) (D key zeros8 (slice r1 1 9)) b0) = .ok r2
        ∧ firstOctet ra = .ok a0
        ∧ D key (slice (ulcM2 E key ra (slice r1 1 9) (D key zeros8 (slice r1 1 9)) b0) 8 16) (slice r2 1 9)
            = slice ra 1 9 ++ a0 := by
  rw [ulc_authenticate_bridge]; exact ulcAuthenticate_true_iff D E pw ra tx

/-! ## `_protect` -/

/-- without a password the lock bits, else the password protection with the same three arguments -/
theorem ulc_protect_bridge (pw : Option Bytes) (rp : Bool) (pf : Int) (lockbits : Py Bool) (withpw : Bytes → Bool → Int → Py Bool) :
    Gen.Fn.nxp_ulc_protect pw rp pf lockbits withpw = (match pw with | none => lockbits | some p => withpw p rp pf) := by
  cases pw <;> rfl

theorem ntag_protect_bridge (pw : Option Bytes) (rp : Bool) (pf : Int) (lockbits : Py Bool) (withpw : Bytes → Bool → Int → Py Bool) :
    Gen.Fn.nxp_ntag_protect pw rp pf lockbits withpw = (match pw with | none => lockbits | some p => withpw p rp pf) := by
  cases pw <;> rfl

/-- the NTAG203 has no password: False whatever was done before -/
theorem n203_protect_else_bridge (pw : Option Bytes) (rp : Bool) (pf : Int) : Gen.Fn.nxp_n203_protect_else pw rp pf = false := rfl

/-- the capability container update of the password protection, as the generated text has it: the `if protect_from <= 3`
statement of `Gen.Fn.nxp_ulc_protect_pw` and of `Gen.Fn.nxp_ntag_protect_pw` (`_protect_with_password` of both classes) -/
theorem ccAccess_gen (rd : Rd) (wr : Wr) (rp : Bool) (pf : Int) :
    ((if (pf ≤ 3) then
       (rd 3 >>= fun t8 =>
        let ndef_cc := (slice t8 0 4)
        PyFn.getB ndef_cc 0 >>= fun t9 =>
        (if (t9 = 225) then
           (PyFn.getB ndef_cc 1 >>= fun t11 =>
            Except.ok (decide ((PyFn.band t11 240) = 16)))
         else Except.ok false) >>= fun t12 =>
        (if (t12 = true) then
           (PyFn.getB ndef_cc 3 >>= fun t13 =>
            PyFn.setB ndef_cc 3 (PyFn.bor t13 (if (rp = true) then 136 else 8)) >>= fun ndef_cc_1 =>
            wr 3 ndef_cc_1 >>= fun t14 =>
            Except.ok ndef_cc_1)
         else
         Except.ok ndef_cc) >>= fun ndef_cc_2 =>
        Except.ok ())
     else
     Except.ok ()) : Py Unit) = ccAccess rd wr rp pf := by
  simp only [ccAccess, ccValidPw, runWrites, bind_assoc, Py.bind_ok, ite_bind, Bool.false_eq_true, if_false]

/-- Ultralight C `protect(password)`: key pages, AUTH0, AUTH1 as the WRITE list `ulcProtectWrites`, then the capability
container, then the authentication with the SAME key -/
theorem ulc_protect_pw_bridge (pw : Bytes) (rp : Bool) (pf : Int) (target : Option Int) (auth : Bytes → Py Bool) (rd : Rd) (wr : Wr) :
    Gen.Fn.nxp_ulc_protect_pw pw rp pf target auth rd wr = ulcProtectPw pw rp pf target auth rd wr := by
  unfold Gen.Fn.nxp_ulc_protect_pw ulcProtectPw
  rw [ulcKey_bind]
  by_cases hc : (pw ≠ [] ∧ len pw < 16)
  · rw [if_pos hc, if_pos hc]
  · rw [if_neg hc, if_neg hc]
    simp only [Py.bind_ok, ccAccess_gen, ulcProtectWrites, ulcKeyWrites, List.cons_append, List.nil_append, runWrites_cons,
      runWrites_nil, (ulc_auth0_gen pf).1, ulcAuth1]
    rw [(ulc_auth0_gen pf).2]
    rfl

/-- C03 / C20 for the regenerated method: whatever the tag answers, the pages written in front of the capability
container update are the key / AUTH0 / AUTH1 pages 42..47 (`ulcProtectWrites_pages`) - never user memory -/
theorem gen_ulc_protect_pages (key : Bytes) (rp : Bool) (pf : Int) :
    ∀ w ∈ ulcProtectWrites key rp pf, 42 ≤ w.1 ∧ w.1 ≤ 47 := ulcProtectWrites_pages key rp pf

/-- NTAG21x `protect(password)` -/
theorem ntag_protect_pw_bridge (pw : Bytes) (rp : Bool) (pf cfgpage : Int) (target : Option Int) (auth : Bytes → Py Bool) (rd : Rd) (wr : Wr) :
    Gen.Fn.nxp_ntag_protect_pw pw rp pf cfgpage target auth rd wr = ntagProtectPw pw rp pf cfgpage target auth rd wr := by
  unfold Gen.Fn.nxp_ntag_protect_pw ntagProtectPw
  rw [ntagKey_bind]
  by_cases hc : (pw ≠ [] ∧ len pw < 6)
  · rw [if_pos hc, if_pos hc]
  · rw [if_neg hc, if_neg hc]
    have hr : PyFn.range 0 4 = [0, 1, 2, 3] := by decide
    simp only [Py.bind_ok, ccAccess_gen, ntagCfg, ntagCfgWrites, hr, forM_cons_unit, forM_nil, reauth, runWrites_cons, runWrites_nil, bind_assoc]
    rfl

/-- the configuration update of the reference is Vendor's regenerated `ntag_protect_cfg` (bridged there to
`Auth.ntagProtectPages`) -/
theorem ntagCfg_vendor (cfg key : Bytes) (rp : Bool) (pf : Int) : ntagCfg cfg key rp pf = Gen.Fn.ntag_protect_cfg cfg key rp pf := rfl

/-! ## `_protect_with_lockbits`, `NTAG203._protect` -/

/-- the capability container set read-only, as the generated text has it in front of any continuation: the first statements of
`Gen.Fn.nxp_ulc_lockbits`, `Gen.Fn.nxp_n203_protect` and `Gen.Fn.nxp_ntag_lockbits` (`_protect_with_lockbits`, `NTAG203._protect`) -/
theorem ccReadOnly_gen {β} (rd : Rd) (wr : Wr) (k : Py β) :
    (rd 3 >>= fun t1 =>
      let ndef_cc := (slice t1 0 4)
      PyFn.getB ndef_cc 0 >>= fun t2 =>
      (if (t2 = 225) then
         (PyFn.getB ndef_cc 1 >>= fun t4 =>
          Except.ok (decide ((PyFn.shr t4 4) = 1)))
       else Except.ok false) >>= fun t5 =>
      (if (t5 = true) then
         (PyFn.setB ndef_cc 3 15 >>= fun ndef_cc_1 =>
          wr 3 ndef_cc_1 >>= fun t6 =>
          Except.ok ndef_cc_1)
       else
       Except.ok ndef_cc) >>= fun ndef_cc_2 => k) = (ccReadOnly rd wr >>= fun _ => k) := by
  simp only [ccReadOnly, ccValid, runWrites, bind_assoc, Py.bind_ok, ite_bind, Bool.false_eq_true, if_false]

/-- Ultralight C: CC read-only, page 2 := 00 00 FF FF, page 40 := FF FF 00 00 -/
theorem ulc_lockbits_bridge (rd : Rd) (wr : Wr) : Gen.Fn.nxp_ulc_lockbits rd wr = lockbits40 [255, 255, 0, 0] rd wr := by
  unfold Gen.Fn.nxp_ulc_lockbits lockbits40
  rw [ccReadOnly_gen]
  simp only [runWrites_cons, runWrites_nil]

/-- NTAG203: CC read-only, page 2 := 00 00 FF FF, page 40 := FF 01 00 00 (the counter page 41 is not locked) -/
theorem n203_protect_bridge (pw : Option Bytes) (rp : Bool) (pf : Int) (rd : Rd) (wr : Wr) :
    Gen.Fn.nxp_n203_protect pw rp pf rd wr = lockbits40 [255, 1, 0, 0] rd wr := by
  unfold Gen.Fn.nxp_n203_protect lockbits40
  rw [ccReadOnly_gen]
  simp only [runWrites_cons, runWrites_nil]

/-- NTAG21x: dynamic lock bytes at cfgpage - 1 only for products with more than 16 pages, CFGLCK at cfgpage + 1 -/
theorem ntag_lockbits_bridge (cfgpage : Int) (rd : Rd) (wr : Wr) : Gen.Fn.nxp_ntag_lockbits cfgpage rd wr = ntagLockbits cfgpage rd wr := by
  unfold Gen.Fn.nxp_ntag_lockbits ntagLockbits
  rw [ccReadOnly_gen]
  simp only [bind_assoc, Py.bind_ok, ite_bind]
  -- the source's `cfgdata[4] |= 0x40` under `if cfgdata[4] & 0x40 == 0` reads the octet twice, the reference once
  simp only [bind_reread]
  -- the dynamic lock bytes are written only behind `cfgpage > 16`: a longer WRITE list in the reference
  by_cases hc : cfgpage > 16
  · simp only [hc, if_true, List.cons_append, List.nil_append, runWrites, bind_assoc, Py.bind_ok]
  · simp only [hc, if_false, List.cons_append, List.nil_append, runWrites, bind_assoc, Py.bind_ok]

/-! ## `NDEF._read_capability_data` -/

theorem ulc_capdata_flags_bridge (mem : Bytes) (r w a : Bool) : Gen.Fn.nxp_ulc_capdata_flags mem r w a = capFlags mem r w a := by
  unfold Gen.Fn.nxp_ulc_capdata_flags capFlags
  -- the generated text returns the pair through one more bind
  simp only [ite_bind, bind_assoc, Py.bind_ok]

/-- the NTAG21x override has the text of the Ultralight C one -/
theorem ntag_capdata_flags_bridge (mem : Bytes) (r w a : Bool) : Gen.Fn.nxp_ntag_capdata_flags mem r w a = capFlags mem r w a :=
  ulc_capdata_flags_bridge mem r w a

/-- the value returned: what the generic code returned, unless the flag update raises -/
theorem ulc_capdata_ret_bridge (mem : Bytes) (r w a base : Bool) :
    Gen.Fn.nxp_ulc_capdata_ret mem r w a base = (if base = true then capFlags mem r w a >>= fun _ => .ok true else .ok false) :=
  rfl

theorem ntag_capdata_ret_bridge (mem : Bytes) (r w a base : Bool) :
    Gen.Fn.nxp_ntag_capdata_ret mem r w a base = (if base = true then capFlags mem r w a >>= fun _ => .ok true else .ok false) :=
  rfl

/-- C16 / C02 for the regenerated override: without authentication nothing changes, and no flag is ever cleared -/
theorem gen_capdata_unauthenticated (mem : Bytes) (r w : Bool) : Gen.Fn.nxp_ntag_capdata_flags mem r w false = .ok (r, w) := by
  rw [ntag_capdata_flags_bridge]; rfl

theorem gen_capdata_monotone (mem : Bytes) (r w a r' w' : Bool) (h : Gen.Fn.nxp_ntag_capdata_flags mem r w a = .ok (r', w')) :
    (r = true → r' = true) ∧ (w = true → w' = true) := by
  rw [ntag_capdata_flags_bridge] at h; exact capFlags_monotone mem r w a r' w' h

/-! ## `signature`, `_format`, configuration pages, NTAG I2C, `activate` -/

theorem signature_try_bridge (tx : Tx) : Gen.Fn.nxp_signature_try tx = tx [0x3C, 0] := rfl
theorem signature_fail_bridge : Gen.Fn.nxp_signature_fail = List.replicate 32 0 := by decide

theorem format_gen (p4 p5 : Bytes) (v : Int) (wipe : Option Int) (ndef : Option Bytes) (wr : Wr) (base : Int → Option Int → Py Bool) :
    ((match ndef with
      | none => (wr 4 p4 >>= fun _ => wr 5 p5 >>= fun _ => (Except.ok () : Py Unit))
      | some _ => (Except.ok ())) >>= fun () => base v wipe) = formatNxp p4 p5 v wipe ndef wr base := by
  cases ndef <;> simp only [formatNxp, runWrites, bind_assoc, Py.bind_ok]

theorem ntag203_format_bridge (v : Int) (wipe : Option Int) (ndef : Option Bytes) (wr : Wr) (base : Int → Option Int → Py Bool) :
    Gen.Fn.nxp_ntag203_format v wipe ndef wr base = formatNxp [0x01, 0x03, 0xA0, 0x10] [0x44, 0x03, 0x00, 0xFE] v wipe ndef wr base := by
  exact format_gen _ _ v wipe ndef wr base
theorem ntag210_format_bridge (v : Int) (wipe : Option Int) (ndef : Option Bytes) (wr : Wr) (base : Int → Option Int → Py Bool) :
    Gen.Fn.nxp_ntag210_format v wipe ndef wr base = formatNxp [0x03, 0x00, 0xFE, 0x00] [0, 0, 0, 0] v wipe ndef wr base := by
  exact format_gen _ _ v wipe ndef wr base
theorem ntag212_format_bridge (v : Int) (wipe : Option Int) (ndef : Option Bytes) (wr : Wr) (base : Int → Option Int → Py Bool) :
    Gen.Fn.nxp_ntag212_format v wipe ndef wr base = formatNxp [0x01, 0x03, 0x90, 0x0A] [0x34, 0x03, 0x00, 0xFE] v wipe ndef wr base := by
  exact format_gen _ _ v wipe ndef wr base
theorem ntag213_format_bridge (v : Int) (wipe : Option Int) (ndef : Option Bytes) (wr : Wr) (base : Int → Option Int → Py Bool) :
    Gen.Fn.nxp_ntag213_format v wipe ndef wr base = formatNxp [0x01, 0x03, 0xA0, 0x0C] [0x34, 0x03, 0x00, 0xFE] v wipe ndef wr base := by
  exact format_gen _ _ v wipe ndef wr base
theorem ntag215_format_bridge (v : Int) (wipe : Option Int) (ndef : Option Bytes) (wr : Wr) (base : Int → Option Int → Py Bool) :
    Gen.Fn.nxp_ntag215_format v wipe ndef wr base = formatNxp [0x03, 0x00, 0xFE, 0x00] [0, 0, 0, 0] v wipe ndef wr base := by
  exact format_gen _ _ v wipe ndef wr base
theorem ntag216_format_bridge (v : Int) (wipe : Option Int) (ndef : Option Bytes) (wr : Wr) (base : Int → Option Int → Py Bool) :
    Gen.Fn.nxp_ntag216_format v wipe ndef wr base = formatNxp [0x03, 0x00, 0xFE, 0x00] [0, 0, 0, 0] v wipe ndef wr base := by
  exact format_gen _ _ v wipe ndef wr base

/-- C01 for the regenerated `_format`: a tag that has NDEF management data is not touched before the generic format -/
theorem gen_format_some (v : Int) (wipe : Option Int) (n : Bytes) (wr : Wr) (base : Int → Option Int → Py Bool) :
    Gen.Fn.nxp_ntag213_format v wipe (some n) wr base = base v wipe := by
  rw [ntag213_format_bridge]; rfl

/-- the configuration page of every product (data sheets: first page behind user memory and dynamic lock bytes); the
four Ultralight EV1 classes have one since fix cb2a170 -/
theorem cfgpage_table (clf target : Int) :
    Gen.Fn.nxp_ntag210_cfgpage clf target = 16 ∧ Gen.Fn.nxp_ntag212_cfgpage clf target = 37
    ∧ Gen.Fn.nxp_ntag213_cfgpage clf target = 41 ∧ Gen.Fn.nxp_ntag215_cfgpage clf target = 131
    ∧ Gen.Fn.nxp_ntag216_cfgpage clf target = 227 ∧ Gen.Fn.nxp_mf0ul11_cfgpage clf target = 16
    ∧ Gen.Fn.nxp_mf0ulh11_cfgpage clf target = 16 ∧ Gen.Fn.nxp_mf0ul21_cfgpage clf target = 37
    ∧ Gen.Fn.nxp_mf0ulh21_cfgpage clf target = 37 := ⟨rfl, rfl, rfl, rfl, rfl, rfl, rfl, rfl, rfl⟩

/-- C03 for the regenerated constants: with the configuration page of any product, the pages the password protection
writes (`ntagCfgWrites`) start at 16 or above - behind the capability container and the first user pages 4..15 -/
theorem gen_ntag_cfg_writes_beyond (clf target : Int) (c : Bytes) :
    ∀ p ∈ [Gen.Fn.nxp_ntag210_cfgpage clf target, Gen.Fn.nxp_ntag212_cfgpage clf target, Gen.Fn.nxp_ntag213_cfgpage clf target,
           Gen.Fn.nxp_ntag215_cfgpage clf target, Gen.Fn.nxp_ntag216_cfgpage clf target, Gen.Fn.nxp_mf0ul11_cfgpage clf target,
           Gen.Fn.nxp_mf0ulh11_cfgpage clf target, Gen.Fn.nxp_mf0ul21_cfgpage clf target, Gen.Fn.nxp_mf0ulh21_cfgpage clf target],
      ∀ w ∈ ntagCfgWrites p c, 16 ≤ w.1 ∧ p ≤ w.1 ∧ w.1 ≤ p + 3 := by
  intro p hp w hw
  have hw' := ntagCfgWrites_pages p c w hw
  have h16 : 16 ≤ p := by
    simp only [List.mem_cons, List.not_mem_nil, or_false] at hp
    rcases hp with h | h | h | h | h | h | h | h | h <;> subst h <;>
      simp [Gen.Fn.nxp_ntag210_cfgpage, Gen.Fn.nxp_ntag212_cfgpage, Gen.Fn.nxp_ntag213_cfgpage, Gen.Fn.nxp_ntag215_cfgpage,
        Gen.Fn.nxp_ntag216_cfgpage, Gen.Fn.nxp_mf0ul11_cfgpage, Gen.Fn.nxp_mf0ulh11_cfgpage, Gen.Fn.nxp_mf0ul21_cfgpage,
        Gen.Fn.nxp_mf0ulh21_cfgpage]
  omega

theorem i2c_cfg0_page_bridge (stop : Nat) : Gen.Fn.nxp_i2c_cfg0_page stop = (((stop &&& 256) ||| 232 : Nat) : Int) := rfl
theorem i2c_cfg1_page_bridge (stop : Nat) : Gen.Fn.nxp_i2c_cfg1_page stop = (((stop &&& 256) ||| 233 : Nat) : Int) := rfl
theorem nt3h1101_dump_bridge (dump : Int → Py Int) : Gen.Fn.nxp_nt3h1101_dump dump = dump 226 := rfl
theorem nt3h1201_dump_bridge (dump : Int → Py Int) : Gen.Fn.nxp_nt3h1201_dump dump = dump 480 := rfl
example : Gen.Fn.nxp_i2c_cfg0_page 226 = 232 ∧ Gen.Fn.nxp_i2c_cfg0_page 480 = 488 ∧ Gen.Fn.nxp_i2c_cfg1_page 480 = 489 := by decide

theorem activate_ulc_bridge (clf target : Int) (rsp : Bytes) (mk : Int → Int → Int) :
    Gen.Fn.nxp_activate_ulc clf target rsp mk = (if List.isPrefixOf [0xAF] rsp = true then some (mk clf target) else none) := rfl

theorem activate_gone_bridge (target : Int) (sense : Int → Py (Option Int)) :
    Gen.Fn.nxp_activate_gone target sense = (sense target >>= fun t => .ok (decide (t = none))) := by
  unfold Gen.Fn.nxp_activate_gone
  rfl

/-- the NAK answer to GET_VERSION is exactly the one octet 00 -/
theorem activate_nak_bridge (rsp : Bytes) : Gen.Fn.nxp_activate_nak rsp = decide (rsp = [0]) := rfl

theorem activate_plain_bridge (clf target : Int) (mk : Int → Int → Int) : Gen.Fn.nxp_activate_plain clf target mk = mk clf target := rfl

end NfcVerif.FnBridge.Nxp
