import NfcVerif.Gen.FnRcs380Rf
import NfcVerif.Model.FnRcs380RfRef
import NfcVerif.Lemmas.FnBridgeRcs380Rf
import NfcVerif.Props.FnBridgePn53xRf
import NfcVerif.Props.FnBridgeRcs380
import NfcVerif.Props.FnBridgeCrc
/-!
# Bridge theorems, group Rcs380Rf (`nfc/clf/rcs380.py` -> `Gen/FnRcs380Rf.lean` -> `Model/FnRcs380RfRef.lean`)

Properties C18 / C19 (what `sense_*` / `listen_*` of the RC-S380 driver return for which chip answer, which first
command is accepted as which target type, ATR_REQ length, DID rules), C13 (timeout arithmetic never leaves the 16 bit
field of InCommRF - no `struct.error` -, which slices raise what; the status word mapping itself is
`Props/FnBridgeRcs380.lean` `comm_err_eq_bridge` / `in_comm_rf_bridge` / `tg_comm_rf_bridge` and
`Props/FnBridgeErrMap.lean`, not re-proved here), C14 (InCommRF command data; the Type 2 Tag CRC_A check of
`_tt2_send_cmd_recv_rsp` against `Model/Crc.lean`).  Every regenerated definition is a pure slice of a driver method
between two chipset calls.  `Gen/FnRcs380Rf.lean` is regenerated from the source on every run.

Agreement with the PN53x family (`Model/FnPn53xRfRef.lean`, `Props/FnBridgePn53xRf.lean`) is proved where both drivers
must deliver the same thing: cascade tag insertion (`tta_uid_agrees`), the Type 2 Tag test on SEL_RES
(`lta_is_tt2_agrees`), the fields of the returned LocalTarget (`lta_fields_agree`), default polling frames, PSL_RES.
Where the regenerated text of an `rrf_*` function and of the PN53x function for the same step coincide (the two drivers
have the same source text there), the bridge theorem of `Props/FnBridgePn53xRf.lean` is applied as it stands: the two
constants unfold to the same term.

Most proofs are `unfold ..; py_nat`: the reference is the regenerated text in the nat view (an octet read is `idxN`, a
mask `& (2^k - 1)` is `% 2^k`, a shift `>> k` is `/ 2^k`, a display is a test of its elements), and nothing is left, or
`rfl` for a `decide` or a `let` that the two sides spell differently.  Where more is left, the line behind `py_nat` says
what.
-/
namespace NfcVerif.FnBridge.Rcs380Rf
open NfcVerif NfcVerif.PyFn NfcVerif.FnRcs380RfRef NfcVerif.FnPn53xRfRef NfcVerif.FnBridge.HostLink

/-! ## Chipset -/

theorem in_comm_timeout_bridge (ms : Nat) : Gen.Fn.rrf_in_comm_timeout ms = (inCommTimeout ms : Int) := by
  unfold Gen.Fn.rrf_in_comm_timeout inCommTimeout imin
  by_cases h : ms = 0
  · subst h; simp
  · have h1 : ((ms : Int) > 0) := by omega
    simp only [h1, if_true, h, if_false]
    by_cases h2 : (ms + 1) * 10 ≤ 65535
    · rw [Nat.min_eq_left h2]
      have : ¬ ((65535 : Int) < ((ms : Int) + 1) * 10) := by omega
      simp only [this, if_false]; omega
    · rw [Nat.min_eq_right (by omega)]
      have : ((65535 : Int) < ((ms : Int) + 1) * 10) := by omega
      simp only [this, if_true]; omega

/-- a negative timeout is passed on times ten (`struct.pack("<H", ..)` of `in_comm_rf` then raises `struct.error`) -/
theorem in_comm_timeout_neg (t : Int) (h : t < 0) : Gen.Fn.rrf_in_comm_timeout t = t * 10 := by
  unfold Gen.Fn.rrf_in_comm_timeout imin
  have h1 : ¬ (t > 0) := by omega
  have h2 : ¬ ((65535 : Int) < (t + 0) * 10) := by omega
  simp only [h1, if_false, h2]; omega

theorem in_comm_cmd_bridge (data : Bytes) (t : Nat) : Gen.Fn.rrf_in_comm_cmd data t = inCommCmd data t := by
  unfold Gen.Fn.rrf_in_comm_cmd inCommCmd le16
  simp only [pack_cons, pack_nil, packField_Hle_nat]
  by_cases h : t < 65536 <;> simp [h]

theorem set_protocol_data_bridge (d : Option Bytes) : Gen.Fn.rrf_set_protocol_data d = settingsOf d := by
  cases d <;> rfl
theorem tg_set_protocol_data_bridge (d : Option Bytes) : Gen.Fn.rrf_tg_set_protocol_data d = settingsOf d := by
  cases d <;> rfl

theorem set_item_aux (k v : Int) : PyFn.mkBytes [k, v] = settingItem k v := by
  unfold settingItem
  split
  · split
    · exact mkBytes_ok [k, v] (by simp [*])
    · exact mkBytes_error [k, v] ⟨v, by simp, by omega⟩
  · exact mkBytes_error [k, v] ⟨k, by simp, by omega⟩

theorem set_protocol_item_bridge (v k : Int) : Gen.Fn.rrf_set_protocol_item v k = settingItem k v := set_item_aux k v
theorem tg_set_protocol_item_bridge (v k : Int) : Gen.Fn.rrf_tg_set_protocol_item v k = settingItem k v := set_item_aux k v

theorem set_protocol_send_bridge (d : Bytes) : Gen.Fn.rrf_set_protocol_send d = decide (d ≠ []) := by
  unfold Gen.Fn.rrf_set_protocol_send
  cases d <;> simp [len_eq]

theorem tg_comm_transmit_bridge (p : Bytes) (tx : Option Bytes) : Gen.Fn.rrf_tg_comm_transmit p tx = tgCommData p tx := by
  unfold Gen.Fn.rrf_tg_comm_transmit tgCommData
  cases tx with
  | none => simp
  | some s => by_cases h : s = [] <;> simp [h]

theorem reset_arg_bridge (n : Nat) : Gen.Fn.rrf_reset_arg n = if n < 65536 then .ok (le16 n) else .error .struct := by
  unfold Gen.Fn.rrf_reset_arg le16
  simp only [pack_cons, pack_nil, packField_Hle_nat]
  by_cases h : n < 65536 <;> simp [h]

theorem max_send_bridge (t : Int) : Gen.Fn.rrf_max_send t = maxData := rfl
theorem max_recv_bridge (t : Int) : Gen.Fn.rrf_max_recv t = maxData := rfl

/-! ## sense_tta -/

theorem tta_brty_bad_bridge (b : String) : Gen.Fn.rrf_tta_brty_bad b = decide (¬ brtyA b) := rfl
theorem ttb_brty_bad_bridge (b : String) : Gen.Fn.rrf_ttb_brty_bad b = decide (¬ brtyB b) := rfl
theorem ttf_brty_bad_bridge (b : String) : Gen.Fn.rrf_ttf_brty_bad b = decide (¬ brtyF b) := rfl

theorem or_default_aux (o : Option Bytes) (d : Bytes) :
    (match o with | none => d | some s => (if s ≠ [] then s else d)) = orDefault o d := by
  unfold orDefault
  cases o with
  | none => rfl
  | some s => cases s <;> simp

theorem tta_sens_req_bridge (o : Option Bytes) : Gen.Fn.rrf_tta_sens_req o = orDefault o defaultSensReq :=
  or_default_aux o _
theorem ttb_req_bridge (o : Option Bytes) : Gen.Fn.rrf_ttb_req o = orDefault o defaultSensbReq :=
  or_default_aux o _
theorem ttf_req_bridge (o : Option Bytes) : Gen.Fn.rrf_ttf_req o = orDefault o defaultSensfReq :=
  or_default_aux o _

theorem tta_sens_bad_bridge (s : Bytes) : Gen.Fn.rrf_tta_sens_bad s = sensResBad s := by
  unfold Gen.Fn.rrf_tta_sens_bad sensResBad
  py_nat

theorem tta_is_tt1_bridge (s : Bytes) : Gen.Fn.rrf_tta_is_tt1 s = sensIsTt1 s := by
  unfold Gen.Fn.rrf_tta_is_tt1 sensIsTt1
  py_nat

theorem tta_tt1_rid_bridge (s : Bytes) : Gen.Fn.rrf_tta_tt1_rid s = sensTt1Rid s := by
  unfold Gen.Fn.rrf_tta_tt1_rid sensTt1Rid
  py_nat

theorem tta_rid_cmd_bridge : Gen.Fn.rrf_tta_rid_cmd = ridCmd := rfl

theorem tta_uid_bridge (u : Bytes) : Gen.Fn.rrf_tta_uid u = ttaUid u := Pn53xRf.tta_uid_aux u

theorem tta_sel_req_bridge (uid : Bytes) (i c b : Nat) : Gen.Fn.rrf_tta_sel_req uid i c b = selReq uid i c b := by
  unfold Gen.Fn.rrf_tta_sel_req selReq
  simp only [lit_cast, mkBytes_cons, mkBytes_nil, ← Int.natCast_add, slice_ofNat, sliceN]
  by_cases hc : c < 256 <;> by_cases hb : b < 256 <;> simp [hc, hb]

theorem tta_sdd_req_bridge (c : Nat) : Gen.Fn.rrf_tta_sdd_req c = sddReq c := by
  unfold Gen.Fn.rrf_tta_sdd_req sddReq
  py_nat
  -- the display tests `c < 256 ∧ 32 < 256`
  by_cases hc : c < 256 <;> simp [hc]

theorem tta_sdd_sel_req_bridge (c : Nat) (sdd : Bytes) : Gen.Fn.rrf_tta_sdd_sel_req c sdd = sddSelReq c sdd := by
  unfold Gen.Fn.rrf_tta_sdd_sel_req sddSelReq
  py_nat
  -- the display tests `c < 256 ∧ 112 < 256`
  by_cases hc : c < 256 <;> simp [hc]

theorem tta_cascade_bridge (s : Bytes) : Gen.Fn.rrf_tta_cascade s = selCascade s := by
  unfold Gen.Fn.rrf_tta_cascade selCascade
  py_nat

theorem tta_complete_bridge (s : Bytes) : Gen.Fn.rrf_tta_complete s = selComplete s := by
  unfold Gen.Fn.rrf_tta_complete selComplete
  py_nat

theorem tta_uid_part_bridge (u s : Bytes) : Gen.Fn.rrf_tta_uid_part u s = uidPart u s := by
  unfold Gen.Fn.rrf_tta_uid_part uidPart
  py_nat
  rfl
theorem tta_uid_last_bridge (u s : Bytes) : Gen.Fn.rrf_tta_uid_last u s = uidLast u s := by
  unfold Gen.Fn.rrf_tta_uid_last uidLast
  py_nat
  rfl

/-! ## sense_ttb / sense_ttf -/

theorem ttb_res_ok_bridge (r : Bytes) : Gen.Fn.rrf_ttb_res_ok r = sensbResOk r := by
  unfold Gen.Fn.rrf_ttb_res_ok sensbResOk
  py_nat
  rfl

theorem len_frame_aux (p : Bytes) :
    (PyFn.mkBytes [((PyFn.len p) + 1)] >>= fun t1 => (Except.ok (t1 ++ p) : Py Bytes)) = FnPn53xRfRef.lenFrame p :=
  Pn53xRf.len_frame_aux p

theorem ttf_frame_bridge (p : Bytes) : Gen.Fn.rrf_ttf_frame p = FnRcs380RfRef.lenFrame p := len_frame_aux p

theorem ttf_res_code_bridge (f : Bytes) : Gen.Fn.rrf_ttf_res_code f = ttfResCode f := by
  unfold Gen.Fn.rrf_ttf_res_code ttfResCode
  py_nat

theorem ttf_res_bridge (f : Bytes) : Gen.Fn.rrf_ttf_res f = ttfRes f := Pn53xRf.ttf_res_bridge f

/-! ## listen_tta -/

theorem lta_checks_core (sens sdd sel : Bytes) :
    (if ((PyFn.len sens) ≠ 2) then Except.error Exc.value else
     if ((PyFn.len sdd) ≠ 4) then Except.error Exc.value else
     if ((PyFn.len sel) ≠ 1) then Except.error Exc.value else
     PyFn.getB sdd 0 >>= fun t1 =>
     if (t1 ≠ 8) then Except.error Exc.value else
     (Except.ok ((sens ++ (slice sdd 1 4)) ++ sel) : Py Bytes)) =
    (if sens.length = 2 ∧ sdd.length = 4 ∧ sel.length = 1 ∧ sdd.head? = some 8 then .ok (nfcaParams sens sdd sel)
      else .error .value) := by
  unfold nfcaParams
  cases sdd with
  | nil => simp [len_eq]
  | cons a l =>
    simp only [lit_cast, len_eq, Int.natCast_inj, getB_idxN, idxN_cons_zero, Py.bind_ok, ne_eq, ite_not, ite_ite_and, List.head?_cons,
      Option.some.injEq, slice_ofNat, sliceN]

theorem lta_checks_bridge (brty : String) (rid sens sdd sel : Option Bytes) :
    Gen.Fn.rrf_lta_checks brty rid sens sdd sel = FnRcs380RfRef.ltaChecks brty rid sens sdd sel := by
  unfold Gen.Fn.rrf_lta_checks FnRcs380RfRef.ltaChecks
  by_cases hb : brty = "106A"
  · simp only [hb, not_true_eq_false, if_false, ne_eq]
    rcases rid with _ | ⟨_ | ⟨r0, r⟩⟩
    -- `rid` absent or empty: the three parameters must be there, then the tests of `lta_checks_core`
    iterate 2
      simp only [Option.getD, not_true_eq_false, if_false]
      match sens, sdd, sel with
      | some _, some _, some _ => exact lta_checks_core _ _ _
      | none, _, _ | some _, none, _ | some _, some _, none => rfl
    simp
  · simp [hb]

theorem lta_recv_timeout_bridge (ms : Int) : Gen.Fn.rrf_lta_recv_timeout ms = clamp16 ms := imin_clamp ms
theorem ltf_recv_timeout_bridge (ms : Int) : Gen.Fn.rrf_ltf_recv_timeout ms = clamp16 ms := imin_clamp ms
theorem ldep_recv_timeout_bridge (ms : Int) : Gen.Fn.rrf_ldep_recv_timeout ms = clamp16 ms := imin_clamp ms

theorem lta_is_tt2_bridge (sel : Bytes) : Gen.Fn.rrf_lta_is_tt2 sel = selIsTt2 sel := Pn53xRf.tta_is_tt2_bridge sel

theorem lta_is_tt4_bridge (sel : Bytes) : Gen.Fn.rrf_lta_is_tt4 sel = FnRcs380RfRef.selIsTt4 sel := by
  unfold Gen.Fn.rrf_lta_is_tt4 FnRcs380RfRef.selIsTt4
  py_nat

theorem brty_index_aux (d : Bytes) : (PyFn.getB d 0 >>= fun t1 => (Except.ok (t1 - 11) : Py Int)) = brtyIndex d := by
  unfold brtyIndex
  simp only [lit_cast, getB_bind]
theorem lta2_brty_index_bridge (d : Bytes) : Gen.Fn.rrf_lta2_brty_index d = brtyIndex d := brty_index_aux d
theorem ltf_brty_index_bridge (d : Bytes) : Gen.Fn.rrf_ltf_brty_index d = brtyIndex d := brty_index_aux d
theorem ldep_brty_index_bridge (d : Bytes) : Gen.Fn.rrf_ldep_brty_index d = brtyIndex d := brty_index_aux d

theorem ldep_activated_bridge (d : Bytes) : Gen.Fn.rrf_ldep_activated d = activated d := by
  unfold Gen.Fn.rrf_ldep_activated activated
  py_nat

theorem lta2_accept_bridge (b : String) (d : Bytes) : Gen.Fn.rrf_lta2_accept b d = lta2Accept b d := by
  unfold Gen.Fn.rrf_lta2_accept lta2Accept activated
  py_nat
  rfl

theorem lta2_cmd_bridge (d : Bytes) : Gen.Fn.rrf_lta2_cmd d = rxFrame d := by
  unfold Gen.Fn.rrf_lta2_cmd rxFrame
  py_nat
theorem ldep_frame_bridge (d : Bytes) : Gen.Fn.rrf_ldep_frame d = rxFrame d := lta2_cmd_bridge d

theorem lta_sens_res_bridge (p : Bytes) : Gen.Fn.rrf_lta_sens_res p = ltaSens p := Pn53xRf.lta_sens_res_bridge p
theorem lta_sdd_res_bridge (p : Bytes) : Gen.Fn.rrf_lta_sdd_res p = ltaSdd p := Pn53xRf.lta_sdd_res_bridge p
theorem lta_sel_res_bridge (p : Bytes) : Gen.Fn.rrf_lta_sel_res p = ltaSel p := Pn53xRf.lta_sel_res_bridge p

theorem lta4_is_rats_bridge (b : String) (d : Bytes) : Gen.Fn.rrf_lta4_is_rats b d = lta4IsRats b d := by
  unfold Gen.Fn.rrf_lta4_is_rats lta4IsRats
  py_nat
  rfl

theorem lta4_rats_bridge (d : Bytes) (r : Option Bytes) : Gen.Fn.rrf_lta4_rats d r = lta4Rats d r := by
  unfold Gen.Fn.rrf_lta4_rats lta4Rats rxFrame defaultRatsRes
  py_nat
  -- `rats_res if rats_res is not None else default` against `getD`
  cases r <;> rfl

theorem lta4_is_cmd_bridge (b : String) (d : Bytes) (r : Option Bytes) : Gen.Fn.rrf_lta4_is_cmd b d r = lta4IsCmd b d r := by
  unfold Gen.Fn.rrf_lta4_is_cmd lta4IsCmd
  py_nat
  -- the truth value of `rats_res` (neither None nor empty) against `getD [] ≠ []`
  cases r <;> simp

theorem lta4_did_bridge (r : Bytes) : Gen.Fn.rrf_lta4_did r = (ratsDid r >>= fun d => .ok (d : Int)) := by
  unfold Gen.Fn.rrf_lta4_did ratsDid
  py_nat

theorem lta4_did_supported_bridge (tc : Option Nat) :
    Gen.Fn.rrf_lta4_did_supported (tc.map (fun (n : Nat) => (n : Int))) = didSupported tc := by
  unfold Gen.Fn.rrf_lta4_did_supported didSupported
  cases tc with
  | none => rfl
  | some t => simp only [Option.map, lit_cast, band_ofNat, ne_eq, Int.natCast_inj]; simp

theorem lta4_with_did_bridge (c : Bytes) : Gen.Fn.rrf_lta4_with_did c = withDid c := by
  unfold Gen.Fn.rrf_lta4_with_did withDid
  py_nat

theorem lta4_for_us_bridge (w s : Bool) (c : Bytes) (did : Int) : Gen.Fn.rrf_lta4_for_us w s c did = forUs w s c did := by
  unfold Gen.Fn.rrf_lta4_for_us forUs
  by_cases h : w = true ∧ s = true
  · simp only [h, and_self, if_true, lit_cast, getB_bind]
    cases idxN c 1 with
    | error e => rfl
    | ok d => simp
  · simp only [h, if_false, Py.bind_ok]
    simp

theorem lta4_is_deselect_bridge (c : Bytes) : Gen.Fn.rrf_lta4_is_deselect c = FnRcs380RfRef.isDeselect c := by
  unfold Gen.Fn.rrf_lta4_is_deselect FnRcs380RfRef.isDeselect
  py_nat

/-! ## listen_ttf -/

theorem ltf_checks_bridge (b : String) (s : Option Bytes) : Gen.Fn.rrf_ltf_checks b s = FnRcs380RfRef.ltfChecks b s := by
  unfold Gen.Fn.rrf_ltf_checks FnRcs380RfRef.ltfChecks brtyF
  by_cases hb : (b = "212F" ∨ b = "424F")
  · simp only [hb, not_true_eq_false, if_false]
    cases s with
    | none => rfl
    | some x =>
      simp only [lit_cast, len_eq, ne_eq, Int.natCast_inj]
      by_cases h : x.length = 19 <;> simp [h]
  · simp [hb]

theorem ltf_len_ok_bridge (d : Bytes) : Gen.Fn.rrf_ltf_len_ok d = FnRcs380RfRef.ltfLenOk d := by
  unfold Gen.Fn.rrf_ltf_len_ok FnRcs380RfRef.ltfLenOk
  simp only [bind_decide_true, lit_cast, len_eq, gt_iff_lt, Int.ofNat_lt, getB_bind]
  by_cases h : 7 < d.length
  · simp only [h, if_true]
    cases idxN d 7 with
    | error e => rfl
    | ok l => simp only [Py.bind_ok]; congr 1; apply decide_eq_decide.mpr; omega
  · simp [h]

theorem ltf_for_us_bridge (q : Option Bytes) (d r : Bytes) : Gen.Fn.rrf_ltf_for_us q d r = FnRcs380RfRef.ltfForUs q d r := by
  unfold Gen.Fn.rrf_ltf_for_us FnRcs380RfRef.ltfForUs
  simp only [lit_cast, slice_ofNat, sliceN]
  cases q <;> simp

theorem ltf_tt3_cmd_bridge (d : Bytes) : Gen.Fn.rrf_ltf_tt3_cmd d = tt3Cmd d := by
  unfold Gen.Fn.rrf_ltf_tt3_cmd tt3Cmd
  py_nat

theorem ltf_is_polling_bridge (d : Bytes) : Gen.Fn.rrf_ltf_is_polling d = ltfIsPolling d := by
  unfold Gen.Fn.rrf_ltf_is_polling ltfIsPolling
  py_nat
  rfl

theorem ltf_sc_match_bridge (q r : Bytes) : Gen.Fn.rrf_ltf_sc_match q r = scMatch q r := by
  unfold Gen.Fn.rrf_ltf_sc_match scMatch
  simp only [bind_decide_true, lit_cast, getB_bind, Int.natCast_inj]
  cases h1 : idxN q 1 with
  | error e => rfl
  | ok a =>
    simp only [Py.bind_ok]
    by_cases ha : a = 255
    · simp only [ha, if_true, Py.bind_ok]
      cases h2 : idxN q 2 with
      | error e => rfl
      | ok b => simp only [Py.bind_ok]
    · simp only [ha, if_false]
      cases idxN r 17 with
      | error e => rfl
      | ok x =>
        simp only [Py.bind_ok]
        by_cases hx : a = x
        · simp only [hx, decide_true, if_true]
          cases h2 : idxN q 2 with
          | error e => rfl
          | ok b => simp only [Py.bind_ok]
        · simp [hx]

/-! ## listen_dep -/

/-- `not x or q` where the test `q` fails on the empty string anyway -/
theorem empty_or_iff {α} (x : List α) (q : Prop) (h : x = [] → q) : (¬ x ≠ [] ∨ q) ↔ q :=
  ⟨fun h' => h'.elim (fun e => h (Classical.not_not.mp e)) id, Or.inr⟩

theorem ldep_params_bridge (sens sel sdd sensf atr : Bytes) :
    Gen.Fn.rrf_ldep_params sens sel sdd sensf atr = FnRcs380RfRef.ldepParams sens sel sdd sensf atr := by
  unfold Gen.Fn.rrf_ldep_params FnRcs380RfRef.ldepParams nfcaParams
  have e1 := empty_or_iff sens (sens.length ≠ 2) (fun e => by rw [e]; decide)
  have e2 := empty_or_iff sel (sel.length ≠ 1) (fun e => by rw [e]; decide)
  have e3 := empty_or_iff sdd (sdd.length ≠ 4) (fun e => by rw [e]; decide)
  have e4 := empty_or_iff sensf (¬ 19 ≤ sensf.length) (fun e => by rw [e]; decide)
  have e5 := empty_or_iff atr (¬ 17 ≤ atr.length) (fun e => by rw [e]; decide)
  simp only [lit_cast, len_eq, Int.natCast_inj, Int.ofNat_lt, slice_ofNat, sliceN, ← Nat.not_le, e1, e2, e3, e4, e5, ne_eq,
    ite_not, ite_ite_and]

theorem ldep_is_tag_cmd_bridge (b : String) (d : Bytes) : Gen.Fn.rrf_ldep_is_tag_cmd b d = isTagCmd b d := by
  unfold Gen.Fn.rrf_ldep_is_tag_cmd isTagCmd
  py_nat
  rfl

theorem ldep_offset_bridge (b : String) (d : Bytes) (c : List Int) : Gen.Fn.rrf_ldep_offset b d c = (depOffset b : Int) := by
  unfold Gen.Fn.rrf_ldep_offset depOffset
  py_nat

theorem ldep_tx_frame_bridge (b : String) (d : Bytes) (t : Int) : Gen.Fn.rrf_ldep_tx_frame b d t = txFrame b d := by
  unfold Gen.Fn.rrf_ldep_tx_frame txFrame FnPn53xRfRef.lenFrame
  py_nat

theorem ldep_atr_len_ok_bridge (a : Bytes) : Gen.Fn.rrf_ldep_atr_len_ok a = atrLenOk a := by
  unfold Gen.Fn.rrf_ldep_atr_len_ok atrLenOk
  py_nat

theorem ldep_is_atr_bridge (f : Bytes) : Gen.Fn.rrf_ldep_is_atr f = isAtrReq f := by
  unfold Gen.Fn.rrf_ldep_is_atr isAtrReq
  py_nat
  rfl

theorem ldep_is_req_bridge (f : Bytes) : Gen.Fn.rrf_ldep_is_req f = isDepCmd f := by
  unfold Gen.Fn.rrf_ldep_is_req isDepCmd
  py_nat
  rfl

theorem did_of_aux (f : Bytes) (i : Nat) :
    (PyFn.getB f (i : Int) >>= fun t1 => if (t1 > 0) then (PyFn.getB f (i : Int) >>= fun t2 => Except.ok (some t2))
      else (Except.ok (none : Option Int) : Py (Option Int))) = didOf f i := by
  unfold didOf
  simp only [getB_bind]
  cases idxN f i with
  | error e => rfl
  | ok d =>
    simp only [Py.bind_ok]
    by_cases hd : d > 0 <;> simp [hd]

theorem ldep_did_bridge (a : Bytes) : Gen.Fn.rrf_ldep_did a = didOf a 12 := did_of_aux a 12
theorem ldep_psl_did_bridge (f : Bytes) : Gen.Fn.rrf_ldep_psl_did f = didOf f 2 := did_of_aux f 2

theorem ldep_dsl_did_bridge (f : Bytes) : Gen.Fn.rrf_ldep_dsl_did f = dslDid f := by
  unfold Gen.Fn.rrf_ldep_dsl_did dslDid
  py_nat

theorem ldep_dep_did_bridge (f : Bytes) : Gen.Fn.rrf_ldep_dep_did f = depDid f := by
  unfold Gen.Fn.rrf_ldep_dep_did depDid
  -- the DID flag `(pfb >> 2) & 1` is `pfb / 4 % 2` (`shr_ofNat`, `Nat.shiftRight_eq_div_pow`, `and1`)
  py_nat

theorem ldep_psl_res_bridge (f : Bytes) : Gen.Fn.rrf_ldep_psl_res f = pslRes f := Pn53xRf.ldep_psl_res_bridge f
theorem ldep_dsl_res_bridge (f : Bytes) : Gen.Fn.rrf_ldep_dsl_res f = dslRes f := by
  unfold Gen.Fn.rrf_ldep_dsl_res dslRes
  py_nat
  rfl
theorem ldep_rls_res_bridge (f : Bytes) : Gen.Fn.rrf_ldep_rls_res f = rlsRes f := by
  unfold Gen.Fn.rrf_ldep_rls_res rlsRes
  py_nat
  rfl
theorem ldep_sensf_res_bridge (p : Bytes) : Gen.Fn.rrf_ldep_sensf_res p = ldepSensfRes p := rfl

/-! ## data exchange -/

theorem timeout_msec_bridge (t ms : Int) : Gen.Fn.rrf_timeout_msec t ms = (timeoutMsec (decide (t ≠ 0)) ms : Int) := by
  unfold Gen.Fn.rrf_timeout_msec timeoutMsec imax imin
  by_cases h : t = 0
  · simp [h]
  · simp only [ne_eq, h, not_false_eq_true, if_true, decide_true]
    by_cases h1 : ms < 1
    · have a : ¬ ((65535 : Int) < ms) := by omega
      simp [h1, a]
    · by_cases h2 : ms > 65535
      · have a : ((65535 : Int) < ms) := by omega
        simp [h1, h2]
      · have a : ¬ ((65535 : Int) < ms) := by omega
        have b : ¬ ((1 : Int) > ms) := by omega
        simp [h1, h2]; omega

theorem route_tt2_bridge (b : String) (sel : Bytes) : Gen.Fn.rrf_route_tt2 b sel = routeTt2 b sel := by
  unfold Gen.Fn.rrf_route_tt2 routeTt2 selIsTt2
  py_nat
  rfl

theorem tgt_recv_timeout_bridge (t : Option Int) (ms : Int) : Gen.Fn.rrf_tgt_recv_timeout t ms = tgtRecvTimeout t ms := by
  cases t <;> rfl

/-! ## remaining slices: PSL, Type 2 Tag CRC -/

theorem ldep_psl_bridge (b : String) (f : Bytes) : Gen.Fn.rrf_ldep_psl b f = pslDsi f := by
  unfold Gen.Fn.rrf_ldep_psl pslDsi
  -- DSI `(brs >> 3) & 7` is `x / 2 ^ 3 % 8`, DRI `brs & 7` is `x % 8`; left is the raise through `comm_err_init`
  py_nat
  cases idxN f 3 with
  | error e => rfl
  | ok x =>
    simp only [Py.bind_ok]
    rw [Rcs380.comm_err_init_bridge]
    by_cases h : x / 2 ^ 3 % 8 = x % 8
    · simp [h]
    · simp [h]; rfl

theorem sliceTo_neg_two {α} (l : List α) : PyFn.sliceTo l (-2) = l.take (l.length - 2) :=
  sliceTo_neg l 2 (by decide)

open NfcVerif.FnBridge.Crc in
/-- `_tt2_send_cmd_recv_rsp` behind the chipset call: the CRC_A check of `Model/Crc.lean` (C14) -/
theorem tt2_crc_bridge (d : List (BitVec 8)) :
    Gen.Fn.rrf_tt2_crc (enc d) = (tt2Crc d >>= fun r => .ok (enc r)) := by
  unfold Gen.Fn.rrf_tt2_crc tt2Crc
  rw [check_crc_a_bridge]
  have hl : (enc d).length = d.length := by simp [enc]
  simp only [lit_cast, len_eq, hl, gt_iff_lt, Int.ofNat_lt]
  by_cases h : 2 < d.length
  · simp only [h, if_true]
    cases Crc.checkCrcA d with
    | error e => rfl
    | ok ok =>
      cases ok
      · rfl
      · simp only [Py.bind_ok, Bool.true_eq_false, decide_false, Bool.false_eq_true, if_false, if_true]
        rw [show ((2 : Nat) : Int) = 2 from rfl, sliceTo_neg_two, hl]
        simp [enc, List.map_take]
  · simp [h]

/-! ## agreement with the PN53x family -/

/-- both drivers insert the cascade tag(s) in the same way -/
theorem tta_uid_agrees (u : Bytes) : Gen.Fn.rrf_tta_uid u = Gen.Fn.rf_tta_uid (some u) := by
  rw [tta_uid_bridge, Pn53xRf.tta_uid_bridge]; rfl

/-- both drivers take the same SEL_RES values as Type 2 Tag -/
theorem lta_is_tt2_agrees (sel : Bytes) :
    Gen.Fn.rrf_lta_is_tt2 sel = Gen.Fn.rf_lta_is_tt2 sel ∧ Gen.Fn.rrf_lta_is_tt2 sel = Gen.Fn.rf_tta_is_tt2 sel :=
  ⟨rfl, rfl⟩

/-- the Type A fields of a LocalTarget are cut from the activation parameters in the same way -/
theorem lta_fields_agree (p : Bytes) :
    Gen.Fn.rrf_lta_sens_res p = Gen.Fn.rf_lta_sens_res p ∧ Gen.Fn.rrf_lta_sdd_res p = Gen.Fn.rf_lta_sdd_res p
    ∧ Gen.Fn.rrf_lta_sel_res p = Gen.Fn.rf_lta_sel_res p :=
  ⟨rfl, rfl, rfl⟩

/-- same default polling frame, same RID command, same PSL_RES -/
theorem defaults_agree (o : Option Bytes) (f : Bytes) :
    Gen.Fn.rrf_ttf_req o = Gen.Fn.rf_ttf_req o ∧ Gen.Fn.rrf_tta_rid_cmd = Gen.Fn.rf_tta_rid_cmd
    ∧ Gen.Fn.rrf_ldep_psl_res f = Gen.Fn.rf_ldep_psl_res f := by
  refine ⟨?_, rfl, rfl⟩
  rw [ttf_req_bridge, Pn53xRf.ttf_req_bridge]; unfold orDefault ttfReq; cases o with
  | none => rfl
  | some s => cases s <;> rfl

/-! ## property-relevant facts restated for the regenerated definitions -/

/-- C13: whatever timeout `send_cmd_recv_rsp` is given, the InCommRF command data can be packed (no `struct.error`) -/
theorem gen_exchange_timeout_fits (t ms : Int) (data : Bytes) :
    Gen.Fn.rrf_in_comm_cmd data (Gen.Fn.rrf_in_comm_timeout (Gen.Fn.rrf_timeout_msec t ms)) =
      .ok (le16 (inCommTimeout (timeoutMsec (decide (t ≠ 0)) ms)) ++ data) := by
  rw [timeout_msec_bridge, in_comm_timeout_bridge, in_comm_cmd_bridge]
  unfold inCommCmd inCommTimeout
  have : (if timeoutMsec (decide (t ≠ 0)) ms = 0 then 0 else min ((timeoutMsec (decide (t ≠ 0)) ms + 1) * 10) 65535) < 65536 := by
    split <;> omega
  simp only [this, if_true]

/-- the receive timeout of `send_rsp_recv_cmd` is NOT clamped: 66 s is 66000 ms, which does not fit the 16 bit field
of TgCommRF (`struct.pack("<HH?6s18s??H", ..)` raises `struct.error`) -/
theorem tgt_recv_timeout_overflow : Gen.Fn.rrf_tgt_recv_timeout (some 66) 66000 > 65535 := by decide

/-- the listen timeouts are clamped to the 16 bit field -/
theorem gen_listen_timeout_fits (ms : Int) :
    Gen.Fn.rrf_lta_recv_timeout ms ≤ 65535 ∧ Gen.Fn.rrf_ltf_recv_timeout ms ≤ 65535 ∧ Gen.Fn.rrf_ldep_recv_timeout ms ≤ 65535 := by
  rw [lta_recv_timeout_bridge, ltf_recv_timeout_bridge, ldep_recv_timeout_bridge]
  unfold clamp16; split <;> omega

/-- C18: `listen_tta` hands TgCommRF exactly the 6 octets of its `6s` field -/
theorem gen_lta_params_len (b : String) (rid sens sdd sel : Option Bytes) (p : Bytes)
    (h : Gen.Fn.rrf_lta_checks b rid sens sdd sel = .ok p) : p.length = 6 ∧ b = "106A" := by
  rw [lta_checks_bridge] at h
  have hy : Yields (fun p => p.length = 6 ∧ b = "106A") (FnRcs380RfRef.ltaChecks b rid sens sdd sel) := by
    unfold FnRcs380RfRef.ltaChecks
    refine Yields.ite' (fun _ => Yields.error _) fun hb => Yields.ite (Yields.error _) ?_
    split
    · exact Yields.ite' (fun hc => Yields.ok ⟨by simp [nfcaParams, hc.1, hc.2.1, hc.2.2.1], Decidable.not_not.mp hb⟩)
        fun _ => Yields.error _
    · exact Yields.error _
  exact hy _ h

/-- C19: `listen_dep` hands TgCommRF exactly 6 and 18 octets (`6s18s`) -/
theorem gen_ldep_params_len (sens sel sdd sensf atr a f : Bytes)
    (h : Gen.Fn.rrf_ldep_params sens sel sdd sensf atr = .ok (a, f)) : a.length = 6 ∧ f.length = 18 := by
  rw [ldep_params_bridge] at h
  unfold FnRcs380RfRef.ldepParams at h
  split at h
  · rename_i hc
    cases h
    simp [nfcaParams, hc.1, hc.2.1, hc.2.2.1]
    omega
  · cases h

/-- C18: a discovered Type A target has a SENS_RES of two octets; C19: ATR_RES is sent only for an ATR_REQ of 16..64 -/
theorem gen_lengths (s a : Bytes) :
    (Gen.Fn.rrf_tta_sens_bad s = false ↔ s.length = 2) ∧
    (Gen.Fn.rrf_ldep_atr_len_ok a = true ↔ 16 ≤ a.length ∧ a.length ≤ 64) := by
  rw [tta_sens_bad_bridge, ldep_atr_len_ok_bridge]
  unfold sensResBad atrLenOk
  simp

open NfcVerif.FnBridge.Crc in
/-- C14: the driver accepts every Type 2 Tag answer that carries its CRC_A and returns it without the CRC -/
theorem gen_tt2_crc_accepts (d : List (BitVec 8)) (h : 0 < d.length) :
    Gen.Fn.rrf_tt2_crc (enc (Crc.addCrcA d)) = .ok (enc d) := by
  rw [tt2_crc_bridge]
  unfold tt2Crc
  have hl : (Crc.addCrcA d).length = d.length + 2 := by simp [Crc.addCrcA]
  have hc : Crc.checkCrcA (Crc.addCrcA d) = .ok true := by simp [Crc.checkCrcA, Crc.addCrcA]
  simp only [hl, show 2 < d.length + 2 from by omega, if_true, hc, Py.bind_ok, Nat.add_sub_cancel]
  simp [Crc.addCrcA]

open NfcVerif.FnBridge.Crc in
/-- C14: an answer of more than two octets is returned only if its CRC_A is right -/
theorem gen_tt2_crc_sound (d : List (BitVec 8)) (r : Bytes) (h : 2 < d.length)
    (hr : Gen.Fn.rrf_tt2_crc (enc d) = .ok r) : Crc.checkCrcA d = .ok true := by
  rw [tt2_crc_bridge] at hr
  unfold tt2Crc at hr
  simp only [h, if_true] at hr
  cases hc : Crc.checkCrcA d with
  | error e => rw [hc] at hr; cases hr
  | ok b => cases b with
    | true => rfl
    | false => rw [hc] at hr; cases hr

/-! ## non-vacuity -/
example : Gen.Fn.rrf_in_comm_timeout 30 = 310 := by decide
example : Gen.Fn.rrf_in_comm_cmd [0x26] 310 = .ok [0x36, 0x01, 0x26] := by decide
example : Gen.Fn.rrf_tta_uid [1, 2, 3, 4, 5, 6, 7] = [0x88, 1, 2, 3, 4, 5, 6, 7] := by decide
example : Gen.Fn.rrf_tta_sel_req [0x88, 1, 2, 3, 4, 5, 6, 7] 4 0x95 0 = .ok [0x95, 0x70, 4, 5, 6, 7, 0] := by decide
example : Gen.Fn.rrf_tta_cascade [0x04] = .ok true ∧ Gen.Fn.rrf_tta_complete [0x00] = .ok true := by decide
example : Gen.Fn.rrf_lta_checks "106A" none (some [0x44, 0x00]) (some [8, 1, 2, 3]) (some [0x00]) = .ok [0x44, 0, 1, 2, 3, 0] := by decide
example : Gen.Fn.rrf_lta_checks "106A" none (some [0x44, 0x00]) (some [4, 1, 2, 3]) (some [0x00]) = .error .value := by decide
example : Gen.Fn.rrf_lta4_is_rats "106A" [11, 0, 3, 0, 0, 0, 0, 0xE0, 0x80] = .ok true := by decide
example : Gen.Fn.rrf_ltf_is_polling [12, 0, 0, 0, 0, 0, 0, 6, 0, 0xFF, 0xFF, 1, 0] = .ok true := by decide
example : Gen.Fn.rrf_ldep_psl "106A" [0xD4, 0x04, 0, 0x09, 3] = .ok 1 := by decide
example : Gen.Fn.rrf_ldep_psl "106A" [0xD4, 0x04, 0, 0x0A, 3] = .error .rcsComm := by decide
example : Gen.Fn.rrf_timeout_msec 1 100000 = 65535 ∧ Gen.Fn.rrf_timeout_msec 1 0 = 1 ∧ Gen.Fn.rrf_timeout_msec 0 500 = 0 := by decide
example : Gen.Fn.rrf_ldep_dep_did [0xD4, 0x06, 0x04, 0x07] = .ok (some 7) := by decide

end NfcVerif.FnBridge.Rcs380Rf
