import NfcVerif.Lemmas.FnBridgeTagBase
import NfcVerif.Props.C20
import NfcVerif.Model.Connect
import NfcVerif.Model.T3
import NfcVerif.Model.T4
/-!
# Bridge theorems, group TagBase (`nfc/tag/__init__.py` and the overrides in `tt1.py`, `tt1_broadcom.py`, `tt2.py`,
`tt2_nxp.py`, `tt3.py`, `tt3_sony.py`, `tt4.py` -> `Gen/FnTagBase.lean` -> `Model/FnTagBaseRef.lean`,
`Model/AuthNdef.lean` `TagCache`, `Model/Tlv.lean` / `T3.lean` / `T4.lean` `setOctets`, `Model/AdvOps.lean`)

Properties C01 (`Tag.NDEF.octets` setter: rejected before any command, otherwise always written), C03 / C20 (the
cached NDEF object is dropped by a successful `format` / `protect` / `authenticate`, and EVERY vendor override reaches
the wrapper that does it), C08 / C16 (`tag.ndef`, `has_changed`, `is_present` as session operations), C18
(`nfc.tag.activate` dispatch).

Encodings, stated in the theorems: the tag type specific private methods are function parameters (`Py` valued: an
exception of the callee is the exception of the caller); the NDEF cache `Tag._ndef` is `Option Bytes` (the data of the
cached object, as in `TagCache`) or an `Option Int` token where only its identity matters; the value of
`_format` / `_protect` / `_authenticate` is `Option Bool` (`True` / `False` / `None`), `asBool` maps it to the `Bool` of
`TagCache` (`True` iff `True`).  The cuts are listed in `harness/fnspecs/tagbase.py`.
-/
namespace NfcVerif.FnBridge.TagBase
open NfcVerif NfcVerif.PyFn NfcVerif.TagBaseRef NfcVerif.Gen.Fn

/-! ## `Tag.NDEF` -/

/-- `ndef.length` -/
theorem ndef_length_bridge (d : Option Bytes) : tb_ndef_length d = TagBaseRef.length d := by
  unfold tb_ndef_length TagBaseRef.length
  cases d with
  | none => rfl
  | some l => cases l <;> simp [PyFn.len]

example : tb_ndef_length (some [1, 2, 3]) = 3 ∧ tb_ndef_length none = 0 ∧ tb_ndef_length (some []) = 0 := by decide

/-- the plain getters hand out the stored attribute (`Tlv.Layout.cap`, `.readable`, `.writeable`, `.ndef`;
`T34Base.Seen`) -/
theorem ndef_getters_bridge (c : Int) (r w : Bool) (d : Bytes) :
    tb_ndef_capacity c = c ∧ tb_ndef_is_readable r = r ∧ tb_ndef_is_writeable w = w ∧ tb_ndef_octets_get d = d :=
  ⟨rfl, rfl, rfl, rfl⟩

/-- `ndef.has_changed`, the generated text itself: read, compare, drop `tag._ndef` when nothing was read, store -/
theorem ndef_has_changed_bridge (data cached : Option Bytes) (rd : Py (Option Bytes)) :
    tb_ndef_has_changed data cached rd =
      (rd >>= fun nd => .ok (decide (data ≠ nd), (if nd = none then none else cached), nd)) := by
  unfold tb_ndef_has_changed
  cases rd with
  | error e => rfl
  | ok nd => cases nd <;> rfl

/-- the NDEF cache as the models see it: the data of the object `tag._ndef`, if there is one -/
def absCache (tok data : Option Bytes) : Option Bytes := tok.bind fun _ => data

/-- `ndef.has_changed` on the cached object is the reference `hasChanged` (`AuthNdef.hasChanged`, `Adv.readStep`):
the answer, and the cache afterwards = what the read gave -/
theorem ndef_has_changed_ref (old tok : Bytes) (rd : Py (Option Bytes)) :
    (tb_ndef_has_changed (some old) (some tok) rd).map (fun r => (r.1, absCache r.2.1 r.2.2))
      = hasChanged (some old) rd := by
  rw [ndef_has_changed_bridge]; unfold hasChanged
  cases rd with
  | error e => rfl
  | ok nd => cases nd <;> rfl

/-- the first `has_changed` of a NEW object (`_data = None`, nothing cached): true iff the read found data -/
theorem ndef_has_changed_fresh (rd : Py (Option Bytes)) :
    tb_ndef_has_changed none none rd = (rd >>= fun nd => .ok (nd.isSome, none, nd)) := by
  rw [ndef_has_changed_bridge]
  cases rd with
  | error e => rfl
  | ok nd => cases nd <;> rfl

example : tb_ndef_has_changed (some [1]) (some [1]) (.ok (some [2])) = .ok (true, some [1], some [2]) := by decide
example : tb_ndef_has_changed (some [1]) (some [1]) (.ok none) = .ok (true, none, none) := by decide
example : tb_ndef_has_changed (some [1]) (some [1]) (.error (.tagCmd 0)) = .error (.tagCmd 0) := by decide

/-- `ndef.octets = data` is the reference setter: writeable check, capacity check, THEN the type specific write -/
theorem ndef_octets_set_bridge (data : Bytes) (writeable : Bool) (capacity : Int) (wr : Bytes → Py Int) :
    tb_ndef_octets_set data writeable capacity wr
      = setOctets writeable capacity data (fun d => (wr d).map fun _ => ()) := by
  unfold tb_ndef_octets_set setOctets
  cases writeable with
  | false => simp
  | true =>
    simp only [PyFn.len, not_true_eq_false, if_false, Bool.true_eq_false]
    by_cases h : (data.length : Int) > capacity
    · simp [h]
    · simp only [h, if_false]
      cases wr data <;> rfl

/-- C01 restated for the regenerated setter: a write that can not succeed raises without calling
`_write_ndef_data` (the result does not depend on `wr`) ... -/
theorem gen_setter_rejects_before_command (data : Bytes) (writeable : Bool) (capacity : Int) (wr : Bytes → Py Int)
    (h : writeable = false ∨ (data.length : Int) > capacity) :
    tb_ndef_octets_set data writeable capacity wr = .error (if writeable = false then .attr else .value) := by
  rw [ndef_octets_set_bridge]; exact setter_rejects_before_command _ _ _ _ h

/-- ... and a write that can succeed ALWAYS calls `_write_ndef_data(data)` - also for data equal to what is cached
(seeded/C01-r3m4: there is no such shortcut; the function does not even read `self._data`) - and fails when it fails -/
theorem gen_setter_always_writes (data : Bytes) (capacity : Int) (wr : Bytes → Py Int)
    (h : (data.length : Int) ≤ capacity) :
    tb_ndef_octets_set data true capacity wr = (wr data >>= fun _ => .ok data) := by
  rw [ndef_octets_set_bridge, setter_always_writes _ _ _ h]
  cases wr data <;> rfl

example : tb_ndef_octets_set [1, 2, 3] true 2 (fun _ => .error .index) = .error .value := by decide
example : tb_ndef_octets_set [1, 2] false 2 (fun _ => .error .index) = .error .attr := by decide
example : tb_ndef_octets_set [1, 2] true 2 (fun _ => .error (.tagCmd 0)) = .error (.tagCmd 0) := by decide
example : tb_ndef_octets_set [1, 2] true 2 (fun _ => .ok 0) = .ok [1, 2] := by decide

/-- `Tlv.setOctets` (Type 1 / Type 2, C01 `t12_roundtrip`, `HistC01.attempt`) is the regenerated setter around
`writeCmds`: the result ... -/
theorem setOctets_tlv_bridge (c : Tlv.Cfg) (m : Bytes) (L : Tlv.Layout) (data : Bytes) :
    (Tlv.setOctets c m L data).res =
      (tb_ndef_octets_set data L.writeable L.cap (fun d => (Tlv.writeCmds c m L d).res.map fun _ => 0)).map (fun _ => ()) := by
  rw [tlv_setOctets_res, ndef_octets_set_bridge]
  congr 2
  funext d
  cases (Tlv.writeCmds c m L d).res <;> rfl

/-- ... and no command at all when the regenerated setter rejects (it fails although the write itself would succeed) -/
theorem setOctets_tlv_no_command (c : Tlv.Cfg) (m : Bytes) (L : Tlv.Layout) (data : Bytes)
    (h : tb_ndef_octets_set data L.writeable L.cap (fun _ => .ok 0) ≠ .ok data) :
    (Tlv.setOctets c m L data).cmds = [] := by
  rw [tlv_setOctets_cmds]
  by_cases hw : L.writeable = false
  · simp [hw]
  · have hw' : L.writeable = true := by simpa using hw
    by_cases hc : (data.length : Int) > L.cap
    · simp [hc]
    · exfalso; apply h
      rw [hw', gen_setter_always_writes data L.cap _ (by omega)]; rfl

/-- `T3.setOctets` (C01 part t34): the regenerated setter decides between rejecting and `writeNdef` -/
theorem setOctets_t3_bridge (m data : Bytes) :
    T3.setOctets m data = (T3.readNdef m >>= fun o => .ok (o.map fun nd =>
      match tb_ndef_octets_set data nd.seen.writeable nd.seen.capacity (fun _ => .ok 0) with
      | .error e => ⟨[], m, .error e⟩
      | .ok _ => T3.writeNdef m data)) := by
  unfold T3.setOctets
  congr 1; funext o
  cases o with
  | none => rfl
  | some nd =>
    simp only [Option.map, ndef_octets_set_bridge, setOctets]
    by_cases hw : nd.seen.writeable = false
    · simp [hw]
    · by_cases hc : (data.length : Int) > nd.seen.capacity
      · simp [hw, hc]
      · simp [hw, hc, Except.map]

/-- `T4.setOctets` (C01 part t34) -/
theorem setOctets_t4_bridge (v : T4.Variant) (c : T4.Card) (data : Bytes) :
    T4.setOctets v c data = (T4.readNdef v c >>= fun o => .ok (o.map fun nd =>
      match tb_ndef_octets_set data nd.seen.writeable nd.seen.capacity (fun _ => .ok 0) with
      | .error e => ⟨[], c.file, .error e⟩
      | .ok _ => T4.writeNdef v c nd.info data)) := by
  unfold T4.setOctets
  congr 1; funext o
  cases o with
  | none => rfl
  | some nd =>
    simp only [Option.map, ndef_octets_set_bridge, setOctets]
    by_cases hw : nd.seen.writeable = false
    · simp [hw]
    · by_cases hc : (data.length : Int) > nd.seen.capacity
      · simp [hw, hc]
      · simp [hw, hc, Except.map]

/-- `ndef.records`: decoded from / encoded into the `octets` PROPERTY - the setter assigns to `self.octets`, so a list of
records is written through the checked setter above (the ndeflib encoder / decoder is a parameter) -/
theorem ndef_records_bridge (o e : Bytes) (v : Int) : tb_ndef_records_get o = o ∧ tb_ndef_records_set v e = e := ⟨rfl, rfl⟩

/-! ## `Tag`: the NDEF cache and its wrappers -/

/-- `Tag.ndef`, the generated text: a cached object is handed out as it is; otherwise a new `NDEF` object is kept
iff its `has_changed` is true -/
theorem tag_ndef_bridge (cached : Option Int) (changed : Bool) (mk : Unit → Int) :
    tb_tag_ndef cached changed mk =
      match cached with
      | some x => some x
      | none => if changed then some (mk ()) else none := by
  unfold tb_tag_ndef
  cases cached with
  | some x => rfl
  | none => cases changed <;> rfl

/-- `Tag.ndef` with the translated `has_changed` of the new object is the reference `ndefAccess` (`TagCache.cstep
(.ndef f)`, `Adv.step .ndef`, `AuthNdef.ndefProp`): with an empty cache the tag is read and exactly what the read
gave is cached and handed out -/
theorem tag_ndef_ref (rd : Py (Option Bytes)) (mk : Unit → Int) :
    (tb_ndef_has_changed none none rd >>= fun r => .ok ((tb_tag_ndef none r.1 mk).bind fun _ => r.2.2))
      = (ndefAccess none rd).1 := by
  rw [ndef_has_changed_fresh]
  cases rd with
  | error e => rfl
  | ok nd => cases nd <;> rfl

/-- ... and with a cached object nothing is read (`changed`, the effectful property, is not looked at) -/
theorem tag_ndef_cached (x : Int) (changed : Bool) (mk : Unit → Int) : tb_tag_ndef (some x) changed mk = some x := rfl

example : tb_tag_ndef none true (fun _ => 7) = some 7 ∧ tb_tag_ndef none false (fun _ => 7) = none ∧
    tb_tag_ndef (some 3) true (fun _ => 7) = some 3 := by decide

/-- `Tag.is_present` is `_is_present()` (`Adv.step .present`) -/
theorem tag_is_present_bridge (p : Py Bool) : tb_tag_is_present p = isPresent p := rfl

/-- the text `Tag.format`, `Tag.protect` and `Tag.authenticate` share behind the call of the private method -/
theorem wrapped_gen (x : Py (Option Bool)) (cache : Option Bytes) :
    (x >>= fun st => Except.ok (st, if st = some true then none else cache))
      = (x >>= fun st => .ok (st, (wrapper cache (.ok st)).2)) := by
  unfold wrapper
  refine bind_congr fun st => ?_
  simp

/-- `Tag.format`: the value of `_format` is handed on, the cache is the reference wrapper's -/
theorem tag_format_bridge (version wipe : Option Int) (cache : Option Bytes) (fmt : Option Int → Option Int → Py (Option Bool)) :
    tb_tag_format version wipe cache fmt
      = (fmt version wipe >>= fun st => .ok (st, (wrapper cache (.ok st)).2)) := wrapped_gen _ cache

/-- `Tag.protect` -/
theorem tag_protect_bridge (pw : Option Bytes) (rp : Bool) (pf : Int) (cache : Option Bytes)
    (prot : Option Bytes → Bool → Int → Py (Option Bool)) :
    tb_tag_protect pw rp pf cache prot = (prot pw rp pf >>= fun st => .ok (st, (wrapper cache (.ok st)).2)) := wrapped_gen _ cache

/-- `Tag.authenticate` -/
theorem tag_authenticate_bridge (pw : Bytes) (cache : Option Bytes) (auth : Bytes → Py (Option Bool)) :
    tb_tag_authenticate pw cache auth = (auth pw >>= fun st => .ok (st, (wrapper cache (.ok st)).2)) := wrapped_gen _ cache

/-- the wrappers against `TagCache.cstep` (Model/AuthNdef.lean), the model C20 `ndef_read_again_after_authenticate`
is about: the cache after the regenerated wrapper is the cache after the model step (an exception leaves it alone) -/
theorem tag_wrappers_cstep (cache : Option Bytes) (priv : Py (Option Bool)) (v w : Option Int) (pw : Option Bytes)
    (rp : Bool) (pf : Int) (key : Bytes) :
    (match tb_tag_format v w cache (fun _ _ => priv) with | .ok r => r.2 | .error _ => cache)
      = (TagCache.cstep cache (.format (asBool priv))).2 ∧
    (match tb_tag_protect pw rp pf cache (fun _ _ _ => priv) with | .ok r => r.2 | .error _ => cache)
      = (TagCache.cstep cache (.protect (asBool priv))).2 ∧
    (match tb_tag_authenticate key cache (fun _ => priv) with | .ok r => r.2 | .error _ => cache)
      = (TagCache.cstep cache (.auth (asBool priv))).2 := by
  rw [tag_format_bridge, tag_protect_bridge, tag_authenticate_bridge, cstep_format, cstep_protect, cstep_auth]
  cases priv with
  | error e => simp [wrapper]
  | ok st => simp [wrapper]

theorem wrapped_true {x : Py (Option Bool)} {cache c' : Option Bytes}
    (h : (x >>= fun st => .ok (st, (wrapper cache (.ok st)).2)) = .ok (some true, c')) : x = .ok (some true) ∧ c' = none := by
  obtain ⟨st, hx, h⟩ := Py.bind_eq_ok.mp h
  cases h
  exact ⟨hx, wrapper_drops cache⟩

/-- C03 / C20 restated for the regenerated wrappers: a call that returns True leaves the cache EMPTY ... -/
theorem gen_cache_dropped_after_format (version wipe : Option Int) (cache c' : Option Bytes)
    (fmt : Option Int → Option Int → Py (Option Bool)) (h : tb_tag_format version wipe cache fmt = .ok (some true, c')) :
    c' = none := by
  rw [tag_format_bridge] at h; exact (wrapped_true h).2

theorem gen_cache_dropped_after_protect (pw : Option Bytes) (rp : Bool) (pf : Int) (cache c' : Option Bytes)
    (prot : Option Bytes → Bool → Int → Py (Option Bool)) (h : tb_tag_protect pw rp pf cache prot = .ok (some true, c')) :
    c' = none := by
  rw [tag_protect_bridge] at h; exact (wrapped_true h).2

theorem gen_cache_dropped_after_authenticate (pw : Bytes) (cache c' : Option Bytes)
    (auth : Bytes → Py (Option Bool)) (h : tb_tag_authenticate pw cache auth = .ok (some true, c')) :
    c' = none := by
  rw [tag_authenticate_bridge] at h; exact (wrapped_true h).2

/-- ... and the next `tag.ndef` therefore reads the tag (reference law `cache_dropped_after_format`) -/
theorem gen_ndef_rereads_after_success (version wipe : Option Int) (cache c' : Option Bytes)
    (fmt : Option Int → Option Int → Py (Option Bool)) (read : Py (Option Bytes))
    (h : tb_tag_format version wipe cache fmt = .ok (some true, c')) :
    ndefAccess c' read = (read, true) := by
  rw [gen_cache_dropped_after_format version wipe cache c' fmt h]; rfl

/-- C20 `ndef_read_again_after_authenticate` with the operation given by the regenerated `Tag.authenticate`: in any
history, when `tb_tag_authenticate` on the cache of that moment returns True, the next `tag.ndef` reads the tag and
hands out exactly what that read gave -/
theorem gen_ndef_read_again_after_authenticate (pre post : List TagCache.COp) (c f : Option Bytes) (pw : Bytes)
    (auth : Bytes → Py (Option Bool)) (c' : Option Bytes)
    (h : tb_tag_authenticate pw (TagCache.crun pre c).2 auth = .ok (some true, c')) :
    (TagCache.crun (pre ++ .auth (asBool (auth pw)) :: .ndef f :: post) c).1[pre.length + 1]? = some ⟨.ok f, true⟩ := by
  apply C20.ndef_read_again_after_authenticate
  left
  have : auth pw = .ok (some true) := by
    rw [tag_authenticate_bridge] at h; exact (wrapped_true h).1
  rw [(asBool_true (auth pw)).mpr this]

example : tb_tag_format none none (some [1]) (fun _ _ => .ok (some true)) = .ok (some true, none) := by decide
example : tb_tag_format none none (some [1]) (fun _ _ => .ok (some false)) = .ok (some false, some [1]) := by decide
example : tb_tag_protect none false 0 (some [1]) (fun _ _ _ => .ok none) = .ok (none, some [1]) := by decide
example : tb_tag_authenticate [] (some [1]) (fun _ => .error (.tagCmd 0)) = .error (.tagCmd 0) := by decide

/-! ## the overrides: every public `format` / `protect` / `authenticate` of a tag class reaches the wrapper -/

/-- the delegating overrides call their callee with the arguments unchanged and hand its result on.  The callee
text (`super(Topaz, self).format` ...) is part of the cut: a class that calls `self._format(..)` directly has no
such text and its definition is refused (seeded/C03-r3m4, seeded/C20-r3m3). -/
theorem format_overrides_bridge (v w : Option Int) (f : Option Int → Option Int → Py (Option Bool)) :
    tb_topaz_format v w f = f v w ∧ tb_topaz512_format v w f = f v w ∧ tb_t2_format v w f = f v w ∧
    tb_t3_format v w f = f v w ∧ tb_t4_format v w f = f v w := ⟨rfl, rfl, rfl, rfl, rfl⟩

theorem lite_format_bridge (v : Int) (w : Option Int) (f : Int → Option Int → Py (Option Bool)) :
    tb_lite_format v w f = f v w := rfl

theorem protect_overrides_bridge (pw : Option Bytes) (rp : Bool) (pf : Int) (f : Option Bytes → Bool → Int → Py (Option Bool)) :
    tb_t1_protect pw rp pf f = f pw rp pf ∧ tb_topaz_protect pw rp pf f = f pw rp pf ∧
    tb_topaz512_protect pw rp pf f = f pw rp pf ∧ tb_t2_protect pw rp pf f = f pw rp pf ∧
    tb_ntag203_protect pw rp pf f = f pw rp pf ∧ tb_lite_protect pw rp pf f = f pw rp pf ∧
    tb_lites_protect pw rp pf f = f pw rp pf := ⟨rfl, rfl, rfl, rfl, rfl, rfl, rfl⟩

/-- `MifareUltralightC.protect` / `NTAG21x.protect` pass the three arguments on as a tuple (`f(*args)`) -/
theorem protect_star_overrides_bridge (pw : Option Bytes) (rp : Bool) (pf : Int) (f : Option Bytes → Bool → Int → Py (Option Bool)) :
    tb_ulc_protect pw rp pf f = f pw rp pf ∧ tb_ntag21x_protect pw rp pf f = f pw rp pf := ⟨rfl, rfl⟩

/-- `MifareUltralightC._protect` / `NTAG21x._protect`: the lock bits without a password, the password protection
(same three arguments) with one -/
theorem nxp_protect_priv_bridge (pw : Option Bytes) (rp : Bool) (pf : Int) (lock : Py Bool) (withpw : Bytes → Bool → Int → Py Bool) :
    tb_ulc_protect_priv pw rp pf lock withpw = (match pw with | none => lock | some p => withpw p rp pf) ∧
    tb_ntag21x_protect_priv pw rp pf lock withpw = (match pw with | none => lock | some p => withpw p rp pf) := by
  constructor <;> (cases pw <;> rfl)

theorem authenticate_overrides_bridge (pw : Bytes) (f : Bytes → Py (Option Bool)) (g : Bytes → Py Bool) :
    tb_ulc_authenticate pw f = f pw ∧ tb_ntag21x_authenticate pw f = f pw ∧ tb_lite_authenticate pw f = f pw ∧
    tb_lites_authenticate pw g = g pw := ⟨rfl, rfl, rfl, rfl⟩

theorem dump_overrides_bridge (f0 : Unit → Py Int) (f1 : Int → Py Int) (p : Py Int) (stop : Int) :
    tb_t1_dump f0 = f0 () ∧ tb_t2_dump f0 = f0 () ∧ tb_topaz_dump f1 = f1 15 ∧ tb_topaz512_dump f1 = f1 64 ∧
    tb_ul_dump f1 = f1 16 ∧ tb_ulc_dump f1 = f1 40 ∧ tb_ntag203_dump f1 = f1 40 ∧ tb_ntag21x_dump stop f1 = f1 stop ∧
    tb_lites_dump p = p ∧ tb_t4_dump p = p := ⟨rfl, rfl, rfl, rfl, rfl, rfl, rfl, rfl, rfl, rfl⟩

/-- C03 for the vendor classes: `Topaz.format()` (and every other override) composed with the regenerated
`Tag.format` drops the cache when the class's `_format` returns True -/
theorem gen_override_format_drops (v w : Option Int) (cache c' : Option Bytes) (priv : Option Int → Option Int → Py (Option Bool))
    (over : Option Int → Option Int → (Option Int → Option Int → Py (Option Bool × Option Bytes)) → Py (Option Bool × Option Bytes))
    (hover : over = (fun v w f => f v w))
    (h : over v w (fun v w => tb_tag_format v w cache priv) = .ok (some true, c')) : c' = none := by
  subst hover
  exact gen_cache_dropped_after_format v w cache c' priv h

/-- instance: `Topaz.format` and `Topaz512.format` (seeded/C03-r3m4), with the wrapper's result type -/
theorem gen_topaz_format_drops (v w : Option Int) (cache : Option Bytes) (priv : Option Int → Option Int → Py (Option Bool))
    (h : priv v w = .ok (some true)) :
    (tb_tag_format v w cache priv).map (·.2) = .ok none ∧
    tb_topaz_format v w priv = priv v w ∧ tb_topaz512_format v w priv = priv v w := by
  refine ⟨?_, rfl, rfl⟩
  rw [tag_format_bridge, h]; simp [wrapper, Except.map]

/-- `FelicaLiteS.authenticate` (seeded/C20-r3m3): the internal authentication is the wrapper, so its success has
dropped the cache before the external authentication starts -/
theorem gen_lites_authenticate_drops (pw : Bytes) (cache : Option Bytes) (priv : Bytes → Py (Option Bool))
    (h : priv pw = .ok (some true)) :
    tb_lites_authenticate pw (fun p => (tb_tag_authenticate p cache priv).map fun r => r.1 == some true) = .ok true ∧
    (tb_tag_authenticate pw cache priv).map (·.2) = .ok none := by
  refine ⟨?_, ?_⟩
  · show Except.map _ (tb_tag_authenticate pw cache priv) = _
    rw [tag_authenticate_bridge, h]; rfl
  · rw [tag_authenticate_bridge, h]; simp [wrapper, Except.map]

/-! ## private methods of the Type 1 / NTAG classes -/

/-- `Type1Tag._protect`: only without password and only for an NDEF formatted tag, one WRITE-NE of 0Fh to byte 11
(the CC read/write access byte) -/
theorem t1_protect_priv_bridge (pw : Option Bytes) (rp : Bool) (pf : Int) (ndef : Option Bytes) (wb : Int → Int → Bool → Py Int) :
    tb_t1_protect_priv pw rp pf ndef wb =
      if pw.isNone ∧ ndef.isSome then (wb 11 15 false >>= fun _ => .ok true) else .ok false := by
  unfold tb_t1_protect_priv
  cases pw <;> cases ndef <;> rfl

/-- `Topaz._protect`, `Topaz512._protect`: the generic protection first, then the lock bytes -/
theorem topaz_protect_priv_bridge (pw : Option Bytes) (rp : Bool) (pf : Int) (wb : Int → Int → Bool → Py Int)
    (g : Option Bytes → Bool → Int → Py Bool) :
    tb_topaz_protect_priv pw rp pf wb g = (g pw rp pf >>= fun ok =>
      if ok then wb 112 255 false >>= fun _ => wb 113 255 false >>= fun _ => .ok true else .ok false) ∧
    tb_topaz512_protect_priv pw rp pf wb g = (g pw rp pf >>= fun ok =>
      if ok then wb 112 255 false >>= fun _ => wb 113 255 false >>= fun _ => wb 120 255 false >>= fun _ =>
        wb 121 255 false >>= fun _ => .ok true else .ok false) := by
  unfold tb_topaz_protect_priv tb_topaz512_protect_priv
  constructor <;> (cases g pw rp pf with | error e => rfl | ok b => cases b <;> rfl)

/-- `_format` of NTAG203 / NTAG210 / 212 / 213 / 215 / 216 (`CtlC03.formatNxp f`, C03 `nxp_format_confined`): without NDEF
management data pages 4 and 5 get the factory content `f`, then the generic `Type2Tag._format` runs -/
def formatNxpRef (f : Bytes) (ndef : Option Bytes) (wr : Int → Bytes → Py Int) (generic : Py (Option Bool)) : Py (Option Bool) :=
  (match ndef with
   | none => wr 4 (f.take 4) >>= fun _ => wr 5 ((f.drop 4).take 4) >>= fun _ => .ok ()
   | some _ => .ok ()) >>= fun _ => generic

theorem ntag_format_priv_bridge (v w : Option Int) (ndef : Option Bytes) (wr : Int → Bytes → Py Int)
    (g : Option Int → Option Int → Py (Option Bool)) :
    tb_ntag203_format_priv v w ndef wr g = formatNxpRef [0x01, 0x03, 0xA0, 0x10, 0x44, 0x03, 0x00, 0xFE] ndef wr (g v w) ∧
    tb_ntag210_format_priv v w ndef wr g = formatNxpRef [0x03, 0x00, 0xFE, 0x00, 0x00, 0x00, 0x00, 0x00] ndef wr (g v w) ∧
    tb_ntag212_format_priv v w ndef wr g = formatNxpRef [0x01, 0x03, 0x90, 0x0A, 0x34, 0x03, 0x00, 0xFE] ndef wr (g v w) ∧
    tb_ntag213_format_priv v w ndef wr g = formatNxpRef [0x01, 0x03, 0xA0, 0x0C, 0x34, 0x03, 0x00, 0xFE] ndef wr (g v w) ∧
    tb_ntag215_format_priv v w ndef wr g = formatNxpRef [0x03, 0x00, 0xFE, 0x00, 0x00, 0x00, 0x00, 0x00] ndef wr (g v w) ∧
    tb_ntag216_format_priv v w ndef wr g = formatNxpRef [0x03, 0x00, 0xFE, 0x00, 0x00, 0x00, 0x00, 0x00] ndef wr (g v w) := by
  refine ⟨?_, ?_, ?_, ?_, ?_, ?_⟩ <;> (cases ndef <;> rfl)

/-- with NDEF data present the NTAG `_format` is the generic one; an exception of a factory write ends it -/
theorem ntag_format_priv_present (v w : Option Int) (x : Bytes) (wr : Int → Bytes → Py Int)
    (g : Option Int → Option Int → Py (Option Bool)) : tb_ntag213_format_priv v w (some x) wr g = g v w := by
  cases h : g v w <;> simp [tb_ntag213_format_priv, h]

/-! ## presence checks (C08) -/

/-- `Type1Tag._is_present` (`Adv.isPresent1`): `read_byte(0) == uid[0]`, the byte read first -/
theorem t1_is_present_bridge (uid : Bytes) (rb : Int → Py Int) :
    tb_t1_is_present uid rb = (rb 0 >>= fun b => (idxN uid 0).map (fun (u : Nat) => (u : Int)) >>= fun u => .ok (decide (b = u))) := by
  unfold tb_t1_is_present
  have : getB uid 0 = getB uid ((0 : Nat) : Int) := rfl
  rw [this, getB_nat_idxN]

/-- the answer branch of `Adv.isPresent1` is the regenerated comparison -/
theorem t1_is_present_adv (t : Adv.Tag) (uid : Bytes) (w w' : Adv.W) (b : Nat) (h : Adv.readByte1 t uid 0 w = (.ok b, w')) :
    Adv.isPresent1 t uid w = (tb_t1_is_present uid (fun _ => .ok (b : Int)), w') := by
  unfold Adv.isPresent1
  rw [h, t1_is_present_bridge]
  cases idxN uid 0 with
  | error e => rfl
  | ok u =>
    simp only [Py.bind_ok, Except.map]
    congr 2
    by_cases hb : b = u
    · subst hb; simp
    · have : ¬ ((b : Int) = (u : Int)) := by omega
      simp [hb, this]

/-- `Type2Tag._is_present` (`Adv.isPresent2`): READ of page 0, present iff 16 octets arrive -/
theorem t2_is_present_bridge (trx : Bytes → Py Bytes) (data : Bytes) :
    tb_t2_is_present_cmd trx = trx [0x30, 0x00] ∧ tb_t2_is_present_val data = decide (data.length = 16) := by
  refine ⟨rfl, ?_⟩
  unfold tb_t2_is_present_val
  cases data with
  | nil => simp [PyFn.len]
  | cons a l => simp [PyFn.len]; omega

/-- `Type3Tag._is_present` (`Adv.isPresent3`): polling for the acquired system code, the IDm must match -/
theorem t3_is_present_bridge (sys : Int) (ident : Bytes) (poll : Int → Py (Bytes × Bytes)) :
    tb_t3_is_present sys ident poll = (poll sys >>= fun r => .ok (decide (r.1 = ident))) := by
  unfold tb_t3_is_present
  cases poll sys with
  | error e => rfl
  | ok r => obtain ⟨a, b⟩ := r; rfl

/-- `FelicaStandard._is_present` (`Adv.isPresent3rr`): Request Response mode 0..3, the generic check as fall-back -/
theorem felica_is_present_bridge (rr : Py Int) (fb : Py Bool) :
    tb_felica_is_present rr = (rr >>= fun m => .ok (decide (0 ≤ m ∧ m ≤ 3))) ∧ tb_felica_is_present_fallback fb = fb := by
  refine ⟨?_, rfl⟩
  unfold tb_felica_is_present
  cases rr with
  | error e => rfl
  | ok m =>
    simp only [Py.bind_ok, Except.ok.injEq, decide_eq_decide]
    omega

/-! ## guards of the generic `_format` / `_dump` (the token of an NDEF object is not empty) -/

theorem ndef_guards_bridge (c : Option Bytes) (flag : Bool) (h : c ≠ some []) :
    tb_t2_format_cond c flag = (c.isSome && flag) ∧ tb_t4_format_cond c flag = !(c.isSome && flag) ∧
    tb_t4_dump_cond c flag = (c.isSome && flag) := by
  unfold tb_t2_format_cond tb_t4_format_cond tb_t4_dump_cond
  cases c with
  | none => simp
  | some x => cases flag <;> simp [h]

/-! ## `TagCommandError` -/

/-- the reason code given to the constructor is what `errno` and `int()` give back (`Exc.tagCmd errno`) -/
theorem tce_bridge (e : Int) : tb_tce_errno (tb_tce_init e) = e ∧ tb_tce_int (tb_tce_init e) = e ∧
    tb_tce_table e = decide (e > 0) := ⟨rfl, rfl, rfl⟩

/-! ## `nfc.tag.activate` / `emulate` -/

/-- the target as `TagBaseRef.tagType` sees it -/
def targetOf (brty : String) (sens : Option Bytes) (sel : Bytes) (sensb sensf : Option Bytes) : Target :=
  ⟨techOf brty, sens, sel, sensb, sensf⟩

/-- `nfc.tag.activate`: the tag type is chosen by `TagBaseRef.tagType` (NFC Forum Digital: SENS_RES / SEL_RES
platform bits; no discovery response = not a tag), then the type specific activation runs -/
theorem activate_bridge (clf target : Int) (brty : String) (sens : Option Bytes) (sel : Bytes) (sensb sensf : Option Bytes)
    (a1 a2 a3 a4 : Int → Int → Py (Option Int)) :
    tb_activate clf target brty sens sel sensb sensf a1 a2 a3 a4 =
      (tagType (targetOf brty sens sel sensb sensf) >>= fun k =>
        match k with
        | some 1 => a1 clf target
        | some 2 => a2 clf target
        | some 3 => a3 clf target
        | some 4 => a4 clf target
        | _ => .ok none) := by
  unfold tb_activate tagType targetOf
  simp only [endsWith_char brty "A" 'A' rfl (by decide), endsWith_char brty "B" 'B' rfl (by decide),
    endsWith_char brty "F" 'F' rfl (by decide)]
  by_cases hA : techOf brty = 'A'
  · rw [if_pos hA, if_pos hA]
    cases sens with
    | none => rfl
    | some s =>
      -- Type 1 by SENS_RES, then Type 2 / Type 4 by SEL_RES: both sides as one chain of reads and tests
      have e1 : getB s 1 = getB s ((1 : Nat) : Int) := rfl
      have e0 : getB sel 0 = getB sel ((0 : Nat) : Int) := rfl
      simp only [e1, e0, getB_bind, bind_assoc, Py.bind_ok, ite_bind, band15, shr5_band3, shr5_band1]
      -- `sel_res[0]` is read for bit 6 and again for bit 5, the reference reads it once
      rw [bind_reread_else]
  · rw [if_neg hA, if_neg hA]
    by_cases hB : techOf brty = 'B'
    · rw [if_pos hB, if_pos hB]
      cases sensb <;> rfl
    · rw [if_neg hB, if_neg hB]
      by_cases hF : techOf brty = 'F'
      · rw [if_pos hF, if_pos hF]
        cases sensf <;> rfl
      · rw [if_neg hF, if_neg hF]
        rfl

/-- C18: a target without discovery response (found by `sense_dep`: no SENS_RES) is not a tag - no activation
function is called, whatever SEL_RES says -/
theorem gen_activate_no_sens_res (clf target : Int) (brty : String) (sel : Bytes) (sensb sensf : Option Bytes)
    (a1 a2 a3 a4 : Int → Int → Py (Option Int)) (h : techOf brty = 'A') :
    tb_activate clf target brty none sel sensb sensf a1 a2 a3 a4 = .ok none := by
  rw [activate_bridge]; simp [tagType, targetOf, h]

/-- `Adv.activate` (C08 `session`) for a Type A target dispatches on the same bits: the tag type of the object it
builds is the reference tag type -/
theorem adv_activate_tagType (g : Adv.Target) :
    tagType ⟨'A', some g.sens, g.sel, none, none⟩ =
      (idxN g.sens 1 >>= fun s1 => if s1 &&& 0x0F = 0x0C then .ok (some 1) else
        idxN g.sel 0 >>= fun sl => if (sl >>> 5) &&& 3 = 0 then .ok (some 2)
          else if (sl >>> 5) &&& 1 = 1 then .ok (some 4) else .ok none) := by
  unfold tagType
  simp only [if_true]
  cases idxN g.sens 1 with
  | error e => rfl
  | ok s1 =>
    have h15 : s1 &&& 0x0F = s1 % 16 := Nat.and_two_pow_sub_one_eq_mod s1 4
    simp only [Py.bind_ok, h15]
    by_cases h1 : s1 % 16 = 12
    · simp [h1]
    · simp only [h1, if_false]
      cases idxN g.sel 0 with
      | error e => rfl
      | ok sl =>
        have h3 : (sl >>> 5) &&& 3 = sl / 32 % 4 := by
          rw [Nat.and_two_pow_sub_one_eq_mod _ 2, Nat.shiftRight_eq_div_pow]
        have h1' : (sl >>> 5) &&& 1 = sl / 32 % 2 := by
          rw [Nat.and_two_pow_sub_one_eq_mod _ 1, Nat.shiftRight_eq_div_pow]
        simp only [Py.bind_ok, h3, h1']

/-- tag type of a tag object of `Model/AdvT34.lean` -/
def kindOf : Adv.TagObj → Nat
  | .t1 .. => 1 | .t2 .. => 2 | .t3 .. => 3 | .t4 .. => 4

theorem adv_activate_kind (t : Adv.Tag) (ms mr : Nat) (g : Adv.Target) (w w' : Adv.W) (obj : Adv.TagObj)
    (h : g.tech = 0) (hres : Adv.activate t ms mr g w = (.ok (some obj), w')) :
    tagType ⟨'A', some g.sens, g.sel, none, none⟩ = .ok (some (kindOf obj)) := by
  rw [adv_activate_tagType g]
  unfold Adv.activate at hres
  simp only [h, if_true] at hres
  cases h1 : idxN g.sens 1 with
  | error e => rw [h1] at hres; cases hres
  | ok s1 =>
    rw [h1] at hres
    simp only [Py.bind_ok] at hres ⊢
    by_cases c1 : s1 &&& 0x0F = 0x0C
    · simp only [c1, if_true] at hres ⊢
      cases hres; rfl
    · simp only [c1, if_false] at hres ⊢
      cases h2 : idxN g.sel 0 with
      | error e => rw [h2] at hres; cases hres
      | ok sl =>
        rw [h2] at hres
        simp only [Py.bind_ok] at hres ⊢
        by_cases c2 : (sl >>> 5) &&& 3 = 0
        · simp only [c2, if_true] at hres ⊢
          cases h3 : idxN g.sdd 0 with
          | error e => rw [h3] at hres; cases hres
          | ok mfr =>
            rw [h3] at hres
            simp only at hres
            split at hres
            · split at hres
              · cases hres; rfl
              · split at hres <;> cases hres; rfl
            · cases hres; rfl
        · simp only [c2, if_false] at hres ⊢
          by_cases c4 : (sl >>> 5) &&& 1 = 1
          · simp only [c4, if_true] at hres ⊢
            split at hres <;> cases hres; rfl
          · simp only [c4, if_false] at hres
            cases hres

/-- `Clf.activateBody` (C18 `tagActivate`): a Type A target with a complete SENS_RES is dispatched by the reference
tag type (SEL_RES is the one octet `f.selRes`) -/
theorem connect_activateBody_tagType (f : Clf.Found) (s : Clf.St) (h1 : f.tech = 1) (hl : 2 ≤ f.sens.length) :
    Clf.activateBody f s =
      match tagType ⟨'A', some f.sens, [f.selRes], none, none⟩ with
      | .ok (some 1) => (if f.rid.isEmpty then (.ok none, s) else (.ok (some .tt1), s))
      | .ok (some 2) => Clf.tt2Activate f s
      | .ok (some 4) => Clf.tt4Activate .tt4a s
      | _ => (.ok none, s) := by
  unfold Clf.activateBody tagType
  simp only [h1, if_true]
  obtain ⟨a, b, rest, hs⟩ : ∃ a b rest, f.sens = a :: b :: rest := by
    match hh : f.sens, hl with
    | a :: b :: rest, _ => exact ⟨a, b, rest, rfl⟩
  simp only [hs, idxN, List.getElem?_cons_succ, List.getElem?_cons_zero, Py.bind_ok, List.getD_cons_succ, List.getD_cons_zero]
  by_cases c1 : b % 16 = 12
  · simp [c1]
  · by_cases c2 : f.selRes / 32 % 4 = 0
    · simp [c1, c2]
    · by_cases c4 : f.selRes / 32 % 2 = 1 <;> simp [c1, c2, c4]

/-- ... and a target without SENS_RES (found by `sense_dep`, `tech = 4`) is not a tag in both -/
theorem connect_activateBody_no_sens (f : Clf.Found) (s : Clf.St) (h : f.tech = 4) :
    Clf.activateBody f s = (.ok none, s) ∧ tagType ⟨'A', none, [f.selRes], none, none⟩ = .ok none := by
  refine ⟨?_, rfl⟩
  unfold Clf.activateBody
  simp [h]

example : tb_activate 0 0 "106A" (some [0x00, 0x0C]) [0x00] none none (fun _ _ => .ok (some 1)) (fun _ _ => .ok (some 2))
    (fun _ _ => .ok (some 3)) (fun _ _ => .ok (some 4)) = .ok (some 1) := by decide +kernel
example : tb_activate 0 0 "106A" (some [0x44, 0x00]) [0x20] none none (fun _ _ => .ok (some 1)) (fun _ _ => .ok (some 2))
    (fun _ _ => .ok (some 3)) (fun _ _ => .ok (some 4)) = .ok (some 4) := by decide +kernel
example : tb_activate 0 0 "212F" none [] none (some [1]) (fun _ _ => .ok (some 1)) (fun _ _ => .ok (some 2))
    (fun _ _ => .ok (some 3)) (fun _ _ => .ok (some 4)) = .ok (some 3) := by decide +kernel
example : tb_activate 0 0 "106A" (some [0x44]) [0x20] none none (fun _ _ => .ok (some 1)) (fun _ _ => .ok (some 2))
    (fun _ _ => .ok (some 3)) (fun _ _ => .ok (some 4)) = .error .index := by decide +kernel

/-- `nfc.tag.emulate`: Type 3 Tag emulation iff the local target has a (non-empty) `tt3_cmd` -/
theorem emulate_cond_bridge (c : Option Bytes) : tb_emulate_cond c = (match c with | some (_ :: _) => true | _ => false) := by
  unfold tb_emulate_cond
  cases c with
  | none => simp
  | some l => cases l <;> simp

end NfcVerif.FnBridge.TagBase
