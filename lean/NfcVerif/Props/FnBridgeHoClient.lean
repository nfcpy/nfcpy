import NfcVerif.Lemmas.FnBridgeHoClient
import NfcVerif.Props.FnBridgeSnep
import NfcVerif.Props.C06
/-!
# Bridge theorems, group HoClient (`nfc/handover/server.py`, `nfc/handover/client.py`, `nfc/snep/client.py` slices
-> `Gen/FnHoClient.lean` -> `Model/Handover.lean`, `Model/Snep.lean`, `Model/Term.lean`)

Properties C06 (messages survive fragmentation, exactly once) and C07 / C09 (the service thread ends when the
connection is gone).  The cuts are listed in `harness/fnspecs/hoclient.py`; the compositions are in
`Lemmas/FnBridgeHoClient.lean`.

* `srv_on_recv_bridge`, `cli_on_recv_bridge`: the handover state machines of the C06 model equal the compositions of
  regenerated pieces (send MIU >= 1);
* `snep_reasm_bridge`: the reassembly step of the SNEP client (`Snep.cliOnRecv (.reasm ..)`), completing
  `FnBridge.Snep.cli_on_recv_bridge` with the `+=` statement and the result;
* `response_frags_bridge`: the regenerated offsets and slices are `Chan.chunks`;
* `put_acceptable_bridge`, `default_octets_bridge`, `get_usable_bridge`, `record_type_bridge`, `send_failed_bridge`:
  constants and tests of the clients / the serve thread;
* `gen_*`: statements of C06 restated for the regenerated code.
-/
namespace NfcVerif.FnBridge.HoClient
open NfcVerif NfcVerif.PyFn NfcVerif.Chan NfcVerif.Handover

/-- `range(0, n, miu)` for `miu >= 1`: the offsets `i * miu` of the fragments -/
theorem offsets_bridge (response : Bytes) (miu : Nat) (hm : 0 < miu) :
    Gen.Fn.hc_srv_offsets response (miu : Int)
      = .ok ((List.range (FnBridge.Snep.nfrag miu response.length)).map (fun i => (((i * miu : Nat)) : Int))) := by
  unfold Gen.Fn.hc_srv_offsets
  rw [len_eq, FnBridge.Snep.rangeStep_zero response.length miu hm]
  simp only [FnBridge.Snep.offs, FnBridge.Snep.nfrag, Nat.zero_add, Nat.sub_zero]

/-- the response fragments of `HandoverServer.serve` are `Chan.chunks send_miu response` -/
theorem response_frags_bridge (response : Bytes) (miu : Nat) (hm : 0 < miu) :
    responseFragsGen response miu = chunks miu response := by
  unfold responseFragsGen Gen.Fn.hc_srv_offsets
  rw [len_eq, FnBridge.Snep.rangeStep_zero response.length miu hm]
  exact FnBridge.Snep.offs_slices response 0 miu hm

/-- a send MIU of 0 is ValueError in `range()` (LLCP guarantees MIU >= 128) -/
example : Gen.Fn.hc_srv_offsets [1, 2, 3] 0 = .error .value := by decide
example : responseFragsGen [1, 2, 3, 4, 5] 2 = [[1, 2], [3, 4], [5]] := by decide

/-- the server transition function of the C06 handover model -/
theorem srv_on_recv_bridge (cfg : HCfg) (hm : 0 < cfg.smiu) (st : HS) (m : Bytes) :
    Handover.srvOnRecv cfg st m = srvOnRecvGen cfg st m := by
  cases st with
  | closed => rfl
  | collecting request =>
    unfold Handover.srvOnRecv srvOnRecvGen Gen.Fn.hc_srv_append Gen.Fn.hc_srv_need_data Gen.Fn.hc_srv_new_request
    simp only [response_frags_bridge _ _ hm, len_eq]
    have e : (((request ++ m).length : Int) = 0) ↔ (request ++ m = []) := by
      cases (request ++ m) <;> simp; omega
    simp only [e, decide_eq_true_eq]

/-- the client transition function of the C06 handover model -/
theorem cli_on_recv_bridge (complete : Bytes → Bool) (st : HC) (m : Bytes) :
    Handover.cliOnRecv complete st m = cliOnRecvGen complete st m := by
  cases st <;> rfl

/-- the reassembly step of the SNEP client; hypothesis as in `FnBridge.Snep.cli_on_recv_bridge`: the buffer holds at
least the six header octets -/
theorem snep_reasm_bridge (op : Snep.Op) (buf : Bytes) (length : Nat) (m : Bytes) (h6 : 6 ≤ buf.length) :
    Snep.cliOnRecv (.reasm op buf length) m = snepReasmGen op buf length m := by
  rw [FnBridge.Snep.cli_on_recv_bridge (.reasm op buf length) m (by intro o b l h; injection h with _ hb _; subst hb; exact h6)]
  rfl

/-- `put_octets` accepts no response data: the acceptable length handed to `recv_response` is `Snep.respAcc _ .put` -/
theorem put_acceptable_bridge (acc : Nat) : (Gen.Fn.hc_snep_put_acceptable : Int) = (Snep.respAcc acc .put : Nat) := rfl

/-- GET without a message sends the NDEF message with one empty record -/
theorem default_octets_bridge (octets : Option Bytes) :
    Gen.Fn.hc_snep_default_octets octets = octets.getD (encMsg [emptyRecord]) := by
  cases octets <;> rfl

/-- `get_records` decodes a response of at least three octets - the size of the smallest NDEF message -/
theorem get_usable_bridge (octets : Bytes) : Gen.Fn.hc_snep_get_usable octets = decide (3 ≤ octets.length) := by
  unfold Gen.Fn.hc_snep_get_usable
  rw [len_eq]
  cases octets with
  | nil => simp
  | cons a l => simp; omega

/-- the smallest message is usable: nothing a SNEP server can put into a GET response is dropped by the length test -/
example : Gen.Fn.hc_snep_get_usable (encMsg [emptyRecord]) = true := by decide

theorem record_type_bridge (t : String) :
    Gen.Fn.hc_srv_is_hr t = decide (t = "urn:nfc:wkt:Hr")
    ∧ ∀ (records : List Int), Gen.Fn.hc_cli_is_hs records t = (!records.isEmpty && decide (t = "urn:nfc:wkt:Hs")) := by
  refine ⟨rfl, ?_⟩
  intro records
  unfold Gen.Fn.hc_cli_is_hs
  cases records <;> simp

theorem octets_default_bridge (r : Option Bytes) : Gen.Fn.hc_cli_octets_default r = r.getD [] := by
  unfold Gen.Fn.hc_cli_octets_default
  cases r with
  | none => rfl
  | some v => cases v <;> simp

/-- C09 (`Term.serviceStep`): the handover serve thread leaves through its `finally` when a fragment could not be
sent, and polls again otherwise -/
theorem send_failed_bridge (sent : Bool) :
    Term.serviceStep .handover .serveSend (.value sent)
      = if Gen.Fn.hc_srv_send_failed sent = true then .finallyClose else .servePoll := by
  cases sent <;> rfl

/-! ## statements of C06 for the regenerated code -/

/-- C06 (`frag_concat`): the fragments the regenerated serve loop sends concatenate to the response -/
theorem gen_response_frags_concat (response : Bytes) (miu : Nat) (hm : 0 < miu) :
    (responseFragsGen response miu).flatten = response := by
  rw [response_frags_bridge response miu hm]
  exact (C06.frag_concat miu hm response).1.1

/-- C06 (exactly once, finding F29 repaired): after an answered request the regenerated server starts from an empty
buffer, so the next request is not mixed with the previous one -/
theorem gen_server_buffer_reset (cfg : HCfg) (hr : cfg.reset = true) (request m : Bytes)
    (h1 : request ++ m ≠ []) (h2 : cfg.complete (request ++ m) = true) :
    (srvOnRecvGen cfg (.collecting request) m).1 = .collecting [] := by
  unfold srvOnRecvGen Gen.Fn.hc_srv_append Gen.Fn.hc_srv_need_data Gen.Fn.hc_srv_new_request
  have e : ¬ (PyFn.len (request ++ m) = 0) := by
    rw [len_eq]; cases h : (request ++ m) with
    | nil => exact absurd h h1
    | cons a l => simp; omega
  simp [e, h2, hr]

example : srvOnRecvGen { smiu := 2, complete := fun r => decide (r.length ≥ 3), handler := fun r => r.reverse } (.collecting [1]) [2, 3]
    = (.collecting [], [[3, 2], [1]], [[1, 2, 3]]) := by decide
example : cliOnRecvGen (fun r => decide (r.length ≥ 3)) (.collecting [1]) [2, 3] = (.done (some [1, 2, 3]), []) := by decide
example : Gen.Fn.hc_snep_default_octets none = [0xD0, 0, 0] := by decide
example : Gen.Fn.hc_snep_append [1, 2] [3] = [1, 2, 3] := by decide

end NfcVerif.FnBridge.HoClient
