import NfcVerif.Lemmas.TlvSync
/-!
# C01 - NDEF write then read round-trips (Type 1 and Type 2 Tag)

Statements about the executable model `NfcVerif.Model.Tlv` (transcription of `tt1.py`,
`tt2.py` and the `octets` setter of `tag/__init__.py`; F1, F2 modelled as repaired).  Proofs are
in `Lemmas/Tlv.lean` and `Lemmas/TlvSync.lean`.

`WF c m L` is the explicit, decidable well-formedness predicate of `Model/Tlv.lean`;
`readNdef c m = .ok (some L)` says that a fresh reader finds an NDEF TLV described by `L`
(offset, skip set, area end, capacity, flags, message).
-/
namespace NfcVerif.C01
open NfcVerif NfcVerif.Tlv

/-- **Round trip, every layout.**  For every tag image `m` (any size, any number and placement of
NULL / lock control / memory control TLVs, static or dynamic memory, any previous contents) that
is well formed and every message `data` whose length does not exceed the reported capacity
(0 included, 1-byte and 3-byte length format): the write succeeds and a fresh walk over the
final image finds the same NDEF TLV offset, the same skip set, the same capacity and flags
and exactly `data`. -/
theorem t12_roundtrip (c : Cfg) (m : Bytes) (L : Layout) (data : Bytes)
    (hread : readNdef c m = .ok (some L)) (hwf : WF c m L) (hcap : (data.length : Int) ≤ L.cap) :
    ∃ ph, writeNdef c m L data = .ok ph ∧ readNdef c ph.m3 = .ok (some { L with ndef := data }) := by
  obtain ⟨m1, m2, m3a, m3, w, hnew⟩ := roundtrip c m L data ((readNdef_some c m L).1 hread) hwf hcap
  exact ⟨_, w.writeNdef_eq, (readNdef_some c m3 _).2 hnew⟩

/-- Type 2 Tag instance (4-byte pages, capability container at 12, TLV area from 16). -/
theorem t2_roundtrip (m : Bytes) (L : Layout) (data : Bytes)
    (hread : readNdef t2Cfg m = .ok (some L)) (hwf : WF t2Cfg m L) (hcap : (data.length : Int) ≤ L.cap) :
    ∃ ph, writeNdef t2Cfg m L data = .ok ph ∧ readNdef t2Cfg ph.m3 = .ok (some { L with ndef := data }) :=
  t12_roundtrip t2Cfg m L data hread hwf hcap

/-- Type 1 Tag instance, static (byte writes, `unit = 1`) and dynamic memory (8-byte blocks). -/
theorem t1_roundtrip (unit : Nat) (m : Bytes) (L : Layout) (data : Bytes)
    (hread : readNdef (t1Cfg unit) m = .ok (some L)) (hwf : WF (t1Cfg unit) m L)
    (hcap : (data.length : Int) ≤ L.cap) :
    ∃ ph, writeNdef (t1Cfg unit) m L data = .ok ph
      ∧ readNdef (t1Cfg unit) ph.m3 = .ok (some { L with ndef := data }) :=
  t12_roundtrip (t1Cfg unit) m L data hread hwf hcap

/-- **The reported capacity is real.**  A message of `n ≤ capacity` bytes plus its TLV header
(2 or 4 bytes) is not larger than the number of non-reserved bytes between the NDEF TLV and the
end of the data area, and the byte after its last value byte (reserved bytes jumped over) is
still inside the data area. -/
theorem t12_capacity_sound (c : Cfg) (m : Bytes) (L : Layout) (hread : readNdef c m = .ok (some L))
    (n : Nat) (hn : (n : Int) ≤ L.cap) :
    n + hdrLen n ≤ countFree L.skip L.off L.areaEnd
    ∧ countFree L.skip L.off L.areaEnd ≤ L.areaEnd - L.off
    ∧ endAddr L.skip n (L.off + hdrLen n) ≤ L.areaEnd := by
  have hc := ((readNdef_some c m L).1 hread).cap
  rw [hc] at hn
  exact ⟨cap_fits _ _ _ _ hn, countFree_le _ _ _, (endAddr_le_area _ _ _ _ hn).2⟩

/-- **Write-back is exact**: the write commands `synchronize()` issues (the units whose content
differs, ascending) turn the old image into the new one on a plain-memory tag. -/
theorem t12_apply_diff (u : Nat) (hu : 0 < u) (m m' : Bytes) (hl : m.length = m'.length) :
    apply m (diffUnits u m m') = m' :=
  apply_diff u hu m m' hl

/-- The `octets` setter on a writeable well-formed tag succeeds and the commands it sent leave
exactly the final image of `writeNdef` in the tag memory. -/
theorem t12_write_reaches_tag (c : Cfg) (m : Bytes) (L : Layout) (data : Bytes)
    (hread : readNdef c m = .ok (some L)) (hwf : WF c m L) (hcap : (data.length : Int) ≤ L.cap)
    (hw : L.writeable = true) :
    (setOctets c m L data).res = .ok ()
    ∧ readNdef c (apply m (setOctets c m L data).cmds) = .ok (some { L with ndef := data }) :=
  write_state c m L data hread hwf hcap hw

/-- **Oversize data is rejected before any command is sent** (and a write-protected tag before
that), whatever the image. -/
theorem setOctets_oversize_no_command (c : Cfg) (m : Bytes) (L : Layout) (data : Bytes)
    (h : (data.length : Int) > L.cap) :
    (setOctets c m L data).cmds = []
    ∧ (setOctets c m L data).res = .error (if L.writeable then .value else .attr) := by
  unfold setOctets
  cases hw : L.writeable <;> simp [h]

/-! ## Non-vacuity: a concrete well-formed Type 2 image with a memory control TLV that reserves
bytes 27..28 inside the message, a NULL TLV, an NDEF TLV at offset 22. -/
def exM : Bytes :=
  List.replicate 12 0 ++ [0xE1, 0x10, 6, 0] ++ [2, 3, 0x33, 2, 3, 0, 3, 2, 0xAA, 0xBB, 0xFE] ++ List.replicate 37 0
def exL : Layout :=
  { off := 22, skip := [(27, 29)], areaEnd := 64, cap := 38, readable := true, writeable := true, ndef := [0xAA, 0xBB] }

example : readNdef t2Cfg exM = .ok (some exL) := by decide +kernel
example : WF t2Cfg exM exL := by decide +kernel
example : ∃ ph, writeNdef t2Cfg exM exL [1, 2, 3, 4, 5, 6] = .ok ph
    ∧ readNdef t2Cfg ph.m3 = .ok (some { exL with ndef := [1, 2, 3, 4, 5, 6] }) :=
  t2_roundtrip exM exL _ (by decide +kernel) (by decide +kernel) (by decide)
/-- the empty message (F1 before the repair) -/
example : (setOctets t2Cfg exM exL []).res = .ok () ∧
    readNdef t2Cfg (apply exM (setOctets t2Cfg exM exL []).cmds) = .ok (some { exL with ndef := [] }) :=
  t12_write_reaches_tag t2Cfg exM exL [] (by decide +kernel) (by decide +kernel) (by decide) rfl
/-- the commands of that write: page 5 three times (L := 0, value + terminator, L := 6) and page 6 -/
example : (setOctets t2Cfg exM exL [1, 2, 3, 4, 5, 6]).cmds =
    [(20, [3, 0, 3, 0]), (24, [1, 2, 3, 0]), (28, [0, 4, 5, 6]), (32, [0xFE, 0, 0, 0]), (20, [3, 0, 3, 6])] := by
  decide +kernel
example : (setOctets t2Cfg exM exL (List.replicate 39 7)) = ⟨[], .error .value⟩ := by decide +kernel
/-- a Type 1 image (static memory, byte writes) -/
def exM1 : Bytes :=
  [1, 2, 3, 4, 5, 6, 7, 0] ++ [0xE1, 0x10, 0x0E, 0] ++ [0, 3, 1, 0x55, 0xFE] ++ List.replicate 103 0
example : ∃ L, readNdef (t1Cfg 1) exM1 = .ok (some L) ∧ WF (t1Cfg 1) exM1 L ∧ L.off = 13 ∧ L.cap = 89 := by
  refine ⟨{ off := 13, skip := [(104, 120)], areaEnd := 120, cap := 89, readable := true, writeable := true,
            ndef := [0x55] }, ?_, ?_, rfl, rfl⟩ <;> decide +kernel

end NfcVerif.C01
