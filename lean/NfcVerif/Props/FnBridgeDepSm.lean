import NfcVerif.Lemmas.FnBridgeDepSm
import NfcVerif.Props.FnBridgeDepPdu
import NfcVerif.Props.C04
/-!
# Bridge theorems, group DepSm (`nfc/dep.py`: the decisions of the NFC-DEP state machines -> `Gen/FnDepSm.lean` ->
`Model/NfcDep.lean`, `Model/PeerDep.lean`, `Model/Activate.lean`, `Model/FnDepSmRef.lean`)

Properties C04 (each payload is delivered exactly once, intact, or a failure is reported) and C07 (octets of the peer
raise nothing but what the code handles).  The cuts are listed in `harness/fnspecs/depsm.py` and in the doc comments of
`Gen/FnDepSm.lean`; the byte level and the single checks are the groups Dep and DepPdu, whose regenerated definitions and
bridge theorems are used here.

* `ack_bridge`, `inf_bridge`, `nak_bridge`, `atn_bridge`, `tgt_inf_bridge`, `tgt_ack_bridge`, `tgt_atn_bridge`,
  `tgt_deact_builders_bridge` (spread over the file): the local PDU builders (whole functions) build the PDUs the models
  put on the air; `gen_builders_wire`: encoded with the regenerated `DEP_REQ.encode` they are the model's wire octets;
* `timeout_bridge`, `timeout_ref`, `deadline_bridge`: the deadline arithmetic against the model's `expired` flag (`Clock.Ok`)
  and against the reference `DepSmRef.attemptTimeout`;
* `req_attention_bridge`, `req_retrans_bridge`, `nak_check_bridge`, `send_dep_loop_bridge`, `send_dep_bridge`, `rtox_loop_bridge`,
  `transact_bridge`, `send_loop_bridge`, `recv_loop_bridge`, `exchange_bridge`, `deactivate_bridge`: the transition functions of
  the Initiator of `Model/NfcDep.lean` equal the `..Gen` functions of `Lemmas/FnBridgeDepSm.lean`, in which every
  condition, PDU, loop range and retry count is a regenerated piece (the hand-written control skeleton is listed in the
  header of that file).  Hypotheses: the repaired variant (`f26`, `f27`: the source HAS these repairs) and a clock that
  agrees with the model's `expired` flag;
* `tgt_send_chunk_bridge`, `tgt_recv_bridge`, `tgt_accept_bridge`, `tgt_rx_active_bridge`, `tgt_rx_bridge`: the same for the
  Target state machine `tRx` (`f40`, `f41` repaired), the duplicate detection through the regenerated dispatch chain of
  group DepPdu on tokens (`DepPdu.tgt_dispatch_opt`; `dispatch_table` spells the chain out as a decision table);
* the remaining pieces against `Model/Activate.lean` and the reference definitions `Model/FnDepSmRef.lean`;
* `gen_*`: statements of C04 / C07 restated for the regenerated functions.
-/
namespace NfcVerif.FnBridge.DepSm
open NfcVerif NfcVerif.PyFn NfcVerif.NfcDep NfcVerif.FnBridge.DepPdu NfcVerif.DepPduRef NfcVerif.DepSmRef

/-! ## Initiator: the PDU builders, then the transition functions -/

theorem ack_bridge (pni : Nat) (did nad : Option Nat) :
    recPdu (Gen.Fn.smi_ack (pni : Int) (oi did) (oi nad)) = .dep fACK pni did nad [] :=
  recPdu_built fACK pni did nad []

theorem inf_bridge (pni : Nat) (did nad : Option Nat) (data : Bytes) (more : Bool) :
    recPdu (Gen.Fn.smi_inf (pni : Int) data more (oi did) (oi nad)) = .dep (if more then fMORE else fINF) pni did nad data := by
  cases more <;> exact recPdu_built _ pni did nad data

theorem nak_bridge (p pni : Nat) (did nad : Option Nat) :
    recPdu (Gen.Fn.smi_nak (p : Int) (oi did) (oi nad) (pni : Int)) = .dep fNAK pni did nad [] :=
  recPdu_built fNAK pni did nad []

theorem atn_bridge (did : Option Nat) :
    recPdu (Gen.Fn.smi_atn (oi did)) = .dep fATN 0 did none [] :=
  recPdu_built fATN 0 did none []

theorem timeout_bridge {σ} (k : Clock σ) (hk : k.Ok) (a : Air σ) :
    Gen.Fn.smi_timeout k.rwt k.deadline (k.now a)
      = if a.expired = true then .error .timeout else .ok (imin k.rwt (k.deadline - k.now a)) := by
  unfold Gen.Fn.smi_timeout
  have h := hk.2 a
  have h0 := hk.1
  by_cases he : a.expired = true
  · have : k.deadline ≤ k.now a := h.mpr he
    have : imin k.rwt (k.deadline - k.now a) ≤ 0 := by unfold imin; split <;> omega
    simp [he, this]
  · have : ¬ k.deadline ≤ k.now a := fun x => he (h.mp x)
    have : ¬ imin k.rwt (k.deadline - k.now a) ≤ 0 := by unfold imin; split <;> omega
    simp [he, this]

theorem range_len (n : Nat) : (PyFn.range 0 (n : Int)).length = n := by
  simp [PyFn.range]

variable {σ : Type} (P : Peer σ) (c : Cfg)

/-- the heads of the two retry loops are the text of the head of the main loop -/
theorem timeout_same :
    Gen.Fn.smi_atn_timeout = Gen.Fn.smi_timeout ∧ Gen.Fn.smi_nak_timeout = Gen.Fn.smi_timeout := ⟨rfl, rfl⟩

theorem req_attention_bridge (k : Clock σ) (hk : k.Ok) (hf : c.v.f26 = true) :
    ∀ (l : List Int) (a : Air σ), reqAttention P c l.length a = reqAttentionGen P c k l a := by
  intro l
  induction l with
  | nil => intro a; rfl
  | cons i is ih =>
    intro a
    have hat : atnPdu c = atnReq c := by
      unfold atnPdu atnReq; rw [atn_bridge]; simp [hf]
    simp only [List.length_cons, reqAttention, reqAttentionGen, timeout_same.1,
      timeout_bridge k hk a, hat]
    by_cases he : a.expired = true
    · simp [he]
    · simp only [he, Bool.false_eq_true, ↓reduceIte]
      rcases hx : xfer P a (atnReq c) with ⟨a', r⟩
      cases r with
      | error e => simp only [ih]
      | ok p =>
        cases p with
        | dep fmt rp did nad data =>
          simp only [(ini_atn_chk_bridge fmt)]
          split
          · rfl
          · split <;> rfl
        | _ => rfl

theorem nakReq_eq (pni : Nat) : nakReq c pni = .dep fNAK pni c.idid c.inad [] := by
  unfold nakReq Gen.Fn.dep_ini_nak_call
  exact nak_bridge pni pni c.idid c.inad

theorem req_retrans_bridge (k : Clock σ) (hk : k.Ok) (hf : c.v.f27 = true) (pni reqfmt : Nat) :
    ∀ (l : List Int) (a : Air σ),
      reqRetrans P c pni (decide (reqfmt = fMORE)) l.length a = reqRetransGen P c k pni reqfmt l a := by
  intro l
  induction l with
  | nil => intro a; rfl
  | cons i is ih =>
    intro a
    simp only [List.length_cons, reqRetrans, reqRetransGen, timeout_same.2,
      timeout_bridge k hk a, nakReq_eq]
    by_cases he : a.expired = true
    · simp [he]
    · simp only [he, Bool.false_eq_true, ↓reduceIte]
      rcases hx : xfer P a (.dep fNAK pni c.idid c.inad []) with ⟨a', r⟩
      cases r with
      | error e => simp only [ih]
      | ok p =>
        cases p with
        | dep fmt rp did nad data =>
          simp only [(ini_retrans_chk_bridge fmt reqfmt), hf, true_and, decide_eq_true_eq]
          split
          · rfl
          · split <;> rfl
        | _ => rfl

theorem nak_check_bridge (a : Air σ) (res : Pdu) : nakCheck a res = nakCheckGen a res := by
  cases res with
  | dep fmt rp did nad data =>
    simp only [nakCheck, nakCheckGen, ini_nak_chk_bridge]
    split <;> rfl
  | _ => rfl

theorem fmtOf_more (req : Pdu) : decide (fmtOf req = fMORE) = decide (req.fmt? = some fMORE) := by
  cases req with
  | dep f p d n x =>
    show decide (f = fMORE) = decide (some f = some fMORE)
    by_cases h : f = fMORE <;> simp [h]
  | _ => rfl

theorem send_dep_loop_bridge (k : Clock σ) (hk : k.Ok) (h26 : c.v.f26 = true) (h27 : c.v.f27 = true) (pni : Nat) (req : Pdu) :
    ∀ (fuel : Nat) (a : Air σ), sendDepLoop P c pni req fuel a = sendDepLoopGen P c k pni req fuel a := by
  intro fuel
  induction fuel with
  | zero => intro a; rfl
  | succ f ih =>
    intro a
    have hn2 : Gen.Fn.smi_atn_range Gen.Fn.smi_n_atn = [0, 1] := by decide
    have hm2 : Gen.Fn.smi_nak_range Gen.Fn.smi_n_nak = [0, 1] := by decide
    have e1 := req_attention_bridge P c k hk h26 [0, 1]
    have e2 := req_retrans_bridge P c k hk h27 pni (fmtOf req) [0, 1]
    simp only [List.length_cons, List.length_nil, Nat.zero_add, Nat.reduceAdd] at e1 e2
    simp only [sendDepLoop, sendDepLoopGen, timeout_bridge k hk a, hn2, hm2, ← e1, ← e2, fmtOf_more]
    by_cases he : a.expired = true
    · simp [he]
    · simp only [he, Bool.false_eq_true, ↓reduceIte]
      rcases hx : xfer P a req with ⟨a1, r⟩
      cases r with
      | ok res => exact nak_check_bridge a1 res
      | error e =>
        cases e <;> try rfl
        · -- timeout
          simp only
          rcases reqAttention P c 2 a1 with ⟨a2, r2⟩
          cases r2 with
          | ok u => simp only [ih]
          | error e => rfl
        · simp only
          rcases reqRetrans P c pni (decide (req.fmt? = some fMORE)) 2 a1 with ⟨a2, r2⟩
          cases r2 with
          | ok res => exact nak_check_bridge a2 res
          | error e => rfl

theorem send_dep_bridge (k : Clock σ) (hk : k.Ok) (h26 : c.v.f26 = true) (h27 : c.v.f27 = true) (fuel pni : Nat) (a : Air σ)
    (req : Pdu) : sendDep P c fuel pni a req = sendDepGen P c k fuel pni a req :=
  send_dep_loop_bridge P c k hk h26 h27 pni req fuel _

/-- what the pieces of one copy of the timeout extension loop compute -/
structure RtoxCut.Sound (q : RtoxCut) : Prop where
  test : ∀ f : Nat, q.test (f : Int) = decide (f = fTOX)
  range : q.range.length = 3
  call : ∀ data d n mk, q.call data d n mk = mk data d n
  wait : ∀ (v : Nat) (t : Bytes) (rwt : Int), q.wait (v :: t) rwt = .ok ((v : Int) * rwt)
  done : ∀ f : Nat, q.done (f : Int) = decide (f ≠ fTOX)
  fail : q.fail = .error .timeout

theorem tox_test (f : Nat) : decide ((f : Int) = 9) = decide (f = fTOX) ∧ decide ((f : Int) ≠ 9) = decide (f ≠ fTOX) :=
  ⟨decide_eq_decide.mpr (cast_eq_lit f 9), decide_eq_decide.mpr (not_congr (cast_eq_lit f 9))⟩

theorem cutS_sound : cutS.Sound where
  test f := (fmt_tests_bridge f).1
  range := by decide
  call _ _ _ _ := rfl
  wait v t rwt := by simp [cutS, Gen.Fn.smi_rtox_wait_s, getB_zero]
  done f := (tox_test f).2
  fail := rfl

theorem cutR_sound : cutR.Sound where
  test f := (tox_test f).1
  range := by decide
  call _ _ _ _ := rfl
  wait v t rwt := by simp [cutR, Gen.Fn.smi_rtox_wait_r, getB_zero]
  done f := (tox_test f).2
  fail := rfl

theorem rtox_bridge (data : Bytes) (did nad : Option Nat) :
    Gen.Fn.smi_rtox data (oi did) (oi nad)
      = match data with
        | [] => .error .protocol
        | v :: _ => if 0 < v ∧ v < 60 then .ok (((9 : Int), nad.isSome, did.isSome, (0 : Int)), oi did, oi nad, [v])
                    else .error .protocol := by
  unfold Gen.Fn.smi_rtox
  rw [rtox_guard]
  rcases data with _ | ⟨v, t⟩
  · rfl
  · by_cases h : 0 < v ∧ v < 60
    · have hb : mkBytes [(v : Int)] = .ok [v] := mkBytes_isBytes [v] (fun x hx => by rw [List.mem_singleton.mp hx]; omega)
      simp only [h, and_self, if_true, hb, Py.bind_ok, oi_ne_none]
    · simp only [h, if_false]

theorem rtox_pdu (v : Nat) (did nad : Option Nat) :
    recPdu (((9 : Int), nad.isSome, did.isSome, (0 : Int)), oi did, oi nad, [v]) = .dep fTOX 0 did nad [v] := by
  rw [← oi_ne_none, ← oi_ne_none]; exact recPdu_built fTOX 0 did nad [v]

theorem rtox_loop_bridge (q : RtoxCut) (hq : q.Sound) (k : Clock σ) (hk : k.Ok) (h26 : c.v.f26 = true) (h27 : c.v.f27 = true)
    (fuel pni : Nat) :
    ∀ (l : List Int) (a : Air σ) (res : Pdu),
      rtoxLoop P c fuel pni l.length a res = rtoxLoopGen P c q k fuel pni l a res := by
  intro l
  induction l with
  | nil => intro a res; simp [rtoxLoop, rtoxLoopGen, hq.fail]
  | cons i is ih =>
    intro a res
    cases res with
    | dep f rp d n data =>
      simp only [List.length_cons, rtoxLoop, rtoxLoopGen, hq.call, rtox_bridge]
      cases data with
      | nil => rfl
      | cons v t =>
        simp only [hq.wait]
        by_cases h : 0 < v ∧ v < 60
        · have hk' : ({ k with rwt := (v : Int) * k.rwt } : Clock σ).Ok := by
            refine ⟨?_, hk.2⟩
            show 0 < (v : Int) * k.rwt
            exact Int.mul_pos (by omega) hk.1
          simp only [h, not_true_eq_false, and_self, if_true, if_false, rtox_pdu,
            ← send_dep_bridge P c _ hk' h26 h27]
          rcases sendDep P c fuel pni a (.dep fTOX 0 c.idid c.inad [v]) with ⟨a', r⟩
          cases r with
          | error e => rfl
          | ok res' =>
            cases res' with
            | dep f' rp' d' n' x' =>
              simp only [Pdu.fmt?, hq.done, ih, ne_eq, Option.some.injEq, decide_eq_true_eq]
            | _ => rfl
        · simp [h]
    | _ => rfl

theorem transact_bridge (q : RtoxCut) (hq : q.Sound) (k : Clock σ) (hk : k.Ok) (h26 : c.v.f26 = true) (h27 : c.v.f27 = true)
    (fuel pni : Nat) (a : Air σ) (req : Pdu) :
    transact P c fuel pni a req = transactGen P c q k fuel pni a req := by
  unfold transact transactGen
  rw [← send_dep_bridge P c k hk h26 h27]
  rcases sendDep P c fuel pni a req with ⟨a', r⟩
  cases r with
  | error e => rfl
  | ok res =>
    have e3 := rtox_loop_bridge P c q hq k hk h26 h27 fuel pni q.range a' res
    rw [hq.range] at e3
    cases res with
    | dep f rp d n x =>
      simp only [Pdu.fmt?, hq.test, ← e3, Option.some.injEq, decide_eq_true_eq]
    | _ => rfl

theorem infReq_eq (pni : Nat) (data rest : Bytes) :
    infReq c pni data rest = .dep (if rest ≠ [] then fMORE else fINF) pni c.idid c.inad data := by
  unfold infReq Gen.Fn.dep_ini_inf_call
  simp only [inf_bridge]
  cases rest <;> simp

theorem ackReq_eq (pni : Nat) : ackReq c pni = .dep fACK pni c.idid c.inad [] := by
  unfold ackReq Gen.Fn.dep_ini_ack_call
  exact ack_bridge pni c.idid c.inad

theorem send_loop_bridge (k : Clock σ) (hk : k.Ok) (h26 : c.v.f26 = true) (h27 : c.v.f27 = true) (fuel : Nat) :
    ∀ (n : Nat) (a : Air σ) (pni : Nat) (sd : Bytes),
      sendLoop P c fuel n a pni sd = sendLoopGen P c k fuel n a pni sd := by
  intro n
  induction n with
  | zero => intro a pni sd; rfl
  | succ n ih =>
    intro a pni sd
    simp only [sendLoop, sendLoopGen, ini_chunk_bridge, infReq_eq, ← transact_bridge P c cutS cutS_sound k hk h26 h27]
    rcases transact P c fuel pni a (.dep (if sd.drop c.imiu ≠ [] then fMORE else fINF) pni c.idid c.inad (sd.take c.imiu))
      with ⟨a', r⟩
    cases r with
    | error e => rfl
    | ok res =>
      cases res with
      | dep f rp d nn x =>
        simp only [ini_send_step_bridge, Gen.Fn.smi_send_test]
        by_cases h1 : f = fACK ∧ sd.drop c.imiu = []
        · simp only [h1, and_self, if_true]
        · rw [if_neg h1, if_neg h1]
          by_cases h2 : rp ≠ pni
          · rw [if_pos h2, if_pos h2]
          · rw [if_neg h2, if_neg h2]
            simp only [Int.toNat_natCast, decide_eq_true_eq, ih]
      | _ => rfl

theorem recv_loop_bridge (k : Clock σ) (hk : k.Ok) (h26 : c.v.f26 = true) (h27 : c.v.f27 = true) (fuel : Nat) :
    ∀ (n : Nat) (a : Air σ) (pni : Nat) (acc : Bytes) (fmt : Nat),
      recvLoop P c fuel n a pni acc fmt = recvLoopGen P c k fuel n a pni acc fmt := by
  intro n
  induction n with
  | zero => intro a pni acc fmt; rfl
  | succ n ih =>
    intro a pni acc fmt
    simp only [recvLoop, recvLoopGen, (fmt_tests_bridge fmt).2.1, ackReq_eq, decide_eq_false_iff_not,
      ← transact_bridge P c cutR cutR_sound k hk h26 h27]
    by_cases hm : fmt = fMORE
    · rw [if_neg (by simp [hm]), if_neg (by simp [hm])]
      rcases transact P c fuel pni a (.dep fACK pni c.idid c.inad []) with ⟨a', r⟩
      cases r with
      | error e => rfl
      | ok res =>
        cases res with
        | dep f rp d nn x =>
          simp only [ini_recv_step_bridge]
          by_cases h1 : f ≠ fINF ∧ f ≠ fMORE
          · rw [if_pos h1, if_pos h1]
          · rw [if_neg h1, if_neg h1]
            by_cases h2 : rp ≠ pni
            · rw [if_pos h2, if_pos h2]
            · rw [if_neg h2, if_neg h2]
              simp only [Int.toNat_natCast, ih]
        | _ => rfl
    · rw [if_pos hm, if_pos hm]

theorem exchange_bridge (k : Clock σ) (hk : k.Ok) (h26 : c.v.f26 = true) (h27 : c.v.f27 = true) (fuel : Nat) (a : Air σ)
    (pni : Nat) (p : Bytes) : exchange P c fuel a pni p = exchangeGen P c k fuel a pni p := by
  unfold exchange exchangeGen Gen.Fn.smi_send_test Gen.Fn.smi_recv_init
  by_cases hp : p = []
  · simp [hp]
  · have : ¬ (decide (p ≠ []) = false) := by simp [hp]
    rw [if_neg hp, if_neg this, ← send_loop_bridge P c k hk h26 h27]
    rcases sendLoop P c fuel fuel a pni p with ⟨a1, pni1, r⟩
    cases r with
    | error e => rfl
    | ok res =>
      cases res with
      | dep f rp d nn x =>
        simp only [(ini_inf_chk_bridge f).1, ← recv_loop_bridge P c k hk h26 h27]
        split <;> rfl
      | _ => rfl

theorem deactReq_eq (release : Bool) : deactReq c release = if release then .rls c.idid else .dsl c.idid := by
  unfold deactReq Gen.Fn.smi_deact_req
  cases release <;> simp [oi_toNat]

theorem deactivate_bridge (release : Bool) (a : Air σ) : deactivate P c release a = deactivateGen P c release a := by
  unfold deactivate deactivateGen
  rw [deactReq_eq]
  rcases xfer P a (if release = true then Pdu.rls c.idid else Pdu.dsl c.idid) with ⟨a', r⟩
  cases r <;> rfl

/-! ## Target -/

theorem tgt_inf_bridge (pni : Nat) (did : Option Nat) (data : Bytes) (more : Bool) :
    recPdu (Gen.Fn.smt_inf (pni : Int) data more (oi did) none) = .dep (if more then fMORE else fINF) pni did none data := by
  cases more <;> exact recPdu_built _ pni did none data

theorem tgt_ack_bridge (pni : Nat) (did : Option Nat) :
    recPdu (Gen.Fn.smt_ack (pni : Int) (oi did) none) = .dep fACK pni did none [] :=
  recPdu_built fACK pni did none []

theorem tgt_atn_bridge (did : Option Nat) : recPdu (Gen.Fn.smt_atn (oi did) none) = .dep fATN 0 did none [] :=
  recPdu_built fATN 0 did none []

theorem infRes_eq (pni : Nat) (sd : Bytes) :
    infRes c pni sd = .dep (if sd.length > c.tmiu then fMORE else fINF) pni c.tdid none (sd.take c.tmiu) := by
  unfold infRes Gen.Fn.dep_tgt_inf_call
  simp only [tgt_chunk_bridge, tgt_inf_bridge, decide_eq_true_eq]

theorem ackRes_eq (pni : Nat) : ackRes c pni = .dep fACK pni c.tdid none [] := by
  unfold ackRes Gen.Fn.dep_tgt_ack_call
  exact tgt_ack_bridge pni c.tdid

theorem encodePdu_len (p : Pdu) : (encodePdu false p).length = p.tlen := by
  cases p <;> simp [Pdu.tlen, encodePdu]

theorem tgt_send_chunk_bridge (t : TState) (pni : Nat) (data : Bytes) :
    tSendChunk c t pni data = tSendChunkGen c t pni data := by
  unfold tSendChunk tSendChunkGen
  simp only [infRes_eq, Gen.Fn.target_encode_frame, FnBridge.Dep.encode_frame, encodePdu_len]
  generalize (Pdu.dep (if data.length > c.tmiu then fMORE else fINF) pni c.tdid none (data.take c.tmiu)) = res
  by_cases h : res.tlen + 1 > 255
  · rw [if_pos h, if_pos h]
  · rw [if_neg h, if_neg h]

theorem tgt_recv_bridge (t : TState) (pni : Nat) (acc : Bytes) (fmt : Nat) (data : Bytes) :
    tRecv c t pni acc fmt data = tRecvGen c t pni acc fmt data := by
  unfold tRecv tRecvGen Gen.Fn.smt_recv_acc Gen.Fn.smt_recv_last Gen.Fn.smt_empty_chk
  simp only [(fmt_tests_bridge fmt).2.2, ackRes_eq, decide_eq_true_eq]
  by_cases hm : fmt = fMORE
  · rw [if_pos hm, if_pos hm]
  · rw [if_neg hm, if_neg hm]
    cases t.tosend with
    | nil => rfl
    | cons p ps =>
      simp only [tgt_send_chunk_bridge]
      cases p with
      | nil => simp [len_eq]
      | cons x xs =>
        have : ¬ ((xs.length : Int) + 1 = 0) := by omega
        simp [len_eq, this]

theorem tgt_accept_bridge (t : TState) (fmt rpni : Nat) (data : Bytes) :
    tAccept c t fmt rpni data = tAcceptGen c t fmt rpni data := by
  unfold tAccept tAcceptGen
  cases hl : t.loc with
  | listen => rfl
  | first => simp only [tgt_recv_bridge]; rfl
  | sending sd =>
    simp only [tgt_chunk_bridge, tgt_send_step_bridge, tgt_chunk_rest_bridge, Gen.Fn.smt_send_test, decide_eq_true_eq,
      tgt_send_chunk_bridge, tgt_recv_bridge]
    by_cases h1 : sd.length > c.tmiu ∧ fmt ≠ fACK
    · rw [if_pos h1, if_pos h1]
    · rw [if_neg h1, if_neg h1]
      by_cases h2 : rpni ≠ (t.pni.getD 0 + 1) % 4
      · rw [if_pos h2, if_pos h2]
      · rw [if_neg h2, if_neg h2]
        simp only [Int.toNat_natCast]
        rfl
  | receiving acc =>
    simp only [(tgt_pni_bridge _ _).2, tgt_recv_bridge]
    by_cases h2 : rpni ≠ (t.pni.getD 0 + 1) % 4
    · rw [if_pos h2, if_pos h2]
    · rw [if_neg h2, if_neg h2]
      simp only [Int.toNat_natCast]

/-- the regenerated dispatch chain of `send_dep_res_recv_dep_req` on tokens, as a decision table.  It is not an
instance of `DepPdu.tgt_dispatch_opt`: here `pni` and `drf` (`self.pni`, `dep_res.pfb.fmt` as the chain reads them) are
arbitrary ints and the table is spelt out, there `drf` is a cast natural, `pni` is tied to an `Option Nat` and the right
side is the reference decision `tgtDispatch`; so the chain `fmt = 8 / 5 / 9 / packet number` is walked here once more. -/
theorem dispatch_table (dr : Option Int) (didMismatch isDsl isRls isDep : Bool) (fmt rpni : Nat) (pni drf : Int)
    (did : Option Int) :
    Gen.Fn.dep_tgt_dispatch none dr none 0 false didMismatch isDsl isRls isDep (fmt : Int) (rpni : Int) pni drf did none
        (fun _ _ => some 2)
      = if didMismatch = true then some (none, none)
        else if isDsl = true ∨ isRls = true then none
        else if isDep = false then some (none, none)
        else if fmt = fATN then some (some 2, none)
        else if fmt = fNAK then some (dr, none)
        else if fmt = fTOX then (if dr.isSome = true ∧ drf = 9 then some (none, some 0) else some (dr, none))
        else if (rpni : Int) = pni then some (dr, none)
        else some (none, some 0) := by
  unfold Gen.Fn.dep_tgt_dispatch fATN fNAK fTOX
  simp only [cast_eq_lit]
  cases didMismatch <;> cases isDsl <;> cases isRls <;> cases isDep <;> try rfl
  simp only [Bool.false_eq_true, if_false, or_self, if_true]
  by_cases h1 : fmt = 8
  · simp [h1]
  · by_cases h2 : fmt = 5
    · simp [h2]
    · by_cases h3 : fmt = 9
      · cases dr with
        | none => simp [h3]
        | some x => by_cases h4 : drf = 9 <;> simp [h3, h4]
      · by_cases h4 : (rpni : Int) = pni <;> simp [h1, h2, h3, h4]

theorem rtoxPending_eq (t : TState) : ((tokRes t).isSome && decide (depResFmt t = fTOX)) = t.rtoxPending := by
  unfold TState.rtoxPending tokRes depResFmt
  rcases t.depRes with _ | p
  · rfl
  · cases p with
    | dep f rp d n x =>
      -- only a DEP PDU carries a type: the test `fmt == 9` of the source against `==` on naturals
      show (true && decide (f = fTOX)) = (f == fTOX)
      rw [Bool.true_and, Bool.beq_eq_decide_eq]
    | _ => rfl

theorem tokRes_sel (t : TState) (x : TState × Option Pdu) :
    (match tokRes t with | none => (t, none) | some tok => if tok = 2 then x else (t, t.depRes)) = (t, t.depRes) := by
  unfold tokRes
  cases t.depRes <;> simp

theorem pniTok_eq (t : TState) (rpni : Nat) : ((rpni : Int) = pniTok t) ↔ t.pni = some rpni := by
  unfold pniTok
  cases t.pni with
  | none => simp
  | some p => simp; omega

theorem fmtOf_dep (f p : Nat) (d n : Option Nat) (x : Bytes) : fmtOf (.dep f p d n x) = f := rfl

theorem tgt_rx_active_bridge (h40 : c.v.f40 = true) (h41 : c.v.f41 = true) (t : TState) (req : Pdu) :
    tRx.tRxActive c t req = tRxActiveGen c t req := by
  unfold tRxActiveGen
  rw [tgt_dispatch_opt (pnio := t.pni) (hp := pniTok_eq t _), rtoxPending_eq]
  by_cases hd : req.didAttr ≠ c.tdid
  · simp [tRx.tRxActive, hd, tgtDispatch]
  · cases req with
    | dep fmt pni d n data =>
      rw [tRxActive_dep_eq c t fmt pni d n data h41 (Decidable.not_not.mp hd)]
      simp only [hd, decide_false, tgtDispatch, Pdu.kind, fmtOf_dep, pniOf, Bool.false_eq_true, if_false, reduceCtorEq,
        Bool.or_self, decide_true, if_true]
      cases tgtDecide fmt pni t.pni t.rtoxPending
      · simp [atnRes, tgt_atn_bridge]
      · exact (tokRes_sel t _).symm
      · exact tgt_accept_bridge c t fmt pni data
    | dsl d => simp [tRx.tRxActive, hd, tgtDispatch, Pdu.kind, h40]
    | rls d => simp [tRx.tRxActive, hd, tgtDispatch, Pdu.kind, h40]
    | atr b => simp [tRx.tRxActive, hd, tgtDispatch, Pdu.kind]
    | psl b => simp [tRx.tRxActive, hd, tgtDispatch, Pdu.kind]

/-! ## the builders on the wire -/

/-- the PDU objects themselves (all stored attributes, also those `encode()` does not read): an attention request never
carries a NAD, PDUs without payload carry the empty string -/
theorem builders_record (pni spni : Int) (did nad : Option Int) (data : Bytes) (more : Bool) :
    Gen.Fn.smi_inf pni data more did nad = (((if more = true then 1 else 0), decide (nad ≠ none), decide (did ≠ none), pni), did, nad, data)
    ∧ Gen.Fn.smi_ack pni did nad = ((4, decide (nad ≠ none), decide (did ≠ none), pni), did, nad, [])
    ∧ Gen.Fn.smi_nak pni did nad spni = ((5, decide (nad ≠ none), decide (did ≠ none), spni), did, nad, [])
    ∧ Gen.Fn.smi_atn did = ((8, false, decide (did ≠ none), 0), did, none, [])
    ∧ Gen.Fn.smt_inf pni data more did nad = (((if more = true then 1 else 0), decide (nad ≠ none), decide (did ≠ none), pni), did, nad, data)
    ∧ Gen.Fn.smt_ack pni did nad = ((4, decide (nad ≠ none), decide (did ≠ none), pni), did, nad, [])
    ∧ Gen.Fn.smt_atn did nad = ((8, decide (nad ≠ none), decide (did ≠ none), 0), did, nad, [])
    ∧ Gen.Fn.smt_deact_inf pni data did nad = ((0, decide (nad ≠ none), decide (did ≠ none), pni), did, nad, data)
    ∧ Gen.Fn.smt_deact_atn did nad = ((8, decide (nad ≠ none), decide (did ≠ none), 0), did, nad, []) :=
  ⟨rfl, rfl, rfl, rfl, rfl, rfl, rfl, rfl, rfl⟩

/-- the PDU objects built by INF / ACK / NAK / ATN of the Initiator, encoded by the regenerated `DEP_REQ.encode`
(group DepPdu), are the wire octets of the model's PDUs -/
theorem gen_builders_wire (pni : Nat) (did nad : Option Nat) (data : Bytes) (more : Bool) (hp : pni < 4)
    (hd : ∀ v, did = some v → v < 256) (hn : ∀ v, nad = some v → v < 256) :
    (let r := Gen.Fn.smi_inf (pni : Int) data more (oi did) (oi nad)
     Gen.Fn.dep_dep_req_encode r.1 ((did.getD 0 : Nat) : Int) ((nad.getD 0 : Nat) : Int) r.2.2.2
       = .ok (encodePdu true (.dep (if more then fMORE else fINF) pni did nad data)))
    ∧ (let r := Gen.Fn.smi_ack (pni : Int) (oi did) (oi nad)
       Gen.Fn.dep_dep_req_encode r.1 ((did.getD 0 : Nat) : Int) ((nad.getD 0 : Nat) : Int) r.2.2.2
         = .ok (encodePdu true (.dep fACK pni did nad [])))
    ∧ (let r := Gen.Fn.smi_nak (pni : Int) (oi did) (oi nad) (pni : Int)
       Gen.Fn.dep_dep_req_encode r.1 ((did.getD 0 : Nat) : Int) ((nad.getD 0 : Nat) : Int) r.2.2.2
         = .ok (encodePdu true (.dep fNAK pni did nad [])))
    ∧ (let r := Gen.Fn.smi_atn (oi did)
       Gen.Fn.dep_dep_req_encode r.1 ((did.getD 0 : Nat) : Int) 0 r.2.2.2
         = .ok (encodePdu true (.dep fATN 0 did none []))) := by
  refine ⟨?_, ?_, ?_, ?_⟩
  · simp only [Gen.Fn.smi_inf, oi_ne_none]
    have := dep_req_encode_bridge (if more then fMORE else fINF) pni did nad data (by cases more <;> decide) hp hd hn
    cases more <;> exact this
  · simp only [Gen.Fn.smi_ack, oi_ne_none]
    exact dep_req_encode_bridge fACK pni did nad [] (by decide) hp hd hn
  · simp only [Gen.Fn.smi_nak, oi_ne_none]
    exact dep_req_encode_bridge fNAK pni did nad [] (by decide) hp hd hn
  · simp only [Gen.Fn.smi_atn, oi_ne_none]
    exact dep_req_encode_bridge fATN 0 did none [] (by decide) (by decide) hd (by intro v h; cases h)

/-! ## time -/

/-- the head of the three retry loops is the reference `attemptTimeout` -/
theorem timeout_ref (rwt deadline now : Int) :
    Gen.Fn.smi_timeout rwt deadline now
      = (match attemptTimeout rwt deadline now with | none => .error .timeout | some t => .ok t)
    ∧ Gen.Fn.smi_atn_timeout rwt deadline now = Gen.Fn.smi_timeout rwt deadline now
    ∧ Gen.Fn.smi_nak_timeout rwt deadline now = Gen.Fn.smi_timeout rwt deadline now := by
  refine ⟨?_, by rw [timeout_same.1], by rw [timeout_same.2]⟩
  unfold Gen.Fn.smi_timeout attemptTimeout
  simp only [imin_eq_min]
  split <;> rfl

theorem deadline_bridge (timeout now : Int) : Gen.Fn.smi_deadline timeout now = freshDeadline now timeout := rfl

/-- C04 (a fresh call of `send_dep_req_recv_dep_res` has not expired: the model resets `expired`) -/
theorem gen_deadline_fresh (timeout now : Int) (h : 0 < timeout) : now < Gen.Fn.smi_deadline timeout now :=
  freshDeadline_future now timeout h

/-- the retry counts of `send_dep_req_recv_dep_res` are the model's (`reqAttention P c 2`, `reqRetrans P c .. 2`) -/
theorem retry_counts :
    (Gen.Fn.smi_atn_range Gen.Fn.smi_n_atn).length = 2 ∧ (Gen.Fn.smi_nak_range Gen.Fn.smi_n_nak).length = 2
    ∧ ∀ n : Nat, (Gen.Fn.smi_atn_range (n : Int)).length = n ∧ (Gen.Fn.smi_nak_range (n : Int)).length = n :=
  ⟨by decide, by decide, fun n => ⟨range_len n, range_len n⟩⟩

/-- the waiting time after a timeout extension request is the reference `extendedWait` -/
theorem rtox_wait_bridge (v : Nat) (t : Bytes) (rwt : Int) :
    Gen.Fn.smi_rtox_wait_s (v :: t) rwt = .ok (extendedWait v rwt)
    ∧ Gen.Fn.smi_rtox_wait_r (v :: t) rwt = .ok (extendedWait v rwt) :=
  ⟨cutS_sound.wait v t rwt, cutR_sound.wait v t rwt⟩

/-- C07: once the local function RTOX has accepted the peer's timeout extension PDU, `res.data[0] * self.rwt` cannot
raise (no IndexError from an RTOX PDU without data octet), and the granted time is between RWT and 59 RWT -/
theorem gen_rtox_wait_total (data : Bytes) (did nad : Option Nat) (rwt : Int) (hr : 0 ≤ rwt) (r : Rec)
    (h : Gen.Fn.smi_rtox data (oi did) (oi nad) = .ok r) :
    ∃ w, Gen.Fn.smi_rtox_wait_s data rwt = .ok w ∧ Gen.Fn.smi_rtox_wait_r data rwt = .ok w ∧ rwt ≤ w ∧ w ≤ 59 * rwt := by
  rw [rtox_bridge] at h
  cases data with
  | nil => cases h
  | cons v t =>
    simp only at h
    split at h
    · rename_i hv
      exact ⟨_, (rtox_wait_bridge v t rwt).1, (rtox_wait_bridge v t rwt).2, extendedWait_bound v rwt hv hr⟩
    · cases h

/-- C07: whatever the peer puts into a timeout extension PDU, the local function RTOX raises nothing but ProtocolError -/
theorem gen_rtox_safe (data : Bytes) (did nad : Option Nat) :
    Safe (fun e => e = .protocol) (Gen.Fn.smi_rtox data (oi did) (oi nad)) := by
  rw [rtox_bridge]
  match data with
  | [] => exact Safe.throw rfl
  | v :: _ => exact Safe.ite (Safe.ok _) (Safe.throw rfl)

/-! ## `send_req_recv_res`, `activate` -/

/-- `xfer`: `if res.kind ≠ req.kind then .error .protocol` -/
theorem kind_chk_bridge (res req : Kind) (name : String) :
    Gen.Fn.smi_kind_chk (kindName res) (kindName req) name = if res ≠ req then .error .protocol else .ok () := by
  unfold Gen.Fn.smi_kind_chk
  simp only [ne_eq, kindName_inj]

/-- the two asserts of `Initiator.activate` are `Activate.didNadOk` -/
theorem act_asserts_bridge (d : Activate.DepOpts) :
    Gen.Fn.smi_act_asserts d.did d.nad = if Activate.didNadOk d = true then .ok () else .error .assertion := by
  unfold Gen.Fn.smi_act_asserts Activate.didNadOk
  cases d.did with
  | none =>
    cases d.nad with
    | none => rfl
    | some n => by_cases h : (0 ≤ n ∧ n ≤ 255) <;> simp [h]
  | some v =>
    by_cases hv : (0 ≤ v ∧ v ≤ 255)
    · cases d.nad with
      | none => simp [hv]
      | some n => by_cases h : (0 ≤ n ∧ n ≤ 255) <;> simp [hv, h]
    · simp [hv]

theorem act_sel_res_bridge (sel_res : Bytes) :
    Gen.Fn.smi_act_sel_res sel_res = match selResDep sel_res with | none => .error .index | some b => .ok b := by
  unfold Gen.Fn.smi_act_sel_res selResDep
  cases sel_res with
  | nil => simp [getB_nil]
  | cons a t =>
    simp only [getB_zero, Py.bind_ok, List.head?_cons, Option.map_some]
    have e : band (a : Int) 64 = ((a &&& 64 : Nat) : Int) := band_ofNat a 64
    rw [e]
    have h := and_two_pow_mul a 6
    simp only [show (2 : Nat) ^ 6 = 64 from rfl] at h
    rw [h]
    congr 2
    apply propext
    constructor <;> intro h' <;> omega

theorem act_sensf_bridge (sensf_res : Bytes) : Gen.Fn.smi_act_sensf sensf_res = sensfDep sensf_res := by
  unfold Gen.Fn.smi_act_sensf sensfDep
  rw [Bool.decide_eq_true, isPrefixOf_eq_take]
  rfl

/-- the PSL decision (`Activate.handshake`: `psl := decide (brs > f.brty)`) and the condition of the 212F search
(`Activate.discover`: `brs > 0 && air.f212`) -/
theorem act_psl_bridge (brs brty : Nat) :
    Gen.Fn.smi_act_psl (brs : Int) (brty : Int) = pslNeeded brs brty
    ∧ Gen.Fn.smi_act_212 (brs : Int) = decide (brs > 0) := by
  unfold Gen.Fn.smi_act_psl Gen.Fn.smi_act_212 pslNeeded
  constructor <;> (rw [Bool.eq_iff_iff]; simp)

/-- both roles start a data exchange with packet number 0 (`NfcDep.run`: `iApp .. a0 0 []`, `tAccept`: `.first => tRecv c t 0 ..`) -/
theorem first_pni_bridge : Gen.Fn.smi_act_pni = 0 ∧ Gen.Fn.smt_first_pni = 0 := ⟨rfl, rfl⟩

/-! ## Target: remaining pieces -/

/-- the whole Target machine of C04 (repaired variant) runs on the regenerated pieces -/
theorem tgt_rx_bridge (h40 : c.v.f40 = true) (h41 : c.v.f41 = true) (t : TState) (rx : Rx) :
    tRx c t rx = tRxGen c t rx := by
  cases rx with
  | corrupt => rfl
  | frame req =>
    simp only [tRx, tRxGen]
    by_cases hs : t.status ≠ .running
    · rw [if_pos hs, if_pos hs]
    · rw [if_neg hs, if_neg hs]
      cases hl : t.loc <;> cases req <;> simp only [tgt_rx_active_bridge c h40 h41]

/-- RTOX(rtox, self.did, self.nad) of `send_timeout_extension`: the model's timeout extension response; an extension
value that is no octet is a ValueError -/
theorem tgt_rtox_bridge (rtox : Nat) (did : Option Nat) :
    Gen.Fn.smt_rtox (rtox : Int) (oi did) none
      = if rtox < 256 then .ok (((9 : Int), false, did.isSome, (0 : Int)), oi did, none, [rtox]) else .error .value := by
  unfold Gen.Fn.smt_rtox
  -- `bytearray([rtox])` is the octet test of its one element
  rw [mkBytes_cons, PyFn.mkBytes_nil]
  py_nat
  simp only [oi_ne_none]
  rfl

theorem tgt_rtox_pdu (rtox : Nat) (did : Option Nat) :
    recPdu (((9 : Int), false, did.isSome, (0 : Int)), oi did, none, [rtox]) = .dep fTOX 0 did none [rtox] := by
  rw [← oi_ne_none]; exact recPdu_built fTOX 0 did none [rtox]

/-- the call site of RTOX and the test that recognises the Initiator's answer (`DepSmRef.isRtoxResponse`) -/
theorem tgt_rtox_call_bridge (rtox : Int) (did nad : Option Int) (mk : Int → Option Int → Option Int → Int × Option Int × Option Int)
    (isDep : Bool) (fmt : Nat) :
    Gen.Fn.smt_rtox_call rtox did nad mk = mk rtox did nad
    ∧ Gen.Fn.smt_rtox_accept isDep (fmt : Int) = isRtoxResponse isDep fmt := by
  refine ⟨rfl, ?_⟩
  unfold Gen.Fn.smt_rtox_accept isRtoxResponse fTOX
  by_cases h : fmt = 9
  · subst h; cases isDep <;> rfl
  · have : ¬ ((fmt : Int) = 9) := by omega
    cases isDep <;> simp [h, this]

/-- the time the Target waits for the next frame is the reference `remaining` (never negative) -/
theorem tgt_wait_bridge (deadline now : Int) :
    Gen.Fn.smt_wait deadline now = remaining deadline now ∧ 0 ≤ Gen.Fn.smt_wait deadline now :=
  ⟨rfl, (remaining_nonneg deadline now).1⟩

/-- `if frame:`: neither None nor an empty frame is decoded -/
theorem tgt_have_frame_bridge (frame : Option Bytes) :
    Gen.Fn.smt_have_frame frame = match frame with | none => false | some f => decide (f ≠ []) := by
  unfold Gen.Fn.smt_have_frame
  cases frame with
  | none => simp
  | some f => rw [Bool.eq_iff_iff]; simp

/-- `Target._deactivate`: the answer to a DEP_REQ is the reference `deactAnswer`; the two builders -/
theorem tgt_deact_answer_bridge (data : Bytes) (fmt rpni : Nat) (did nad : Option Int)
    (mkatn : Option Int → Option Int → Int) (mkinf : Int → Bytes → Option Int → Option Int → Int) :
    Gen.Fn.smt_deact_answer data (fmt : Int) (rpni : Int) did nad mkatn mkinf
      = match deactAnswer fmt rpni with
        | .atn => mkatn did nad
        | .inf p => mkinf (p : Int) data did nad := by
  unfold Gen.Fn.smt_deact_answer deactAnswer fATN
  by_cases h : fmt = 8
  · subst h; rfl
  · have : ¬ ((fmt : Int) = 8) := by omega
    simp [h, this]

theorem tgt_deact_builders_bridge (pni : Nat) (did : Option Nat) (data : Bytes) :
    recPdu (Gen.Fn.smt_deact_inf (pni : Int) data (oi did) none) = .dep fINF pni did none data
    ∧ recPdu (Gen.Fn.smt_deact_atn (oi did) none) = .dep fATN 0 did none [] :=
  ⟨recPdu_built fINF pni did none data, recPdu_built fATN 0 did none []⟩

/-- `self.acm`: active communication mode iff the driver reports no passive activation -/
theorem tgt_act_acm_bridge (sens sensf : Bytes) : Gen.Fn.smt_act_acm sens sensf = acmOf sens sensf := by
  unfold Gen.Fn.smt_act_acm acmOf
  cases sens <;> cases sensf <;> simp

/-- the first call of `Target.exchange` must not carry data; later calls must not carry an empty payload
(`tRecv`: `if p = [] then die .value`) -/
theorem tgt_first_assert_bridge (sd : Option Bytes) :
    Gen.Fn.smt_first_assert sd = (if sd = none then .ok () else .error .assertion)
    ∧ Gen.Fn.smt_empty_chk sd = (if sd = some [] then .error .value else .ok ()) := by
  unfold Gen.Fn.smt_first_assert Gen.Fn.smt_empty_chk
  cases sd with
  | none => simp
  | some d =>
    cases d with
    | nil => simp [len_eq]
    | cons x xs =>
      have : ¬ ((xs.length : Int) + 1 = 0) := by omega
      simp [len_eq, this]

/-! ## statements of C04 for the regenerated state machines -/

/-- C04 `dep_error_kind_initiator_any_peer` for `exchangeGen`: against ANY peer the only exceptions that leave the
regenerated `Initiator.exchange` are CommunicationError classes -/
theorem gen_exchange_error_kind {σ : Type} (P : Peer σ) (k : Clock σ) (hk : k.Ok) (h26 : c.v.f26 = true) (h27 : c.v.f27 = true)
    (hm : c.imiu + 3 + flag c.idid 1 + flag c.inad 1 ≤ 254)
    (fuel : Nat) (script : List Fault) (s0 : σ) (pni : Nat) (p : Bytes) (hp : p ≠ []) :
    Safe (fun e => isComm e = true ∨ e = .outOfFuel)
      (exchangeGen P c k fuel { script := script, peer := s0, expired := false, wire := [] } pni p).2.2 := by
  rw [← exchange_bridge P c k hk h26 h27]
  exact C04.dep_error_kind_initiator_any_peer P c hm fuel script s0 pni p hp

/-- C04 `dep_retransmission_idempotent` for `tRxGen`: a retransmission, NAK, ATN or corrupted frame never changes the
Target that runs on the regenerated dispatch chain -/
theorem gen_retransmission_idempotent (h40 : c.v.f40 = true) (h41 : c.v.f41 = true) (t : TState) (hl : t.loc ≠ .listen)
    (fmt pni : Nat) (did nad : Option Nat) (data : Bytes)
    (h : fmt = fATN ∨ fmt = fNAK ∨ (fmt ≠ fTOX ∧ t.pni = some pni)) :
    (tRxGen c t (.frame (.dep fmt pni did nad data))).1 = t ∧ (tRxGen c t .corrupt).1 = t := by
  rw [← tgt_rx_bridge c h40 h41, ← tgt_rx_bridge c h40 h41]
  exact C04.dep_retransmission_idempotent c t hl fmt pni did nad data h

/-- C04 `dep_foreign_did_silent` for `tRxGen` -/
theorem gen_foreign_did_silent (h40 : c.v.f40 = true) (h41 : c.v.f41 = true) (t : TState) (req : Pdu)
    (h : req.didAttr ≠ c.tdid) :
    (tRxGen c t (.frame req)).2 = none ∧
    ((tRxGen c t (.frame req)).1 = t ∨ (t.loc = .listen ∧ (tRxGen c t (.frame req)).1 = { t with loc := .first })) := by
  rw [← tgt_rx_bridge c h40 h41]
  exact C04.dep_foreign_did_silent c t req h

/-- C04 `dep_nothing_after_error` for `tRxGen` -/
theorem gen_nothing_after_error (h40 : c.v.f40 = true) (h41 : c.v.f41 = true) (t : TState) (h : t.status ≠ .running)
    (rx : Rx) : tRxGen c t rx = (t, none) := by
  rw [← tgt_rx_bridge c h40 h41]
  exact C04.dep_nothing_after_error c t h rx

/-! ## non-vacuity -/

example : recPdu (Gen.Fn.smi_inf 2 [9, 9] true (some 7) none) = .dep fMORE 2 (some 7) none [9, 9] := by decide +kernel
example : recPdu (Gen.Fn.smi_atn (some 7)) = .dep fATN 0 (some 7) none [] := by decide +kernel
example : Gen.Fn.smi_rtox [60] none none = .error .protocol := by decide +kernel
example : Gen.Fn.smi_rtox [] none none = .error .protocol := by decide +kernel
example : Gen.Fn.smi_timeout 5 10 7 = .ok 3 ∧ Gen.Fn.smi_timeout 5 10 10 = .error .timeout := by decide +kernel
example : (Clock.demo Unit).Ok := Clock.demo_ok Unit
example : (C04.cSmall .repaired (some 3)).v.f26 = true ∧ (C04.cSmall .repaired (some 3)).v.f27 = true := by decide
/-- the regenerated Initiator against a responder that answers the first request with an RTOX PDU without data octet -/
example : (exchangeGen scriptedPeer (C04.cSmall .repaired none) (Clock.demo _) 50
    { script := [], peer := [some (.dep fTOX 0 none none [])], expired := false, wire := [] } 0 [1, 2]).2.2
      = .error .protocol := by decide +kernel
/-- the regenerated Initiator against the regenerated Target: a payload of two chunks, answered by `[0x81]` -/
example : (exchangeGen ⟨tRxGen (C04.cSmall .repaired none)⟩ (C04.cSmall .repaired none) (Clock.demo _) 50
    { script := [], peer := TState.init [[0x81]], expired := false, wire := [] } 0 [1, 2, 3, 4, 5, 6]).2.2
      = .ok [0x81] := by decide +kernel
/-- a duplicate of the accepted request is answered from the saved response, the state is unchanged -/
example :
    let r := tRxGen (C04.cSmall .repaired none) ⟨some 2, .receiving [1], some (.dep fACK 2 none none []), [], [], .running⟩
      (.frame (.dep fMORE 2 none none [7]))
    r.2 = some (.dep fACK 2 none none []) ∧ r.1.loc = .receiving [1] ∧ r.1.pni = some 2 := by decide +kernel
example : Gen.Fn.smt_deact_answer [1] 8 3 none none (fun _ _ => 1) (fun p _ _ _ => 100 + p) = 1
    ∧ Gen.Fn.smt_deact_answer [1] 0 3 none none (fun _ _ => 1) (fun p _ _ _ => 100 + p) = 103 := by decide +kernel
example : Gen.Fn.smi_act_asserts (some 256) none = .error .assertion ∧ Gen.Fn.smi_act_asserts (some 255) (some 0) = .ok () := by
  decide +kernel

end NfcVerif.FnBridge.DepSm
