import NfcVerif.Lemmas.Activate
/-!
# C19 - Peer-to-peer activation negotiates limits both sides then obey

Model: `Model/Activate.lean`.  `activate air given I T nfcid3 rnd6` runs the option handling of
`ContactlessFrontend._llcp_connect -> LogicalLinkController.activate -> nfc.dep.Initiator/Target.activate`
for device `I` (Initiator role) and device `T` (Target role) against each other, through the
octets of ATR_REQ / ATR_RES / PSL_REQ / PSL_RES and of the LLCP parameter TLVs in the general
bytes, and returns what both devices hold afterwards.

* NFC-DEP options `brs lri lrt rwt` are ARBITRARY integers (Python clamps them), `acm` any flag,
  `did`/`nad` any value accepted by the `assert`s of `Initiator.activate` (`didNadOk`);
* LLC options are quantified over the documented range `ValidLlc` (MIU 128..2175, link timeout a
  multiple of 10 ms up to 2550, link service class 0..3), aggregation / security flags and the set
  of registered well-known services are arbitrary; outside that range the counter-example
  theorems at the end show which equalities fail (the model is still tied to the code there);
* the environment (`AirCfg`, a target given by the caller or searched) is arbitrary; the theorems
  speak about every case in which a target is found (`discover ... = (some f, acm)`).
-/
namespace NfcVerif.C19
open NfcVerif NfcVerif.Activate

/-- LLC half, at the level of the general bytes: what `A` takes over from the bytes `B` built is what
`B` announced, for every valid option set of `B` and ANY options of `A`; the bytes are at most 20. -/
theorem negotiated_llc (A B : LlcOpts) (hB : ValidLlc B) :
    ∃ gb, encodeGb (sendPax B) = .ok gb ∧ gb.length ≤ 20 ∧ llcLink A gb = .ok (some (agreed A B)) :=
  Activate.negotiated_llc A B hB

/-- NFC-DEP half, through the bytes of ATR_REQ / ATR_RES / PSL_REQ, for any general bytes that fit
and that the peers accept: any integer option values, any DID/NAD, any start technology. -/
theorem negotiated_dep (I T : Side) (gbI gbT : Bytes) (f : Found) (acm : Bool) (nfcid3 rnd6 : Bytes)
    (h3 : nfcid3.length = 10) (h6 : rnd6.length = 6) (hgI : gbI.length ≤ 48) (hgT : gbT.length ≤ 47)
    (lI lT : LlcHeld) (hlI : llcLink I.llc gbT = .ok (some lI)) (hlT : llcLink T.llc gbI = .ok (some lT)) :
    (handshake I T gbI gbT f acm nfcid3 rnd6).ini = .ok (some (iAgreed I T f acm, some lI)) ∧
    (handshake I T gbI gbT f acm nfcid3 rnd6).tgt = .ok (some (tAgreed I T f, some lT)) := by
  have tI : gbI.take 48 = gbI := List.take_of_length_le hgI
  have tT : gbT.take 47 = gbT := List.take_of_length_le hgT
  have hbrs : clampI 0 2 I.dep.brs ≤ 2 := clampI_le_nat 2 _
  have hlri : clampI 0 3 I.dep.lri ≤ 3 := clampI_le_nat 3 _
  have hlrt : clampI 0 3 T.dep.lrt ≤ 3 := clampI_le_nat 3 _
  have hrwt : clampI 0 14 T.dep.rwt ≤ 14 := clampI_le_nat 14 _
  unfold handshake iAgreed tAgreed
  -- of the clamped options only their ranges matter
  generalize clampI 0 2 I.dep.brs = brs at hbrs ⊢
  generalize clampI 0 3 I.dep.lri = lri at hlri ⊢
  generalize clampI 0 3 T.dep.lrt = lrt at hlrt ⊢
  generalize clampI 0 14 T.dep.rwt = rwt at hrwt ⊢
  have hidt : (nfcid3tOf rnd6).length = 10 := by simp [nfcid3tOf, st, h6]
  have hid : (if f.fsearch then (nfcid3tOf rnd6).take 8 ++ st else nfcid3).length = 10 := by
    split
    · simp [nfcid3tOf, st, h6]
    · exact h3
  have hbr : (if decide (brs > f.brty) then brs else f.brty) = max f.brty brs := by
    by_cases hc : brs > f.brty <;> simp [hc] <;> omega
  have hbt : (if decide (brs > f.brty) then pslBrty (pslReq (didByte I.dep.did) brs lri) else f.brty)
      = max f.brty brs := by
    rw [pslBrty_pslReq _ _ _ hbrs]; exact hbr
  have hini := initiatorSide_spec I acm brs lri (max f.brty brs) (nfcid3tOf rnd6) hidt rwt lrt hrwt hlrt gbT
    (some lI) hlI
  have htgt := targetSide_spec T rwt lrt (max f.brty brs) f.activeMode _ hid (didByte I.dep.did) lri hlri gbI
    I.dep.nad (some lT) hlT
  simp only [tI, tT, hbr, hbt, hini, linked, if_true, htgt, and_self]

/-- **Negotiated limits.** For every option combination on the two devices (see above), every
environment in which the Initiator finds the target at technology `f.brty`, every NFCID3:
both devices activate, and

* each side's LLCP send MIU is the other side's receive MIU (`miu` option),
* each side's receive link timeout is the other side's announced timeout (`lto` option),
* each side's peer service list is the other side's `wks` bitmap, the peer link service class
  is the other side's `lsc`, both see LLCP version 1.3, both agree on data protection,
* the Initiator's NFC-DEP payload limit is `LR(lrt) - 3 - did - nad` with the Target's clamped
  `lrt`, the Target's is `LR(lri) - 3 - did` with the Initiator's clamped `lri`,
* both sides hold the Target's clamped response waiting time index,
* both sides run at the same bit rate: the selected `brs` (clamped) unless the target was found
  at a higher rate, which is then kept. -/
theorem negotiated_limits (air : AirCfg) (given : Option Nat) (I T : Side) (nfcid3 rnd6 : Bytes)
    (h3 : nfcid3.length = 10) (h6 : rnd6.length = 6)
    (hI : ValidLlc I.llc) (hT : ValidLlc T.llc) (hd : didNadOk I.dep = true)
    (f : Found) (acm : Bool) (hf : discover air given I.dep.acm (clampI 0 2 I.dep.brs) = (some f, acm)) :
    ∃ ih il th tl,
      (activate air given I T nfcid3 rnd6).ini = .ok (some (ih, some il)) ∧
      (activate air given I T nfcid3 rnd6).tgt = .ok (some (th, some tl)) ∧
      -- LLCP
      (il.sendMiu : Int) = T.llc.miu ∧ tl.recvMiu = T.llc.miu ∧
      (tl.sendMiu : Int) = I.llc.miu ∧ il.recvMiu = I.llc.miu ∧
      (il.recvLto : Int) = T.llc.lto ∧ tl.sendLto = T.llc.lto ∧
      (tl.recvLto : Int) = I.llc.lto ∧ il.sendLto = I.llc.lto ∧
      il.sendWks = wksOf T.llc.saps ∧ tl.sendWks = wksOf I.llc.saps ∧
      (il.sendLsc : Int) = T.llc.lsc ∧ (tl.sendLsc : Int) = I.llc.lsc ∧
      il.ver = (1, 3) ∧ tl.ver = (1, 3) ∧ il.dpc = tl.dpc ∧
      -- NFC-DEP
      ih.miu = lrTable (clampI 0 3 T.dep.lrt) - 3 - boolBit I.dep.did.isSome 1 - boolBit I.dep.nad.isSome 1 ∧
      th.miu = lrTable (clampI 0 3 I.dep.lri) - 3 - boolBit (didByte I.dep.did > 0) 1 ∧
      ih.wt = clampI 0 14 T.dep.rwt ∧ th.wt = clampI 0 14 T.dep.rwt ∧
      ih.brty = max f.brty (clampI 0 2 I.dep.brs) ∧ th.brty = ih.brty := by
  obtain ⟨gbI, eI, lenI, linkT⟩ := negotiated_llc T.llc I.llc hI
  obtain ⟨gbT, eT, lenT, linkI⟩ := negotiated_llc I.llc T.llc hT
  have key : activate air given I T nfcid3 rnd6 = handshake I T gbI gbT f acm nfcid3 rnd6 := by
    unfold activate
    simp only [eI, eT, hd, not_true_eq_false, if_false, hf]
  obtain ⟨hi, ht⟩ := negotiated_dep I T gbI gbT f acm nfcid3 rnd6 h3 h6 (by omega) (by omega) _ _ linkI linkT
  rw [key]
  obtain ⟨_, _, _, _, _, _, _⟩ := hI
  obtain ⟨_, _, _, _, _, _, _⟩ := hT
  refine ⟨_, _, _, _, hi, ht, ?_⟩
  simp only [agreed, iAgreed, tAgreed]
  -- the local options are kept as they are; what came through the TLVs is read back within the documented range
  exact ⟨by omega, trivial, by omega, trivial, by omega, trivial, by omega, trivial, trivial, trivial, by omega,
    by omega, trivial, trivial, by cases I.llc.sec <;> cases T.llc.sec <;> rfl,
    trivial, trivial, trivial, trivial, trivial, trivial⟩

/-- **Bit rate.** The rate both sides use after activation is the selected `brs` (clamped to 0..2)
whenever the target was found at that rate or below; a target found at a higher rate keeps it; the
result is always one of 106/212/424 when the target was found at one of them. -/
theorem bitrate_selected (I T : Side) (f : Found) (acm : Bool) :
    (iAgreed I T f acm).brty = (tAgreed I T f).brty ∧
    (f.brty ≤ clampI 0 2 I.dep.brs → (iAgreed I T f acm).brty = clampI 0 2 I.dep.brs) ∧
    (clampI 0 2 I.dep.brs ≤ f.brty → (iAgreed I T f acm).brty = f.brty) ∧
    (f.brty ≤ 2 → (iAgreed I T f acm).brty ≤ 2) := by
  have hb : clampI 0 2 I.dep.brs ≤ 2 := clampI_le_nat 2 _
  refine ⟨rfl, ?_, ?_, ?_⟩ <;> intro h <;> simp only [iAgreed] <;> omega

/-- the target search only ever reports one of the three technologies -/
theorem found_technology (air : AirCfg) (given : Option Nat) (acm : Bool) (brs : Nat) (f : Found) (acm' : Bool)
    (hg : ∀ b, given = some b → b ≤ 2) (h : discover air given acm brs = (some f, acm')) : f.brty ≤ 2 := by
  unfold discover at h
  split at h
  · -- a target the caller found at `b`
    rename_i b
    split at h
    · cases h
      exact hg b rfl
    · cases h
  · split at h
    · -- active mode: 106A
      cases h
      exact Nat.zero_le 2
    · split at h
      · -- passive mode, 106A
        cases h
        exact Nat.zero_le 2
      · split at h
        · -- passive mode, 212F
          cases h
          exact Nat.le_succ 1
        · cases h

/-- **PAX round trip.** Every parameter set whose values fit their TLV fields is encoded (at most
17 octets) and decoded back unchanged. -/
theorem pax_roundtrip (p : Pax) (h : Pax.WF p) :
    ∃ t, encodeTlvs p = .ok t ∧ t.length ≤ 17 ∧ decodeTlvs t = .ok p := by
  obtain ⟨t, h1, h2, _, h4⟩ := Activate.pax_roundtrip p h
  exact ⟨t, h1, h2, h4⟩

/-- the general bytes of ANY option set (valid or not) that can be encoded are at most 20 octets:
the slices `gbi[0:48]` / `gbt[0:47]` never cut a TLV and ATR_REQ / ATR_RES stay below 64 octets -/
theorem gb_never_truncated (o : LlcOpts) (gb : Bytes) (h : encodeGb (sendPax o) = .ok gb) :
    gb.length ≤ 20 ∧ gb.take 48 = gb ∧ gb.take 47 = gb ∧
    ∀ id did pp, id.length = 10 → (atrReq id did pp gb).length ≤ 64 ∧ (atrRes id did pp gb).length ≤ 64 := by
  have hl := gb_length h
  refine ⟨hl, List.take_of_length_le (by omega), List.take_of_length_le (by omega), ?_⟩
  intro id did pp hid
  simp [atrReq, atrRes, hid]; omega

/-- ATR_REQ / ATR_RES round trip for every 10-octet NFCID3 and every field value -/
theorem atr_roundtrip (id : Bytes) (h : id.length = 10) (a pp : Nat) (gb : Bytes) :
    decodeAtrReq (atrReq id a pp gb) = .ok ⟨id, a, pp, if pp &&& 2 ≠ 0 then gb else []⟩ ∧
    decodeAtrRes (atrRes id a pp gb) = .ok ⟨id, a, pp, if pp &&& 2 ≠ 0 then gb else []⟩ :=
  ⟨decodeAtrReq_atrReq id h a pp gb, decodeAtrRes_atrRes id h a pp gb⟩

/-- option clamping: any integer ends in range, values in range are kept, values outside go to the
nearest bound -/
theorem clamp_range (hi : Nat) (x : Int) :
    clampI 0 hi x ≤ hi ∧ (0 ≤ x → x ≤ hi → (clampI 0 hi x : Int) = x) ∧
    (x ≤ 0 → clampI 0 hi x = 0) ∧ ((hi : Int) ≤ x → clampI 0 hi x = hi) := by
  unfold clampI
  refine ⟨by omega, ?_, ?_, ?_⟩ <;> intros <;> omega

/-- **Later traffic.** With the payload limits held after activation, every information frame either
side builds for ANY amount of data fits the length reduction the receiver announced:
Initiator frames (with DID and NAD octets as configured) fit `LR(lrt)`, Target frames (DID octet when
the ATR_REQ assigned one, never a NAD) fit `LR(lri)`. -/
theorem later_traffic_within (I T : Side) (f : Found) (acm : Bool) (n : Nat) :
    infLen I.dep.did.isSome I.dep.nad.isSome (chunk (iAgreed I T f acm).miu n) ≤ lrTable (clampI 0 3 T.dep.lrt) ∧
    infLen (decide (didByte I.dep.did > 0)) false (chunk (tAgreed I T f).miu n) ≤ lrTable (clampI 0 3 I.dep.lri) := by
  constructor
  · exact inf_within _ _ _ n
  · have := inf_within (clampI 0 3 I.dep.lri) (decide (didByte I.dep.did > 0)) false n
    simpa [tAgreed, boolBit] using this

/-- taking over ANY peer general bytes never raises: `llc.activate` ends with a configuration or
with "no link" (returns False); a malformed parameter list gives "no link" -/
theorem llc_decode_documented (o : LlcOpts) (gb : Bytes) : ∃ r, llcLink o gb = .ok r := by
  unfold llcLink
  split
  · cases h : decodeTlvs (gb.drop 3) with
    | ok r => exact ⟨_, rfl⟩
    | error e =>
      -- the loop raises DecodeError only, which `llc.activate` catches
      have := paxLoop_safe _ _ _ e h
      subst this
      exact ⟨none, rfl⟩
  · exact ⟨none, rfl⟩

/-! ## why the LLC option range is a hypothesis -/

def optsA : LlcOpts := ⟨248, 500, 3, true, false, [1]⟩

/-- `miu=100` (below the documented minimum) is announced as 128: the peer's send MIU exceeds what the
device accepts -/
theorem miu_below_128_counterexample :
    ∃ gb h, encodeGb (sendPax { optsA with miu := 100 }) = .ok gb ∧ llcLink optsA gb = .ok (some h) ∧
      h.sendMiu = 128 := by
  refine ⟨_, _, rfl, rfl, rfl⟩

/-- `lto=505` is announced as 500 ms: the link timeout travels in units of 10 ms -/
theorem lto_granularity_counterexample :
    ∃ gb h, encodeGb (sendPax { optsA with lto := 505 }) = .ok gb ∧ llcLink optsA gb = .ok (some h) ∧
      h.recvLto = 500 := by
  refine ⟨_, _, rfl, rfl, rfl⟩

/-- open finding `did0-no-exchange-after-activation`: with `did=0` the Initiator keeps a device identifier
(its requests carry the DID octet 00) while the Target holds none, so the Target drops every request -/
theorem did_zero_counterexample (I T : Side) (f : Found) (acm : Bool) (h : I.dep.did = some 0) :
    (iAgreed I T f acm).did = some 0 ∧ (tAgreed I T f).did = none := by
  simp [iAgreed, tAgreed, h, didByte]

/-- for every other DID the two sides agree on it -/
theorem did_agreement_partial (I T : Side) (f : Found) (acm : Bool) (h : I.dep.did ≠ some 0)
    (hd : didNadOk I.dep = true) :
    (tAgreed I T f).did.map Int.ofNat = (iAgreed I T f acm).did := by
  unfold didNadOk at hd
  cases hdid : I.dep.did with
  | none => simp [iAgreed, tAgreed, hdid, didByte]
  | some v =>
    rw [hdid] at hd h
    simp only [Bool.and_eq_true, decide_eq_true_eq] at hd
    have hv : v ≠ 0 := fun e => h (by rw [e])
    have : v.toNat > 0 := by omega
    simp [iAgreed, tAgreed, hdid, didByte, this]
    omega

/-! ## Non-vacuity -/

def sideI : Side := ⟨⟨2, 1, 3, 8, false, none, none⟩, ⟨1000, 300, 3, true, false, [1]⟩⟩
def sideT : Side := ⟨⟨0, 3, 2, 9, true, none, none⟩, ⟨2175, 1000, 3, true, false, [1, 4]⟩⟩
def airAll : AirCfg := ⟨true, true, true, false⟩

example : ValidLlc sideI.llc ∧ ValidLlc sideT.llc ∧ didNadOk sideI.dep = true := by decide
example : discover airAll none sideI.dep.acm (clampI 0 2 sideI.dep.brs) = (some ⟨0, false, false⟩, false) := by decide
/-- found at 106A, PSL to 424F, LR 192 from the Target, LR 128 from the Initiator -/
example : (iAgreed sideI sideT ⟨0, false, false⟩ false).miu = 189 ∧ (tAgreed sideI sideT ⟨0, false, false⟩).miu = 125
    ∧ (iAgreed sideI sideT ⟨0, false, false⟩ false).brty = 2 := by decide
example : Pax.WF (sendPax sideT.llc) := sendPax_wf _ (by decide)
example : (sendPax sideT.llc) = ⟨some 0x13, some 2047, some 19, some 100, some 3⟩ := by decide
/-- out-of-range values are clamped, not rejected -/
example : clampI 0 2 7 = 2 ∧ clampI 0 3 (-2) = 0 ∧ clampI 0 14 99 = 14 := by decide
/-- malformed peer general bytes: no link, nothing raised; well-formed ones: a configuration -/
example : llcLink optsA [0x46, 0x66, 0x6D, 1, 2, 0x13, 0] = .ok none := by decide
example : (llcLink optsA [0x46, 0x66, 0x6D, 1, 1, 0x13, 2, 2, 0, 120]).toOption.join.map (·.sendMiu) = some 248 := by decide

end NfcVerif.C19
