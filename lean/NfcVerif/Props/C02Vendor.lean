import NfcVerif.Props.C02T34
import NfcVerif.Lemmas.T3Vendor
/-!
# C02, part vendor - the reader side of the Type 3 commit protocol in every class that overrides it

`T3V.seeV p auth ⟨mem, mcRw, mcRd⟩` (`Model/T3Vendor.lean`): what a fresh `tag.ndef` of product class `p`
(`generic`: Type3Tag / FelicaStandard / FelicaMobile / FelicaPlug, `lite`: FelicaLite, `liteS`: FelicaLiteS) reports,
read without (`auth = false`) or after a successful `tag.authenticate()` (`auth = true`: MAC verified reads, on a
Lite-S also external authentication), on a card with the blocks `mem` and the memory configuration fields
`MC_SP_REG_ALL_RW = mcRw`, `MC_SP_REG_R_RESTR = mcRd`.  The override of `_read_attribute_data` is the function
`T3V.override` of (product, authenticated?, MC, base class result).
-/
namespace NfcVerif.C02Vendor
open NfcVerif NfcVerif.T34 NfcVerif.Hist NfcVerif.T3V

/-- **Cut safety for every vendor reader (full).**  For every well-formed layout, every old and new message, EVERY
cut point `k` of the write, every product class, BOTH reader states (plain, authenticated) and every memory
configuration of the card: the fresh reader finds no NDEF, or sees the old message, an empty message, a not-readable
area or the complete new message. -/
theorem t3_vendor_cut_safe (p : Product) (auth : Bool) (mcRw mcRd : Nat) (m data : Bytes) (a : T3.Attr)
    (wf : T3.WF m a) (hlen : data.length ≤ 16 * a.nmaxb) (sOld : Seen) (hold : T3.see m = .ok (some sOld)) (k : Nat)
    (hk : k ≤ (T3.planWrite a data).length) :
    ∃ r, seeV p auth ⟨T3.applyW m ((T3.planWrite a data).take k), mcRw, mcRd⟩ = .ok r ∧ Outcome sOld.data data r := by
  obtain ⟨a', wf', -⟩ := prefix_wf m data a wf hlen k hk
  obtain ⟨r, hr, ho⟩ := T3.cut_safe m data a wf hlen sOld hold k hk
  rcases seeV_vs_see p auth ⟨T3.applyW m ((T3.planWrite a data).take k), mcRw, mcRd⟩ a' wf' with h | ⟨s, w, hs, h⟩
  · exact ⟨none, h, by simp [Outcome]⟩
  · refine ⟨_, h, ?_⟩
    simp only [] at hs
    rw [hs] at hr
    cases hr
    simpa [Outcome] using ho

/-- **The overrides never touch the commit marker.**  On a well-formed memory every vendor reader in either state
finds no NDEF or reports capacity, octets and - in particular - `readable` of the generic reader
(`WriteF = 0 ∧ Nbr > 0`); only `writeable` may differ. -/
theorem t3_vendor_view_refines_generic (p : Product) (auth : Bool) (c : Card) (a : T3.Attr) (wf : T3.WF c.mem a) :
    seeV p auth c = .ok none ∨
    ∃ s w, T3.see c.mem = .ok (some s) ∧ seeV p auth c = .ok (some { s with writeable := w }) :=
  seeV_vs_see p auth c a wf

/-- a write in progress (`WriteF ≠ 0` in a well-formed attribute block) is reported as not readable by every reader -/
theorem t3_vendor_writeflag_respected (p : Product) (auth : Bool) (c : Card) (a : T3.Attr) (wf : T3.WF c.mem a)
    (hf : a.writef ≠ 0) (s : Seen) (hs : seeV p auth c = .ok (some s)) : s.readable = false := by
  rcases seeV_view p auth c a wf with h | ⟨w, h⟩
  · rw [h] at hs; cases hs
  · rw [h] at hs; cases hs; simp [hf]

/-- **Not vacuous: a reader the card answers sees the generic view.**  When no read restriction stands in the way
(`generic` products, authenticated Lite-S readers, `MC_SP_REG_R_RESTR` without a bit on a user block) and the
portions fit a FeliCa Lite answer (`Nbr` after the override plus the MAC block at most 4), the vendor view is the
generic view with the `writeable` flag of the override. -/
theorem t3_vendor_answered (p : Product) (auth : Bool) (c : Card) (a : T3.Attr) (wf : T3.WF c.mem a)
    (hn : p = .generic ∨ (override p auth c.mcRw a (baseFlags a)).1.nbr + (if auth then 1 else 0) ≤ 4)
    (hr : p = .liteS → auth = false → ∀ first n, anyRestricted c.mcRd first n = false) :
    seeV p auth c = .ok (some ⟨(a.nmaxb * 16 : Nat), decide (a.writef = 0 ∧ a.nbr > 0),
      (override p auth c.mcRw a (baseFlags a)).2.writeable,
      (sliceN c.mem 16 (16 * (1 + (a.ln + 15) / 16))).take a.ln⟩) := by
  have hmem := wf.mem
  have hln := wf.ln
  have hnm := wf.range.nmaxb
  obtain ⟨hv, hl, hnn, hb, hrd⟩ := override_fields p auth c.mcRw a (baseFlags a)
  have hnbr : 1 ≤ min (override p auth c.mcRw a (baseFlags a)).1.nbr 15 ∧
      min (override p auth c.mcRw a (baseFlags a)).1.nbr 15 ≤ 80 := by
    have := wf.nbr
    rcases hb with hb | hb <;> rw [hb] <;> omega
  have hcr : ∀ i n, n ≤ min (override p auth c.mcRw a (baseFlags a)).1.nbr 15 →
      cardRead p auth c i n = T3.readBlocks c.mem i n := by
    intro i n hle
    unfold cardRead
    rw [if_neg (by
      rintro ⟨hp, hgt⟩
      rcases hn with hn | hn
      · exact hp hn
      · omega)]
    rw [if_neg (by
      rintro ⟨hp, ha, hres⟩
      rw [hr hp ha i n] at hres
      cases hres)]
  unfold seeV readNdefV
  rw [hcr 0 1 (by omega), T3.readBlocks_ok c.mem 0 1 (by omega) (by omega) (by omega)]
  simp only [Nat.mul_zero, Nat.zero_add, Nat.mul_one, sliceN_zero_take, wf.dec, Py.bind_ok]
  rw [hv, hl, hnn]
  rw [if_neg (by have := wf.ver; omega), if_neg (by omega), if_neg (by omega)]
  rw [T3.readLoopV_spec _ c.mem _ _ hnbr.1 (fun i n _ h2 h3 h4 => by
    rw [hcr i n h3]; exact T3.readBlocks_ok c.mem i n ⟨h2, by omega⟩ (by omega) (by omega)) _ 1 [] (by omega) (by omega)
    (by omega)]
  simp only [Py.bind_ok, Option.map, List.nil_append, hrd, Nat.mul_one]
  rfl

/-- **Histories (full).**  After EVERY history of assignments through one tag object with faults of both kinds
(`Hist.t3History`) every vendor reader in either state finds no NDEF, or what the activation saw, or a not-readable
area, or the COMPLETE message of one of the attempts. -/
theorem t3_vendor_history_cut_safe (p : Product) (auth : Bool) (mcRw mcRd : Nat) (m : Bytes) (a : T3.Attr)
    (wf : T3.WF m a) (seen : Seen) (hseen : T3.see m = .ok (some seen)) (hs : List (Bytes × Option Fault)) :
    seeV p auth ⟨(t3History seen m hs).1, mcRw, mcRd⟩ = .ok none ∨
    ∃ s, seeV p auth ⟨(t3History seen m hs).1, mcRw, mcRd⟩ = .ok (some s) ∧
      ((s.capacity = seen.capacity ∧ s.readable = seen.readable ∧ s.data = seen.data) ∨ s.readable = false ∨
        (s.data ∈ sentMsgs34 seen.capacity hs ∧ s.readable = true ∧ s.capacity = seen.capacity)) := by
  obtain ⟨a', wf', _⟩ := t3History_inv seen a (t3_seen wf hseen).1 hs m (T3Inv.init wf)
  obtain ⟨s0, h0, hc⟩ := C02T34.t3_history_cut_safe m a wf seen hseen hs
  rcases seeV_vs_see p auth ⟨(t3History seen m hs).1, mcRw, mcRd⟩ a' wf' with h | ⟨s, w, hsee, h⟩
  · exact Or.inl h
  · refine Or.inr ⟨_, h, ?_⟩
    simp only [] at hsee
    rw [hsee] at h0
    cases h0
    rcases hc with rfl | hc | hc
    · exact Or.inl ⟨rfl, rfl, rfl⟩
    · exact Or.inr (Or.inl hc)
    · exact Or.inr (Or.inr hc)

/-! Non-vacuity on `C01T34.exM` (old message `01..05`, Nbr 4): the write of `05 06` is cut after two of its three
commands.  An authenticated Lite-S reader sees `WriteF = 0Fh` - not readable (and, with `MC_SP_REG_ALL_RW = 01FFh`,
not writeable); a plain reader of a Lite-S whose block 1 is read restricted finds no NDEF; the complete write is
read back by the authenticated reader. -/
example : seeV .liteS true ⟨T3.applyW C01T34.exM ((T3.planWrite C01T34.exA [5, 6]).take 2), 0x01FF, 0⟩
    = .ok (some ⟨32, false, false, [5, 6, 0, 0, 0]⟩) := by decide
example : seeV .liteS false ⟨T3.applyW C01T34.exM ((T3.planWrite C01T34.exA [5, 6]).take 2), 0xFFFF, 2⟩
    = .ok none := by decide
example : seeV .liteS true ⟨T3.applyW C01T34.exM ((T3.planWrite C01T34.exA [5, 6]).take 3), 0xFFFF, 2⟩
    = .ok (some ⟨32, true, true, [5, 6]⟩) := by decide
example : ∃ r, seeV .lite true ⟨T3.applyW C01T34.exM ((T3.planWrite C01T34.exA [5, 6]).take 2), 0xFFFF, 0⟩ = .ok r ∧
    Outcome [1, 2, 3, 4, 5] [5, 6] r :=
  t3_vendor_cut_safe _ _ _ _ _ _ _ C01T34.exWF3 (by decide) ⟨32, true, true, [1, 2, 3, 4, 5]⟩ (by decide) 2 (by decide)
example : seeV .lite true ⟨C01T34.exM, 0xFFFF, 0⟩ = .ok (some ⟨32, true, true, [1, 2, 3, 4, 5]⟩) :=
  t3_vendor_answered .lite true ⟨C01T34.exM, 0xFFFF, 0⟩ C01T34.exA C01T34.exWF3 (Or.inr (by decide))
    (fun h => by cases h)
/-- the override that reports "readable whenever Nbr > 0" to an authenticated reader (seed C02-r4m3) is refuted by
`t3_vendor_writeflag_respected`: the attribute block of the cut state carries `WriteF = 0Fh` -/
example : ∀ s, seeV .liteS true ⟨T3.applyW C01T34.exM ((T3.planWrite C01T34.exA [5, 6]).take 2), 0xFFFF, 0⟩ = .ok (some s) →
    s.readable = false := by
  intro s hs
  have h : seeV .liteS true ⟨T3.applyW C01T34.exM ((T3.planWrite C01T34.exA [5, 6]).take 2), 0xFFFF, 0⟩
      = .ok (some ⟨32, false, true, [5, 6, 0, 0, 0]⟩) := by decide
  rw [h] at hs; cases hs; rfl

/-! ## Type 4: a reader that cached the capability container before the write

`tag.ndef.has_changed` on an object created BEFORE the write runs `_read_ndef_data` without `_discover_ndef`
(`hasattr(self, "_ndef_file")`): file id, NLEN size, MLe, capacity and the access flags are the cached ones. -/

/-- `_read_ndef_data` of an object that holds the discovered values `i` -/
def readCached (i : T4.Info) (c : T4.Card) : Py (Option Seen) :=
  T4.catchTag (
    if i.fid ≠ c.fid then .ok none else
    T4.readBinary c c.file i.maxLe 0 i.nlenSize >>= fun nl =>
    if nl.length ≠ i.nlenSize then .ok none else
    T4.readLoop c i (beNat nl) (beNat nl + 1) [] >>= fun d =>
    .ok (some { info := i, seen := { capacity := i.capacity, readable := i.readable,
                                      writeable := i.writeable, data := d } : T4.Ndef }))
  >>= fun o => .ok (o.map (·.seen))

/-- a write never touches the capability container: whatever the file holds afterwards, the reader with the cached
values sees exactly what a fresh reader sees -/
theorem t4_cached_reader_is_fresh (v : T4.Variant) (c : T4.Card) (i : T4.Info) (hi : T4.discover v c = .ok (some i))
    (f : Bytes) : readCached i { c with file := f } = T4.see v { c with file := f } := by
  unfold readCached T4.see T4.readNdef
  rw [T4.discover_file, hi]
  rfl

/-- **Type 4 cut safety for the cached reader** (`NLEN size ≤ MLc`): after every cut of a write the reader that looked
at the tag before the write sees the old message, an empty message or the complete new message. -/
theorem t4_cached_reader_cut_safe (v : T4.Variant) (c : T4.Card) (i : T4.Info) (data : Bytes) (wf : T4.WF v c i)
    (hlen : (data.length : Int) ≤ i.capacity) (hmlc : i.nlenSize ≤ i.maxLc)
    (sOld : Seen) (hold : T4.see v c = .ok (some sOld)) (k : Nat) (hk : k ≤ (T4.planWrite v i data).length) :
    ∃ r, readCached i { c with file := T4.applyU c.file ((T4.planWrite v i data).take k) } = .ok r ∧
      Outcome sOld.data data r := by
  rw [t4_cached_reader_is_fresh v c i wf.disc]
  exact C02T34.t4_cut_safe v c i data wf hlen hmlc sOld hold k hk

example : ∃ r, readCached C02T34.exInfo { C01T34.exCard with
      file := T4.applyU C01T34.exCard.file ((T4.planWrite .repaired C02T34.exInfo [5]).take 1) } = .ok r ∧
    Outcome [7, 8] [5] r :=
  t4_cached_reader_cut_safe _ _ _ _ C01T34.exWF4 (by decide) (by decide) ⟨18, true, true, [7, 8]⟩ (by decide) 1 (by decide)

end NfcVerif.C02Vendor
