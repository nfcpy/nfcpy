import NfcVerif.Props.C03
import NfcVerif.Lemmas.CtlC03
/-!
# C03 - control TLV field space, vendor `format()`, `protect()`

Model: `NfcVerif.Model.CtlC03` (on top of `Model/Tlv.lean`).

* `specFirst` / `specBits` / `specCount` are the NFC Forum definition of the Lock Control / Memory
  Control TLV value field (`PageAddr * 2^BytesPerPage + ByteOffset`; size field `00h` = 256; lock BITS
  rounded up to bytes); `ctlRange` is the transcription of `get_lock_byte_range` /
  `get_rsvd_byte_range` of `tt1.py` / `tt2.py`.
* `chainParse` describes a TLV area that consists of Lock / Memory Control TLVs and NULL TLVs in any
  number and order followed by the NDEF TLV; `chainOk` adds that no declared range falls on that
  structure up to the NDEF TLV's length byte (the property's "anywhere except on the NDEF TLV's own
  tag and length-field bytes").
-/
namespace NfcVerif.C03Ctl
open NfcVerif NfcVerif.Tlv

/-- **Range decoding, whole field space**: for every value field `d0 d1 d2 ...` of a Lock Control
(`lock = true`) or Memory Control TLV and every clipping limit, the reader's range function returns
exactly the bytes the specification declares (below the limit) - no hypothesis on the field values. -/
theorem ctlRange_spec (lock : Bool) (limit d0 d1 d2 : Nat) (rest : Bytes) :
    ∃ rg, ctlRange lock limit (d0 :: d1 :: d2 :: rest) = .ok rg ∧
      ∀ a, inSkip [rg] a = true ↔
        (specFirst d0 d2 ≤ a ∧ a < specFirst d0 d2 + specCount lock d1 ∧ a < limit) :=
  ⟨_, ctlRange_eq lock limit d0 d1 d2 rest, fun a => range_mem limit (lock, d0, d1, d2) a⟩

/-- **Size field `00h` means 256**: 32 lock bytes resp. 256 reserved bytes are put into the skip set. -/
theorem ctlRange_size_zero (lock : Bool) (limit d0 d2 : Nat) (rest : Bytes) :
    ∃ rg, ctlRange lock limit (d0 :: 0 :: d2 :: rest) = .ok rg ∧
      ∀ a, inSkip [rg] a = true ↔
        (specFirst d0 d2 ≤ a ∧ a < specFirst d0 d2 + (if lock then 32 else 256) ∧ a < limit) := by
  refine ⟨_, ctlRange_eq lock limit d0 0 d2 rest, fun a => ?_⟩
  rw [range_mem]
  cases lock <;> simp [specCount, specBits]

/-- **Byte counts**: every size field value declares at least one byte; a Lock Control TLV at most 32,
a Memory Control TLV at most 256; the lock bytes hold all lock bits and no whole byte more (`+7 // 8`). -/
theorem ctlRange_count_bounds (lock : Bool) (d1 : Nat) (h : d1 < 256) :
    1 ≤ specCount lock d1 ∧ specCount true d1 ≤ 32 ∧ specCount false d1 ≤ 256
    ∧ specBits d1 ≤ 8 * specCount true d1 ∧ 8 * specCount true d1 < specBits d1 + 8 := by
  unfold specCount specBits
  by_cases h0 : d1 = 0
  · subst h0; cases lock <;> simp
  · cases lock <;> simp [h0] <;> omega

/-- **The reader reserves what the TLVs declare**: when the TLV area is a chain of control / NULL TLVs
(any number, any field values) whose declared ranges stay off the structure up to the NDEF TLV's
length byte, the layout computed by `_read_ndef_data` has the NDEF TLV where the chain ends, its skip
set is exactly the static lock bytes plus the specified ranges in TLV order, and the image is
well-formed (`WF`, the hypothesis of the confinement theorems of `Props/C03`). -/
theorem ctl_walk_reserves (c : Cfg) (m : Bytes) (L : Layout) (cs : List Ctl) (off : Nat)
    (hc : c.ccBase + 4 ≤ c.dataStart ∧ 0 < c.unit)
    (hread : readNdef c m = .ok (some L)) (hlen : L.areaEnd ≤ m.length)
    (hchain : chainParse m (L.areaEnd + 1) c.dataStart = some (cs, off))
    (hok : chainOk c m L.areaEnd = true) :
    L.off = off ∧ L.skip = c.initSkip L.areaEnd ++ cs.map (Ctl.range c.limit) ∧ WF c m L :=
  chain_wf c m L cs off hc hread hlen hchain hok

/-- **Declared bytes keep their values**: under the hypotheses of `ctl_walk_reserves`, every byte that
any of the control TLVs declares (lock bytes of a Lock Control TLV, reserved bytes of a Memory Control
TLV - inside, straddling or beyond the data area, overlapping or not) has the same value in all images
that reach the tag during an NDEF write of any message up to the capacity, and after
`Type2Tag.format` with or without wipe. -/
theorem ctl_bytes_kept (c : Cfg) (m : Bytes) (L : Layout) (cs : List Ctl) (off : Nat)
    (hc : c.ccBase + 4 ≤ c.dataStart ∧ 0 < c.unit)
    (hread : readNdef c m = .ok (some L)) (hlen : L.areaEnd ≤ m.length)
    (hchain : chainParse m (L.areaEnd + 1) c.dataStart = some (cs, off))
    (hok : chainOk c m L.areaEnd = true)
    (t : Ctl) (ht : t ∈ cs) (x : Nat)
    (h1 : specFirst t.2.1 t.2.2.2 ≤ x) (h2 : x < specFirst t.2.1 t.2.2.2 + specCount t.1 t.2.2.1)
    (hlim : x < c.limit) :
    (∀ data : Bytes, (data.length : Int) ≤ L.cap → Hdr3 L data.length →
      ∃ ph, writeNdef c m L data = .ok ph ∧
        ph.m1[x]? = m[x]? ∧ ph.m2[x]? = m[x]? ∧ ph.m3a[x]? = m[x]? ∧ ph.m3[x]? = m[x]?)
    ∧ (∀ wipe m', L.off + 1 < L.areaEnd → formatT2 m L wipe = .ok m' → m'[x]? = m[x]?) := by
  obtain ⟨_, hskip, hwf⟩ := chain_wf c m L cs off hc hread hlen hchain hok
  have hna := chain_not_area c L cs hskip t ht x h1 h2 hlim
  refine ⟨fun data hcap h3 => ?_, fun wipe m' hh hf => ?_⟩
  · obtain ⟨ph, hw, _, hx⟩ := C03.t12_write_confined c m L data hread hwf hcap h3
    exact ⟨ph, hw, hx x hna⟩
  · exact (C03.t2_format_confined m m' L wipe hwf.2.2.2.2.2 hh hf).2.1 x hna

/-- **Topaz / Topaz-512 format with a `version` argument**: on a tag that carries the factory NDEF
management data (any minor version in the CC) `format(version, wipe)` either refuses (major version
not 1: `None` = nothing is handed to `synchronize()`, no command is sent) or changes, outside the NDEF
area, only the version byte 9 of the capability container, which then holds `version`; every write
command covers byte 9 or a byte of the area. -/
theorem t1_format_version_confined (m : Bytes) (version wipe : Option Nat) (r : Option Bytes)
    (hver : version = none → m[9]? = some 0x10) :
    ((∀ i, i < 5 → i ≠ 1 → m[8 + i]? = topazHdr[i]?) → formatTopazV m version wipe = .ok r →
      match r with
      | none => ∃ v, version = some v ∧ v / 16 ≠ 1
      | some m' => m'.length = m.length ∧
          (∀ x, m'[x]? ≠ m[x]? → (x = 9 ∧ version ≠ none) ∨ Area topazLayout x) ∧
          (∀ v, version = some v → m'[9]? = some v) ∧
          ∀ cmd ∈ diffUnits 1 m m', ∃ x, cmd.1 ≤ x ∧ x < cmd.1 + cmd.2.length ∧
            ((x = 9 ∧ version ≠ none) ∨ Area topazLayout x))
    ∧ ((∀ i, i < 15 → i ≠ 1 → m[8 + i]? = topaz512Hdr[i]?) → formatTopaz512V m version wipe = .ok r →
      match r with
      | none => ∃ v, version = some v ∧ v / 16 ≠ 1
      | some m' => m'.length = m.length ∧
          (∀ x, m'[x]? ≠ m[x]? → (x = 9 ∧ version ≠ none) ∨ Area topaz512Layout x) ∧
          (∀ v, version = some v → m'[9]? = some v) ∧
          ∀ cmd ∈ diffUnits 8 m m', ∃ x, cmd.1 ≤ x ∧ x < cmd.1 + cmd.2.length ∧
            ((x = 9 ∧ version ≠ none) ∨ Area topaz512Layout x)) := by
  constructor
  · intro hfac h
    have := formatTopazV_spec m version wipe r hfac hver h
    cases r with
    | none => exact this
    | some m' =>
      obtain ⟨hl, hc, hv⟩ := this
      exact ⟨hl, hc, hv, Chg.covers ⟨hl, hc⟩ 1⟩
  · intro hfac h
    have := formatTopaz512V_spec m version wipe r hfac hver h
    cases r with
    | none => exact this
    | some m' =>
      obtain ⟨hl, hc, hv⟩ := this
      exact ⟨hl, hc, hv, Chg.covers ⟨hl, hc⟩ 8⟩

/-- **`_format` of the NTAG203 / NTAG21x classes** (`f` = the 8 factory bytes of pages 4 and 5).
With NDEF management data present it is `Type2Tag._format` (erase, confined to the area by
`t2_format_confined`).  Without, exactly two WRITE commands for pages 4 and 5 are sent first: they
change bytes 16..23 only; `Type2Tag._format` then runs on the result, and all changes together lie in
bytes 16..23 or in the NDEF area of the restored layout - never in the identifier, the capability
container, a reserved range or behind the data area. -/
theorem nxp_format_confined (f m : Bytes) (wipe : Option Nat) :
    (∀ L, readNdefT2 m = .ok (some L) → formatNxp f m wipe = formatT2Out m wipe ∧
      (L.writeable = true → inSkip L.skip (L.off + 1) = false → L.off + 1 < L.areaEnd →
        ∀ m', formatT2 m L wipe = .ok m' →
          formatNxp f m wipe = ⟨diffUnits 4 m m', .ok true⟩ ∧ m'.length = m.length ∧
          (∀ x, ¬ Area L x → m'[x]? = m[x]?) ∧
          ∀ cmd ∈ diffUnits 4 m m', ∃ x, cmd.1 ≤ x ∧ x < cmd.1 + cmd.2.length ∧ Area L x))
    ∧ (readNdefT2 m = .ok none → ∀ m4 m5, writePage m 4 (f.take 4) = .ok m4 →
        writePage m4 5 ((f.drop 4).take 4) = .ok m5 →
        m5.length = m.length ∧ (∀ x, m5[x]? ≠ m[x]? → 16 ≤ x ∧ x < 24) ∧
        ∀ L', readNdefT2 m5 = .ok (some L') → L'.writeable = true → inSkip L'.skip (L'.off + 1) = false →
          L'.off + 1 < L'.areaEnd → ∀ m'', formatT2 m5 L' wipe = .ok m'' →
            formatNxp f m wipe = ⟨[(16, f.take 4), (20, (f.drop 4).take 4)] ++ diffUnits 4 m5 m'', .ok true⟩ ∧
            apply m ([(16, f.take 4), (20, (f.drop 4).take 4)] ++ diffUnits 4 m5 m'') = m'' ∧
            ∀ x, m''[x]? ≠ m[x]? → (16 ≤ x ∧ x < 24) ∨ Area L' x) := by
  refine ⟨fun L hr => ⟨formatNxp_present f m wipe L hr, fun hw hs1 h1 m' hf => ?_⟩, fun hn m4 m5 h4 h5 => ?_⟩
  · obtain ⟨hl, hc, hcm⟩ := C03.t2_format_confined m m' L wipe hs1 h1 hf
    exact ⟨by rw [formatNxp_present f m wipe L hr, formatT2Out_ok m wipe L m' hr hw hf], hl, hc, hcm⟩
  · obtain ⟨heq, hap, hc5⟩ := formatNxp_blank f m wipe m4 m5 hn h4 h5
    refine ⟨hc5.length, fun x => hc5.of_ne, fun L' hr' hw hs1 h1 m'' hf => ?_⟩
    obtain ⟨hl, hc, _⟩ := C03.t2_format_confined m5 m'' L' wipe hs1 h1 hf
    have hout := formatT2Out_ok m5 wipe L' m'' hr' hw hf
    refine ⟨by rw [heq, hout], ?_, fun x hx => ?_⟩
    · rw [apply_append, hap, apply_diff 4 (by omega) m5 m'' hl.symm]
    · by_cases e : m''[x]? = m5[x]?
      · rw [e] at hx; exact Or.inl (hc5.of_ne hx)
      · exact Or.inr (Classical.byContradiction fun hna => e (hc x hna))

/-- **`Type2Tag._protect` without password**: a call that returns `True` changes only the access byte
of the capability container (15), the static lock bytes (10, 11) and the lock bytes of the Lock
Control TLVs its own TLV walk finds (without any: the default dynamic lock bytes directly behind the
data area); on a well-formed chain layout (any control TLV field values) no byte of the NDEF message
area changes. -/
theorem t2_protect_confined (m : Bytes) (cmds : List Cmd) (h : protectT2 m = ⟨cmds, .ok true⟩) :
    (∃ sz walked, m[14]? = some sz ∧
      protWalk (rd t2Cfg m) (sz * 8 + 16) (sz * 8 + 17) 16 [] = .ok walked ∧
      (apply m cmds).length = m.length ∧
      ∀ x, (apply m cmds)[x]? ≠ m[x]? → x = 15 ∨ x = 10 ∨ x = 11 ∨
        ∃ l ∈ defaultLocks sz walked, l.1 ≤ x ∧ x < l.1 + (l.2 + 7) / 8)
    ∧ ∀ (L : Layout) (cs : List Ctl) (off : Nat), readNdefT2 m = .ok (some L) → L.areaEnd ≤ m.length →
        L.areaEnd ≤ t2Cfg.limit → chainParse m (L.areaEnd + 1) t2Cfg.dataStart = some (cs, off) →
        chainOk t2Cfg m L.areaEnd = true → ∀ x, Area L x → (apply m cmds)[x]? = m[x]? :=
  ⟨protectT2_spec m cmds h, fun L cs off hr hlen hlim hchain hok => protectT2_area m cmds h L cs off hr hlen hlim hchain hok⟩

/-- **`_protect_with_lockbits` of Ultralight C / NTAG203 / NTAG21x**: every WRITE is one of: page 3
with the capability container as read and access byte `0F`, page 2 `00 00 FF FF` (static lock bytes;
BCC1 / INTERNAL are read-only), the dynamic lock page (40 resp. `cfgpage - 1`), the ACCESS page
`cfgpage + 1`; the stored image changes only inside those pages (never bytes 8, 9), so a data area
that ends in front of the dynamic lock page keeps every byte. -/
theorem nxp_protect_confined (k : NxpKind) (m : Bytes) :
    (∀ cmd ∈ (protectNxp k m).cmds, cmd.2.length = 4 ∧
      ((cmd.1 = 12 ∧ ∃ c0 c1 c2, m[12]? = some c0 ∧ m[13]? = some c1 ∧ m[14]? = some c2 ∧ cmd.2 = [c0, c1, c2, 0x0F])
       ∨ cmd = (8, [0, 0, 0xFF, 0xFF])
       ∨ match k with
         | .ulc => cmd.1 = 160
         | .n203 => cmd.1 = 160
         | .n21x p => (16 < p ∧ cmd.1 = (p - 1) * 4) ∨ cmd.1 = (p + 1) * 4))
    ∧ ∀ x, (nxpApply m (protectNxp k m).cmds)[x]? ≠ m[x]? →
        (10 ≤ x ∧ x < 16) ∨
        match k with
        | .ulc => 160 ≤ x ∧ x < 164
        | .n203 => 160 ≤ x ∧ x < 164
        | .n21x p => (16 < p ∧ (p - 1) * 4 ≤ x ∧ x < (p - 1) * 4 + 4) ∨ ((p + 1) * 4 ≤ x ∧ x < (p + 1) * 4 + 4) := by
  refine ⟨protectNxp_cmds k m, fun x hx => ?_⟩
  obtain ⟨c, hc, h1, h2, h3⟩ := nxpApply_changed _ m x hx
  obtain ⟨hl, hk⟩ := protectNxp_cmds k m c hc
  rcases hk with ⟨h12, _⟩ | h8 | hk
  · exact Or.inl ⟨by omega, by omega⟩
  · subst h8
    have h89 : ¬ (x = 8 ∨ x = 9) := fun hh => h3 ⟨rfl, hh⟩
    simp only [List.length_cons, List.length_nil] at h1 h2
    exact Or.inl ⟨by omega, by omega⟩
  · cases k with
    | ulc => simp only at hk ⊢; exact Or.inr ⟨by omega, by omega⟩
    | n203 => simp only at hk ⊢; exact Or.inr ⟨by omega, by omega⟩
    | n21x p =>
      simp only at hk ⊢
      rcases hk with ⟨hp, hk⟩ | hk
      · exact Or.inr (Or.inl ⟨hp, by omega, by omega⟩)
      · exact Or.inr (Or.inr ⟨by omega, by omega⟩)

/-- **`Type1Tag._protect` / `Topaz._protect` / `Topaz512._protect`**: only single-byte WRITE-NE
commands, to the access byte 11 of the capability container, the static lock bytes 112, 113 and
(Topaz-512) bytes 120, 121 of block 0Fh - none of them a byte of the NDEF area of the layout the
reader computes, whatever the control TLVs say. -/
theorem t1_protect_confined (k : T1Kind) (u : Nat) (m : Bytes) (L : Layout)
    (hr : readNdef (t1Cfg u) m = .ok (some L)) :
    ∀ cmd ∈ (protectT1 k u m).cmds, cmd.2.length = 1 ∧
      (cmd.1 = 11 ∨ cmd.1 = 112 ∨ cmd.1 = 113 ∨ (k = .topaz512 ∧ (cmd.1 = 120 ∨ cmd.1 = 121))) ∧ ¬ Area L cmd.1 := by
  intro cmd hc
  have hR := (readNdef_some _ _ _).1 hr
  obtain ⟨_, hge, hmono⟩ := walkPre_found _ (fun _ _ h => h) hR.pre
  have hds : (t1Cfg u).dataStart = 12 := rfl
  -- the static lock / reserved bytes are in the initial skip set (up to 120 when the data area ends there)
  have hna : ∀ x, 104 ≤ x → x < 128 → ¬ Area L x := by
    intro x h1 h2 ⟨_, hA, hS⟩
    have : inSkip L.skip x = true := by
      apply hmono
      simp only [Cfg.initSkip, t1Cfg, if_true, inSkip, List.any_cons, List.any_nil, Bool.or_false,
        Bool.and_eq_true, decide_eq_true_eq]
      split <;> omega
    rw [this] at hS; cases hS
  have key : ∀ addrs : List (Nat × Nat), cmd ∈ (neCmds m addrs).1 →
      (∀ a v, (a, v) ∈ addrs → a = 11 ∨ a = 112 ∨ a = 113 ∨ (k = .topaz512 ∧ (a = 120 ∨ a = 121))) →
      cmd.2.length = 1 ∧
        (cmd.1 = 11 ∨ cmd.1 = 112 ∨ cmd.1 = 113 ∨ (k = .topaz512 ∧ (cmd.1 = 120 ∨ cmd.1 = 121))) ∧ ¬ Area L cmd.1 := by
    intro addrs hc' hadd
    obtain ⟨a, v, b, hm, _, rfl⟩ := neCmds_mem _ _ _ hc'
    have haddr := hadd a v hm
    refine ⟨rfl, haddr, ?_⟩
    rcases haddr with rfl | rfl | rfl | ⟨_, rfl | rfl⟩
    · intro ⟨h, _, _⟩; omega
    all_goals exact hna _ (by omega) (by omega)
  unfold protectT1 at hc; rw [hr] at hc
  cases k with
  | generic =>
    simp only at hc
    exact key [(11, 0x0F)] (by split at hc <;> exact hc) (by intro a v h; simp at h ⊢; omega)
  | topaz =>
    simp only at hc
    exact key [(11, 0x0F), (112, 0xFF), (113, 0xFF)] (by split at hc <;> exact hc)
      (by intro a v h; simp at h ⊢; omega)
  | topaz512 =>
    simp only at hc
    exact key [(11, 0x0F), (112, 0xFF), (113, 0xFF), (120, 0xFF), (121, 0xFF)] (by split at hc <;> exact hc)
      (by intro a v h; simp at h ⊢; omega)

/-! ## Non-vacuity -/

/-- the witness family of seeded change C03-r2m3: Lock Control TLV `80 00 15` = page 8 x 2^5 bytes,
size field 00h: 32 lock bytes 256..287 inside a 496 byte data area -/
example : specFirst 0x80 0x15 = 256 ∧ specCount true 0 = 32 ∧ specCount false 0 = 256
    ∧ ctlRange true 0x100000 [0x80, 0, 0x15] = .ok (256, 288)
    ∧ ctlRange false 0x800 [0xF0, 0, 0x03] = .ok (120, 376) := by decide

/-- a 64-byte data area with a Lock Control TLV (size field 00h -> bytes 48..79, straddling the end of
the data area at 80), a NULL TLV, a Memory Control TLV (bytes 40..41) and the NDEF TLV at 27 -/
def chM : Bytes :=
  List.replicate 12 0 ++ [0xE1, 0x10, 8, 0] ++ [1, 3, 0x30, 0, 0x04] ++ [0] ++ [2, 3, 0x28, 2, 0x04]
    ++ [3, 2, 0xAA, 0xBB, 0xFE] ++ List.replicate 56 0x77
def chL : Layout :=
  { off := 27, skip := [(48, 80), (40, 42)], areaEnd := 80, cap := 17, readable := true, writeable := true,
    ndef := [0xAA, 0xBB] }
example : readNdef t2Cfg chM = .ok (some chL) ∧ readNdefT2 chM = .ok (some chL)
    ∧ chainParse chM 81 16 = some ([(true, 0x30, 0, 0x04), (false, 0x28, 2, 0x04)], 27)
    ∧ chainOk t2Cfg chM 80 = true ∧ chL.areaEnd ≤ chM.length := by decide +kernel
/-- `_protect` on it returns True and sets the 32 declared lock bytes (48..79 of them inside the data
area), never a byte of the area -/
example : (protectT2 chM).res = .ok true ∧ (protectT2 chM).cmds.length = 10 := by decide +kernel

/-- NTAG213 without NDEF TLV (terminator at 16): two factory pages, then the erase -/
def ntM : Bytes :=
  [4, 0x51, 0x7C, 0xA1, 0xE1, 0xED, 0x25, 0x80, 0xA9, 0x48, 0, 0] ++ [0xE1, 0x10, 0x12, 0]
    ++ [0xFE, 1, 2, 3, 4, 5, 6, 7] ++ List.replicate 156 0x33
example : readNdefT2 ntM = .ok none
    ∧ formatNxp [1, 3, 0xA0, 0x0C, 0x34, 3, 0, 0xFE] ntM none
      = ⟨[(16, [1, 3, 0xA0, 0x0C]), (20, [0x34, 3, 0, 0xFE])], .ok true⟩ := by decide +kernel
example : (protectNxp (.n21x 41) ntM).res = .ok true
    ∧ (protectNxp (.n21x 41) ntM).cmds = [(12, [0xE1, 0x10, 0x12, 0x0F]), (8, [0, 0, 0xFF, 0xFF]),
        (160, [0xFF, 0xFF, 0xFF, 0]), (168, [0x73, 0x33, 0x33, 0x33])] := by decide +kernel

/-- Topaz with CC version 1.1, format(version = 0x12, wipe = 0) and a refused version 0x20 -/
def tpV : Bytes :=
  [1, 2, 3, 4, 5, 6, 7, 0] ++ [0xE1, 0x11, 0x0E, 0, 3, 3, 0xD0, 0, 0, 0xFE] ++ List.replicate 102 0x5A
example : (∀ i, i < 5 → i ≠ 1 → tpV[8 + i]? = topazHdr[i]?)
    ∧ (match formatTopazV tpV (some 0x12) (some 0) with | .ok (some m') => m'[9]? | _ => none) = some 0x12
    ∧ formatTopazV tpV (some 0x20) (some 0) = .ok none := by decide +kernel
example : (protectT1 .topaz 1 tpV).cmds = [(11, [0x0F]), (112, [0xFF]), (113, [0xFF])] := by decide +kernel

end NfcVerif.C03Ctl
