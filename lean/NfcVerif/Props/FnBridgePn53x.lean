import NfcVerif.Gen.FnPn53x
import NfcVerif.Model.FnPn53xRef
import NfcVerif.Model.ErrMap
import NfcVerif.Lemmas.HostFrame
import NfcVerif.Lemmas.FnBridgePn53xCommon
/-!
# Bridge theorems, group Pn53x (`nfc/clf/pn53x.py` -> `Gen/FnPn53x.lean` -> `Model/HostFrame.lean`)

Properties C14 (`pn53x_build_valid`, `pn53x_accept_sound/complete/documented` are about `pnBuild`,
`pnStrip`, `pnBody`, `pnAccept`) and C13 (`ErrMap.pnCommand` ends in `pnAccept`).  `Gen/FnPn53x.lean` is
regenerated from the source of `Chipset.command` on every run.

Encodings: a command code is the Python int `(cmd : Nat)`; what the source does for a code outside
`0..255` (`ValueError` from `bytearray([0xD4, cmd_code])`) is stated separately (`build_value`).  The model
`pnBuild` is total; the source raises `struct.error` for a payload of 65534 octets or more
(`pack(">H", len(cmd_data)+2)`), which the bridge states (the driver asserts at most 263 octets).
-/
namespace NfcVerif.FnBridge.Pn53x
open NfcVerif NfcVerif.PyFn NfcVerif.HostFrame NfcVerif.FnBridge.HostLink

/-- frame construction of `Chipset.command`: `head + data + tail` is `pnBuild cmd d` for every command
code in `0..255` and every payload whose length fits the 16-bit length field -/
theorem build_bridge (cmd : Nat) (d : Bytes) (hc : cmd < 256) :
    (Gen.Fn.pn53x_build cmd d >>= fun r => .ok (r.1 ++ r.2.1 ++ r.2.2))
      = if d.length + 2 < 65536 then .ok (pnBuild cmd d) else .error .struct := by
  unfold Gen.Fn.pn53x_build pnBuild sof
  simp only [lit_cast, len_eq, ← Int.natCast_add, Int.ofNat_lt]
  by_cases h : d.length < 254
  · have e : ((254 : Nat) : Int) - (d.length : Int) = ((254 - d.length : Nat) : Int) := by omega
    have h1 : d.length + 2 < 256 := by omega
    have h2 : 254 - d.length < 256 := by omega
    have h3 : d.length + 2 < 65536 := by omega
    simp only [h, if_true, e, mkBytes_cons, mkBytes_cksum, mkBytes_nil, h1, h2, hc, Py.bind_ok, Nat.reduceLT, h3]
    rfl
  · simp only [h, if_false, pack_cons, pack_nil, packField_Hbe_nat]
    by_cases h3 : d.length + 2 < 65536
    · simp only [h3, if_true, Py.bind_ok, List.append_nil]
      have e5 : ([0, 0, 255] ++ [255, 255] ++ [(d.length + 2) / 256 % 256, (d.length + 2) % 256] : Bytes)
          = ([0, 0, 255, 255, 255] : Bytes) ++ [(d.length + 2) / 256 % 256, (d.length + 2) % 256] := rfl
      rw [e5, sliceFrom_neg_two]
      simp only [mkBytes_cons, mkBytes_cksum, mkBytes_nil, hc, Nat.reduceLT, if_true, Py.bind_ok]
      rw [cksum_pair _ _ (by omega), Nat.mod_eq_of_lt (by omega : (d.length + 2) / 256 < 256)]
      rfl
    · simp only [h3, if_false, Py.bind_error]

example : (Gen.Fn.pn53x_build 0x4A [1, 0] >>= fun r => .ok (r.1 ++ r.2.1 ++ r.2.2))
    = .ok [0, 0, 0xFF, 4, 0xFC, 0xD4, 0x4A, 1, 0, 0xE1, 0] := by decide +kernel
/-- an extended frame (254 payload octets) -/
example : (Gen.Fn.pn53x_build 0 (List.replicate 254 0) >>= fun r => .ok (r.1.take 8)) = .ok [0, 0, 0xFF, 0xFF, 0xFF, 1, 0, 0xFF] := by
  decide +kernel

/-- a command code outside `0..255` is a `ValueError` (`bytearray([0xD4, cmd_code])`), after the head was
built; a payload too long for the length field is a `struct.error` before that -/
theorem build_value (cmd : Int) (d : Bytes) (h : cmd < 0 ∨ cmd > 255) (hd : d.length + 2 < 65536) :
    Gen.Fn.pn53x_build cmd d = .error .value := by
  -- the head does not depend on the command code: it is built for code 0 (`build_bridge`)
  have hb := build_bridge 0 d (by decide)
  rw [if_pos hd, Py.bind_eq_ok] at hb
  obtain ⟨_, hr, _⟩ := hb
  unfold Gen.Fn.pn53x_build at hr ⊢
  rw [Py.bind_eq_ok] at hr
  obtain ⟨_, hh, _⟩ := hr
  rw [hh]
  simp only [Py.bind_ok, mkBytes_code_bad cmd [] h, Py.bind_error]

example : Gen.Fn.pn53x_build 256 [1] = .error .value := by decide +kernel

/-- header validation of `Chipset.command` (start code, normal/extended length, length checksum, header
removal): the regenerated statement is `pnStrip`, for every byte string -/
theorem strip_bridge (f : Bytes) : Gen.Fn.pn53x_strip f = pnStrip f := by
  unfold Gen.Fn.pn53x_strip pnStrip startsWith sof HostFrame.EIO HostFrame.sum
  py_nat
  -- `del frame[0:n]` is `drop n`, `x != len(frame) - k` a test on naturals, and the raising tests are turned round
  simp only [delSlice_zero, cast_eq_sub, decide_not, Bool.not_eq_true', decide_eq_false_iff_not, ite_not]
  by_cases h1 : [0, 0, 255, 255, 255].isPrefixOf f = true
  · rw [if_pos h1, if_pos h1]
    by_cases h2 : List.foldl (· + ·) 0 (sliceN f 5 8) % 256 = 0
    · rw [if_pos h2, if_pos h2]
      by_cases h3 : f.length < 10
      · rw [if_pos h3, if_pos h3]
      · -- an extended frame of ten octets or more: the exact-size guard and the `>H` field of `struct.unpack`, on a
        -- slice of width two, are `unpackH`
        rw [if_neg h3, if_neg h3, unpackH_exact _ (by rw [length_sliceN]; omega), ite_ok_bind]
    · rw [if_neg h2, if_neg h2]
  · -- a normal frame: the same text on both sides
    rw [if_neg h1, if_neg h1]

example : Gen.Fn.pn53x_strip [0, 0, 0xFF, 5, 0xFB, 0xD5, 1, 0x34, 0x35, 0x36, 0x8B, 0] = .ok [0xD5, 1, 0x34, 0x35, 0x36, 0x8B, 0] := by
  decide +kernel
example : Gen.Fn.pn53x_strip [0, 0, 0xFF, 5, 0xFA, 0xD5, 1, 0x34, 0x35, 0x36, 0x8B, 0] = .error (.io 5) := by decide +kernel

/-- `chipset_error(cause)` with an int: `Chipset.Error(cause)` -/
theorem chipset_error_int_bridge (n : Nat) : Gen.Fn.pn53x_chipset_error_int n = .error (.chipsetError n) := by
  unfold Gen.Fn.pn53x_chipset_error_int; simp only [Int.toNat_natCast]

/-- `chipset_error(cause)` with a response payload: `ErrMap.chipErr` - the first octet is the errno, an empty
payload is an `IndexError` -/
theorem chipset_error_bytes_bridge (d : Bytes) :
    Gen.Fn.pn53x_chipset_error_bytes d = (idxN d 0 >>= fun n => .error (.chipsetError n)) := by
  unfold Gen.Fn.pn53x_chipset_error_bytes
  py_nat

/-- `chipset_error(cause)` with `int | None` (`data[0] & 0x3f if data else None`): `None` is errno 0xff -/
theorem chipset_error_opt_bridge (o : Option Nat) :
    Gen.Fn.pn53x_chipset_error_opt (o.map fun (n : Nat) => (n : Int)) = .error (.chipsetError (o.getD 0xFF)) := by
  unfold Gen.Fn.pn53x_chipset_error_opt
  cases o <;> simp only [Option.map, Option.getD, Int.toNat_natCast] <;> rfl

/-- `chipset_error(None)` (`get_general_status`): `Chipset.Error(0xff)` - the `None` case of the `int | None` instance -/
example : Gen.Fn.pn53x_chipset_error_opt none = .error (.chipsetError 0xFF) := rfl

example : Gen.Fn.pn53x_chipset_error_bytes [0x27, 1] = .error (.chipsetError 0x27) := by decide
example : Gen.Fn.pn53x_chipset_error_bytes [] = .error .index := by decide

/-- validation of `TFI code data DCS postamble` in `Chipset.command`: the regenerated statements are
`pnBody`, for every command code and every byte string -/
theorem body_bridge (cmd : Nat) (f : Bytes) : Gen.Fn.pn53x_body f cmd = pnBody cmd f := by
  unfold Gen.Fn.pn53x_body pnBody HostFrame.EIO HostFrame.sum
  simp only [getB_idx, lit_cast, chipset_error_int_bridge]
  py_nat
  -- what is left: the source reads `f[0]` twice and tests `len(f) < 4 or f[0] != 0xD5` in one `if`
  cases idxN f 0 with
  | error e => rfl
  | ok tfi => by_cases ht : tfi = 213 <;> simp [ht]

example : Gen.Fn.pn53x_body [0xD5, 1, 0x34, 0x35, 0x36, 0x8B, 0] 0 = .ok [0x34, 0x35, 0x36] := by decide +kernel
example : Gen.Fn.pn53x_body [0x7F, 0x81, 0] 0 = .error (.chipsetError 0x7F) := by decide +kernel

/-- the whole response validation is the header validation followed by the body validation (both regenerated
separately from the same statements) -/
theorem accept_split (f : Bytes) (cmd : Int) :
    Gen.Fn.pn53x_accept f cmd = (Gen.Fn.pn53x_strip f >>= fun b => Gen.Fn.pn53x_body b cmd) := by
  unfold Gen.Fn.pn53x_accept Gen.Fn.pn53x_strip Gen.Fn.pn53x_body
  simp only [bind_assoc, Py.bind_ok]

/-- response validation of `Chipset.command` (everything behind the ACK loop): the regenerated statements are
`pnAccept`, for every command code and every byte string -/
theorem accept_bridge (cmd : Nat) (f : Bytes) : Gen.Fn.pn53x_accept f cmd = pnAccept cmd f := by
  rw [accept_split, strip_bridge]
  show (pnStrip f >>= fun b => Gen.Fn.pn53x_body b cmd) = (pnStrip f >>= fun body => pnBody cmd body)
  congr 1
  funext b
  exact body_bridge cmd b

example : Gen.Fn.pn53x_accept [0, 0, 0xFF, 5, 0xFB, 0xD5, 1, 0x34, 0x35, 0x36, 0x8B, 0] 0 = .ok [0x34, 0x35, 0x36] := by
  decide +kernel
/-- the response that was accepted before the repair (DCS one too small, postamble 01) -/
example : Gen.Fn.pn53x_accept [0, 0, 0xFF, 5, 0xFB, 0xD5, 1, 0x34, 0x35, 0x36, 0x8A, 1] 0 = .error (.io 5) := by
  decide +kernel

/-- `C14.pn53x_accept_sound` for the regenerated validation: data is returned only for a frame that the
independent reading of the PN53x frame format accepts as `D5, cmd+1, data` -/
theorem gen_accept_sound (cmd : Nat) (f data : Bytes) (h : Gen.Fn.pn53x_accept f cmd = .ok data) :
    Spec.parse f = some (0xD5, cmd + 1, data) := by
  rw [accept_bridge] at h; exact pn_accept_sound cmd f data h

/-- `C14.pn53x_accept_complete`: and every such frame is accepted -/
theorem gen_accept_complete (cmd : Nat) (f data : Bytes) (h : Spec.parse f = some (0xD5, cmd + 1, data)) :
    Gen.Fn.pn53x_accept f cmd = .ok data := by
  rw [accept_bridge]; exact pn_accept_complete cmd f data h

/-- `C14.pn53x_accept_documented` / C13: any other byte string ends in `IOError(EIO)` or, for a well-formed
error frame, in `Chipset.Error(0x7F)` -/
theorem gen_accept_documented (cmd : Nat) (f : Bytes) :
    Safe (fun e => e = .io 5 ∨ e = .chipsetError 0x7F) (Gen.Fn.pn53x_accept f cmd) := by
  rw [accept_bridge]; exact pn_accept_doc cmd f

/-- the start code test on the first frame read after a command was written: `ErrMap.pnCommand` raises
`IOError(EIO)` exactly when the frame does not start with `00 00 FF` -/
theorem ack_sof_check_bridge (f : Bytes) :
    Gen.Fn.pn53x_ack_sof_check f = if ¬ startsWith f sof then .error ErrMap.eio else .ok () := rfl

/-- the condition of the ACK loop is equality with `ErrMap.ack` (`pnCommand`, `pnAwait`) -/
theorem is_ack_bridge (f : Bytes) : Gen.Fn.pn53x_is_ack f = decide (f = ErrMap.ack) := rfl

example : Gen.Fn.pn53x_is_ack [0, 0, 0xFF, 0, 0xFF, 0] = true := by decide
example : Gen.Fn.pn53x_ack_sof_check [0, 0, 0xFE] = .error (.io 5) := by decide

/-- `C14.pn53x_build_valid` for the regenerated construction: every frame the source hands to
`write_frame` is accepted by the independent reading of the PN53x frame format as `D4, cmd, payload` -/
theorem gen_build_valid (cmd : Nat) (d w : Bytes) (hc : cmd < 256)
    (h : (Gen.Fn.pn53x_build cmd d >>= fun r => .ok (r.1 ++ r.2.1 ++ r.2.2)) = .ok w) :
    Spec.parse w = some (0xD4, cmd, d) := by
  rw [build_bridge cmd d hc] at h
  by_cases hl : d.length + 2 < 65536
  · rw [if_pos hl] at h
    cases h
    exact pn_build_valid cmd d hl
  · rw [if_neg hl] at h; cases h

/-! ## the hand-built frames of `pn532.init` against `Model/FnPn53xRef.lean` -/
open NfcVerif.FnPn53xRef

/-- the literal GetFirmwareVersion / SAMConfiguration frames of `pn532.init` are the frames
`Chipset.command` would build (`pnBuild`), the literal responses the reference responses -/
theorem init_frames_bridge :
    Gen.Fn.pn532_init_frames = (getVersionCmd, getVersionRspPrefix, samConfigurationCmd, ackRsp 0x14) := by
  decide

/-- the SetSerialBaudRate frame after the two patches (`cmd[7] = 5 + index`, `cmd[8] = 256 - sum(cmd[5:8])`)
is the regular frame for the rate's BR code, for each of the three rates of the table; the expected answer is
the empty response to command 0x10 -/
theorem set_baudrate_frame_bridge (baud : Nat) (h : baud = 230400 ∨ baud = 460800 ∨ baud = 921600) :
    (setBaudrateCmd baud).map (fun c => (c, ackRsp 0x10)) = (Gen.Fn.pn532_set_baudrate_frame baud).toOption := by
  rcases h with rfl | rfl | rfl <;> decide

/-- any other rate is a `ValueError` (`tuple.index`), for every int -/
theorem set_baudrate_frame_value (baud : Int) (h : baud ≠ 230400 ∧ baud ≠ 460800 ∧ baud ≠ 921600) :
    Gen.Fn.pn532_set_baudrate_frame baud = .error .value := by
  unfold Gen.Fn.pn532_set_baudrate_frame
  have h1 : ¬ (230400 : Int) = baud := fun e => h.1 e.symm
  have h2 : ¬ (460800 : Int) = baud := fun e => h.2.1 e.symm
  have h3 : ¬ (921600 : Int) = baud := fun e => h.2.2 e.symm
  simp only [indexOf, h1, h2, h3, if_false, Py.bind_error]

example : (Gen.Fn.pn532_set_baudrate_frame 921600).toOption
    = some ([0, 0, 0xFF, 3, 0xFD, 0xD4, 0x10, 7, 0x15, 0], [0, 0, 0xFF, 2, 0xFE, 0xD5, 0x11, 0x1A, 0]) := by decide
example : Gen.Fn.pn532_set_baudrate_frame 115200 = .error .value := by decide

/-- C14 for the hand-built frames: every command frame `pn532.init` writes on the serial line is accepted by
the independent reading of the frame format with the intended command code and parameters, and every literal
response it waits for is a frame the driver's own validation accepts for that command -/
theorem gen_uart_frames_valid :
    Spec.parse Gen.Fn.pn532_init_frames.1 = some (0xD4, 0x02, []) ∧
    Spec.parse Gen.Fn.pn532_init_frames.2.2.1 = some (0xD4, 0x14, [1, 0, 0]) ∧
    pnAccept 0x14 Gen.Fn.pn532_init_frames.2.2.2 = .ok [] ∧
    (∀ baud c r, (baud = 230400 ∨ baud = 460800 ∨ baud = 921600) →
      Gen.Fn.pn532_set_baudrate_frame (baud : Nat) = .ok (c, r) →
      (∃ code, brCode baud = some code ∧ Spec.parse c = some (0xD4, 0x10, [code])) ∧ pnAccept 0x10 r = .ok []) := by
  refine ⟨by decide, by decide, by decide, ?_⟩
  intro baud c r hb hg
  have hbr := set_baudrate_frame_bridge baud hb
  rw [hg] at hbr
  -- no case split on the rate: the command is `pnBuild 0x10 [code]` whatever the code is
  unfold setBaudrateCmd at hbr
  cases hc : brCode baud with
  | none => rw [hc] at hbr; cases hbr
  | some code =>
    rw [hc] at hbr
    cases hbr
    exact ⟨⟨code, rfl, pn_build_valid 0x10 [code] (by simp)⟩, by decide⟩

end NfcVerif.FnBridge.Pn53x
