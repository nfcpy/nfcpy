import NfcVerif.Lemmas.TlvSync
import NfcVerif.Lemmas.TlvBlock
import NfcVerif.Lemmas.HistC01
import NfcVerif.Lemmas.HistC02
/-!
# C02 - an interrupted NDEF write never leaves a corrupt message (Type 1 and Type 2 Tag)

A write is the concatenation of the command lists of its `synchronize()` calls; a crash point
is a prefix length `k` of that list; the tag memory after the crash is `apply m (cmds.take k)`.
Model: `NfcVerif.Model.Tlv` with the length-field write as REPAIRED by fixes/C02 (F2): the
bytes `hi`/`lo` of a 3-byte length field that lie in a later write unit than `FF` are prepared
while the first length byte is still `00` (`phase3a`).  The as-found behaviour is kept as
`writeCmdsAsFound` and shown to be unsafe at the end of this file.
-/
namespace NfcVerif.C02
open NfcVerif NfcVerif.Tlv NfcVerif.Hist

/-- what a fresh reader may see after an interrupted write: the previous message, an empty
message, or the complete new message - in each case with the same TLV offset, skip set,
capacity and flags.  (For Type 1/2 the alternatives "no NDEF" / "not readable" never occur.) -/
def Outcome (L : Layout) (new : Bytes) (r : Py (Option Layout)) : Prop :=
  r = .ok (some L) ∨ r = .ok (some { L with ndef := [] }) ∨ r = .ok (some { L with ndef := new })

/-- **Cut safety, full.**  For every well-formed image (any layout, any alignment of the NDEF TLV
in the write unit, unit 1, 4 or 8, old message in either length format), every message up to
the capacity (1-byte and 3-byte length format) and EVERY prefix length `k` of the write-command
list, a re-walk of the tag memory after the first `k` commands sees the old message, an empty
message or the complete new message - never a mixture. -/
theorem t12_cut_safe (c : Cfg) (m : Bytes) (L : Layout) (data : Bytes)
    (hread : readNdef c m = .ok (some L)) (hwf : WF c m L) (hcap : (data.length : Int) ≤ L.cap) (k : Nat) :
    Outcome L data (readNdef c (apply m ((setOctets c m L data).cmds.take k))) := by
  by_cases hw : L.writeable = true
  · have hs : setOctets c m L data = writeCmds c m L data := by
      unfold setOctets; rw [if_neg (by simp [hw]), if_neg (by omega)]
    rw [hs]
    rcases cut_safe c m L data ((readNdef_some c m L).1 hread) hwf hcap k with h | h | h
    · exact Or.inl ((readNdef_some c _ _).2 h)
    · exact Or.inr (Or.inl ((readNdef_some c _ _).2 h))
    · exact Or.inr (Or.inr ((readNdef_some c _ _).2 h))
  · -- a write-protected tag: the setter raises before any command, the memory stays as it is
    have hs : (setOctets c m L data).cmds = [] := by
      unfold setOctets; rw [if_pos (by simpa using hw)]
    rw [hs]
    exact Or.inl (by simpa [apply] using hread)

/-- After ANY prefix of ANY write-back (`synchronize()`), every byte of the tag memory holds its
old or its new value, for every unit size. -/
theorem t12_prefix_mixture (u : Nat) (m m' : Bytes) (hl : m.length = m'.length) (k : Nat) :
    let img := apply m ((diffUnits u m m').take k)
    img.length = m.length ∧ ∀ x : Nat, img[x]? = m[x]? ∨ img[x]? = m'[x]? :=
  prefix_mix u m m' hl k

/-- ... more precisely, the new image below a unit boundary and the old image from there on
(commands go out in ascending order). -/
theorem t12_prefix_threshold (u : Nat) (hu : 0 < u) (m m' : Bytes) (hl : m.length = m'.length) (k : Nat) :
    ∃ j, ∀ x : Nat, (apply m ((diffUnits u m m').take k))[x]? = if x < j * u then m'[x]? else m[x]? :=
  prefix_threshold u hu m m' hl k

/-! ## Histories: faults of both kinds, retries through the same object (repaired memory reader)

`NfcVerif.Hist` (`Model/HistC01.lean`): the memory reader keeps the image it wants on the tag (`cache`,
`_data_in_cache`), the image it believes to be there (`belief`, `_data_from_tag`) and - since the repair
`fixes/C02/0002` - the set of units whose write command did not return (`dirty`, `_unconfirmed`); `tag` is the real
content.  A `Fault ⟨k, late⟩` makes state-changing command `k` of an attempt fail: `late = false` - the tag does
not execute it (this is also a power cut after `k` commands), `late = true` - the tag executes it but the reader
gets no answer (a power cut after `k+1` commands, or a lost acknowledgement with the tag staying in the field).
`historyR c L (freshR m) hs` runs the attempts `hs = [(message, fault?), ...]` through the object that found layout
`L` on image `m`. -/

/-- a freshly activated object without a fault sends exactly the commands of `setOctets` (the writer `t12_cut_safe`
speaks about), so the history model extends that writer -/
theorem t12_history_extends_writer (c : Cfg) (hu : 0 < c.unit) (m : Bytes) (L : Layout) (data : Bytes) :
    (attemptR c L (freshR m) data none).cmds = (setOctets c m L data).cmds ∧
    (attemptR c L (freshR m) data none).res = (setOctets c m L data).res := by
  obtain ⟨h1, h2⟩ := attemptR_clean c L m data
  obtain ⟨h3, h4⟩ := attempt_clean c hu m L data
  exact ⟨h1.trans h3, h2.trans h4⟩

/-- **What the cache may assume about the tag - after ANY history.**  Whatever attempts were made and however they
failed (any command, executed by the tag or not), outside the units remembered as unconfirmed the picture
`_data_from_tag` equals the tag; all images keep the size of the memory; tag and cache still hold the original bytes
in front of the NDEF TLV's length field.  (Before the repair there was no such set and the statement was false as
soon as one failed command had been executed - `t12_unacknowledged_mixture_asFound` below.) -/
theorem t12_cache_coherent (c : Cfg) (m : Bytes) (L : Layout) (hread : readNdef c m = .ok (some L)) (hwf : WF c m L)
    (hs : List (Bytes × Option Fault)) :
    (∀ i, i ∉ (historyR c L (freshR m) hs).1.dirty →
      sliceN (historyR c L (freshR m) hs).1.tag (i * c.unit) (i * c.unit + c.unit)
        = sliceN (historyR c L (freshR m) hs).1.belief (i * c.unit) (i * c.unit + c.unit)) ∧
    (historyR c L (freshR m) hs).1.tag.length = m.length ∧
    (historyR c L (freshR m) hs).1.belief.length = m.length ∧
    (∀ x, x < L.off + 1 → (historyR c L (freshR m) hs).1.tag[x]? = m[x]?) ∧
    (∀ x, x < L.off + 1 → (historyR c L (freshR m) hs).1.cache[x]? = m[x]?) := by
  have hi := historyR_inv c m L ((readNdef_some c m L).1 hread) hwf hs (freshR m) (InvR.fresh _ m _)
  exact ⟨hi.sync, hi.len.tag, hi.len.belief, hi.tag, hi.cache⟩

/-- **A `synchronize()` changes the tag by a prefix of the units in which tag and cache really differ**, in
ascending order - after any history, for every cache content of the right size, every fault position and kind;
resending an unconfirmed unit or a unit the reader only believes to differ does not alter the tag. -/
theorem t12_sync_is_prefix (c : Cfg) (m : Bytes) (L : Layout) (hread : readNdef c m = .ok (some L)) (hwf : WF c m L)
    (hs : List (Bytes × Option Fault)) (C : Bytes) (hC : C.length = m.length) (f : Option Fault) :
    ∃ k, (syncR c.unit { (historyR c L (freshR m) hs).1 with cache := C } f).st.tag
      = apply (historyR c L (freshR m) hs).1.tag ((diffUnits c.unit (historyR c L (freshR m) hs).1.tag C).take k) := by
  have hi := historyR_inv c m L ((readNdef_some c m L).1 hread) hwf hs (freshR m) (InvR.fresh _ m _)
  exact syncR_prefix c.unit hwf.2.1 _ f m.length ⟨hi.len.tag, hi.len.belief, hC⟩ hi.sync

/-- **Retry after any history, with any further fault.**  After ANY history `hs` (any number of attempts, any
messages, each completed or aborted at any command by a fault of either kind) the application assigns `d2` (any
length up to the capacity) through the SAME object and this attempt is again disturbed at any command in either way
(`f`), or not at all.  Then the tag holds what it held before the attempt, or shows an empty message, or shows
exactly `d2` (same offset, skip set, capacity, flags); when nothing disturbs the attempt it returns normally and
the tag shows `d2`; and whenever it returns normally the tag shows `d2`. -/
theorem t12_retry_cut_safe (c : Cfg) (m : Bytes) (L : Layout) (hread : readNdef c m = .ok (some L)) (hwf : WF c m L)
    (hw : L.writeable = true) (hs : List (Bytes × Option Fault)) (d2 : Bytes) (hcap2 : (d2.length : Int) ≤ L.cap)
    (f : Option Fault) :
    ((attemptR c L (historyR c L (freshR m) hs).1 d2 f).st.tag = (historyR c L (freshR m) hs).1.tag
      ∨ readNdef c (attemptR c L (historyR c L (freshR m) hs).1 d2 f).st.tag = .ok (some { L with ndef := [] })
      ∨ readNdef c (attemptR c L (historyR c L (freshR m) hs).1 d2 f).st.tag = .ok (some { L with ndef := d2 }))
    ∧ ((attemptR c L (historyR c L (freshR m) hs).1 d2 f).res = .ok () →
        readNdef c (attemptR c L (historyR c L (freshR m) hs).1 d2 f).st.tag = .ok (some { L with ndef := d2 }))
    ∧ (f = none → (attemptR c L (historyR c L (freshR m) hs).1 d2 f).res = .ok ()) := by
  have hr := (readNdef_some c m L).1 hread
  have hi := historyR_inv c m L hr hwf hs (freshR m) (InvR.fresh _ m _)
  obtain ⟨-, d, e, -⟩ := attemptR_spec c m L d2 _ f hr hwf hi
  refine ⟨?_, fun h => (readNdef_some c _ _).2 (d h).1, e hw hcap2⟩
  rcases attemptR_view c m L d2 _ f hr hwf hi with h | h | ⟨-, h⟩
  · exact Or.inl h
  · exact Or.inr (Or.inl ((readNdef_some c _ _).2 h))
  · exact Or.inr (Or.inr ((readNdef_some c _ _).2 h))

/-- **A fault is a cut.**  After any history, the commands the tag executes during an assignment disturbed at command
`k` are exactly the first `k` commands of the undisturbed assignment (`k + 1` when the tag executes the failing
command), and the tag then holds its previous content with exactly those commands applied.  So the fault histories of
this section contain every power cut "after the k-th state-changing command" of every (re)assignment. -/
theorem t12_fault_is_cut (c : Cfg) (m : Bytes) (L : Layout) (hread : readNdef c m = .ok (some L)) (hwf : WF c m L)
    (hs : List (Bytes × Option Fault)) (d2 : Bytes) (k : Nat) (late : Bool) :
    (attemptR c L (historyR c L (freshR m) hs).1 d2 (some ⟨k, late⟩)).cmds
      = (attemptR c L (historyR c L (freshR m) hs).1 d2 none).cmds.take (k + late.toNat) ∧
    (attemptR c L (historyR c L (freshR m) hs).1 d2 (some ⟨k, late⟩)).st.tag
      = apply (historyR c L (freshR m) hs).1.tag
          ((attemptR c L (historyR c L (freshR m) hs).1 d2 none).cmds.take (k + late.toNat)) := by
  have hr := (readNdef_some c m L).1 hread
  have hi := historyR_inv c m L hr hwf hs (freshR m) (InvR.fresh _ m _)
  unfold attemptR
  by_cases hw : ¬ L.writeable = true
  · simp only [if_pos hw, List.take_nil]; exact ⟨trivial, rfl⟩
  by_cases hc : (d2.length : Int) > L.cap
  · simp only [if_neg hw, if_pos hc, List.take_nil]; exact ⟨trivial, rfl⟩
  simp only [if_neg hw, if_neg hc]
  obtain ⟨ht, hf⟩ := writeFromR_cut c m L d2 _ hr hwf (by omega) hi
  exact ⟨hf k late, by rw [← hf k late]; exact ht _⟩

/-- **Cut safety over histories (full).**  For every well-formed image and EVERY history of assignments through one
tag object - any number of attempts, any messages (oversize ones are refused without a command), each attempt
completed or aborted at ANY state-changing command, the command not executed (lost / power cut) or executed but
unacknowledged - a fresh reader of the tag sees the message found at activation, an empty message, or the COMPLETE
message of one of the attempts that were not refused, with unchanged offset, skip set, capacity and flags.  Never a
mixture. -/
theorem t12_history_cut_safe (c : Cfg) (m : Bytes) (L : Layout) (hread : readNdef c m = .ok (some L)) (hwf : WF c m L)
    (hs : List (Bytes × Option Fault)) :
    ∃ x, (x = L.ndef ∨ x = [] ∨ x ∈ sentMsgs L hs) ∧
      readNdef c (historyR c L (freshR m) hs).1.tag = .ok (some { L with ndef := x }) := by
  have hr := (readNdef_some c m L).1 hread
  rcases historyR_view c m L hr hwf hs (freshR m) (InvR.fresh _ m _) with h | ⟨x, hx, h⟩
  · exact ⟨L.ndef, Or.inl rfl, by rw [h]; exact hread⟩
  · exact ⟨x, Or.inr hx, (readNdef_some c _ _).2 h⟩

/-- the same for the stricter reader of the present tree (`readBack`: a TLV that is not stored completely inside the
data area is not accepted): it reports what `readNdef` reports, or no NDEF at all -/
theorem t12_history_cut_safe_strict (c : Cfg) (m : Bytes) (L : Layout) (hread : readNdef c m = .ok (some L))
    (hwf : WF c m L) (hs : List (Bytes × Option Fault)) :
    readBack c (historyR c L (freshR m) hs).1.tag = .ok none ∨
    ∃ x, (x = L.ndef ∨ x = [] ∨ x ∈ sentMsgs L hs) ∧
      readBack c (historyR c L (freshR m) hs).1.tag = .ok (some { L with ndef := x }) := by
  obtain ⟨x, hx, h⟩ := t12_history_cut_safe c m L hread hwf hs
  have hb : readBack c (historyR c L (freshR m) hs).1.tag = .ok (some { L with ndef := x }) ∨
      readBack c (historyR c L (freshR m) hs).1.tag = .ok none := by
    unfold readBack
    rw [h]
    simp only
    generalize (if (historyR c L (freshR m) hs).1.tag[L.off + 1]? = some 255 then 4 else 2) = hd
    by_cases hp : L.off + hd ≤ L.areaEnd ∧ x.length ≤ countFree L.skip (L.off + hd) L.areaEnd
    · exact Or.inl (if_pos hp)
    · exact Or.inr (if_neg hp)
  exact hb.elim (fun e => Or.inr ⟨x, hx, e⟩) Or.inl

/-! ### the memory reader as found (before `fixes/C02/0002`) was not safe under unacknowledged commands

Type 2 Tag of 64 byte, NDEF TLV at 18 (length byte = last byte of page 4, value from page 5), old message `AA BB`.
Writing `01 02 03` sends three WRITE commands; the tag executes the last one (page 4 with the length byte 03) but
the answer is lost.  The reader as found (`Hist.history`) still believes page 4 to hold length 00, so the empty
message assigned next sends only page 5 (the terminator) and returns normally: the tag keeps length 03 over
`FE 02 03` - a 3-byte message that is neither the old one, nor empty, nor a message of the history. -/
def hM : Bytes := List.replicate 12 0 ++ [0xE1, 0x10, 6, 0] ++ [0, 0, 3, 2, 0xAA, 0xBB, 0xFE] ++ List.replicate 41 0
def hL : Layout :=
  { off := 18, skip := [], areaEnd := 64, cap := 44, readable := true, writeable := true, ndef := [0xAA, 0xBB] }
def hHist : List (Bytes × Option Fault) := [([1, 2, 3], some ⟨2, true⟩), ([], none)]

theorem t12_unacknowledged_mixture_asFound :
    readNdef t2Cfg hM = .ok (some hL) ∧ WF t2Cfg hM hL ∧
    (history t2Cfg hL (fresh hM) hHist).2 =
      [([(16, [0, 0, 3, 0]), (20, [1, 2, 3, 0xFE]), (16, [0, 0, 3, 3])], .error faultErr),
       ([(20, [0xFE, 2, 3, 0xFE])], .ok ())] ∧
    readNdef t2Cfg (history t2Cfg hL (fresh hM) hHist).1.tag = .ok (some { hL with ndef := [0xFE, 2, 3] }) ∧
    ¬ ([0xFE, 2, 3] = hL.ndef ∨ [0xFE, 2, 3] = [] ∨ [0xFE, 2, 3] ∈ sentMsgs hL hHist) ∧
    -- the picture of page 4 differs from the tag although the reader has nothing marked
    (history t2Cfg hL (fresh hM) [([1, 2, 3], some ⟨2, true⟩)]).1.tag
      ≠ (history t2Cfg hL (fresh hM) [([1, 2, 3], some ⟨2, true⟩)]).1.belief := by
  refine ⟨?_, ?_, ?_, ?_, ?_, ?_⟩ <;> decide +kernel

/-- the same history on the repaired reader: page 4 is sent again (length 00), then the terminator; the tag shows
the empty message, as `t12_history_cut_safe` promises -/
example : (historyR t2Cfg hL (freshR hM) hHist).2 =
      [([(16, [0, 0, 3, 0]), (20, [1, 2, 3, 0xFE]), (16, [0, 0, 3, 3])], .error faultErr),
       ([(16, [0, 0, 3, 0]), (20, [0xFE, 2, 3, 0xFE])], .ok ())] ∧
    readNdef t2Cfg (historyR t2Cfg hL (freshR hM) hHist).1.tag = .ok (some { hL with ndef := [] }) := by
  constructor <;> decide +kernel

/-- non-vacuity: three aborted attempts (a lost first command; an unacknowledged data page; the third attempt first
flushes what the second left behind, its fourth command - the length page - is executed but unacknowledged: the
tag then shows `09` and page 4 is unconfirmed), then `07 07` interrupted by a power cut after its first command,
which is page 4 with length 00: empty -/
example :
    let hs : List (Bytes × Option Fault) :=
      [([1, 2, 3], some ⟨0, false⟩), ([4, 5, 6, 7, 8], some ⟨1, true⟩), ([9], some ⟨3, true⟩)]
    readNdef t2Cfg (historyR t2Cfg hL (freshR hM) hs).1.tag = .ok (some { hL with ndef := [9] }) ∧
    (historyR t2Cfg hL (freshR hM) hs).1.dirty = [4] ∧
    readNdef t2Cfg (historyR t2Cfg hL (freshR hM) (hs ++ [([7, 7], some ⟨1, false⟩)])).1.tag
      = .ok (some { hL with ndef := [] }) := by
  refine ⟨?_, ?_, ?_⟩ <;> decide +kernel

/-! ## Non-vacuity and the two straddling alignments

Type 2 Tag, 304 byte.  `cxM`: one NULL TLV in front, NDEF TLV at offset 17: length bytes at
18, 19 (page 4) and 20 (page 5): alignment `FF hi | lo`.  `zM`: three NULL TLVs, NDEF TLV at 18:
length bytes 19 (page 4) and 20, 21 (page 5): alignment `FF | hi lo`.  Old message `AA BB`. -/
def cxM : Bytes :=
  List.replicate 12 0 ++ [0xE1, 0x10, 36, 0] ++ [0, 3, 2, 0xAA, 0xBB, 0xFE] ++ List.replicate 282 0
def cxL : Layout :=
  { off := 17, skip := [], areaEnd := 304, cap := 283, readable := true, writeable := true, ndef := [0xAA, 0xBB] }
def cxD : Bytes := List.replicate 255 7

def zM : Bytes :=
  List.replicate 12 0 ++ [0xE1, 0x10, 36, 0] ++ [0, 0, 3, 2, 0xAA, 0xBB, 0xFE] ++ List.replicate 281 0
def zL : Layout :=
  { off := 18, skip := [], areaEnd := 304, cap := 282, readable := true, writeable := true, ndef := [0xAA, 0xBB] }

example : readNdef t2Cfg cxM = .ok (some cxL) ∧ WF t2Cfg cxM cxL ∧ (cxD.length : Int) ≤ cxL.cap := by
  decide +kernel
example : readNdef t2Cfg zM = .ok (some zL) ∧ WF t2Cfg zM zL ∧ (cxD.length : Int) ≤ zL.cap := by
  decide +kernel
example : ∀ k, Outcome cxL cxD (readNdef t2Cfg (apply cxM ((setOctets t2Cfg cxM cxL cxD).cmds.take k))) :=
  fun k => t12_cut_safe t2Cfg cxM cxL cxD (by decide +kernel) (by decide +kernel) (by decide +kernel) k
/-- `FF hi | lo`: `lo` goes out in a command of its own (page 5 = `FF 07 07 07`) while the first
length byte is 0, the last command is page 4 with `FF 00`: 68 commands, after 67 the reader still
sees an empty message. -/
example : (setOctets t2Cfg cxM cxL cxD).cmds.length = 68
    ∧ (setOctets t2Cfg cxM cxL cxD).cmds.getLast? = some (16, [0, 3, 0xFF, 0])
    ∧ readNdef t2Cfg (apply cxM ((setOctets t2Cfg cxM cxL cxD).cmds.take 67)) = .ok (some { cxL with ndef := [] }) := by
  -- evaluated on the spliced phase-2 image and the one-pass write-back; `rw`, not `unfold`: the kernel would
  -- check an unfolding of the concrete writer by running it
  rw [setOctets, writeCmds, show cxL.skip = [] from rfl]
  simp only [phase2_nil, diffUnits_eq_diffFrom]
  decide +kernel
/-- `FF | hi lo`: old value bytes at 20, 21 are zeroed with the data, then page 4 (`FF`), then
page 5 (`00 FF`): between the last two commands the field reads `FF 00 00` = empty. -/
example : readNdef t2Cfg (apply zM ((setOctets t2Cfg zM zL cxD).cmds.take
      ((setOctets t2Cfg zM zL cxD).cmds.length - 1))) = .ok (some { zL with ndef := [] })
    ∧ ((setOctets t2Cfg zM zL cxD).cmds.drop ((setOctets t2Cfg zM zL cxD).cmds.length - 2)).map Prod.fst = [16, 20] := by
  rw [setOctets, writeCmds, show zL.skip = [] from rfl]
  simp only [phase2_nil, diffUnits_eq_diffFrom]
  decide +kernel

/-! ## The code as found (before fixes/C02) was not cut safe (F2)

On `cxM` the as-found write is 68 commands; after the 67th (page 4 = `00 03 FF 00` written,
page 5 still holding the old byte `BB` at 20) the length field reads `FF 00 BB`: a 187-byte
message made of the first 187 new bytes. -/
example :
    (writeCmdsAsFound t2Cfg cxM cxL cxD).cmds.length = 68
    ∧ readNdef t2Cfg (apply cxM ((writeCmdsAsFound t2Cfg cxM cxL cxD).cmds.take 67))
        = .ok (some { cxL with ndef := List.replicate 187 7 }) := by
  rw [writeCmdsAsFound, show cxL.skip = [] from rfl]
  simp only [phase2_nil, diffUnits_eq_diffFrom]
  decide +kernel

end NfcVerif.C02
