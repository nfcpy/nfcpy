import NfcVerif.Gen.FnTransport
import NfcVerif.Lemmas.FnBridgeTransport
import NfcVerif.Props.C14
/-!
# Bridge theorems, group Transport (`nfc/clf/transport.py` -> `Gen/FnTransport.lean` -> `Model/FnTransportRef.lean`)

Properties C14 (the response frame `Chipset.command` validates is the frame that was on the serial line / in the
bulk transfer) and C13 (what `transport.read` raises).  `Gen/FnTransport.lean` is regenerated from the source of
`TTY.read/write/find`, `USB.read/write/find` on every run.

`Model/` has no transport layer of its own.  The reference `Model/FnTransportRef.lean` writes `TTY.read` as a program over
`tty.read(n)`; the regenerated definition is that program for every pure reader (`tty_read_bridge`), the property
theorems are about the same program on a serial line that delivers a list of octets (`ttyRead`).

The reference models the REPAIRED source (fixes/C13/0004, finding `tty-short-read-internal-error`: a line that ran dry
after 1..3 octets - 4..6 of an extended header - made `TTY.read` raise `IndexError`, which left `Chipset.command`):
`read_errors` says that only `IOError` is raised; reverting the repair breaks `tty_read_bridge`.

Observation stated here as a theorem about the reference (reproduced on the real code):
* `read_normal255_counterexample`: a valid NORMAL frame with `LEN = 0xFF` (253 payload octets) is taken for an
  extended frame and `TTY.read` swallows what follows it on the line; `read_returns_frame_partial` excludes it.
-/
namespace NfcVerif.FnBridge.Transport
open NfcVerif NfcVerif.PyFn NfcVerif.HostFrame NfcVerif.FnTransportRef

/-! ## bridges: regenerated definition = reference, for all inputs -/

/-- `TTY.read` (behind the timeout assignment): the regenerated statements are the program `ttyReadProg` with every
`tty.read(n)` answered by `rd`, for every function `rd` (also a raising one: its exception propagates unchanged) -/
theorem tty_read_bridge (rd : Int → Py Bytes) : Gen.Fn.tty_read rd = ttyReadWith rd := by
  unfold Gen.Fn.tty_read ttyReadWith ttyReadProg ack etimedout eio
  simp only [RdProg.runWith]
  congr 1
  funext c6
  simp only [len_eq, false_or, getB_lit, runWith_ite, RdProg.runWith, Int.natCast_eq_zero, cast_lt_lit]
  -- the tests are the same on both sides; only the values read are split
  cases c6[3]? with
  | none => simp only [RdProg.runWith, Py.bind_error]
  | some len =>
    simp only [Py.bind_ok, runWith_ite, RdProg.runWith, cast_eq_lit, ite_bind, bind_assoc]
    cases rd 3 with
    | error e => simp only [Py.bind_error]
    | ok c3 =>
      simp only [Py.bind_ok, Py.bind_error]
      cases (c6 ++ c3)[5]? with
      | none => simp only [Py.bind_error, RdProg.runWith]
      | some hi =>
        cases (c6 ++ c3)[6]? with
        | none => simp only [Py.bind_ok, Py.bind_error, RdProg.runWith]
        | some lo => simp only [Py.bind_ok, RdProg.runWith, bor_shl8]

/-- the same statements with the results of the three reads as parameters: the program `ttyReadProg` run on that
script (the extended header chunk `c3` is consumed only behind `LEN == 0xFF`) -/
theorem tty_read_chunks_bridge (c6 c3 cn : Bytes) :
    Gen.Fn.tty_read_chunks c6 c3 cn = ttyReadProg.runScript (if c6[3]? = some 255 then [c6, c3, cn] else [c6, cn]) := by
  unfold Gen.Fn.tty_read_chunks ttyReadProg ack etimedout eio
  have e2 : (if c6[3]? = some 255 then [c6, c3, cn] else [c6, cn]) = c6 :: (if c6[3]? = some 255 then [c3, cn] else [cn]) := by
    split <;> rfl
  rw [e2]
  simp only [RdProg.runScript, len_eq, false_or, getB_lit, runScript_ite, Int.natCast_eq_zero, cast_lt_lit]
  cases h3 : c6[3]? with
  | none => simp only [RdProg.runScript, Py.bind_error]
  | some len =>
    simp only [Py.bind_ok, runScript_ite, cast_eq_lit, Option.some.injEq]
    by_cases hl : len = 255
    · subst hl
      simp only [if_true, bind_assoc, RdProg.runScript, runScript_ite, ite_bind, Py.bind_error]
      cases (c6 ++ c3)[5]? with
      | none => simp only [Py.bind_error, RdProg.runScript]
      | some hi =>
        cases (c6 ++ c3)[6]? with
        | none => simp only [Py.bind_ok, Py.bind_error, RdProg.runScript]
        | some lo => simp only [Py.bind_ok, RdProg.runScript]
    · simp only [hl, if_false, Py.bind_ok, RdProg.runScript]

/-- `TTY.write`: `flushInput()` first, then the frame unchanged (the two regenerated slices in source order) -/
theorem tty_write_bridge (flush : Py Int) (wr : Bytes → Py Int) (frame : Bytes) :
    (Gen.Fn.tty_write_flush frame flush >>= fun _ => Gen.Fn.tty_write_body frame wr) = ttyWriteWith flush wr frame := by
  unfold Gen.Fn.tty_write_flush Gen.Fn.tty_write_body ttyWriteWith
  py_nat

/-- body of the `try` of `USB.read`: one `bulkRead(ep, 300, timeout)` on the IN endpoint -/
theorem usb_read_xfer_bridge (br : Int → Int → Int → Py Bytes) (addr : Py Int) (timeout : Int) :
    Gen.Fn.usb_read_xfer timeout br addr = usbReadXfer br addr timeout := by
  unfold Gen.Fn.usb_read_xfer usbReadXfer
  simp only [bind_ok_id]

/-- behind the `try` of `USB.read`: a zero-length read is `IOError(EIO)` -/
theorem usb_read_check_bridge (frame : Bytes) : Gen.Fn.usb_read_check frame = usbReadCheck frame := by
  unfold Gen.Fn.usb_read_check usbReadCheck
  py_nat

/-- body of the `try` of `USB.write`, for all libusb1 behaviours (`bw`, `addr`, `mps` may raise, `mps` may be any int) -/
theorem usb_write_bridge (bw : Int → Bytes → Int → Py Int) (addr mps : Py Int) (frame : Bytes) (timeout : Int) :
    Gen.Fn.usb_write frame timeout bw addr mps = usbWriteWith bw addr mps frame timeout := by
  unfold Gen.Fn.usb_write usbWriteWith modP
  refine bind_congr fun ep => bind_congr fun _ => bind_congr fun m => ?_
  simp only [len_eq]
  by_cases hm : m = 0
  · -- packet size 0: `len(frame) % 0` is a `ZeroDivisionError`
    rw [if_pos hm, if_pos hm]; rfl
  · rw [if_neg hm, if_neg hm, Py.bind_ok]
    -- the zero-length packet, when the frame fills its last packet
    by_cases hz : Int.fmod (frame.length : Int) m = 0
    · rw [if_pos hz, bind_assoc]; rfl
    · rw [if_neg hz]; rfl

/-- the condition of the zero-length packet, for every int packet size (0: `ZeroDivisionError`) -/
theorem usb_write_zlp_bridge (frame : Bytes) (mps : Int) :
    Gen.Fn.usb_write_zlp frame mps
      = if mps = 0 then .error .zeroDiv else .ok (decide (Int.fmod (frame.length : Int) mps = 0)) := by
  unfold Gen.Fn.usb_write_zlp modP
  simp only [len_eq]
  by_cases hm : mps = 0
  · rw [if_pos hm, if_pos hm]; rfl
  · rw [if_neg hm, if_neg hm]; rfl

/-- `TTY.find`: the first test -/
theorem tty_find_guard_bridge (path : String) : Gen.Fn.tty_find_guard path = ttyPathForeign path := by
  unfold Gen.Fn.tty_find_guard ttyPathForeign PyFn.strStartsWith FnTransportRef.strStartsWith
  cases List.isPrefixOf "tty".toList path.toList <;> cases List.isPrefixOf "com".toList path.toList <;> rfl

/-- `USB.find`: the first test -/
theorem usb_find_guard_bridge (path : String) : Gen.Fn.usb_find_guard path = usbPathForeign path := by
  unfold Gen.Fn.usb_find_guard usbPathForeign PyFn.strStartsWith FnTransportRef.strStartsWith
  cases List.isPrefixOf "usb".toList path.toList <;> rfl

/-- `TTY.find`: the tests that select the `tty` / `com` branch -/
theorem tty_find_sel_bridge (m : Bool) (g1 : String) :
    Gen.Fn.tty_find_sel_tty m g1 = (m && decide (g1 = "tty")) ∧ Gen.Fn.tty_find_sel_com m g1 = (m && decide (g1 = "com")) := by
  unfold Gen.Fn.tty_find_sel_tty Gen.Fn.tty_find_sel_com
  cases m <;> simp

/-- `TTY.find`: the if / elif chain over the second path component sets `glob` as the reference classification says,
for all 32 outcomes of the five regular expression tests -/
theorem tty_find_glob_bridge (a b c d e : Bool) : Gen.Fn.tty_find_glob a b c d e = (ttyKind a b c d e).glob := by
  cases a <;> cases b <;> cases c <;> cases d <;> cases e <;> rfl

example : Gen.Fn.tty_read (fun n => if n = 6 then .ok [0, 0, 255, 0, 255, 0] else .error .runtime) = .ok [0, 0, 255, 0, 255, 0] := by
  decide +kernel
example : Gen.Fn.tty_read (fun _ => .ok []) = .error (.io 110) := by decide +kernel
example : Gen.Fn.tty_read_chunks [0, 0, 255, 3, 253, 0xD5] [] [3, 7, 33, 0] = .ok [0, 0, 255, 3, 253, 0xD5, 3, 7, 33, 0] := by
  decide +kernel
/-- start code, then silence: `IOError(EIO)` (it was `IndexError` before fixes/C13/0004) -/
example : Gen.Fn.tty_read_chunks [0, 0, 255] [] [] = .error (.io 5) := by decide +kernel
/-- an extended header that stops after `LENM` -/
example : Gen.Fn.tty_read_chunks [0, 0, 255, 255, 255, 1] [] [] = .error (.io 5) := by decide +kernel
example : Gen.Fn.usb_read_check [] = .error (.io 5) := by decide
example : Gen.Fn.usb_write_zlp (List.replicate 64 0) 64 = .ok true := by decide +kernel
example : Gen.Fn.usb_write_zlp [1, 2, 3] 0 = .error .zeroDiv := by decide +kernel
example : Gen.Fn.tty_find_guard "usb:054c" = true ∧ Gen.Fn.tty_find_guard "tty:USB0" = false := by decide +kernel
example : Gen.Fn.tty_find_glob false true false false true = true := by decide

/-! ## the serial line: what `TTY.read` returns -/

/-- whatever the line delivers, the frame returned followed by the octets left IS the line: no octet is lost,
duplicated or reordered -/
theorem read_splits (s f r : Bytes) (h : ttyRead s = .ok (f, r)) : f ++ r = s := by
  obtain ⟨_, n, hn⟩ := (ttyRead_tri s).yields _ h
  cases hn; exact List.take_append_drop n s

/-- **only `IOError` leaves `TTY.read`** (C13), whatever the line delivers: `ETIMEDOUT` - exactly on a silent line - or
`EIO` (an incomplete frame header); in particular never `IndexError`: the index expressions `frame[3]`, `frame[5]`,
`frame[6]` of the source sit behind the two length tests of fixes/C13/0004 (the regenerated definition has the tests:
`tty_read_bridge`; without them `ttyReadProg` is not what the source says and the bridge fails) -/
theorem read_errors (s : Bytes) :
    Safe (fun e => e = .io 110 ∨ e = .io 5) (ttyRead s) ∧ (ttyRead s = .error (.io 110) ↔ s = []) ∧
    Safe (fun e => e.internal = false) (ttyRead s) := by
  have hs := (ttyRead_tri s).safe
  refine ⟨hs.mono fun e he => ?_, ⟨fun h => ?_, fun h => by rw [h]; rfl⟩, hs.mono fun e he => ?_⟩
  · rw [he]; split <;> simp [etimedout, eio]
  · have he := hs _ h
    split at he
    · assumption
    · exact absurd he (by decide)
  · rw [he]; split <;> rfl

/-- start code on the line, then silence (the witness of finding `tty-short-read-internal-error`): `IOError(EIO)` -/
example : ttyRead [0, 0, 0xFF] = .error (.io 5) := by decide
example : ttyRead [0, 0, 0xFF, 0xFF, 0xFF, 0, 3] = .error (.io 5) := by decide
example : ttyRead [] = .error (.io 110) := by decide

/-- **`TTY.read` returns exactly the first frame of the stream and leaves the rest**: for every frame `f` that the
independent reading of the PN53x frame format accepts (normal or extended; or the ACK frame) and every continuation `r`
of the line.  Partial: normal frames with `LEN = 0xFF` are excluded (`read_normal255_counterexample`). -/
theorem read_returns_frame_partial (f r : Bytes) (hf : Framed f) (hn : ¬ Normal255 f) : ttyRead (f ++ r) = .ok (f, r) := by
  rw [ttyRead_flat]
  obtain ⟨hb, hack | ⟨x, hx⟩⟩ := hf
  · subst hack
    rfl
  · rcases parse_shape hx with ⟨lm, ll, lcs, rest, rfl, hlen⟩ | ⟨len, lcs, rest, rfl, hlen, hsum, h2⟩
    · have hll : ll < 256 := hb ll (by simp)
      rcases rest with _ | ⟨x0, rest'⟩
      · simp at hlen
      · have hl' : rest'.length = (lm <<< 8 ||| ll) + 1 := by
          rw [shl8_or lm ll hll]; simp at hlen; omega
        obtain ⟨ht, hd⟩ := take_drop_append_left rest' r _ hl'
        simp [ttyReadFlat, ack, ht, hd]
    · -- `LEN = 0xFF` with a valid `LCS` is a frame the hypothesis `hn` excludes
      have hne : len ≠ 255 := by
        intro e
        subst e
        apply hn
        refine ⟨rfl, ?_⟩
        intro e2
        simp at e2
        subst e2
        simp at hsum
      rcases rest with _ | ⟨x0, rest'⟩
      · simp at hlen
      · have hl' : rest'.length = len + 1 := by simp at hlen; omega
        obtain ⟨ht, hd⟩ := take_drop_append_left rest' r _ hl'
        have h0 : ¬ (0 = len) := by omega
        simp [ttyReadFlat, ack, ht, hd, hne, h0]

example : Framed [0, 0, 255, 3, 253, 0xD5, 3, 7, 33, 0] ∧ ¬ Normal255 [0, 0, 255, 3, 253, 0xD5, 3, 7, 33, 0] := by
  refine ⟨⟨by decide, Or.inr ⟨_, (by decide : Spec.parse _ = some (0xD5, 3, [7]))⟩⟩, fun h => ?_⟩
  exact absurd h.1 (by decide)
example : ttyRead ([0, 0, 255, 3, 253, 0xD5, 3, 7, 33, 0] ++ [0, 0, 255, 0]) = .ok ([0, 0, 255, 3, 253, 0xD5, 3, 7, 33, 0], [0, 0, 255, 0]) := by
  decide +kernel
/-- an extended frame -/
example : ttyRead ([0, 0, 255, 255, 255, 0, 3, 253, 0xD5, 3, 7, 33, 0] ++ [9]) = .ok ([0, 0, 255, 255, 255, 0, 3, 253, 0xD5, 3, 7, 33, 0], [9]) := by
  decide +kernel

/-- the excluded case is real: a valid normal frame with `LEN = 0xFF` (`D5 01` and 253 zero octets) followed by an
ACK frame - `TTY.read` returns both as one frame (it asks for `0xD501 + 1` more octets) -/
theorem read_normal255_counterexample :
    Framed frame255 ∧ Normal255 frame255 ∧
    ttyRead (frame255 ++ [0, 0, 255, 0, 255, 0]) = .ok (frame255 ++ [0, 0, 255, 0, 255, 0], []) ∧
    ¬ ∀ f r, Framed f → ttyRead (f ++ r) = .ok (f, r) := by
  have hf : Framed frame255 :=
    ⟨by decide +kernel, Or.inr ⟨_, (by decide +kernel : Spec.parse frame255 = some (0xD5, 1, List.replicate 253 0))⟩⟩
  have hr : ttyRead (frame255 ++ [0, 0, 255, 0, 255, 0]) = .ok (frame255 ++ [0, 0, 255, 0, 255, 0], []) := by
    decide +kernel
  refine ⟨hf, ⟨by decide +kernel, by decide +kernel⟩, hr, fun h => ?_⟩
  have h1 := h frame255 [0, 0, 255, 0, 255, 0] hf
  rw [hr] at h1
  nomatch (Prod.mk.inj (Except.ok.inj h1)).2

/-- **a short stream**: when the line runs dry inside a frame (`s` a proper prefix of a frame), whatever `TTY.read`
returns is something `Chipset.command` rejects - its response validation accepts it for no command code -/
theorem read_short_rejected (f s t g r : Bytes) (hf : Framed f) (hs : f = s ++ t) (ht : t ≠ [])
    (h : ttyRead s = .ok (g, r)) (cmd : Nat) (d : Bytes) : pnAccept cmd g ≠ .ok d := by
  intro ha
  have hp := C14.pn53x_accept_sound cmd g d ha
  have hfg : f = g ++ (r ++ t) := by rw [hs, ← read_splits s g r h, List.append_assoc]
  have hne : r ++ t ≠ [] := by simp [ht]
  obtain ⟨_, hack | ⟨x, hx⟩⟩ := hf
  · -- the ACK frame is shorter than anything `Spec.parse` accepts
    have h9 := parse_min_length hp
    have : f.length = 6 := by rw [hack]; rfl
    rw [hfg] at this
    simp at this
    omega
  · rw [parse_prefix_none hx hfg hne] at hp
    cases hp

example : ttyRead [0, 0, 255, 3, 253, 0xD5, 3] = .ok ([0, 0, 255, 3, 253, 0xD5, 3], []) := by decide +kernel

/-- **composed with C14** (`pn53x_accept_sound`, `pn53x_accept_complete`): reading the line `f ++ r` and validating
what was read returns `data` exactly when the frame that was sent is a valid `D5, cmd+1, data` frame - `Chipset.command`
sees the frame that was sent, whatever follows it on the line -/
theorem read_then_accept (f r : Bytes) (hf : Framed f) (hn : ¬ Normal255 f) (cmd : Nat) (data : Bytes) :
    (ttyRead (f ++ r) >>= fun p => pnAccept cmd p.1) = .ok data ↔ Spec.parse f = some (0xD5, cmd + 1, data) := by
  rw [read_returns_frame_partial f r hf hn]
  exact ⟨C14.pn53x_accept_sound cmd f data, C14.pn53x_accept_complete cmd f data⟩

theorem read_then_accept' (f r : Bytes) (hf : Framed f) (hn : ¬ Normal255 f) (cmd : Nat) (data : Bytes) :
    (ttyRead (f ++ r) >>= fun p => pnAccept cmd p.1) = .ok data ↔ Spec.parse f = some (0xD5, cmd + 1, data) :=
  read_then_accept f r hf hn cmd data

/-! ## USB -/

/-- for a positive packet size and libusb1 calls that return, `USB.write` issues exactly the transfers `usbPackets` -/
theorem usb_write_transfers (bw : Int → Bytes → Int → Py Int) (ep : Int) (m : Nat) (hm : 0 < m) (frame : Bytes) (timeout : Int) :
    usbWriteWith bw (.ok ep) (.ok (m : Int)) frame timeout = sendAll bw ep timeout (usbPackets frame m) := by
  unfold usbWriteWith usbPackets
  have h0 : ¬ ((m : Int) = 0) := by omega
  have e : Int.fmod (frame.length : Int) (m : Int) = ((frame.length % m : Nat) : Int) := by
    rw [Int.fmod_eq_emod_of_nonneg _ (by omega)]; rfl
  simp only [Py.bind_ok, h0, if_false, e, Int.natCast_eq_zero]
  split <;> simp only [sendAll]

/-- the transfers carry the frame unchanged and the last one ends with a short packet (empty, or not a multiple of
the packet size): the device sees the end of the command frame -/
theorem usb_write_terminated (frame : Bytes) (m : Nat) :
    (usbPackets frame m).flatten = frame ∧
    ∃ p, (usbPackets frame m).getLast? = some p ∧ (p = [] ∨ p.length % m ≠ 0) := by
  unfold usbPackets
  split
  · exact ⟨by simp, [], rfl, Or.inl rfl⟩
  · rename_i h
    exact ⟨by simp, frame, rfl, Or.inr h⟩

example : usbPackets (List.replicate 64 7) 64 = [List.replicate 64 7, []] := by decide +kernel

/-- `USB.read` never returns an empty frame, and what it returns is what the bulk read delivered -/
theorem usb_read_nonempty (x f : Bytes) (h : usbReadCheck x = .ok f) : f = x ∧ f ≠ [] := by
  unfold usbReadCheck at h
  split at h
  · cases h
  · rename_i h0
    cases h
    exact ⟨rfl, fun e => h0 (by rw [e]; rfl)⟩

end NfcVerif.FnBridge.Transport
