import NfcVerif.Gen.FnUdp
import NfcVerif.Model.FnUdpRef
import NfcVerif.Lemmas.ErrMap
import NfcVerif.Lemmas.FnBridgePn53xCommon
import NfcVerif.Lemmas.FnBridgeTagCmdPrelude
import NfcVerif.Props.FnBridgePn53xRf
/-!
# Bridge theorems, group Udp (`nfc/clf/udp.py` -> `Gen/FnUdp.lean` -> `Model/FnUdpRef.lean`, `Model/ErrMap.lean`)

Properties C13 (what a datagram / a `sendto` result becomes: `datagram_bridge`, `datagram_model` = `udpParse` of the
C13 model, `rfoff_always_broken_link`, `datagram_never_value`, `exchange_model` = `udpExchange`, `exchange_safe`),
C18 / C19 (what `sense_*` / `listen_*` of the UDP driver send and accept).  Every regenerated definition is a pure
slice of a driver method between two socket calls (or the method with the socket calls as function parameters);
`Gen/FnUdp.lean` is regenerated from the source on every run.

`sense_tta` / `sense_ttf` of udp.py repeat statements of rcs380.py (the default requests `x if x else ..`, the two
SENS_RES tests, `uid + sdd_res[1:4]`, `data[1:]`); each has its own bridge here, against `FnUdpRef`.  Two texts are the
ones `Props/FnBridgePn53xRf.lean` states as lemmas about the regenerated text and are taken from there (hence the import):
the cascade tag insertion (`tta_uid_bridge`, `Pn53xRf.tta_uid_aux`) and the frame with its length octet
(`ldep_frames_bridge`, `Pn53xRf.len_frame_aux`: `FnUdpRef.lenFrame` has the body of the PN53x one).  Where udp.py must
deliver what pn53x.py delivers the reference is that of the PN53x group (`FnPn53xRfRef.ttaUid`, `ridCmd`, `ttfRes`,
`defaultSensfReq`).  `and4_zero` is `TagCmd.and_bit` of `Lemmas/FnBridgeTagCmdPrelude.lean`.
-/
namespace NfcVerif.FnBridge.Udp
open NfcVerif NfcVerif.PyFn NfcVerif.FnUdpRef NfcVerif.ErrMap NfcVerif.HostFrame NfcVerif.FnBridge.HostLink

/-! ## `_recv_data` / `_send_data` -/
theorem datagram_bridge (dg : Bytes) (rcvd : Int) (dec : String → Py String) (split : Py (Bytes × Bytes))
    (unhex : Bytes → Py Bytes) :
    Gen.Fn.udp_datagram dg rcvd dec split unhex = datagramG dg rcvd split (dec "ascii") unhex := by
  unfold Gen.Fn.udp_datagram datagramG startsWith rfoff wrapExc
  by_cases h : List.isPrefixOf [82, 70, 79, 70, 70] dg = true
  · simp only [h, if_true]
  · simp only [h]
    cases split with
    | error e => cases e <;> rfl
    | ok bh =>
      obtain ⟨b, hx⟩ := bh
      simp only [Py.bind_ok]
      cases dec "ascii" with
      | error e => cases e <;> rfl
      | ok s =>
        simp only [Py.bind_ok]
        cases unhex hx with
        | error e => cases e <;> rfl
        | ok d => rfl

theorem rfoff_always_broken_link (t : Bytes) (rcvd : Int) (dec : String → Py String) (split : Py (Bytes × Bytes))
    (unhex : Bytes → Py Bytes) :
    Gen.Fn.udp_datagram (rfoff ++ t) rcvd dec split unhex = .error .brokenLink := by
  rw [datagram_bridge]; unfold datagramG startsWith rfoff; simp

/-- with the library calls of the model (`splitWs`, ASCII test, `unhex` of Model/ErrMap.lean) the regenerated datagram
evaluation is `udpParse` of the C13 model (repaired variant), asked for the datagram's own type token -/
theorem datagram_model (dg : Bytes) (rcvd : Int) :
    datagramG dg rcvd (split2 dg) (decTok dg) unhexPy =
      (udpParse .repaired (tokOf dg) dg >>= fun o =>
        .ok (strOf (tokOf dg), o.getD [], rcvd + ((o.getD []).length : Int))) := by
  unfold datagramG udpParse split2 decTok tokOf unhexPy
  by_cases h : startsWith dg rfoff = true
  · simp only [h, if_true]; rfl
  · simp only [h]
    rcases hs : splitWs dg with _ | ⟨b, _ | ⟨hex, _ | ⟨c, r⟩⟩⟩
    · rfl
    · rfl
    · simp only [Py.bind_ok, List.headD_cons]
      by_cases ha : (b.any fun x => decide (x ≥ 128)) = true
      · simp only [ha, if_true]; rfl
      · simp only [ha]
        cases hu : unhex hex with
        | none => rfl
        | some d => simp [Option.getD]
    · rfl

theorem send_io_bridge (d : Bytes) (addr sent : Int) (sendto : Bytes → Int → Py Int) :
    Gen.Fn.udp_send_io d addr sent sendto = sendIo d sent (sendto d addr) := by
  unfold Gen.Fn.udp_send_io sendIo
  simp only [ne_eq, ite_not]
  rfl

theorem send_io_wr (d : Bytes) (sent : Int) (w : Wr) :
    (sendIo d sent (wrOut d w) >>= fun _ => .ok 0) = sendOut w := by
  cases w <;> simp [sendIo, wrOut, sendOut]
  have h : ¬ ((d.length : Int) - 1 = (d.length : Int)) := by omega
  simp [h]

theorem bind_error_bridge (n : Nat) : Gen.Fn.udp_bind_error (n : Int) = bindError n := by
  unfold Gen.Fn.udp_bind_error bindError
  py_nat

theorem mute_rfoff_bridge (p l r : Int) : Gen.Fn.udp_mute_rfoff p l r = muteSendsRfoff p l r := rfl

theorem deadline_bridge (t : Option Int) (now : Int) : Gen.Fn.udp_deadline t now = deadline t now := by
  cases t <;> rfl
theorem wait_bridge (t : Option Int) (ttr now : Int) : Gen.Fn.udp_wait t ttr now = selectWait t ttr now := by
  cases t <;> rfl
theorem ready_bridge (l : Bytes) : Gen.Fn.udp_ready l = decide (l.length = 1) := by
  unfold Gen.Fn.udp_ready; simp only [len_eq, lit_cast]; congr 1; simp; omega

theorem send_cmd_recv_rsp_bridge (tg : Int) (data : Option Bytes) (timeout brty addr : Int)
    (recv : Int → Int → Py (Int × Bytes × Int)) (send : Int → Bytes → Int → Py Int) :
    Gen.Fn.udp_send_cmd_recv_rsp tg data timeout brty addr recv send =
      exchangeG data (decide (timeout > 0)) (fun d => send brty d addr) (recv timeout brty) := by
  unfold Gen.Fn.udp_send_cmd_recv_rsp exchangeG
  py_nat
  rfl

theorem send_rsp_recv_cmd_bridge (tg : Int) (data : Option Bytes) (timeout : Option Int) (brty addr : Int)
    (recv : Option Int → Int → Py (Int × Bytes × Int)) (send : Int → Bytes → Int → Py Int) :
    Gen.Fn.udp_send_rsp_recv_cmd tg data timeout brty addr recv send =
      exchangeG data (match timeout with | none => true | some t => decide (t > 0)) (fun d => send brty d addr)
        (recv timeout brty) := rfl

/-- the regenerated exchange functions on the host behaviours of the C13 model are `udpExchange` -/
theorem exchange_model (v : Variant) (brty : Bytes) (hasData : Bool) (d : Bytes) (s r : Host) (tg b a t : Int) (ht : t > 0) :
    Gen.Fn.udp_send_cmd_recv_rsp tg (if hasData then some d else none) t b a
        (fun _ _ => udpRecv v brty r.reads >>= fun p => .ok (b, p, a)) (fun _ _ _ => sendOut s.wr) =
      (udpExchange v brty hasData s r >>= fun p => .ok (some p)) := by
  rw [send_cmd_recv_rsp_bridge]
  unfold exchangeG udpExchange sendOut
  cases hasData with
  | false => simp [ht]
  | true =>
    cases hw : s.wr with
    | ok => simp [ht]
    | raise e => simp
    | short => simp

theorem max_send_bridge (t : Int) : Gen.Fn.udp_max_send t = maxData := rfl
theorem max_recv_bridge (t : Int) : Gen.Fn.udp_max_recv t = maxData := rfl

/-! ## sense -/
theorem tta_brty_bridge (b : String) : Gen.Fn.udp_tta_brty b = brtyOk ["106A", "212A", "424A"] b := by
  unfold Gen.Fn.udp_tta_brty brtyOk
  by_cases h : b = "106A" ∨ b = "212A" ∨ b = "424A" <;> simp [h]

theorem ttb_brty_bridge (b : String) : Gen.Fn.udp_ttb_brty b = brtyOk ["106B", "212B", "424B"] b := by
  unfold Gen.Fn.udp_ttb_brty brtyOk
  by_cases h : b = "106B" ∨ b = "212B" ∨ b = "424B" <;> simp [h]

theorem ttf_brty_bridge (b : String) : Gen.Fn.udp_ttf_brty b = brtyOk ["212F", "424F"] b := by
  unfold Gen.Fn.udp_ttf_brty brtyOk
  by_cases h : b = "212F" ∨ b = "424F" <;> simp [h]

theorem tta_sens_req_bridge (o : Option Bytes) : Gen.Fn.udp_tta_sens_req o = reqOr sensReqDefault o := by
  unfold Gen.Fn.udp_tta_sens_req reqOr sensReqDefault
  cases o with
  | none => rfl
  | some s => cases s <;> simp

theorem ttb_req_bridge (o : Option Bytes) : Gen.Fn.udp_ttb_req o = reqOr sensbReqDefault o := by
  unfold Gen.Fn.udp_ttb_req reqOr sensbReqDefault
  cases o with
  | none => rfl
  | some s => cases s <;> simp

theorem tta_is_tt1_bridge (s : Bytes) : Gen.Fn.udp_tta_is_tt1 s = isTt1 s := by
  unfold Gen.Fn.udp_tta_is_tt1 isTt1
  py_nat

theorem tta_has_rid_bridge (s : Bytes) : Gen.Fn.udp_tta_has_rid s = hasRid s := by
  unfold Gen.Fn.udp_tta_has_rid hasRid
  py_nat

theorem tta_rid_cmd_bridge : Gen.Fn.udp_tta_rid_cmd = FnPn53xRfRef.ridCmd := rfl

theorem tta_uid_bridge (u : Bytes) : Gen.Fn.udp_tta_uid u = FnPn53xRfRef.ttaUid u := by
  unfold Gen.Fn.udp_tta_uid
  exact Pn53xRf.tta_uid_aux u

theorem tta_sel_req_bridge (i cmd : Nat) (uid : Bytes) (bcc : Nat) :
    Gen.Fn.udp_tta_sel_req i cmd uid bcc = selReq i cmd uid bcc := by
  unfold Gen.Fn.udp_tta_sel_req selReq
  py_nat
  by_cases h1 : cmd < 256 <;> by_cases h2 : bcc < 256 <;> simp [h1, h2]

theorem tta_sdd_req_bridge (cmd : Nat) : Gen.Fn.udp_tta_sdd_req cmd = sddReq cmd := by
  unfold Gen.Fn.udp_tta_sdd_req sddReq
  py_nat
  by_cases h1 : cmd < 256 <;> simp [h1]

theorem tta_sel_req2_bridge (cmd : Nat) (sdd : Bytes) : Gen.Fn.udp_tta_sel_req2 cmd sdd = selReqEcho cmd sdd := by
  unfold Gen.Fn.udp_tta_sel_req2 selReqEcho
  py_nat
  by_cases h1 : cmd < 256 <;> simp [h1]

theorem and4_zero (b : Nat) : b &&& 4 = 0 ↔ b / 4 % 2 = 0 := TagCmd.and_bit b 2

theorem tta_cascade_bridge (s : Bytes) : Gen.Fn.udp_tta_cascade s = cascadeBit s := by
  unfold Gen.Fn.udp_tta_cascade cascadeBit
  py_nat
  cases idxN s 0 with
  | error e => rfl
  | ok b =>
    simp only [Py.bind_ok, and4_zero]
    congr 1; apply decide_eq_decide.mpr; omega

theorem tta_complete_bridge (s : Bytes) : Gen.Fn.udp_tta_complete s = uidComplete s := by
  unfold Gen.Fn.udp_tta_complete uidComplete
  simp only [lit_cast, getB_bind, band_ofNat, Int.natCast_inj, and4_zero]

theorem tta_uid_part_bridge (u s : Bytes) : Gen.Fn.udp_tta_uid_part u s = uidPart u s := by
  unfold Gen.Fn.udp_tta_uid_part uidPart
  simp only [lit_cast, slice_ofNat, sliceN]

theorem tta_uid_last_bridge (u s : Bytes) : Gen.Fn.udp_tta_uid_last u s = uidLast u s := by
  unfold Gen.Fn.udp_tta_uid_last uidLast
  simp only [lit_cast, slice_ofNat, sliceN, List.drop_zero]

theorem ttb_res_ok_bridge (r : Bytes) : Gen.Fn.udp_ttb_res_ok r = .ok (sensbResOk r) := by
  unfold Gen.Fn.udp_ttb_res_ok sensbResOk
  cases r with
  | nil => simp [len_eq]
  | cons a l =>
    simp only [lit_cast, len_eq, ge_iff_le, Int.ofNat_le, getB_idxN, idxN_cons_zero, Py.bind_ok, List.head?_cons, Int.natCast_inj, Option.some.injEq]
    by_cases h : 11 ≤ l.length <;> by_cases h2 : a = 80 <;> simp [h, h2]

theorem ttf_req_bridge (r : Bytes) : Gen.Fn.udp_ttf_req r = sensfReqFrame r := by
  unfold Gen.Fn.udp_ttf_req sensfReqFrame FnPn53xRfRef.defaultSensfReq
  py_nat

theorem ttf_res_ok_bridge (d : Bytes) : Gen.Fn.udp_ttf_res_ok d = .ok (sensfResOk d) := by
  unfold Gen.Fn.udp_ttf_res_ok sensfResOk
  rcases d with _ | ⟨a, _ | ⟨b, l⟩⟩
  · simp [len_eq]
  · simp [len_eq]
  · simp only [lit_cast, len_eq, ge_iff_le, Int.ofNat_le, getB_idxN, idxN_cons_zero, idxN_cons_succ, Py.bind_ok, Int.natCast_inj]
    by_cases h : 16 ≤ l.length <;> by_cases h1 : a = l.length + 1 + 1 <;> by_cases h2 : b = 1 <;> simp [h, h1, h2]

theorem ttf_res_bridge (d : Bytes) : Gen.Fn.udp_ttf_res d = FnPn53xRfRef.ttfRes d := by
  unfold Gen.Fn.udp_ttf_res FnPn53xRfRef.ttfRes
  exact sliceFrom_ofNat d 1

/-! ## property facts (C13) -/

/-- A datagram that is not `<brty> <hex>` ends as TransmissionError (or BrokenLinkError for RFOFF), never as
ValueError: whatever the three library calls do, as long as they fail with ValueError only (`bytes.split` unpacking,
`UnicodeDecodeError`, `binascii.Error` are ValueErrors). -/
theorem datagram_never_value (dg : Bytes) (rcvd : Int) (split : Py (Bytes × Bytes)) (dec : Py String)
    (unhex : Bytes → Py Bytes) (hs : Safe (· = .value) split) (hd : Safe (· = .value) dec)
    (hu : ∀ h, Safe (· = .value) (unhex h)) :
    Safe (fun e => e = .brokenLink ∨ e = .transmission) (datagramG dg rcvd split dec unhex) := by
  unfold datagramG
  refine Safe.ite (Safe.throw (Or.inl rfl)) ?_
  -- the three library calls in sequence raise only ValueError, which the handler turns into TransmissionError
  have hi := Safe.bind' hs fun bh => Safe.bind' hd fun s =>
    Safe.bind' (hu bh.2) fun d => (Safe.ok (s, d) : Safe (· = .value) (.ok (s, d) : Py (String × Bytes)))
  intro e he
  split at he
  · cases he; exact Or.inr rfl
  · rename_i hne heq
    exact absurd (hi _ heq) (fun h => hne (by rw [h]))
  · cases he

theorem datagram_documented (dg : Bytes) (rcvd : Int) :
    Safe Documented (Gen.Fn.udp_datagram dg rcvd (fun _ => decTok dg) (split2 dg) unhexPy) := by
  intro e he
  rw [datagram_bridge] at he
  have hv : Safe (fun e => e = .brokenLink ∨ e = .transmission) (datagramG dg rcvd (split2 dg) (decTok dg) unhexPy) := by
    apply datagram_never_value
    · intro e h; unfold split2 at h; split at h <;> cases h; rfl
    · intro e h; unfold decTok at h; split at h <;> cases h; rfl
    · intro x e h; unfold unhexPy at h; split at h <;> cases h; rfl
  rcases hv e he with rfl | rfl
  · exact doc_brokenLink
  · exact doc_transmission

/-- only what `_send_data` / `_recv_data` raise leaves the exchange functions -/
theorem exchange_safe {α} (S : Exc → Prop) (data : Option Bytes) (w : Bool) (send : Bytes → Py Int) (recv : Py (α × Bytes × α))
    (hs : ∀ d, Safe S (send d)) (hr : Safe S recv) : Safe S (exchangeG data w send recv) := by
  unfold exchangeG
  refine Safe.bind' ?_ fun _ => Safe.ite (Safe.bind' hr fun _ => Safe.ok _) (Safe.ok _)
  cases data with
  | none => exact Safe.ok _
  | some d => exact Safe.bind' (hs d) fun _ => Safe.ok _

/-- `sendto` raising OSError only: `_send_data` behind the formatting raises IOError or TransmissionError -/
theorem send_io_documented (d : Bytes) (sent : Int) (ret : Py Int) (h : Safe (fun e => ∃ n, e = .io n) ret) :
    Safe Documented (sendIo d sent ret) := by
  unfold sendIo
  refine Safe.bind' (h.mono ?_) fun r => Safe.ite (Safe.ok _) (Safe.throw doc_transmission)
  rintro e ⟨n, rfl⟩
  exact doc_io n

/-! ## listen -/
theorem lta_sel0_bridge (t : Bytes) : Gen.Fn.udp_lta_sel0 t = selRes0 t := by
  unfold Gen.Fn.udp_lta_sel0 selRes0
  py_nat
  cases idxN t 0 with
  | error e => rfl
  | ok b =>
    simp only [Py.bind_ok]
    have h : b &&& 251 < 256 := Nat.lt_of_le_of_lt Nat.and_le_right (by decide)
    simp [h]

theorem lta_sel_aux (s sdd : Bytes) (n : Nat) :
    (getB s ((0 : Nat) : Int) >>= fun t1 =>
      (Except.ok (PyFn.bor (PyFn.band t1 ((251 : Nat) : Int))
        (PyFn.shl (if (decide (PyFn.len sdd > ((n : Nat) : Int))) = true then 1 else 0) ((2 : Nat) : Int))) : Py Int)) =
    (selResFor s sdd n >>= fun v => .ok (v : Int)) := by
  unfold selResFor
  simp only [getB_idxN]
  cases idxN s 0 with
  | error e => rfl
  | ok b =>
    simp only [Py.bind_ok, band_ofNat, len_eq, gt_iff_lt, Int.ofNat_lt, decide_eq_true_eq]
    by_cases h : n < sdd.length
    · simp only [h, if_true]; exact congrArg _ (bor_ofNat (b &&& 251) 4)
    · simp only [h, if_false]; exact congrArg _ (bor_ofNat (b &&& 251) 0)

theorem lta_sel1_bridge (s sdd : Bytes) : Gen.Fn.udp_lta_sel1 s sdd = (selResFor s sdd 5 >>= fun v => .ok (v : Int)) := by
  unfold Gen.Fn.udp_lta_sel1; simp only [lit_cast]; exact lta_sel_aux s sdd 5
theorem lta_sel2_bridge (s sdd : Bytes) : Gen.Fn.udp_lta_sel2 s sdd = (selResFor s sdd 10 >>= fun v => .ok (v : Int)) := by
  unfold Gen.Fn.udp_lta_sel2; simp only [lit_cast]; exact lta_sel_aux s sdd 10
theorem lta_sel3_bridge (s sdd : Bytes) : Gen.Fn.udp_lta_sel3 s sdd = (selResFor s sdd 15 >>= fun v => .ok (v : Int)) := by
  unfold Gen.Fn.udp_lta_sel3; simp only [lit_cast]; exact lta_sel_aux s sdd 15

/-- the request tests of `_listen_tta`: SENS_REQ, SDD_REQ of the three cascade levels, SEL_REQ echoing our SDD_RES -/
theorem lta_requests_bridge (d sdd : Bytes) :
    Gen.Fn.udp_lta_is_sens d = decide (d = [0x26]) ∧ Gen.Fn.udp_lta_is_sdd1 d = decide (d = [0x93, 0x20]) ∧
    Gen.Fn.udp_lta_is_sdd2 d sdd = decide (d = [0x95, 0x20] ∧ 5 < sdd.length) ∧
    Gen.Fn.udp_lta_is_sdd3 d sdd = decide (d = [0x97, 0x20] ∧ 10 < sdd.length) ∧
    Gen.Fn.udp_lta_is_sel1 d sdd = decide (d = 0x93 :: 0x70 :: sdd.take 5) ∧
    Gen.Fn.udp_lta_is_sel2 d sdd = decide (d = 0x95 :: 0x70 :: (sdd.drop 5).take 5) ∧
    Gen.Fn.udp_ldep_is_sens d = decide (d = [0x26]) := by
  refine ⟨rfl, rfl, ?_, ?_, ?_, ?_, rfl⟩
  · unfold Gen.Fn.udp_lta_is_sdd2; simp only [lit_cast, len_eq, gt_iff_lt, Int.ofNat_lt]
  · unfold Gen.Fn.udp_lta_is_sdd3; simp only [lit_cast, len_eq, gt_iff_lt, Int.ofNat_lt]
  · unfold Gen.Fn.udp_lta_is_sel1; simp only [lit_cast, slice_ofNat, sliceN]; simp
  · unfold Gen.Fn.udp_lta_is_sel2; simp only [lit_cast, slice_ofNat, sliceN]; simp

/-- AS FOUND: the SEL_REQ test of cascade level 3 compares with `95 70 ..` (the level 2 code) instead of `97 70 ..` -/
theorem lta_is_sel3_asfound (d sdd : Bytes) :
    Gen.Fn.udp_lta_is_sel3 d sdd = decide (d = 0x95 :: 0x70 :: (sdd.drop 10).take 5) := by
  unfold Gen.Fn.udp_lta_is_sel3; simp only [lit_cast, slice_ofNat, sliceN]; simp

theorem lta_selected_bridge (s : Bytes) : Gen.Fn.udp_lta_selected s = uidComplete s := tta_complete_bridge s

theorem lta_is_rats_bridge (d : Bytes) : Gen.Fn.udp_lta_is_rats d = firstIs d 0xE0 := by
  unfold Gen.Fn.udp_lta_is_rats firstIs
  cases d with
  | nil => rfl
  | cons a l => simp only [lit_cast, getB_idxN, idxN_cons_zero, Py.bind_ok, Int.natCast_inj]

theorem ltb_check_bridge (r : Bytes) : Gen.Fn.udp_ltb_check r = ltbCheck r := by
  unfold Gen.Fn.udp_ltb_check ltbCheck
  py_nat
  by_cases h : 12 ≤ r.length
  · have : r ≠ [] := by intro e; subst e; simp at h
    simp [h, this]
  · simp [h]

theorem ltb_is_req_bridge (d : Bytes) : Gen.Fn.udp_ltb_is_req d = isSensbReq d := by
  unfold Gen.Fn.udp_ltb_is_req isSensbReq
  rcases d with _ | ⟨a, _ | ⟨b, _ | ⟨c, _ | ⟨e, r⟩⟩⟩⟩ <;> simp [len_eq]
  · exact eq_comm
  · intro h; omega

theorem listen_fail_bridge : Gen.Fn.udp_ltb_recv_fail = none ∧ Gen.Fn.udp_ldep_recv_fail = none ∧
    Gen.Fn.udp_ldep_unframe_fail = none := ⟨rfl, rfl, rfl⟩

theorem ltf_frame_ok_bridge (d : Bytes) : Gen.Fn.udp_ltf_frame_ok d = .ok (frameOk d) := by
  unfold Gen.Fn.udp_ltf_frame_ok frameOk
  cases d with
  | nil => simp
  | cons a l =>
    py_nat
    simp [eq_comm]

theorem ltf_tests_bridge (d res : Bytes) :
    Gen.Fn.udp_ltf_is_poll d = List.isPrefixOf [6, 0] d ∧ Gen.Fn.udp_ldep_is_poll d = List.isPrefixOf [6, 0] d ∧
    Gen.Fn.udp_ltf_tt3_for_us d res = forUs d res ∧ Gen.Fn.udp_ltf_atr_for_us d res = atrForUs d res ∧
    Gen.Fn.udp_ltf_cmd d = d.drop 1 := by
  refine ⟨Bool.decide_eq_true, Bool.decide_eq_true, ?_, ?_, ?_⟩
  · unfold Gen.Fn.udp_ltf_tt3_for_us forUs; simp only [lit_cast, slice_ofNat, sliceN]
  · unfold Gen.Fn.udp_ltf_atr_for_us atrForUs; simp only [lit_cast, slice_ofNat, sliceN]; simp
  · unfold Gen.Fn.udp_ltf_cmd; simp only [lit_cast, sliceFrom_ofNat]

theorem ltf_armed_bridge (a b : Option Bytes) : Gen.Fn.udp_ltf_armed a b = armed a b := by
  unfold Gen.Fn.udp_ltf_armed armed
  cases a <;> cases b <;> simp

/-! ## listen_dep -/
theorem ldep_checks_bridge (f s d l a : Bytes) : Gen.Fn.udp_ldep_checks f s d l a = ldepChecks f s d l a := by
  unfold Gen.Fn.udp_ldep_checks ldepChecks
  py_nat

theorem ldep_time_bridge (t now ttr : Int) :
    Gen.Fn.udp_ldep_deadline t now = ldepDeadline t now ∧ Gen.Fn.udp_ldep_more ttr now = ldepMore ttr now ∧
    Gen.Fn.udp_ldep_wait ttr now = ldepWait ttr now := ⟨rfl, rfl, rfl⟩

/-- the receive timeout is never negative and, while the deadline lies ahead, the time left -/
theorem gen_ldep_wait_range (ttr now : Int) :
    0 ≤ Gen.Fn.udp_ldep_wait ttr now ∧ (Gen.Fn.udp_ldep_more ttr now = true → Gen.Fn.udp_ldep_wait ttr now = ttr - now) := by
  rw [(ldep_time_bridge 0 now ttr).2.2, (ldep_time_bridge 0 now ttr).2.1]
  unfold ldepWait ldepMore
  constructor
  · split <;> omega
  · intro h; simp at h; split <;> omega

theorem ldep_frames_bridge (x : Bytes) :
    Gen.Fn.udp_ldep_atr_frame x = lenFrame x ∧ Gen.Fn.udp_ldep_psl_frame x = lenFrame x ∧
    Gen.Fn.udp_ldep_dsl_res x = lenFrame (resOf 9 x) ∧ Gen.Fn.udp_ldep_rls_res x = lenFrame (resOf 11 x) ∧
    Gen.Fn.udp_ldep_psl_res x = resOf 5 x := by
  -- `lenFrame` here and in the PN53x reference are the same function
  have aux : ∀ y : Bytes, (PyFn.mkBytes [PyFn.len y + ((1 : Nat) : Int)] >>= fun t1 => (Except.ok (t1 ++ y) : Py Bytes)) = lenFrame y :=
    Pn53xRf.len_frame_aux
  refine ⟨?_, ?_, ?_, ?_, ?_⟩
  · unfold Gen.Fn.udp_ldep_atr_frame; simp only [lit_cast]; exact aux x
  · unfold Gen.Fn.udp_ldep_psl_frame; simp only [lit_cast]; exact aux x
  · unfold Gen.Fn.udp_ldep_dsl_res resOf; simp only [lit_cast, slice_ofNat, sliceN]; exact aux _
  · unfold Gen.Fn.udp_ldep_rls_res resOf; simp only [lit_cast, slice_ofNat, sliceN]; exact aux _
  · unfold Gen.Fn.udp_ldep_psl_res resOf; simp only [lit_cast, slice_ofNat, sliceN]

theorem ldep_unframe_bridge (b : String) (d : Bytes) : Gen.Fn.udp_ldep_unframe b d = unframe (decide (b = "106A")) d := by
  unfold Gen.Fn.udp_ldep_unframe unframe
  by_cases hb : b = "106A"
  · simp only [hb, if_true, decide_true]
    rcases d with _ | ⟨x, _ | ⟨n, r⟩⟩
    · rfl
    · simp only [pop0, Py.bind_ok, lit_cast, Int.natCast_inj]
      by_cases hx : x = 240 <;> simp [hx]
    · simp only [pop0, Py.bind_ok, lit_cast, Int.natCast_inj, len_eq]
      by_cases hx : x = 240 <;> simp [hx]
      by_cases hn : r.length + 1 = n
      · have e : ((r.length : Int) + 1 = (n : Int)) := by omega
        simp [hn, e]
      · have e : ¬ ((r.length : Int) + 1 = (n : Int)) := by omega
        simp [hn, e]
  · simp only [hb, if_false, decide_false, Py.bind_ok]
    rcases d with _ | ⟨n, r⟩
    · rfl
    · simp only [pop0, Py.bind_ok, len_eq, Int.natCast_inj]
      by_cases hn : (n :: r).length = n <;> simp [hn] <;> omega

/-- a frame built by the peer's `lenFrame` (with `F0` at 106A) is unframed to its payload -/
theorem unframe_lenFrame (x : Bytes) (a : Bool) :
    unframe a ((if a then [0xF0] else []) ++ (x.length + 1) :: x) = .ok x := by
  cases a <;> simp [unframe]

theorem ldep_codes_bridge (d : Bytes) :
    Gen.Fn.udp_ldep_is_psl d = hasCode d 4 ∧ Gen.Fn.udp_ldep_is_dsl d = hasCode d 8 ∧ Gen.Fn.udp_ldep_is_rls d = hasCode d 10 ∧
    Gen.Fn.udp_ldep_is_dep d = hasCode d 6 ∧ Gen.Fn.udp_ldep_atr_req_a d = d.drop 2 ∧ Gen.Fn.udp_ldep_atr_req_f d = d.drop 1 ∧
    Gen.Fn.udp_lta_atr_req d = d.drop 2 ∧ Gen.Fn.udp_ldep_is_atr_f d = isAtrF d := by
  refine ⟨Bool.decide_eq_true, Bool.decide_eq_true, Bool.decide_eq_true, Bool.decide_eq_true, ?_, ?_, ?_, ?_⟩
  · unfold Gen.Fn.udp_ldep_atr_req_a; simp only [lit_cast, sliceFrom_ofNat]
  · unfold Gen.Fn.udp_ldep_atr_req_f; simp only [lit_cast, sliceFrom_ofNat]
  · unfold Gen.Fn.udp_lta_atr_req; simp only [lit_cast, sliceFrom_ofNat]
  · unfold Gen.Fn.udp_ldep_is_atr_f isAtrF; simp only [lit_cast, len_eq, ge_iff_le, Int.ofNat_le, slice_ofNat, sliceN]

theorem ldep_f0_bridge (b : String) : Gen.Fn.udp_ldep_f0 b = decide (b = "106A") := rfl

theorem ldep_psl_brty_bridge (r : Bytes) : Gen.Fn.udp_ldep_psl_brty r = (pslBrty r >>= fun v => .ok (v : Int)) := by
  unfold Gen.Fn.udp_ldep_psl_brty pslBrty
  py_nat

/-- the bit rate index taken from PSL_REQ is an index into (106A, 212F, 424F, ..): below 8 -/
theorem gen_psl_brty_range (r : Bytes) (v : Int) (h : Gen.Fn.udp_ldep_psl_brty r = .ok v) : 0 ≤ v ∧ v < 8 := by
  rw [ldep_psl_brty_bridge] at h
  unfold pslBrty at h
  cases hi : idxN r 3 with
  | error e => rw [hi] at h; cases h
  | ok b => rw [hi] at h; simp only [Py.bind_ok] at h; cases h; omega

/-! ## non-vacuity -/
example : Gen.Fn.udp_datagram (rfoff ++ [32, 48, 48]) 7 (fun _ => .ok "106A") (.ok ([49], [48, 48])) (fun h => .ok h) = .error .brokenLink :=
  rfoff_always_broken_link _ _ _ _ _
example : udpParse .repaired [49, 48, 54, 65] [49, 48, 54, 65, 32, 122, 122] = .error .transmission := by decide
example : udpParse .repaired [49, 48, 54, 65] [49, 48, 54, 65, 32, 50, 54] = .ok (some [0x26]) := by decide
example : Gen.Fn.udp_send_io [1, 2, 3] 0 10 (fun _ _ => .ok 3) = .ok 13 := by decide
example : Gen.Fn.udp_send_io [1, 2, 3] 0 10 (fun _ _ => .ok 2) = .error .transmission := by decide
example : Gen.Fn.udp_send_cmd_recv_rsp 0 (some [1]) 1 0 0 (fun _ _ => .error .timeout) (fun _ _ _ => .ok 0) = .error .timeout := by decide
example : Gen.Fn.udp_send_cmd_recv_rsp 0 (some [1]) 0 0 0 (fun _ _ => .error .timeout) (fun _ _ _ => .ok 0) = .ok none := by decide
example : Gen.Fn.udp_ttf_req [0, 0x12, 0xFC, 1, 3] = .ok [6, 0, 0x12, 0xFC, 1, 3] := by decide
example : sensbResOk (0x50 :: List.replicate 11 0) = true := by decide
example : Gen.Fn.udp_tta_uid [1, 2, 3, 4, 5, 6, 7] = [0x88, 1, 2, 3, 4, 5, 6, 7] := by decide
example : Gen.Fn.udp_ldep_unframe "106A" [0xF0, 3, 0xD4, 4] = .ok [0xD4, 4] := by decide
example : Gen.Fn.udp_ldep_unframe "212F" [4, 0xD4, 4] = .error .assertion := by decide
example : Gen.Fn.udp_ldep_wait 10 3 = 7 ∧ Gen.Fn.udp_ldep_wait 3 10 = 0 := by decide
/-- the level 3 SEL_REQ `97 70 ..` of an initiator is not recognised (see `lta_is_sel3_asfound`) -/
example : Gen.Fn.udp_lta_is_sel3 [0x97, 0x70, 1, 2, 3, 4, 4] (List.replicate 10 0 ++ [1, 2, 3, 4, 4]) = false := by decide

end NfcVerif.FnBridge.Udp
