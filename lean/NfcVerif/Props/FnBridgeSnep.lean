import NfcVerif.Lemmas.FnBridgeSnep
/-!
# Bridge theorems, group Snep (`nfc/snep/client.py`, `nfc/snep/server.py`, `nfc/handover/client.py` pure slices
-> `Gen/FnSnep.lean` -> `Model/Snep.lean`, `Model/SnepChannel.lean`, `Model/Handover.lean`, `Model/PeerSnep.lean`)

Properties C06 (messages survive fragmentation; the size limits are enforced) and C07 (octets of the peer raise
nothing but what the code handles).  The cuts are listed in `harness/fnspecs/snep.py` and in the doc comments of
`Gen/FnSnep.lean`.  Kinds of statements:

* `<slice>_bridge`: a regenerated slice equals the arithmetic the models use (`Snep.hdr`, `Snep.request`,
  `beNat` of the length field, `List.drop`), `<slice>_peer`: it equals the `Py`-level transcription of the C07
  model (`PeerSnep.unpackL`, `unpackFromBxL`, `unpackBBL`, `packResponse`);
* `process_bridge`, `respond_bridge`, `srv_on_recv_bridge`, `cli_finish_bridge`, `cli_on_recv_bridge`, `cli_send_bridge`,
  `cli_start_bridge`: the transition functions of the C06 state machines (`Snep.process`, `respond`, `srvOnRecv`,
  `cliFinish`, `cliOnRecv`, `cliSend`, `cliStart`) equal the compositions `processGen`, .. of `Lemmas/FnBridgeSnep.lean`,
  in which every condition, slice and protocol constant is a regenerated `expr=` cut pinned to its statement; hand
  written remain the control skeleton and the offsets of the fragment loops.  Hypotheses: send MIU >= 1, the
  application callbacks answer with a one-octet code / a message below 2^32 octets (`HandlersOk`), and - because the
  models subtract the 6 header octets in `Nat` while Python subtracts in `int` - a reassembly buffer of at least 6
  octets (an invariant of the models: the buffer starts as a first fragment that passed the `len < 6` check).
  `*_mid` are stepping stones (header slices regenerated, conditions by hand);
* `ho_send_octets_bridge`: `HandoverClient.send_octets` over an oracle socket offers exactly `Chan.chunks miu octets`;
  `ho_srv_frags_bridge`: the fragments of `HandoverServer.serve`;
* `gen_*`: statements of C06 / C07 restated for the regenerated code.
-/
namespace NfcVerif.FnBridge.Snep
open NfcVerif NfcVerif.PyFn NfcVerif.Chan NfcVerif.Snep

/-! ## headers built by the client and by the server -/

/-- the response header in front of the response data: `Snep.hdr`; `struct.error` when the code is not an octet
or the data does not fit a 32 bit length -/
theorem response_pack_bridge (code : Nat) (data : Bytes) :
    Gen.Fn.snep_response_pack (code : Int) data
      = if code > 255 ∨ data.length ≥ 2 ^ 32 then .error .struct else .ok (hdr code data.length ++ data) := by
  unfold Gen.Fn.snep_response_pack hdr
  simp only [len_eq, lit_cast, pack_BBL, ite_ok_bind]
  exact ite_flip (by omega) (fun _ => rfl) fun _ => rfl

theorem put_request_bridge (acc : Nat) (octets : Bytes) :
    Gen.Fn.snep_put_request octets = request acc .put octets := by
  unfold Gen.Fn.snep_put_request request
  simp only [len_eq, lit_cast, pack_BBL, ite_ok_bind]
  exact ite_flip (by omega) (fun _ => rfl) fun _ => rfl

theorem get_request_bridge (acc : Nat) (octets : Bytes) :
    Gen.Fn.snep_get_request octets (acc : Int) = request acc .get octets := by
  unfold Gen.Fn.snep_get_request request
  simp only [len_eq, lit_cast, ← Int.natCast_add, pack_BBLL, ite_ok_bind]
  exact ite_flip (by omega) (fun _ => rfl) fun _ => rfl

/-- a negative `acceptable_length` is `struct.error` as well -/
theorem get_request_neg (acc : Int) (h : acc < 0) (octets : Bytes) :
    Gen.Fn.snep_get_request octets acc = .error .struct := by
  unfold Gen.Fn.snep_get_request
  -- not an instance of `pack_BBLL` (the last field is no natural): field by field, and the last one fails
  simp only [len_eq, lit_cast, ← Int.natCast_add, pack_cons, packField_B_nat, packField_Ibe_nat, packField_neg _ _ h,
    ite_ok_bind, Py.bind_ok, Py.bind_error, Nat.reduceLT, if_true]
  split <;> rfl


example : Gen.Fn.snep_response_pack 0x81 [1, 2, 3] = .ok [0x10, 0x81, 0, 0, 0, 3, 1, 2, 3] := by decide +kernel
example : Gen.Fn.snep_response_pack 256 [] = .error .struct := by decide +kernel
example : Gen.Fn.snep_put_request [0xD0, 0, 0] = .ok [0x10, 2, 0, 0, 0, 3, 0xD0, 0, 0] := by decide +kernel
example : Gen.Fn.snep_get_request [0xD0, 0, 0] 1024 = .ok [0x10, 1, 0, 0, 0, 7, 0, 0, 4, 0, 0xD0, 0, 0] := by
  decide +kernel

/-! ## header fields read from the peer's octets -/

/-- `struct.unpack_from(">BxL", data)`: version octet and big-endian length; `struct.error` below 6 octets -/
theorem serve_header_bridge (m : Bytes) :
    Gen.Fn.snep_serve_header m
      = if m.length < 6 then .error .struct
        else .ok (((m.headD 0 : Nat) : Int), ((beNat ((m.drop 2).take 4) : Nat) : Int)) := by
  unfold Gen.Fn.snep_serve_header
  py_nat
  exact ite_flip (by omega) (fun _ => by rw [headD_eq_at0]) fun _ => rfl


/-- `struct.unpack(">BBL", snep_response[:6])`: `struct.error` below 6 octets -/
theorem recv_unpack_bridge (m : Bytes) :
    Gen.Fn.snep_recv_unpack m
      = if m.length < 6 then .error .struct
        else .ok (((m.headD 0 : Nat) : Int), (((m.drop 1).headD 0 : Nat) : Int),
                  ((beNat ((m.drop 2).take 4) : Nat) : Int)) := by
  unfold Gen.Fn.snep_recv_unpack
  py_nat
  refine ite_flip (by simp only [List.length_take]; omega) (fun _ => ?_) fun _ => rfl
  rw [at0_take (by omega), at0_take (by omega), headD_eq_at0, headD_drop, take_drop_take m (show 0 + 2 + 4 ≤ 6 by omega)]

theorem get_fields_bridge (d : Bytes) :
    Gen.Fn.snep_get_fields d
      = if d.length < 10 then .error .struct
        else .ok (((beNat ((d.drop 6).take 4) : Nat) : Int), d.drop 10) := by
  unfold Gen.Fn.snep_get_fields
  py_nat
  exact ite_flip (by simp only [sliceN, List.length_take, List.length_drop]; omega)
    (fun _ => by simp only [sliceN, List.drop_zero, List.take_take, Nat.min_self]) fun _ => rfl

theorem put_fields_bridge (d : Bytes) : Gen.Fn.snep_put_fields d = d.drop 6 := sliceFrom_ofNat d 6

theorem get_excess_bridge (code acc : Nat) (data : Bytes) :
    Gen.Fn.snep_get_excess (code : Int) data (acc : Int)
      = if data.length > acc then (0xC1, []) else ((code : Int), data) := by
  unfold Gen.Fn.snep_get_excess
  simp only [len_eq, Int.ofNat_lt, gt_iff_lt]


example : Gen.Fn.snep_serve_header [0x10, 2, 0, 0, 1, 2, 9] = .ok (0x10, 258) := by decide +kernel
example : Gen.Fn.snep_serve_header [0x10, 2, 0, 0, 1] = .error .struct := by decide +kernel
example : Gen.Fn.snep_recv_unpack [0x10, 0x81, 0, 0, 0, 1, 7] = .ok (0x10, 0x81, 1) := by decide +kernel
example : Gen.Fn.snep_get_fields [0x10, 1, 0, 0, 0, 5, 0, 0, 1, 0, 0xD0] = .ok (256, [0xD0]) := by decide +kernel
example : Gen.Fn.snep_get_excess 0x81 [1, 2, 3] 2 = (0xC1, []) := by decide +kernel

/-! ## transitions of the C06 state machines as compositions of the regenerated slices -/

theorem response_pack_ok (code : Nat) (data : Bytes) (hc : code < 256) (hl : data.length < 2 ^ 32) :
    Gen.Fn.snep_response_pack (code : Int) data = .ok (hdr code data.length ++ data) := by
  rw [response_pack_bridge, if_neg (by omega)]

/-- `process_snep_request` of the model is the composition of the regenerated slices with the application callbacks
(which answer with a one-octet code / a message that fits the 32 bit length field) -/
theorem process_mid (h : Handlers) (data : Bytes)
    (hput : ∀ o, h.put o < 256) (hget : ∀ o c, h.get o = .inl c → c < 256)
    (hlen : ∀ o d, h.get o = .inr d → d.length < 2 ^ 32) :
    process h data = processMid h data := by
  unfold process processMid
  have hbad : Gen.Fn.snep_response_pack 0xC2 [] = .ok (hdr 0xC2 0) := by
    have := response_pack_ok 0xC2 [] (by omega) (by simp)
    simpa using this
  match data with
  | [] => simp [idxN, getB_nil]
  | [a] => rw [getB_one, getB_nil]; simp [idxN]
  | a :: c :: rest =>
    rw [getB_one, getB_zero]
    simp only [idxN, List.getElem?_cons_succ, List.getElem?_cons_zero, Py.bind_ok, len_eq, hbad]
    have e1 : (((c : Nat) : Int) = 1) ↔ c = 1 := by omega
    have e2 : (((c : Nat) : Int) = 2) ↔ c = 2 := by omega
    have e10 : (((a :: c :: rest).length : Int) ≥ 10) ↔ (a :: c :: rest).length ≥ 10 := by omega
    simp only [e1, e2, e10]
    by_cases hc1 : c = 1 ∧ (a :: c :: rest).length ≥ 10
    · have h10 : ¬ (a :: c :: rest).length < 10 := by omega
      rw [if_pos hc1, if_pos hc1, get_fields_bridge, if_neg h10]
      simp only [Py.bind_ok]
      cases hv : h.valid ((a :: c :: rest).drop 10) with
      | false => simp
      | true =>
        simp only [Bool.true_eq_false, if_false]
        cases hg : h.get ((a :: c :: rest).drop 10) with
        | inl k =>
          have hk := hget _ _ hg
          simp only []
          rw [get_excess_bridge]
          simp only [List.length_nil]
          by_cases hx : 0 > beNat (((a :: c :: rest).drop 6).take 4)
          · omega
          · rw [if_neg hx, if_neg (by omega), response_pack_ok k [] hk (by simp)]
            simp
        | inr d =>
          have hd := hlen _ _ hg
          simp only []
          rw [show (0x81 : Int) = ((0x81 : Nat) : Int) from rfl, get_excess_bridge]
          by_cases hx : d.length > beNat (((a :: c :: rest).drop 6).take 4)
          · rw [if_pos hx, if_pos hx, show (0xC1 : Int) = ((0xC1 : Nat) : Int) from rfl,
              response_pack_ok 0xC1 [] (by omega) (by simp)]
            simp
          · rw [if_neg hx, if_neg hx, response_pack_ok 0x81 d (by omega) hd]
            simp
    · rw [if_neg hc1, if_neg hc1]
      by_cases hc2 : c = 2
      · rw [if_pos hc2, if_pos hc2, put_fields_bridge]
        cases hv : h.valid ((a :: c :: rest).drop 6) with
        | false => simp
        | true =>
          simp only [Bool.true_eq_false, if_false]
          rw [response_pack_ok _ [] (hput _) (by simp)]
          simp
      · rw [if_neg hc2, if_neg hc2]


/-- the head of the `_serve` loop (model `srvOnRecv cfg .idle`) is the regenerated header unpack inside the
conditions of the source -/
theorem srv_idle_mid (cfg : SCfg) (m : Bytes) : srvOnRecv cfg .idle m = srvIdleMid cfg m := by
  unfold srvIdleMid
  rw [serve_header_bridge, srvOnRecv_idle]
  simp only [len_lt_six]
  by_cases h6 : m.length < 6
  · simp only [if_pos h6, ite_self]
  · have h0 : m ≠ [] := by intro h; subst h; simp at h6
    simp only [if_neg h6, if_neg h0, show (4 : Int) = ((4 : Nat) : Int) from rfl, shr_ofNat, Nat.shiftRight_eq_div_pow,
      Int.ofNat_lt, gt_iff_lt, more_cast h6, Int.toNat_natCast, lit_lt_cast]


/-- `recv_response` on the first fragment (model `cliOnRecv (.awaitResp op acc)`) is the regenerated header
unpack inside the conditions of the source -/
theorem cli_await_mid (op : Op) (acc : Nat) (m : Bytes) :
    cliOnRecv (.awaitResp op acc) m = cliAwaitMid op acc m := by
  unfold cliAwaitMid
  rw [recv_unpack_bridge, cliOnRecv_awaitResp]
  simp only [len_lt_six]
  by_cases h6 : m.length < 6
  · simp only [if_pos h6]
  · simp only [if_neg h6, Int.ofNat_lt, gt_iff_lt, more_cast h6, Int.toNat_natCast]

/-! ## `recv_response`: the whole check slice of the first fragment -/

/-- the checks of the first response fragment: `None` (no response) below six octets or above the acceptable
length, else the announced length -/
theorem recv_header_bridge (m : Bytes) (acc : Nat) :
    Gen.Fn.snep_recv_header m (acc : Int)
      = if m.length < 6 then .ok none
        else if beNat ((m.drop 2).take 4) > acc then .ok none
        else .ok (some ((beNat ((m.drop 2).take 4) : Nat) : Int)) := by
  have e : Gen.Fn.snep_recv_header m acc = if len m < 6 then .ok none else
      Gen.Fn.snep_recv_unpack m >>= fun r => .ok (if r.2.2 > (acc : Int) then none else some r.2.2) := by
    unfold Gen.Fn.snep_recv_header Gen.Fn.snep_recv_unpack
    rw [bind_assoc]; rfl
  rw [e, recv_unpack_bridge]
  py_nat
  by_cases h6 : m.length < 6
  · simp only [h6, if_true]
  · simp only [h6, if_false, apply_ite Except.ok]

/-- `recv_response` on the first fragment (model `cliOnRecv (.awaitResp op acc)`) is the regenerated check slice
followed by the reassembly condition -/
theorem cli_await_hdr_mid (op : Op) (acc : Nat) (m : Bytes) :
    cliOnRecv (.awaitResp op acc) m = cliAwaitHdrMid op acc m := by
  unfold cliAwaitHdrMid
  rw [recv_header_bridge, cliOnRecv_awaitResp]
  by_cases h6 : m.length < 6
  · simp only [if_pos h6]
  · by_cases hb : beNat ((m.drop 2).take 4) > acc
    · simp only [if_neg h6, if_pos hb]
    · simp only [if_neg h6, if_neg hb, more_cast h6, Int.toNat_natCast]

example : Gen.Fn.snep_recv_header [0x10, 0x81, 0, 0, 0, 9, 1] 8 = .ok none := by decide +kernel
example : Gen.Fn.snep_recv_header [0x10, 0x81, 0, 0, 0, 9, 1] 9 = .ok (some 9) := by decide +kernel

/-- C06 (`snep_oversize_rejected`, client side of GET): a response that announces more than the acceptable length
is dropped whole, whatever its first fragment carries -/
theorem gen_recv_oversize_dropped (op : Op) (acc : Nat) (m : Bytes) (h6 : 6 ≤ m.length)
    (hbig : beNat ((m.drop 2).take 4) > acc) :
    cliOnRecvGen (.awaitResp op acc) m = (.done (noResponse op), []) := by
  show cliAwaitGen op acc m = _
  unfold cliAwaitGen
  rw [recv_header_bridge, if_neg (by omega), if_pos hbig]

/-! ## the transition functions of the C06 model = compositions of regenerated pieces only -/

theorem process_bridge (h : Handlers) (hk : HandlersOk h) (data : Bytes) : process h data = processGen h data := by
  rw [process_mid h data hk.put hk.getCode hk.getLen]
  unfold processMid processGen Gen.Fn.snep_srv_is_get Gen.Fn.snep_srv_is_put
  cases hg : getB data 1 with
  | error e => rfl
  | ok code =>
    simp only [Py.bind_ok, decide_eq_true_eq]

theorem respond_bridge (smiu : Nat) (hm : 0 < smiu) (resp : Bytes) : respond smiu resp = respondGen smiu resp := by
  unfold respond respondGen Gen.Fn.snep_srv_fits Gen.Fn.snep_srv_first
  rw [fragsGen_eq _ (fun d a m => rfl) resp smiu hm, slice_zero_cast]
  simp only [len_eq, decide_eq_true_eq, Int.ofNat_le]

theorem srv_finish_bridge (cfg : SCfg) (hk : HandlersOk cfg.h) (hm : 0 < cfg.smiu) (data : Bytes) :
    srvFinish cfg data = srvFinishGen cfg data := by
  unfold srvFinish srvFinishGen
  rw [process_bridge cfg.h hk]
  cases processGen cfg.h data with
  | error e => rfl
  | ok r => simp only [respond_bridge cfg.smiu hm]

/-- the whole server transition function of the C06 model -/
theorem srv_on_recv_bridge (cfg : SCfg) (hk : HandlersOk cfg.h) (hm : 0 < cfg.smiu) (st : SState) (m : Bytes)
    (hst : ∀ data length, st = .reasm data length → 6 ≤ data.length) :
    srvOnRecv cfg st m = srvOnRecvGen cfg st m := by
  cases st with
  | idle =>
    rw [srv_idle_mid]
    unfold srvIdleMid srvOnRecvGen Gen.Fn.snep_srv_empty Gen.Fn.snep_srv_short Gen.Fn.snep_srv_bad_version
      Gen.Fn.snep_srv_too_long Gen.Fn.snep_srv_more
    simp only [decide_eq_true_eq, Decidable.not_not, srv_finish_bridge cfg hk hm]
    rfl
  | reasm data length =>
    unfold srvOnRecvGen Gen.Fn.snep_srv_more_loop
    have h6 : ¬ (data ++ m).length < 6 := by have := hst data length rfl; rw [List.length_append]; omega
    simp only [srvOnRecv, srv_finish_bridge cfg hk hm, more_cast h6, decide_eq_true_eq]
  | awaitCont rest => rfl
  | closed => rfl
  | crashed e => rfl


theorem cli_finish_bridge (op : Op) (resp : Bytes) : cliFinish op resp = cliFinishGen op resp := by
  unfold cliFinish cliFinishGen Gen.Fn.snep_cli_get_status Gen.Fn.snep_cli_put_status Gen.Fn.snep_cli_get_data
  match resp with
  | [] => cases op <;> simp [idxN, getB_nil]
  | [a] => cases op <;> simp [idxN, getB_one, getB_nil]
  | a :: st :: rest =>
    simp only [idxN, List.getElem?_cons_succ, List.getElem?_cons_zero, getB_one, getB_zero, Py.bind_ok]
    have e : (((st : Nat) : Int) ≠ 129) ↔ st ≠ 129 := by omega
    by_cases h : st = 129
    · subst h
      have e6 : PyFn.sliceFrom (a :: 129 :: rest) 6 = (a :: 129 :: rest).drop 6 := sliceFrom_ofNat _ 6
      cases op <;> simp [e6]
    · have h' : ¬ (((st : Nat) : Int) = 129) := by omega
      cases op <;> simp [h, h']

theorem cli_await_bridge (op : Op) (acc : Nat) (m : Bytes) : cliOnRecv (.awaitResp op acc) m = cliAwaitGen op acc m := by
  rw [cli_await_hdr_mid]
  unfold cliAwaitHdrMid cliAwaitGen Gen.Fn.snep_cli_more
  cases Gen.Fn.snep_recv_header m (acc : Int) with
  | error e => rfl
  | ok o =>
    cases o with
    | none => rfl
    | some length => simp only [decide_eq_true_eq, cli_finish_bridge]; rfl

/-- the whole client transition function of the C06 model -/
theorem cli_on_recv_bridge (st : CState) (m : Bytes)
    (hst : ∀ op buf length, st = .reasm op buf length → 6 ≤ buf.length) :
    cliOnRecv st m = cliOnRecvGen st m := by
  cases st with
  | idle => rfl
  | awaitCont op acc rest => rfl
  | awaitResp op acc => rw [cli_await_bridge]; rfl
  | reasm op buf length =>
    unfold cliOnRecvGen Gen.Fn.snep_cli_more_loop
    have h6 : ¬ (buf ++ m).length < 6 := by have := hst op buf length rfl; rw [List.length_append]; omega
    simp only [cliOnRecv, cli_finish_bridge, more_cast h6, decide_eq_true_eq]
  | done r => rfl

theorem cli_send_bridge (miu acc : Nat) (hm : 0 < miu) (op : Op) (req : Bytes) :
    cliSend miu acc op req = cliSendGen miu acc op req := by
  unfold cliSend cliSendGen Gen.Fn.snep_cli_fits Gen.Fn.snep_cli_first
  rw [fragsGen_eq _ (fun d a m => rfl) req miu hm, slice_zero_cast]
  simp only [len_eq, decide_eq_true_eq, Int.ofNat_le]

theorem cli_start_bridge (miu acc : Nat) (hm : 0 < miu) (op : Op) (octets : Bytes) :
    cliStart miu acc op octets = cliStartGen miu acc op octets := by
  unfold cliStart cliStartGen
  cases op with
  | put =>
    rw [← put_request_bridge acc octets]
    cases Gen.Fn.snep_put_request octets with
    | error e => rfl
    | ok req => simp only [cli_send_bridge miu acc hm]
  | get =>
    rw [← get_request_bridge acc octets]
    cases Gen.Fn.snep_get_request octets (acc : Int) with
    | error e => rfl
    | ok req => simp only [cli_send_bridge miu acc hm]


/-! ## `send_request` as a whole (oracle socket) -/

/-- a `for` loop whose body returns False at the first element that fails `p`, else goes on -/
theorem forC_all {α} (p : α → Bool) :
    ∀ (l : List α), PyFn.forC (ρ := Bool) l () (fun (_ : Unit) (o : α) =>
        Except.ok (if (¬ (p o = true)) then (PyFn.Ctl.ret false) else (PyFn.Ctl.next ())))
      = .ok (if l.all p then .inl () else .inr false) := by
  intro l
  induction l with
  | nil => rfl
  | cons a t ih =>
    simp only [forC, List.all_cons]
    by_cases hp : p a = true
    · simp only [hp, not_true_eq_false, if_false, Bool.true_and]
      exact ih
    · have hp' : p a = false := by simpa using hp
      simp [hp']

/-- `range(miu, n, miu)` for `miu >= 1`, `n > miu`: the offsets `(i + 1) * miu` of the fragments behind the first -/
theorem rangeStep_frags (miu n : Nat) (hm : 0 < miu) (hn : miu < n) :
    PyFn.rangeStep (miu : Int) (n : Int) (miu : Int)
      = .ok ((List.range (nfrag miu (n - miu))).map (fun i => (((i + 1) * miu : Nat) : Int))) := by
  rw [rangeStep_nat miu n miu hm]
  congr 1
  apply List.map_congr_left
  intro i _
  rw [Nat.succ_mul, Nat.add_comm]


/-- `send_request` over ANY socket oracle (`send`, `recv`) and send MIU `miu >= 1`: a request that fits is sent whole;
else the first `miu` octets, then - only if that was accepted and the peer answered Continue - the fragments
`Chan.chunks miu (request.drop miu)` in order until one is refused.  These are exactly the messages `Snep.cliSend` /
`cliOnRecv (.awaitCont ..)` put on the wire (`Chan.fragments`) -/
theorem send_request_bridge (req : Bytes) (miu : Nat) (hm : 0 < miu) (recv : Bytes) (send : Bytes → Bool) :
    Gen.Fn.snep_send_request req (miu : Int) recv send
      = .ok (if req.length ≤ miu then send req
             else send (req.take miu) && decide (recv = contRsp) && (chunks miu (req.drop miu)).all send) := by
  unfold Gen.Fn.snep_send_request
  simp only [len_eq, Int.ofNat_le]
  by_cases hfit : req.length ≤ miu
  · rw [if_pos hfit, if_pos hfit]
  · rw [if_neg hfit, if_neg hfit, slice_zero_cast]
    by_cases hs : send (req.take miu) = true
    · rw [if_neg (not_not_intro hs)]
      by_cases hr : recv = contRsp
      · have hr' : ¬ (recv ≠ [16, 128, 0, 0, 0, 0]) := by simp [hr, contRsp]
        rw [if_neg hr', rangeStep_offs miu req.length miu hm]
        simp only [Py.bind_ok]
        have hall : (offs miu req.length miu).all (fun (o : Int) => send (slice req o (o + (miu : Int))))
            = (chunks miu (req.drop miu)).all send := by
          rw [← offs_slices req miu miu hm, List.all_map]; rfl
        rw [forC_all (fun (o : Int) => send (slice req o (o + (miu : Int)))), hall]
        cases hc : (chunks miu (req.drop miu)).all send <;> simp [hs, hr]
      · have hr' : recv ≠ [16, 128, 0, 0, 0, 0] := by simpa [contRsp] using hr
        rw [if_pos hr']
        simp [hs, hr]
    · rw [if_pos hs]
      have hs' : send (req.take miu) = false := by simpa using hs
      simp [hs']

/-- a socket that refuses exactly the frame `f` accepts all of `l` iff `f` is not in `l` -/
theorem all_ne_iff (l : List Bytes) (f : Bytes) : l.all (fun g => decide (g ≠ f)) = decide (f ∉ l) := by
  rw [Bool.eq_iff_iff]
  simp only [List.all_eq_true, decide_eq_true_eq]
  exact ⟨fun h hf => h f hf rfl, fun h g hg e => h (e ▸ hg)⟩

/-- every fragment is offered: against a socket that answers Continue and refuses exactly the frame `f`,
`send_request` of a request longer than the MIU fails iff `f` is one of `Chan.fragments miu request` -/
theorem send_request_offers_every_fragment (req f : Bytes) (miu : Nat) (hm : 0 < miu) (hl : miu < req.length) :
    Gen.Fn.snep_send_request req (miu : Int) contRsp (fun g => decide (g ≠ f))
      = .ok (decide (f ∉ fragments miu req)) := by
  rw [send_request_bridge req miu hm, if_neg (by omega)]
  refine congrArg _ (Eq.trans ?_ (all_ne_iff (fragments miu req) f))
  simp [fragments]

example : Gen.Fn.snep_send_request [1, 2, 3, 4, 5] 2 [16, 128, 0, 0, 0, 0] (fun g => decide (g ≠ [5])) = .ok false := by
  decide +kernel
example : Gen.Fn.snep_send_request [1, 2, 3, 4, 5] 2 [16, 128, 0, 0, 0, 0] (fun _ => true) = .ok true := by
  decide +kernel
/-- a send MIU of 0 would be `ValueError` (`range()` step 0); LLCP guarantees MIU >= 128 -/
example : Gen.Fn.snep_send_request [1, 2, 3, 4, 5] 0 [16, 128, 0, 0, 0, 0] (fun _ => true) = .error .value := by
  decide +kernel

/-! ## the socket calls / tests that enclose the sub-expression cuts (`whole=True` cuts over oracle sockets) -/

/-- the fragments and protocol constants above are `expr=` cuts of SUB-expressions (arguments of `send`, operands of the
Continue tests).  The complete statements / tests around them are regenerated as well: for EVERY oracle socket they are
exactly the socket call on that sub-expression (`Snep.unsupRsp`, `rejectRsp`, `contRsp`, `contReq`, the fragments) -
an operand added to the sent value or to the test changes these definitions -/
theorem whole_calls_bridge (data : Bytes) (offset miu : Int) (recv : Bytes) (send : Bytes → Bool) :
    Gen.Fn.snep_srv_unsup_send recv send = send unsupRsp
    ∧ Gen.Fn.snep_srv_reject_send recv send = send rejectRsp
    ∧ Gen.Fn.snep_srv_cont_send recv send = send contRsp
    ∧ Gen.Fn.snep_srv_first_send data miu recv send = send (Gen.Fn.snep_srv_first data miu)
    ∧ Gen.Fn.snep_srv_frag_send data offset miu recv send = send (Gen.Fn.snep_srv_frag data offset miu)
    ∧ Gen.Fn.snep_srv_cont_test recv send = decide (recv = contReq)
    ∧ Gen.Fn.snep_cli_cont_send recv send = send contReq
    ∧ Gen.Fn.snep_cli_first_test data miu recv send = !(send (Gen.Fn.snep_cli_first data miu))
    ∧ Gen.Fn.snep_cli_cont_test recv send = decide (recv ≠ contRsp) := by
  refine ⟨rfl, rfl, rfl, rfl, rfl, rfl, rfl, ?_, rfl⟩
  unfold Gen.Fn.snep_cli_first_test Gen.Fn.snep_cli_first
  cases send (slice data 0 miu) <;> rfl

example : Gen.Fn.snep_srv_first_send [1, 2, 3] 2 [] (fun g => decide (g = [1, 2])) = true := by decide +kernel
example : Gen.Fn.snep_cli_cont_test [16, 128, 0, 0, 0, 0] (fun _ => true) = false := by decide +kernel

/-! ## the same slices against the `Py`-level transcriptions of the C07 model (`Model/PeerSnep.lean`) -/

theorem serve_header_peer (m : Bytes) :
    Gen.Fn.snep_serve_header m = PeerSnep.unpackFromBxL m >>= fun vl => .ok ((vl.1 : Int), (vl.2 : Int)) := by
  rw [serve_header_bridge]
  unfold PeerSnep.unpackFromBxL
  by_cases h : m.length < 6
  · simp [h]
  · rw [if_neg h, if_neg h]
    have h6 : 6 ≤ m.length := by omega
    match m, h6 with
    | a :: _ :: _ :: _ :: _ :: _ :: _, _ => simp [idxN, sliceN]

theorem recv_unpack_peer (m : Bytes) :
    Gen.Fn.snep_recv_unpack m
      = if m.length < 6 then .error .struct
        else PeerSnep.unpackBBL (m.take 6) >>= fun h => .ok ((h.1 : Int), (h.2.1 : Int), (h.2.2 : Int)) := by
  rw [recv_unpack_bridge]
  unfold PeerSnep.unpackBBL
  by_cases h : m.length < 6
  · simp [h]
  · rw [if_neg h, if_neg h]
    have h6 : 6 ≤ m.length := by omega
    match m, h6 with
    | a :: b :: _ :: _ :: _ :: _ :: _, _ => simp [idxN, sliceN]

theorem get_fields_peer (d : Bytes) (h : d.length ≥ 10) :
    Gen.Fn.snep_get_fields d = PeerSnep.unpackL (sliceN d 6 10) >>= fun acc => .ok ((acc : Int), d.drop 10) := by
  rw [get_fields_bridge, if_neg (by omega)]
  unfold PeerSnep.unpackL sliceN
  have : ((d.drop 6).take (10 - 6)).length = 4 := by rw [List.length_take, List.length_drop]; omega
  rw [if_pos this]; rfl

theorem response_pack_peer (code : Nat) (data : Bytes) :
    Gen.Fn.snep_response_pack (code : Int) data = PeerSnep.packResponse code data := by
  rw [response_pack_bridge]
  unfold PeerSnep.packResponse PeerSnep.packBBL
  have e1 : (16 ≥ 256 ∨ code ≥ 256 ∨ data.length ≥ 2 ^ 32) ↔ (code > 255 ∨ data.length ≥ 2 ^ 32) := by omega
  simp only [e1]
  split <;> simp [hdr]

/-! ## `HandoverClient.send_octets` -/

/-- `send_octets` over ANY socket oracle `send` and send MIU `miu >= 1`: it returns whether every fragment of
`Chan.chunks miu octets` (the fragments `Handover.startReq` puts on the wire) was accepted; `fuel > len(octets)`
iterations suffice -/
theorem ho_send_octets_bridge (miu : Nat) (hm : 0 < miu) (send : Bytes → Bool) (octets : Bytes) (fuel : Nat)
    (hf : octets.length < fuel) :
    Gen.Fn.ho_send_octets fuel octets (miu : Int) send = .ok ((chunks miu octets).all send) := by
  unfold Gen.Fn.ho_send_octets
  simp only [slice_zero_cast, sliceFrom_ofNat]
  obtain ⟨d', h1, h2⟩ := ho_loop miu hm send fuel octets hf
  rw [h1]
  simp only [Py.bind_ok]
  rw [h2]

/-- every fragment is really offered to the socket: against a socket that refuses exactly the frame `f`,
`send_octets` fails iff `f` is one of `chunks miu octets` -/
theorem ho_send_offers_every_chunk (miu : Nat) (hm : 0 < miu) (octets f : Bytes) :
    Gen.Fn.ho_send_octets (octets.length + 1) octets (miu : Int) (fun g => decide (g ≠ f))
      = .ok (decide (f ∉ chunks miu octets)) := by
  rw [ho_send_octets_bridge miu hm _ octets _ (Nat.lt_succ_self _)]
  exact congrArg _ (all_ne_iff _ f)

/-- with a socket that accepts everything the client puts exactly the model's fragments on the wire and
reports success (`Handover.startReq`: `c2s := n.c2s ++ chunks cmiu msg`) -/
theorem ho_send_all_accepted (miu : Nat) (hm : 0 < miu) (octets : Bytes) :
    Gen.Fn.ho_send_octets (octets.length + 1) octets (miu : Int) (fun _ => true) = .ok true := by
  rw [ho_send_octets_bridge miu hm _ octets _ (Nat.lt_succ_self _)]
  simp

example : Gen.Fn.ho_send_octets 6 [1, 2, 3, 4, 5] 2 (fun g => decide (g ≠ [5])) = .ok false := by decide +kernel
example : chunks 2 [1, 2, 3, 4, 5] = [[1, 2], [3, 4], [5]] := by decide +kernel

/-- `HandoverServer.serve`: the response fragments `response[offset:offset + send_miu]` for `offset` in
`range(0, len(response), send_miu)` (offsets written by hand) are `Chan.chunks send_miu response`, what
`Handover.srvOnRecv` puts on the wire -/
theorem ho_srv_frags_bridge (miu : Nat) (hm : 0 < miu) (response : Bytes) :
    (List.range (nfrag miu response.length)).map (fun i => Gen.Fn.ho_srv_frag response ((i * miu : Nat) : Int) (miu : Int))
      = chunks miu response := by
  have := offs_slices response 0 miu hm
  simp only [offs, List.map_map, Nat.zero_add, Nat.sub_zero, List.drop_zero] at this
  exact this

example : (List.range (nfrag 2 5)).map (fun i => Gen.Fn.ho_srv_frag [1, 2, 3, 4, 5] ((i * 2 : Nat) : Int) 2)
    = [[1, 2], [3, 4], [5]] := by decide +kernel

/-! ## statements of C06 / C07 for the regenerated slices -/

/-- C07 (`PeerSnep.unpackFromBxL_ok`, used by `snep_serve_total`): the header unpack of `_serve` cannot raise on
a first fragment of six or more octets - whatever they are -/
theorem gen_serve_header_total (m : Bytes) (h : ¬ m.length < 6) : ∃ vl, Gen.Fn.snep_serve_header m = .ok vl := by
  rw [serve_header_bridge, if_neg h]; exact ⟨_, rfl⟩

/-- C07: the response header of `process_snep_request` is always six octets starting with the version 1.0 -/
theorem gen_response_pack_shape (code : Nat) (data r : Bytes) (h : Gen.Fn.snep_response_pack (code : Int) data = .ok r) :
    r.length = 6 + data.length ∧ r.take 1 = [0x10] := by
  rw [response_pack_bridge] at h
  split at h
  · cases h
  · injection h with h; subst h
    simp [hdr, toBE]; omega

/-- C06 (`snep_oversize_rejected`): a first fragment that announces more than the server accepts is answered with
the Reject response and nothing reaches the application, whatever else the fragment holds -/
theorem gen_oversize_rejected (cfg : SCfg) (hk : HandlersOk cfg.h) (hm : 0 < cfg.smiu) (m : Bytes) (h6 : 6 ≤ m.length)
    (hv : m.headD 0 / 16 ≤ 1) (hbig : beNat ((m.drop 2).take 4) > cfg.maxAcc) :
    srvOnRecvGen cfg .idle m = (.idle, [Gen.Fn.snep_srv_reject_rsp], []) := by
  rw [← srv_on_recv_bridge cfg hk hm .idle m (by intro _ _ h; cases h), srvOnRecv_idle, if_neg (by omega), if_neg (by omega),
    if_pos hbig]
  rfl

/-- C06 (`snep_get_excess_data`): a GET response longer than the client's acceptable length is replaced by the
ExcessData code with no data - never sent in part -/
theorem gen_excess_never_partial (code acc : Nat) (data : Bytes) :
    let r := Gen.Fn.snep_get_excess (code : Int) data (acc : Int)
    r.2 = data ∨ (r.2 = [] ∧ r.1 = 0xC1 ∧ data.length > acc) := by
  simp only [get_excess_bridge]
  split
  · exact Or.inr ⟨rfl, rfl, by assumption⟩
  · exact Or.inl rfl

end NfcVerif.FnBridge.Snep
