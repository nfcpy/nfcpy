import NfcVerif.Gen.FnPn53xRf
import NfcVerif.Model.FnPn53xRfRef
import NfcVerif.Lemmas.FnBridgePn53xCommon
import NfcVerif.Lemmas.FnBridgeTagCmdPrelude
import NfcVerif.Lemmas.PyYields
import NfcVerif.Props.FnBridgePn53x
/-!
# Bridge theorems, group Pn53xRf (`nfc/clf/pn53x.py`, `pn531.py`, `pn532.py`, `pn533.py`, `rcs956.py` ->
`Gen/FnPn53xRf.lean` -> `Model/FnPn53xRfRef.lean`)

Properties C18 / C19 (what `sense_*` / `listen_*` of the PN53x drivers return for which chip answer), C13 (which
exceptions the status evaluation raises: see `Props/ExcFlowDrivers.lean`, `Props/FnBridgeErrMap.lean` for the
exception-flow side, not re-proved here), C14 (chip command parameters).  Every regenerated definition is a pure slice
of a driver method between two chipset calls; the reference side says what the slice should compute according to the
PN53x user manuals and the NFC Forum Digital wording.  `Gen/FnPn53xRf.lean` is regenerated from the source on every run.
-/
namespace NfcVerif.FnBridge.Pn53xRf
open NfcVerif NfcVerif.PyFn NfcVerif.FnPn53xRfRef NfcVerif.FnBridge.HostLink

theorem in_list_build_bridge (brty : Nat) (ini : Bytes) :
    Gen.Fn.rf_in_list_build brty ini = if brty < 256 then .ok (inListParams brty ini) else .error .value := by
  unfold Gen.Fn.rf_in_list_build inListParams
  py_nat
  by_cases h : brty < 256 <;> simp [h]

theorem in_list_result_bridge (d : Bytes) : Gen.Fn.rf_in_list_result d = .ok (inListResult d) := by
  unfold Gen.Fn.rf_in_list_result inListResult
  cases d with
  | nil => simp
  | cons a l =>
    simp only [lit_cast, getB_idxN, sliceFrom_ofNat]
    by_cases h : a > 0 <;> simp [idxN, h]

theorem tta_uid_aux (u : Bytes) :
    (let uid_2 := (if PyFn.len u > 4 then [136] ++ u else u : Bytes)
     (if PyFn.len uid_2 > 8 then (slice uid_2 0 4 ++ [136]) ++ PyFn.sliceFrom uid_2 4 else uid_2 : Bytes)) = ttaUid u := by
  unfold ttaUid
  simp only [lit_cast, len_eq, slice_ofNat, sliceFrom_ofNat, sliceN, Int.ofNat_lt, gt_iff_lt]
  by_cases h1 : u.length ≤ 4
  · have a : ¬ (4 < u.length) := by omega
    have b : ¬ (8 < u.length) := by omega
    simp only [a, b, h1, if_false, if_true]
  · by_cases h2 : u.length ≤ 7
    · have a : (4 < u.length) := by omega
      have b : ¬ (8 < ([136] ++ u).length) := by simp; omega
      simp only [a, b, h1, h2, if_false, if_true]; rfl
    · have a : (4 < u.length) := by omega
      have b : (8 < ([136] ++ u).length) := by simp; omega
      simp only [a, b, h1, h2, if_false, if_true]
      simp

theorem tta_uid_bridge (o : Option Bytes) : Gen.Fn.rf_tta_uid o = ttaUid (o.getD []) := by
  unfold Gen.Fn.rf_tta_uid
  cases o with
  | none => exact tta_uid_aux []
  | some s =>
    by_cases h : s = []
    · subst h; exact tta_uid_aux []
    · simp only [ne_eq, h, not_false_eq_true, if_true, Option.getD]; exact tta_uid_aux s

theorem tta_fields_bridge (rsp : Bytes) : Gen.Fn.rf_tta_fields rsp = ttaFields rsp := by
  unfold Gen.Fn.rf_tta_fields ttaFields
  simp only [lit_cast, TagCmd.sliceRev_none, slice_ofNat, sliceFrom_ofNat, sliceN]

theorem tta_is_tt2_bridge (sel : Bytes) : Gen.Fn.rf_tta_is_tt2 sel = selIsTt2 sel := by
  unfold Gen.Fn.rf_tta_is_tt2 selIsTt2
  py_nat

/-! `sense_tta`, `_send_cmd_recv_rsp` and `listen_tta` test the same source expression `sel_res[0] & 0x60 == 0`: the three
slices are the same text and have the same reference. -/
theorem route_tt2_bridge (sel : Bytes) : Gen.Fn.rf_route_tt2 sel = selIsTt2 sel := tta_is_tt2_bridge sel

theorem lta_is_tt2_bridge (sel : Bytes) : Gen.Fn.rf_lta_is_tt2 sel = selIsTt2 sel := tta_is_tt2_bridge sel

theorem tta_no_sens_bridge (fifo : Int) : Gen.Fn.rf_tta_no_sens fifo = noSensRes fifo := rfl

theorem tta_tt1_sens_bridge (rsp : Bytes) : Gen.Fn.rf_tta_tt1_sens rsp = tt1Sens rsp := by
  unfold Gen.Fn.rf_tta_tt1_sens tt1Sens
  simp only [lit_cast, TagCmd.sliceRev_none]

theorem tta_rid_cmd_bridge : Gen.Fn.rf_tta_rid_cmd = ridCmd := rfl

theorem ttb_afi_bridge (o : Option Bytes) : Gen.Fn.rf_ttb_afi o = ttbAfi o := by
  unfold Gen.Fn.rf_ttb_afi ttbAfi
  cases o with
  | none => rfl
  | some s =>
    cases s with
    | nil => simp
    | cons a l => simp only [lit_cast, slice_ofNat, sliceN]; simp

theorem ttb_is_iso_bridge (rsp : Bytes) : Gen.Fn.rf_ttb_is_iso rsp = ttbIsIso rsp := by
  unfold Gen.Fn.rf_ttb_is_iso ttbIsIso
  py_nat
  -- `decide False` is `false`
  rfl

theorem ttb_cmds_bridge (did : Option Bytes) (afi : Bytes) : Gen.Fn.rf_ttb_cmds did afi = ttbCmds did afi := by
  unfold Gen.Fn.rf_ttb_cmds ttbCmds
  cases did with
  | none => simp
  | some s => cases s <;> simp

theorem ttf_field_off_bridge (txc : Nat) : Gen.Fn.rf_ttf_field_off txc = fieldOff txc := by
  unfold Gen.Fn.rf_ttf_field_off fieldOff
  simp only [lit_cast, band_ofNat, and3, Int.natCast_inj, ne_eq, Decidable.not_not]

theorem ttf_req_bridge (o : Option Bytes) : Gen.Fn.rf_ttf_req o = ttfReq o := by
  unfold Gen.Fn.rf_ttf_req ttfReq defaultSensfReq
  cases o with
  | none => rfl
  | some s => cases s <;> simp

theorem ttf_res_bridge (rsp : Bytes) : Gen.Fn.rf_ttf_res rsp = ttfRes rsp := by
  unfold Gen.Fn.rf_ttf_res ttfRes
  exact sliceFrom_ofNat rsp 1

theorem dep_checks_bridge (atr_req : Bytes) (s r : String) :
    Gen.Fn.rf_dep_checks atr_req s r = depChecks atr_req (decide (s = r)) := by
  unfold Gen.Fn.rf_dep_checks depChecks
  py_nat
  -- the first assertion (`atr_req` not empty) follows from the second
  have h : atr_req ≠ [] ∧ 16 ≤ atr_req.length ∧ atr_req.length ≤ 64 ∧ s = r ↔
      16 ≤ atr_req.length ∧ atr_req.length ≤ 64 ∧ s = r :=
    ⟨fun h => h.2, fun h => ⟨fun e => by rw [e] at h; exact absurd h.1 (by decide), h⟩⟩
  simp only [h]

theorem dep_args_bridge (atr_req : Bytes) : Gen.Fn.rf_dep_args atr_req = depArgs atr_req := by
  unfold Gen.Fn.rf_dep_args depArgs
  py_nat
  -- `sliceN l a b` is `(l.drop a).take (b - a)`
  rfl

theorem dep_atr_res_bridge (data : Bytes) : Gen.Fn.rf_dep_atr_res data = depAtrRes data := rfl

theorem max_send_bridge (f : Int) : Gen.Fn.rf_max_send 0 f = maxSend f := rfl
theorem max_recv_bridge (f : Int) : Gen.Fn.rf_max_recv 0 f = maxRecv f := rfl

theorem indexOf_br (br : Int) : PyFn.indexOf [106, 212, 424] br =
    match brIndex br with | some b => .ok (b : Int) | none => .error .value := by
  unfold brIndex
  by_cases h1 : br = 106
  · subst h1; rfl
  · by_cases h2 : br = 212
    · subst h2; rfl
    · by_cases h3 : br = 424
      · subst h3; rfl
      · have a : ¬ ((106 : Int) = br) := fun h => h1 h.symm
        have b : ¬ ((212 : Int) = br) := fun h => h2 h.symm
        have c : ¬ ((424 : Int) = br) := fun h => h3 h.symm
        simp [PyFn.indexOf, h1, h2, h3, a, b, c]

theorem brIndex_some {br : Int} {b : Nat} (h : brIndex br = some b) : (br = 106 ∨ br = 212 ∨ br = 424) ∧ b < 256 := by
  unfold brIndex at h
  split at h
  · cases h; exact ⟨Or.inl ‹_›, by decide⟩
  · split at h
    · cases h; exact ⟨Or.inr (Or.inl ‹_›), by decide⟩
    · split at h
      · cases h; exact ⟨Or.inr (Or.inr ‹_›), by decide⟩
      · cases h

theorem brIndex_none {br : Int} (h : brIndex br = none) : ¬ (br = 106 ∨ br = 212 ∨ br = 424) := by
  rintro (rfl | rfl | rfl) <;> exact absurd h (by decide)

theorem nf_eq (pd n3 gi : Bytes) :
    (PyFn.bor (PyFn.bor (if (decide (pd ≠ [])) = true then 1 else 0) (PyFn.shl (if (decide (n3 ≠ [])) = true then 1 else 0) 1)) (PyFn.shl (if (decide (gi ≠ [])) = true then 1 else 0) 2))
      = ((flag pd + 2 * flag n3 + 4 * flag gi : Nat) : Int) := by
  unfold flag
  by_cases a : pd = [] <;> by_cases b : n3 = [] <;> by_cases c : gi = [] <;> simp [a, b, c] <;> rfl

theorem jump_build_aux (act : Bool) (br : Int) (pd n3 gi : Bytes) :
    (if ¬ (br = 106 ∨ br = 212 ∨ br = 424) then Except.error Exc.assertion else
     if ¬ ((PyFn.len pd) = 0 ∨ (PyFn.len pd) = 4 ∨ (PyFn.len pd) = 5) then Except.error Exc.assertion else
     if ¬ ((PyFn.len n3) = 0 ∨ (PyFn.len n3) = 10) then Except.error Exc.assertion else
     if ¬ ((PyFn.len gi) ≤ 48) then Except.error Exc.assertion else
     let cm : Int := (if (decide (act = true)) = true then 1 else 0)
     PyFn.indexOf [106, 212, 424] br >>= fun t1 =>
     let br_1 := t1
     let nf := (PyFn.bor (PyFn.bor (if (decide (pd ≠ [])) = true then 1 else 0) (PyFn.shl (if (decide (n3 ≠ [])) = true then 1 else 0) 1)) (PyFn.shl (if (decide (gi ≠ [])) = true then 1 else 0) 2))
     PyFn.mkBytes [cm, br_1, nf] >>= fun t2 =>
     (Except.ok (((t2 ++ pd) ++ n3) ++ gi) : Py Bytes)) = jumpParams act br pd n3 gi := by
  unfold jumpParams
  have hcm : (if (decide (act = true)) = true then (1 : Int) else 0) = ((if act = true then 1 else 0 : Nat) : Int) := by
    cases act <;> rfl
  have hcm' : (if act = true then 1 else 0 : Nat) < 256 := by cases act <;> decide
  have hf : flag pd + 2 * flag n3 + 4 * flag gi < 256 := by
    unfold flag; split <;> split <;> split <;> omega
  simp only [nf_eq, indexOf_br, hcm]
  cases hbi : brIndex br with
  | none => rw [if_pos (brIndex_none hbi)]
  | some b =>
    have hbr := brIndex_some hbi
    rw [if_neg (not_not_intro hbr.1)]
    simp only [lit_cast, len_eq, Int.natCast_inj, Int.ofNat_le, ite_not, ite_ite_and, Py.bind_ok, mkBytes_cons, mkBytes_nil,
      hcm', hbr.2, hf, if_true, List.cons_append, List.nil_append, List.append_assoc]

theorem jump_psl_build_bridge (act : Bool) (br : Int) (pd n3 gi : Bytes) :
    Gen.Fn.rf_jump_psl_build act br pd n3 gi = jumpParams act br pd n3 gi := jump_build_aux act br pd n3 gi
theorem jump_dep_build_bridge (act : Bool) (br : Int) (pd n3 gi : Bytes) :
    Gen.Fn.rf_jump_dep_build act br pd n3 gi = jumpParams act br pd n3 gi := jump_build_aux act br pd n3 gi

theorem jump_result_aux (d : Bytes) :
    ((if False then Except.ok true else (PyFn.getB d 0 >>= fun t2 => Except.ok (decide (t2 ≠ 0)))) >>= fun t3 =>
     (if (t3 = true) then (Gen.Fn.pn53x_chipset_error_bytes d >>= fun t4 => Except.ok ()) else Except.ok ()) >>= fun () =>
     (Except.ok (PyFn.sliceFrom d 2) : Py Bytes)) = jumpResult d := by
  unfold jumpResult
  rw [Pn53x.chipset_error_bytes_bridge]
  cases d with
  | nil => simp [getB_nil]
  | cons s l =>
    simp only [if_false, lit_cast, getB_idxN, sliceFrom_ofNat, idxN]
    by_cases h : s = 0 <;> simp [h]

theorem jump_psl_result_bridge (d : Bytes) : Gen.Fn.rf_jump_psl_result d = jumpResult d := jump_result_aux d
theorem jump_dep_result_bridge (d : Bytes) : Gen.Fn.rf_jump_dep_result d = jumpResult d := jump_result_aux d

theorem idx_map_filter_zero {α β} (f : α → β) (p : α → Bool) (l : List α) :
    idx ((l.filter p).map f) 0 = match l.find? p with | some a => .ok (f a) | none => .error .index := by
  induction l with
  | nil => simp [idx]
  | cons a l ih =>
    by_cases h : p a = true
    · simp [h, idx]
    · simp only [List.filter_cons, h, List.find?_cons]
      simpa using ih

theorem timeout_index_bridge (t : Int) :
    Gen.Fn.rf_timeout_index t =
      match (List.range 16).find? (fun i => decide (t >>> i ≤ 100)) with
      | some i => .ok (((i + 1 : Nat)) : Int) | none => .error .index := by
  unfold Gen.Fn.rf_timeout_index
  have hr : PyFn.range 0 16 = (List.range 16).map (fun (i : Nat) => (0 : Int) + (i : Int)) := rfl
  rw [hr, List.filter_map, List.map_map, idx_map_filter_zero]
  have hp : ((fun (i : Int) => decide (PyFn.shr t i ≤ 100)) ∘ fun (i : Nat) => (0 : Int) + (i : Int)) = (fun (i : Nat) => decide (t >>> i ≤ 100)) := by
    funext i; simp only [PyFn.shr, Function.comp, Int.zero_add, Int.toNat_natCast]
  rw [hp]
  cases (List.range 16).find? (fun i => decide (t >>> i ≤ 100)) with
  | none => rfl
  | some i => simp

/-- the index the driver uses (16 when the list is empty, `except IndexError: index = 16`) -/
theorem timeout_index_value (t : Int) :
    (match Gen.Fn.rf_timeout_index t with | .ok i => i | .error _ => 16) = (timeoutIndex t : Int) := by
  rw [timeout_index_bridge]; unfold timeoutIndex
  cases (List.range 16).find? (fun i => decide (t >>> i ≤ 100)) <;> rfl

/-- the timeout index is one the chip accepts: 1..16 -/
theorem timeoutIndex_range (t : Int) : 1 ≤ timeoutIndex t ∧ timeoutIndex t ≤ 16 := by
  unfold timeoutIndex
  cases h : (List.range 16).find? (fun i => decide (t >>> i ≤ 100)) with
  | none => simp
  | some i =>
    have := List.mem_of_find?_eq_some h
    simp at this; simp; omega

theorem timeout_cfg_bridge (n : Nat) :
    Gen.Fn.rf_timeout_cfg n = if n < 256 then .ok [10, 11, n] else .error .value := by
  unfold Gen.Fn.rf_timeout_cfg
  py_nat
  by_cases h : n < 256 <;> simp [h]

theorem modes_bridge (txm rxm txa brS brR frS frR : Nat) (acm sendA : Bool) :
    Gen.Fn.rf_modes txm rxm txa acm brS brR frS frR sendA =
      (((modes txm rxm txa acm brS brR frS frR sendA).1 : Int), ((modes txm rxm txa acm brS brR frS frR sendA).2.1 : Int),
       ((modes txm rxm txa acm brS brR frS frR sendA).2.2 : Int)) := by
  unfold Gen.Fn.rf_modes modes
  py_nat

/-! ## listen as Type A target -/
theorem lta_checks_bridge (sens sdd sel : Bytes) : Gen.Fn.rf_lta_checks sens sdd sel = ltaChecks sens sdd sel := by
  unfold Gen.Fn.rf_lta_checks ltaChecks
  cases sdd with
  | nil => simp [len_eq]
  | cons a l =>
    simp only [lit_cast, len_eq, Int.natCast_inj, getB_idxN, idxN_cons_zero, Py.bind_ok, ite_not, ite_ite_and, List.head?_cons,
      Option.some.injEq]

theorem range18 : PyFn.mkBytes (PyFn.range 0 18) = .ok dummyFelica := by decide

theorem lta_params_bridge (sens sdd sel : Bytes) :
    Gen.Fn.rf_lta_params sens sdd sel = .ok (dummyFelica, nfcaParams sens sdd sel) := by
  unfold Gen.Fn.rf_lta_params nfcaParams
  rw [range18]
  py_nat
  -- `sliceN l a b` is `(l.drop a).take (b - a)`
  rfl

theorem lta_brty_index_bridge (data : Bytes) :
    Gen.Fn.rf_lta_brty_index data = (modeBrty data >>= fun n => .ok (n : Int)) := by
  unfold Gen.Fn.rf_lta_brty_index modeBrty
  py_nat

theorem ldep_brty_index_bridge (data : Bytes) :
    Gen.Fn.rf_ldep_brty_index data = (modeBrty data >>= fun n => .ok (n : Int)) := lta_brty_index_bridge data

theorem ldep_mode_index_bridge (data : Bytes) :
    Gen.Fn.rf_ldep_mode_index data = (modeActive data >>= fun n => .ok (n : Int)) := by
  unfold Gen.Fn.rf_ldep_mode_index modeActive
  py_nat

theorem lta_short_bridge (data : Bytes) : Gen.Fn.rf_lta_short data = decide (data.length < 2) := by
  unfold Gen.Fn.rf_lta_short
  py_nat

theorem lta_is_rats_bridge (data sel : Bytes) : Gen.Fn.rf_lta_is_rats data sel = isRats data sel := by
  unfold Gen.Fn.rf_lta_is_rats isRats
  py_nat
  -- `decide False` is `false`
  rfl

theorem lta_is_atr_bridge (data sel : Bytes) : Gen.Fn.rf_lta_is_atr data sel = isAtrA data sel := by
  unfold Gen.Fn.rf_lta_is_atr isAtrA
  simp only [lit_cast, getB_bind, slice_ofNat, sliceN, len_eq, band_ofNat, Int.natCast_inj, ne_eq, Int.ofNat_le, ge_iff_le,
    cast_eq_sub, bind_decide_true]

theorem lta_rats_res_bridge (data : Bytes) (r : Option Bytes) : Gen.Fn.rf_lta_rats_res data r = ratsRes data r := by
  unfold Gen.Fn.rf_lta_rats_res ratsRes defaultRatsRes
  py_nat
  cases r with
  | none => simp
  | some s => cases s <;> simp

theorem lta_is_deselect_bridge (data : Bytes) : Gen.Fn.rf_lta_is_deselect data = isDeselect data := by
  unfold Gen.Fn.rf_lta_is_deselect isDeselect
  cases data with
  | nil => rfl
  | cons b l => simp only [lit_cast, first_octet, bind_decide_true, band_ofNat, Int.natCast_inj]

theorem lta_tt2_cmd_bridge (data : Bytes) : Gen.Fn.rf_lta_tt2_cmd data = data.drop 1 := by
  unfold Gen.Fn.rf_lta_tt2_cmd; exact sliceFrom_ofNat data 1
theorem lta_atr_req_bridge (data : Bytes) : Gen.Fn.rf_lta_atr_req data = data.drop 3 := by
  unfold Gen.Fn.rf_lta_atr_req; simp only [lit_cast, sliceFrom_ofNat]
theorem lta_sens_res_bridge (p : Bytes) : Gen.Fn.rf_lta_sens_res p = ltaSens p := by
  unfold Gen.Fn.rf_lta_sens_res ltaSens; simp only [lit_cast, slice_ofNat, sliceN, List.drop_zero, Nat.sub_zero]
theorem lta_sdd_res_bridge (p : Bytes) : Gen.Fn.rf_lta_sdd_res p = ltaSdd p := by
  unfold Gen.Fn.rf_lta_sdd_res ltaSdd; simp only [lit_cast, slice_ofNat, sliceN]; rfl
theorem lta_sel_res_bridge (p : Bytes) : Gen.Fn.rf_lta_sel_res p = ltaSel p := by
  unfold Gen.Fn.rf_lta_sel_res ltaSel; simp only [lit_cast, slice_ofNat, sliceN]

/-! ## listen as Type F target -/
theorem ltf_checks_bridge (sensf : Bytes) : Gen.Fn.rf_ltf_checks sensf = ltfChecks sensf := by
  unfold Gen.Fn.rf_ltf_checks ltfChecks
  py_nat

theorem ltf_params_bridge (sensf : Bytes) : Gen.Fn.rf_ltf_params sensf = .ok (ltfParams sensf) := by
  unfold Gen.Fn.rf_ltf_params ltfParams
  py_nat
  simp only [zeros_nat, Py.bind_ok]

theorem ltf_modes_bridge (kbps : Nat) : Gen.Fn.rf_ltf_modes kbps = (ltfTxMode kbps : Int) := by
  unfold Gen.Fn.rf_ltf_modes ltfTxMode
  -- Python `//` on a non-negative int is division of naturals
  simp only [lit_cast, ← Int.natCast_ediv]
  py_nat

theorem ltf_irq_bridge (c : Nat) : Gen.Fn.rf_ltf_irq c = ltfIrq c := by
  unfold Gen.Fn.rf_ltf_irq ltfIrq
  py_nat

theorem ltf_len_ok_bridge (fifo : Bytes) : Gen.Fn.rf_ltf_len_ok fifo = ltfLenOk fifo := by
  unfold Gen.Fn.rf_ltf_len_ok ltfLenOk
  cases fifo with
  | nil => rfl
  | cons b l => simp only [lit_cast, first_octet, bind_decide_true, len_eq, Int.natCast_inj]

theorem ltf_for_us_bridge (fifo nfcf : Bytes) : Gen.Fn.rf_ltf_for_us fifo nfcf = ltfForUs fifo nfcf := by
  unfold Gen.Fn.rf_ltf_for_us ltfForUs
  py_nat
  -- `sliceN l a b` is `(l.drop a).take (b - a)`
  rfl

theorem ltf_sensf_res_bridge (p : Bytes) : Gen.Fn.rf_ltf_sensf_res p = 1 :: p := rfl
theorem ltf_tt3_cmd_bridge (fifo : Bytes) : Gen.Fn.rf_ltf_tt3_cmd fifo = fifo.drop 1 := by
  unfold Gen.Fn.rf_ltf_tt3_cmd; exact sliceFrom_ofNat fifo 1

/-! ## listen as DEP target -/
theorem ldep_params_bridge (sens sdd sel sensf : Bytes) :
    Gen.Fn.rf_ldep_params sens sdd sel sensf = ldepParams sens sdd sel sensf := by
  unfold Gen.Fn.rf_ldep_params ldepParams nfcaParams
  py_nat
  -- the two assertions in sequence have become one test of the conjunction (`ite_ite_and`); `sliceN l a b` is
  -- `(l.drop a).take (b - a)`
  rfl

theorem ldep_is_atr_bridge (data : Bytes) : Gen.Fn.rf_ldep_is_atr data = notAtr data := by
  unfold Gen.Fn.rf_ldep_is_atr notAtr
  simp only [lit_cast, getB_bind, slice_ofNat, sliceN, len_eq, cast_eq_sub]

theorem ldep_is_psl_bridge (data : Bytes) : Gen.Fn.rf_ldep_is_psl data = isPslReq data := rfl

theorem ldep_psl_req_bridge (data atr_req : Bytes) : Gen.Fn.rf_ldep_psl_req data atr_req = pslReq data atr_req := by
  unfold Gen.Fn.rf_ldep_psl_req pslReq
  py_nat

theorem ldep_psl_res_bridge (p : Bytes) : Gen.Fn.rf_ldep_psl_res p = pslRes p := by
  unfold Gen.Fn.rf_ldep_psl_res pslRes; simp only [lit_cast, slice_ofNat, sliceN]; rfl

theorem ldep_is_dep_bridge (data : Bytes) : Gen.Fn.rf_ldep_is_dep data = isDepReq data := by
  unfold Gen.Fn.rf_ldep_is_dep isDepReq
  cases data with
  | nil => rfl
  | cons b l => simp only [lit_cast, first_octet, bind_decide_true, len_eq, Int.natCast_inj, slice_ofNat, sliceN]

theorem ldep_dep_req_bridge (data : Bytes) : Gen.Fn.rf_ldep_dep_req data = data.drop 1 := by
  unfold Gen.Fn.rf_ldep_dep_req; exact sliceFrom_ofNat data 1

theorem len_frame_aux (p : Bytes) :
    (PyFn.mkBytes [((PyFn.len p) + 1)] >>= fun t1 => (Except.ok (t1 ++ p) : Py Bytes)) = lenFrame p := by
  unfold lenFrame
  simp only [lit_cast, len_eq, ← Int.natCast_add, mkBytes_cons, mkBytes_nil]
  by_cases h : p.length + 1 < 256 <;> simp [h]

theorem atr_frame_bridge (p : Bytes) : Gen.Fn.rf_atr_frame p = lenFrame p := len_frame_aux p
theorem psl_frame_bridge (p : Bytes) : Gen.Fn.rf_psl_frame p = lenFrame p := len_frame_aux p

/-! ## PSL speed change -/
theorem psl_tx_bridge (dri tx : Nat) : Gen.Fn.rf_psl_tx dri tx = (speedMode tx dri : Int) := by
  unfold Gen.Fn.rf_psl_tx speedMode
  py_nat

theorem psl_rx_bridge (p : Bytes) (rx : Nat) :
    Gen.Fn.rf_psl_rx p rx = (pslRx p rx >>= fun (r : Nat × Nat × Nat) => .ok ((r.1 : Int), (r.2.1 : Int), (r.2.2 : Int))) := by
  unfold Gen.Fn.rf_psl_rx pslRx
  simp only [lit_cast, getB_idxN]
  cases idxN p 3 with
  | error e => rfl
  | ok b =>
    simp only [Py.bind_ok, band_ofNat, shr_ofNat, Nat.shiftRight_eq_div_pow, and7, Nat.reducePow]
    -- the mode computation is that of `_send_psl_response`
    exact congrArg (fun m => Except.ok (_, _, m)) (psl_tx_bridge (b / 8 % 8) rx)

/-! ## TgInitAsTarget -/
theorem nfcid3t_531_bridge (m : Int) (a f : Bytes) : Gen.Fn.rf531_nfcid3t m a f = nfcid3t f := by
  unfold Gen.Fn.rf531_nfcid3t nfcid3t; simp only [lit_cast, slice_ofNat, sliceN, List.drop_zero, Nat.sub_zero]
theorem nfcid3t_532_bridge (m : Int) (a f : Bytes) : Gen.Fn.rf532_nfcid3t m a f = nfcid3t f := nfcid3t_531_bridge m a f
theorem nfcid3t_533_bridge (m : Int) (a f : Bytes) : Gen.Fn.rf533_nfcid3t m a f = nfcid3t f := nfcid3t_531_bridge m a f
theorem nfcid3t_956_bridge (m : Int) (a f : Bytes) : Gen.Fn.rf956_nfcid3t m a f = nfcid3t f := nfcid3t_531_bridge m a f

theorem mode_956_bridge (m : Nat) : Gen.Fn.rf956_mode m = ((m &&& 0xFE : Nat) : Int) := rfl
theorem mode_ok_531_bridge (m : Nat) : Gen.Fn.rf531_mode_ok m = decide (m &&& 0xFC = 0) := by
  unfold Gen.Fn.rf531_mode_ok; simp only [lit_cast, band_ofNat, Int.natCast_inj]
theorem mode_ok_532_bridge (m : Nat) : Gen.Fn.rf532_mode_ok m = decide (m &&& 0xF8 = 0) := by
  unfold Gen.Fn.rf532_mode_ok; simp only [lit_cast, band_ofNat, Int.natCast_inj]
theorem mode_ok_533_bridge (m : Nat) : Gen.Fn.rf533_mode_ok m = decide (m &&& 0xFC = 0) := mode_ok_531_bridge m
theorem mode_ok_956_bridge (m : Nat) : Gen.Fn.rf956_mode_ok m = decide (m &&& 0xFD = 0) := by
  unfold Gen.Fn.rf956_mode_ok; simp only [lit_cast, band_ofNat, Int.natCast_inj]

theorem mkBytes_one (m : Int) : PyFn.mkBytes [m] = if 0 ≤ m ∧ m ≤ 255 then .ok [m.toNat] else .error .value := by
  rw [mkBytes_cons_int]; split <;> rfl

theorem tg_init_short_aux (mode : Int) (a f n gt : Bytes) :
    (if ¬ ((PyFn.len a) = 6) then Except.error Exc.assertion else
     if ¬ ((PyFn.len f) = 18) then Except.error Exc.assertion else
     if ¬ ((PyFn.len n) = 10) then Except.error Exc.assertion else
     PyFn.mkBytes [mode] >>= fun t1 => (Except.ok ((((t1 ++ a) ++ f) ++ n) ++ gt) : Py Bytes)) = tgInitShort mode a f n gt := by
  unfold tgInitShort tgInitChecks
  simp only [lit_cast, len_eq, Int.natCast_inj, ite_not, mkBytes_cons_int, PyFn.mkBytes_nil, Py.bind_ok, Py.bind_error,
    ite_bind, ← ite_ite_and, List.cons_append, List.nil_append, List.append_assoc]

theorem tg_init_531_bridge (mode : Int) (a f n gt : Bytes) : Gen.Fn.rf531_tg_init mode a f n gt = tgInitShort mode a f n gt :=
  tg_init_short_aux mode a f n gt
theorem tg_init_956_bridge (mode : Int) (a f n gt : Bytes) : Gen.Fn.rf956_tg_init mode a f n gt = tgInitShort mode a f n gt :=
  tg_init_short_aux mode a f n gt

theorem tg_init_long_aux (mode : Int) (a f n gt tk : Bytes) :
    (if ¬ ((PyFn.len a) = 6) then Except.error Exc.assertion else
     if ¬ ((PyFn.len f) = 18) then Except.error Exc.assertion else
     if ¬ ((PyFn.len n) = 10) then Except.error Exc.assertion else
     PyFn.mkBytes [mode] >>= fun t1 =>
     PyFn.mkBytes [(PyFn.len gt)] >>= fun t2 =>
     PyFn.mkBytes [(PyFn.len tk)] >>= fun t3 =>
     (Except.ok (((((((t1 ++ a) ++ f) ++ n) ++ t2) ++ gt) ++ t3) ++ tk) : Py Bytes)) = tgInitLong mode a f n gt tk := by
  unfold tgInitLong tgInitChecks
  rw [mkBytes_cons_int mode]
  simp only [lit_cast, len_eq, Int.natCast_inj, ite_not, mkBytes_cons, mkBytes_nil, Py.bind_ok, Py.bind_error,
    ite_bind, ← ite_ite_and, List.cons_append, List.nil_append, List.append_assoc]

theorem tg_init_532_bridge (mode : Int) (a f n gt tk : Bytes) : Gen.Fn.rf532_tg_init mode a f n gt tk = tgInitLong mode a f n gt tk :=
  tg_init_long_aux mode a f n gt tk
theorem tg_init_533_bridge (mode : Int) (a f n gt tk : Bytes) : Gen.Fn.rf533_tg_init mode a f n gt tk = tgInitLong mode a f n gt tk :=
  tg_init_long_aux mode a f n gt tk

/-! ## PN531 / RC-S956 specials, Type 1 Tag routing -/
theorem sdd_fix_bridge (sdd : Bytes) : Gen.Fn.rf531_sdd_fix sdd = sddFix sdd := by
  unfold Gen.Fn.rf531_sdd_fix sddFix
  py_nat
  -- `sliceN l a b` is `(l.drop a).take (b - a)`
  rfl

theorem sdd_long_bridge (sdd : Bytes) : Gen.Fn.rf531_sdd_long sdd = decide (4 < sdd.length) := by
  unfold Gen.Fn.rf531_sdd_long; simp only [lit_cast, len_eq, Int.ofNat_lt, gt_iff_lt]

theorem lr_test_req_bridge (a : Bytes) : Gen.Fn.rf531_lr_test_req a = (idxN a 15 >>= fun b => .ok (lrIs254 b)) := by
  unfold Gen.Fn.rf531_lr_test_req lrIs254
  py_nat

theorem lr_test_res_bridge (a : Bytes) : Gen.Fn.rf531_lr_test_res a = (idxN a 16 >>= fun b => .ok (lrIs254 b)) := by
  unfold Gen.Fn.rf531_lr_test_res lrIs254
  py_nat

theorem lr_fix_req_bridge (a : Bytes) : Gen.Fn.rf531_lr_fix_req a = (idxN a 15 >>= fun b => .ok ((lrLower b : Nat) : Int)) := by
  unfold Gen.Fn.rf531_lr_fix_req lrLower
  py_nat

theorem tt1_dynamic_bridge (rid : Bytes) : Gen.Fn.rf956_tt1_dynamic rid = tt1Dynamic rid := by
  unfold Gen.Fn.rf956_tt1_dynamic tt1Dynamic
  py_nat
  cases idxN rid 0 with
  | error e => rfl
  | ok h =>
    simp only [Py.bind_ok]
    by_cases c : h / 2 ^ 4 = 1 <;> simp [c]

theorem no_tt4_bridge (sel : Bytes) : Gen.Fn.rf956_no_tt4 sel = selIsTt4 sel := by
  unfold Gen.Fn.rf956_no_tt4 selIsTt4
  cases sel with
  | nil => rfl
  | cons b l => simp only [lit_cast, first_octet, bind_decide_true, band_ofNat, ne_eq, Int.natCast_inj]

theorem to_956_bridge (a : Bytes) : Gen.Fn.rf956_to a = (idxN a 15 >>= fun b => .ok ((b % 16 : Nat) : Int)) := by
  unfold Gen.Fn.rf956_to
  py_nat

theorem to_cfg_956_bridge (t : Nat) : Gen.Fn.rf956_to_cfg t = if t < 256 then .ok [t, 2, t] else .error .value := by
  unfold Gen.Fn.rf956_to_cfg
  py_nat
  by_cases h : t < 256 <;> simp [h]

theorem atr_gb_956_bridge (a : Bytes) : Gen.Fn.rf956_atr_gb a = a.drop 17 := by
  unfold Gen.Fn.rf956_atr_gb; simp only [lit_cast, sliceFrom_ofNat]

theorem tt1_native_aux (data : Bytes) :
    (PyFn.getB data 0 >>= fun t1 => (Except.ok (decide (t1 = 0 ∨ t1 = 1 ∨ t1 = 26 ∨ t1 = 83 ∨ t1 = 114)) : Py Bool)) = tt1Native data := by
  unfold tt1Native
  simp only [lit_cast, getB_bind, Int.natCast_inj, List.mem_cons, List.not_mem_nil, or_false]

theorem tt1_native_532_bridge (d : Bytes) : Gen.Fn.rf532_tt1_native d = tt1Native d := tt1_native_aux d
theorem tt1_native_533_bridge (d : Bytes) : Gen.Fn.rf533_tt1_native d = tt1Native d := tt1_native_aux d
theorem tt1_native_956_bridge (d : Bytes) : Gen.Fn.rf956_tt1_native d = tt1Native d := tt1_native_aux d

theorem tt1_fifo_empty_bridge (n : Int) :
    Gen.Fn.rf532_tt1_fifo_empty n = if n = 0 then .error .timeout else .ok () := rfl

/-! ## property-relevant facts -/
/-- C18: the SENS_RES of a discovered Type A target has 2 octets, its SDD_RES is the NFCID1 the chip reported (4 / 7 /
10 octets when the chip reports an NFCID1 of that length), its SEL_RES 1 octet -/
theorem gen_tta_fields_lengths (s0 s1 sel : Nat) (uid : Bytes) :
    Gen.Fn.rf_tta_fields (ttaTargetData s0 s1 sel uid) = ([s1, s0], [sel], uid) := by
  rw [tta_fields_bridge]; rfl

theorem gen_tta_sdd_len (s0 s1 sel : Nat) (uid : Bytes) (h : uid.length = 4 ∨ uid.length = 7 ∨ uid.length = 10) :
    (Gen.Fn.rf_tta_fields (ttaTargetData s0 s1 sel uid)).1.length = 2 ∧
    ((Gen.Fn.rf_tta_fields (ttaTargetData s0 s1 sel uid)).2.2.length = 4 ∨
     (Gen.Fn.rf_tta_fields (ttaTargetData s0 s1 sel uid)).2.2.length = 7 ∨
     (Gen.Fn.rf_tta_fields (ttaTargetData s0 s1 sel uid)).2.2.length = 10) := by
  rw [gen_tta_fields_lengths]; exact ⟨rfl, h⟩

/-- the initiator data for a 4 / 7 / 10 octet NFCID1 has 4 / 8 / 12 octets (cascade tags inserted) -/
theorem ttaUid_len (u : Bytes) (h : u.length = 4 ∨ u.length = 7 ∨ u.length = 10) :
    (ttaUid u).length = u.length + (u.length - 1) / 3 - 1 := by
  unfold ttaUid
  rcases h with h | h | h <;> simp [h] <;> omega

/-- PN531: the cascade tags are removed again: SDD_RES of 4 / 8 / 12 octets becomes 4 / 7 / 10 -/
theorem gen_sdd_fix_len (sdd : Bytes) (h : sdd.length = 4 ∨ sdd.length = 8 ∨ sdd.length = 12) :
    (Gen.Fn.rf531_sdd_fix sdd).length = 4 ∨ (Gen.Fn.rf531_sdd_fix sdd).length = 7 ∨ (Gen.Fn.rf531_sdd_fix sdd).length = 10 := by
  rw [sdd_fix_bridge]; unfold sddFix
  rcases h with h | h | h <;> simp [h] <;> omega

/-- C19: `sense_dep` only goes on with an ATR_REQ of 16..64 octets; the general bytes handed to the chip are
at most 48 octets then -/
theorem gen_dep_checks_len (a : Bytes) (s r : String) (h : Gen.Fn.rf_dep_checks a s r = .ok ()) :
    16 ≤ a.length ∧ a.length ≤ 64 ∧ (Gen.Fn.rf_dep_args a).1.length = 10 ∧ (Gen.Fn.rf_dep_args a).2.length ≤ 48 := by
  rw [dep_checks_bridge] at h; unfold depChecks at h
  split at h
  · rename_i c
    rw [dep_args_bridge]; unfold depArgs
    simp; omega
  · cases h

/-- C18 (listen): a Type A activation is accepted as NFC-DEP only for an ATR_REQ frame of 17 or more octets with a
consistent length octet; the ATR_REQ handed on (`data[3:]`) has at least 16 octets -/
theorem gen_lta_atr_len (data sel : Bytes) (h : Gen.Fn.rf_lta_is_atr data sel = .ok true) :
    16 ≤ (Gen.Fn.rf_lta_atr_req data).length := by
  rw [lta_atr_req_bridge]
  rw [lta_is_atr_bridge] at h
  -- `True` is answered only behind the test `19 ≤ len(data)`
  have hy : Yields (fun b => b = true → 19 ≤ data.length) (isAtrA data sel) :=
    Yields.bind' fun _ => Yields.ite (Yields.bind' fun _ => Yields.ite'
      (fun hc => Yields.bind' fun _ => Yields.ok fun _ => hc.2) fun _ => Yields.ok nofun) (Yields.ok nofun)
  have := hy _ h rfl
  simp; omega

/-- C13: the status evaluation of InJumpForPSL / InJumpForDEP raises only `Chipset.Error` (caught by `sense_dep`:
`Props/ExcFlowDrivers.lean`) or `IndexError` on an empty answer (`Chipset.command` never returns one: group Pn53x
`gen_accept_sound`) -/
theorem gen_jump_result_excs (d : Bytes) (e : Exc) (h : Gen.Fn.rf_jump_psl_result d = .error e) :
    e = .index ∨ ∃ n, e = .chipsetError n := by
  rw [jump_psl_result_bridge] at h; unfold jumpResult at h
  cases d with
  | nil => left; cases h; rfl
  | cons s l =>
    simp only at h
    split at h
    · cases h
    · right; exact ⟨s, by cases h; rfl⟩

/-- the timeout index written to RFConfiguration is one the chip accepts (1..16), for every timeout -/
theorem gen_timeout_index_range (t : Int) :
    1 ≤ (match Gen.Fn.rf_timeout_index t with | .ok i => i | .error _ => 16) ∧
    (match Gen.Fn.rf_timeout_index t with | .ok i => i | .error _ => 16) ≤ 16 := by
  rw [timeout_index_value]; have := timeoutIndex_range t; omega

/-- frame size limits: what `get_max_send_data_size` allows plus TFI, command code fits the host frame -/
theorem gen_max_sizes (f : Int) : Gen.Fn.rf_max_send 0 f + 2 = f ∧ Gen.Fn.rf_max_recv 0 f + 3 = f := by
  unfold Gen.Fn.rf_max_send Gen.Fn.rf_max_recv; omega

/-! ## non-vacuity -/
example : Gen.Fn.rf_in_list_result [1, 1, 0x44, 0x00, 0x00, 4, 1, 2, 3, 4] = .ok (some [0x44, 0x00, 0x00, 4, 1, 2, 3, 4]) := by decide
example : Gen.Fn.rf_in_list_result [0] = .ok none := by decide
example : Gen.Fn.rf_tta_fields [0x44, 0x03, 0x00, 7, 4, 1, 2, 3, 4, 5, 6] = ([0x03, 0x44], [0x00], [4, 1, 2, 3, 4, 5, 6]) := by decide
example : Gen.Fn.rf_tta_uid (some [1, 2, 3, 4, 5, 6, 7]) = [0x88, 1, 2, 3, 4, 5, 6, 7] := by decide
example : Gen.Fn.rf_tta_uid (some [1, 2, 3, 4, 5, 6, 7, 8, 9, 10]) = [0x88, 1, 2, 3, 0x88, 4, 5, 6, 7, 8, 9, 10] := by decide
example : Gen.Fn.rf_tta_is_tt2 [0x00] = .ok true := by decide
example : Gen.Fn.rf_tta_is_tt2 [0x20] = .ok false := by decide
example : Gen.Fn.rf_ttf_req none = [0, 0xFF, 0xFF, 1, 0] := by decide
example : Gen.Fn.rf_jump_psl_build true 424 [] (List.replicate 10 1) [0x46] = .ok ([1, 2, 6] ++ List.replicate 10 1 ++ [0x46]) := by decide
example : Gen.Fn.rf_jump_psl_result [0x01] = .error (.chipsetError 1) := by decide
example : Gen.Fn.rf_jump_psl_result [0, 1, 0xD5, 0x01] = .ok [0xD5, 0x01] := by decide
example : Gen.Fn.rf_timeout_index 100 = .ok 1 := by decide
example : Gen.Fn.rf_timeout_index 1000000 = .ok 15 := by decide
example : Gen.Fn.rf_timeout_index 100000000 = .error .index := by decide
example : Gen.Fn.rf_lta_is_rats [0x00, 0xE0, 0x80] [0x20] = .ok true := by decide
example : Gen.Fn.rf_lta_is_atr ([0x00, 0xF0, 17, 0xD4, 0x00] ++ List.replicate 14 0) [0x40] = .ok true := by decide
example : Gen.Fn.rf_lta_is_atr ([0x00, 0xF0, 18, 0xD4, 0x00] ++ List.replicate 14 0) [0x40] = .ok false := by decide
example : Gen.Fn.rf_ldep_is_dep [4, 0xD4, 0x06, 0] = .ok true := by decide
example : Gen.Fn.rf_psl_rx [0xD4, 0x04, 0, 0x12, 3] 0x80 = .ok (2, 2, 0xA2) := by decide
example : Gen.Fn.rf531_sdd_fix [0x88, 1, 2, 3, 4, 5, 6, 7] = [1, 2, 3, 4, 5, 6, 7] := by decide
example : Gen.Fn.rf956_tt1_dynamic [0x12, 0x4C] = .ok true := by decide
example : Gen.Fn.rf532_tg_init 2 (List.replicate 6 0) (List.replicate 18 0) (List.replicate 10 0) [] [] =
    .ok (2 :: List.replicate 34 0 ++ [0, 0]) := by decide

end NfcVerif.FnBridge.Pn53xRf
