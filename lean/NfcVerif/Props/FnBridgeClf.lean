import NfcVerif.Lemmas.FnBridgeClf
import NfcVerif.Props.C18
/-!
# Bridge theorems, group Clf (`nfc/clf/__init__.py` decision logic -> `Gen/FnClf.lean` -> `Model/Sense.lean`,
`Model/Connect.lean`, `Model/FnClfRef.lean`)

Properties C18 (connect() / sense() honour their documented contract) and C19 (option pass-through of the
peer-to-peer activation).  The cuts are listed in `harness/fnspecs/clf.py` and in the doc comments of
`Gen/FnClf.lean`; the compositions `<f>Gen` are in `Lemmas/FnBridgeClf.lean`.  Kinds of statements:

* `<cut>_bridge`: a regenerated decision equals the condition / check the model uses (on the stated encoding of
  the model's abstract values: `encV`, `encRet`, `mark`, `markers`, `RT.spec`, `ltOf`);
* `sense_dispatch_table`, `listen_dispatch_table`: the regenerated dispatch chains for ANY nested functions;
* `sense_bridge`, `listen_bridge`, `exchange_bridge`, `rdwr_step_bridge`, `llcp_step_bridge`, `card_step_bridge`,
  `main_loop_bridge`, `startup_phase_bridge`, `connect_bridge`: the model functions equal the skeletons in which
  every decision is regenerated code;
* `dep_cfg_bridge`, `default_discover_bridge`, `nodev_bridge`: regenerated code against the reference definitions of
  `Model/FnClfRef.lean`;
* `gen_*`: statements of C18 / C19 restated for the regenerated code.
-/
namespace NfcVerif.FnBridge.Clf
open NfcVerif NfcVerif.PyFn NfcVerif.Clf NfcVerif.FnClfRef

/-! ## the device must be open -/
theorem nodev_bridge (d : Option Int) :
    Gen.Fn.clf_connect_nodev d = requireDevice d ∧ Gen.Fn.clf_sense_nodev d = requireDevice d
    ∧ Gen.Fn.clf_listen_nodev d = requireDevice d ∧ Gen.Fn.clf_exchange_nodev d = requireDevice d := by
  cases d <;> exact ⟨rfl, rfl, rfl, rfl⟩

/-! ## truth values of callback results -/
theorem truth_bridge (v : Clf.Val) :
    Gen.Fn.clf_rdwr_discover (encV v) = v.truthy ∧ Gen.Fn.clf_rdwr_connect (encV v) = v.truthy
    ∧ Gen.Fn.clf_llcp_connect (encV v) = v.truthy ∧ Gen.Fn.clf_card_connect (encV v) = v.truthy
    ∧ Gen.Fn.clf_card_discover true (encV v) = v.truthy := by
  cases v <;> decide

theorem done_bridge (v : RetVal) :
    Gen.Fn.clf_connect_rdwr_done (encRet v) = v.truthy ∧ Gen.Fn.clf_connect_llcp_done (encRet v) = v.truthy
    ∧ Gen.Fn.clf_connect_card_done (encRet v) = v.truthy := by
  cases v with
  | none | obj r => exact ⟨rfl, rfl, rfl⟩
  | val r v => cases v <;> exact ⟨rfl, rfl, rfl⟩

theorem has_bridge {α} (o : Option α) :
    Gen.Fn.clf_connect_has_rdwr (mark o) = o.isSome ∧ Gen.Fn.clf_connect_has_llcp (mark o) = o.isSome
    ∧ Gen.Fn.clf_connect_has_card (mark o) = o.isSome := by
  cases o <;> exact ⟨rfl, rfl, rfl⟩

theorem no_options_bridge (l : Live) :
    Gen.Fn.clf_connect_no_options (mark l.rdwr) (mark l.llcp) (mark l.card) = l.isEmpty := by
  obtain ⟨a, b, c⟩ := l
  cases a <;> cases b <;> cases c <;> rfl

/-! ## sense(): argument checks of the nested functions -/

theorem tta_sel_req_bridge (sel : Bytes) :
    Gen.Fn.clf_tta_sel_req sel
      = if sel.length ≠ 0 ∧ sel.length ≠ 4 ∧ sel.length ≠ 7 ∧ sel.length ≠ 10 then .error .value else .ok () := by
  unfold Gen.Fn.clf_tta_sel_req
  have h0 : sel ≠ [] ↔ sel.length ≠ 0 := by
    cases sel <;> simp
  simp only [h0]
  py_nat
  by_cases h : sel.length ≠ 0 ∧ sel.length ≠ 4 ∧ sel.length ≠ 7 ∧ sel.length ≠ 10
  · rw [if_pos h, if_pos (by omega)]
  · rw [if_neg h, if_neg (by omega)]

theorem dep_checks_bridge (atr : Bytes) :
    Gen.Fn.clf_dep_checks atr
      = if atr.length < 16 then .error .value else if atr.length > 64 then .error .value else .ok () := by
  unfold Gen.Fn.clf_dep_checks
  py_nat

/-- the checks of a Type A answer: the model's `checkTta` is the composition of the regenerated pieces -/
theorem check_tta_bridge (f : Found) : checkTta f = checkTtaGen f.sens f.rid := by
  unfold checkTta checkTtaGen Gen.Fn.clf_tta_sens_len_bad Gen.Fn.clf_tta_is_t1t Gen.Fn.clf_tta_t1t_checks
  match hs : f.sens with
  | [] => simp [len_eq]
  | [a] => simp [len_eq]
  | a :: b :: c :: r =>
    have h3 : ¬ ((r.length : Int) + 1 + 1 + 1 = 2) := by omega
    simp [len_eq, h3]
  | [a, b] =>
    simp only [len_eq, List.length_cons, List.length_nil, getB_zero, getB_one, Py.bind_ok, List.getD_cons_zero,
      List.getD_cons_succ]
    cases hr : f.rid with
    | nil => py_nat; simp
    | cons x xs =>
      simp only [getB_zero, Py.bind_ok, List.getD_cons_zero, List.isEmpty_cons, List.length_cons]
      py_nat

/-- the dispatch chain of the inner loop for ANY four nested functions: `atr_req` first, then the technology
letters A, B, F, else UnsupportedTargetError -/
theorem sense_dispatch_table (tg : Int) (t : RT) (d a b f : Int → Py (Option Int)) :
    Gen.Fn.clf_sense_dispatch tg t.atr t.brty d a b f
      = match t.spec with
        | .dep _ => d tg
        | .a _ => a tg
        | .b => b tg
        | .f => f tg
        | _ => .error .unsupportedTarget := by
  obtain ⟨atr, sel, brty⟩ := t
  unfold Gen.Fn.clf_sense_dispatch RT.spec
  have e : ∀ x, PyFn.strEndsWith brty x = endsWith brty x := fun _ => rfl
  simp only [e]
  cases atr with
  | some x => simp [bind_ok_id]
  | none =>
    cases endsWith brty "A" <;> cases endsWith brty "B" <;> cases endsWith brty "F" <;> simp [bind_ok_id]

theorem sense_choice (t : RT) :
    senseChoice t = match t.spec with
      | .dep _ => .ok (some 4) | .a _ => .ok (some 1) | .b => .ok (some 2) | .f => .ok (some 3)
      | _ => .error .unsupportedTarget := by
  unfold senseChoice
  rw [sense_dispatch_table]
  cases t.spec <;> rfl

theorem sense_tta_bridge (sel : Bytes) (s : St) : senseOne (.a sel.length) s = senseTtaGen sel s := by
  unfold senseTtaGen
  simp only [senseOne, tta_sel_req_bridge, check_tta_bridge]
  by_cases h : sel.length ≠ 0 ∧ sel.length ≠ 4 ∧ sel.length ≠ 7 ∧ sel.length ≠ 10
  · rw [if_pos h, if_pos h]
  · rw [if_neg h, if_neg h]
    rcases drvSense .senseA s with ⟨_ | _ | _, s1⟩ <;> rfl

theorem sense_dep_bridge (atr : Bytes) (s : St) : senseOne (.dep atr.length) s = senseDepGen atr s := by
  unfold senseDepGen
  simp only [senseOne, dep_checks_bridge]
  by_cases h1 : atr.length < 16
  · simp only [h1, if_true]
  · by_cases h2 : atr.length > 64 <;> simp only [h1, h2, if_true, if_false] <;> rfl

/-- one target of the inner loop: the model's `senseOne` on the abstraction of the target is the regenerated
dispatch chain over the regenerated checks -/
theorem sense_one_bridge (t : RT) (s : St) : senseOne t.spec s = senseOneGen t s := by
  unfold senseOneGen
  rw [sense_choice]
  obtain ⟨atr, sel, brty⟩ := t
  unfold RT.spec
  cases atr with
  | some a => simp [sense_dep_bridge]
  | none =>
    cases endsWith brty "A" with
    | true => exact sense_tta_bridge sel s
    | false => cases endsWith brty "B" <;> cases endsWith brty "F" <;> rfl

theorem sense_found_bridge (r : Option (Nat × Found)) :
    (if Gen.Fn.clf_sense_found (r.map (fun x => (x.1 : Int))) = true then r else none) = r := by
  cases r <;> simp [Gen.Fn.clf_sense_found]

theorem sense_targets_bridge (single : Bool) (tl : List RT) (s : St) :
    senseTargets single (tl.map RT.spec) s = senseTargetsGen single tl s := by
  induction tl generalizing s with
  | nil => rfl
  | cons t rest ih =>
    simp only [List.map_cons, senseTargets, senseTargetsGen, sense_one_bridge, ih]
    rcases senseOneGen t s with ⟨_ | _ | _, s1⟩ <;> rfl

theorem markers_length {α} (l : List α) : (markers l).length = l.length := by simp [markers]

theorem sense_single_bridge {α} (tl : List α) : Gen.Fn.clf_sense_single (markers tl) = (tl.length == 1) := by
  unfold Gen.Fn.clf_sense_single
  rw [len_eq, markers_length]
  py_nat
  -- the Int test `len(targets) == 1` has become the test on naturals; `decide (n = 1)` is `n == 1`
  rfl

theorem sense_mute_bridge {α} (tl : List α) : Gen.Fn.clf_sense_mute (markers tl) = !tl.isEmpty := by
  unfold Gen.Fn.clf_sense_mute
  rw [len_eq, markers_length]
  cases tl <;> simp

/-- `range(max(1, iterations))` -/
theorem sense_iters_bridge (iters : Int) :
    Gen.Fn.clf_sense_iters iters = (List.range (max 1 iters).toNat).map (fun (i : Nat) => (i : Int)) := by
  unfold Gen.Fn.clf_sense_iters PyFn.range PyFn.imax
  have : (if iters > 1 then iters else 1) = max 1 iters := by
    rw [Int.max_def]; split <;> split <;> omega
  rw [this]
  simp

/-- sleep between two iterations, not behind the last one: `k` iterations remain behind iteration `j` -/
theorem sense_sleep_bridge (iters : Int) (j k : Nat) (h : j + (k + 1) = (max 1 iters).toNat) :
    Gen.Fn.clf_sense_sleep (j : Int) iters = decide (k ≠ 0) := by
  unfold Gen.Fn.clf_sense_sleep
  rw [Int.max_def] at h
  congr 1
  apply propext
  split at h <;> omega

theorem sense_iters_loop (tl : List RT) (iters : Int) (k : Nat) :
    ∀ (j : Nat) (s : St), j + k = (max 1 iters).toNat →
      senseIters (tl.map RT.spec) (tl.length == 1) k s
        = senseItersGen tl iters ((List.range' j k).map (fun (i : Nat) => (i : Int))) s := by
  induction k with
  | zero => intro j s _; rfl
  | succ k ih =>
    intro j s h
    have ih' := fun s => ih (j + 1) s (by omega)
    simp only [List.range'_succ, List.map_cons, senseIters, senseItersGen, sense_targets_bridge, sense_single_bridge,
      sense_mute_bridge, sense_sleep_bridge iters j k h, List.isEmpty_map, ih']
    -- both sides are now the same walk: the result of the targets; on `none` the mute call unless no target was given;
    -- then the remaining iterations (`ih'`), with a sleep in front unless this was the last one.  The model tests
    -- `tl.isEmpty` and `k = 0`, the skeleton `!tl.isEmpty` and `k ≠ 0` with the branches exchanged: turn those round
    simp only [Bool.not_eq_true', ← Bool.not_eq_true, ite_not, decide_eq_true_eq, ne_eq]
    rfl

theorem rt_spec_ne (t : RT) : (t.spec == TgtSpec.notTarget) = false := by
  obtain ⟨atr, sel, brty⟩ := t
  unfold RT.spec
  cases atr <;> cases endsWith brty "A" <;> cases endsWith brty "B" <;> cases endsWith brty "F" <;> rfl

theorem arg_check_bridge (tl : List (Option RT)) :
    argCheckGen (tl.map Option.isSome) = if (tl.map argSpec).any (· == .notTarget) then .error .value else .ok () := by
  induction tl with
  | nil => rfl
  | cons a l ih =>
    cases a with
    | none => simp [argCheckGen, Gen.Fn.clf_sense_arg_check, argSpec]
    | some t =>
      simp only [List.map_cons, Option.isSome_some, argCheckGen, Gen.Fn.clf_sense_arg_check, List.any_cons, argSpec,
        rt_spec_ne, Bool.false_or]
      simpa using ih

theorem all_some {α} (tl : List (Option α)) (f : Option α → TgtSpec)
    (h : (tl.map f).any (· == .notTarget) = false) (hf : f none = .notTarget) :
    tl = (tl.filterMap id).map some := by
  induction tl with
  | nil => rfl
  | cons a l ih =>
    cases a with
    | none => simp [hf] at h
    | some x =>
      simp only [List.map_cons, List.any_cons, Bool.or_eq_false_iff] at h
      simp only [List.filterMap_cons, id, List.map_cons]
      rw [← ih h.2]

/-- `ContactlessFrontend.sense` of the model on the abstraction of the argument list is the regenerated code:
argument check, ENODEV check, iteration range, per-target dispatch and checks, single-target rule, mute and sleep
decisions -/
theorem sense_bridge (device : Int) (tl : List (Option RT)) (iters : Int) (s : St) :
    sense (tl.map argSpec) iters s = senseGen (some device) tl iters s := by
  unfold sense senseGen
  have hforget : tgtOfNone Gen.Fn.clf_sense_forget = Tgt.none := rfl
  rw [arg_check_bridge, hforget]
  cases hany : (tl.map argSpec).any (· == .notTarget)
  · simp only [Bool.false_eq_true, if_false, Gen.Fn.clf_sense_nodev]
    rcases simpleCall .mute { s with target := .none } with ⟨q, s1⟩
    match q with
    | .error e => rfl
    | .ok _ =>
      simp only []
      have hl := all_some tl argSpec hany rfl
      have hm : tl.map argSpec = (tl.filterMap id).map RT.spec := by
        conv => lhs; rw [hl]
        simp [argSpec, Function.comp_def]
      rw [hm, sense_iters_bridge, List.length_map]
      have := sense_iters_loop (tl.filterMap id) iters (max 1 iters).toNat 0 s1 (by omega)
      rw [this, List.range_eq_range']
  · simp

/-- the dispatch chain of `listen()` for ANY four nested functions: `atr_res` first, then the `brty` tables,
else ValueError -/
theorem listen_dispatch_table (tg tmo : Int) (atrRes : Option Bytes) (brty : String)
    (d a b f : Int → Int → Py (Option Int)) :
    Gen.Fn.clf_listen_dispatch tg tmo atrRes brty d a b f
      = match ltOf atrRes brty with
        | .dep => d tg tmo
        | .a => a tg tmo
        | .b => b tg tmo
        | .f => f tg tmo
        | .other => .error .value := by
  unfold Gen.Fn.clf_listen_dispatch ltOf
  cases atrRes with
  | some x => simp [bind_ok_id]
  | none =>
    simp only []
    by_cases h1 : brty = "106A" ∨ brty = "212A" ∨ brty = "424A"
    · simp [h1, bind_ok_id]
    · by_cases h2 : brty = "106B" ∨ brty = "212B" ∨ brty = "424B" ∨ brty = "848B"
      · simp [h1, h2, bind_ok_id]
      · by_cases h3 : brty = "212F" ∨ brty = "424F" <;> simp [h1, h2, h3, bind_ok_id]

theorem listen_choice (atrRes : Option Bytes) (brty : String) :
    listenChoice atrRes brty = match ltOf atrRes brty with
      | .dep => .ok (some 4) | .a => .ok (some 1) | .b => .ok (some 2) | .f => .ok (some 3)
      | .other => .error .value := by
  unfold listenChoice
  rw [listen_dispatch_table]
  cases ltOf atrRes brty <;> rfl

theorem listen_dep_len_bridge (n : Nat) :
    (Gen.Fn.clf_listen_dep_min (List.replicate n 0) = true ∧ Gen.Fn.clf_listen_dep_max (List.replicate n 0) = true)
      ↔ (16 ≤ n ∧ n ≤ 64) := by
  unfold Gen.Fn.clf_listen_dep_min Gen.Fn.clf_listen_dep_max
  simp [len_eq]
  omega

/-- `ContactlessFrontend.listen` of the model on the abstraction of the `LocalTarget` is the regenerated code -/
theorem listen_bridge (device : Int) (atrRes : Option Bytes) (brty : String) (s : St) :
    listen (ltOf atrRes brty) s = listenGen (some device) atrRes brty s := by
  unfold listen listenGen
  have hforget : tgtOfNone Gen.Fn.clf_listen_forget = Tgt.none := rfl
  simp only [Gen.Fn.clf_listen_nodev, listen_choice, hforget]
  rcases simpleCall .mute { s with target := .none } with ⟨q, s1⟩
  match q with
  | .error e => rfl
  | .ok _ =>
    simp only []
    cases ltOf atrRes brty with
    | other | a | b | f => rfl
    | dep =>
      simp only [if_true]
      rcases drvListen .listenDep s1 with ⟨r, s2⟩
      match r with
      | .ok (some (id, f)) => simp only [listen_dep_len_bridge]
      | .ok none => rfl
      | .error e => rfl

theorem exchange_select_bridge (t : Tgt) :
    Gen.Fn.clf_exchange_select (isRemote t) (isLocal t) 1 2
      = match t with | .none => none | .remote _ => some 1 | .loc _ => some 2 := by
  cases t <;> rfl

/-- `ContactlessFrontend.exchange` of the model is the regenerated selection of the driver method -/
theorem exchange_bridge (device : Int) (s : St) : exchange s = exchangeGen (some device) s := by
  unfold exchange exchangeGen
  simp only [Gen.Fn.clf_exchange_nodev, exchange_select_bridge]
  cases s.target <;> simp [tgtId]

/-- the default on-discover of the rdwr option answers True exactly for targets without peer-to-peer support -/
theorem default_discover_bridge (sel sensf : Bytes) :
    Gen.Fn.clf_connect_default_discover sel sensf = .ok (defaultDiscoverRef sel sensf) := by
  unfold Gen.Fn.clf_connect_default_discover defaultDiscoverRef p2pCapable
  rw [show slice sensf 1 3 = (sensf.drop 1).take 2 from slice_cast sensf 1 3]
  cases sel with
  | nil =>
    simp only [ne_eq, not_true_eq_false, if_false, Py.bind_ok, Bool.false_eq_true, Bool.false_or]
    cases sensf with
    | nil => simp
    | cons a l => by_cases h : (l.take 2) = [1, 254] <;> simp [h]
  | cons b r =>
    simp only [ne_eq, reduceCtorEq, not_false_eq_true, if_true, getB_zero, Py.bind_ok]
    rw [show (64 : Int) = ((64 : Nat) : Int) from rfl, band_ofNat, show b &&& 64 = 64 * (b / 64 % 2) from and_two_pow_mul b 6]
    by_cases hb : b / 64 % 2 = 1
    · simp [hb]
    · have : b / 64 % 2 = 0 := by omega
      simp only [this]
      cases sensf with
      | nil => simp
      | cons a l => by_cases h : (l.take 2) = [1, 254] <;> simp [h]

/-- the model's default on-discover (`Connect.defaultDiscover`) on the discovery responses of the target found -/
theorem default_discover_model (f : Found) : defaultDiscover f = defaultDiscoverGen f := by
  unfold defaultDiscover defaultDiscoverGen
  rw [default_discover_bridge]
  unfold discoverBytes defaultDiscoverRef p2pCapable Found.selRes
  by_cases h1 : f.tech = 1
  · cases hp : f.p2p <;> by_cases hv : f.var % 2 = 1 <;> simp [h1, hv]
  · by_cases h3 : f.tech = 3
    · cases hp : f.p2p <;> simp [h3]
    · cases hp : f.p2p <;> simp [h1, h3]

/-- the presence loop: `tag.is_present` is asked only while `terminate()` says False -/
theorem presence_loop_bridge (ts : List Bool) (s : St) : presenceLoop ts s = presenceLoopGen ts s := by
  induction ts generalizing s with
  | nil => rfl
  | cons t r ih =>
    cases t with
    | true => rfl
    | false =>
      simp only [presenceLoop, presenceLoopGen, presentNow, Bool.false_eq_true, if_false, ih]
      rcases exchange (s.emit (.term false)) with ⟨e | _ | _, s1⟩
      · simp only []
        cases isCommErr e <;> rfl
      · rfl
      · rfl

theorem rdwr_found_bridge (r : Option (Nat × Found)) :
    (if Gen.Fn.clf_rdwr_found (r.map (fun x => (x.1 : Int))) = true then r else none) = r := by
  cases r <;> rfl

theorem rdwr_activated_bridge {α} (tag : Option α) : Gen.Fn.clf_rdwr_activated (tag.map (fun _ => 1)) = tag.isSome := by
  cases tag <;> rfl

theorem rdwr_beep_bridge (b : Bool) : Gen.Fn.clf_rdwr_beep (some (if b then 1 else 0)) = b := by
  cases b <;> rfl

theorem rdwr_step_bridge (o : RdwrOpts) (ts : List Bool) (s : St) : rdwrStep o ts s = rdwrStepGen o ts s := by
  unfold rdwrStep rdwrStepGen
  simp only [rdwr_found_bridge, rdwr_activated_bridge, rdwr_beep_bridge, default_discover_model, (truth_bridge _).1,
    (truth_bridge _).2.1, presence_loop_bridge]
  -- the model matches `.ok none` / `.ok (some _)` flat, the skeleton tests the option: split the two results
  rcases sense o.targets o.iters s with ⟨_ | _ | ⟨_, f⟩, s1⟩
  · rfl
  · rfl
  · simp only []
    generalize tagActivate f _ = ta
    rcases ta with ⟨_ | _ | _, s3⟩ <;> rfl

theorem llcp_role_bridge (o : LlcpOpts) (ini : Bool) (ts : List Bool) (s : St) :
    llcpRole o ini ts s = llcpRoleGen o ini ts s := by
  unfold llcpRole llcpRoleGen
  rcases s.ask (.llcActivate ini) with ⟨a, s1⟩
  simp only [(truth_bridge _).2.2.1]
  cases a <;> simp [Gen.Fn.clf_llcp_activated] <;> rfl

/-- which roles are tried: the regenerated role test on the regenerated role tuple -/
theorem role_match_bridge (r : RoleOpt) :
    Gen.Fn.clf_llcp_role_match "target" (roleNone r) (roleName r) = decide (r = .both ∨ r = .target)
    ∧ Gen.Fn.clf_llcp_role_match "initiator" (roleNone r) (roleName r) = decide (r = .both ∨ r = .initiator) := by
  cases r <;> exact ⟨by decide, by decide⟩

theorem llcp_step_bridge (o : LlcpOpts) (ts : List Bool) (s : St) : llcpStep o ts s = llcpStepGen o ts s := by
  unfold llcpStep llcpStepGen
  have hr : [Gen.Fn.clf_llcp_roles.1, Gen.Fn.clf_llcp_roles.2] = ["target", "initiator"] := rfl
  rw [hr]
  simp only [llcpRolesGen, (role_match_bridge o.role).1, (role_match_bridge o.role).2, decide_eq_true_eq,
    ← llcp_role_bridge]
  have e1 : ("target" == "initiator") = false := by decide
  have e2 : ("initiator" == "initiator") = true := by decide
  rw [e1, e2]
  by_cases h1 : o.role = .both ∨ o.role = .target <;> by_cases h2 : o.role = .both ∨ o.role = .initiator <;>
    simp only [h1, h2, if_true, if_false] <;> rfl

theorem card_loop_bridge (ts : List Bool) (s : St) : cardLoop ts s = cardLoopGen ts s := by
  induction ts generalizing s with
  | nil => rfl
  | cons t r ih =>
    cases t with
    | true => rfl
    | false =>
      simp only [cardLoop, cardLoopGen, Gen.Fn.clf_card_go_on, Bool.false_eq_true, not_false_eq_true, decide_true, if_true,
        ih]
      rfl

theorem card_step_bridge (o : CardOpts) (ts : List Bool) (s : St) : cardStep o ts s = cardStepGen o ts s := by
  unfold cardStep cardStepGen
  simp only [(truth_bridge _).2.2.2.1, (truth_bridge _).2.2.2.2, card_loop_bridge]
  rcases listen o.target s with ⟨_ | _ | _, s1⟩ <;> rfl

/-- one step of the main loop: taken iff the option survived, `connect()` returns its result iff
`bool(result) is True` -/
theorem try_step_bridge (has done : Option Int → Bool)
    (hh : ∀ (o : Option (List Bool → St → StepOut)), has (mark o) = o.isSome) (hd : ∀ v, done (encRet v) = v.truthy)
    (f : Option (List Bool → St → StepOut)) (ts : List Bool) (s : St) :
    tryStep f ts s = tryStepGen has done f ts s := by
  unfold tryStep tryStepGen
  rw [hh]
  cases f with
  | none => rfl
  | some g =>
    simp only [Option.isSome_some, if_true, hd]
    rfl

theorem main_loop_bridge (l : Live) (k : Nat) (ts : List Bool) (s : St) : mainLoop l k ts s = mainLoopGen l k ts s := by
  have er : l.rdwr.map rdwrStep = l.rdwr.map rdwrStepGen := by
    congr 1; funext o ts s; exact rdwr_step_bridge o ts s
  have el : l.llcp.map llcpStep = l.llcp.map llcpStepGen := by
    congr 1; funext o ts s; exact llcp_step_bridge o ts s
  have ec : l.card.map cardStep = l.card.map cardStepGen := by
    congr 1; funext o ts s; exact card_step_bridge o ts s
  induction k generalizing ts s with
  | zero => rfl
  | succ k ih =>
    have t1 := fun f ts s => try_step_bridge Gen.Fn.clf_connect_has_rdwr Gen.Fn.clf_connect_rdwr_done
      (fun o => (has_bridge o).1) (fun v => (done_bridge v).1) f ts s
    have t2 := fun f ts s => try_step_bridge Gen.Fn.clf_connect_has_llcp Gen.Fn.clf_connect_llcp_done
      (fun o => (has_bridge o).2.1) (fun v => (done_bridge v).2.1) f ts s
    have t3 := fun f ts s => try_step_bridge Gen.Fn.clf_connect_has_card Gen.Fn.clf_connect_card_done
      (fun o => (has_bridge o).2.2) (fun v => (done_bridge v).2.2) f ts s
    simp only [mainLoop, mainLoopGen, er, el, ec, ← t1, ← t2, ← t3, ih]
    rcases askTerm ts s with ⟨t, s0, ts0⟩
    cases t <;> simp [Gen.Fn.clf_connect_go_on] <;> rfl

/-- which options survive their on-startup -/
theorem startup_bridge :
    (∀ (l : LlcpOpts), keepIf (Gen.Fn.clf_connect_llcp_startup (some 1) (keeps .llcp l.startup)) l
        = if keeps .llcp l.startup then some l else none)
    ∧ (∀ (c : CardOpts), keepIf (Gen.Fn.clf_connect_card_startup (some 1) (keeps .card c.startup)) c
        = if keeps .card c.startup then some c else none)
    ∧ (∀ (r : RdwrOpts), (match r.startup with | some (.nonIterable, _) => False | _ => True) →
        keepIf (Gen.Fn.clf_connect_rdwr_startup (some 1) (rdwrReturned r).1 (rdwrReturned r).2) r
          = if keeps .rdwr r.startup && !r.targets.isEmpty then some r else none) := by
  refine ⟨?_, ?_, ?_⟩
  · intro l; cases keeps .llcp l.startup <;> rfl
  · intro c; cases keeps .card c.startup <;> rfl
  · intro r h
    unfold Gen.Fn.clf_connect_rdwr_startup rdwrReturned keepIf keeps
    have hm : (markers r.targets ≠ []) ↔ r.targets.isEmpty = false := by
      cases r.targets <;> simp [markers]
    match hs : r.startup with
    | none | some (.proper, _) => cases hte : r.targets.isEmpty <;> simp [hm, hte]
    | some (.falsy, _) | some (.wrongType, _) => simp
    | some (.nonIterable, n) => rw [hs] at h; exact absurd h (by simp)

theorem startup_rest_bridge (o : Opts) (ll : Option LlcpOpts) (s : St) :
    startupRest o ll s = startupRestGen o ll s := by
  unfold startupRest startupRestGen
  simp only [startup_bridge.2.1]
  cases o.rdwr with
  | none => rfl
  | some r =>
    simp only []
    match hs : r.startup with
    | some (.nonIterable, n) => simp
    | none | some (.proper, _) | some (.falsy, _) | some (.wrongType, _) =>
      simp [startup_bridge.2.2 r (by rw [hs]; trivial), hs] <;> rfl

theorem startup_phase_bridge (o : Opts) (s : St) : startupPhase o s = startupPhaseGen o s := by
  unfold startupPhase startupPhaseGen
  simp only [startup_rest_bridge, startup_bridge.1]
  rfl

/-- `ContactlessFrontend.connect` of the model (open device) is the regenerated decision code around the scripted
world -/
theorem connect_bridge (device : Int) (o : Opts) (env : List Ans) (ts : List Bool) :
    connect o env ts = connectGen (some device) o env ts := by
  unfold connect connectGen
  simp only [Gen.Fn.clf_connect_nodev, startup_phase_bridge, no_options_bridge, main_loop_bridge]
  rfl

/-- `LocalTarget.brty` -/
theorem local_brty_bridge (send recv : String) : Gen.Fn.clf_local_brty send recv = localBrty send recv := rfl

example : Gen.Fn.clf_local_brty "106A" "106A" = "106A" ∧ Gen.Fn.clf_local_brty "212F" "424F" = "212F/424F" := by decide

/-! ## NFC-DEP option pass-through (C19) -/

/-- the pass-through of `_llcp_connect` is the reference definition: the regenerated key tuple, every key that is
present forwarded with its value -/
theorem dep_cfg_bridge (options : String → Option Int) : depCfgGen options = depCfg options := by
  unfold depCfgGen depCfg depKeys Gen.Fn.clf_llcp_dep_keys Gen.Fn.clf_llcp_dep_key_fwd
  show List.filterMap _ ["brs", "acm", "rwt", "lrt", "lri"] = _
  congr 1
  funext k
  cases options k <;> rfl

/-- C19 ("option pass-through from connect()"): an NFC-DEP option reaches `llc.activate` iff it is one of the five
keys and present in the llcp option dictionary - with whatever value, also `brs = 0`, `lri = 0`, `acm = False` -/
theorem gen_dep_cfg_mem (options : String → Option Int) (k : String) (v : Int) :
    (k, v) ∈ depCfgGen options ↔ k ∈ depKeys ∧ options k = some v := by
  rw [dep_cfg_bridge]
  unfold depCfg
  simp only [List.mem_filterMap, Option.map_eq_some_iff, Prod.mk.injEq]
  constructor
  · rintro ⟨a, ha, w, hw, rfl, rfl⟩; exact ⟨ha, hw⟩
  · rintro ⟨hk, hv⟩; exact ⟨k, hk, v, hv, rfl, rfl⟩

/-- a bit rate selector 0 (106 kbps) given in the options is forwarded, not replaced by the default 2 -/
example : ("brs", 0) ∈ depCfgGen (fun k => if k = "brs" then some 0 else none) := by decide
example : depCfgGen (fun k => if k = "lri" then some 0 else if k = "miu" then some 1024 else none) = [("lri", 0)] := by
  decide

/-- the roles `_llcp_connect` tries are the documented ones, Target first -/
theorem gen_roles_tried (r : RoleOpt) :
    (["target", "initiator"].filter (fun role => Gen.Fn.clf_llcp_role_match role (roleNone r) (roleName r))).map
        (fun role => role == "initiator") = rolesTried r := by
  cases r <;> decide

/-! ## statements of C18 for the regenerated code -/

/-- C18 `connect_callback_order` for `connectGen`: the callbacks of every run of the regenerated decision code
come in the documented order -/
theorem gen_connect_callback_order (device : Int) (o : Opts) (env : List Ans) (ts : List Bool) :
    (mon (connectGen (some device) o env ts).2.log).isSome = true := by
  rw [← connect_bridge]; exact C18.connect_callback_order o env ts

/-- C18 `release_iff_connect_true` (the part for runs that return) for `connectGen` -/
theorem gen_release_iff_connect_true (device : Int) (o : Opts) (env : List Ans) (ts : List Bool) (r : Role) (v : RetVal)
    (hv : (connectGen (some device) o env ts).1 = .ret v) :
    (connectGen (some device) o env ts).2.log.countP (isRelease r)
      = (connectGen (some device) o env ts).2.log.countP (isConnTrue r) := by
  rw [← connect_bridge] at hv ⊢
  exact (C18.release_iff_connect_true o env ts r).2.2 v hv

theorem arg_specs_ok (tl : List RT) : ((tl.map some).map argSpec).any (· == TgtSpec.notTarget) = false := by
  induction tl with
  | nil => rfl
  | cons t l ih => simp only [List.map_cons, List.any_cons, argSpec, rt_spec_ne, Bool.false_or]; exact ih

/-- C18 `sense_no_raise_unsupported` for `senseGen`: with two or more RemoteTargets the regenerated `sense()` raises
only what the device raises -/
theorem gen_sense_no_raise_unsupported (device : Int) (tl : List RT) (iters : Int) (s : St) (h2 : 2 ≤ tl.length) (e : Exc)
    (he : (senseGen (some device) (tl.map some) iters s).1 = .error e) : e = .io 5 ∨ e = .keyboardInterrupt := by
  rw [← sense_bridge] at he
  exact C18.sense_no_raise_unsupported _ iters s (arg_specs_ok tl) (by simpa using h2) e he

/-- C18 `sense_field_off_when_none` for `senseGen` -/
theorem gen_sense_field_off_when_none (device : Int) (tl : List RT) (iters : Int) (s : St)
    (hn : (senseGen (some device) (tl.map some) iters s).1 = .ok none) :
    ∃ seg, (senseGen (some device) (tl.map some) iters s).2.log = s.log ++ seg ∧ (sitesOf seg).getLast? = some .mute := by
  rw [← sense_bridge] at hn ⊢
  exact C18.sense_field_off_when_none _ iters s (arg_specs_ok tl) hn

/-! ## non-vacuity: the regenerated decisions on concrete inputs -/
example : Gen.Fn.clf_tta_sel_req [1, 2, 3] = .error .value := by decide
example : Gen.Fn.clf_tta_sel_req [1, 2, 3, 4] = .ok () := by decide
example : Gen.Fn.clf_tta_sel_req [] = .ok () := by decide
example : checkTtaGen [0x00, 0x0C] [0x11, 0x48, 1, 2, 3, 4] = .ok () := by decide
example : checkTtaGen [0x00, 0x0C] [] = .error .protocol := by decide
example : checkTtaGen [0x44, 0x00] [] = .ok () := by decide
example : checkTtaGen [0x44] [] = .error .protocol := by decide
example : Gen.Fn.clf_dep_checks (List.replicate 15 0) = .error .value := by decide
example : Gen.Fn.clf_dep_checks (List.replicate 16 0) = .ok () := by decide
example : Gen.Fn.clf_dep_checks (List.replicate 65 0) = .error .value := by decide
example : senseChoice ⟨none, [], "106A"⟩ = .ok (some 1) := by decide
example : senseChoice ⟨some [1], [], "106A"⟩ = .ok (some 4) := by decide
example : senseChoice ⟨none, [], "424F"⟩ = .ok (some 3) := by decide
example : senseChoice ⟨none, [], "106"⟩ = .error .unsupportedTarget := by decide
example : Gen.Fn.clf_sense_iters 3 = [0, 1, 2] := by decide
example : Gen.Fn.clf_sense_iters (-4) = [0] := by decide
example : Gen.Fn.clf_sense_sleep 1 3 = true ∧ Gen.Fn.clf_sense_sleep 2 3 = false := by decide
example : listenChoice none "212F" = .ok (some 3) := by decide
example : listenChoice (some []) "212F" = .ok (some 4) := by decide
example : listenChoice none "106C" = .error .value := by decide
example : Gen.Fn.clf_exchange_select false false 1 2 = none := by decide
example : Gen.Fn.clf_connect_default_discover [0x60] [] = .ok false := by decide
example : Gen.Fn.clf_connect_default_discover [0x20] [] = .ok true := by decide
example : Gen.Fn.clf_connect_default_discover [] [1, 1, 254, 0] = .ok false := by decide
example : Gen.Fn.clf_connect_default_discover [] [1, 2, 254, 0] = .ok true := by decide
example : Gen.Fn.clf_connect_rdwr_startup (some 8) [] true = none := by decide
example : Gen.Fn.clf_connect_rdwr_startup (some 8) [0] true = some 8 := by decide
example : Gen.Fn.clf_connect_rdwr_done (some 0) = false ∧ Gen.Fn.clf_connect_rdwr_done (some 1) = true
    ∧ Gen.Fn.clf_connect_rdwr_done none = false := by decide
/-- without any option connect() returns None; without a device it raises IOError(ENODEV) -/
example : (connectGen (some 1) ⟨none, none, none⟩ [] []).1 = .ret .none := by decide
example : (connectGen none ⟨none, none, none⟩ [] []).1 = .raised (.io 19) := by decide

end NfcVerif.FnBridge.Clf
