import NfcVerif.Gen.Tables
/-!
Bridge theorems (constants of the source = constants of the models). `Gen/Tables.lean` is
regenerated from `/repo/src/nfc` by `harness/translate_tables.py` on every run of a check that
depends on it; each theorem is closed by kernel evaluation, so an edit of a constant in the
source breaks it.  One small module per model so that the checks stay independent.  Here the expected value is
written out in the statement; no model constant carries it.
-/
namespace NfcVerif.Tables
open NfcVerif

/-- the defined LLCP PDU types (C11, C07): exactly these fourteen type codes carry a PDU class,
1011 and 1111 are unknown -/
theorem pdu_type_map_bridge :
    Gen.Tables.pduTypeMap = [(0, "Symmetry"), (1, "ParameterExchange"), (2, "AggregatedFrame"),
      (3, "UnnumberedInformation"), (4, "Connect"), (5, "Disconnect"), (6, "ConnectionComplete"),
      (7, "DisconnectedMode"), (8, "FrameReject"), (9, "ServiceNameLookup"), (10, "DataProtectionSetup"),
      (12, "Information"), (13, "ReceiveReady"), (14, "ReceiveNotReady")] := rfl

/-- PDU names that a data link connection accepts (C05, C07, C17) -/
theorem dlc_pdu_names_bridge :
    Gen.Tables.dlcPduNames = ["CONNECT", "DISC", "CC", "DM", "FRMR", "I", "RR", "RNR"] := rfl

end NfcVerif.Tables
