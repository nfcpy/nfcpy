import NfcVerif.Gen.FnCrc
import NfcVerif.Lemmas.FnBridgeCrc
import NfcVerif.Lemmas.Crc
/-!
# Bridge theorems, group Crc (`nfc/clf/device.py` -> `Gen/FnCrc.lean` -> `Model/Crc.lean`, property C14)

`Gen/FnCrc.lean` is regenerated from the source by `harness/translate_fn.py` on every run; each
theorem states, for ALL inputs, that the regenerated definition equals the model function the C14
theorems are about.  Encoding (stated in the theorems): a register `r : BitVec 16` is the Python
int `r.toNat`; an octet string `d : List (BitVec 8)` is the byte string `enc d = d.map BitVec.toNat`
(every byte string is of that form: `enc_dec`, restated as the `_bytes` corollaries).
-/
namespace NfcVerif.FnBridge.Crc
open NfcVerif NfcVerif.PyFn NfcVerif.Crc

/-- `calculate_crc(data, size, reg)` is `crcOf` on the first `size` octets (Python slice clamping),
for every octet string, every `size` (also negative) and every 16-bit register value -/
theorem calculate_crc_bridge (d : List (BitVec 8)) (size : Int) (r : BitVec 16) :
    Gen.Fn.calculate_crc (enc d) size (r.toNat : Int)
      = ((crcOf r (d.take (clampBound d.length size))).toNat : Int) := by
  unfold Gen.Fn.calculate_crc crcOf
  have hs : PyFn.sliceTo (enc d) size = enc (d.take (clampBound d.length size)) := by
    unfold PyFn.sliceTo; rw [enc_take, enc_length]
  rw [hs]
  apply foldl_enc
  intro r o
  have e1 : (1 : Int) = ((1 : Nat) : Int) := rfl
  have e2 : (33800 : Int) = ((33800 : Nat) : Int) := rfl
  rw [range8_cast]
  show List.foldl _ _ _ = _
  rw [foldl_bits _ o.toNat, byteStep_toNat]
  intro reg p
  simp only [e1, e2, shr_ofNat, band_ofNat, bxor_ofNat, bit_eq, natBitStep]
  split <;> simp_all

example : Gen.Fn.calculate_crc [0x12, 0x34] 2 0x6363 = ((crcOf 0x6363#16 [0x12#8, 0x34#8]).toNat : Int) := by
  decide +kernel

/-- whole message: `calculate_crc(data, len(data), reg)` -/
theorem calculate_crc_full (d : List (BitVec 8)) (r : BitVec 16) :
    Gen.Fn.calculate_crc (enc d) (PyFn.len (enc d)) (r.toNat : Int) = ((crcOf r d).toNat : Int) := by
  rw [calculate_crc_bridge, len_eq, enc_length, clampBound_ofNat, Nat.min_self, List.take_length]

/-- message without its last two octets: `calculate_crc(data, len(data)-2, reg)`
(for fewer than two octets the slice `data[:len(data)-2]` is empty) -/
theorem calculate_crc_body (d : List (BitVec 8)) (r : BitVec 16) :
    Gen.Fn.calculate_crc (enc d) (PyFn.len (enc d) - 2) (r.toNat : Int)
      = ((crcOf r (d.take (d.length - 2))).toNat : Int) := by
  have e : clampBound d.length (PyFn.len (enc d) - 2) = d.length - 2 := by
    rw [len_eq, enc_length]; unfold clampBound
    by_cases h : ((d.length : Int) - 2 < 0)
    · simp only [h, if_true]; split
      · omega
      · split <;> omega
    · simp only [h, if_false]; split <;> omega
  rw [calculate_crc_bridge, e]

/-- `data + bytearray([crc & 0xff, crc >> 8])` for a register value: the two octets `lo`, `hi` -/
theorem append_lo_hi (d : List (BitVec 8)) (c : BitVec 16) :
    (mkBytes [band (c.toNat : Int) 255, shr (c.toNat : Int) 8] >>= fun t => (Except.ok (enc d ++ t) : Py Bytes))
      = .ok (enc (d ++ [lo c, hi c])) := by
  have hlo : c.toNat &&& 255 < 256 := by rw [← lo_toNat]; exact (lo c).isLt
  have hhi : c.toNat >>> 8 < 256 := by rw [← hi_toNat]; exact (hi c).isLt
  rw [show (255 : Int) = ((255 : Nat) : Int) from rfl, show (8 : Int) = ((8 : Nat) : Int) from rfl, band_ofNat, shr_ofNat,
    mkBytes_two _ _ hlo hhi, enc_append]
  simp [enc, lo_toNat, hi_toNat]

/-- `Device.add_crc_a` never raises and appends the two octets `addCrcA` appends -/
theorem add_crc_a_bridge (d : List (BitVec 8)) : Gen.Fn.add_crc_a (enc d) = .ok (enc (addCrcA d)) := by
  unfold Gen.Fn.add_crc_a addCrcA
  have h := calculate_crc_full d 0x6363#16
  simp only [show ((0x6363#16 : BitVec 16).toNat : Int) = 25443 from rfl] at h
  simp only [h]
  exact append_lo_hi d _

example : Gen.Fn.add_crc_a [0x26] = .ok (enc (addCrcA [0x26#8])) := by decide +kernel

/-- `Device.add_crc_b` -/
theorem add_crc_b_bridge (d : List (BitVec 8)) : Gen.Fn.add_crc_b (enc d) = .ok (enc (addCrcB d)) := by
  unfold Gen.Fn.add_crc_b addCrcB
  have h := calculate_crc_full d 0xFFFF#16
  simp only [show ((0xFFFF#16 : BitVec 16).toNat : Int) = 65535 from rfl] at h
  simp only [h]
  generalize crcOf 0xFFFF#16 d = c
  have e0 : (65535 : Int) = ((2 ^ 16 - 1 : Nat) : Int) := rfl
  have hn : (2 ^ 16 - 1 - c.toNat % 2 ^ 16 : Nat) = (~~~ c).toNat := by rw [not_toNat]
  simp only [e0, band_bnot_mask, hn]
  exact append_lo_hi d _

example : Gen.Fn.add_crc_b [0x05, 0x00] = .ok (enc (addCrcB [0x05#8, 0x00#8])) := by decide +kernel

/-- `Device.check_crc_a`: `IndexError` below two octets, else the comparison of the last two octets
with the CRC of the rest -/
theorem check_crc_a_bridge (d : List (BitVec 8)) : Gen.Fn.check_crc_a (enc d) = checkCrcA d := by
  unfold Gen.Fn.check_crc_a checkCrcA
  have hb := calculate_crc_body d 0x6363#16
  simp only [show ((0x6363#16 : BitVec 16).toNat : Int) = 25443 from rfl] at hb
  simp only [hb]
  rw [check_common d _ _ rfl]; rfl

example : Gen.Fn.check_crc_a (enc [0x26#8]) = .error .index := by decide +kernel
example : Gen.Fn.check_crc_a (enc (addCrcA [0x26#8, 0x01#8])) = .ok true := by decide +kernel

/-- `Device.check_crc_b` -/
theorem check_crc_b_bridge (d : List (BitVec 8)) : Gen.Fn.check_crc_b (enc d) = checkCrcB d := by
  unfold Gen.Fn.check_crc_b checkCrcB
  have hb := calculate_crc_body d 0xFFFF#16
  simp only [show ((0xFFFF#16 : BitVec 16).toNat : Int) = 65535 from rfl] at hb
  simp only [hb]
  have e0 : (65535 : Int) = ((2 ^ 16 - 1 : Nat) : Int) := rfl
  have hn : ∀ c : BitVec 16, (2 ^ 16 - 1 - c.toNat % 2 ^ 16 : Nat) = (~~~ c).toNat := fun c => by rw [not_toNat]
  simp only [e0, band_bnot_mask, hn]
  rw [check_common d _ _ rfl]; rfl

example : Gen.Fn.check_crc_b (enc (addCrcB [0x05#8, 0x00#8])) = .ok true := by decide +kernel

/-! ## the same statements for plain byte strings (`IsBytes data`) -/

theorem add_crc_a_bytes (data : Bytes) (h : IsBytes data) :
    Gen.Fn.add_crc_a data = .ok (enc (addCrcA (dec data))) := by
  have := add_crc_a_bridge (dec data); rwa [enc_dec data h] at this
theorem add_crc_b_bytes (data : Bytes) (h : IsBytes data) :
    Gen.Fn.add_crc_b data = .ok (enc (addCrcB (dec data))) := by
  have := add_crc_b_bridge (dec data); rwa [enc_dec data h] at this
theorem check_crc_a_bytes (data : Bytes) (h : IsBytes data) : Gen.Fn.check_crc_a data = checkCrcA (dec data) := by
  have := check_crc_a_bridge (dec data); rwa [enc_dec data h] at this
theorem check_crc_b_bytes (data : Bytes) (h : IsBytes data) : Gen.Fn.check_crc_b data = checkCrcB (dec data) := by
  have := check_crc_b_bridge (dec data); rwa [enc_dec data h] at this

example : IsBytes [0x26, 0x01] := by decide

/-! ## the C14 theorems restated for the regenerated functions -/

/-- `C14.crc_impl_eq_iso` for the source: the regenerated bit loop computes the ISO/IEC 14443-3 Annex B CRC -/
theorem gen_calculate_crc_eq_iso (d : List (BitVec 8)) (r : BitVec 16) :
    Gen.Fn.calculate_crc (enc d) (PyFn.len (enc d)) (r.toNat : Int) = ((isoCrcOf r d).toNat : Int) := by
  rw [calculate_crc_full, crcOf_eq_iso]

/-- `C14.crc_a_eq_iso` / `crc_b_eq_iso` -/
theorem gen_add_crc_eq_iso (d : List (BitVec 8)) :
    Gen.Fn.add_crc_a (enc d) = .ok (enc (d ++ [lo (isoCrcA d), hi (isoCrcA d)]))
    ∧ Gen.Fn.add_crc_b (enc d) = .ok (enc (d ++ [lo (isoCrcB d), hi (isoCrcB d)])) := by
  rw [add_crc_a_bridge, add_crc_b_bridge]
  simp [addCrcA, addCrcB, isoCrcA, isoCrcB, crcOf_eq_iso]

/-- `C14.crc_check_add`: what the regenerated `add_crc_x` appends is accepted by the regenerated check -/
theorem gen_check_add (d : List (BitVec 8)) :
    (Gen.Fn.add_crc_a (enc d) >>= Gen.Fn.check_crc_a) = .ok true
    ∧ (Gen.Fn.add_crc_b (enc d) >>= Gen.Fn.check_crc_b) = .ok true := by
  rw [add_crc_a_bridge, add_crc_b_bridge]
  simp only [Py.bind_ok, check_crc_a_bridge, check_crc_b_bridge]
  simp [checkCrcA, addCrcA, checkCrcB, addCrcB]

/-- `C14.crc_detects_single_bit` -/
theorem gen_detects_single_bit (d : List (BitVec 8)) (i : Nat) (b : Fin 8) (h : i < d.length + 2) :
    Gen.Fn.check_crc_a (enc (flipBit (addCrcA d) i b)) = .ok false
    ∧ Gen.Fn.check_crc_b (enc (flipBit (addCrcB d) i b)) = .ok false := by
  rw [check_crc_a_bridge, check_crc_b_bridge]
  exact ⟨checkA_flip d i b h, checkB_flip d i b h⟩

end NfcVerif.FnBridge.Crc
