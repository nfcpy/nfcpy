import NfcVerif.Lemmas.Sap
import NfcVerif.Lemmas.SapSpec
import NfcVerif.Lemmas.SapEnd
import NfcVerif.Lemmas.SapSd
/-!
# C17 - LLCP addressing: binding, discovery and delivery reach the right socket

Models: `Model/Sap.lean`
(address table of one `LogicalLinkController`: `bind/_bind_by_*`,
`insert/remove_socket`, `dispatch`, `collect`, service discovery) and
`Model/SapLink.lean` (two coupled controllers and the socket API; a blocking
call = run the link until nothing moves).  The model is of the code with the
repairs `fixes/C17` (F8: names are forgotten with their SAP, F9: a well-known
name is not bound over an occupied address); F22 is as found.

`abs c` is the abstract table of the statement (address ⇀ sockets, name ⇀
address), `BindOk`/`BindErr` the allocation rule and its refusals written
declaratively, `Inv` the table invariant, `run Pair.init ops` the state after an
arbitrary history `ops` of socket/bind/listen/connect/accept/sendto/raw
send/recvfrom/resolve/close/link-transfer operations on two controllers.
-/
namespace NfcVerif.C17
open NfcVerif NfcVerif.Sap

/-- Every outcome of `bind` on an unbound socket is one the allocation rule allows
(address class, freeness, name uniqueness), with exactly the specified effect on
the abstract table; a refusal changes nothing and carries the specified errno. -/
theorem bind_refines_spec (c : Llc) (id : Nat) (arg : BindArg) (hu : (c.sock id).addr = none) :
    (∃ c' a, bind c id arg = .ok c' ∧ BindOk (abs c) (c.sock id).kind arg a ∧
        (c'.sock id).addr = some a ∧ abs c' = (abs c).bound id a arg) ∨
    (∃ n, bind c id arg = .error (.llcp n) ∧ BindErr (abs c) (c.sock id).kind arg n) := by
  rcases bind_cases c id arg with ⟨h, _⟩ | ⟨_, ⟨a, hok, he⟩ | ⟨n, herr, he⟩⟩
  · rw [hu] at h; cases h
  · exact .inl ⟨_, a, he, hok, bindTo_addr .., abs_bindTo ..⟩
  · exact .inr ⟨n, he, herr⟩

example : ∃ c' , bind Sap.init 0 (.name nameSnep) = .ok c' ∧ (c'.sock 0).addr = some 4 := ⟨_, rfl, rfl⟩

/-- errno table, exact: `bind` raises `llcp.Error(n)` exactly in the situations listed by
`BindErr` (EAGAIN: 32..63 all in use; EFAULT: address outside 0..63 or malformed name;
EACCES: address below 32 for a non-raw socket; EADDRINUSE: address in use, name in
use, well-known address in use; EADDRNOTAVAIL (F22): 16..31 all in use). -/
theorem errno_exact (c : Llc) (id : Nat) (arg : BindArg) (n : Nat) (hu : (c.sock id).addr = none) :
    bind c id arg = .error (.llcp n) ↔ BindErr (abs c) (c.sock id).kind arg n := by
  constructor
  · intro h
    rcases bind_refines_spec c id arg hu with ⟨c', a, h1, _⟩ | ⟨m, h1, h2⟩
    · rw [h1] at h; cases h
    · rw [h1] at h; cases h; exact h2
  · -- each refusal condition makes `bind` take the branch that raises that errno
    intro h
    have full : ∀ lo hi cnt, hi + 1 = lo + cnt → (∀ a, lo ≤ a → a ≤ hi → ¬ (abs c).free a) → freeIn c lo cnt = none :=
      fun lo hi cnt he hx => freeIn_none.mpr fun a h1 h2 => mt free_abs.mpr (hx a h1 (by omega))
    unfold Sap.bind
    rw [hu]
    cases h with
    | eagain hx => simp [full 32 63 32 rfl hx]
    | efaultAddr a h0 => simp [h0]
    | eacces a h0 h1 hk => simp [show ¬(a < 0 ∨ a > 63) by omega, show ¬32 ≤ a by omega, hk]
    | inuseAddr a h0 h1 hc hf => simp [show ¬(a < 0 ∨ a > 63) by omega, hc, mt free_abs.mpr hf]
    | efaultName nm hv => simp [hv]
    | inuseName nm a hv hl => simp [hv, show c.snl.lookup nm = some a from hl]
    | inuseWks nm a hv hl hw hf => simp [hv, show c.snl.lookup nm = none from hl, hw, mt free_abs.mpr hf]
    | exhausted nm hv hl hw hx => simp [hv, show c.snl.lookup nm = none from hl, hw, full 16 31 16 rfl hx]

example : BindErr (abs Sap.init) .dlc (.addr 1) EACCES := .eacces 1 (by decide) (by decide) (by decide)

/-- a socket is bound to at most one service access point: a second bind is refused -/
theorem bound_socket_refused (c : Llc) (id : Nat) (arg : BindArg) (h : (c.sock id).addr.isSome) :
    bind c id arg = .error (.llcp EINVAL) := by
  unfold Sap.bind; simp [h]

/-- the full errno statement of the property -/
def ErrnoStatement : Prop :=
  ∀ (ops : List Op) (x : Side) (id : Nat) (arg : BindArg) (e : Exc),
    (((run Pair.init ops).get x).sock id).addr = none →
    bind ((run Pair.init ops).get x) id arg = .error e →
    e = .llcp EADDRINUSE ∨ e = .llcp EACCES ∨ e = .llcp EFAULT ∨ e = .llcp EAGAIN

/-- errno table of the statement, proved for every state in which an address in
16..31 is still free (missing part: exhaustion of the named range, F22). -/
theorem errno_table_partial (c : Llc) (id : Nat) (arg : BindArg) (e : Exc) (hu : (c.sock id).addr = none)
    (hfree : ∃ a, 16 ≤ a ∧ a ≤ 31 ∧ c.sap a = none) (h : bind c id arg = .error e) :
    e = .llcp EADDRINUSE ∨ e = .llcp EACCES ∨ e = .llcp EFAULT ∨ e = .llcp EAGAIN := by
  rcases bind_refines_spec c id arg hu with ⟨c', a, h1, _⟩ | ⟨m, h1, h2⟩
  · rw [h1] at h; cases h
  · rw [h1] at h; cases h
    cases h2 with
    | exhausted nm _ _ _ hx =>
      obtain ⟨a, h16, h31, hs⟩ := hfree
      exact (hx a h16 h31 (free_abs.mpr hs)).elim
    | _ => simp

example : ∃ a, 16 ≤ a ∧ a ≤ 31 ∧ Sap.init.sap a = none := ⟨16, by decide, by decide, rfl⟩

def errOf {α : Type} : Py α → Option Exc
  | .error e => some e
  | .ok _ => none

/-- name `urn:nfc:sn:s<letter i>` -/
def nameS (i : Nat) : Bytes := pfxSn ++ [115, 65 + i]

/-- 17 sockets at controller A, the first 16 bound to 16 different service names -/
def exhaustOps : List Op :=
  (List.range 17).map (fun _ => Op.socket false .dlc) ++
  (List.range 16).map (fun i => Op.bind false i (.name (nameS i)))

theorem named_exhaustion_witness :
    errOf (bind (run Pair.init exhaustOps).a 16 (.name (nameS 16))) = some (.llcp EADDRNOTAVAIL) ∧
    (((run Pair.init exhaustOps).a).sock 16).addr = none := by
  decide +kernel

/-- F22: the errno statement is false on the current code - the 17th service name gets
`EADDRNOTAVAIL` (pinned by `tests/test_llcp_llc.py::test_bind_by_name`). -/
theorem named_exhaustion_counterexample : ¬ ErrnoStatement := by
  intro h
  obtain ⟨hw1, hw2⟩ := named_exhaustion_witness
  have h' : ∀ e, bind (run Pair.init exhaustOps).a 16 (.name (nameS 16)) = .error e →
      e = .llcp EADDRINUSE ∨ e = .llcp EACCES ∨ e = .llcp EFAULT ∨ e = .llcp EAGAIN :=
    fun e => h exhaustOps false 16 (.name (nameS 16)) e hw2
  generalize bind (run Pair.init exhaustOps).a 16 (.name (nameS 16)) = b at hw1 h'
  cases b with
  | ok c' => cases hw1
  | error e =>
    cases Option.some.inj hw1
    have := h' _ rfl
    simp [EADDRNOTAVAIL, EADDRINUSE, EACCES, EFAULT, EAGAIN] at this

/-- well-known service names get their fixed address -/
theorem wks_fixed (c c' : Llc) (id : Nat) (nm : Bytes) (a : Nat) (hw : wks nm = some a)
    (h : bind c id (.name nm) = .ok c') : (c'.sock id).addr = some a ∧ c.sap a = none := by
  obtain ⟨_, b, hok, rfl⟩ := bind_ok h
  cases hok with
  | wks _ _ _ _ hw2 hf => rw [hw] at hw2; cases hw2; exact ⟨bindTo_addr .., free_abs.mp hf⟩
  | named _ _ _ _ hw2 => rw [hw] at hw2; cases hw2

example : wks nameSnep = some 4 := by decide

/-- other service names get a free address in 16..31 -/
theorem named_range_16_31 (c c' : Llc) (id : Nat) (nm : Bytes) (hw : wks nm = none)
    (h : bind c id (.name nm) = .ok c') :
    ∃ a, (c'.sock id).addr = some a ∧ 16 ≤ a ∧ a ≤ 31 ∧ c.sap a = none ∧ c.snl.lookup nm = none := by
  obtain ⟨_, b, hok, rfl⟩ := bind_ok h
  cases hok with
  | wks _ _ _ _ hw2 => rw [hw] at hw2; cases hw2
  | named _ _ _ hl _ h16 h31 hf => exact ⟨b, bindTo_addr .., h16, h31, free_abs.mp hf, hl⟩

example : errOf (bind Sap.init 0 (.name (nameS 0))) = none ∧ wks (nameS 0) = none := by decide +kernel

/-- anonymous binds get a free address in 32..63 -/
theorem anon_range_32_63 (c c' : Llc) (id : Nat) (h : bind c id .none = .ok c') :
    ∃ a, (c'.sock id).addr = some a ∧ 32 ≤ a ∧ a ≤ 63 ∧ c.sap a = none := by
  obtain ⟨_, b, hok, rfl⟩ := bind_ok h
  cases hok with
  | anon _ h32 h63 hf => exact ⟨b, bindTo_addr .., h32, h63, free_abs.mp hf⟩

/-- The table invariant holds after every history of operations on the two
controllers (socket ids < number of sockets is checked by `apply`). -/
theorem reachable_invariant (ops : List Op) : PInv (run Pair.init ops) := reach_inv ops

/-- no address is handed out twice, a socket is in at most one SAP and at most once;
every socket of a SAP carries the address of that SAP -/
theorem addr_unique (ops : List Op) (x : Side) (a b id : Nat) (e e' : SapEntry)
    (h1 : ((run Pair.init ops).get x).sap a = some e) (h2 : ((run Pair.init ops).get x).sap b = some e')
    (m1 : id ∈ e.socks) (m2 : id ∈ e'.socks) :
    a = b ∧ e.socks.Nodup ∧ (((run Pair.init ops).get x).sock id).addr = some a :=
  let ⟨hab, hn, hq, _⟩ := ((reach_inv ops).get x).unique h1 h2 m1 m2; ⟨hab, hn, hq⟩

/-- moving PDUs over the link (any number of collect/dispatch rounds) never changes
either address table -/
theorem link_keeps_table (k : Nat) (p p' : Pair) (h : pump k p = .ok p') :
    abs p'.a = abs p.a ∧ abs p'.b = abs p.b := by
  have hs := pump_same k h
  exact ⟨(hs false).abs, (hs true).abs⟩

/-- closing the last socket of an address frees the address and forgets its service
names (repaired F8); nothing else in the table changes -/
theorem close_frees (c : Llc) (id a : Nat) (e : SapEntry) (s' : Sock) (h : e.socks = [id]) :
    (removeSocket c id a e s').sap a = none ∧
    (∀ nm, (removeSocket c id a e s').snl.lookup nm ≠ some a) ∧
    (∀ b, b ≠ a → (removeSocket c id a e s').sap b = c.sap b) ∧
    (∀ nm b, b ≠ a → c.snl.lookup nm = some b → (removeSocket c id a e s').snl.lookup nm = some b) := by
  have hr : e.socks.erase id = [] := by rw [h]; simp
  simp only [removeSocket, hr, ↓reduceIte]
  refine ⟨by simp [upd], fun nm hl => ?_, fun b hb => by simp [upd, hb, setSock], fun nm b hb hl => ?_⟩
  · have := lookup_mem hl
    simp at this
  · exact lookup_filter hl (by simp; exact hb)

/-- while other sockets remain the address and its names stay -/
theorem close_keeps_shared (c : Llc) (id a : Nat) (e : SapEntry) (s' : Sock) (h : e.socks.erase id ≠ []) :
    (removeSocket c id a e s').sap a = some { e with socks := e.socks.erase id } ∧
    (removeSocket c id a e s').snl = c.snl := by
  simp only [removeSocket, h, ↓reduceIte]
  exact ⟨by simp [upd], rfl⟩

/-- bind a name, close, bind the name again: works and reuses the address -/
def rebindOps : List Op :=
  [.socket false .dlc, .bind false 0 (.name (nameS 0)), .close false 0, .socket false .ldl,
   .bind false 1 (.name (nameS 0))]

set_option maxRecDepth 100000 in
example : (((run Pair.init rebindOps).a).sock 1).addr = some 16 ∧
    ((run Pair.init rebindOps).a).snl.lookup (nameS 0) = some 16 := by decide +kernel

/-- a registered service name always designates a live SAP whose sockets are bound
there (in every reachable state): no stale names -/
theorem names_live (ops : List Op) (x : Side) (nm : Bytes) (a : Nat)
    (h : ((run Pair.init ops).get x).snl.lookup nm = some a) :
    (nm = nameSdp ∧ a = 1) ∨
    (2 ≤ a ∧ ∃ e, ((run Pair.init ops).get x).sap a = some e ∧ e.socks ≠ [] ∧
       ∀ j ∈ e.socks, (((run Pair.init ops).get x).sock j).addr = some a) :=
  name_live ((reach_inv ops).get x) h

/-- name resolution: the responder answers SDREQ(tid, name) with the address
registered under the name or 0 (absence) and changes nothing else; the requester
stores exactly the answered address for the requested name -/
theorem resolve_exact (b : Llc) (a : Llc) (tid : Nat) (nm : Bytes) (ha : a.sd.sent.lookup tid = some nm)
    (hv : (b.snl.lookup nm).getD 0 < 64) :
    ∃ b' a', dispatch b (.snl [(tid, nm)] []) = .ok b' ∧
      b'.sd.sdres = b.sd.sdres ++ [(tid, (b.snl.lookup nm).getD 0)] ∧ abs b' = abs b ∧
      dispatch a (.snl [] [(tid, (b.snl.lookup nm).getD 0)]) = .ok a' ∧
      a'.sd.cache.lookup nm = some ((b.snl.lookup nm).getD 0) := by
  -- by definition `dispatch c (.snl rq rs) = pure { c with sd := sdRequests c.snl (sdResponses c.sd rs) rq }`
  refine ⟨{ b with sd := sdRequests b.snl (sdResponses b.sd []) [(tid, nm)] },
    { a with sd := sdRequests a.snl (sdResponses a.sd [(tid, (b.snl.lookup nm).getD 0)]) [] }, rfl, ?_, rfl, rfl, ?_⟩
  · -- responder: the one request is answered behind what was queued
    show (sdRequests b.snl b.sd [(tid, nm)]).sdres = _
    rw [sdRequests_eq]; rfl
  · -- requester: the one answer belongs to `nm` (by `ha`), so it is the last such answer
    show (sdRequests a.snl (sdResponses a.sd [(tid, (b.snl.lookup nm).getD 0)]) []).cache.lookup nm = _
    rw [sdRequests_eq]
    show (sdResponses a.sd [(tid, (b.snl.lookup nm).getD 0)]).cache.lookup nm = _
    have hfor : answersFor a.sd.sent nm [(tid, (b.snl.lookup nm).getD 0)] = [(tid, (b.snl.lookup nm).getD 0)] := by
      simp only [answersFor, List.filter, ha, beq_self_eq_true]
    rw [sdResponses_cache nm, hfor]
    exact congrArg some (decodeSap_lt hv)

/-- connect-by-name reaches only a listening socket bound at the address registered
under that name -/
theorem connect_by_name_exact (ops : List Op) (x : Side) (ss : Nat) (nm : Bytes) (c' : Llc)
    (h : dispatch ((run Pair.init ops).get x) (.conn 1 ss (some nm)) = .ok c') (j : Nat)
    (hj : c'.sock j ≠ ((run Pair.init ops).get x).sock j) :
    ∃ a, ((run Pair.init ops).get x).snl.lookup nm = some a ∧
      (((run Pair.init ops).get x).sock j).addr = some a ∧ (((run Pair.init ops).get x).sock j).st = .listen :=
  by_name_exact ((reach_inv ops).get x) h hj

/-- ... and reports absence (DM, reason 2) without touching any socket when the name is
not registered -/
theorem connect_by_name_absent (c : Llc) (ss : Nat) (nm : Bytes) (h : c.snl.lookup nm = none) :
    dispatch c (.conn 1 ss (some nm)) =
      .ok { c with sd := { c.sd with dmpdu := c.sd.dmpdu ++ [.dm ss 1 2] } } := by
  simp [dispatch, h]

/-- a connectionless datagram changes only a socket bound at its destination
address; a raw/logical-data-link socket receives exactly the PDU (payload, length
and source address unchanged) at the end of its queue -/
theorem datagram_delivery (ops : List Op) (x : Side) (d s : Nat) (m : Bytes) (c' : Llc)
    (h : dispatch ((run Pair.init ops).get x) (.ui d s m) = .ok c') (j : Nat)
    (hj : c'.sock j ≠ ((run Pair.init ops).get x).sock j) :
    (((run Pair.init ops).get x).sock j).addr = some d ∧
    ((((run Pair.init ops).get x).sock j).kind ≠ .dlc →
      c'.sock j = { ((run Pair.init ops).get x).sock j with
                    recvq := (((run Pair.init ops).get x).sock j).recvq ++ [.ui d s m] }) :=
  ui_delivery ((reach_inv ops).get x) h hj

/-- end to end on a concrete history: A sends a datagram from 32 to B's socket at 40,
a neighbour socket at 41 stays empty -/
def dgramOps : List Op :=
  [.socket false .ldl, .socket true .ldl, .socket true .ldl, .bind false 0 .none, .bind true 0 (.addr 40),
   .bind true 1 (.addr 41), .sendto false 0 [1, 2, 3] 40, .xfer false]

set_option maxRecDepth 100000 in
example : (((run Pair.init dgramOps).b).sock 0).recvq = [.ui 40 32 [1, 2, 3]] ∧
    (((run Pair.init dgramOps).b).sock 1).recvq = [] := by decide +kernel

/-! ## simulation: the controllers refine the abstract specification

`SpecSide` = (number of sockets, kinds, per-socket binding, address ⇀ sockets,
name ⇀ address), `absP` the abstraction of the two controllers, `Spec.step` the
transition function of the specification, `Spec.valid` what it says about outcomes.

Expressed at the abstract level, with exact outcome: `socket` (new id), `bind`
none/addr/name (address or errno), `close`; the implicit anonymous bind of
`listen`/`connect`/`sendto`/raw send (table effect exact; `EAGAIN` when 32..63 are
exhausted; `EOPNOTSUPP`/`TypeError` for the wrong socket kind); `accept` (the new
socket gets the next id and the address the listener is bound to, and joins that
address).  NOT expressible on this abstract state, so `Spec.valid` says nothing
about them: whether `accept` finds a pending request, the other outcomes of
`listen/connect/sendto`, and the results of `recvfrom`, `resolve` and of a link
transfer - they depend on connection state machines, queue contents and on what
else is waiting on the link (which PDU `collect` picks, whether an answer arrives
before the wait ends).  For those the specification only says "the tables do not
change"; what they return is covered by `resolve_exact`,
`connect_by_name_exact/absent`, `datagram_end_to_end` and `recvfrom_returns`. -/

/-- one operation: `abs (step c op) = Spec.step (abs c) op` (the outcome is the label
of the transition) and the outcome is one the specification allows -/
theorem simulation_step (p : Pair) (op : Op) (p' : Pair) (out : Py Out) (h : apply p op = .ok (p', out)) :
    absP p' = Spec.step (absP p) op out ∧ Spec.valid ((absP p).get op.side) op out :=
  Sap.simulation_step h

/-- whole histories: the abstraction of the reached state is the specification run
over the observed trace, and the specification accepts the trace -/
theorem simulation (ops : List Op) :
    absP (run Pair.init ops) = Spec.run Spec.init (trace Pair.init ops) ∧
    Spec.accepts Spec.init (trace Pair.init ops) :=
  Sap.simulation ops Pair.init

set_option maxRecDepth 100000 in
example : (trace Pair.init rebindOps).length = 5 := by decide +kernel

/-- the specification keeps the table invariant by itself (for every operation and
every outcome label) -/
theorem spec_keeps_invariant (s : SpecSide) (hi : SpecInv s) (op : Op) (out : Py Out)
    (hw : ∀ id, op.sock? = some id → id < s.n) : SpecInv (Spec.sideStep s op out) :=
  specInv_sideStep hi op out hw

/-- ... hence the abstraction of every reachable state satisfies it (via `simulation`) -/
theorem spec_reachable_invariant (ops : List Op) (x : Side) :
    SpecInv ((absP (run Pair.init ops)).get x) := specInv_reach ops x

/-- re-derived: no address handed out twice, a socket in at most one address set and once,
bound exactly where it is listed -/
theorem spec_addr_unique (ops : List Op) (x : Side) (a b id : Nat) (l l' : List Nat)
    (h1 : ((absP (run Pair.init ops)).get x).owner a = some l)
    (h2 : ((absP (run Pair.init ops)).get x).owner b = some l') (m1 : id ∈ l) (m2 : id ∈ l') :
    a = b ∧ l.Nodup ∧ ((absP (run Pair.init ops)).get x).bound id = some a ∧
      id < ((absP (run Pair.init ops)).get x).n :=
  (specInv_reach ops x).unique h1 h2 m1 m2

/-- re-derived: registered names designate live addresses, name ⇀ address is injective -/
theorem spec_names_live (ops : List Op) (x : Side) (nm : Bytes) (a : Nat)
    (h : ((absP (run Pair.init ops)).get x).names.lookup nm = some a) :
    ((nm = nameSdp ∧ a = 1) ∨ (2 ≤ a ∧ ∃ l, ((absP (run Pair.init ops)).get x).owner a = some l ∧ l ≠ [] ∧
        ∀ j ∈ l, ((absP (run Pair.init ops)).get x).bound j = some a)) ∧
    (((absP (run Pair.init ops)).get x).names.map Prod.snd).Nodup :=
  ⟨(specInv_reach ops x).name_live h, (specInv_reach ops x).nameVals⟩

/-- the allocation function of the specification obeys the declarative rule of the
statement (address classes, freeness, errno table) -/
theorem spec_bind_rule (s : SpecSide) (id : Nat) (arg : BindArg) (hu : s.bound id = none) :
    (∃ s' a, s.bind id arg = .ok s' ∧ BindOk s.tbl (s.kind id) arg a ∧ s'.bound id = some a ∧
        s'.tbl = s.tbl.bound id a arg) ∨
    (∃ n, s.bind id arg = .error n ∧ BindErr s.tbl (s.kind id) arg n) :=
  Sap.spec_bind_rule s id arg hu

/-- re-derived at the API: what `bind` + `getsockname` return on an unbound socket is an
address allowed by the rule, or the errno the rule prescribes -/
theorem api_bind_rule (p p' : Pair) (x : Side) (id : Nat) (arg : BindArg) (out : Py Out)
    (h : apply p (.bind x id arg) = .ok (p', out)) (hu : ((absP p).get x).bound id = none) :
    (∃ a, out = .ok (.addr (some a)) ∧
        BindOk ((absP p).get x).tbl (((absP p).get x).kind id) arg a) ∨
    (∃ n, out = .error (.llcp n) ∧ BindErr ((absP p).get x).tbl (((absP p).get x).kind id) arg n) := by
  have hv := (Sap.simulation_step h).2
  simp only [Spec.valid, Op.side] at hv
  rcases Sap.spec_bind_rule _ id arg hu with ⟨s', a, h1, h2, h3, _⟩ | ⟨n, h1, h2⟩
  · rw [h1] at hv; simp only at hv; rw [h3] at hv; exact .inl ⟨a, hv, h2⟩
  · rw [h1] at hv; exact .inr ⟨n, hv, h2⟩

/-- re-derived: closing the last socket frees the address and its names -/
theorem spec_close_frees (s : SpecSide) (id a : Nat) (hb : s.bound id = some a) (ho : s.owner a = some [id]) :
    (s.close id).owner a = none ∧ (∀ nm, (s.close id).names.lookup nm ≠ some a) ∧
    (∀ b, b ≠ a → (s.close id).owner b = s.owner b) :=
  let h := spec_close_last s id a hb ho; ⟨h.1, h.2.1, h.2.2.1⟩

theorem api_close_frees (p p' : Pair) (x : Side) (id a : Nat) (out : Py Out)
    (h : apply p (.close x id) = .ok (p', out))
    (hb : ((absP p).get x).bound id = some a) (ho : ((absP p).get x).owner a = some [id]) :
    out = .ok .unit ∧ ((absP p').get x).owner a = none ∧
    (∀ nm, ((absP p').get x).names.lookup nm ≠ some a) := by
  obtain ⟨h1, h2⟩ := Sap.simulation_step h
  have hc := spec_close_last _ id a hb ho
  rw [h1]; simp only [Spec.step, Op.side, Spec.sideStep]
  cases x <;> simp only [SpecState.set, SpecState.get] at hc ⊢ <;> exact ⟨h2, hc.1, hc.2.1⟩

/-- in every reachable state a UI PDU waiting in the send queue of a logical-data-link
socket carries the address that socket is bound to (`sendto` puts it there, nothing
changes it afterwards) -/
theorem queued_datagram_source (ops : List Op) (x : Side) (j d s : Nat) (m : Bytes)
    (hk : (((run Pair.init ops).get x).sock j).kind = .ldl)
    (hm : Pdu.ui d s m ∈ (((run Pair.init ops).get x).sock j).sendq) :
    (((run Pair.init ops).get x).sock j).addr = some s :=
  reach_src ops x j hk d s m hm

/-- link transfer of a UI PDU, end to end (see `Lemmas/SapEnd.lean`) -/
theorem datagram_end_to_end (ops : List Op) (x : Side) (p' : Pair) (d s : Nat) (m : Bytes)
    (h : xfer (run Pair.init ops) x = .ok (p', true))
    (hw : p'.wire.head? = some (x, .ui d s m)) :
    ((∃ j rest, (((run Pair.init ops).get x).sock j).sendq = .ui d s m :: rest ∧
        ((((run Pair.init ops).get x).sock j).kind = .ldl →
          (((run Pair.init ops).get x).sock j).addr = some s)) ∨
      (p'.get x).sock = ((run Pair.init ops).get x).sock) ∧
    (∀ k, (p'.get (!x)).sock k ≠ ((run Pair.init ops).get (!x)).sock k →
      (((run Pair.init ops).get (!x)).sock k).addr = some d ∧
      ((((run Pair.init ops).get (!x)).sock k).kind ≠ .dlc →
        (p'.get (!x)).sock k = { ((run Pair.init ops).get (!x)).sock k with
          recvq := (((run Pair.init ops).get (!x)).sock k).recvq ++ [.ui d s m] })) :=
  Sap.datagram_end_to_end ops x p' d s m h hw

/-- `recvfrom` returns payload and source of the PDU at the head of the queue -/
theorem recvfrom_returns (p : Pair) (x : Side) (id a d s : Nat) (m : Bytes) (rest : List Pdu) (e : SapEntry)
    (hk : ((p.get x).sock id).kind = .ldl) (ha : ((p.get x).sock id).addr = some a) (ha0 : a ≠ 0)
    (hs : (p.get x).sap a = some e) (hst : ((p.get x).sock id).st ≠ .shutdown)
    (hq : ((p.get x).sock id).recvq = .ui d s m :: rest) :
    ∃ p', apiRecvfrom p x id = .ok (p', .ok (.data (some m) (some s))) :=
  Sap.recvfrom_returns p x id a d s m rest e hk ha ha0 hs hst hq

/-- concrete run: sendto at A, one link transfer, recvfrom at B returns payload and A's address -/
def dgramOps2 : List Op := dgramOps ++ [.recvfrom true 0]

set_option maxRecDepth 100000 in
example : (trace Pair.init dgramOps2).getLast?.map (fun q => errOf q.2) = some none ∧
    (((run Pair.init dgramOps2).b).sock 0).recvq = [] := by decide +kernel

/-- client side of a completed connect (by address or by name): the peer recorded in the
socket is the source address of the CC, i.e. the address of the accepting socket - not the
address the CONNECT was sent to (SAP 1 for connect-by-name) -/
theorem connect_peer_is_cc_source (p : Pair) (x : Side) (id d ss : Nat) :
    (connectFinish p x id (some (.cc d ss))).2 = .ok .unit ∧
    (((connectFinish p x id (some (.cc d ss))).1.get x).sock id).peer = some ss ∧
    (((connectFinish p x id (some (.cc d ss))).1.get x).sock id).st = .established := by
  simp [connectFinish, get_set, setSock, upd]

/-! ## service discovery with several requests per SNL PDU

`sdAnswer snl (tid, name) = (tid, address registered under name, or 0)` is a function of the ONE
request and the service name table; everything below is for arbitrary lists: any mix of bound,
unbound and well-known names in any order, repeated names, repeated transaction identifiers. -/

/-- responder: an SNL PDU with ANY list of requests (and any answers riding along) is answered
pointwise - the answers queued are the image of the request list under `sdAnswer`, in the same
order, behind what was queued before; the address tables and all sockets are untouched -/
theorem resolve_answers_pointwise (b : Llc) (rq : List (Nat × Bytes)) (rs : List (Nat × Nat)) :
    ∃ b', dispatch b (.snl rq rs) = .ok b' ∧
      b'.sd.sdres = b.sd.sdres ++ rq.map (sdAnswer b.snl) ∧ abs b' = abs b ∧ b'.sock = b.sock := by
  refine ⟨_, rfl, ?_, rfl, rfl⟩
  -- the answers riding along leave the queue of answers alone
  obtain ⟨hres, _⟩ := sdResponses_rest rs b.sd
  simp only [sdRequests_eq, hres]

/-- ... in particular the answer to a request does not depend on what precedes or follows it in the PDU:
whatever `pre`, `post` and `rs` are, the answer at the position of `(tid, nm)` is `(tid, address of nm or 0)` -/
theorem resolve_answer_independent (b : Llc) (pre post : List (Nat × Bytes)) (tid : Nat) (nm : Bytes)
    (rs : List (Nat × Nat)) :
    ∃ b', dispatch b (.snl (pre ++ (tid, nm) :: post) rs) = .ok b' ∧
      b'.sd.sdres[b.sd.sdres.length + pre.length]? = some (tid, (b.snl.lookup nm).getD 0) := by
  obtain ⟨b', h1, h2, _⟩ := resolve_answers_pointwise b (pre ++ (tid, nm) :: post) rs
  refine ⟨b', h1, ?_⟩
  rw [h2, List.getElem?_append_right (by omega)]
  simp [sdAnswer]

/-- the seeded defect C17-r2m3 as an instance: a bound name followed by an unbound one -/
example : ∃ b', dispatch ((run Pair.init [.socket false .dlc, .bind false 0 (.name (nameS 0))]).a)
      (.snl [(0, nameS 0), (1, nameS 1), (2, nameSdp), (3, nameSnep)] []) = .ok b' ∧
    b'.sd.sdres = [(0, 16), (1, 0), (2, 1), (3, 0)] := ⟨_, rfl, by decide +kernel⟩

/-- requester: after an SNL PDU with ANY list of answers the cache entry of a name is the decoded
value of the LAST answer whose transaction identifier was used for that name (a name no answer belongs to
keeps its entry); identifiers return to the pool exactly for the answers that belong to a request -/
theorem answers_cached_pointwise (a : Llc) (rq : List (Nat × Bytes)) (rs : List (Nat × Nat)) (nm : Bytes) :
    ∃ a', dispatch a (.snl rq rs) = .ok a' ∧
      a'.sd.cache.lookup nm =
        (match (answersFor a.sd.sent nm rs).getLast? with
         | some r => some (decodeSap r.2)
         | none => a.sd.cache.lookup nm) ∧
      a'.sd.tids = a.sd.tids ++ (rs.filter fun r => (a.sd.sent.lookup r.1).isSome).map (·.1) := by
  refine ⟨_, rfl, ?_, ?_⟩
  · simp only [sdRequests_eq]; exact sdResponses_cache nm rs a.sd
  · simp only [sdRequests_eq]; exact sdResponses_tids rs a.sd

/-- requester, answers to a whole list of requests: when `sent` holds the names asked (distinct
identifiers), every asked name ends up with exactly the responder's address for THAT name -/
theorem answers_cached_exact (sd : Sd) (rq : List (Nat × Bytes)) (snl : List (Bytes × Nat))
    (hnd : (rq.map (·.1)).Nodup) (hv : ∀ nm a, snl.lookup nm = some a → a < 64) (nm : Bytes)
    (hm : nm ∈ rq.map (·.2)) :
    (sdResponses { sd with sent := sentAll sd.sent rq } (rq.map (sdAnswer snl))).cache.lookup nm =
      some ((snl.lookup nm).getD 0) :=
  answers_cached _ rq snl (sentAll_lookup rq _ hnd) hv nm hm

example : (sdResponses { ({} : Sd) with sent := sentAll [] [(7, nameS 0), (9, nameS 1)] }
    ([(7, nameS 0), (9, nameS 1)].map (sdAnswer [(nameS 0, 16)]))).cache = [(nameS 0, 16), (nameS 1, 0)] := by
  decide +kernel

/-- packing (`ServiceDiscovery.dequeue`, link MIU 128): answers leave in the order queued, 32 per PDU,
the rest stays; the requests put into the PDU together with the requests that stay queued are a
permutation of the queued requests (none lost, none invented), `sent` records exactly those put
into the PDU; cache and identifier pool are untouched -/
theorem snl_packing_exact (sd : Sd) (h : sd.sdres ≠ [] ∨ sd.sdreq ≠ []) :
    ∃ rq sd', sdDequeue sd = some (.snl rq (sd.sdres.take 32), sd') ∧ sd'.sdres = sd.sdres.drop 32 ∧
      (rq ++ sd'.sdreq).Perm sd.sdreq ∧ sd'.sent = sentAll sd.sent rq ∧
      sd'.cache = sd.cache ∧ sd'.tids = sd.tids ∧ sd'.dmpdu = sd.dmpdu := by
  exact ⟨_, _, sdDequeue_eq sd h, rfl, pack_perm _ _, rfl, rfl, rfl, rfl⟩

/-- requests that fit the MIU together leave in ONE PDU in the order the calls queued them -/
theorem snl_requests_one_pdu (sd : Sd) (hres : sd.sdres = []) (hne : sd.sdreq ≠ [])
    (hfit : (sd.sdreq.map reqSize).sum ≤ 128) :
    sdDequeue sd = some (.snl sd.sdreq [], { sd with sdreq := [], sent := sentAll sd.sent sd.sdreq }) :=
  sdDequeue_all sd hres hne hfit

example : ∃ rq sd', sdDequeue { ({} : Sd) with sdres := (List.range 40).map fun i => (i, 0) } = some (.snl rq ((List.range 32).map fun i => (i, 0)), sd') ∧
    sd'.sdres = (List.range' 32 8).map fun i => (i, 0) := ⟨_, _, rfl, by decide +kernel⟩

/-- several `resolve()` calls waiting at once: one request per name that is not cached, in the order of
the calls, each with its own transaction identifier from the front of the pool -/
theorem concurrent_requests_queued (sd : Sd) (nms : List Bytes) :
    sdAskAll sd nms =
      if (uncached sd.cache nms).length ≤ sd.tids.length then
        some { sd with tids := sd.tids.drop (uncached sd.cache nms).length,
                       sdreq := sd.sdreq ++ (sd.tids.take (uncached sd.cache nms).length).zip (uncached sd.cache nms) }
      else none :=
  sdAskAll_eq nms sd

/-- one waiting call is the `resolve` operation -/
theorem resolve_many_single (p : Pair) (x : Side) (nm : Bytes)
    (h : ((p.get x).sd.cache.lookup nm).isSome ∨ (p.get x).sd.tids ≠ []) :
    apiResolveMany p x [nm] =
      (apiResolve p x nm).map fun r => (r.1, r.2.map fun o => match o with | .num a => .nums [a] | o => o) := by
  unfold apiResolveMany apiResolve
  simp only [sdAskAll, sdAsk]
  cases hc : (p.get x).sd.cache.lookup nm with
  | some a => simp [lookupAll, lookupOne, hc, done, Except.map]
  | none =>
    cases ht : (p.get x).sd.tids with
    | nil => simp [hc, ht] at h
    | cons tid rest =>
      simp only [Option.bind_some, List.length_append, List.length_cons, List.length_nil]
      rw [if_neg (by omega)]
      cases hp : pump pumpRounds (p.set x { p.get x with sd := { (p.get x).sd with tids := rest, sdreq := (p.get x).sd.sdreq ++ [(tid, nm)] } }) with
      | error e => simp [Except.map]
      | ok p1 =>
        simp only [lookupAll, lookupOne, hc]
        cases hl : List.lookup nm (p1.get x).sd.cache with
        | none => simp [hl, Except.map, throw, throwThe, MonadExceptOf.throw]
        | some a => simp [hl, done, Except.map]

/-- END TO END, for every reachable state of the two controllers in which the link is quiet (nothing
but service discovery has something to send, no lookup in progress): `k` calls `resolve(name_i)`
waiting at the same time return, each for ITS name, the cached address or the address registered
under that name at the other controller right now, 0 when it is not registered - for every list of
names (bound, unbound, well-known, repeated, in any order); no table changes.
PARTIAL: the requests must fit one SNL PDU (≤ 32 names, ≤ 128 bytes of TLVs) and the identifiers in
the pool must be distinct (a raw access point at the peer can break that with forged answers);
longer lists and busy links are covered by the correspondence runs only; a single name whose request
does not fit the MIU is never resolved at all (`resolve_overlong_counterexample`, open finding). -/
theorem resolve_many_end_to_end_partial (ops : List Op) (x : Side) (nms : List Bytes)
    (hqA : Quiet ((run Pair.init ops).get x)) (hqB : Quiet ((run Pair.init ops).get (!x)))
    (hiA : SdIdle ((run Pair.init ops).get x).sd) (hiB : SdIdle ((run Pair.init ops).get (!x)).sd)
    (hnd : ((run Pair.init ops).get x).sd.tids.Nodup)
    (hk : (uncached ((run Pair.init ops).get x).sd.cache nms).length ≤ ((run Pair.init ops).get x).sd.tids.length)
    (h32 : (uncached ((run Pair.init ops).get x).sd.cache nms).length ≤ 32)
    (hfit : ((uncached ((run Pair.init ops).get x).sd.cache nms).map fun nm => 3 + nm.length).sum ≤ 128) :
    ∃ p', apiResolveMany (run Pair.init ops) x nms =
        .ok (p', .ok (.nums (nms.map (resolved ((run Pair.init ops).get x).sd.cache
                                               ((run Pair.init ops).get (!x)).snl)))) ∧
      abs p'.a = abs (run Pair.init ops).a ∧ abs p'.b = abs (run Pair.init ops).b :=
  resolveMany_quiet (run Pair.init ops) x nms hqA hqB hiA hiB ((reach_inv ops).get (!x)) hnd hk h32 hfit

/-- a history that satisfies the hypotheses, and the concrete outcome: B binds one name, three
calls at A (bound, unbound, the discovery service itself) -/
def resolveOps : List Op := [.socket true .dlc, .bind true 0 (.name (nameS 0))]

set_option maxRecDepth 100000 in
example : (trace Pair.init (resolveOps ++ [.resolveMany false [nameS 0, nameS 1, nameSdp, nameS 0]])).getLast?.map
    (fun q => match q.2 with | .ok (.nums l) => l | _ => []) = some [16, 0, 1, 16] := by decide +kernel

set_option maxRecDepth 100000 in
/-- the hypotheses are satisfiable: the initial state is quiet and idle at both controllers -/
example : ∃ p', apiResolveMany (run Pair.init []) false [nameSdp, nameS 0, nameSdp] = .ok (p', .ok (.nums [1, 0, 1])) ∧
    abs p'.a = abs Pair.init.a ∧ abs p'.b = abs Pair.init.b :=
  resolve_many_end_to_end_partial [] false [nameSdp, nameS 0, nameSdp] quiet_init quiet_init sdIdle_init sdIdle_init
    List.nodup_range (by decide +kernel) (by decide +kernel) (by decide +kernel)

/-- name resolution returns: the statement ("reach exactly the socket bound under that name or report
absence") needs every `resolve` on an idle link to come back with an answer -/
def ResolveReturns : Prop :=
  ∀ (nm : Bytes), ∃ p' a, apiResolve Pair.init false nm = .ok (p', .ok (.num a))

/-- a request whose TLV exceeds the link MIU (name longer than 125 bytes at MIU 128) is rotated in the
queue for ever: `ServiceDiscovery.dequeue` leaves the state unchanged and sends an EMPTY SNL PDU, at
every call -/
theorem overlong_request_stuck (sd : Sd) (tid : Nat) (nm : Bytes) (h : 125 < nm.length)
    (hq : sd.sdreq = [(tid, nm)]) (hres : sd.sdres = []) : sdDequeue sd = some (.snl [] [], sd) :=
  Sap.overlong_request_stuck sd tid nm h hq hres

/-- `urn:nfc:sn:` + 115 × `x` (126 bytes, a well-formed service name that `bind` accepts) -/
def longName : Bytes := pfxSn ++ List.replicate 115 120

theorem resolve_overlong_witness : validName longName = true ∧
    (match apiResolve Pair.init false longName with | .error .outOfFuel => true | _ => false) = true := by
  decide +kernel

/-- the statement is false on the current code: `resolve` of a well-formed 126-byte service name does
not return while the link is up (the model's `outOfFuel` = the `while name not in self.snl: wait()` loop
of `ServiceDiscovery.resolve` with a request that is never sent) -/
theorem resolve_overlong_counterexample : ¬ ResolveReturns := by
  intro h
  obtain ⟨p', a, hp⟩ := h longName
  have hw := resolve_overlong_witness.2
  rw [hp] at hw
  cases hw

/-- a datagram from source `s` is taken only by a socket that is unconnected or connected to `s`
(so a connected socket never sees datagrams of third parties that arrive after `connect`); together with
`datagram_delivery` (PDU appended unchanged) and `recvfrom_returns` (payload and source of the PDU are
returned, whatever the socket is connected to) the source address reported by `recvfrom` is the one the
datagram was sent with, also for datagrams queued before the socket was (re)connected -/
theorem datagram_peer_filter (c c' : Llc) (d s : Nat) (m : Bytes) (h : dispatch c (.ui d s m) = .ok c') (j : Nat)
    (hj : c'.sock j ≠ c.sock j) : (c.sock j).peer = some s ∨ (c.sock j).peer = none := by
  obtain ⟨a, e, _, ⟨_, ht, _⟩ | ⟨_, _, h1, _⟩⟩ := dispatch_touch h hj
  · exact target_ui ht
  · cases h1

/-- a datagram from 41 is queued at A's socket (bound at 40), then the socket is connected to 42:
`recvfrom` still reports 41; a later datagram from 41 is not taken any more, one from 42 is -/
def connectedOps : List Op :=
  [.socket false .ldl, .bind false 0 (.addr 40), .socket true .ldl, .bind true 0 (.addr 41), .socket true .ldl,
   .bind true 1 (.addr 42), .sendto true 0 [170] 40, .xfer true, .connect false 0 (.addr 42), .recvfrom false 0]

def connectedOps2 : List Op :=
  connectedOps ++ [.sendto true 0 [187] 40, .sendto true 1 [204] 40, .xfer true, .xfer true]

set_option maxRecDepth 100000 in
example : (trace Pair.init connectedOps).getLast?.map
      (fun q => match q.2 with | .ok (.data d src) => (d, src) | _ => (none, none)) = some (some [170], some 41) ∧
    (((run Pair.init connectedOps).a).sock 0).peer = some 42 ∧
    (((run Pair.init connectedOps2).a).sock 0).recvq = [.ui 40 42 [204]] := by
  decide +kernel

end NfcVerif.C17
