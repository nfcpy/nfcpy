import NfcVerif.Lemmas.T3LinkC01
/-!
# C01, emulated Type 3 Tag - the library's reader against the library's emulation, end to end

`Model/T3LinkC01.lean` runs the reader code of `Type3Tag.NDEF` (`Model/T3.lean`: attribute block, `Nbr`/`Nbw`
batching, command plan) against `Type3TagEmulation.process_command` (`Model/T3Emu.lean`) frame by frame: command
encoding with 2- and 3-octet block list elements, the checks of `send_cmd_recv_rsp`, the retransmission loop.
The theorems say that on a well-formed block store this composition behaves exactly like the reader on a plain
memory (one command: `t3emu_write_is_plain_memory`, `t3emu_read_is_plain_memory`; a fresh reader:
`T3Link.see_eq` in `Lemmas/T3LinkC01.lean`; the assignment: `t3emu_link_roundtrip`), so the Type 3 theorems of
`Props/C01T34.lean` and `Props/C01Hist.lean` hold for the emulated tag.
-/
namespace NfcVerif.C01Emu
open NfcVerif NfcVerif.T34 NfcVerif.T3Emu

/-- **Write then read through `process_command` returns the message, for every block list element format.**
Emulated tag with IDm/PMm of 8 octets and system code 12FCh, a block store whose block 0 holds valid attributes `a`
(`T3.WF`: mapping version 1.x, `1 ≤ Nbr ≤ 80`, `1 ≤ Nbw` with a write command of `Nbw` blocks fitting the 255 octet frame,
`Nmaxb ≤ 65535` data blocks present - below 256 the block list elements have 2 octets, from 256 on 3 octets), any
message up to `16·Nmaxb` octets: `tag.ndef.octets = data` succeeds, sends exactly the planned commands (one
exchange each), leaves the store the plain-memory model predicts, and a fresh reader talking to the emulation
sees exactly `data`, readable and writeable. -/
theorem t3emu_link_roundtrip (e : Emu) (id : T3Link.Ident e) (a : T3.Attr) (wf : T3.WF e.store a) (data : Bytes)
    (hlen : data.length ≤ 16 * a.nmaxb) :
    ∃ t, T3Link.setOctets e data = .ok (some t) ∧ t.res = .ok () ∧ t.frames = (T3.planWrite a data).length ∧
      t.emu = { e with store := T3.finalMem e.store a data } ∧
      T3Link.see t.emu = .ok (some ⟨(a.nmaxb * 16 : Nat), true, true, data⟩) := by
  have hr := wf.range
  have hmem := wf.mem
  have hwr : T3Link.writeNdef e e.idm data
      = ⟨{ e with store := T3.finalMem e.store a data }, (T3.planWrite a data).length, .ok ()⟩ := by
    unfold T3Link.writeNdef
    simp only [T3Link.readAttr]
    rw [T3Link.rdBlocks_ok e id 0 1 (by omega) (by omega) (by omega)]
    simp only [Nat.mul_zero, Nat.zero_add, Nat.mul_one, sliceN_zero_take, wf.dec, Py.bind_ok]
    rw [if_neg (by have := wf.nbw; omega), T3Link.runWL_sim _ e id (T3.plan_valid e.store data a wf hlen),
      T3.applyW_planWrite e.store data a wf.nbw (by omega)]
  refine ⟨⟨{ e with store := T3.finalMem e.store a data }, (T3.planWrite a data).length, .ok ()⟩, ?_, rfl, rfl, rfl, ?_⟩
  · unfold T3Link.setOctets
    rw [T3Link.readNdef_spec e id a wf.dec wf.ver wf.nbr.1 wf.ln hr.nmaxb hmem]
    simp only [Py.bind_ok]
    have h1 := wf.rw; have h2 := wf.nbw
    rw [if_neg (by simp [h1]; omega), if_neg (by omega), hwr]
  · rw [T3Link.see_eq { e with store := T3.finalMem e.store a data } ⟨id.idm, id.pmm, id.sys⟩ _
      (T3.wf_final e.store data a wf hlen)]
    exact T3.see_final e.store data a wf hlen

/-- one write command of the reader (consecutive blocks `blk .. blk+n-1`, `16·n` data octets, frame within 255
octets, block numbers up to 65535) is executed by the emulation in one exchange and stores the data like a plain
memory does -/
theorem t3emu_write_is_plain_memory (e : Emu) (id : T3Link.Ident e) (c : T3.WCmd)
    (hs : 16 * (c.blk + c.n) ≤ e.store.length) (h65 : c.blk + c.n ≤ 65536) (hd : c.data.length = 16 * c.n)
    (hfit : 14 + T3.elemSum c.blk c.n + c.data.length ≤ 255) :
    T3Link.wrBlocks e e.idm c = (.ok (), { e with store := splice e.store (16 * c.blk) c.data }, 1) :=
  T3Link.wrBlocks_ok e id c hs h65 hd hfit

/-- one read command of the reader (up to 15 consecutive blocks) returns the octets of the store -/
theorem t3emu_read_is_plain_memory (e : Emu) (id : T3Link.Ident e) (first n : Nat) (hn : 1 ≤ n ∧ n ≤ 15)
    (hs : 16 * (first + n) ≤ e.store.length) (h65 : first + n ≤ 65536) :
    T3Link.rdBlocks e e.idm first n = .ok (sliceN e.store (16 * first) (16 * (first + n))) :=
  T3Link.rdBlocks_ok e id first n hn hs h65

/-! ## Non-vacuity: a store of 301 blocks (block numbers above 255 = 3-octet block list elements) -/
def exE : Emu := ⟨[1, 2, 3, 4, 5, 6, 7, 8], [0, 0xF0, 255, 255, 255, 255, 255, 255], [0x12, 0xFC],
  T3.encodeAttr ⟨0x10, 15, 12, 300, 0, 1, 0⟩ ++ List.replicate 4800 7⟩
def exA : T3.Attr := ⟨0x10, 15, 12, 300, 0, 1, 0⟩
theorem exId : T3Link.Ident exE := ⟨rfl, rfl, rfl⟩
theorem exWF : T3.WF exE.store exA :=
  ⟨by decide, ⟨by decide, by decide, by decide, by decide, by decide, by decide, by decide⟩, by decide, by decide, by decide,
   by simp [T3.WriteFits, exA], by decide,
   by show 16 * (300 + 1) ≤ (T3.encodeAttr _ ++ List.replicate 4800 7).length
      rw [List.length_append, List.length_replicate, T3.encodeAttr_length]; omega, by decide⟩
/-- 4790 octets reach block 300; the write needs 2 + ⌈300/12⌉ = 27 commands -/
example : ∃ t, T3Link.setOctets exE (List.replicate 4790 9) = .ok (some t) ∧ t.res = .ok () ∧
    T3Link.see t.emu = .ok (some ⟨4800, true, true, List.replicate 4790 9⟩) := by
  obtain ⟨t, h1, h2, _, _, h5⟩ := t3emu_link_roundtrip exE exId exA exWF (List.replicate 4790 9)
    (by rw [List.length_replicate]; show 4790 ≤ 16 * 300; omega)
  exact ⟨t, h1, h2, h5⟩
/-- a 12 block write reaching block 300: the frame has 14 + 36 + 192 = 242 octets -/
example : 14 + T3.elemSum 289 12 + 192 = 242 := by decide

end NfcVerif.C01Emu
