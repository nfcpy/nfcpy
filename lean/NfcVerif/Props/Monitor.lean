import NfcVerif.Lemmas.Monitor
import NfcVerif.Gen.Monitor
/-!
# Monitor discipline of the LLCP sockets - instance theorems (T-tie for C05 / C09)

`Gen/Monitor.lean` is regenerated from `/repo/src/nfc/llcp/tco.py` and `llc.py` on every run by
`harness/translate_mon.py`; the `*_discipline_ok` theorems are therefore re-checked (kernel
evaluation of the syntactic checker) against what the code says now.  `monitor_sound` is generic
(`Lemmas/Monitor.lean`).  The three exemption tables below are the only hand-written input; every
entry is justified in `docs/monitor.md`, and `tco_exemptions_used` shows that none is superfluous.
-/
namespace NfcVerif.MonitorProps
open NfcVerif.Monitor NfcVerif.Gen.Monitor

/-! ## exemption tables for `tco.py` (none are needed for `llc.py`) -/
section
open Tco

/-- wait sites that are not `while`-guarded (rule 1), with the reason:
* the three `poll` sites: timed single-shot wait, the test is evaluated again after the wait and an
  early return is the "not ready" answer the API allows;
* `TransmissionControlObject.send`: rendezvous with `dequeue`, no state predicate to re-check;
* `TransmissionControlObject.recv`: single shot, a wake-up that finds the queue empty raises
  `IndexError`, which every caller maps to EPIPE / `None` (that is how `close()` is reported). -/
def tcoWaitExempt : List (Meth × Cv × GKind) := [
  (m_TransmissionControlObject_poll, cv_recv_ready, .ifG),
  (m_TransmissionControlObject_poll, cv_send_ready, .ifG),
  (m_DataLinkConnection__poll, cv_acks_ready, .ifG),
  (m_TransmissionControlObject_send, cv_send_ready, .noG),
  (m_TransmissionControlObject_recv, cv_recv_ready, .exceptG)
]

/-- plain `notify()` sites accepted as `notify_all()` under the assumption that at most one thread
waits on that condition of that socket (one application thread per socket and direction) -/
def tcoNotifyExempt : List (Meth × Cv) := [
  (m_TransmissionControlObject_enqueue, cv_recv_ready),
  (m_DataLinkConnection_enqueue, cv_recv_ready),
  (m_DataLinkConnection_dequeue, cv_recv_ready),
  (m_TransmissionControlObject_dequeue, cv_send_ready),
  (m_DataLinkConnection_dequeue, cv_send_ready),
  (m_DataLinkConnection__enqueue_state_established, cv_send_token)
]

/-- writes that need not notify the condition although one of its guards reads the attribute -/
def tcoWriteExempt : List (Meth × Attr × Cv) := [
  -- monotone: the write moves the attribute away from what the waiters wait for
  (m_TransmissionControlObject_recv, a_recv_queue, cv_recv_ready),     -- popleft; waiters wait for non-empty
  (m_TransmissionControlObject_send, a_send_queue, cv_send_ready),     -- append; waiters wait for room
  (m_DataLinkConnection_accept, a_send_queue, cv_send_ready),          -- append
  (m_DataLinkConnection_connect, a_send_queue, cv_send_ready),         -- append
  (m_DataLinkConnection_enqueue, a_send_queue, cv_send_ready),         -- append (also outside the lock)
  (m_DataLinkConnection_send, a_send_cnt, cv_send_token),              -- V(S)+1 closes the window further
  (m_DataLinkConnection__poll, a_acks_recvd, cv_acks_ready),           -- decrement; waiters wait for > 0
  -- clear() of unread data before the DISC handshake (fix of C05): emptying the queue cannot make a guard of
  -- recv_ready true, its waiters wait for a NON-empty queue
  (m_DataLinkConnection_close, a_recv_queue, cv_recv_ready),
  -- clear() followed by append(): the queue stays non-empty and send_buf is constantly 1
  (m_DataLinkConnection_close, a_send_queue, cv_send_ready),
  (m_DataLinkConnection__enqueue_state_established, a_send_queue, cv_send_ready),
  -- popleft with a conditional notify: DLC.dequeue notifies itself for I PDUs (the only PDUs a sender waits for)
  (m_TransmissionControlObject_dequeue, a_send_queue, cv_send_ready),
  -- state transitions in which no sender can be waiting (DLC.send waits only while ESTABLISHED)
  (m_DataLinkConnection_listen, a_state, cv_send_token),
  (m_DataLinkConnection_connect, a_state, cv_send_token),
  (m_DataLinkConnection_connect, a_send_win, cv_send_token),
  -- deferred: ESTABLISHED -> CLOSE_WAIT queues a DM whose dequeue notifies send_token (tco.py dequeue)
  (m_DataLinkConnection__enqueue_state_established, a_state, cv_send_token)
]

def cfgDlc : Cfg := ⟨lock, reentrant, cvs, guardsDlc, tcoWriteExempt, tcoWaitExempt, tcoNotifyExempt⟩
def cfgRaw : Cfg := ⟨lock, reentrant, cvs, guardsRaw, tcoWriteExempt, tcoWaitExempt, tcoNotifyExempt⟩
def cfgLdl : Cfg := ⟨lock, reentrant, cvs, guardsLdl, tcoWriteExempt, tcoWaitExempt, tcoNotifyExempt⟩

end

def cfgLlc : Cfg := ⟨Llc.lock, Llc.reentrant, Llc.cvs, Llc.guardsAll, [], [], []⟩

/-! ## the discipline holds on the regenerated programs -/

/-- the side conditions about `tco.py` the translation relies on all hold -/
theorem tco_facts : Tco.facts.all (·.2) = true := by decide

/-- the side conditions about `llc.py` (and its relation to `tco.py`) all hold -/
theorem llc_facts : Llc.facts.all (·.2) = true := by decide

/-- the generated guard tables are exactly the guards of the reachable wait sites -/
theorem guard_tables :
    Tco.guardsDlc = guardsFor Tco.program Tco.reachDlc ∧ Tco.guardsRaw = guardsFor Tco.program Tco.reachRaw
    ∧ Tco.guardsLdl = guardsFor Tco.program Tco.reachLdl ∧ Llc.guardsAll = guardsFor Llc.program Llc.reachAll := by
  decide +kernel

/-- the generated reach lists are what the calls reach from the entry points -/
theorem reach_tables :
    sameSet Tco.reachDlc (reachFrom Tco.program 400 Tco.entriesDlc []) = true
    ∧ sameSet Tco.reachRaw (reachFrom Tco.program 400 Tco.entriesRaw []) = true
    ∧ sameSet Tco.reachLdl (reachFrom Tco.program 400 Tco.entriesLdl []) = true
    ∧ sameSet Llc.reachAll (reachFrom Llc.program 400 Llc.entriesAll []) = true := by
  decide +kernel

/-- **`DataLinkConnection` obeys the discipline** (with the exemption tables above) -/
theorem dlc_discipline_ok : disciplineOk cfgDlc Tco.program Tco.entriesDlc = true := by decide +kernel

theorem raw_discipline_ok : disciplineOk cfgRaw Tco.program Tco.entriesRaw = true := by decide +kernel

theorem ldl_discipline_ok : disciplineOk cfgLdl Tco.program Tco.entriesLdl = true := by decide +kernel

/-- all three socket classes of `tco.py` -/
theorem tco_discipline_ok :
    disciplineOk cfgDlc Tco.program Tco.entriesDlc = true ∧ disciplineOk cfgRaw Tco.program Tco.entriesRaw = true
    ∧ disciplineOk cfgLdl Tco.program Tco.entriesLdl = true :=
  ⟨dlc_discipline_ok, raw_discipline_ok, ldl_discipline_ok⟩

/-- **`llc.py` (controller, service access points, service discovery) obeys the discipline with no
exemption at all** -/
theorem llc_discipline_ok : disciplineOk cfgLlc Llc.program Llc.entriesAll = true := by decide +kernel

theorem llc_no_exemptions :
    cfgLlc.writeExempt = [] ∧ cfgLlc.waitExempt = [] ∧ cfgLlc.notifyExempt = [] := ⟨rfl, rfl, rfl⟩

/-! ## the invariant instantiated: no lost wake-up on the current source -/

/-- **C05/C09, `DataLinkConnection`**: any number of threads, each running any sequence of the
methods callable on a data link connection (application calls `send/recv/accept/connect/poll/close/...`
and the link thread's `enqueue/dequeue/sendack`), every interleaving, spurious wake-ups included; as
long as at most one thread waits on each condition notified by a plain `notify()`
(`tcoNotifyExempt`): every condition operation happens with the lock held and whenever the lock is
free no blocked thread's guard attributes were changed (by a write outside `tcoWriteExempt`) since
it started to wait. -/
theorem dlc_no_lost_wakeup (n : Nat) (σ : Sched n)
    (hthreads : ∀ i, ∃ full, ThreadRuns Tco.program Tco.entriesDlc full ∧ ∃ ext, proj σ i ++ ext = full) :
    runGood cfgDlc (G.init n) σ :=
  monitor_sound cfgDlc Tco.program Tco.entriesDlc dlc_discipline_ok n σ hthreads

/-- the same for raw access points and logical data links -/
theorem tco_no_lost_wakeup (n : Nat) (σ : Sched n) :
    ((∀ i, ∃ full, ThreadRuns Tco.program Tco.entriesRaw full ∧ ∃ ext, proj σ i ++ ext = full) →
      runGood cfgRaw (G.init n) σ) ∧
    ((∀ i, ∃ full, ThreadRuns Tco.program Tco.entriesLdl full ∧ ∃ ext, proj σ i ++ ext = full) →
      runGood cfgLdl (G.init n) σ) :=
  ⟨monitor_sound cfgRaw Tco.program Tco.entriesRaw raw_discipline_ok n σ,
   monitor_sound cfgLdl Tco.program Tco.entriesLdl ldl_discipline_ok n σ⟩

/-- **C09, `llc.py`**: threads in `resolve()` against the link thread's `dispatch/collect/terminate`
(and every other method of the controller, its service access points and service discovery): no
lost wake-up, without any exemption and without any single-waiter assumption. -/
theorem llc_no_lost_wakeup (n : Nat) (σ : Sched n)
    (hthreads : ∀ i, ∃ full, ThreadRuns Llc.program Llc.entriesAll full ∧ ∃ ext, proj σ i ++ ext = full) :
    runGood cfgLlc (G.init n) σ :=
  monitor_sound cfgLlc Llc.program Llc.entriesAll llc_discipline_ok n σ hthreads

/-- for `llc.py` the single-waiter assumption inside `runGood` is vacuous (there is no plain `notify`) -/
theorem llc_single_trivial {n : Nat} (g : G n) : Single cfgLlc g := by
  intro m cv h
  simp [cfgLlc, Cfg.nExempt] at h

/-! ## wait sites of the public blocking calls -/
section
open Tco

/-- for each blocking call of a data link connection: the wait sites it can reach
(method containing the wait, condition, guard kind, attributes read by the guard, timeout) -/
theorem tco_wait_sites :
    waitSitesFrom program m_DataLinkConnection_send =
      [(m_DataLinkConnection_send, cv_send_token, .whileG, [a_send_ack, a_send_cnt, a_send_win, a_state], false),
       (m_TransmissionControlObject_send, cv_send_ready, .noG, [], false)]
    ∧ waitSitesFrom program m_DataLinkConnection_recv =
      [(m_TransmissionControlObject_recv, cv_recv_ready, .exceptG, [a_recv_queue], false)]
    ∧ waitSitesFrom program m_DataLinkConnection_accept =
      [(m_TransmissionControlObject_recv, cv_recv_ready, .exceptG, [a_recv_queue], false)]
    ∧ waitSitesFrom program m_DataLinkConnection_connect =
      [(m_TransmissionControlObject_recv, cv_recv_ready, .exceptG, [a_recv_queue], false)]
    ∧ waitSitesFrom program m_DataLinkConnection_close =
      [(m_TransmissionControlObject_recv, cv_recv_ready, .exceptG, [a_recv_queue], false)]
    ∧ waitSitesFrom program m_DataLinkConnection_poll =
      [(m_DataLinkConnection__poll, cv_acks_ready, .ifG, [a_acks_recvd], true),
       (m_TransmissionControlObject_poll, cv_recv_ready, .ifG, [a_recv_queue], true),
       (m_TransmissionControlObject_poll, cv_send_ready, .ifG, [a_send_buf, a_send_queue], true)]
    ∧ waitSitesFrom program m_RawAccessPoint_send = [(m_TransmissionControlObject_send, cv_send_ready, .noG, [], false)]
    ∧ waitSitesFrom program m_RawAccessPoint_recv =
      [(m_TransmissionControlObject_recv, cv_recv_ready, .exceptG, [a_recv_queue], false)]
    ∧ waitSitesFrom program m_LogicalDataLink_sendto = [(m_TransmissionControlObject_send, cv_send_ready, .noG, [], false)]
    ∧ waitSitesFrom program m_LogicalDataLink_recvfrom =
      [(m_TransmissionControlObject_recv, cv_recv_ready, .exceptG, [a_recv_queue], false)]
    -- and there is no other wait site in tco.py
    ∧ (program.flatMap waitSites).length = 6 := by
  refine ⟨?_, ?_, ?_, ?_, ?_, ?_, ?_, ?_, ?_, ?_, ?_⟩ <;> decide +kernel

/-- the window wait of `DataLinkConnection.send` is the only wait on `send_token` and it is a `while` loop -/
theorem dlc_send_waits_in_a_loop :
    (program.flatMap waitSites).filter (fun x => x.2.1 == cv_send_token) =
      [(m_DataLinkConnection_send, cv_send_token, .whileG, [a_send_ack, a_send_cnt, a_send_win, a_state], false)] := by
  decide

/-- the plain `notify()` sites of tco.py are exactly the `tcoNotifyExempt` table -/
theorem tco_notify_sites :
    (program.flatMap notifySites).all (fun x => tcoNotifyExempt.contains x) = true
    ∧ tcoNotifyExempt.all (fun x => (program.flatMap notifySites).contains x) = true := by
  decide

/-- no exemption is superfluous: removing any single entry makes the check of `DataLinkConnection`
(or, for the `dequeue` notify of the base class, of `RawAccessPoint`) fail.  A write exemption whose
(method, attribute) is not a write site of the current source is vacuous (it exempts nothing); this
is the case of `DataLinkConnection.close / recv_queue` on a tree without the C05 repair. -/
theorem tco_exemptions_used :
    tcoWriteExempt.all (fun e =>
      !disciplineOk { cfgDlc with writeExempt := tcoWriteExempt.filter (· != e) } program entriesDlc
      || !(program.flatMap writeSites).contains (e.1, e.2.1)) = true
    ∧ tcoWaitExempt.all (fun e => !disciplineOk { cfgDlc with waitExempt := tcoWaitExempt.filter (· != e) }
      program entriesDlc) = true
    ∧ tcoNotifyExempt.all (fun e =>
        !disciplineOk { cfgDlc with notifyExempt := tcoNotifyExempt.filter (· != e) } program entriesDlc
        || !disciplineOk { cfgRaw with notifyExempt := tcoNotifyExempt.filter (· != e), writeExempt := [] }
             program [m_RawAccessPoint_dequeue]) = true := by
  decide +kernel

/-- rule 1 without exemptions (every wait in a `while` loop) does NOT hold on the current tree:
without the wait exemptions already `poll`, `send`, `recv` of the base class fail -/
theorem tco_strict_rule1_fails :
    disciplineOk { cfgDlc with waitExempt := [] } program entriesDlc = false
    ∧ entryOk { cfgRaw with waitExempt := [] } program entriesRaw m_RawAccessPoint_recv = false
    ∧ entryOk { cfgRaw with waitExempt := [] } program entriesRaw m_RawAccessPoint_send = false
    ∧ entryOk { cfgRaw with waitExempt := [] } program entriesRaw m_RawAccessPoint_poll = false := by
  decide +kernel

/-- nor does rule 3 with `notify_all` only: the link thread's `enqueue`/`dequeue` use plain `notify()` -/
theorem tco_strict_notify_fails :
    entryOk { cfgDlc with notifyExempt := [] } program entriesDlc m_DataLinkConnection_enqueue = false
    ∧ entryOk { cfgDlc with notifyExempt := [] } program entriesDlc m_DataLinkConnection_dequeue = false
    ∧ entryOk { cfgRaw with notifyExempt := [] } program entriesRaw m_RawAccessPoint_enqueue = false := by
  decide +kernel

end

theorem llc_wait_sites :
    waitSitesFrom Llc.program Llc.m_LogicalLinkController_resolve =
      [(Llc.m_ServiceDiscovery_resolve, Llc.cv_Sd_resp, .whileG, [Llc.a_Sd_snl], false)]
    ∧ (Llc.program.flatMap waitSites).length = 1 ∧ Llc.program.flatMap notifySites = [] := by
  decide +kernel

/-! ## non-vacuity: concrete traces of the regenerated programs with a waiter that is woken -/
section
open Llc

/-- `resolve(name)`: take the lock, register the request, wait on `resp`, wake up, return -/
def resolveTrace : List Ev :=
  [.acq, .wr m_ServiceDiscovery_resolve a_Sd_tids, .wr m_ServiceDiscovery_resolve a_Sd_sdreq,
   .waitB m_ServiceDiscovery_resolve cv_Sd_resp [a_Sd_snl], .wake, .rel]

/-- `shutdown()` of the service discovery (link termination): `snl = None`, `resp.notify_all()` -/
def shutdownTrace : List Ev :=
  [.acq, .wr m_ServiceDiscovery_shutdown a_Sd_snl, .ntfAll cv_Sd_resp, .rel]

theorem resolve_thread_runs : ThreadRuns program entriesAll resolveTrace := by
  have h : Runs program (.call m_ServiceDiscovery_resolve) resolveTrace false := by
    refine Runs.call (s := s_ServiceDiscovery_resolve) (by rfl) ?_
    have inner : Runs program
        (.seq (.branch .exit .skip) (.seq (.tryc .exit .skip)
          (.seq (.branch (.write m_ServiceDiscovery_resolve a_Sd_tids) .exit)
            (.seq (.write m_ServiceDiscovery_resolve a_Sd_sdreq)
              (.seq (.loop (.tryc (.wait m_ServiceDiscovery_resolve cv_Sd_resp .whileG [a_Sd_snl] false) .skip)) .exit)))))
        ([] ++ ([] ++ [] ++ ([.wr m_ServiceDiscovery_resolve a_Sd_tids] ++ ([.wr m_ServiceDiscovery_resolve a_Sd_sdreq]
          ++ (([.waitB m_ServiceDiscovery_resolve cv_Sd_resp [a_Sd_snl], .wake] ++ []) ++ []))))) false :=
      Runs.seq (Runs.brR Runs.skip)
        (Runs.seq (Runs.tryCaught Runs.exit Runs.skip)
          (Runs.seq (Runs.brL Runs.write)
            (Runs.seq Runs.write
              (Runs.seq (Runs.loopS (Runs.tryOk Runs.wait) Runs.loop0) Runs.exit))))
    exact Runs.withLock inner
  have := ThreadRuns.cons (E := entriesAll) (m := m_ServiceDiscovery_resolve) (by decide) h ThreadRuns.nil
  simpa [resolveTrace] using this

theorem shutdown_thread_runs : ThreadRuns program entriesAll shutdownTrace := by
  have h : Runs program (.call m_ServiceDiscovery_shutdown) shutdownTrace true := by
    refine Runs.call (s := s_ServiceDiscovery_shutdown) (by rfl) ?_
    exact Runs.withLock (Runs.seq Runs.write Runs.notifyAll)
  have := ThreadRuns.cons (E := entriesAll) (m := m_ServiceDiscovery_shutdown) (by decide) h ThreadRuns.nil
  simpa [shutdownTrace] using this

/-- thread 0 blocks in `resolve`, thread 1 (link termination) shuts the service discovery down -/
def resolveSched : Sched 2 :=
  [(0, .acq, 0), (0, .wr m_ServiceDiscovery_resolve a_Sd_tids, 0), (0, .wr m_ServiceDiscovery_resolve a_Sd_sdreq, 0),
   (0, .waitB m_ServiceDiscovery_resolve cv_Sd_resp [a_Sd_snl], 0),
   (1, .acq, 0), (1, .wr m_ServiceDiscovery_shutdown a_Sd_snl, 0), (1, .ntfAll cv_Sd_resp, 0), (1, .rel, 0),
   (0, .wake, 0), (0, .rel, 0)]

/-- the hypotheses of `llc_no_lost_wakeup` are satisfiable by a real two-thread history of the
regenerated program; in it the thread blocked in `resolve()` is notified by `shutdown()` (state
`notified` after step 8, with the lock free and `snl` changed) and runs again -/
theorem resolve_wake_trace :
    (∀ i : Fin 2, ∃ full, ThreadRuns program entriesAll full ∧ ∃ ext, proj resolveSched i ++ ext = full)
    ∧ runGood cfgLlc (G.init 2) resolveSched
    ∧ (grun cfgLlc (G.init 2) (resolveSched.take 4)).map (fun g => (blockedOn (g.ts 0) cv_Sd_resp, g.holder)) = some (true, none)
    ∧ (grun cfgLlc (G.init 2) (resolveSched.take 8)).map (fun g => (g.ts 0, g.holder, g.ver a_Sd_snl cv_Sd_resp)) = some (.notified 1, none, 1)
    ∧ (grun cfgLlc (G.init 2) resolveSched).map (fun g => (g.ts 0, g.holder, lostB g)) = some (.run, none, false) := by
  have hth : ∀ i : Fin 2, ∃ full, ThreadRuns program entriesAll full ∧ ∃ ext, proj resolveSched i ++ ext = full := by
    intro i
    match i with
    | 0 => exact ⟨resolveTrace, resolve_thread_runs, [], by decide⟩
    | 1 => exact ⟨shutdownTrace, shutdown_thread_runs, [], by decide⟩
  exact ⟨hth, llc_no_lost_wakeup 2 resolveSched hth, by decide, by decide, by decide⟩

end

section
open Tco

/-- thread 0: `DataLinkConnection.send` finds the window closed and waits on `send_token`;
thread 1 (link thread): `_enqueue_state_established` processes an acknowledgement
(`acks_recvd += acks; acks_ready.notify_all(); send_token.notify(); send_ack = N(R)`) -/
def dlcSched : Sched 2 :=
  [(0, .acq, 0),
   (0, .waitB m_DataLinkConnection_send cv_send_token [a_send_ack, a_send_cnt, a_send_win, a_state], 0),
   (1, .acq, 0), (1, .wr m_DataLinkConnection__enqueue_state_established a_acks_recvd, 0),
   (1, .ntfAll cv_acks_ready, 0), (1, .ntf m_DataLinkConnection__enqueue_state_established cv_send_token, 0),
   (1, .wr m_DataLinkConnection__enqueue_state_established a_send_ack, 0), (1, .rel, 0),
   (0, .wake, 0)]

/-- the blocked sender is notified inside the region that changes `send_ack` (the notification comes
BEFORE the write, which is fine because the lock is held), and runs again with the lock -/
theorem dlc_wake_trace :
    (grun cfgDlc (G.init 2) (dlcSched.take 2)).map (fun g => (blockedOn (g.ts 0) cv_send_token, g.holder)) = some (true, none)
    ∧ (grun cfgDlc (G.init 2) (dlcSched.take 8)).map (fun g => (g.ts 0, g.holder, g.ver a_send_ack cv_send_token, lostB g))
        = some (.notified 1, none, 1, false)
    ∧ (grun cfgDlc (G.init 2) dlcSched).map (fun g => (g.ts 0, g.holder, g.depth)) = some (.run, some 0, 1) := by
  refine ⟨?_, ?_, ?_⟩ <;> decide

end

end NfcVerif.MonitorProps
