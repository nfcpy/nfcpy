import NfcVerif.Lemmas.T3Write
import NfcVerif.Lemmas.T4Ndef
import NfcVerif.Lemmas.T3EmuRound
/-!
# C01, part t34 - NDEF write then read round-trips on Type 3 and Type 4 tags

Models: `Model/T3.lean` (transcription of `Type3Tag.NDEF` of `nfc/tag/tt3.py` and of the generic
`octets` setter), `Model/T4.lean` (`Type4Tag.NDEF` of `nfc/tag/tt4.py`).  The tag is plain memory.

`T3.WF m a`: block 0 of memory `m` decodes (valid checksum) to attributes `a` with mapping version 1.x,
`1 ≤ Nbr ≤ 80`, `1 ≤ Nbw`, `WriteFits Nbw Nmaxb` (a write command of `Nbw` blocks fits the 255 octet
frame: excluded are exactly the layouts of finding F37, `Nbw = 13` with `Nmaxb > 255`), `RWFlag ≠ 0`,
`16·(Nmaxb+1) ≤ |m|`, `Ln ≤ 16·Nmaxb`.

`T4.WF v c i`: the capability container of card `c` is understood as `i` (`discover`), the NDEF file exists,
`NLEN size ≤ i.maxLe ≤ 256`, `i.maxLe ≤` what the card accepts as Le, `1 ≤ i.maxLc ≤ 255`, `i.maxLc ≤` what the
card accepts as Lc, capacity = min(file size, 65536) - NLEN size (offsets must fit P1-P2: the repair of finding
`t4-offset-over-65535-struct-error`; the file itself may be larger), old NLEN inside that part of the file.
`t4_wf_cc4` / `t4_wf_cc6` derive it for the repaired code from the capability container octets with the
hypotheses `MLe ≥ 15`, `MLc ≥ 1`.
-/
namespace NfcVerif.C01T34
open NfcVerif NfcVerif.T34

/-! ## Type 3 -/

/-- the attribute block codec round-trips (checksum included) for all field values in range -/
theorem t3_attr_roundtrip (a : T3.Attr) (h : T3.AttrRange a) : T3.decodeAttr (T3.encodeAttr a) = .ok (some a) :=
  T3.decode_encode a h

/-- For every well-formed layout and every message up to the capacity: the assignment succeeds with exactly
the planned command sequence, the memory keeps its size, and a fresh reader of the resulting memory sees
exactly `data`, readable and writeable (`Ln = |data|`, `WriteF = 0`). -/
theorem t3_roundtrip (m data : Bytes) (a : T3.Attr) (wf : T3.WF m a) (hlen : data.length ≤ 16 * a.nmaxb) :
    ∃ t, T3.setOctets m data = .ok (some t) ∧ t.res = .ok () ∧ t.sent = T3.planWrite a data ∧
      t.mem.length = m.length ∧
      T3.see t.mem = .ok (some ⟨(a.nmaxb * 16 : Nat), true, true, data⟩) :=
  ⟨_, T3.setOctets_spec m data a wf hlen, rfl, rfl, T3.finalMem_length m data a wf.mem hlen,
   T3.see_final m data a wf hlen⟩

/-- the reported capacity is `16·Nmaxb` and that many octets really exist behind the attribute block -/
theorem t3_capacity (m : Bytes) (a : T3.Attr) (wf : T3.WF m a) :
    (∃ s, T3.see m = .ok (some s) ∧ s.capacity = (a.nmaxb * 16 : Nat)) ∧ 16 + a.nmaxb * 16 ≤ m.length := by
  constructor
  · unfold T3.see; rw [T3.readNdef_old m a wf]
    exact ⟨_, rfl, rfl⟩
  · have := wf.mem; omega

/-- no write command carries more than Nbw blocks -/
theorem t3_batches_within_limits (a : T3.Attr) (data : Bytes) (hnbw : 1 ≤ a.nbw) :
    ∀ c ∈ T3.planWrite a data, c.n ≤ a.nbw :=
  fun c hc => (T3.planWrite_mem a data hnbw c hc).2.1

/-- data longer than the capacity: `ValueError`, no command, memory untouched -/
theorem t3_oversize_no_command (m data : Bytes) (a : T3.Attr) (wf : T3.WF m a) (hlen : data.length > 16 * a.nmaxb) :
    T3.setOctets m data = .ok (some ⟨[], m, .error .value⟩) := by
  unfold T3.setOctets
  rw [T3.readNdef_old m a wf]
  simp only [Py.bind_ok]
  rw [if_neg (by simp), if_pos (by omega)]

/-- F37 (open): `Nbw = 13` and block numbers above 255 - the frame of 13 blocks with 3-octet block list
elements has 261 octets, `ValueError` whatever the memory is; `WriteFits` excludes exactly this. -/
theorem t3_nbw13_counterexample :
    (∀ (m d : Bytes), d.length = 16 * 13 → T3.sendW m ⟨256, 13, d⟩ = .error .value) ∧ ¬ T3.WriteFits 13 300 := by
  constructor
  · intro m d hd
    have h : T3.cmdCheck 256 13 208 = .error .value := by decide
    unfold T3.sendW
    simp only [hd, h, Py.bind_error]
  · unfold T3.WriteFits; decide

/-! ## Type 4 -/

/-- For every well-formed layout (mapping versions 1-3, NLEN of 2 or 4 octets), every message up to the
capacity, with the final NLEN update looped or `MLc ≥ NLEN size`: the assignment succeeds, the file keeps its
size, holds `NLEN = |data|` followed by `data`, and a fresh reader sees exactly `data`. -/
theorem t4_roundtrip (v : T4.Variant) (c : T4.Card) (i : T4.Info) (data : Bytes) (wf : T4.WF v c i)
    (hlen : (data.length : Int) ≤ i.capacity) (hv : v.nlenLoop = true ∨ i.nlenSize ≤ i.maxLc) :
    ∃ t, T4.setOctets v c data = .ok (some t) ∧ t.res = .ok () ∧ t.sent = T4.planWrite v i data ∧
      t.file.length = c.file.length ∧
      t.file.take i.nlenSize = toBE i.nlenSize data.length ∧
      sliceN t.file i.nlenSize (i.nlenSize + data.length) = data ∧
      T4.see v { c with file := t.file } = .ok (some ⟨i.capacity, i.readable, true, data⟩) := by
  have hcap := wf.cap
  have hl : i.nlenSize + data.length ≤ c.file.length := by omega
  exact ⟨_, T4.setOctets_spec v c i data wf hlen hv, rfl, rfl, T4.finalFile_length _ _ _ hl,
    T4.finalFile_nlen _ _ _, T4.finalFile_data _ _ _, T4.see_final v c i data wf hlen⟩

/-- the reported capacity plus the NLEN field fits the file and the 16 bit offset range -/
theorem t4_capacity (v : T4.Variant) (c : T4.Card) (i : T4.Info) (wf : T4.WF v c i) :
    (∃ s, T4.see v c = .ok (some s) ∧ s.capacity = i.capacity) ∧
    (i.nlenSize : Int) + i.capacity ≤ c.file.length ∧ (i.nlenSize : Int) + i.capacity ≤ 65536 := by
  refine ⟨⟨_, T4.see_old v c i wf, rfl⟩, ?_⟩
  have := wf.cap; omega

/-- every UPDATE BINARY carries 1..MLc octets (and at most 255, see `T4.Lim`) and stays inside
NLEN field + message -/
theorem t4_commands_within_limits (v : T4.Variant) (c : T4.Card) (i : T4.Info) (data : Bytes) (wf : T4.WF v c i)
    (hlen : (data.length : Int) ≤ i.capacity) :
    ∀ u ∈ T4.planWrite v i data, 1 ≤ u.data.length ∧ u.data.length ≤ i.maxLc ∧ u.data.length ≤ c.mlc ∧
      u.data.length ≤ 255 ∧ u.off + u.data.length ≤ i.nlenSize + data.length := by
  have hcap := wf.cap; have hlc := wf.lim.lc; have hnl := wf.lim.nl
  intro u hu
  have := (T4.write_confined v i data c.file hlc.1 (by omega) (by omega)).1 u hu
  omega

theorem t4_oversize_no_command (v : T4.Variant) (c : T4.Card) (i : T4.Info) (data : Bytes) (wf : T4.WF v c i)
    (hlen : (data.length : Int) > i.capacity) :
    T4.setOctets v c data = .ok (some ⟨[], c.file, .error .value⟩) := by
  unfold T4.setOctets
  rw [T4.readNdef_old v c i wf]
  simp only [Py.bind_ok]
  rw [if_neg (by simp), if_pos (by omega)]

/-- the layouts of the theorem, from the capability container octets (repaired code): CC of 15 octets,
control TLV T=4 L=6, any mapping version 1.x-3.x, `MLe ≥ 15`, `MLc ≥ 1`, writeable, file of the declared size -/
theorem t4_wf_cc4 (c : T4.Card) (ver e1 e0 c1 c0 f1 f0 s1 s0 rf : Nat)
    (hcc : c.cc = T4.cc4 ver e1 e0 c1 c0 f1 f0 s1 s0 rf 0) (hfid : c.fid = [f1, f0])
    (hver : ver / 16 = 1 ∨ ver / 16 = 2 ∨ ver / 16 = 3)
    (hmle : c.mle = e1 * 256 + e0) (h15 : 15 ≤ c.mle) (hmlc : c.mlc = c1 * 256 + c0) (h1 : 1 ≤ c.mlc)
    (hmfs : c.file.length = s1 * 256 + s0) (hs : s1 < 256 ∧ s0 < 256) (h2 : 2 ≤ c.file.length)
    (hold : 2 + beNat (c.file.take 2) ≤ min c.file.length 65536) :
    T4.WF .repaired c { maxLe := min (e1 * 256 + e0) 256, maxLc := min (c1 * 256 + c0) 255,
                        capacity := ((min (s1 * 256 + s0) 65536 : Nat) : Int) - 2, readable := decide (rf = 0),
                        writeable := true, nlenSize := 2, fid := [f1, f0] } := by
  have hd := T4.discover_cc .repaired c 2 (Or.inl rfl) ver e1 e0 c1 c0 f1 f0 [s1, s0] rf 0
    (hcc.trans (T4.cc4_eq ..)) rfl h15 hver
  simp [T4.Variant.repaired, beNat] at hd
  refine ⟨hd, hfid.symm, ⟨Or.inl rfl, ?_, ?_, ?_⟩, ?_, rfl, hold⟩ <;> (simp only []; omega)

/-- same for the extended control TLV (T=6 L=8, NLEN of 4 octets) and a file of ANY declared size: beyond
65536 octets the repaired code reports only the part a 16 bit offset addresses -/
theorem t4_wf_cc6 (c : T4.Card) (ver e1 e0 c1 c0 f1 f0 s3 s2 s1 s0 rf : Nat)
    (hcc : c.cc = T4.cc6 ver e1 e0 c1 c0 f1 f0 s3 s2 s1 s0 rf 0) (hfid : c.fid = [f1, f0])
    (hver : ver / 16 = 1 ∨ ver / 16 = 2 ∨ ver / 16 = 3)
    (hmle : c.mle = e1 * 256 + e0) (h15 : 15 ≤ c.mle) (hmlc : c.mlc = c1 * 256 + c0) (h1 : 1 ≤ c.mlc)
    (hmfs : c.file.length = ((s3 * 256 + s2) * 256 + s1) * 256 + s0) (h4 : 4 ≤ c.file.length)
    (hold : 4 + beNat (c.file.take 4) ≤ min c.file.length 65536) :
    T4.WF .repaired c { maxLe := min (e1 * 256 + e0) 256, maxLc := min (c1 * 256 + c0) 255,
                        capacity := ((min (((s3 * 256 + s2) * 256 + s1) * 256 + s0) 65536 : Nat) : Int) - 4,
                        readable := decide (rf = 0), writeable := true, nlenSize := 4, fid := [f1, f0] } := by
  have hd := T4.discover_cc .repaired c 4 (Or.inr rfl) ver e1 e0 c1 c0 f1 f0 [s3, s2, s1, s0] rf 0
    (hcc.trans (T4.cc6_eq ..)) rfl h15 hver
  simp [T4.Variant.repaired, beNat] at hd
  refine ⟨hd, hfid.symm, ⟨Or.inr rfl, ?_, ?_, ?_⟩, ?_, rfl, hold⟩ <;> (simp only []; omega)

/-- F35 on the unchanged code: `MLc = 1` below the 2-octet NLEN field - the write "succeeds" but only the
first NLEN octet is updated, the file reads `NLEN = 0` and the message is lost. -/
theorem t4_asFound_nlen_counterexample :
    (T4.setOctets .asFound ⟨T4.cc4 0x20 0 59 0 1 0xE1 4 0 20 0 0, List.replicate 20 0, [0xE1, 4], 59, 1⟩ [1, 2, 3]).map
        (fun o => o.map (fun t => (t.res, t.file.take 5)))
      = .ok (some (.ok (), [0, 0, 1, 2, 3])) ∧
    T4.see .asFound ⟨T4.cc4 0x20 0 59 0 1 0xE1 4 0 20 0 0, [0, 0, 1, 2, 3] ++ List.replicate 15 0, [0xE1, 4], 59, 1⟩
      = .ok (some ⟨18, true, true, []⟩) := by
  constructor <;> decide

/-! ## Emulated Type 3 Tag (`Type3TagEmulation.process_command` with the block store of `examples/tagtool.py`) -/

/-- The frame `Type3Tag.write_without_encryption` builds for service 0009h and any list of distinct existing
blocks (2-octet block list elements below block 256, 3-octet elements from there on, any mix) with `16·n`
data octets, provided it fits the 255 octet frame, is answered by the emulation with status 0000h and stores
the data; the frame `read_without_encryption` builds for service 000Bh and the same list then returns
exactly the written octets.  The store keeps its size. -/
theorem t3emu_roundtrip (e : T3Emu.Emu) (bl : List Nat) (d : Bytes) (hidm : e.idm.length = 8)
    (hnd : bl.Nodup) (hb : ∀ b ∈ bl, b * 16 + 16 ≤ e.store.length) (h65 : ∀ b ∈ bl, b < 65536)
    (hd : d.length = 16 * bl.length) (hfit : 14 + (bl.flatMap T3Emu.codeOf).length + d.length ≤ 255) :
    ∃ w r logw logr,
      T3Emu.encWrite e.idm 9 bl d = .ok w ∧
      T3Emu.processCommand e w = .ok (some ([12, 9] ++ e.idm ++ [0, 0]), T3Emu.writeAll d bl 0 e.store, logw) ∧
      T3Emu.encRead e.idm 11 bl = .ok r ∧
      T3Emu.processCommand { e with store := T3Emu.writeAll d bl 0 e.store } r
        = .ok (some ([13 + d.length, 7] ++ e.idm ++ [0, 0, bl.length] ++ d), T3Emu.writeAll d bl 0 e.store, logr) ∧
      (T3Emu.writeAll d bl 0 e.store).length = e.store.length := by
  have hcl := T3Emu.codes_length_ge bl
  have hlen := T3Emu.writeAll_length d bl 0 e.store hb (by omega)
  obtain ⟨w, logw, hw1, hw2⟩ := T3Emu.write_frame e bl d hidm hb h65 hd hfit
  obtain ⟨r, logr, hr1, hr2⟩ := T3Emu.read_frame { e with store := T3Emu.writeAll d bl 0 e.store } bl hidm
    (fun b hb' => by simp only [hlen]; exact hb b hb') h65 (by omega) (by omega)
  have hrw := T3Emu.readAll_writeAll d bl 0 e.store hnd hb (by omega)
  rw [Nat.zero_mul, Nat.zero_add, sliceN_zero_take, List.take_of_length_le (by omega)] at hrw
  simp only [hrw, ← hd] at hr2
  exact ⟨w, r, logw, logr, hw1, hw2, hr1, hr2, hlen⟩

/-- `process_command` is total on every frame the reader can build with `write_without_encryption` (any
service code except the read-only 000Bh, whose tagtool write callback cannot be called) and
`read_without_encryption` (any service code): any block list, any data - unknown service, missing block,
more than 15 blocks and ragged data all end in a status response, never in an exception. -/
theorem t3emu_process_command_total (e : T3Emu.Emu) (hidm : e.idm.length = 8) (sc : Nat) (bl : List Nat) (d : Bytes) :
    (∀ w, T3Emu.encWrite e.idm sc bl d = .ok w → sc / 256 % 256 * 256 + sc % 256 ≠ 11 →
        ∃ r, T3Emu.processCommand e w = .ok r) ∧
    (∀ r, T3Emu.encRead e.idm sc bl = .ok r → ∃ x, T3Emu.processCommand e r = .ok x) := by
  constructor
  · intro w hw hsc
    unfold T3Emu.encWrite at hw
    split at hw
    · simp at hw
    · obtain ⟨bc, hbc, hf⟩ := Py.bind_eq_ok.mp hw
      obtain ⟨h65, rfl⟩ := T3Emu.blockCodes_inv bl bc hbc
      obtain ⟨rsp, st, lg, hwr, hl, _⟩ := T3Emu.emuWrite_run e sc bl d h65 hsc
      exact ⟨_, T3Emu.processCommand_write e _ w hidm hf rsp st lg hwr (by omega)⟩
  · intro r hr
    unfold T3Emu.encRead at hr
    split at hr
    · simp at hr
    · obtain ⟨bc, hbc, hf⟩ := Py.bind_eq_ok.mp hr
      obtain ⟨h65, rfl⟩ := T3Emu.blockCodes_inv bl bc hbc
      obtain ⟨rsp, lg, hrd, hl, _⟩ := T3Emu.emuRead_run e sc bl h65
      exact ⟨_, T3Emu.processCommand_read e _ r hidm hf rsp lg hrd (by omega)⟩

/-! ## Non-vacuity -/
def exEmu : T3Emu.Emu := ⟨[1, 2, 3, 4, 5, 6, 7, 8], [0, 0xF0, 255, 255, 255, 255, 255, 255], [0x12, 0xFC], List.replicate 4864 7⟩
example : (T3Emu.encWrite exEmu.idm 9 [2, 300] (List.replicate 32 5)).map List.length = .ok 51 := by decide
example : 14 + ([2, 300].flatMap T3Emu.codeOf).length + (List.replicate 32 5).length ≤ 255 := by decide

def exM : Bytes := T3.encodeAttr ⟨0x10, 4, 3, 2, 0, 1, 5⟩ ++ [1, 2, 3, 4, 5] ++ List.replicate 27 7
def exA : T3.Attr := ⟨0x10, 4, 3, 2, 0, 1, 5⟩
theorem exWF3 : T3.WF exM exA :=
  ⟨by decide, ⟨by decide, by decide, by decide, by decide, by decide, by decide, by decide⟩, by decide, by decide, by decide,
   by simp [T3.WriteFits, exA], by decide, by decide, by decide⟩
example : T3.see exM = .ok (some ⟨32, true, true, [1, 2, 3, 4, 5]⟩) := by decide
example : (T3.setOctets exM (List.replicate 20 9)).map (fun o => o.map (fun t => t.sent.map (fun c => (c.blk, c.n))))
    = .ok (some [(0, 1), (1, 2), (0, 1)]) := by decide

def exCard : T4.Card := ⟨T4.cc4 0x20 0 59 0 52 0xE1 4 0 20 0 0, [0, 2, 7, 8] ++ List.replicate 16 9, [0xE1, 4], 59, 52⟩
theorem exWF4 : T4.WF .repaired exCard ⟨59, 52, 18, true, true, 2, [0xE1, 4]⟩ :=
  t4_wf_cc4 exCard 0x20 0 59 0 52 0xE1 4 0 20 0 rfl rfl (by decide) (by decide) (by decide) (by decide) (by decide)
    (by decide) (by decide) (by decide) (by decide)
example : T4.see .repaired exCard = .ok (some ⟨18, true, true, [7, 8]⟩) := by decide

def bigCard : T4.Card := ⟨T4.cc6 0x30 0 255 0 255 0xE1 4 0 1 17 112 0 0, List.replicate 70000 0, [0xE1, 4], 255, 255⟩
/-- a 70000 octet ENDEF file: the repaired code reports 65532 octets and the round trip theorem applies -/
theorem exWF6 : T4.WF .repaired bigCard ⟨255, 255, 65532, true, true, 4, [0xE1, 4]⟩ := by
  have h := t4_wf_cc6 bigCard 0x30 0 255 0 255 0xE1 4 0 1 17 112 0 rfl rfl (by decide) (by decide) (by decide) (by decide)
    (by decide)
    (by show (List.replicate 70000 0).length = _; rw [List.length_replicate])
    (by show 4 ≤ (List.replicate 70000 0).length; rw [List.length_replicate]; omega)
    (by show 4 + beNat ((List.replicate 70000 0).take 4) ≤ min (List.replicate 70000 0).length 65536
        rw [List.take_replicate, List.length_replicate]; decide)
  simpa using h

end NfcVerif.C01T34
