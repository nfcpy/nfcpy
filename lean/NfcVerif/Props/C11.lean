import NfcVerif.Lemmas.PduRound
import NfcVerif.Lemmas.PduSpec
import NfcVerif.Lemmas.PduReenc
import NfcVerif.Lemmas.PduObj
/-!
# C11 - LLCP PDU encoding and decoding are mutually consistent

The lemmas are in `Lemmas/Pdu.lean` (length and octets of an encoding), `Lemmas/PduParam.lean` (one parameter against
the format reading, exception included), `Lemmas/PduSafe.lean` (totality, locality), `Lemmas/PduRun.lean` (the decoder
loops over a whole rest of the buffer), `Lemmas/PduSpec.lean` (decoder against the format reading),
`Lemmas/PduRound.lean` (round trip, through the format reading) and `Lemmas/PduReenc.lean` (normal form).  The model
`Model/Pdu.lean` transcribes `nfc/llcp/pdu.py` with the repairs of `fixes/C11` (RW = 0 is encoded; `decode` restricts
the buffer to the PDU; AGF inside AGF is refused).  `Impl.decode b = Impl.decodeAt b 0 b.length`.

PDU objects are mutable and re-encoded by the stack (`tco` assigns `ns`/`nr`, `llc` fills the PAX PDU through its
properties and appends to the SNL lists, `==` compares encodings): `Model/PduObj.lean` adds assignments, the PAX
property setters/getters and histories of operations on one object; the `obj_*` / `pax_*` theorems below
(`Lemmas/PduObj.lean`) state the property for the fields an object has when it is observed, after any history.
-/
namespace NfcVerif.C11
open NfcVerif NfcVerif.Pdu

/-- Round trip with *field* equality (not the library's encoding-based `__eq__`), for
all 14 PDU classes and the unknown types 1011/1111: SAPs 0..63, N(S)/N(R) 0..15,
MIU 128..128+0x7FF, RW 0..15 (including 0), VERSION/LTO 0..255, WKS 0..0xFFFF,
OPT 0..7, DM reason 0..255, FRMR nibbles, service names/ECPK/RN of 1..255 octets
(absent = `none`), any number of SDREQ (name 0..254 octets) and SDRES entries,
payloads of any length, aggregates of any number of valid non-aggregate PDUs
of at most 65535 octets each. -/
theorem pdu_roundtrip (p : Pdu) (h : Valid p) :
    ∃ b, Impl.encode p = .ok b ∧ Impl.decode b = .ok p :=
  Impl.roundtrip p h

/-- `len(pdu)` is the length of the encoding - whenever the PDU can be encoded at
all (valid or not). -/
theorem pdu_len (p : Pdu) (b : Bytes) (h : Impl.encode p = .ok b) : Impl.len p = b.length :=
  Impl.len_eq h

/-- every valid PDU can be encoded, so `pdu_len` is not vacuous on valid PDUs -/
theorem pdu_len_valid (p : Pdu) (h : Valid p) : ∃ b, Impl.encode p = .ok b ∧ Impl.len p = b.length := by
  obtain ⟨b, he, _⟩ := Impl.roundtrip p h
  exact ⟨b, he, Impl.len_eq he⟩

/-- Decoding ANY list of numbers (in particular any octet string of any length)
yields a PDU or `DecodeError`: no `struct.error`, `IndexError`, recursion or
exhausted loop, also for aggregates and their elements. -/
theorem pdu_decode_total (b : Bytes) : Safe OnlyDecodeError (Impl.decode b) :=
  Impl.decodeAt_safe b 0 b.length

/-- the same for `decode(data, offset, size)` with arbitrary offset and size -/
theorem pdu_decode_at_total (data : Bytes) (off size : Nat) : Safe OnlyDecodeError (Impl.decodeAt data off size) :=
  Impl.decodeAt_safe data off size

/-- A PDU inside an aggregate (`decode(data, offset+2, pdu_size, nested=True)` in
`AggregatedFrame.decode`) is decoded from its own octets only: what precedes
and what follows in the buffer has no influence. -/
theorem agf_locality (pre e post : Bytes) :
    Impl.decodeNested (pre ++ e ++ post) pre.length e.length = Impl.decodeNested e 0 e.length :=
  Impl.decodeNested_local pre e post

/-- the same for the public `decode(data, offset, size)` -/
theorem decode_at_locality (pre e post : Bytes) :
    Impl.decodeAt (pre ++ e ++ post) pre.length e.length = Impl.decode e := by
  unfold Impl.decode Impl.decodeAt
  rw [Impl.decodePre_local]

/-- an aggregated PDU decodes like the same octets received on their own -/
theorem nested_eq_decode (e : Bytes) (p : SPdu) (h : Impl.decodeNested e 0 e.length = .ok p) :
    Impl.decode e = .ok (.simple p) :=
  Impl.decodeAt_of_nested h

/-- For EVERY octet string (all 14 PDU types, unassigned types, aggregates, too short strings) the
decoder returns exactly what the independent reading `Spec.decode` of the LLCP 1.3 frame formats
returns (`toOpt` forgets which exception was raised). -/
theorem pdu_impl_refines_spec (b : Bytes) (hb : IsBytes b) : toOpt (Impl.decode b) = Spec.decode b :=
  Impl.decode_refines b hb

/-- the same in the two directions of the design: same PDU, and `DecodeError` exactly when the
format reading rejects the octets -/
theorem pdu_impl_refines_spec_iff (b : Bytes) (hb : IsBytes b) :
    (∀ p, Impl.decode b = .ok p ↔ Spec.decode b = some p) ∧
    (Impl.decode b = .error .decodeError ↔ Spec.decode b = none) :=
  toOpt_iff (Impl.decode_refines b hb) (Impl.decodeAt_safe b 0 b.length)

/-- Whatever `decode` returns for an octet string can be encoded again, and decoding that
encoding returns the same PDU in normal form.  Normal form (`norm`): an optional octet string
parameter that is present but EMPTY - CONNECT service name, DPS ECPK, DPS RN decoded from a TLV
with L = 0 - becomes absent; every other field, SDREQ names (also empty ones), payloads and the
list of aggregated PDUs (each in normal form) are unchanged.  `norm` is idempotent, so a second
re-encoding changes nothing (`pdu_norm_idem`). -/
theorem pdu_decode_reencode (b : Bytes) (hb : IsBytes b) (p : Pdu) (h : Impl.decode b = .ok p) :
    ∃ b', Impl.encode p = .ok b' ∧ Impl.decode b' = .ok (norm p) := by
  have hs : Spec.decode b = some p := by rw [← Impl.decode_refines b hb, h]; rfl
  obtain ⟨b', he, hd⟩ := Impl.roundtrip (norm p) (Impl.spec_valid b hb p hs)
  exact ⟨b', by rw [← Impl.encode_norm]; exact he, hd⟩

theorem pdu_norm_idem (p : Pdu) : norm (norm p) = norm p := by
  have hO : ∀ o, normOpt (normOpt o) = normOpt o := by
    intro o; rcases o with _ | ⟨_ | ⟨x, xs⟩⟩ <;> rfl
  have hS : ∀ q, normS (normS q) = normS q := by
    intro q; cases q <;> simp [normS, hO]
  cases p with
  | simple q => simp [norm, hS]
  | agf d s items => simp [norm, hS]

/-- a valid PDU is in normal form, so `pdu_decode_reencode` and `pdu_roundtrip` agree on valid PDUs -/
theorem pdu_norm_valid (p : Pdu) (h : Valid p) : norm p = p := by
  cases p with
  | simple q => simp only [norm, Impl.normS_of_valid q h]
  | agf d s items =>
    have hi : ∀ q ∈ items, normS q = q := fun q hq => Impl.normS_of_valid q (h.2.2 q hq).1
    simp only [norm, List.map_congr_left hi, List.map_id']

/-- The encoding of ANY PDU (valid or not) whose payloads and names are octet strings is an octet string
whenever `encode` succeeds: the range checks of the encoder cover every numeric field. -/
theorem pdu_encoding_is_octets (p : Pdu) (ho : Octets p) (b : Bytes) (he : Impl.encode p = .ok b) : IsBytes b :=
  Impl.encode_bytes p ho b he

/-- Encoder against the independent reading, without going through the decoder: for every valid PDU with octet
payloads the encoding is an octet string that `Spec.decode` (LLCP 1.3 frame formats) reads back as that PDU. -/
theorem pdu_encoding_read_by_spec (p : Pdu) (hv : Valid p) (ho : Octets p) :
    ∃ b, Impl.encode p = .ok b ∧ IsBytes b ∧ Spec.decode b = some p := by
  obtain ⟨b, he, hd⟩ := Impl.roundtrip p hv
  have hb := Impl.encode_bytes p ho b he
  refine ⟨b, he, hb, ?_⟩
  rw [← Impl.decode_refines b hb, hd]
  rfl

/-! ## PDU objects: the property after any history of assignments and observations -/

open Obj in
/-- Observations (`encode`, `len`, `encode_header`, `==`, `str`, property and field reads) never change the
fields: the fields after a history are those after its assignments / appends alone. -/
theorem obj_observers_pure (p : Pdu) (ops : List Op) : final p ops = final p (ops.filter Op.mutates) :=
  final_filter p ops

open Obj in
/-- What an operation returns after ANY history `pre` is a function (`reply`) of the fields the object has then;
in particular `encode` after a history is `Impl.encode` of the current fields - no stale value. -/
theorem obj_reply_at (p : Pdu) (pre : List Op) (o : Op) (post : List Op) :
    (run p (pre ++ o :: post))[pre.length]? = some (reply (final p pre) o) :=
  run_at p pre o post

open Obj in
/-- Round trip and length at any point of any history: whenever the fields reached are valid, `encode` succeeds,
decoding the encoding returns exactly those fields, and `len` is the length of the encoding. -/
theorem obj_history_roundtrip (p : Pdu) (pre post : List Op) (hv : Valid (final p pre)) :
    ∃ b, (run p (pre ++ .enc :: .len :: post))[pre.length]? = some (.bytes (.ok b)) ∧
      (run p (pre ++ .enc :: .len :: post))[pre.length + 1]? = some (.nat b.length) ∧
      Impl.decode b = .ok (final p pre) ∧
      final p pre = final p (pre.filter Op.mutates) :=
  history_roundtrip p pre post hv

open Obj in
/-- An in-range assignment keeps a non-aggregate PDU valid: for every attribute of every class (values in the
range of the attribute; the fixed SAPs of SYMM/PAX/SNL/DPS kept), the five private PAX attributes, the PAX
property setters with ANY number (they mask), whole SDREQ/SDRES lists and appends to them. -/
theorem obj_assign_valid (a : Asg) (p : SPdu) (hv : ValidS p) (ha : AsgOk a) (hs : SapOk a p) :
    ValidS (assignS a p) :=
  assignS_valid a p hv ha hs

open Obj in
/-- the same for every operation on an object, including `agf.append` and assignments to an aggregated PDU -/
theorem obj_apply_valid (p : Pdu) (o : Op) (hv : Valid p) (ho : OpOk p o) : Valid (apply p o) :=
  apply_valid p o hv ho

open Obj in
/-- A valid object under a history of in-range operations (any observations in between): at the end - hence at
every point, `pre` being any prefix - `encode` succeeds, decoding returns the current fields, `len` is the
length of the encoding. -/
theorem obj_valid_history_roundtrip (p : Pdu) (pre post : List Op) (hv : Valid p) (hh : HistOk p pre) :
    ∃ b, (run p (pre ++ .enc :: .len :: post))[pre.length]? = some (.bytes (.ok b)) ∧
      (run p (pre ++ .enc :: .len :: post))[pre.length + 1]? = some (.nat b.length) ∧
      Impl.decode b = .ok (final p pre) ∧ Valid (final p pre) := by
  have hf := final_valid p pre hv hh
  obtain ⟨b, h1, h2, h3, _⟩ := history_roundtrip p pre post hf
  exact ⟨b, h1, h2, h3, hf⟩

/-- the encoder is injective on valid PDUs -/
theorem pdu_encode_injective (p q : Pdu) (hp : Valid p) (hq : Valid q) (h : Impl.encode p = Impl.encode q) : p = q := by
  obtain ⟨a, ea, da⟩ := Impl.roundtrip p hp
  obtain ⟨b, eb, db⟩ := Impl.roundtrip q hq
  rw [ea, eb] at h
  cases h
  rw [da] at db
  cases db
  rfl

/-- The library's `==` compares encodings.  On valid PDUs it never raises and it is equality of the field
values (so comparing PDUs in a queue, as `tco` does, compares fields). -/
theorem pdu_eq_iff_fields (p q : Pdu) (hp : Valid p) (hq : Valid q) :
    ∃ r, Obj.pduEq p q = .ok r ∧ (r = true ↔ p = q) := by
  obtain ⟨a, ea, _⟩ := Impl.roundtrip p hp
  obtain ⟨b, eb, _⟩ := Impl.roundtrip q hq
  refine ⟨a == b, by simp [Obj.pduEq, ea, eb], ?_⟩
  rw [beq_iff_eq]
  constructor
  · intro h
    exact pdu_encode_injective p q hp hq (by rw [ea, eb, h])
  · intro h
    subst h
    rw [ea] at eb
    cases eb
    rfl

/-! The OPT octet `… DPC LSC(2)` under the two setters: `lsc` replaces the low two bits, `dpc` bit 2. -/
theorem opt_lsc_lsc (x v : Nat) : (x / 4 * 4 + v % 4) % 4 = v % 4 := by omega
theorem opt_lsc_dpc (x v : Nat) : (x / 4 * 4 + v % 4) / 4 % 2 = x / 4 % 2 := by omega
theorem opt_dpc_dpc (x y v : Nat) :
    (x / 8 * 8 + y % 4 + (if v ≠ 0 then 4 else 0)) / 4 % 2 = if v ≠ 0 then 1 else 0 := by split <;> omega
theorem opt_dpc_lsc (x y v : Nat) : (x / 8 * 8 + y % 4 + (if v ≠ 0 then 4 else 0)) % 4 = y % 4 := by
  split <;> omega

open Obj in
/-- The PAX properties as `llc.activate` uses them: what the getters return after the setters, for every PAX PDU
and every number assigned. -/
theorem pax_property_set_get (d s : Nat) (a b c e f : Option Nat) (v x y : Nat) :
    paxGet .lsc (assignS (.n .lsc v) (.pax d s a b c e f)) = some (v % 4, 0) ∧
    paxGet .dpc (assignS (.n .lsc v) (.pax d s a b c e f)) = paxGet .dpc (.pax d s a b c e f) ∧
    paxGet .dpc (assignS (.n .dpc v) (.pax d s a b c e f)) = some (if v ≠ 0 then 1 else 0, 0) ∧
    paxGet .lsc (assignS (.n .dpc v) (.pax d s a b c e f)) = paxGet .lsc (.pax d s a b c e f) ∧
    paxGet .lto (assignS (.n .lto v) (.pax d s a b c e f)) = some (v / 10 % 256 * 10, 0) ∧
    paxGet .wks (assignS (.n .wks v) (.pax d s a b c e f)) = some (v % 65536, 0) ∧
    paxGet .miu (assignS (.n .miu v) (.pax d s a b c e f)) = some (max v 128, 0) ∧
    paxGet .version (assignS (.version x y) (.pax d s a b c e f)) = some (x % 16, y % 16) := by
  refine ⟨?_, ?_, ?_, ?_, rfl, rfl, ?_, ?_⟩
  · simp only [assignS, assignN, paxGet]
    rw [opt_lsc_lsc]
  · simp only [assignS, assignN, paxGet]
    rw [opt_lsc_dpc]
    cases f with
    | none => rfl
    | some o => show some (o % 256 / 4 % 2, 0) = some (o / 4 % 2, 0); congr 2; omega
  · simp only [assignS, assignN, paxGet]
    rw [opt_dpc_dpc]
  · simp only [assignS, assignN, paxGet]
    rw [opt_dpc_lsc]
    cases f <;> rfl
  · simp only [assignS, assignN, paxGet]
    congr 2; omega
  · simp only [assignS, paxGet]
    congr 2 <;> omega

open Obj in
theorem pax_lto_exact (d s : Nat) (a b c e f : Option Nat) (k : Nat) (hk : k ≤ 255) :
    paxGet .lto (assignS (.n .lto (10 * k)) (.pax d s a b c e f)) = some (10 * k, 0) :=
  Obj.pax_lto_exact d s a b c e f k hk

open Obj in
/-- the property setters produce valid parameters whatever number is assigned -/
theorem pax_setters_valid (p : SPdu) (hv : ValidS p) (v x y : Nat) :
    ValidS (assignS (.n .lsc v) p) ∧ ValidS (assignS (.n .dpc v) p) ∧ ValidS (assignS (.n .lto v) p) ∧
    ValidS (assignS (.n .wks v) p) ∧ ValidS (assignS (.version x y) p) :=
  Obj.pax_setters_valid p hv v x y

open Obj in
/-- `FrameReject.from_pdu`: the FRMR PDU built from a valid PDU, any subset of the flags "SRIW" and counters
0..15 has valid field values - hence `pdu_roundtrip` applies to it. -/
theorem frmr_from_pdu_valid (p : SPdu) (hv : ValidS p) (s r i w : Bool) (vs vsa vr vra : Nat)
    (h1 : vs ≤ 15) (h2 : vsa ≤ 15) (h3 : vr ≤ 15) (h4 : vra ≤ 15) :
    ValidS (frmrFromPdu p (flagList s r i w) vs vsa vr vra) := by
  obtain ⟨hd, hs, ht⟩ := validS_header hv
  have hf := flagList_le s r i w
  cases p with
  | info d s ns nr x => exact ⟨hs, hd, hf, ht, hv.2.2.1, hv.2.2.2, h1, h3, h2, h4⟩
  | rr d s nr => exact ⟨hs, hd, hf, ht, Nat.zero_le _, hv.2.2, h1, h3, h2, h4⟩
  | rnr d s nr => exact ⟨hs, hd, hf, ht, Nat.zero_le _, hv.2.2, h1, h3, h2, h4⟩
  | _ => exact ⟨hs, hd, hf, ht, Nat.zero_le _, Nat.zero_le _, h1, h3, h2, h4⟩

/-! Non-vacuity and the three repaired defects on concrete inputs. -/
example : Valid (.simple (.connect 4 32 130 0 (some [0x41, 0x42]))) := by simp [Valid, ValidS]
example : Valid (.agf 0 0 [.disc 1 2, .snl 1 1 [(1, [0x61])] [(2, 16)], .pax 0 0 (some 0x13) none (some 3) none (some 3)]) := by
  simp [Valid, ValidS, Impl.lenS, Impl.optLen, Impl.sumMap]
/-- F4: RW = 0 gets its TLV (the unrepaired code produced `11 20` and the peer assumed RW = 1) -/
example : Impl.encode (.simple (.connect 4 32 128 0 none)) = .ok [0x11, 0x20, 5, 1, 0] := by decide
example : Impl.decode [0x11, 0x20, 5, 1, 0] = .ok (.simple (.connect 4 32 128 0 none)) := by decide
example : Impl.len (.simple (.connect 4 32 128 0 none)) = 5 := by decide
/-- F5: CONNECT with a cut MIUX TLV inside an aggregate; the unrepaired code read the value `00 02`
from the length field of the next element -/
example : Impl.decode [0, 0x80, 0, 4, 0x11, 0x20, 2, 2, 0, 2, 0x05, 0x40] = .error .decodeError := by decide
example : Impl.decodeAt [0x11, 0x20, 6, 4, 0x41, 0x42, 0x43, 0x44] 0 4 = .error .decodeError := by decide
/-- F6: an aggregate inside an aggregate is refused, whatever the depth -/
example : Impl.decode [0, 0x80, 0, 6, 0, 0x80, 0, 2, 0, 0x80] = .error .decodeError := by decide
example : Impl.decode [0, 0x80, 0, 2, 0x05, 0x41, 0, 3, 0x0F, 0x44, 0x05] =
    .ok (.agf 0 0 [.disc 1 1, .rr 3 4 5]) := by decide
example : Impl.decode [0x03] = .error .decodeError := by decide
example : Spec.decode [0x43, 0x20, 0x35, 1, 2] = some (.simple (.info 16 32 3 5 [1, 2])) := by decide
example : IsBytes [0x11, 0x20, 6, 0, 2, 2, 0, 5] := by decide
example : Octets (.agf 0 0 [.ui 1 2 [0xFF, 0], .connect 4 32 130 0 (some [0x41, 0x42]), .snl 1 1 [(1, [0x61])] []]) := by
  simp [Octets, OctetsS, IsBytes]
/-- an empty service name is decoded as `some []` and re-encodes as absent (normal form) -/
example : Impl.decode [0x11, 0x20, 6, 0, 2, 2, 0, 5] = .ok (.simple (.connect 4 32 133 1 (some []))) := by decide
example : norm (.simple (.connect 4 32 133 1 (some []))) = .simple (.connect 4 32 133 1 none) := by decide
example : Impl.encode (.simple (.connect 4 32 133 1 (some []))) = .ok [0x11, 0x20, 2, 2, 0, 5] := by decide
example : Spec.decode [0, 0x80, 0, 4, 0x11, 0x20, 6, 0] = some (.agf 0 0 [.connect 4 32 128 1 (some [])]) := by decide

/-! objects: the send path of a data link connection (N(S) at `send()`, `==` in the queue, N(R) at dequeue) -/
section
open Obj
example : run (.simple (.info 32 16 0 0 [0x68, 0x69]))
    [.enc, .set (.n .ns 3), .eq (.simple (.info 32 16 3 0 [0x68, 0x69])), .set (.n .nr 7), .enc, .len, .state] =
    [.bytes (.ok [0x83, 0x10, 0x00, 0x68, 0x69]), .none, .bool (.ok true), .none,
     .bytes (.ok [0x83, 0x10, 0x37, 0x68, 0x69]), .nat 5, .pdu (.simple (.info 32 16 3 7 [0x68, 0x69]))] := by decide
example : HistOk (.simple (.info 32 16 0 0 [0x68, 0x69]))
    [.enc, .set (.n .ns 3), .eq (.simple (.info 32 16 3 0 [0x68, 0x69])), .set (.n .nr 7)] := by
  simp [HistOk, OpOk, AsgOk, SapOk, apply, assignS, assignN]
example : Valid (final (.simple (.info 32 16 0 0 [0x68, 0x69])) [.enc, .set (.n .ns 3), .len, .set (.n .nr 7)]) := by
  simp [final, apply, assignS, assignN, Valid, ValidS]
/-- the PAX PDU as `llc.activate` fills it -/
example : final (.simple (.pax 0 0 none none none none none))
    [.set (.version 1 3), .set (.n .wks 0x13), .set (.n .miu 2175), .set (.n .lto 500), .set (.n .lsc 3), .set (.n .dpc 1)] =
    .simple (.pax 0 0 (some 0x13) (some 0x7FF) (some 0x13) (some 50) (some 7)) := by decide
example : HistOk (.agf 0 0 [.disc 1 2]) [.append (.rr 1 2 3), .enc, .setItem 1 (.n .nr 5)] := by
  simp [HistOk, OpOk, AsgOk, SapOk, ValidS, Impl.lenS, apply, assignS, assignN]
example : run (.agf 0 0 [.disc 1 2]) [.append (.rr 1 2 3), .setItem 1 (.n .nr 5), .enc, .len] =
    [.none, .none, .bytes (.ok [0, 0x80, 0, 2, 5, 0x42, 0, 3, 7, 0x42, 5]), .nat 11] := by decide
/-- a PAX parameter that holds its default value is still encoded and counted (LTO = 10, i.e. 100 ms) -/
example : Impl.encode (.simple (.pax 0 0 none none none (some 10) none)) = .ok [0, 0x40, 4, 1, 10] := by decide
example : Impl.len (.simple (.pax 0 0 none none none (some 10) none)) = 5 := by decide
example : Obj.pduEq (.simple (.rr 1 2 3)) (.simple (.rr 1 2 4)) = .ok false := by decide
example : frmrFromPdu (.info 32 16 5 9 [1]) (flagList false false false true) 1 2 3 4 = .frmr 16 32 8 12 5 9 1 3 2 4 := by decide
end

end NfcVerif.C11
