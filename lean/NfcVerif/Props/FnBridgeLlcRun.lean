import NfcVerif.Lemmas.FnBridgeLlcRun
import NfcVerif.Lemmas.PeerDispatch
import NfcVerif.Props.C09
import NfcVerif.Props.C10
/-!
# Bridge theorems, group LlcRun (`nfc/llcp/llc.py` run-loop decisions -> `Gen/FnLlcRun.lean` -> `Model/PeerDispatch.lean`,
`Model/Sap.lean`, `Model/Collect.lean`, `Model/Term.lean`, `Model/FnLlcRunRef.lean`)

Properties C07 (octets of the peer neither crash nor hang the link loop), C09 (the end of the link), C10 (nothing
sent exceeds the peer's MIU; aggregation is transparent).  The cuts are listed in `harness/fnspecs/llcrun.py` and in
the doc comments of `Gen/FnLlcRun.lean`; the compositions `<f>Gen` are in `Lemmas/FnBridgeLlcRun.lean`.  Kinds of
statements:

* `<cut>_bridge`: a regenerated decision equals the condition the model uses (PDU objects through the class constant
  `nameOf`, modes through `modeCode`, table entries as None / marker);
* `sap_enqueue_bridge`, `deliver_bridge`, `dispatch_s_bridge`, `dispatch_all_bridge`, `dispatch_bridge` (C07 model),
  `sap_target_bridge` (C17 model), `raw_first_bridge`, `first_sendack_bridge`, `encrypt_bridge`, `agg_pass_bridge`,
  `agg_loop_bridge`, `agg_acks_bridge`, `aggregate_bridge`, `collect_bridge` (C10 model): the model functions equal the
  skeletons in which every decision is regenerated code;
* `run_*_bridge`, `crypto_bridge`, `terminate_*_bridge`: regenerated run-loop decisions against `Model/Term.lean` and
  the reference definitions of `Model/FnLlcRunRef.lean`;
* `gen_*`: statements of C07 / C09 / C10 restated for the regenerated code.
-/
namespace NfcVerif.FnBridge.LlcRun
open NfcVerif NfcVerif.PyFn NfcVerif.Pdu NfcVerif.FnLlcRunRef NfcVerif.Collect

/-! ## received PDUs (C07) -/

/-- `l[i]` for a natural index -/
theorem idx_nat {α} (l : List α) (i : Nat) : idx l (i : Int) = idxN l i := idx_ofNat l i

/-- the selection test of `ServiceAccessPoint.enqueue` on a socket's `peer` attribute -/
theorem enqueue_peer_sel (ssap : Nat) (peer : Option Nat) :
    Gen.Fn.lr_enqueue_peer_sel (ssap : Int) peer.isNone ((peer.getD 0 : Nat) : Int) = decide (peer = some ssap ∨ peer = none) := by
  unfold Gen.Fn.lr_enqueue_peer_sel
  cases peer with
  | none => simp
  | some v =>
    simp only [Option.isNone_some, Option.getD_some, Bool.false_eq_true, or_false, reduceCtorEq, Option.some.injEq]
    congr 1
    apply propext
    constructor <;> intro h <;> omega

/-- the socket of a service access point selected for a PDU that is not a CONNECT: its peer is the sender, or it is
not connected -/
theorem peer_sel_bridge (p : SPdu) (s : Peer.Sock) :
    peerSel p s = decide (s.peer = some p.ssap ∨ s.peer = none) :=
  enqueue_peer_sel p.ssap s.peer

theorem dm_args_bridge (p : SPdu) :
    dmOf (Gen.Fn.lr_enqueue_dm_no_listener p.ssap p.dsap) = .dm p.ssap p.dsap 2
    ∧ dmOf (Gen.Fn.lr_enqueue_dm_no_peer p.ssap p.dsap) = .dm p.ssap p.dsap 1 := by
  unfold dmOf Gen.Fn.lr_enqueue_dm_no_listener Gen.Fn.lr_enqueue_dm_no_peer
  simp

/-- `ServiceAccessPoint.enqueue` of the C07 model is the regenerated selection and DM arguments around the socket
loop -/
theorem sap_enqueue_bridge (f : Peer.Fix) (sap : Peer.Sap) (p : SPdu) :
    Peer.sapEnqueue f sap p = sapEnqueueGen f sap p := by
  have hs : (fun s => decide (s.peer = some p.ssap ∨ s.peer = none)) = peerSel p := by
    funext s; exact (peer_sel_bridge p s).symm
  unfold Peer.sapEnqueue sapEnqueueGen
  cases p <;> simp only [(dm_args_bridge _).1, (dm_args_bridge _).2, ← hs] <;> rfl

theorem enc_tab_get (tab : List Peer.Entry) (i : Nat) :
    idxN (encTab tab) i = (idxN tab i >>= fun e => .ok (match e with | .empty => none | _ => some 1)) := by
  unfold idxN encTab
  rw [List.getElem?_map]
  cases tab[i]? <;> rfl

/-- the routing at the end of `dispatch`: table lookup, truth test of the entry, enqueue -/
theorem deliver_bridge (f : Peer.Fix) (w : Peer.Llc) (p : SPdu) : Peer.deliver f w p = deliverGen f w p := by
  unfold Peer.deliver deliverGen Gen.Fn.lr_dispatch_sap_at Gen.Fn.lr_dispatch_sap_ok
  rw [idx_nat, enc_tab_get]
  unfold idxN
  cases h : w.tab[p.dsap]? with
  | none => rfl
  | some e =>
    cases e with
    | empty => simp
    | sdp dm n => simp <;> rfl
    | sap s => simp [sap_enqueue_bridge]

theorem reject_by_name_bridge (w : Peer.Llc) (ssap : Nat) (sn : Option Bytes) :
    Peer.rejectByName w ssap sn = rejectByNameGen w ssap sn := by
  unfold Peer.rejectByName rejectByNameGen Gen.Fn.llc_dispatch_dm_reason
  cases sn <;> rfl

theorem bin4_not_name (t : Nat) :
    bin4 t ≠ "SYMM" ∧ bin4 t ≠ "AGF" ∧ bin4 t ≠ "CONNECT" ∧ bin4 t ≠ "UI" ∧ bin4 t ≠ "I" := by
  unfold bin4
  split <;> decide

/-- which PDUs `dispatch` ignores, unpacks, treats as connect-by-name: the regenerated name tests on the class
constant `name` select exactly the constructors the model matches on -/
theorem name_tests_bridge (p : SPdu) :
    (Gen.Fn.lr_dispatch_ignore false (nameOf p) = match p with | .symm .. => true | _ => false)
    ∧ Gen.Fn.lr_dispatch_is_agf (nameOf p) = false
    ∧ (Gen.Fn.lr_dispatch_by_name (nameOf p) (p.dsap : Int)
        = match p with | .connect d .. => decide (d = 1) | _ => false) := by
  have hb := bin4_not_name
  cases p <;> simp [Gen.Fn.lr_dispatch_ignore, Gen.Fn.lr_dispatch_is_agf, Gen.Fn.lr_dispatch_by_name, nameOf, SPdu.dsap, hb]
  constructor <;> intro h <;> omega

theorem dispatch_s_bridge (f : Peer.Fix) (w : Peer.Llc) (p : SPdu) : Peer.dispatchS f w p = dispatchSGen f w p := by
  unfold dispatchSGen
  rw [(name_tests_bridge p).1, (name_tests_bridge p).2.2]
  cases p with
  | symm d s => rfl
  | connect d ssap miu rwv sn =>
    by_cases hd : d = 1
    · subst hd
      simp only [Peer.dispatchS, Bool.false_eq_true, if_false, decide_true, if_true, ← deliver_bridge,
        ← reject_by_name_bridge, enc_tab_get, Gen.Fn.llc_dispatch_unknown]
      cases hl : Peer.lookupName w.snl sn with
      | none => simp
      | some a =>
        by_cases ha : a = 0
        · subst ha; simp
        · cases a with
          | zero => exact absurd rfl ha
          | succ k =>
            simp only [Nat.succ_ne_zero, if_false, Option.getD_some]
            cases hi : idxN w.tab (k + 1) with
            | error e => rfl
            | ok e =>
              have hk : ¬ ((k : Int) + 1 = 0) := by omega
              cases e <;> simp [hk]
    · simp only [hd, decide_false, Bool.false_eq_true, if_false, ← deliver_bridge]
      unfold Peer.dispatchS
      split
      · rename_i h; cases h
      · rename_i h; injection h with h1; exact absurd h1 hd
      · rfl
  | _ => simp only [Bool.false_eq_true, if_false, ← deliver_bridge]; rfl

theorem dispatch_all_bridge (f : Peer.Fix) (w : Peer.Llc) (ps : List SPdu) :
    Peer.dispatchAll f w ps = dispatchAllGen f w ps := by
  induction ps generalizing w with
  | nil => rfl
  | cons p ps ih =>
    simp only [Peer.dispatchAll, dispatchAllGen, dispatch_s_bridge]
    cases dispatchSGen f w p with
    | error e => rfl
    | ok r => cases r <;> simp [ih]

/-- `LogicalLinkController.dispatch` of the C07 model is the regenerated decision code -/
theorem dispatch_bridge (f : Peer.Fix) (w : Peer.Llc) (p : Pdu) : Peer.dispatch f w p = dispatchGen f w p := by
  unfold Peer.dispatch dispatchGen
  cases p with
  | simple q =>
    simp only [nameOfPdu, (name_tests_bridge q).2.1, Bool.false_eq_true, if_false, ← dispatch_s_bridge]
    rw [(name_tests_bridge q).1]
    cases q <;> simp [Peer.dispatchS]
  | agf d s items =>
    simp only [nameOfPdu, Gen.Fn.lr_dispatch_ignore, Gen.Fn.lr_dispatch_is_agf, Gen.Fn.lr_dispatch_agf_ok,
      ← dispatch_all_bridge]
    by_cases h : d = 0 ∧ s = 0 <;> simp [h]

/-- C07 `dispatch_total` for the regenerated decision code: any PDU whose DSAP fields are SAP numbers, any well
formed table - no exception, never waits, the table stays well formed -/
theorem gen_dispatch_total (f : Peer.Fix) (hf : f.f39 = true) (w : Peer.Llc) (hw : Peer.LlcOk w) (p : Pdu)
    (hp : Peer.PduOk p) : ∃ w', dispatchGen f w p = .ok (some w') ∧ Peer.LlcOk w' := by
  rw [← dispatch_bridge]; exact Peer.dispatch_total f hf w hw p hp

/-- C07 `linkloop_never_waits` for the regenerated decision code -/
theorem gen_dispatch_never_waits (f : Peer.Fix) (hf : f.f39 = true) (w : Peer.Llc) (p : Pdu) :
    dispatchGen f w p ≠ .ok none := by
  rw [← dispatch_bridge]; exact Peer.dispatch_never_waits f hf w p

/-! ## the address table model of C17 (`Model/Sap.lean`) reads the same decisions -/

theorem sap_target_bridge (c : Sap.Llc) (e : Sap.SapEntry) (p : Sap.Pdu) : Sap.target c e p = sapTargetGen c e p := by
  unfold Sap.target sapTargetGen
  rw [show sapPeerSel c p = fun id => decide ((c.sock id).peer = some p.ssap ∨ (c.sock id).peer = none) from
    funext fun id => enqueue_peer_sel p.ssap (c.sock id).peer]

/-- `insert_socket`: the new socket is the FIRST of `sock_list` - the one `enqueue` / `dequeue` ask first
(`Sap.SapEntry.socks`: "front = most recently inserted") -/
theorem insert_socket_bridge (sock : Nat) (socks : List Nat) :
    Gen.Fn.lr_insert_socket (sock : Int) (socks.map (fun (i : Nat) => (i : Int))) = (sock :: socks).map (fun (i : Nat) => (i : Int)) := by
  rfl

/-- `remove_socket`: the socket is erased from `sock_list` (`Sap.removeSocket`: `e.socks.erase id`); ValueError (ignored
by the handler) when it is not there -/
theorem remove_socket_bridge (sock : Int) (socks : List Int) :
    Gen.Fn.lr_remove_socket sock socks = if sock ∈ socks then .ok (socks.erase sock) else .error .value := by
  unfold Gen.Fn.lr_remove_socket PyFn.removeFirst
  by_cases h : sock ∈ socks <;> simp [h]

/-- the service access point disappears with its last socket, and with it exactly the service names bound to its
address (`Sap.removeSocket`: `rest = []`, `snl.filter (q.2 != a)`) -/
theorem remove_last_bridge (rest : List Nat) (a b : Nat) :
    Gen.Fn.lr_remove_last (rest.map (fun (i : Nat) => (i : Int))) = decide (rest = [])
    ∧ Gen.Fn.lr_remove_name (b : Int) (a : Int) = !(b != a) := by
  unfold Gen.Fn.lr_remove_last Gen.Fn.lr_remove_name
  constructor
  · cases rest <;> simp [len_eq]; omega
  · by_cases h : b = a
    · simp [h]
    · have : ¬ ((b : Int) = (a : Int)) := by omega
      simp [h, this]

/-! ## `ServiceAccessPoint.mode` and its uses in `collect` (C10) -/

/-- the `mode` property: the regenerated `try` body on the class of the first socket, the regenerated handler for an
empty list -/
theorem sap_mode_bridge (s : Collect.Sap) :
    (match s.socks with
     | [] => Gen.Fn.lr_sap_mode_empty
     | k :: _ => (Gen.Fn.lr_sap_mode (match k with | .raw _ => true | _ => false)
                    (match k with | .ldl .. => true | _ => false) (match k with | .dlc .. => true | _ => false)).getD 0)
      = modeCode s.mode := by
  unfold Collect.Sap.mode
  cases s.socks with
  | nil => rfl
  | cons k r => cases k <;> rfl

theorem mode_tests_bridge (m : Collect.Mode) :
    Gen.Fn.lr_collect_raw_key (modeCode m) = decide (m = .raw ∨ m = .none)
    ∧ Gen.Fn.lr_collect_dlc_mode0 (modeCode m) = decide (m = .dlc)
    ∧ Gen.Fn.lr_collect_dlc_mode1 (modeCode m) = decide (m = .dlc) := by
  cases m <;> exact ⟨by decide, by decide, by decide⟩

/-! ## run loops and `terminate()` (C07, C09) -/

theorem run_timeout_bridge (lto : Int) :
    Gen.Fn.lr_run_timeout_ms lto = recvTimeoutMs lto ∧ Gen.Fn.lr_run_timeout_ms_t lto = recvTimeoutMs lto := ⟨rfl, rfl⟩

/-- the local receive timeout is strictly longer than the link timeout the peer announced: a peer that answers
within its LTO is never taken for a broken link -/
theorem gen_timeout_exceeds_lto (lto : Int) : Gen.Fn.lr_run_timeout_ms lto > lto ∧ Gen.Fn.lr_run_timeout_ms_t lto > lto := by
  unfold Gen.Fn.lr_run_timeout_ms Gen.Fn.lr_run_timeout_ms_t; omega

/-- the key agreement goes on iff neither DPS check fails iff the DPS PDU is well formed (both roles) -/
theorem run_dps_bridge (ecpk rn : Bytes) :
    (!Gen.Fn.lr_run_ecpk_bad ecpk && !Gen.Fn.lr_run_rn_bad rn) = dpsAcceptable ecpk rn
    ∧ (!Gen.Fn.lr_run_ecpk_bad_t ecpk && !Gen.Fn.lr_run_rn_bad_t rn) = dpsAcceptable ecpk rn := by
  unfold Gen.Fn.lr_run_ecpk_bad Gen.Fn.lr_run_rn_bad Gen.Fn.lr_run_ecpk_bad_t Gen.Fn.lr_run_rn_bad_t dpsAcceptable
  have h1 : (ecpk ≠ [] ∧ PyFn.len ecpk = 64) ↔ ecpk.length = 64 := by
    rw [len_eq]; cases ecpk <;> simp; omega
  have h2 : (rn ≠ [] ∧ PyFn.len rn = 8) ↔ rn.length = 8 := by
    rw [len_eq]; cases rn <;> simp; omega
  simp only [h1, h2]
  by_cases a : ecpk.length = 64 <;> by_cases b : rn.length = 8 <;> simp [a, b]

/-- C07: a DPS PDU with an ECPK or RN of the wrong size never reaches `calculate_session_key`: one of the two checks
that end the run loop with `terminate()` fires -/
theorem gen_bad_dps_terminates (ecpk rn : Bytes) (h : ecpk.length ≠ 64 ∨ rn.length ≠ 8) :
    Gen.Fn.lr_run_ecpk_bad ecpk = true ∨ Gen.Fn.lr_run_rn_bad rn = true := by
  rcases h with h | h
  · left; unfold Gen.Fn.lr_run_ecpk_bad; simp [len_eq]; right; omega
  · right; unfold Gen.Fn.lr_run_rn_bad; simp [len_eq]; right; omega

theorem run_symm_bridge (symm : Int) (p : SPdu) :
    Gen.Fn.lr_run_symm_count symm (nameOf p) = symmCount symm (match p with | .symm .. => true | _ => false)
    ∧ ∀ b, Gen.Fn.lr_run_symm_count_t symm b = symmCount symm b := by
  constructor
  · unfold Gen.Fn.lr_run_symm_count symmCount
    have hb := fun t => (bin4_not_name t).1
    cases p <;> simp [nameOf, hb]
  · intro b; unfold Gen.Fn.lr_run_symm_count_t symmCount; cases b <;> simp

theorem run_idle_bridge (symm : Int) (nothing : Bool) :
    Gen.Fn.lr_run_idle symm nothing = idleBackoff nothing symm ∧ Gen.Fn.lr_run_idle_t symm nothing = idleBackoff nothing symm := by
  unfold Gen.Fn.lr_run_idle Gen.Fn.lr_run_idle_t idleBackoff
  cases nothing <;> simp

theorem crypto_bridge (sec : Bool) (name : String) :
    Gen.Fn.lr_dispatch_decrypt sec name = needsCrypto sec name ∧ Gen.Fn.lr_collect_encrypt0 sec name = needsCrypto sec name
    ∧ Gen.Fn.lr_collect_encrypt1 sec name = needsCrypto sec name := by
  unfold Gen.Fn.lr_dispatch_decrypt Gen.Fn.lr_collect_encrypt0 Gen.Fn.lr_collect_encrypt1 needsCrypto
  cases sec <;> simp

/-- C10 (aggregation transparent under secure data transfer): the receiver decrypts exactly the PDUs the sender
encrypted - the three regenerated conditions agree -/
theorem gen_decrypt_iff_encrypt (sec : Bool) (name : String) :
    Gen.Fn.lr_dispatch_decrypt sec name = Gen.Fn.lr_collect_encrypt0 sec name
    ∧ Gen.Fn.lr_dispatch_decrypt sec name = Gen.Fn.lr_collect_encrypt1 sec name := ⟨rfl, rfl⟩

/-- the `finally` clause of both run loops is `Term.finallyTerminates` -/
theorem run_finally_bridge (l : Term.Link) :
    Gen.Fn.lr_run_finally (l == .shutdown) = Term.finallyTerminates l
    ∧ Gen.Fn.lr_run_finally_t (l == .shutdown) = Term.finallyTerminates l := by
  cases l <;> exact ⟨by decide, by decide⟩

theorem run_go_on_bridge (t : Bool) : Gen.Fn.lr_run_go_on t = !t ∧ Gen.Fn.lr_run_go_on_t t = !t := by
  cases t <;> exact ⟨rfl, rfl⟩

/-- `terminate()` visits the address table from 63 down to 0 -/
theorem terminate_order_bridge :
    Gen.Fn.lr_terminate_order = .ok (shutdownOrder.map (fun (i : Nat) => (i : Int))) := by
  decide +kernel

/-- C09 (`late_bind_never_leaks`): the steps of `Term.termSteps` behind the flag are the regenerated order -/
theorem gen_term_steps : Term.termSteps = .setFlag :: (shutdownOrder.map Term.TStep.shut) := rfl

/-- only live entries of the address table are shut down -/
theorem terminate_live_bridge (tab : List (Option Int)) (i : Nat) :
    Gen.Fn.lr_terminate_live (i : Int) tab
      = match tab[i]? with | some e => .ok e.isSome | none => .error .index := by
  unfold Gen.Fn.lr_terminate_live
  rw [idx_nat]
  unfold idxN
  cases tab[i]? with
  | none => rfl
  | some e => cases e <;> rfl

/-! ## `collect()` (C10) -/

theorem raw_first_bridge (es : List Ent) : rawFirst es = rawFirstGen es := by
  unfold rawFirst rawFirstGen
  simp only [(mode_tests_bridge _).1, decide_not]
  rfl

theorem first_sendack_bridge (es : List Ent) : firstSendack es = firstSendackGen es := by
  induction es with
  | nil => rfl
  | cons e rest ih =>
    simp only [firstSendack, firstSendackGen, (mode_tests_bridge _).2.1, decide_eq_true_eq, ih]
    rfl

theorem icv_bridge (sec : Option Nat) :
    (Gen.Fn.llc_collect_icv sec.isSome ((sec.getD 0 : Nat) : Int)).toNat = icvOf sec := by
  unfold Gen.Fn.llc_collect_icv icvOf
  cases sec <;> simp

theorem kind_name_data (k : Kind) : (kindName k = "UI" ∨ kindName k = "I") ↔ (k = .ui ∨ k = .i) := by
  cases k <;> simp [kindName]

/-- `encrypt()` is applied to exactly the PDUs the regenerated condition selects, and grows them by the regenerated
ICV size -/
theorem encrypt_bridge (sec : Option Nat) (p : QPdu) :
    p.encrypt sec = encryptGen Gen.Fn.lr_collect_encrypt0 sec p ∧ p.encrypt sec = encryptGen Gen.Fn.lr_collect_encrypt1 sec p := by
  unfold QPdu.encrypt encryptGen Gen.Fn.lr_collect_encrypt0 Gen.Fn.lr_collect_encrypt1
  rw [icv_bridge]
  cases sec with
  | none => simp
  | some n =>
    simp only [Option.isSome_some, true_and, kind_name_data, decide_eq_true_eq, icvOf]

theorem agg_pass_bridge (sendMiu : Nat) (sec : Option Nat) (es : List Ent) (subs : List QPdu) (b : Bool) :
    aggPass sendMiu sec es subs b = aggPassGen sendMiu sec es subs b := by
  induction es generalizing subs b with
  | nil => rfl
  | cons e rest ih =>
    simp only [aggPass, aggPassGen, icv_bridge, ← (encrypt_bridge sec _).2, Gen.Fn.lr_collect_pass_stop, budgetGen,
      Gen.Fn.llc_collect_budget1, decide_eq_true_eq, ih]
    rfl

theorem agg_loop_bridge (sendMiu : Nat) (sec : Option Nat) (fuel : Nat) (es : List Ent) (subs : List QPdu) :
    aggLoop sendMiu sec fuel es subs = aggLoopGen sendMiu sec fuel es subs := by
  induction fuel generalizing es subs with
  | zero => rfl
  | succ k ih =>
    simp only [aggLoop, aggLoopGen, agg_pass_bridge, Gen.Fn.lr_collect_loop_go, Gen.Fn.lr_collect_loop_stop,
      decide_eq_true_eq, ih]
    by_cases h : budget sendMiu subs < 0
    · have : ¬ (budget sendMiu subs ≥ 0) := by omega
      simp [h, this]
    · have : budget sendMiu subs ≥ 0 := by omega
      simp [h, this]

theorem agg_acks_bridge (sendMiu : Nat) (es : List Ent) (subs : List QPdu) :
    aggAcks sendMiu es subs = aggAcksGen sendMiu es subs := by
  induction es generalizing subs with
  | nil => rfl
  | cons e rest ih =>
    simp only [aggAcks, aggAcksGen, (mode_tests_bridge _).2.2, Gen.Fn.lr_collect_acks_stop, budgetGen,
      Gen.Fn.llc_collect_budget2, decide_eq_true_eq, ih]
    rfl

theorem aggregate_bridge (es : List Ent) (sendMiu : Nat) (sec : Option Nat) (p : QPdu) :
    aggregate es sendMiu sec p = aggregateGen es sendMiu sec p := by
  unfold aggregate aggregateGen resultGen Gen.Fn.lr_collect_acks_go Gen.Fn.lr_collect_result
  have hc : ∀ n : Nat, ((n : Int) > 1) ↔ n > 1 := by intro n; omega
  simp only [agg_loop_bridge, agg_acks_bridge, decide_eq_true_eq, hc]

/-- `LogicalLinkController.collect()` of the C10 model is the regenerated decision code around the socket level
(`Sock.dequeue` / `sendack`: group Tco).  Hypothesis: the first PDU's length includes its header (the model subtracts
in `Nat`, Python in `int`) - true of every PDU the models queue. -/
theorem collect_bridge (es : List Ent) (sendMiu : Nat) (sec : Option Nat) (agf : Bool)
    (hlen : ∀ p0, (firstDequeue sendMiu (rawFirst es) es).1 = some p0 → p0.hdr ≤ p0.len) :
    collect es sendMiu sec agf = collectGen es sendMiu sec agf := by
  unfold collect collectGen
  rw [← raw_first_bridge]
  rcases hfd : firstDequeue (sendMiu : Int) (rawFirst es) es with ⟨r, es1⟩
  rw [hfd] at hlen
  simp only []
  cases r with
  | some p0 =>
    have h0 := hlen p0 rfl
    simp only [← (encrypt_bridge sec p0).1, ← aggregate_bridge, Gen.Fn.llc_collect_first_full, Gen.Fn.lr_collect_no_agf,
      decide_eq_true_eq]
    have hh : (p0.encrypt sec).hdr ≤ (p0.encrypt sec).len := by
      unfold QPdu.encrypt; cases sec with
      | none => exact h0
      | some n => simp only []; split <;> (try simp only []) <;> omega
    have e : (((p0.encrypt sec).info : Nat) : Int) = ((p0.encrypt sec).len : Int) - ((p0.encrypt sec).hdr : Int) := by
      unfold QPdu.info; omega
    rw [e]
    cases agf <;> simp
  | none =>
    simp only [← first_sendack_bridge, ← aggregate_bridge, Gen.Fn.lr_collect_no_agf]
    cases hk : (firstSendack es1).1 with
    | none => simp
    | some p => cases agf <;> simp

/-- the remaining one-line decisions: a PDU is decoded only when the MAC returned data; the key agreement runs iff
secure data transfer was negotiated (`secure_data_transfer`, group Llc: the same reading of `cfg['llcp-dpc']` in
both run loops); the DISC PDU of `terminate()` only after a local decision -/
theorem misc_bridge (data : Option Bytes) (dpc : Int) (b : Bool) :
    Gen.Fn.lr_exchange_has_data data = data.isSome
    ∧ Gen.Fn.lr_run_secure dpc = Gen.Fn.llc_secure_data_transfer dpc
    ∧ Gen.Fn.lr_run_secure_t dpc = Gen.Fn.llc_secure_data_transfer dpc
    ∧ Gen.Fn.lr_terminate_disc b = b := by
  refine ⟨?_, rfl, rfl, ?_⟩
  · cases data <;> rfl
  · cases b <;> rfl

/-! ## statements of C09 / C10 for the regenerated code -/

/-- C09 `late_bind_never_leaks` for the regenerated shutdown order: a socket bound by an application thread while
`terminate()` runs (flag first, then the table in the regenerated order) is refused or shut down, never leaked -/
theorem gen_late_bind_never_leaks (k a : Nat) (ha : a < 64) (order : List Int)
    (h : Gen.Fn.lr_terminate_order = .ok order) :
    Term.lateBind (.setFlag :: order.map (fun i => Term.TStep.shut i.toNat)) k a ≠ .leaked := by
  rw [terminate_order_bridge] at h
  injection h with h
  subst h
  have e : (shutdownOrder.map (fun (i : Nat) => (i : Int))).map (fun i => Term.TStep.shut i.toNat)
      = shutdownOrder.map Term.TStep.shut := by
    rw [List.map_map]; congr 1
  rw [e, ← gen_term_steps]
  exact C09.late_bind_never_leaks k a ha

/-- C10 `collect_frame_bound` for `collectGen`: the frame the regenerated decision code returns has an information
field of at most the MIU (plus the ICV of a single encrypted UI / I PDU) -/
theorem gen_collect_frame_bound (es : List Ent) (M : Nat) (sec : Option Nat) (agf : Bool) (hes : EntsOk es) (hM : 3 ≤ M)
    (hlen : ∀ p0, (firstDequeue M (rawFirst es) es).1 = some p0 → p0.hdr ≤ p0.len)
    (f : Frame) (es' : List Ent) (h : collectGen es M sec agf = (some f, es')) : f.info ≤ M + f.slack sec := by
  rw [← collect_bridge es M sec agf hlen] at h
  exact C10.collect_frame_bound es M sec agf hes hM f es' h

/-! ## non-vacuity: the regenerated decisions on concrete inputs -/
example : Gen.Fn.lr_dispatch_ignore false "SYMM" = true ∧ Gen.Fn.lr_dispatch_ignore false "UI" = false := by decide
example : Gen.Fn.lr_dispatch_by_name "CONNECT" 1 = true ∧ Gen.Fn.lr_dispatch_by_name "CONNECT" 4 = false := by decide
example : Gen.Fn.lr_dispatch_agf_ok 0 0 = true ∧ Gen.Fn.lr_dispatch_agf_ok 0 1 = false := by decide
example : Gen.Fn.lr_dispatch_sap_at [some 1, none] 1 = .ok none ∧ Gen.Fn.lr_dispatch_sap_at [some 1, none] 2 = .error .index := by
  decide
example : Gen.Fn.lr_enqueue_peer_sel 32 false 32 = true ∧ Gen.Fn.lr_enqueue_peer_sel 32 false 33 = false
    ∧ Gen.Fn.lr_enqueue_peer_sel 32 true 0 = true := by decide
example : Gen.Fn.lr_enqueue_dm_no_listener 32 16 = (32, 16, 2) ∧ Gen.Fn.lr_enqueue_dm_no_peer 32 16 = (32, 16, 1) := by decide
example : Gen.Fn.lr_insert_socket 7 [3, 5] = [7, 3, 5] := by decide
example : Gen.Fn.lr_remove_socket 3 [3, 5] = .ok [5] ∧ Gen.Fn.lr_remove_socket 4 [3, 5] = .error .value := by decide
example : Gen.Fn.lr_sap_mode false false true = some 2 ∧ Gen.Fn.lr_sap_mode_empty = 0 := by decide
example : Gen.Fn.lr_run_timeout_ms 500 = 510 := by decide
example : Gen.Fn.lr_run_ecpk_bad (List.replicate 64 1) = false ∧ Gen.Fn.lr_run_ecpk_bad (List.replicate 63 1) = true
    ∧ Gen.Fn.lr_run_ecpk_bad [] = true := by decide
example : Gen.Fn.lr_run_symm_count 3 "SYMM" = 4 ∧ Gen.Fn.lr_run_symm_count 3 "I" = 3 := by decide
example : Gen.Fn.lr_run_idle 10 true = true ∧ Gen.Fn.lr_run_idle 9 true = false ∧ Gen.Fn.lr_run_idle 10 false = false := by decide
example : Gen.Fn.lr_collect_encrypt0 true "UI" = true ∧ Gen.Fn.lr_collect_encrypt0 true "RR" = false
    ∧ Gen.Fn.lr_collect_encrypt0 false "I" = false := by decide
example : Gen.Fn.lr_collect_no_agf false false = true ∧ Gen.Fn.lr_collect_no_agf false true = false := by decide
/-- a CONNECT to an address without a listening socket is answered with DM(02h) by the regenerated code -/
example : sapEnqueueGen Peer.Fix.repaired ⟨[], []⟩ (.connect 16 32 128 1 none) = some ⟨[], [.dm 32 16 2]⟩ := by decide
example : (collectGen [] 128 none true).1 = none := by decide

end NfcVerif.FnBridge.LlcRun
