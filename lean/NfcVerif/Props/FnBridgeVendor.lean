import NfcVerif.Lemmas.FnBridgeVendor
import NfcVerif.Lemmas.Auth
import NfcVerif.Model.T3
/-!
# Bridge theorems, group Vendor (`nfc/tag/tt2_nxp.py`, `tt3_sony.py`, `tt1_broadcom.py` -> `Gen/FnVendor.lean`)

Properties C20 (authentication: key selection, PWD_AUTH command and PACK comparison of the NTAG21x, card
key / MAC key handling of FeliCa Lite and Lite-S), C03 (protect / format: configuration page contents,
memory configuration masks, Topaz wipe data), C01 (data area that `format()` declares).

Model counterparts: `Auth.ntagKey`, `Auth.ntagAuthCmd`, `Auth.ntagAuthenticate`, `Auth.ntagProtectPages`,
`Auth.liteKey`, `AuthHist.keyOf`, `AuthHist.le16` masks of `protectLite` / `protectLiteS`,
`Mac.generateMac`, `Auth.writeWithMacCmd`, `Tlv.protectNxp`, `Tlv.formatTopaz`; without a counterpart
(Ultralight C keys and AUTH0/AUTH1, Nmaxb of the FeliCa Lite format): `Model/FnVendorRef.lean`.
-/
namespace NfcVerif.FnBridge.Vendor
open NfcVerif NfcVerif.PyFn NfcVerif.FnBridge.TagCmd NfcVerif.VendorRef

/-! ## NTAG21x -/

/-- `NTAG21x._authenticate`: password check and key selection -/
theorem ntag_auth_key_bridge (pw : Bytes) : Gen.Fn.ntag_auth_key pw = Auth.ntagKey pw := by
  unfold Gen.Fn.ntag_auth_key Auth.ntagKey
  py_nat
  rfl

/-- `NTAG21x._protect_with_password`: the same key selection -/
theorem ntag_protect_key_bridge (pw : Bytes) (rp : Bool) (pf : Int) : Gen.Fn.ntag_protect_key pw rp pf = Auth.ntagKey pw :=
  ntag_auth_key_bridge pw

example : Gen.Fn.ntag_auth_key [] = .ok [0xFF, 0xFF, 0xFF, 0xFF, 0, 0] := by decide +kernel
example : Gen.Fn.ntag_auth_key [1, 2, 3, 4, 5] = .error .value := by decide +kernel
example : Gen.Fn.ntag_auth_key [1, 2, 3, 4, 5, 6, 7] = .ok [1, 2, 3, 4, 5, 6] := by decide +kernel

/-- the PWD_AUTH command -/
theorem ntag_auth_cmd_bridge (key : Bytes) : Gen.Fn.ntag_auth_cmd key = Auth.ntagAuthCmd key := by
  unfold Gen.Fn.ntag_auth_cmd Auth.ntagAuthCmd
  py_nat
  rfl

/-- comparison with PACK -/
theorem ntag_auth_ok_bridge (rsp key : Bytes) : Gen.Fn.ntag_auth_ok rsp key = decide (rsp = (key.drop 4).take 2) := by
  unfold Gen.Fn.ntag_auth_ok
  py_nat
  rfl

/-- C20 `ntagAuthenticate` assembled from the regenerated pieces -/
theorem gen_ntag_authenticate (pw : Bytes) (rsp : Py Bytes) :
    Auth.ntagAuthenticate pw rsp =
      (Gen.Fn.ntag_auth_key pw >>= fun key =>
        match rsp with
        | .ok r => .ok (Gen.Fn.ntag_auth_ok r key)
        | .error (.tagCmd _) => .ok false
        | .error e => .error e) := by
  unfold Auth.ntagAuthenticate
  rw [ntag_auth_key_bridge]
  simp only [ntag_auth_ok_bridge]
  rfl

/-- C20 `ntag_response_exact` for the regenerated functions: the reader accepts exactly the two PACK octets
of the key it derived from the password -/
theorem gen_ntag_response_exact (key r : Bytes) :
    Gen.Fn.ntag_auth_ok r key = true ↔ r = (key.drop 4).take 2 := by
  rw [ntag_auth_ok_bridge]; simp

/-- AUTH0 and the PROT bit in the configuration pages (16 octets read from the tag) -/
theorem ntag_protect_cfg34_bridge (cfg : Bytes) (rp : Bool) (pf : Nat) (hl : 5 ≤ cfg.length) (hb : IsBytes cfg) :
    Gen.Fn.ntag_protect_cfg34 cfg rp pf =
      .ok ((cfg.set 3 (max 3 (min pf 255))).set 4
        (if rp then (cfg.set 3 (max 3 (min pf 255))).getD 4 0 ||| 0x80 else (cfg.set 3 (max 3 (min pf 255))).getD 4 0 &&& 0x7F)) := by
  unfold Gen.Fn.ntag_protect_cfg34
  have e1 : imax 3 (imin (pf : Int) 255) = ((max 3 (min pf 255) : Nat) : Int) := by
    rw [imax_eq_max, imin_eq_min]; omega
  rw [e1, show (3 : Int) = ((3 : Nat) : Int) from rfl, setB_nat cfg 3 _ (by omega) (by omega)]
  simp only [Py.bind_ok]
  generalize hc : cfg.set 3 (max 3 (min pf 255)) = c1
  have hl1 : c1.length = cfg.length := by rw [← hc]; simp
  have hb1 : IsBytes c1 := by
    rw [← hc]
    intro x hx
    rcases List.mem_or_eq_of_mem_set hx with h | h
    · exact hb x h
    · omega
  have hg : getB c1 4 = .ok ((c1.getD 4 0 : Nat) : Int) := by
    rw [show (4 : Int) = ((4 : Nat) : Int) from rfl, getB_nat]
    have : 4 < c1.length := by omega
    simp only [this, if_true, at0, List.getD_eq_getElem?_getD]
  have hv : c1.getD 4 0 < 256 := by
    rw [List.getD_eq_getElem?_getD, List.getElem?_eq_getElem (by omega : 4 < c1.length)]
    exact hb1 _ (List.getElem_mem _)
  rw [hg]
  cases rp
  · simp only [lit_cast, Bool.false_eq_true, if_false, Py.bind_ok, band_ofNat]
    exact setB_nat c1 4 _ (by omega) (by have := Nat.and_le_right (n := c1.getD 4 0) (m := 127); omega)
  · simp only [lit_cast, if_true, Py.bind_ok, bor_ofNat]
    refine setB_nat c1 4 _ (by omega) ?_
    have : c1.getD 4 0 ||| 128 < 2 ^ 8 := Nat.or_lt_two_pow (by omega) (by omega)
    omega

example : Gen.Fn.ntag_protect_cfg34 [4, 0, 0, 0xFF, 0x00, 5, 0, 0, 1, 2, 3, 4, 5, 6, 0, 0] true 8
    = .ok [4, 0, 0, 8, 0x80, 5, 0, 0, 1, 2, 3, 4, 5, 6, 0, 0] := by decide +kernel

/-- data of the i-th configuration page write -/
theorem ntag_protect_page_bridge (cfg : Bytes) (i : Nat) : Gen.Fn.ntag_protect_page cfg i = sliceN cfg (i * 4) ((i + 1) * 4) := by
  unfold Gen.Fn.ntag_protect_page
  py_nat

/-- page number of the i-th configuration page write -/
theorem ntag_protect_pageno_bridge (i cfgpage : Nat) : Gen.Fn.ntag_protect_pageno i cfgpage = ((cfgpage + i : Nat) : Int) := by
  unfold Gen.Fn.ntag_protect_pageno; omega

/-- C20 `ntagProtectPages`: the four configuration pages written by `protect(password)` are the regenerated
AUTH0 / PROT update and page slices applied to the configuration with PWD and PACK spliced in
(`cfg[8:14] = key`: slice assignment, not translated) -/
theorem gen_ntag_protect_pages (pw key cfg : Bytes) (rp : Bool) (pf : Nat) (hk : Auth.ntagKey pw = .ok key)
    (hl : cfg.length = 16) (hb : IsBytes cfg) (hkb : IsBytes key) :
    Auth.ntagProtectPages pw rp pf cfg =
      (Gen.Fn.ntag_protect_cfg34 (cfg.take 8 ++ key ++ cfg.drop 14) rp pf >>= fun c =>
        .ok [Gen.Fn.ntag_protect_page c 0, Gen.Fn.ntag_protect_page c 1, Gen.Fn.ntag_protect_page c 2,
             Gen.Fn.ntag_protect_page c 3]) := by
  unfold Auth.ntagProtectPages
  rw [hk]
  have hkl := Auth.ntagKey_length pw key hk
  simp only [Py.bind_ok, hl, ne_eq, not_true_eq_false, if_false]
  have hl2 : (cfg.take 8 ++ key ++ cfg.drop 14).length = 16 := by simp [hl, hkl]
  have hb2 : IsBytes (cfg.take 8 ++ key ++ cfg.drop 14) :=
    isBytes_append (isBytes_append (isBytes_take hb 8) hkb) (isBytes_drop hb 14)
  rw [ntag_protect_cfg34_bridge _ rp pf (by omega) hb2]
  simp only [Py.bind_ok]
  simp only [lit_cast, ntag_protect_page_bridge]

/-- capability container tests in front of the access byte changes -/
theorem ntag_cc_valid_bridge (cc : Bytes) (h : 2 ≤ cc.length) :
    Gen.Fn.ntag_cc_valid cc = .ok (decide (at0 cc 0 = 0xE1 ∧ at0 cc 1 / 16 = 1)) := by
  unfold Gen.Fn.ntag_cc_valid
  py_nat
  -- both octets are there; the source tests them one after the other
  rw [idxN_eq_at0 (by omega), idxN_eq_at0 (by omega)]
  by_cases ha : at0 cc 0 = 225 <;> by_cases hb : at0 cc 1 / 2 ^ 4 = 1 <;> simp [ha, hb]

theorem ntag_cc_valid_pw_bridge (cc : Bytes) (h : 2 ≤ cc.length) (hb : IsBytes cc) :
    Gen.Fn.ntag_cc_valid_pw cc = .ok (decide (at0 cc 0 = 0xE1 ∧ at0 cc 1 / 16 = 1)) := by
  unfold Gen.Fn.ntag_cc_valid_pw
  py_nat
  -- this copy tests the version nibble with `& 0xF0 == 0x10`, which needs an octet
  have hm : at0 cc 1 &&& 240 = (at0 cc 1 >>> 4) <<< 4 := and_high (at0 cc 1) 4 4 (at0_lt_256 hb 1)
  rw [idxN_eq_at0 (by omega), idxN_eq_at0 (by omega)]
  simp only [Py.bind_ok, hm, Nat.shiftRight_eq_div_pow, Nat.shiftLeft_eq]
  by_cases ha : at0 cc 0 = 225 <;> by_cases hc : at0 cc 1 / 16 = 1 <;> simp [ha, hc] <;> omega

/-- both tests accept the same capability containers (`protectNxp`: `c0 = E1h ∧ c1 / 16 = 1`) -/
theorem gen_cc_tests_agree (cc : Bytes) (h : 2 ≤ cc.length) (hb : IsBytes cc) :
    Gen.Fn.ntag_cc_valid cc = Gen.Fn.ntag_cc_valid_pw cc := by
  rw [ntag_cc_valid_bridge cc h, ntag_cc_valid_pw_bridge cc h hb]

example : Gen.Fn.ntag_cc_valid [0xE1, 0x10, 0x12, 0x00] = .ok true := by decide +kernel
example : Gen.Fn.ntag_cc_valid_pw [0xE1, 0x20, 0x12, 0x00] = .ok false := by decide +kernel

/-- access flags for proprietary read/write permission -/
theorem ntag_cc_flags_bridge (rp : Bool) : Gen.Fn.ntag_cc_flags rp = if rp then 0x88 else 0x08 := by
  unfold Gen.Fn.ntag_cc_flags; cases rp <;> rfl

/-- CFGLCK test of `protectNxp` (`a / 64 % 2 = 0`) -/
theorem ntag_cfglck_bridge (cfg : Bytes) (h : 5 ≤ cfg.length) :
    Gen.Fn.ntag_cfglck cfg = .ok (decide (at0 cfg 4 / 64 % 2 = 0)) := by
  unfold Gen.Fn.ntag_cfglck
  py_nat
  -- a single bit tested with `&`
  have : at0 cfg 4 &&& 64 = 0 ↔ at0 cfg 4 / 64 % 2 = 0 := and_bit (at0 cfg 4) 6
  rw [idxN_eq_at0 (by omega)]
  simp [this]

/-- page of the dynamic lock bytes (`protectNxp`: `(p - 1) * 4`) -/
theorem ntag_dynlock_page_bridge (p : Nat) (h : 1 ≤ p) : Gen.Fn.ntag_dynlock_page p = ((p - 1 : Nat) : Int) := by
  unfold Gen.Fn.ntag_dynlock_page; omega

/-! ## Mifare Ultralight C -/

/-- `MifareUltralightC._protect_with_password`: password check and key selection -/
theorem ulc_protect_key_bridge (pw : Bytes) (rp : Bool) (pf : Int) : Gen.Fn.ulc_protect_key pw rp pf = ulcKey pw := by
  unfold Gen.Fn.ulc_protect_key ulcKey ulcDefaultKey
  py_nat
  rfl

/-- `MifareUltralightC._authenticate`: the same keys are accepted (the length test is made on the key) -/
theorem ulc_auth_key_bridge (pw : Bytes) : Gen.Fn.ulc_auth_key pw = ulcKey pw := by
  unfold Gen.Fn.ulc_auth_key ulcKey ulcDefaultKey
  rw [slice0_lit]
  simp only [len_eq]
  by_cases hp : pw = []
  · subst hp; simp
  · by_cases hl : pw.length < 16
    · have : ¬ ((min 16 pw.length : Nat) : Int) = 16 := by omega
      simp [hp, hl, this]
    · have : ((min 16 pw.length : Nat) : Int) = 16 := by omega
      simp [hp, hl, this]

example : Gen.Fn.ulc_auth_key [] = .ok ulcDefaultKey := by decide +kernel
example : Gen.Fn.ulc_auth_key [1, 2, 3] = .error .value := by decide +kernel

/-- `protect` and `authenticate` derive the same key from a password, and it has 16 octets -/
theorem gen_ulc_keys_agree (pw : Bytes) (rp : Bool) (pf : Int) :
    Gen.Fn.ulc_protect_key pw rp pf = Gen.Fn.ulc_auth_key pw ∧
    ∀ key, Gen.Fn.ulc_auth_key pw = .ok key → key.length = 16 := by
  refine ⟨by rw [ulc_protect_key_bridge, ulc_auth_key_bridge], ?_⟩
  intro key h
  rw [ulc_auth_key_bridge] at h
  exact ulcKey_length pw key h

/-- AUTH0 page data, for every int -/
theorem ulc_auth0_bridge (pf : Int) : Gen.Fn.ulc_auth0 pf = .ok (ulcAuth0 pf) := by
  unfold Gen.Fn.ulc_auth0
  rw [(ulc_auth0_gen pf).1, Py.bind_ok, (ulc_auth0_gen pf).2]

example : Gen.Fn.ulc_auth0 0 = .ok [3, 0, 0, 0] ∧ Gen.Fn.ulc_auth0 100 = .ok [48, 0, 0, 0] ∧ Gen.Fn.ulc_auth0 7 = .ok [7, 0, 0, 0] := by
  decide +kernel

/-- the first protected page written to AUTH0 lies in 3..48 whatever the argument -/
theorem gen_ulc_auth0_range (pf : Int) : ∃ p : Nat, 3 ≤ p ∧ p ≤ 48 ∧ Gen.Fn.ulc_auth0 pf = .ok [p, 0, 0, 0] := by
  obtain ⟨p, h3, h48, he⟩ := ulcAuth0_range pf
  exact ⟨p, h3, h48, by rw [ulc_auth0_bridge, he]⟩

/-- AUTH1 page data -/
theorem ulc_auth1_bridge (rp : Bool) : Gen.Fn.ulc_auth1 rp = ulcAuth1 rp := by
  unfold Gen.Fn.ulc_auth1 ulcAuth1; cases rp <;> rfl

/-! ## FeliCa Lite / Lite-S -/

/-- `generate_mac`: the argument assertion and the key flip; with the group reversal and the CBC chain of the
model this is `Mac.generateMac` -/
theorem lite_mac_key_bridge (C : Mac.Cipher) (data key iv : Bytes) (flip : Bool) :
    (Gen.Fn.lite_mac_key data key iv flip >>= fun k => .ok (Mac.macBlocks C k iv (Mac.chunks8 data)))
      = Mac.generateMac C data key iv flip := by
  unfold Gen.Fn.lite_mac_key Mac.generateMac
  have e1 : PyFn.sliceFrom key 8 = key.drop 8 := sliceFrom_ofNat key 8
  have e2 : PyFn.sliceTo key 8 = key.take 8 := sliceTo_ofNat key 8
  have hiff : (len data % 8 = 0 ∧ len key = 16 ∧ len iv = 8) ↔ ¬ (data.length % 8 ≠ 0 ∨ key.length ≠ 16 ∨ iv.length ≠ 8) := by
    simp only [len_eq]; omega
  rw [e1, e2]
  simp only [hiff, Classical.not_not]
  by_cases h : data.length % 8 ≠ 0 ∨ key.length ≠ 16 ∨ iv.length ≠ 8
  · simp only [h, if_true, Py.bind_error]
  · simp only [h, if_false, Py.bind_ok]

example : Gen.Fn.lite_mac_key (List.replicate 8 0) (List.range 16) (List.replicate 8 0) true
    = .ok [8, 9, 10, 11, 12, 13, 14, 15, 0, 1, 2, 3, 4, 5, 6, 7] := by decide +kernel
example : Gen.Fn.lite_mac_key (List.replicate 7 0) (List.range 16) (List.replicate 8 0) false = .error .assertion := by
  decide +kernel

/-- `FelicaLite._authenticate`: password check and card key -/
theorem lite_auth_key_bridge (pw : Bytes) : Gen.Fn.lite_auth_key pw = Auth.liteKey pw := by
  unfold Gen.Fn.lite_auth_key Auth.liteKey Auth.zeros
  py_nat
  rfl

example : Gen.Fn.lite_auth_key [] = .ok (List.replicate 16 0) := by decide +kernel

/-- `FelicaLite._protect`: card key for a password that passed the length check (`AuthHist.keyOf`) -/
theorem lite_protect_key_bridge (pw : Bytes) : Gen.Fn.lite_protect_key pw = AuthHist.keyOf pw := keyOf_gen pw

/-- `protect` provisions the key that `authenticate` will use for the same password -/
theorem gen_lite_keys_agree (pw key : Bytes) (h : Gen.Fn.lite_auth_key pw = .ok key) : Gen.Fn.lite_protect_key pw = key := by
  rw [lite_auth_key_bridge] at h
  rw [lite_protect_key_bridge]
  exact keyOf_of_liteKey h

/-- permission word of the MC block written by `FelicaLite._protect` (`AuthHist.protectLite`):
user blocks `protect_from .. 13` become read-only -/
theorem lite_mc_mask_bridge (pf : Nat) (h : pf ≤ 14) :
    Gen.Fn.lite_mc_mask pf = .ok (AuthHist.le16 (0x7FFF ^^^ (2 ^ 14 - 2 ^ pf))) := by
  unfold Gen.Fn.lite_mc_mask AuthHist.le16
  rw [mask_sub pf h, show (32767 : Int) = ((32767 : Nat) : Int) from rfl, bxor_ofNat, pack_Hle]
  have hx : 32767 ^^^ (2 ^ 14 - 2 ^ pf) < 2 ^ 15 := Nat.xor_lt_two_pow (by omega) (by
    have : 2 ^ 14 - 2 ^ pf ≤ 2 ^ 14 := Nat.sub_le _ _
    omega)
  have : ¬ (32767 ^^^ (2 ^ 14 - 2 ^ pf) > 65535) := by omega
  simp only [this, if_false]
  rw [Nat.mod_eq_of_lt (by omega : (32767 ^^^ (2 ^ 14 - 2 ^ pf)) / 256 < 256)]

/-- beyond 14 the expression cannot be packed (`_protect` only evaluates it for `protect_from < 14`) -/
theorem lite_mc_mask_beyond (pf : Nat) (h : 14 < pf) : Gen.Fn.lite_mc_mask pf = .error .struct := by
  unfold Gen.Fn.lite_mc_mask
  have := bxor_neg 32767 _ (mask_sub_neg pf h)
  have this' : bxor 32767 (pow 2 14 - pow 2 (pf : Int)) < 0 := this
  simp only [PyFn.pack]
  rw [packField_neg _ _ this']

example : Gen.Fn.lite_mc_mask 0 = .ok [0x00, 0x40] ∧ Gen.Fn.lite_mc_mask 5 = .ok [0x1F, 0x40] ∧ Gen.Fn.lite_mc_mask 14 = .ok [0xFF, 0x7F] := by
  decide +kernel

/-- protection mask of `FelicaLiteS._protect` (`AuthHist.protectLiteS`) -/
theorem lites_mc_mask_bridge (pf : Nat) (h : pf ≤ 14) : Gen.Fn.lites_mc_mask pf = .ok (AuthHist.le16 (2 ^ 14 - 2 ^ pf)) := by
  unfold Gen.Fn.lites_mc_mask AuthHist.le16
  rw [mask_sub pf h, pack_Hle]
  have h1 : 2 ^ 14 - 2 ^ pf ≤ 2 ^ 14 := Nat.sub_le _ _
  have : ¬ (2 ^ 14 - 2 ^ pf > 65535) := by omega
  simp only [this, if_false]
  rw [Nat.mod_eq_of_lt (by omega : (2 ^ 14 - 2 ^ pf) / 256 < 256)]

example : Gen.Fn.lites_mc_mask 3 = .ok [0xF8, 0x3F] := by decide +kernel

/-- the second occurrence of the expression (write protection, MC bytes 8..11) -/
theorem lites_mc_mask_wr_bridge (pf : Nat) (h : pf ≤ 14) : Gen.Fn.lites_mc_mask_wr pf = .ok (AuthHist.le16 (2 ^ 14 - 2 ^ pf)) :=
  lites_mc_mask_bridge pf h

/-- the masks set exactly the bits `protect_from .. 13` -/
theorem gen_mask_bits (pf : Nat) (h : pf ≤ 14) (b : Nat) :
    (2 ^ 14 - 2 ^ pf).testBit b = (decide (pf ≤ b) && decide (b < 14)) := by
  have e : 2 ^ 14 - 2 ^ pf = (2 ^ (14 - pf) - 1) * 2 ^ pf := by
    have : 2 ^ 14 = 2 ^ (14 - pf) * 2 ^ pf := by rw [← Nat.pow_add]; congr 1; omega
    rw [this, Nat.sub_mul, Nat.one_mul]
  rw [e, ← Nat.shiftLeft_eq, Nat.testBit_shiftLeft, Nat.testBit_two_pow_sub_one]
  by_cases h1 : pf ≤ b <;> by_cases h2 : b < 14 <;> simp [h1, h2] <;> omega

/-- next card key version (`protectLiteS`: `min (v0 + 256 * v1 + 1) 0xFFFF`) -/
theorem lites_ckv_bridge (ckv : Bytes) (h : 2 ≤ ckv.length) :
    Gen.Fn.lites_ckv ckv = .ok ((min (at0 ckv 0 + 256 * at0 ckv 1 + 1) 0xFFFF : Nat) : Int) := by
  unfold Gen.Fn.lites_ckv
  rw [slice02 ckv h, needExact_pair', ule_pair]
  simp only [Py.bind_ok, imin, Nat.min_def]
  congr 1
  split <;> split <;> omega

/-- `FelicaLite._format`: Nmaxb from the permission bits of the MC block -/
theorem lite_format_nmaxb_bridge (mc : Bytes) (h : 2 ≤ mc.length) :
    Gen.Fn.lite_format_nmaxb mc = .ok ((liteNmaxb (at0 mc 1 * 256 + at0 mc 0) : Nat) : Int) := by
  unfold Gen.Fn.lite_format_nmaxb liteNmaxb
  rw [slice02 mc h, needExact_pair', ule_pair]
  simp only [Py.bind_ok]
  rw [range14]
  have := forC_firstClear (at0 mc 1 * 256 + at0 mc 0) (List.range 14) 0
  rw [show (((0 : Nat) : Int)) = 0 from rfl] at this
  rw [this]
  rfl

example : Gen.Fn.lite_format_nmaxb [0xFF, 0x3F, 0xFF, 0x01] = .ok 13 := by decide +kernel
example : Gen.Fn.lite_format_nmaxb [0x1F, 0x00, 0xFF, 0x01] = .ok 4 := by decide +kernel

/-- C01/C03: the attribute block `format()` writes never declares more than the 13 user blocks, and every
declared block is writeable according to the memory configuration -/
theorem gen_lite_format_nmaxb_sound (mc : Bytes) (h : 2 ≤ mc.length) (n : Int)
    (hn : Gen.Fn.lite_format_nmaxb mc = .ok n) :
    0 ≤ n ∧ n ≤ 13 ∧ ∀ b : Nat, 1 ≤ b → (b : Int) ≤ n → ((at0 mc 1 * 256 + at0 mc 0) >>> b) % 2 = 1 := by
  rw [lite_format_nmaxb_bridge mc h] at hn
  cases hn
  have h13 := liteNmaxb_le (at0 mc 1 * 256 + at0 mc 0)
  refine ⟨by omega, by omega, ?_⟩
  intro b hb1 hb2
  exact liteNmaxb_writeable _ b hb1 (by omega)

theorem lite_format_mc0_bridge (mc : Bytes) (h : 1 ≤ mc.length) :
    Gen.Fn.lite_format_mc0 mc = .ok (decide (at0 mc 0 % 2 ≠ 1)) := by
  unfold Gen.Fn.lite_format_mc0
  py_nat
  rw [idxN_eq_at0 (by omega)]; rfl

/-- the complete version test of `FelicaLite._format`: version 0 is let through, otherwise the major version must be 1 -/
theorem lite_format_ver_cond_bridge (v : Nat) : Gen.Fn.lite_format_ver_cond v = decide (v ≠ 0 ∧ v / 16 ≠ 1) := by
  unfold Gen.Fn.lite_format_ver_cond; py_nat

theorem lite_format_version_bridge (v : Nat) : Gen.Fn.lite_format_version v = decide (v / 16 ≠ 1) := by
  unfold Gen.Fn.lite_format_version; py_nat

/-- key flip of the write MAC (`Auth.writeWithMacCmd`: `sk.drop 8 ++ sk.take 8`) -/
theorem lites_flip_bridge (sk : Bytes) (h : sk.length = 16) : Gen.Fn.lites_flip sk = sk.drop 8 ++ sk.take 8 := by
  unfold Gen.Fn.lites_flip
  have e1 : slice sk 8 16 = (sk.drop 8).take 8 := slice_ofNat sk 8 16
  have e2 : slice sk 0 8 = sk.take 8 := slice0_lit sk 8
  rw [e1, e2, List.take_of_length_le (by simp; omega)]

/-- the octets the write MAC is computed over (`Auth.writeWithMacCmd`) -/
theorem lites_mac_data_bridge (wcnt : Bytes) (block : Nat) (data : Bytes) :
    Gen.Fn.lites_mac_data wcnt block data =
      if block > 255 then .error .value else .ok (wcnt ++ [0, block, 0, 0x91, 0] ++ data) := by
  unfold Gen.Fn.lites_mac_data
  by_cases h : block > 255
  · have := mkBytes_bad [] (block : Int) [] (by simp) (by omega)
    simp only [List.map_nil, List.nil_append] at this
    simp [h, this]
  · have := mkBytes_isBytes [block] (by intro x hx; simp at hx; omega)
    simp only [List.map_cons, List.map_nil] at this
    simp [h, this]

example : Gen.Fn.lites_mac_data [1, 0, 0] 0x92 [5] = .ok [1, 0, 0, 0, 0x92, 0, 0x91, 0, 5] := by decide +kernel

theorem lites_rw_bits_bridge (rw : Nat) : Gen.Fn.lites_rw_bits rw = decide (rw % 1024 = 1023) := by
  unfold Gen.Fn.lites_rw_bits
  py_nat
  rw [Nat.and_two_pow_sub_one_eq_mod rw 10]

theorem lite_nbr_bridge (nbr : Nat) : Gen.Fn.lite_nbr nbr = ((min nbr 3 : Nat) : Int) := by
  unfold Gen.Fn.lite_nbr; rw [imin_eq_min]; omega

/-! ## Broadcom Topaz -/

theorem topaz_wipe_bridge (w : Nat) : Gen.Fn.topaz_wipe w = .ok (List.replicate 90 (w % 256)) := topaz_wipe_gen 90 w
theorem topaz512_wipe1_bridge (w : Nat) : Gen.Fn.topaz512_wipe1 w = .ok (List.replicate 80 (w % 256)) := topaz_wipe_gen 80 w
theorem topaz512_wipe2_bridge (w : Nat) : Gen.Fn.topaz512_wipe2 w = .ok (List.replicate 384 (w % 256)) := topaz_wipe_gen 384 w

/-- C03 `formatTopaz` with the regenerated wipe data -/
theorem gen_formatTopaz (m : Bytes) (w : Nat) :
    Tlv.formatTopaz m (some w) =
      (Tlv.setSlice (Tlv.t1Cfg 1) m 8 Tlv.topazHdr >>= fun x =>
        Gen.Fn.topaz_wipe w >>= fun d => Tlv.setSlice (Tlv.t1Cfg 1) x 14 d) := by
  unfold Tlv.formatTopaz
  simp only [topaz_wipe_bridge, Py.bind_ok]

theorem topaz_version_bridge (v : Nat) : Gen.Fn.topaz_version v = decide (v / 16 = 1) := by
  unfold Gen.Fn.topaz_version; py_nat

/-- header ROM octets that select the Topaz classes (`Adv.activate`: `g.rid.take 2`) -/
theorem topaz_hrom_bridge (rid : Bytes) : Gen.Fn.topaz_hrom rid = rid.take 2 := by
  unfold Gen.Fn.topaz_hrom
  py_nat
  rfl

/-! ## slice assignment, reversed slices -/

/-- `key[7::-1] + key[15:7:-1]` is `Auth.revHalves`, for every length -/
theorem lite_rev_halves_bridge (key : Bytes) : Gen.Fn.lite_rev_halves key = Auth.revHalves key := revHalves_gen key
theorem lite_chal_bridge (rc : Bytes) : Gen.Fn.lite_chal rc = Auth.revHalves rc := revHalves_gen rc
theorem lites_key_block_bridge (key : Bytes) : Gen.Fn.lites_key_block key = Auth.revHalves key := revHalves_gen key

/-- the Ultralight C key pages hold the same two reversed halves -/
theorem ulc_key_split_bridge (key : Bytes) :
    Gen.Fn.ulc_key_split key = ((key.take 8).reverse, ((key.drop 8).take 8).reverse) := by
  unfold Gen.Fn.ulc_key_split
  rw [show (7 : Int) = ((7 : Nat) : Int) from rfl, show (15 : Int) = ((15 : Nat) : Int) from rfl, sliceRev_none, sliceRev_some,
    List.drop_take]

example : Gen.Fn.lite_rev_halves (List.range 16) = [7, 6, 5, 4, 3, 2, 1, 0, 15, 14, 13, 12, 11, 10, 9, 8] := by decide +kernel

/-- C20 `protect_key_block` for the regenerated byte shuffling: the key block written by `protect` stores the key
in the layout the tag's MAC computation reads back (`word (revHalves key) i`) -/
theorem gen_key_block_words (key : Bytes) (h : key.length = 16) :
    Auth.word (Gen.Fn.lite_rev_halves key) 0 = key.take 8 ∧ Auth.word (Gen.Fn.lite_rev_halves key) 1 = key.drop 8 := by
  rw [lite_rev_halves_bridge]
  exact ⟨Auth.word_revHalves_0 key h, Auth.word_revHalves_1 key h⟩

/-- card key version block (`protectLiteS`: `le16 ckv ++ zeros 14`) -/
theorem lites_ckv_block_bridge (ckv : Nat) (h : ckv < 65536) :
    Gen.Fn.lites_ckv_block ckv = .ok (AuthHist.le16 ckv ++ Auth.zeros 14) := by
  unfold Gen.Fn.lites_ckv_block AuthHist.le16 Auth.zeros
  have : ¬ ckv > 65535 := by omega
  rw [pack_Hle]
  simp only [this, if_false, Py.bind_ok, repeatL]
  rw [Nat.mod_eq_of_lt (by omega : ckv / 256 < 256)]
  rfl

/-- NTAG21x `protect(password)`: the configuration pages with PWD/PACK, AUTH0 and PROT -/
theorem ntag_protect_cfg_bridge (cfg key : Bytes) (rp : Bool) (pf : Nat) (hl : cfg.length = 16) :
    Gen.Fn.ntag_protect_cfg cfg key rp pf = Gen.Fn.ntag_protect_cfg34 (cfg.take 8 ++ key ++ cfg.drop 14) rp pf := by
  unfold Gen.Fn.ntag_protect_cfg Gen.Fn.ntag_protect_cfg34
  rw [show (8 : Int) = ((8 : Nat) : Int) from rfl, show (14 : Int) = ((14 : Nat) : Int) from rfl,
    setSlice_nat cfg 8 14 key (by omega) (by omega)]

/-- C20 `ntagProtectPages` entirely in regenerated functions -/
theorem gen_ntag_protect (pw cfg : Bytes) (rp : Bool) (pf : Nat) (hl : cfg.length = 16) (hb : IsBytes cfg) (hpw : IsBytes pw) :
    Auth.ntagProtectPages pw rp pf cfg =
      (Gen.Fn.ntag_protect_key pw rp pf >>= fun key =>
        Gen.Fn.ntag_protect_cfg cfg key rp pf >>= fun c =>
          .ok [Gen.Fn.ntag_protect_page c 0, Gen.Fn.ntag_protect_page c 1, Gen.Fn.ntag_protect_page c 2,
               Gen.Fn.ntag_protect_page c 3]) := by
  rw [ntag_protect_key_bridge]
  cases hk : Auth.ntagKey pw with
  | error e => simp [Auth.ntagProtectPages, hk]
  | ok key =>
    have hkl := Auth.ntagKey_length pw key hk
    have hkb : IsBytes key := by
      unfold Auth.ntagKey at hk
      split at hk
      · cases hk
      · cases hk
        split
        · intro b hb; simp at hb; omega
        · exact isBytes_take hpw 6
    simp only [Py.bind_ok]
    rw [ntag_protect_cfg_bridge cfg key rp pf hl]
    exact gen_ntag_protect_pages pw key cfg rp pf hk hl hb hkb

/-- `FelicaLite._format`: the attribute block (Nbr 4, Nbw 1, writeable, empty) is `T3.encodeAttr` of those attributes -/
theorem lite_format_attr_bridge (version nmaxb : Nat) (h1 : version < 256) (h2 : nmaxb < 65536) :
    Gen.Fn.lite_format_attr version nmaxb = .ok (T3.encodeAttr ⟨version, 4, 1, nmaxb, 0, 1, 0⟩) := by
  unfold Gen.Fn.lite_format_attr T3.encodeAttr
  -- the fourteen attribute octets: version, Nbr, Nbw, Nmaxb packed `>BBBH`, then zeros but for RWFlag = 1 (octet 10)
  rw [zeros16']
  simp only [Py.bind_ok, lit_cast]
  rw [pack_BBBH version 4 1 nmaxb h1 (by omega) (by omega) h2, pack_B, if_neg (by omega)]
  simp only [Py.bind_ok, List.cons_append, List.nil_append]
  rw [setSlice_nat _ 0 14 _ (by omega) (by simp)]
  simp only [List.take, List.drop, List.nil_append, List.cons_append]
  -- the checksum: the sum of those fourteen octets
  rw [sliceTo_ofNat, sum_ints]
  simp only [List.take, List.foldl, Nat.zero_add, Nat.add_zero]
  -- packed `>H` (it is below 14 * 256) into octets 14 and 15
  rw [pack_Hbe' _ (by omega)]
  simp only [Py.bind_ok, len_eq, List.length_cons, List.length_nil, Nat.reduceAdd]
  rw [setSlice_nat _ 14 16 _ (by omega) (by simp)]
  simp only [List.take, List.drop, List.nil_append, List.cons_append,
    List.append_nil]

example : Gen.Fn.lite_format_attr 0x10 13 = .ok [0x10, 4, 1, 0, 13, 0, 0, 0, 0, 0, 1, 0, 0, 0, 0, 0x23] := by decide +kernel

/-- `Topaz._format(version=None, wipe)` on a cached image that covers the static memory: `Tlv.formatTopaz` -/
theorem topaz_format_bridge (m : Bytes) (wipe : Option Nat) (h : 104 ≤ m.length) :
    Gen.Fn.topaz_format m (wipe.map fun (w : Nat) => (w : Int)) = Tlv.formatTopaz m wipe := by
  unfold Gen.Fn.topaz_format Tlv.formatTopaz Tlv.topazHdr
  have h1 := setSlice_tlv (Tlv.t1Cfg 1) m 8 14 [0xE1, 0x10, 0x0E, 0x00, 0x03, 0x00] rfl (by omega)
  rw [h1.1]
  cases wipe with
  | none => rfl
  | some w =>
    have h2 := setSlice_tlv (Tlv.t1Cfg 1) _ 14 104 (List.replicate 90 (w % 256)) (by rw [List.length_replicate]) (by rw [h1.2]; omega)
    simp only [Option.map_some, Py.bind_ok, lit_cast, mkBytes_wipe, repeatL_one, Int.toNat_natCast, h2.1]

/-- `Topaz512._format(version=None, wipe)`: `Tlv.formatTopaz512` -/
theorem topaz512_format_bridge (m : Bytes) (wipe : Option Nat) (h : 512 ≤ m.length) :
    Gen.Fn.topaz512_format m (wipe.map fun (w : Nat) => (w : Int)) = Tlv.formatTopaz512 m wipe := by
  unfold Gen.Fn.topaz512_format Tlv.formatTopaz512 Tlv.topaz512Hdr
  have h1 := setSlice_tlv (Tlv.t1Cfg 8) m 8 24 [0xE1, 0x10, 0x3F, 0x00, 0x01, 0x03, 0xF2, 0x30, 0x33, 0x02, 0x03, 0xF0, 0x02, 0x03, 0x03, 0x00]
    rfl (by omega)
  have hadj := setSlice_adj m [225, 16, 63, 0, 1, 3, 242, 48] [51, 2, 3, 240, 2, 3, 3, 0] 8 16 24 rfl rfl (by omega)
  simp only [lit_cast, hadj, h1.1, Py.bind_ok]
  cases wipe with
  | none => rfl
  | some w =>
    have h2 := setSlice_tlv (Tlv.t1Cfg 8) _ 24 104 (List.replicate 80 (w % 256)) (by rw [List.length_replicate]) (by rw [h1.2]; omega)
    have h3 := setSlice_tlv (Tlv.t1Cfg 8) _ 128 512 (List.replicate 384 (w % 256)) (by rw [List.length_replicate]) (by rw [h2.2, h1.2]; omega)
    simp only [Option.map_some, Py.bind_ok, mkBytes_wipe, repeatL_one, Int.toNat_natCast, h2.1, h3.1]
    rfl

end NfcVerif.FnBridge.Vendor
