import NfcVerif.Props.ExcFlow
/-!
# Exception flow, instance theorems: C06 / C07 / C09: SNEP and handover clients

Re-checked on the regenerated `Gen/ExcFlow.lean` (see `Props/ExcFlow.lean` for what `Only` / `Can` mean).

Layer boundary (assumption table), the same as for the server threads in `Props/ExcFlowLlc.lean`: the socket API
raises `nfc.llcp.Error` only (`Props/ExcFlowSock.lean` proves this of the code up to the residual named there);
ndeflib raises `DecodeError` / `ValueError` when decoding and `EncodeError` when encoding.  Translated:
`nfc/snep/client.py` (`send_request`, `recv_response`, every method of `SnepClient`) and `nfc/handover/client.py`
(every method of `HandoverClient`).
-/
namespace NfcVerif.ExcFlowProps
open NfcVerif.ExcFlow NfcVerif.Gen.ClassTree NfcVerif.Gen.ExcFlow

def clientsOnly : List (Site × List Cls) := [
  (Site.fn_snep_client_send_request, [Cls.llcp_err_Error]),
  (Site.fn_snep_client_recv_response, [Cls.llcp_err_Error]),
  (Site.fn_snep_client_connect, [Cls.llcp_err_Error]),
  (Site.fn_snep_client_close, []),
  (Site.fn_snep_client___enter__, [Cls.llcp_err_Error]),
  (Site.fn_snep_client___exit__, []),
  (Site.fn_snep_client_put_octets, [Cls.llcp_err_Error, Cls.snep_client_SnepError]),
  (Site.fn_snep_client_get_octets, [Cls.llcp_err_Error, Cls.snep_client_SnepError]),
  (Site.fn_snep_client_put_records, [Cls.llcp_err_Error, Cls.snep_client_SnepError, Cls.ndef_EncodeError]),
  (Site.fn_snep_client_get_records, [Cls.llcp_err_Error, Cls.snep_client_SnepError, Cls.ndef_EncodeError, Cls.ndef_DecodeError,
    Cls.ValueError]),
  (Site.fn_handover_client_connect, [Cls.llcp_err_Error]),
  (Site.fn_handover_client_close, []),
  (Site.fn_handover_client___enter__, [Cls.llcp_err_Error]),
  (Site.fn_handover_client___exit__, []),
  (Site.fn_handover_client_send_records, [Cls.llcp_err_Error]),
  (Site.fn_handover_client_send_octets, [Cls.llcp_err_Error]),
  (Site.fn_handover_client_recv_records, [Cls.llcp_err_Error]),
  (Site.fn_handover_client_recv_octets, [Cls.llcp_err_Error])]
def clientsNever : List (Site × List Cls) := [
  (Site.fn_handover_client_recv_records, [Cls.ndef_DecodeError, Cls.ValueError, Cls.ndef_EncodeError]),
  (Site.fn_handover_client_recv_octets, [Cls.ndef_DecodeError, Cls.ValueError]),
  (Site.fn_handover_client_send_records, [Cls.ndef_EncodeError]),
  (Site.fn_snep_client_put_octets, [Cls.ndef_DecodeError, Cls.ndef_EncodeError, Cls.ValueError]),
  (Site.fn_snep_client_get_octets, [Cls.ndef_DecodeError, Cls.ndef_EncodeError, Cls.ValueError])]
def clientsCan : List (Site × Cls) := [
  (Site.fn_snep_client_put_octets, Cls.snep_client_SnepError),
  (Site.fn_snep_client_get_octets, Cls.snep_client_SnepError),
  (Site.fn_snep_client_put_octets, Cls.llcp_err_Error),
  (Site.fn_snep_client_connect, Cls.llcp_err_ConnectRefused),
  (Site.fn_snep_client_put_records, Cls.ndef_EncodeError),
  (Site.fn_snep_client_get_records, Cls.ndef_DecodeError),
  (Site.fn_snep_client_get_records, Cls.ValueError),
  (Site.fn_handover_client_connect, Cls.llcp_err_ConnectRefused),
  (Site.fn_handover_client_recv_records, Cls.llcp_err_Error)]
/-- every statement of this module, checked with one evaluation of the summary table -/
theorem clientsAll_ok : checkAll world table prog clientsOnly clientsNever clientsCan = true :=
  checkAll_of_checkM tree_ordered (by decide +kernel)
theorem clientsOnly_ok : checkOnly world table prog clientsOnly = true := (checkAll_split clientsAll_ok).1
theorem clientsNever_ok : checkNever world table prog clientsNever = true := (checkAll_split clientsAll_ok).2.1
theorem clientsCan_ok : checkCan world table prog clientsCan = true := (checkAll_split clientsAll_ok).2.2

/-- what leaves each function of the two client modules (the lists are in `clientsOnly`) -/
theorem clients_escape : ∀ fa ∈ clientsOnly, Only fa.1 fa.2 := only_all clientsOnly_ok

/-- SNEP client: `put_octets` / `get_octets` raise `nfc.llcp.Error` (the connection) or the documented `SnepError`
(a response code other than Success) and nothing else; `put_records` adds the `EncodeError` of encoding the
argument; `get_records` also the `DecodeError` / `ValueError` of decoding the server's message - documented as
"same as `list(ndef.message_decoder(rcvd_octets))`", i.e. the caller's to handle (`snep_get_records_decode_errors`). -/
theorem snep_client_escapes :
    Only Site.fn_snep_client_put_octets [Cls.llcp_err_Error, Cls.snep_client_SnepError] ∧
    Only Site.fn_snep_client_get_octets [Cls.llcp_err_Error, Cls.snep_client_SnepError] ∧
    Only Site.fn_snep_client_put_records [Cls.llcp_err_Error, Cls.snep_client_SnepError, Cls.ndef_EncodeError] ∧
    Only Site.fn_snep_client_get_records [Cls.llcp_err_Error, Cls.snep_client_SnepError, Cls.ndef_EncodeError,
      Cls.ndef_DecodeError, Cls.ValueError] ∧
    Only Site.fn_snep_client_connect [Cls.llcp_err_Error] ∧ Only Site.fn_snep_client_close [] := by
  and_intros <;> exact escapesOnly_of_checkOnly tree_ordered clientsOnly_ok (by decide)
/-- the octet-level calls never raise an ndeflib class: they do not decode or encode -/
theorem snep_client_octets_no_ndef_error :
    NeverEscapes world table prog Site.fn_snep_client_put_octets [Cls.ndef_DecodeError, Cls.ndef_EncodeError, Cls.ValueError] ∧
    NeverEscapes world table prog Site.fn_snep_client_get_octets [Cls.ndef_DecodeError, Cls.ndef_EncodeError, Cls.ValueError] := by
  and_intros <;> exact neverEscapes_of_checkNever tree_ordered clientsNever_ok (by decide)
/-- non-vacuity: the documented `SnepError` is raised; the temporary connection fails with `ConnectRefused`
(absorbed by `put_octets` / `get_octets` only when raised by `connect`) -/
theorem snep_client_can_fail : Can Site.fn_snep_client_put_octets Cls.snep_client_SnepError ∧
    Can Site.fn_snep_client_get_octets Cls.snep_client_SnepError ∧ Can Site.fn_snep_client_put_octets Cls.llcp_err_Error ∧
    Can Site.fn_snep_client_connect Cls.llcp_err_ConnectRefused ∧ Can Site.fn_snep_client_put_records Cls.ndef_EncodeError := by
  and_intros <;> exact canEscape_of_checkCan tree_ordered clientsCan_ok (by decide)
/-- C07 ("SNEP ... fragments"): a response message that does not decode leaves `get_records` as
`ndef.DecodeError` / `ValueError` (the decoding of the peer's octets is outside every handler) -/
theorem snep_get_records_decode_errors : Can Site.fn_snep_client_get_records Cls.ndef_DecodeError ∧
    Can Site.fn_snep_client_get_records Cls.ValueError := by
  and_intros <;> exact canEscape_of_checkCan tree_ordered clientsCan_ok (by decide)

/-- Handover client: only `nfc.llcp.Error` leaves any method.  In particular `recv_records` - the subject of the
C07 findings `handover-client-recv-ValueError` and `handover-client-recv-DecodeError`, repaired in /repo by
"fix: handover client returns no records for an incomplete or undecodable message" - absorbs what
`ndef.message_decoder` raises for the peer's octets (`handover_client_decoder_raises`: the assumption row is
not empty), `send_records` absorbs the `EncodeError`.  (`handover-client-recv-TypeError` was the `TypeError` of
`binascii.hexlify(None)`: a data operation, outside this analysis.) -/
theorem handover_client_escapes : ∀ f ∈ [Site.fn_handover_client_connect, Site.fn_handover_client___enter__,
    Site.fn_handover_client_send_records, Site.fn_handover_client_send_octets, Site.fn_handover_client_recv_records,
    Site.fn_handover_client_recv_octets], Only f [Cls.llcp_err_Error] :=
  only_each clientsOnly_ok (by decide)
theorem handover_client_no_ndef_error :
    NeverEscapes world table prog Site.fn_handover_client_recv_records [Cls.ndef_DecodeError, Cls.ValueError, Cls.ndef_EncodeError] ∧
    NeverEscapes world table prog Site.fn_handover_client_recv_octets [Cls.ndef_DecodeError, Cls.ValueError] ∧
    NeverEscapes world table prog Site.fn_handover_client_send_records [Cls.ndef_EncodeError] := by
  and_intros <;> exact neverEscapes_of_checkNever tree_ordered clientsNever_ok (by decide)
/-- non-vacuity: the decoder sites of `recv_records` / `recv_octets` are assumed to raise `DecodeError` and `ValueError`,
the encoder site of `send_records` `EncodeError`; the connection does fail -/
theorem handover_client_decoder_raises :
    table.lookup Site.handover_client_recv_records_ndef_message_decoder = some [Cls.ndef_DecodeError, Cls.ValueError] ∧
    table.lookup Site.handover_client_recv_octets_ndef_message_decoder = some [Cls.ndef_DecodeError, Cls.ValueError] ∧
    table.lookup Site.handover_client_send_records_ndef_message_encoder = some [Cls.ndef_EncodeError] ∧
    Can Site.fn_handover_client_connect Cls.llcp_err_ConnectRefused ∧ Can Site.fn_handover_client_recv_records Cls.llcp_err_Error :=
  ⟨by decide +kernel, by decide +kernel, by decide +kernel,
   canEscape_of_checkCan tree_ordered clientsCan_ok (by decide), canEscape_of_checkCan tree_ordered clientsCan_ok (by decide)⟩

end NfcVerif.ExcFlowProps
