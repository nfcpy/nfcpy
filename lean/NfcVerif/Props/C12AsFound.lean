import NfcVerif.Lemmas.IsoDepLive
/-!
# C12 statements about the AS-FOUND loops of `Model/IsoDep.lean` (before `fixes/C08/0010 - 0012`)

The theorems are about `IsoDep.exchange` with plain fuel for the three loops (no limit on S(WTX) requests, on
retransmissions after R(ACK), on chained response blocks).  `Props/C12.lean` states the same theorems (same names,
namespace `NfcVerif.C12`) about the REPAIRED initiator of `Model/IsoDepV2.lean`; this module serves the function
bridge of group IsoSm, whose regenerated definitions follow `/repo` and equal the as-found loops until the repairs
are applied there.  Never import both modules.
-/
namespace NfcVerif.C12
open NfcVerif NfcVerif.IsoDep

/-- the session invariant: as long as no unrecoverable error was raised, card and reader are in step -/
def SessInv (pcd : Pcd) (c : Card) : Prop := pcd.failed = none → pcd.pni < 2 ∧ Sync pcd.pni c

/-- activation state: PCD block number 0, PICC block number 1 (rules A and C), for every FSCI/FWI/device limit -/
theorem sess_init (fsci fwi maxSend : Nat) : SessInv (mkPcd fsci fwi maxSend) Card.init :=
  fun _ => ⟨by simp [mkPcd], ⟨rfl, rfl⟩⟩

/-- what one `exchange` guarantees in a session -/
def StepPost (cfg : CardCfg) (cmd : Bytes) (w : World Card) (r : World Card × Pcd × Py Bytes) : Prop :=
  (r.1.card.log = w.card.log ∨ r.1.card.log = w.card.log ++ [cmd]) ∧
  (∀ x, r.2.2 = .ok x → x = cfg.app w.card.log.length cmd ∧ r.1.card.log = w.card.log ++ [cmd]) ∧
  (r.2.2 ≠ .error .outOfFuel → SessInv r.2.1 r.1.card)

theorem exchange_step (cfg : CardCfg) (F : Nat) (pcd : Pcd) (cmd : Bytes) (w : World Card)
    (hs : SessInv pcd w.card) : StepPost cfg cmd w (exchange (isoPeer cfg) F pcd cmd w) := by
  unfold exchange
  cases hf : pcd.failed with
  | some e =>
    simp only
    refine ⟨Or.inl rfl, (by intro x hx; cases hx), ?_⟩
    intro _ hn; rw [hf] at hn; cases hn
  | none =>
    simp only
    obtain ⟨hp, hsync⟩ := hs hf
    by_cases h : pcd.miu ≤ 0 ∨ cmd = []
    · -- nothing is sent: ValueError / UnboundLocalError before the first block
      rcases exchangeCmd_nop (isoPeer cfg) F pcd cmd w h with hun | hun <;> rw [hun] <;> simp only <;>
        exact ⟨Or.inl rfl, (by intro x hx; cases hx), fun _ _ => ⟨hp, hsync⟩⟩
    · have hpos : 0 < pcd.miu := by
        by_cases h' : pcd.miu ≤ 0
        · exact absurd (Or.inl h') h
        · omega
      have hm : 1 ≤ pcd.miu.toNat := by omega
      have hc : cmd ≠ [] := fun hc => h (Or.inr hc)
      have := exchangeCmd_post cfg F pcd cmd w pcd.miu.toNat (by omega) hm hc hp hsync (fun _ => True)
        (fun _ _ => trivial) (fun _ _ => trivial)
      obtain ⟨_, hres⟩ := this
      generalize exchangeCmd (isoPeer cfg) F pcd cmd w = r at hres ⊢
      obtain ⟨w1, p1, res⟩ := r
      cases res with
      | ok x =>
        simp only at hres ⊢
        refine ⟨Or.inr hres.1, ?_, fun _ _ => ⟨hres.2.2.1, hres.2.2.2⟩⟩
        intro y hy; cases hy; exact ⟨hres.2.1, hres.1⟩
      | error e =>
        simp only at hres ⊢
        obtain ⟨hk, hlog⟩ := hres
        rcases hk with rfl | rfl | rfl | rfl
        · exact ⟨hlog, (by intro x hx; cases hx), fun hne => absurd rfl hne⟩
        all_goals
          exact ⟨hlog, (by intro x hx; cases hx), fun _ hn => by simp at hn⟩

/-- **At most once.** For every card application, response block size, S(WTX) placement, fuel,
retry budgets, frame size, command, *every fault script* and every state a session can be in:
the card's execution log after `exchange` is the old log, or the old log plus exactly the command
that was sent (never a second execution, never a truncated or spliced command) - also when
`exchange` fails, and also after earlier failures. -/
theorem isodep_at_most_once (cfg : CardCfg) (F : Nat) (pcd : Pcd) (cmd : Bytes) (w : World Card)
    (hs : SessInv pcd w.card) :
    (exchange (isoPeer cfg) F pcd cmd w).1.card.log = w.card.log ∨
    (exchange (isoPeer cfg) F pcd cmd w).1.card.log = w.card.log ++ [cmd] :=
  (exchange_step cfg F pcd cmd w hs).1

example : (exchange (isoPeer ⟨2, 1, 1, 1, 3, fun n c => c ++ [n, 0x90, 0]⟩) 20 { pni := 0, miu := 2, nNak := 5, nAck := 5 }
    [1, 2, 3, 4, 5]
    ⟨Card.init, [.d, .l, .l, .d, .c, .d, .d, .e, .d, .d, .d, .l], []⟩).1.card.log = [[1, 2, 3, 4, 5]] := by decide
/-- the same exchange with a retry budget of 2 fails, nothing was executed -/
example : (exchange (isoPeer ⟨2, 1, 1, 1, 3, fun n c => c ++ [n, 0x90, 0]⟩) 20 { pni := 0, miu := 3, nNak := 2, nAck := 2 }
    [1, 2, 3, 4, 5]
    ⟨Card.init, [.d, .l, .l, .d, .c, .d, .d, .e, .d, .d, .d, .l], []⟩).1.card.log = [] := by decide

/-- **Exact response.** A response that `exchange` returns is the complete response of the card's
execution of this very command (execution number `w.card.log.length`, so not a retransmission of
an earlier response) and the command was executed exactly once. No hypothesis on how earlier
exchanges of the session ended. -/
theorem isodep_response_exact (cfg : CardCfg) (F : Nat) (pcd : Pcd) (cmd : Bytes) (w : World Card)
    (hs : SessInv pcd w.card) (x : Bytes) (hx : (exchange (isoPeer cfg) F pcd cmd w).2.2 = .ok x) :
    x = cfg.app w.card.log.length cmd ∧
    (exchange (isoPeer cfg) F pcd cmd w).1.card.log = w.card.log ++ [cmd] :=
  (exchange_step cfg F pcd cmd w hs).2.1 x hx

/-- command chained in 3 blocks, response chained in 4 blocks, S(WTX) before every card block, 6 faults -/
example : (exchange (isoPeer ⟨2, 1, 1, 1, 3, fun n c => c ++ [n, 0x90, 0]⟩) 20 { pni := 0, miu := 2, nNak := 5, nAck := 5 }
    [1, 2, 3, 4, 5]
    ⟨Card.init, [.d, .l, .l, .d, .c, .d, .d, .e, .d, .d, .d, .l], []⟩).2.2 = .ok [1, 2, 3, 4, 5, 0, 0x90, 0] := by decide

/-- **The session invariant is preserved** by every exchange, whether it succeeds or raises. -/
theorem isodep_session_inv (cfg : CardCfg) (F : Nat) (pcd : Pcd) (cmd : Bytes) (w : World Card)
    (hs : SessInv pcd w.card) (hf : (exchange (isoPeer cfg) F pcd cmd w).2.2 ≠ .error .outOfFuel) :
    SessInv (exchange (isoPeer cfg) F pcd cmd w).2.1 (exchange (isoPeer cfg) F pcd cmd w).1.card :=
  (exchange_step cfg F pcd cmd w hs).2.2 hf

/-- at-most-once and exact response for every command of a sequence run on one activation -/
def SessionExact (cfg : CardCfg) (F : Nat) : List Bytes → Pcd → World Card → Prop
  | [], _, _ => True
  | c :: cs, pcd, w =>
    ((exchange (isoPeer cfg) F pcd c w).1.card.log = w.card.log ∨
     (exchange (isoPeer cfg) F pcd c w).1.card.log = w.card.log ++ [c]) ∧
    (∀ x, (exchange (isoPeer cfg) F pcd c w).2.2 = .ok x →
      x = cfg.app w.card.log.length c ∧ (exchange (isoPeer cfg) F pcd c w).1.card.log = w.card.log ++ [c]) ∧
    ((exchange (isoPeer cfg) F pcd c w).2.2 ≠ .error .outOfFuel →
      SessionExact cfg F cs (exchange (isoPeer cfg) F pcd c w).2.1 (exchange (isoPeer cfg) F pcd c w).1)

/-- **Sessions.** Any sequence of commands on one activation, any fault script, failed exchanges included: every
command is executed at most once and every response returned is the exact response to its command
(`outOfFuel` is the model's marker for "more than `F` blocks in one loop", see `isodep_absorbs` / `isodep_terminates`). -/
theorem isodep_session_exact (cfg : CardCfg) (F : Nat) (cmds : List Bytes) :
    ∀ (pcd : Pcd) (w : World Card), SessInv pcd w.card → SessionExact cfg F cmds pcd w := by
  induction cmds with
  | nil => intro _ _ _; trivial
  | cons c cs ih =>
    intro pcd w hs
    obtain ⟨h1, h2, h3⟩ := exchange_step cfg F pcd c w hs
    exact ⟨h1, h2, fun hf => ih _ _ (h3 hf)⟩

theorem isodep_session_from_activation (cfg : CardCfg) (F : Nat) (cmds : List Bytes) (fsci fwi maxSend : Nat)
    (script : List Fault) : SessionExact cfg F cmds (mkPcd fsci fwi maxSend) ⟨Card.init, script, []⟩ :=
  isodep_session_exact cfg F cmds _ _ (sess_init fsci fwi maxSend)

/-- **After an unrecoverable error** no block is sent any more: the error is raised again, the card is not touched. -/
theorem isodep_refuses_after_error {σ : Type} (P : Peer σ) (F : Nat) (pcd : Pcd) (cmd : Bytes) (w : World σ) (e : Int)
    (h : pcd.failed = some e) : exchange P F pcd cmd w = (w, pcd, .error (.tagCmd e)) := by
  unfold exchange; simp [h]

/-- every `Type4TagCommandError` raised by `exchange` sets the flag -/
theorem isodep_error_sets_flag {σ : Type} (P : Peer σ) (F : Nat) (pcd : Pcd) (cmd : Bytes) (w : World σ) (e : Int)
    (h : (exchange P F pcd cmd w).2.2 = .error (.tagCmd e)) : (exchange P F pcd cmd w).2.1.failed = some e := by
  unfold exchange at h ⊢
  cases hf : pcd.failed with
  | some e' => simp only [hf] at h ⊢; cases h; rfl
  | none =>
    simp only [hf] at h ⊢
    generalize exchangeCmd P F pcd cmd w = r at h ⊢
    obtain ⟨w1, p1, res⟩ := r
    cases res with
    | ok x => simp at h
    | error e' =>
      cases e' with
      | tagCmd n => simp only at h ⊢; cases h; rfl
      | _ => simp only at h; cases h

def exCfg : CardCfg := ⟨253, 0, 0, 0, 1, fun n c => c ++ [n, 0x90, 0]⟩
def exPcd : Pcd := { pni := 0, miu := 253, nNak := 1, nAck := 1 }
/-- first exchange: command delivered, response and its retransmission lost; second exchange: I-block would be lost -/
def exWorld : World Card := ⟨Card.init, [.d, .l, .d, .l, .l, .d, .d], []⟩

/-- the witness of finding `isodep-stale-after-error` (without the error latch of `fixes/C12` the second command
returns the response of the first one): it raises the error of the first exchange and the card sees no further block -/
example :
    (exchange (isoPeer exCfg) 8 exPcd [1, 1] exWorld).2.2 = .error (.tagCmd TIMEOUT_ERROR) ∧
    (exchange (isoPeer exCfg) 8 (exchange (isoPeer exCfg) 8 exPcd [1, 1] exWorld).2.1 [2, 2]
      (exchange (isoPeer exCfg) 8 exPcd [1, 1] exWorld).1).2.2 = .error (.tagCmd TIMEOUT_ERROR) ∧
    (exchange (isoPeer exCfg) 8 (exchange (isoPeer exCfg) 8 exPcd [1, 1] exWorld).2.1 [2, 2]
      (exchange (isoPeer exCfg) 8 exPcd [1, 1] exWorld).1).1.trace = [[2, 1, 1], [0xB2]] := by decide

/-- **send_apdu.** When `send_apdu(..., check_status=True)` returns `x`, the card executed exactly one command, namely
the ISO 7816-4 encoding of the arguments, and answered `x` followed by the status word 9000; any other status word
is raised as `Type4TagCommandError(SW)`. -/
theorem isodep_send_apdu_exact (cfg : CardCfg) (F : Nat) (pcd : Pcd) (ext : Bool) (cla ins p1 p2 : Nat) (data : Bytes)
    (mrl : Nat) (w : World Card) (hs : SessInv pcd w.card) (x : Bytes)
    (hx : (sendApdu (isoPeer cfg) F pcd ext cla ins p1 p2 data mrl true w).2.2 = .ok x) :
    ∃ apdu, encodeApdu ext cla ins p1 p2 data mrl = .ok apdu ∧
      (sendApdu (isoPeer cfg) F pcd ext cla ins p1 p2 data mrl true w).1.card.log = w.card.log ++ [apdu] ∧
      cfg.app w.card.log.length apdu = x ++ [0x90, 0x00] := by
  unfold sendApdu at hx ⊢
  cases henc : encodeApdu ext cla ins p1 p2 data mrl with
  | error e => simp [henc] at hx
  | ok apdu =>
    simp only [henc] at hx ⊢
    refine ⟨apdu, rfl, ?_⟩
    cases hex : (exchange (isoPeer cfg) F pcd apdu w).2.2 with
    | error e => simp [hex] at hx
    | ok rsp =>
      simp only [hex] at hx ⊢
      obtain ⟨hr, hlog⟩ := isodep_response_exact cfg F pcd apdu w hs rsp hex
      exact ⟨hlog, by rw [← hr]; exact checkStatus_ok hx⟩

example : (sendApdu (isoPeer ⟨3, 0, 0, 0, 1, fun _ c => c.take 2 ++ [0x90, 0]⟩) 20 { pni := 0, miu := 4, nNak := 2, nAck := 2 } false 0 0xB0 0 0 [] 2 true
    ⟨Card.init, [.d, .l, .c], []⟩).2.2 = .ok [0, 0xB0] := by decide

/-- the error flag holds one of the three documented error numbers -/
def FlagOk (pcd : Pcd) : Prop :=
  ∀ e, pcd.failed = some e → e = TIMEOUT_ERROR ∨ e = RECEIVE_ERROR ∨ e = PROTOCOL_ERROR

/-- **Error kind.** Whatever the card does (any `Peer`, not only the ISO PICC), every fault script, every session
state: if `exchange` raises, it raises `Type4TagCommandError` with errno `TIMEOUT_ERROR`, `RECEIVE_ERROR` or
`PROTOCOL_ERROR` - no `IndexError`, no raw `nfc.clf` exception.  (`outOfFuel` is not a Python exception:
it marks a run in which the card kept the reader busy for more than `F` blocks in one loop; `isodep_terminates`
excludes it for the ISO card.) -/
theorem isodep_error_kind {σ : Type} (P : Peer σ) (F : Nat) (pcd : Pcd) (cmd : Bytes) (w : World σ)
    (hm : 0 < pcd.miu) (hcmd : cmd ≠ []) (hfl : FlagOk pcd) :
    (∀ e, (exchange P F pcd cmd w).2.2 = .error e →
      e = .outOfFuel ∨ e = .tagCmd TIMEOUT_ERROR ∨ e = .tagCmd RECEIVE_ERROR ∨ e = .tagCmd PROTOCOL_ERROR) ∧
    FlagOk (exchange P F pcd cmd w).2.1 := by
  unfold exchange
  cases hf : pcd.failed with
  | some e' =>
    simp only
    rcases hfl e' hf with rfl | rfl | rfl <;> exact ⟨fun e h => (by cases h; simp), hfl⟩
  | none =>
    simp only
    have hk := exchangeCmd_error_kind_any P F pcd cmd w hm hcmd
    have hfl' := exchangeCmd_failed P F pcd cmd w
    generalize exchangeCmd P F pcd cmd w = r at hk hfl' ⊢
    obtain ⟨w1, p1, res⟩ := r
    simp only at hk hfl'
    have hp1 : FlagOk p1 := by intro e he; rw [hfl', hf] at he; cases he
    cases res with
    | ok x => exact ⟨fun e h => (by cases h), hp1⟩
    | error e' =>
      rcases hk e' rfl with rfl | rfl | rfl | rfl
      · exact ⟨fun e h => (by cases h; simp), hp1⟩
      all_goals
        exact ⟨fun e h => (by cases h; simp), fun e he => by simp at he; subst he; simp⟩

example : (exchange (isoPeer ⟨2, 1, 0, 0, 3, fun n c => c ++ [n, 0x90, 0]⟩) 20 { pni := 0, miu := 3, nNak := 1, nAck := 1 } [1, 2]
    ⟨Card.init, [.d, .d, .d, .c, .d, .l], []⟩).2.2 = .error (.tagCmd TIMEOUT_ERROR) := by decide

/-- fuel of the model loops that is enough for the ISO card: `W` bounds the S(WTX) requests per block, the retry
loops run at most `2n+3` times, the response chain has at most as many blocks as the response has octets -/
def FuelEnough (cfg : CardCfg) (W F : Nat) (pcd : Pcd) (cmd : Bytes) (w : World Card) : Prop :=
  1 ≤ cfg.chunk ∧ cfg.wtxAck ≤ W ∧ cfg.wtxI ≤ W ∧ cfg.wtxChain ≤ W ∧
  W + 1 ≤ F ∧ 2 * pcd.nNak + 3 ≤ F ∧ 2 * pcd.nAck + 3 ≤ F ∧ (cfg.app w.card.log.length cmd).length < F

/-- **Termination.** Against the ISO/IEC 14443-4 card every loop of `exchange` ends, for every fault script: the
`outOfFuel` disjunct of `isodep_error_kind` does not occur once the fuel exceeds the stated bounds (the card
sends at most `W` S(WTX) requests per block and its response blocks are not empty). -/
theorem isodep_terminates (cfg : CardCfg) (W F : Nat) (pcd : Pcd) (cmd : Bytes) (w : World Card)
    (hs : SessInv pcd w.card) (hm : 0 < pcd.miu) (hcmd : cmd ≠ []) (hfuel : FuelEnough cfg W F pcd cmd w) :
    (exchange (isoPeer cfg) F pcd cmd w).2.2 ≠ .error .outOfFuel := by
  cases hf : pcd.failed with
  | some e => rw [isodep_refuses_after_error _ F pcd cmd w e hf]; simp
  | none =>
    obtain ⟨hp, hsync⟩ := hs hf
    obtain ⟨h1, h2, h3, h4, h5, h6, h7, h8⟩ := hfuel
    rw [(exchange_unfailed _ F pcd cmd w hf).1]
    exact (exchangeCmd_live cfg W F pcd cmd w pcd.miu.toNat (by omega) (by omega) hcmd hp hsync h1 h2 h3 h4 h5 h8).1 ⟨h6, h7⟩

/-- the documented errors only, for the ISO card -/
theorem isodep_error_kind_iso (cfg : CardCfg) (W F : Nat) (pcd : Pcd) (cmd : Bytes) (w : World Card)
    (hs : SessInv pcd w.card) (hm : 0 < pcd.miu) (hcmd : cmd ≠ []) (hfl : FlagOk pcd)
    (hfuel : FuelEnough cfg W F pcd cmd w) (e : Exc) (h : (exchange (isoPeer cfg) F pcd cmd w).2.2 = .error e) :
    e = .tagCmd TIMEOUT_ERROR ∨ e = .tagCmd RECEIVE_ERROR ∨ e = .tagCmd PROTOCOL_ERROR := by
  rcases (isodep_error_kind (isoPeer cfg) F pcd cmd w hm hcmd hfl).1 e h with rfl | h' | h' | h'
  · exact absurd h (isodep_terminates cfg W F pcd cmd w hs hm hcmd hfuel)
  · exact Or.inl h'
  · exact Or.inr (Or.inl h')
  · exact Or.inr (Or.inr h')

/-- **Absorbed faults.** If the fault script (over the whole exchange: all command blocks, S(WTX) exchanges and response
blocks) contains `k` lost / corrupted / empty blocks with `2k ≤ n_retry + 1` and no reader protocol error, the exchange
succeeds and returns the card's response.  The bound is exact for the code as written: the retransmission of an I-block
after R(ACK) advances the retry counter as well, so a fault can cost two counts; `k ≤ n_retry` is *not* enough
(`isodep_absorbs_bound_tight`). -/
theorem isodep_absorbs (cfg : CardCfg) (W F : Nat) (pcd : Pcd) (cmd : Bytes) (w : World Card)
    (hs : SessInv pcd w.card) (hf : pcd.failed = none) (hm : 0 < pcd.miu) (hcmd : cmd ≠ [])
    (hfuel : FuelEnough cfg W F pcd cmd w) (hnp : Fault.p ∉ w.script)
    (hk1 : 2 * nfaults w.script ≤ pcd.nNak + 1) (hk2 : 2 * nfaults w.script ≤ pcd.nAck + 1) :
    (exchange (isoPeer cfg) F pcd cmd w).2.2 = .ok (cfg.app w.card.log.length cmd) := by
  obtain ⟨hp, hsync⟩ := hs hf
  obtain ⟨h1, h2, h3, h4, h5, h6, h7, h8⟩ := hfuel
  have hl := (exchangeCmd_live cfg W F pcd cmd w pcd.miu.toNat (by omega) (by omega) hcmd hp hsync h1 h2 h3 h4 h5 h8).2
    hnp ⟨⟨by omega, by omega⟩, hk1, hk2⟩
  obtain ⟨⟨d, hd⟩, _⟩ := hl
  rw [← (exchange_unfailed _ F pcd cmd w hf).1] at hd
  rw [hd, (isodep_response_exact cfg F pcd cmd w hs d hd).1]

/-- 3 faults with the maximal budget 5 (2k-1 = 5): absorbed -/
example : (exchange (isoPeer ⟨8, 1, 0, 0, 3, fun n c => c ++ [n, 0x90, 0]⟩) 14 { pni := 0, miu := 13, nNak := 5, nAck := 5 }
    [1, 2] ⟨Card.init, [.l, .d, .d, .l, .d, .d, .d, .c], []⟩).2.2 = .ok [1, 2, 0, 0x90, 0] := by decide

/-- the bound is tight: budget 2, two faults (`2k = 4 > n + 1`): the I-block is lost, R(NAK) is answered by R(ACK), the
I-block is retransmitted at count 3 and its answer is lost - `Type4TagCommandError` although only two blocks were lost -/
theorem isodep_absorbs_bound_tight :
    (exchange (isoPeer ⟨8, 0, 0, 0, 3, fun n c => c ++ [n, 0x90, 0]⟩) 14 { pni := 0, miu := 13, nNak := 2, nAck := 2 }
      [1, 2] ⟨Card.init, [.l, .d, .d, .d, .l], []⟩).2.2 = .error (.tagCmd TIMEOUT_ERROR) := by decide

/-- **Block bound.** With `miu = FSC - 3` every block handed to the reader during the exchange - I-blocks,
R(ACK), R(NAK) and S(WTX) responses - is at most `FSC - 2` octets, i.e. fits the card's frame size with
its two CRC octets. -/
theorem isodep_block_bound (cfg : CardCfg) (F : Nat) (pcd : Pcd) (cmd : Bytes) (w : World Card) (fsc : Nat)
    (hfsc : 4 ≤ fsc) (hmiu : pcd.miu = (fsc : Int) - 3) (hcmd : cmd ≠ []) (hs : SessInv pcd w.card) :
    ∀ b ∈ (exchange (isoPeer cfg) F pcd cmd w).1.trace, b ∈ w.trace ∨ b.length + 2 ≤ fsc := by
  cases hf : pcd.failed with
  | some e => rw [isodep_refuses_after_error _ F pcd cmd w e hf]; exact fun b hb => Or.inl hb
  | none =>
    obtain ⟨hp, hsync⟩ := hs hf
    rw [(exchange_unfailed _ F pcd cmd w hf).2]
    exact (exchangeCmd_post cfg F pcd cmd w (fsc - 3) (by omega) (by omega) hcmd hp hsync
      (fun b => b ∈ w.trace ∨ b.length + 2 ≤ fsc) (fun b hb => Or.inr (by omega)) (fun b hb => Or.inl hb)).1

/-- the frame size of the card after clamping to the device limit, FSCI 0..8 and RFU values -/
theorem isodep_block_bound_derived (cfg : CardCfg) (F : Nat) (fsci fwi maxSend : Nat) (cmd : Bytes)
    (script : List Fault) (hdev : 4 ≤ maxSend) (hcmd : cmd ≠ []) :
    ∀ b ∈ (exchange (isoPeer cfg) F (mkPcd fsci fwi maxSend) cmd ⟨Card.init, script, []⟩).1.trace,
      b.length + 2 ≤ maxSend ∧ b.length + 2 ≤ fscTable.getD (min fsci 8) 256 := by
  intro b hb
  obtain ⟨hfsc, _, h16⟩ := deriveFsc_spec fsci maxSend
  rcases isodep_block_bound cfg F (mkPcd fsci fwi maxSend) cmd ⟨Card.init, script, []⟩ (deriveFsc fsci maxSend)
    (by omega) rfl hcmd (sess_init fsci fwi maxSend) b hb with h | h
  · simp at h
  · omega

example : ∀ b ∈ (exchange (isoPeer ⟨13, 1, 0, 0, 3, fun n c => c ++ [n, 0x90, 0]⟩) 20 (mkPcd 0 4 256)
    (List.range 30) ⟨Card.init, [.d, .l], []⟩).1.trace, b.length + 2 ≤ 16 := by decide

/-- **FSC / FWT derivation.** FSCI indexes the ISO table (RFU values 9..15 read as 8 = 256 octets), the result is
clamped to the device limit; the retry budget is `min(int(1/FWT), 5)` with `FWT = 4096/13.56 MHz * 2^FWI`
(FWI 15 read as 4): 5 for FWI ≤ 9, 3 for FWI 10, 1 for FWI 11, none from FWI 12 on. -/
theorem fsc_fwt_derivation (fsci fwi maxSend : Nat) :
    deriveFsc fsci maxSend = min (fscTable.getD (min fsci 8) 256) maxSend ∧
    fscTable.getD (min fsci 8) 256 ∈ fscTable ∧
    (mkPcd fsci fwi maxSend).miu = (deriveFsc fsci maxSend : Int) - 3 ∧
    (mkPcd fsci fwi maxSend).pni = 0 ∧
    (mkPcd fsci fwi maxSend).nNak = deriveRetry fwi ∧ (mkPcd fsci fwi maxSend).nAck = deriveRetry fwi ∧
    deriveRetry fwi ≤ 5 ∧
    (fwi ≤ 9 ∨ fwi = 15 → deriveRetry fwi = 5) ∧ (fwi = 10 → deriveRetry fwi = 3) ∧
    (fwi = 11 → deriveRetry fwi = 1) ∧ (12 ≤ fwi ∧ fwi ≤ 14 → deriveRetry fwi = 0) ∧
    (16 ≤ maxSend → 13 ≤ (mkPcd fsci fwi maxSend).miu) := by
  obtain ⟨hfsc, hmem, h16⟩ := deriveFsc_spec fsci maxSend
  obtain ⟨r1, r2, r3, r4, r5⟩ := deriveRetry_spec fwi
  refine ⟨hfsc, hmem, rfl, rfl, rfl, rfl, r1, r2, r3, r4, r5, fun h => ?_⟩
  show 13 ≤ (deriveFsc fsci maxSend : Int) - 3
  omega

example : mkPcd 2 11 24 = { pni := 0, miu := 21, nNak := 1, nAck := 1 } := by decide

/-- **ATS evaluation (Type 4A).** For every Answer To Select laid out as in ISO/IEC 14443-4 - FSCI 0..15 in T0, any
subset of TA(1), TB(1), TC(1) present, any historical bytes - activation derives the parameters from the FSCI
announced in T0 and from the FWI in TB(1), or FWI 4 when TB(1) is absent. -/
theorem ats_derivation (fsci : Nat) (hf : fsci < 16) (ta tb tc : Option Nat) (hist : Bytes) (maxSend : Nat) :
    activateA (mkAts fsci ta tb tc hist) maxSend =
      .ok (mkPcd fsci (match tb with | some b => b >>> 4 | none => 4) maxSend) :=
  mkAts_decode (β := Py Pcd) (fun a b => Except.ok (mkPcd a b maxSend)) fsci hf ta tb tc hist

/-- an ATS that consists of the length byte only: the defaults FSCI 2 (32 octets) and FWI 4 -/
theorem ats_tl_only (maxSend : Nat) : activateA [1] maxSend = .ok (mkPcd 2 4 maxSend) := rfl

/-- **Block bound after a Type 4A activation**: whatever the shape of the ATS, every block of a following exchange fits
the frame size the card announced in T0 (and the device limit). -/
theorem isodep_block_bound_ats (cfg : CardCfg) (F : Nat) (fsci : Nat) (hf : fsci < 16) (ta tb tc : Option Nat)
    (hist : Bytes) (maxSend : Nat) (cmd : Bytes) (script : List Fault) (hdev : 4 ≤ maxSend) (hcmd : cmd ≠ []) :
    ∃ pcd, activateA (mkAts fsci ta tb tc hist) maxSend = .ok pcd ∧
      ∀ b ∈ (exchange (isoPeer cfg) F pcd cmd ⟨Card.init, script, []⟩).1.trace,
        b.length + 2 ≤ maxSend ∧ b.length + 2 ≤ fscTable.getD (min fsci 8) 256 :=
  ⟨_, ats_derivation fsci hf ta tb tc hist maxSend,
    isodep_block_bound_derived cfg F fsci _ maxSend cmd script hdev hcmd⟩

example : activateA [2, 0x00] 256 = .ok { pni := 0, miu := 13, nNak := 5, nAck := 5 } := by decide
example : activateA (mkAts 1 none (some 0xB0) (some 2) [0x80, 0x01]) 256 = .ok { pni := 0, miu := 21, nNak := 1, nAck := 1 } := by decide
example : activateA [5, 0x78, 0x80, 0x70, 0x02] 256 = .ok { pni := 0, miu := 253, nNak := 5, nAck := 5 } := by decide

end NfcVerif.C12
