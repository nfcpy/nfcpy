import NfcVerif.Lemmas.FnBridgePdu
import NfcVerif.Lemmas.PduSafe
import NfcVerif.Lemmas.PduRound
/-!
# Bridge theorems, group Pdu (`nfc/llcp/pdu.py` -> `Gen/FnPdu.lean` -> `Model/Pdu.lean`; C11, C10, C07)

Encodings stated in the theorems:
* offsets, sizes and field values are naturals in the model and (non-negative) Python ints in the source:
  `(n : Int)` casts on the arguments, `i2`/`i4` on results;
* a constructor call `Cls(a, b, ..)` of the source is the tuple of its arguments in `Gen/FnPdu.lean`
  (`__init__` is not translated) and the constructor `SPdu.cls a b ..` of the model;
* `self.ptype` is an argument of the regenerated encoders; the theorems instantiate it with the constant
  the class constructor passes to the base class (0 SYMM, 3 UI, 5 DISC, 7 DM, 8 FRMR, 12 I, 13 RR, 14 RNR);
* `Parameter.decode` returns values of different Python types: `PyFn.Val`, related to the model's `TlvV` by `encV`;
* `Parameter.encode` is translated once per value type (int, octet string, `(tid, sn)`, `(tid, sap)`).
-/
namespace NfcVerif.FnBridge.Pdu
open NfcVerif NfcVerif.PyFn NfcVerif.Pdu NfcVerif.Pdu.Impl

/-- `ProtocolDataUnit.decode_header(data, offset, size)` -/
theorem decode_header_bridge (d : Bytes) (off size : Nat) :
    Gen.Fn.pdu_decode_header d off (some (size : Int)) = decodeHeader d off size >>= fun p => .ok (i2 p) := by
  unfold Gen.Fn.pdu_decode_header decodeHeader
  simp only [unpackBB_eq]
  py_nat
  rfl

example : Gen.Fn.pdu_decode_header [0x11, 0x20] 0 (some 2) = .ok (4, 32) := by decide +kernel
example : Gen.Fn.pdu_decode_header [0x11] 0 (some 2) = .error .struct := by decide +kernel

/-- `NumberedProtocolDataUnit.decode_header` -/
theorem decode_header_n_bridge (d : Bytes) (off size : Nat) :
    Gen.Fn.pdu_decode_header_n d off (some (size : Int)) = decodeHeaderN d off size >>= fun p => .ok (i4 p) := by
  unfold Gen.Fn.pdu_decode_header_n decodeHeaderN
  simp only [unpackBBB_eq]
  py_nat
  rfl

example : Gen.Fn.pdu_decode_header_n [0x13, 0x20, 0x5A] 0 (some 3) = .ok (4, 32, 5, 10) := by decide +kernel

/-- `ProtocolDataUnit.encode_header` for non-negative field values (the model's domain) -/
theorem encode_header_bridge (ptype dsap ssap : Nat) :
    Gen.Fn.pdu_encode_header ptype dsap ssap = encodeHeader ptype dsap ssap := by
  unfold Gen.Fn.pdu_encode_header encodeHeader orShl
  py_nat
  simp only [← Nat.shiftLeft_eq, packField_Hbe, Nat.or_assoc, gt_iff_lt]

/-- `encode_header_bridge` at a literal packet type, the form in which the encoders below call it -/
theorem encode_header_lit (n dsap ssap : Nat) :
    Gen.Fn.pdu_encode_header (no_index (OfNat.ofNat n)) dsap ssap = encodeHeader (OfNat.ofNat n) dsap ssap :=
  encode_header_bridge n dsap ssap

example : Gen.Fn.pdu_encode_header 4 16 32 = .ok [0x41, 0x20] := by decide +kernel
example : Gen.Fn.pdu_encode_header 4 64 32 = .error .encodeError := by decide +kernel

/-- `NumberedProtocolDataUnit.encode_header` -/
theorem encode_header_n_bridge (ptype dsap ssap ns nr : Nat) :
    Gen.Fn.pdu_encode_header_n ptype dsap ssap ns nr = encodeHeaderN ptype dsap ssap ns nr := by
  unfold Gen.Fn.pdu_encode_header_n encodeHeaderN orShl
  rw [encode_header_bridge]
  cases encodeHeader ptype dsap ssap with
  | error e => rfl
  | ok h =>
    py_nat
    simp only [← Nat.shiftLeft_eq, packField_B, gt_iff_lt]
    by_cases h2 : 15 < ns ∨ 15 < nr
    · simp [h2]
    · have : ¬ 255 < ns <<< 4 ||| nr := by
        have a : ns <<< 4 < 2 ^ 8 := by rw [Nat.shiftLeft_eq]; omega
        have b : nr < 2 ^ 8 := by omega
        have := Nat.or_lt_two_pow a b
        omega
      simp [h2, this]

example : Gen.Fn.pdu_encode_header_n 12 16 32 5 10 = .ok [0x43, 0x20, 0x5A] := by decide +kernel

theorem with_header {β γ : Type} (d : Bytes) (off size : Nat) {k : Int × Int → Py β} {f : β → Py γ} {k' : Nat × Nat → Py γ}
    (h : ∀ a b : Nat, decodeHeader d off size = .ok (a, b) → (k (a, b) >>= f) = k' (a, b)) :
    ((Gen.Fn.pdu_decode_header d off (some (size : Int)) >>= k) >>= f) = (decodeHeader d off size >>= k') := by
  rw [bind_assoc]
  exact bind_bridge (decode_header_bridge d off size) fun p hp => h p.1 p.2 hp

theorem with_header_n {β γ : Type} (d : Bytes) (off size : Nat) {k : Int × Int × Int × Int → Py β} {f : β → Py γ}
    {k' : Nat × Nat × Nat × Nat → Py γ} (h : ∀ a b c e : Nat, (k (a, b, c, e) >>= f) = k' (a, b, c, e)) :
    ((Gen.Fn.pdu_decode_header_n d off (some (size : Int)) >>= k) >>= f) = (decodeHeaderN d off size >>= k') := by
  rw [bind_assoc]
  exact bind_bridge (decode_header_n_bridge d off size) fun p _ => h p.1 p.2.1 p.2.2.1 p.2.2.2

/-- a decoder that tests `size` before it reads the header (DM, FRMR) -/
theorem with_header_if {γ : Type} (d : Bytes) (off size : Nat) {c : Prop} [Decidable c] {x : Py γ} {k : Int × Int → Py γ}
    {k' : Nat × Nat → Py γ} (h : ∀ p, k (i2 p) = k' p) :
    (if c then Gen.Fn.pdu_decode_header d off (some (size : Int)) >>= k else x)
      = if c then decodeHeader d off size >>= k' else x :=
  ite_congr rfl (fun _ => bind_bridge (decode_header_bridge d off size) fun p _ => h p) fun _ => rfl

/-- `Symmetry.decode`; the constructor call `Symmetry(dsap, ssap)` is the model's `SPdu.symm dsap ssap` (likewise below) -/
theorem symm_decode_bridge (d : Bytes) (off size : Nat) :
    (Gen.Fn.pdu_symm_decode d off size >>= fun r => .ok (SPdu.symm r.1.toNat r.2.toNat)) = decSymm d off size := by
  unfold Gen.Fn.pdu_symm_decode decSymm
  refine with_header d off size fun a b _ => ?_
  py_nat

example : Gen.Fn.pdu_symm_decode [0, 0] 0 2 = .ok (0, 0) := by decide +kernel

theorem disc_decode_bridge (d : Bytes) (off size : Nat) :
    (Gen.Fn.pdu_disc_decode d off size >>= fun r => .ok (SPdu.disc r.1.toNat r.2.toNat)) = decDisc d off size := by
  unfold Gen.Fn.pdu_disc_decode decDisc
  exact with_header d off size fun a b _ => rfl

theorem dm_decode_bridge (d : Bytes) (off size : Nat) :
    (Gen.Fn.pdu_dm_decode d off size >>= fun r => .ok (SPdu.dm r.1.toNat r.2.1.toNat r.2.2.toNat)) = decDm d off size := by
  unfold Gen.Fn.pdu_dm_decode decDm
  simp only [unpackB_eq]
  py_nat
  exact with_header_if d off size fun _ => rfl

example : Gen.Fn.pdu_dm_decode [0x11, 0xE0, 0x02] 0 3 = .ok (4, 32, 2) := by decide +kernel

theorem frmr_decode_bridge (d : Bytes) (off size : Nat) :
    (Gen.Fn.pdu_frmr_decode d off size >>= fun r => .ok (SPdu.frmr r.1.toNat r.2.1.toNat r.2.2.1.toNat r.2.2.2.1.toNat
      r.2.2.2.2.1.toNat r.2.2.2.2.2.1.toNat r.2.2.2.2.2.2.1.toNat r.2.2.2.2.2.2.2.1.toNat r.2.2.2.2.2.2.2.2.1.toNat
      r.2.2.2.2.2.2.2.2.2.toNat)) = decFrmr d off size := by
  unfold Gen.Fn.pdu_frmr_decode decFrmr
  simp only [unpackBBBB_eq]
  py_nat
  exact with_header_if d off size fun _ => rfl

example : Gen.Fn.pdu_frmr_decode [0x12, 0x20, 0x8C, 0x12, 0x34, 0x56] 0 6 = .ok (4, 32, 8, 12, 1, 2, 3, 4, 5, 6) := by rfl

theorem ui_decode_bridge (d : Bytes) (off size : Nat) :
    (Gen.Fn.pdu_ui_decode d off size >>= fun r => .ok (SPdu.ui r.1.toNat r.2.1.toNat (r.2.2.getD []))) = decUi d off size := by
  unfold Gen.Fn.pdu_ui_decode decUi
  refine with_header d off size fun a b _ => ?_
  py_nat; simp only [Option.getD_some]

example : Gen.Fn.pdu_ui_decode [0x10, 0xE0, 1, 2, 3] 0 5 = .ok (4, 32, some [1, 2, 3]) := by decide +kernel

theorem i_decode_bridge (d : Bytes) (off size : Nat) :
    (Gen.Fn.pdu_i_decode d off size >>= fun r => .ok (SPdu.info r.1.toNat r.2.1.toNat (r.2.2.1.getD 0).toNat
      (r.2.2.2.1.getD 0).toNat (r.2.2.2.2.getD []))) = decInfo d off size := by
  unfold Gen.Fn.pdu_i_decode decInfo
  refine with_header_n d off size fun a b c e => ?_
  py_nat; simp only [Int.toNat_natCast, Option.getD_some]

example : Gen.Fn.pdu_i_decode [0x13, 0x20, 0x5A, 9] 0 4 = .ok (4, 32, some 5, some 10, some [9]) := by rfl

theorem rr_decode_bridge (d : Bytes) (off size : Nat) :
    (Gen.Fn.pdu_rr_decode d off size >>= fun r => .ok (SPdu.rr r.1.toNat r.2.1.toNat (r.2.2.getD 0).toNat)) = decRr d off size := by
  unfold Gen.Fn.pdu_rr_decode decRr
  exact with_header_n d off size fun a b c e => rfl

theorem rnr_decode_bridge (d : Bytes) (off size : Nat) :
    (Gen.Fn.pdu_rnr_decode d off size >>= fun r => .ok (SPdu.rnr r.1.toNat r.2.1.toNat r.2.2.toNat)) = decRnr d off size := by
  unfold Gen.Fn.pdu_rnr_decode decRnr
  exact with_header_n d off size fun a b c e => rfl

/-- `UnknownProtocolDataUnit.decode`; needs octets (`IsBytes`): the model adds where the code ORs -/
theorem unknown_decode_bridge (d : Bytes) (hd : IsBytes d) (off size : Nat) :
    (Gen.Fn.pdu_unknown_decode d off size >>= fun r => .ok (SPdu.unknown r.1.toNat r.2.1.toNat r.2.2.1.toNat r.2.2.2))
      = decUnknown d off size := by
  unfold Gen.Fn.pdu_unknown_decode decUnknown
  refine with_header d off size fun a b _ => ?_
  py_nat
  simp only [idxN_nat]
  by_cases h0 : off < d.length
  · by_cases h1 : off + 1 < d.length
    · simp only [h0, h1, if_true, Py.bind_ok]
      have hb : at0 d (off + 1) / 2 ^ 6 < 2 ^ 2 := by have := at0_lt_256 hd (off + 1); omega
      rw [← Nat.shiftLeft_eq, ← Nat.shiftLeft_add_eq_or_of_lt hb, Nat.shiftLeft_eq]
    · simp only [h0, h1, if_true, if_false, Py.bind_ok, Py.bind_error]
  · simp only [h0, if_false, Py.bind_error]

example : Gen.Fn.pdu_unknown_decode [0x12, 0xE0, 7] 0 3 = .ok (11, 4, 32, [7]) := by decide +kernel

/-! ## encoders (the `ptype` attribute is the constant the class constructor passes to the base class) -/

theorem symm_encode_bridge (dsap ssap : Nat) : Gen.Fn.pdu_symm_encode 0 dsap ssap = encodeS (.symm dsap ssap) := by
  unfold Gen.Fn.pdu_symm_encode
  simp only [encodeS]
  rw [encode_header_lit]; py_nat

theorem disc_encode_bridge (dsap ssap : Nat) : Gen.Fn.pdu_disc_encode 5 dsap ssap = encodeS (.disc dsap ssap) := by
  unfold Gen.Fn.pdu_disc_encode
  simp only [encodeS]
  exact encode_header_lit 5 dsap ssap

theorem dm_encode_bridge (dsap ssap reason : Nat) :
    Gen.Fn.pdu_dm_encode 7 dsap ssap reason = encodeS (.dm dsap ssap reason) := by
  unfold Gen.Fn.pdu_dm_encode
  simp only [encodeS, packB]
  rw [encode_header_lit, pack_B]
  cases encodeHeader 7 dsap ssap with
  | error e => rfl
  | ok h => simp only [Py.bind_ok]; split <;> rfl

example : Gen.Fn.pdu_dm_encode 7 4 32 256 = .error .struct := by decide +kernel

theorem frmr_encode_bridge (dsap ssap flags ptype ns nr vs vr vsa vra : Nat) :
    Gen.Fn.pdu_frmr_encode 8 dsap ssap flags ptype ns nr vs vr vsa vra
      = encodeS (.frmr dsap ssap flags ptype ns nr vs vr vsa vra) := by
  unfold Gen.Fn.pdu_frmr_encode
  simp only [encodeS, orShl]
  rw [encode_header_lit]
  cases encodeHeader 8 dsap ssap with
  | error e => rfl
  | ok h =>
    py_nat
    simp only [← Nat.shiftLeft_eq, packField_B, ite_error_bind, ite_ite_or, gt_iff_lt, List.cons_append, List.nil_append]

example : Gen.Fn.pdu_frmr_encode 8 4 32 8 12 1 2 3 4 5 6 = .ok [0x12, 0x20, 0x8C, 0x12, 0x34, 0x56] := by decide +kernel

theorem ui_encode_bridge (dsap ssap : Nat) (data : Bytes) :
    Gen.Fn.pdu_ui_encode 3 dsap ssap data = encodeS (.ui dsap ssap data) := by
  unfold Gen.Fn.pdu_ui_encode
  simp only [encodeS]
  rw [encode_header_lit]; rfl

theorem i_encode_bridge (dsap ssap ns nr : Nat) (data : Bytes) :
    Gen.Fn.pdu_i_encode 12 dsap ssap ns nr data = encodeS (.info dsap ssap ns nr data) := by
  unfold Gen.Fn.pdu_i_encode
  simp only [encodeS]
  rw [show (12 : Int) = ((12 : Nat) : Int) from rfl, encode_header_n_bridge]; rfl

theorem rr_encode_bridge (dsap ssap nr : Nat) : Gen.Fn.pdu_rr_encode 13 dsap ssap 0 nr = encodeS (.rr dsap ssap nr) := by
  unfold Gen.Fn.pdu_rr_encode
  simp only [encodeS]
  exact encode_header_n_bridge 13 dsap ssap 0 nr

theorem rnr_encode_bridge (dsap ssap nr : Nat) : Gen.Fn.pdu_rnr_encode 14 dsap ssap 0 nr = encodeS (.rnr dsap ssap nr) := by
  unfold Gen.Fn.pdu_rnr_encode
  simp only [encodeS]
  exact encode_header_n_bridge 14 dsap ssap 0 nr

theorem unknown_encode_bridge (ptype dsap ssap : Nat) (payload : Bytes) :
    Gen.Fn.pdu_unknown_encode ptype dsap ssap payload = encodeS (.unknown ptype dsap ssap payload) := by
  unfold Gen.Fn.pdu_unknown_encode
  simp only [encodeS]
  rw [encode_header_bridge]; rfl

theorem ui_len_bridge (dsap ssap : Nat) (data : Bytes) : Gen.Fn.pdu_ui_len data = (lenS (.ui dsap ssap data) : Nat) := by
  unfold Gen.Fn.pdu_ui_len; simp only [lenS]; py_nat

theorem i_len_bridge (dsap ssap ns nr : Nat) (data : Bytes) :
    Gen.Fn.pdu_i_len data = (lenS (.info dsap ssap ns nr data) : Nat) := by
  unfold Gen.Fn.pdu_i_len; simp only [lenS]; py_nat

/-! ## Parameter.encode -/

theorem param_encode_int_B (t v : Nat) (ht : t = 1 ∨ t = 4 ∨ t = 5 ∨ t = 7) :
    Gen.Fn.pdu_param_encode_int t v = encB t v := by
  unfold Gen.Fn.pdu_param_encode_int encB
  py_nat
  have ht' : ¬ t > 255 := by omega
  simp only [ht, if_true, packField_B, ht']
  by_cases hv : v > 255 <;> simp [hv, wrapExc]

example : Gen.Fn.pdu_param_encode_int 5 15 = .ok [5, 1, 15] := by decide +kernel
example : Gen.Fn.pdu_param_encode_int 5 256 = .error .encodeError := by decide +kernel

theorem param_encode_int_H (t v : Nat) (ht : t = 2 ∨ t = 3) :
    Gen.Fn.pdu_param_encode_int t v = encH t v := by
  unfold Gen.Fn.pdu_param_encode_int encH
  py_nat
  have h0 : ¬ (t = 1 ∨ t = 4 ∨ t = 5 ∨ t = 7) := by omega
  have ht' : ¬ t > 255 := by omega
  simp only [h0, ht, if_true, if_false, packField_B, packField_Hbe, ht']
  by_cases hv : v > 65535 <;> simp [hv, wrapExc]

example : Gen.Fn.pdu_param_encode_int 2 0x7FF = .ok [2, 2, 7, 255] := by decide +kernel

theorem param_encode_bytes_S (t : Nat) (v : Bytes) (ht : t = 6 ∨ t = 10 ∨ t = 11) :
    Gen.Fn.pdu_param_encode_bytes t v = encS t v := by
  unfold Gen.Fn.pdu_param_encode_bytes encS
  py_nat
  have h0 : ¬ (t = 1 ∨ t = 4 ∨ t = 5 ∨ t = 7) := by omega
  have h1 : ¬ (t = 2 ∨ t = 3) := by omega
  have ht' : ¬ t > 255 := by omega
  simp only [h0, h1, ht, if_true, if_false, packField_B, ht']
  by_cases hv : 255 < v.length <;> simp [hv, wrapExc]

example : Gen.Fn.pdu_param_encode_bytes 6 [0x75, 0x72] = .ok [6, 2, 0x75, 0x72] := by decide +kernel

theorem param_encode_sdreq_bridge (tid : Nat) (sn : Bytes) :
    Gen.Fn.pdu_param_encode_sdreq 8 ((tid : Int), sn) = encSdreq (tid, sn) := by
  unfold Gen.Fn.pdu_param_encode_sdreq encSdreq
  py_nat
  simp only [show ¬ ((8:Nat) = 1 ∨ (8:Nat) = 4 ∨ (8:Nat) = 5 ∨ (8:Nat) = 7) by omega, show ¬ ((8:Nat) = 2 ∨ (8:Nat) = 3) by omega,
    show ¬ ((8:Nat) = 6 ∨ (8:Nat) = 10 ∨ (8:Nat) = 11) by omega, if_false, packField_B]
  by_cases hv : 254 < sn.length
  · simp [hv, wrapExc]
  · have h2 : ¬ (1 + sn.length > 255) := by omega
    by_cases ht : tid > 255 <;> simp [hv, h2, ht, wrapExc]

example : Gen.Fn.pdu_param_encode_sdreq 8 (1, [0x75]) = .ok [8, 2, 1, 0x75] := by decide +kernel

theorem param_encode_sdres_bridge (tid sap : Nat) :
    Gen.Fn.pdu_param_encode_sdres 9 ((tid : Int), (sap : Int)) = encSdres (tid, sap) := by
  unfold Gen.Fn.pdu_param_encode_sdres encSdres
  py_nat
  simp only [show ¬ ((9:Nat) = 1 ∨ (9:Nat) = 4 ∨ (9:Nat) = 5 ∨ (9:Nat) = 7) by omega, show ¬ ((9:Nat) = 2 ∨ (9:Nat) = 3) by omega,
    show ¬ ((9:Nat) = 6 ∨ (9:Nat) = 10 ∨ (9:Nat) = 11) by omega, show ¬ ((9:Nat) = 8) by omega, if_false, packField_B]
  by_cases ht : tid > 255 <;> by_cases hs : sap > 255 <;> simp [ht, hs, wrapExc]

example : Gen.Fn.pdu_param_encode_sdres 9 (1, 16) = .ok [9, 2, 1, 16] := by decide +kernel

/-! ## Parameter.decode -/

/-- `Parameter.decode(data, offset)` for every octet string and offset; `encV` is the stated encoding of the
model's typed TLV value as the dynamically typed Python value -/
theorem param_decode_bridge (d : Bytes) (hd : IsBytes d) (off : Nat) :
    Gen.Fn.pdu_param_decode d off = paramDecode d off >>= fun r => .ok ((r.1 : Int), (r.2.1 : Int), encV r.2.2) := by
  unfold Gen.Fn.pdu_param_decode
  rw [paramDecode_eq, bind_assoc]
  refine bind_bridge (e := fun p => ((p.1 : Int), (p.2.1 : Int), p.2.2)) ?_ fun ⟨t, l, v⟩ hp => ?_
  · unfold paramRaw structToDecode
    simp only [unpackBB_eq, unpackS]
    py_nat
    by_cases h1 : off + 2 ≤ d.length
    · simp only [h1]
      by_cases h2 : off + 2 + at0 d (off + 1) ≤ d.length
      · simp [h2, wrapExc]
      · simp [h2, wrapExc]
    · simp [h1, wrapExc]
  · have hvl := (paramRaw_ok hp).1
    have hvb : IsBytes v := (paramRaw_ok hp).2.2 ▸ isBytes_take (isBytes_drop hd _) _
    subst hvl
    dsimp only
    simp only [lit_cast, Int.natCast_inj, ne_eq, needExact_nat, ube_one, band_ofNat, and15, needFrom_nat, ← Int.natCast_add,
      Py.throw_eq, Py.pure_eq]
    -- Both `if` chains are walked in step, one `by_cases` per TLV type.  The source has one test more than the model:
    -- `T == 6 and L == 0` (an empty SN), between RW and OPT.  From OPT on the source's chain waits at that test: where
    -- the type is known it is passed by the lone `if_neg (by omega)`, otherwise only the model's chain moves on (the
    -- one-sided `rw [if_neg c7]`, `rw [if_neg c8]`).  Before the last step the source's tests for OPT, SDREQ, SDRES are
    -- passed together; the last step decides the extra test, the model being at the end of its chain.
    by_cases c1 : t = 1  -- VERSION
    · rw [if_pos c1, if_pos c1]
      by_cases hl : v.length = 1
      · obtain ⟨a, rfl⟩ := List.length_eq_one_iff.mp hl
        simp [unpackB, at0, encV]
      · simp [hl]
    rw [if_neg c1, if_neg c1]
    by_cases c2 : t = 2  -- MIUX
    · rw [if_pos c2, if_pos c2]
      by_cases hl : v.length = 2
      · obtain ⟨a, b, rfl⟩ := len_two hl
        have ha : a < 256 := hvb a (by simp)
        have hb : b < 256 := hvb b (by simp)
        rw [ube_two [a, b] 0 (by simp)]
        simp only [band_ofNat, Int.natCast_inj, ite_cast, at0_cons_zero, at0_cons_succ, Nat.zero_add]
        rw [miux_mask (a * 256 + b) (by omega)]
        simp [unpackH, encV]
      · simp [hl]
    rw [if_neg c2, if_neg c2]
    by_cases c3 : t = 3  -- WKS
    · rw [if_pos c3, if_pos c3]
      by_cases hl : v.length = 2
      · obtain ⟨a, b, rfl⟩ := len_two hl
        rw [ube_two [a, b] 0 (by simp)]
        simp [unpackH, encV, at0]
      · simp [hl]
    rw [if_neg c3, if_neg c3]
    by_cases c4 : t = 4  -- LTO
    · rw [if_pos c4, if_pos c4]
      by_cases hl : v.length = 1
      · obtain ⟨a, rfl⟩ := List.length_eq_one_iff.mp hl
        simp [unpackB, at0, encV]
      · simp [hl]
    rw [if_neg c4, if_neg c4]
    by_cases c5 : t = 5  -- RW
    · rw [if_pos c5, if_pos c5]
      by_cases hl : v.length = 1
      · obtain ⟨a, rfl⟩ := List.length_eq_one_iff.mp hl
        have ha : a < 256 := hvb a (by simp)
        simp only [ite_cast, at0_cons_zero, ← and15, rw_mask a ha]
        simp [unpackB, encV, and15]
      · simp [hl]
    rw [if_neg c5, if_neg c5]
    by_cases c7 : t = 7  -- OPT
    · rw [if_neg (by omega), if_pos c7, if_pos c7]
      by_cases hl : v.length = 1
      · obtain ⟨a, rfl⟩ := List.length_eq_one_iff.mp hl
        have ha : a < 256 := hvb a (by simp)
        simp only [List.length_cons, List.length_nil, Nat.le_refl, if_true, Py.bind_ok, ube_one, at0_cons_zero, band_ofNat,
          Int.natCast_inj, ite_cast, Nat.zero_add]
        rw [opt_mask a ha]
        simp [unpackB, encV]
      · simp [hl]
    rw [if_neg c7]
    by_cases c8 : t = 8  -- SDREQ
    · rw [if_neg (by omega), if_neg c7, if_pos c8, if_pos c8]
      match v, hvb with
      | [], _ => simp
      | a :: w, _ =>
        have e : (((a :: w).length : Nat) : Int) - ((1 : Nat) : Int) = ((w.length : Nat) : Int) := by
          simp only [List.length_cons]; omega
        simp only [e]
        simp only [Int.ofNat_lt, ← Int.natCast_add, needExact_nat, sub_nat]
        simp [unpackB, unpackS, encV, at0, Nat.add_comm]
    rw [if_neg c8]
    by_cases c9 : t = 9  -- SDRES
    · rw [if_neg (by omega), if_neg c7, if_neg c8, if_pos c9, if_pos c9]
      by_cases hl : v.length = 2
      · obtain ⟨a, b, rfl⟩ := len_two hl
        simp [unpackBB, encV, at0]
      · simp [hl]
    rw [if_neg c7, if_neg c8, if_neg c9, if_neg c9]
    by_cases c6 : t = 6 ∧ v.length = 0  -- SN, ECPK, RN and unknown types
    · rw [if_pos c6]; rfl
    · rw [if_neg c6]; rfl

example : Gen.Fn.pdu_param_decode [2, 2, 0xFF, 0xFF] 0 = .ok (2, 2, .int 0x7FF) := by rfl
example : Gen.Fn.pdu_param_decode [8, 2, 1, 0x75] 0 = .ok (8, 2, .tuple [.int 1, .bytes [0x75]]) := by rfl
example : Gen.Fn.pdu_param_decode [2, 1, 0xFF] 0 = .error .decodeError := by rfl
example : IsBytes [2, 2, 0xFF, 0xFF] := by decide

/-! ## PAX, CONNECT, CC, SNL, DPS, AGF: `encode` and `__len__`

Optional integer fields of the model (`Option Nat`) are the optional Python ints `oi o`; the SDREQ/SDRES lists are
`sdreqI`/`sdresI`; `AggregatedFrame.encode` is translated with the encodings of the aggregated PDUs as a parameter
(`[pdu.encode() for pdu in self._aggregate]`, dynamic dispatch) and is `Impl.encode (.agf ..)` when those are the
model's encodings (`agf_encode_model`). -/

/-- optional natural field of the model as the optional Python int of the source -/
def oi (o : Option Nat) : Option Int := o.map (fun (n : Nat) => (n : Int))

theorem sap_ne_cast (d s : Nat) : ((d : Int) ≠ 0 ∨ (s : Int) ≠ 0) ↔ (d ≠ 0 ∨ s ≠ 0) := by omega

theorem enc_int_5 (v : Nat) : Gen.Fn.pdu_param_encode_int 5 v = encB 5 v := param_encode_int_B 5 v (by simp)
theorem enc_int_2 (v : Nat) : Gen.Fn.pdu_param_encode_int 2 v = encH 2 v := param_encode_int_H 2 v (by simp)

/-- `if x is not None: data += Parameter.encode(T, x)` in front of the rest `k` of an encoder -/
theorem opt_step {genc : Int → Py Bytes} {enc : Nat → Py Bytes} (hg : ∀ v : Nat, genc v = enc v) (o : Option Nat) (h : Bytes)
    {β} (k k' : Bytes → Py β) (hk : ∀ a, k (h ++ a) = k' a) :
    ((match oi o with
      | none => Except.ok h
      | some x => genc x >>= fun t => Except.ok (h ++ t)) >>= k) = (optTlv enc o >>= k') := by
  cases o with
  | none => have := hk []; rw [List.append_nil] at this; exact this
  | some v =>
    simp only [oi, Option.map, hg, optTlv, bind_assoc, Py.bind_ok]
    congr 1; funext a; exact hk a

theorem pax_encode_bridge (d s : Nat) (ver miux wks lto opt : Option Nat) :
    Gen.Fn.pdu_pax_encode 1 d s (oi ver) (oi miux) (oi wks) (oi lto) (oi opt)
      = encodeS (.pax d s ver miux wks lto opt) := by
  unfold Gen.Fn.pdu_pax_encode
  simp only [encodeS]
  rw [encode_header_lit]
  simp only [sap_ne_cast]
  by_cases h0 : (d ≠ 0 ∨ s ≠ 0)
  · simp [h0]
  · simp only [h0, if_false]
    cases encodeHeader 1 d s with
    | error e => rfl
    | ok h =>
      simp only [Py.bind_ok]
      -- `refine`, not `rw`: the `match` of the generated code is another matcher than the one of `opt_step`
      refine opt_step (fun v => param_encode_int_B 1 v (by simp)) ver h _ _ fun a => ?_
      refine opt_step enc_int_2 miux _ _ _ fun b => ?_
      refine opt_step (fun v => param_encode_int_H 3 v (by simp)) wks _ _ _ fun c => ?_
      refine opt_step (fun v => param_encode_int_B 4 v (by simp)) lto _ _ _ fun e => ?_
      refine opt_step (fun v => param_encode_int_B 7 v (by simp)) opt _ _ _ fun f => ?_
      rfl

theorem pax_len_bridge (d s : Nat) (ver miux wks lto opt : Option Nat) :
    Gen.Fn.pdu_pax_len (oi ver) (oi miux) (oi wks) (oi lto) (oi opt) = (lenS (.pax d s ver miux wks lto opt) : Nat) := by
  unfold Gen.Fn.pdu_pax_len
  simp only [lenS]
  cases ver <;> cases miux <;> cases wks <;> cases lto <;> cases opt <;> simp [oi, optLen] <;> omega

theorem miu_test_cast (miu : Nat) : ((miu : Int) ≠ 0 ∧ (miu : Int) > 128) ↔ (miu ≠ 0 ∧ miu > 128) := by omega
theorem rw_test_cast (rw : Nat) : (rw : Int) ≠ 1 ↔ rw ≠ 1 := by omega

/-- the `if self.miu and self.miu > 128` / `if self.rw is not None and self.rw != 1` TLVs of CONNECT and CC -/
theorem miu_rw_step (miu rw : Nat) (h : Bytes) {β} (k : Bytes → Py β) :
    ((if (((miu : Int) ≠ 0) ∧ ((miu : Int) > 128)) then
        (Gen.Fn.pdu_param_encode_int 2 ((miu : Int) - 128) >>= fun t2 => Except.ok (h ++ t2)) else Except.ok h) >>= fun data_2 =>
      (if (True ∧ ((rw : Int) ≠ 1)) then
        (Gen.Fn.pdu_param_encode_int 5 rw >>= fun t3 => Except.ok (data_2 ++ t3)) else Except.ok data_2) >>= k)
    = ((if miu ≠ 0 ∧ miu > 128 then encH 2 (miu - 128) else pure []) >>= fun a =>
       (if rw ≠ 1 then encB 5 rw else pure []) >>= fun b => k (h ++ a ++ b)) := by
  simp only [true_and, miu_test_cast, rw_test_cast]
  by_cases h1 : miu ≠ 0 ∧ miu > 128
  · have e : (miu : Int) - 128 = ((miu - 128 : Nat) : Int) := by omega
    rw [if_pos h1, if_pos h1, e, enc_int_2]
    by_cases h2 : rw ≠ 1
    · simp only [if_pos h2, enc_int_5, bind_assoc, Py.bind_ok]
    · simp only [if_neg h2, bind_assoc, Py.bind_ok, Py.pure_eq, List.append_nil]
  · rw [if_neg h1, if_neg h1]
    by_cases h2 : rw ≠ 1
    · simp only [if_pos h2, enc_int_5, bind_assoc, Py.bind_ok, Py.pure_eq, List.append_nil]
    · simp only [if_neg h2, Py.bind_ok, Py.pure_eq, List.append_nil]

theorem cc_encode_bridge (d s miu rw : Nat) :
    Gen.Fn.pdu_cc_encode 6 d s miu rw = encodeS (.cc d s miu rw) := by
  unfold Gen.Fn.pdu_cc_encode
  simp only [encodeS]
  rw [encode_header_lit]
  cases encodeHeader 6 d s with
  | error e => rfl
  | ok h =>
    simp only [Py.bind_ok]
    have := miu_rw_step miu rw h (fun x => (Except.ok x : Py Bytes))
    simpa using this

theorem cc_len_bridge (d s miu rw : Nat) : Gen.Fn.pdu_cc_len miu rw = (lenS (.cc d s miu rw) : Nat) := by
  unfold Gen.Fn.pdu_cc_len
  simp only [lenS, true_and, miu_test_cast, rw_test_cast, Int.natCast_add, apply_ite (Nat.cast : Nat → Int)]
  rfl

/-- the optional octet string TLVs (`if self.sn:` - None and the empty string are skipped), `some` case -/
theorem truthy_some (t : Nat) (gt : Int) (hg : ∀ v, Gen.Fn.pdu_param_encode_bytes gt v = encS t v) (v h : Bytes) :
    (if v ≠ [] then (Gen.Fn.pdu_param_encode_bytes gt v >>= fun t4 => Except.ok (h ++ t4)) else (Except.ok h : Py Bytes))
    = (truthyTlv t (some v) >>= fun c => Except.ok (h ++ c)) := by
  by_cases hv : v = []
  · subst hv; simp [truthyTlv]
  · have : v.isEmpty = false := by cases v <;> simp_all
    simp only [hv, ne_eq, not_false_eq_true, if_true, hg, truthyTlv, this, Bool.false_eq_true, if_false]

theorem truthy_len_some (v : Bytes) :
    ((if v ≠ [] then 2 + PyFn.len v else 0 : Int)) = ((truthyLen (some v) : Nat) : Int) := by
  by_cases hv : v = []
  · subst hv; rfl
  · have : v.isEmpty = false := by cases v <;> simp_all
    simp [truthyLen, hv, this, PyFn.len_eq]

theorem connect_encode_bridge (d s miu rw : Nat) (sn : Option Bytes) :
    Gen.Fn.pdu_connect_encode 4 d s miu rw sn = encodeS (.connect d s miu rw sn) := by
  unfold Gen.Fn.pdu_connect_encode
  simp only [encodeS]
  rw [encode_header_lit]
  cases encodeHeader 4 d s with
  | error e => rfl
  | ok h =>
    simp only [Py.bind_ok]
    rw [miu_rw_step miu rw h]
    congr 1; funext a; congr 1; funext b
    cases sn with
    | none => simp [truthyTlv]
    | some v =>
      simp only []
      rw [truthy_some 6 6 (fun v => param_encode_bytes_S 6 v (by simp)) v (h ++ a ++ b)]
      simp [bind_assoc]

theorem connect_len_bridge (d s miu rw : Nat) (sn : Option Bytes) :
    Gen.Fn.pdu_connect_len miu rw sn = (lenS (.connect d s miu rw sn) : Nat) := by
  unfold Gen.Fn.pdu_connect_len
  simp only [lenS, true_and, miu_test_cast, rw_test_cast, Int.natCast_add, apply_ite (Nat.cast : Nat → Int)]
  cases sn with
  | none => rfl
  | some v => simp only [truthy_len_some]; rfl

theorem dps_encode_bridge (d s : Nat) (ecpk rn : Option Bytes) :
    Gen.Fn.pdu_dps_encode 10 d s ecpk rn = encodeS (.dps d s ecpk rn) := by
  unfold Gen.Fn.pdu_dps_encode
  simp only [encodeS]
  rw [encode_header_lit]
  simp only [sap_ne_cast]
  by_cases h0 : (d ≠ 0 ∨ s ≠ 0)
  · simp [h0]
  · simp only [h0, if_false]
    cases encodeHeader 10 d s with
    | error e => rfl
    | ok h =>
      simp only [Py.bind_ok]
      cases ecpk <;> cases rn <;> simp [truthyTlv, truthy_some 10 10 (fun v => param_encode_bytes_S 10 v (by simp)), truthy_some 11 11 (fun v => param_encode_bytes_S 11 v (by simp)), bind_assoc]

theorem dps_len_bridge (d s : Nat) (ecpk rn : Option Bytes) :
    Gen.Fn.pdu_dps_len ecpk rn = (lenS (.dps d s ecpk rn) : Nat) := by
  unfold Gen.Fn.pdu_dps_len
  simp only [lenS]
  cases ecpk <;> cases rn <;> simp only [truthy_len_some, truthyLen] <;> omega

/-- `for x in xs: data += enc(x)` -/
theorem forM_enc {α β} (g : β → α) (genc : α → Py Bytes) (enc : β → Py Bytes) (hg : ∀ y, genc (g y) = enc y)
    (ys : List β) : ∀ data : Bytes,
    PyFn.forM (ys.map g) data (fun d x => genc x >>= fun t => Except.ok (d ++ t))
      = (encList enc ys >>= fun a => Except.ok (data ++ a)) := by
  induction ys with
  | nil => intro data; simp [PyFn.forM, encList]
  | cons y t ih =>
    intro data
    simp only [List.map_cons, PyFn.forM, encList, hg]
    cases enc y with
    | error e => rfl
    | ok a =>
      simp only [Py.bind_ok]
      rw [ih (data ++ a)]
      cases encList enc t with
      | error e => rfl
      | ok b => simp

/-- the SDREQ / SDRES lists of the model as the lists of Python tuples -/
def sdreqI (l : List (Nat × Bytes)) : List (Int × Bytes) := l.map (fun r => ((r.1 : Int), r.2))
def sdresI (l : List (Nat × Nat)) : List (Int × Int) := l.map (fun r => ((r.1 : Int), (r.2 : Int)))

theorem snl_encode_bridge (d s : Nat) (sdreq : List (Nat × Bytes)) (sdres : List (Nat × Nat)) :
    Gen.Fn.pdu_snl_encode 9 d s (sdreqI sdreq) (sdresI sdres) = encodeS (.snl d s sdreq sdres) := by
  unfold Gen.Fn.pdu_snl_encode
  simp only [encodeS]
  rw [encode_header_lit]
  cases encodeHeader 9 d s with
  | error e => rfl
  | ok h =>
    simp only [Py.bind_ok, sdreqI, sdresI]
    rw [forM_enc (fun (r : Nat × Bytes) => ((r.1 : Int), r.2)) (Gen.Fn.pdu_param_encode_sdreq 8) encSdreq
      (fun y => param_encode_sdreq_bridge y.1 y.2) sdreq h]
    simp only [bind_assoc, Py.bind_ok]
    congr 1; funext a
    rw [forM_enc (fun (r : Nat × Nat) => ((r.1 : Int), (r.2 : Int))) (Gen.Fn.pdu_param_encode_sdres 9) encSdres
      (fun y => param_encode_sdres_bridge y.1 y.2) sdres (h ++ a)]
    simp [bind_assoc]

theorem sum_map_len (l : List (Nat × Bytes)) :
    PyFn.sum (List.map (fun (r : Int × Bytes) => 3 + PyFn.len r.2) (sdreqI l)) = ((sumMap (fun r => 3 + r.2.length) l : Nat) : Int) := by
  have gen : ∀ (acc : Int), List.foldl (· + ·) acc (List.map (fun (r : Int × Bytes) => 3 + PyFn.len r.2) (sdreqI l))
      = acc + ((sumMap (fun r => 3 + r.2.length) l : Nat) : Int) := by
    induction l with
    | nil => intro acc; simp [sdreqI, sumMap]
    | cons x t ih =>
      intro acc
      simp only [sdreqI, List.map_cons, List.foldl_cons, sumMap] at ih ⊢
      rw [ih]; simp only [PyFn.len_eq]; omega
  unfold PyFn.sum
  rw [gen 0]; omega

theorem snl_len_bridge (d s : Nat) (sdreq : List (Nat × Bytes)) (sdres : List (Nat × Nat)) :
    Gen.Fn.pdu_snl_len (sdreqI sdreq) (sdresI sdres) = (lenS (.snl d s sdreq sdres) : Nat) := by
  unfold Gen.Fn.pdu_snl_len
  simp only [lenS]
  rw [sum_map_len]
  simp only [PyFn.len_eq, sdresI, List.length_map]
  omega

/-- `for e in encoded: data += struct.pack('!H', len(e)) + e` -/
theorem forM_agf (es : List Bytes) : ∀ data : Bytes,
    PyFn.forM es data (fun d e => PyFn.pack [.Hbe] [PyFn.len e] >>= fun t => Except.ok (d ++ (t ++ e)))
      = (agfJoin es >>= fun body => Except.ok (data ++ body)) := by
  induction es with
  | nil => intro data; simp [PyFn.forM, agfJoin]
  | cons e t ih =>
    intro data
    simp only [PyFn.forM, agfJoin]
    have hp : PyFn.pack [.Hbe] [PyFn.len e] = if e.length > 65535 then .error .struct else .ok [e.length / 256, e.length % 256] := by
      rw [PyFn.len_eq, pack_Hbe]
    rw [hp]
    by_cases h : e.length > 65535
    · simp [h]
    · simp only [h, if_false, Py.bind_ok, Py.pure_eq]
      rw [ih]
      cases agfJoin t with
      | error x => rfl
      | ok r => simp

/-- `AggregatedFrame.encode` given the encodings of the aggregated PDUs -/
theorem agf_encode_bridge (d s : Nat) (es : List Bytes) :
    Gen.Fn.pdu_agf_encode 2 d s es
      = (if d ≠ 0 ∨ s ≠ 0 then .error .encodeError else
          encodeHeader 2 d s >>= fun h => agfJoin es >>= fun body => pure (h ++ body)) := by
  unfold Gen.Fn.pdu_agf_encode
  rw [encode_header_lit]
  simp only [sap_ne_cast]
  by_cases h0 : (d ≠ 0 ∨ s ≠ 0)
  · simp [h0]
  · simp only [h0, if_false]
    cases encodeHeader 2 d s with
    | error e => rfl
    | ok h => simp only [Py.bind_ok]; rw [forM_agf]; simp [bind_assoc]

/-- with the encodings the model computes, this is `Impl.encode` of the aggregate -/
theorem agf_encode_model (d s : Nat) (items : List SPdu) (es : List Bytes) (h : encodeAll items = .ok es) :
    Gen.Fn.pdu_agf_encode 2 d s es = Impl.encode (.agf d s items) := by
  rw [agf_encode_bridge]
  simp only [Impl.encode, h, Py.bind_ok]
  by_cases h0 : (d ≠ 0 ∨ s ≠ 0) <;> simp [h0]


/-! ## PAX, CONNECT, CC, DPS: `decode` (the `while size >= 2` TLV loops)

The generated loops take `fuel`; `size ≤ fuel` suffices (every iteration consumes at least two octets).  The record
under construction has dynamically typed fields (`PyFn.Val`: whatever `Parameter.decode` returned); `connOf`, `ccOf`,
`paxOf`, `dpsOf` read it back as the model's PDU (`TypeError` for a field of an unexpected type - excluded by
`paramDecode_wt`).  Not translated: `ServiceNameLookup.decode` (appends to a list attribute of the object) and
`AggregatedFrame.decode` (recursive dynamic dispatch). -/

/-- what `Parameter.decode` guarantees about the type of the value it returns for a TLV type -/
def WT (t : Nat) (v : TlvV) : Prop :=
  if t = 1 ∨ t = 2 ∨ t = 3 ∨ t = 4 ∨ t = 5 ∨ t = 7 then ∃ x, v = .num x
  else if t = 8 then ∃ a b, v = .sdreq a b
  else if t = 9 then ∃ a b, v = .sdres a b
  else ∃ x, v = .raw x

theorem WT.tlvOf (p : Spec.Param) : WT (tlvOf p).1 (tlvOf p).2 := by
  unfold WT
  cases p <;> simp [Pdu.tlvOf]
  -- left: `.other t v`, to which `tlvOf` gives the type 0 or `t > 11`, none of the typed ones
  split <;> omega

theorem paramDecode_wt (d : Bytes) (off t l : Nat) (v : TlvV) (h : paramDecode d off = .ok (t, l, v)) : WT t v := by
  rw [paramDecode_param] at h
  obtain ⟨⟨t0, l0, v0⟩, -, h⟩ := Py.bind_eq_ok.mp h
  dsimp only at h
  cases hp : Spec.param t0 v0 with
  | none => rw [hp] at h; cases h
  | some p => rw [hp] at h; cases h; exact .tlvOf p

/-- The `while size >= 2: T, L, V = Parameter.decode(data, offset); <update>; offset, size = offset + 2 + L, size - 2 - L`
loop of the generated decoders against `tlvLoop` of the model.  `C`/`B` are the condition and body lambdas of
the generated `whileM` (`hC`, `hB` say what they compute), `upd` the class specific update of the record under
construction, `R` relates that record with the model's loop state.  The Python `size` may become negative
(`z`), the model's is truncated at 0 - both end the loop. -/
theorem tlv_sim {ρ σ' : Type} (d : Bytes) (hd : IsBytes d)
    (C : ρ × Int × Int → Py Bool) (B : ρ × Int × Int → Py (ρ × Int × Int))
    (upd : ρ → Int → Int → Val → Py ρ) (app : σ' → Nat → TlvV → σ') (R : ρ → σ' → Prop)
    (hC : ∀ r o z, C (r, o, z) = .ok (decide (z ≥ 2)))
    (hB : ∀ r o z, B (r, o, z) = (Gen.Fn.pdu_param_decode d o >>= fun t =>
      upd r t.1 t.2.1 t.2.2 >>= fun r' => Except.ok (r', o + 2 + t.2.1, z - 2 - t.2.1)))
    (hupd : ∀ r st (t l : Nat) (v : TlvV), WT t v → R r st → ∃ r', upd r t l (encV v) = .ok r' ∧ R r' (app st t v)) :
    ∀ (fuel F off size : Nat) (z : Int) (r : ρ) (st : σ'),
      size ≤ fuel → fuel < F → R r st → ((z < 2 ∧ size < 2) ∨ z = size) →
      match tlvLoop app fuel d off size st with
      | .error e => PyFn.whileM F (r, (off : Int), z) C B = .error e
      | .ok st' => ∃ r' o' z', PyFn.whileM F (r, (off : Int), z) C B = .ok (r', o', z') ∧ R r' st' := by
  intro fuel
  induction fuel with
  | zero =>
    intro F off size z r st hsf hF hR hz
    have hs : size < 2 := by omega
    rw [tlvLoop_done hs]
    obtain ⟨F', rfl⟩ : ∃ F', F = F' + 1 := ⟨F - 1, by omega⟩
    have hz2 : ¬ z ≥ 2 := by rcases hz with h | h <;> omega
    refine ⟨r, off, z, ?_, hR⟩
    simp [PyFn.whileM, hC, hz2]
  | succ n ih =>
    intro F off size z r st hsf hF hR hz
    obtain ⟨F', rfl⟩ : ∃ F', F = F' + 1 := ⟨F - 1, by omega⟩
    by_cases hs : size < 2
    · rw [tlvLoop_done hs]
      have hz2 : ¬ z ≥ 2 := by rcases hz with h | h <;> omega
      refine ⟨r, off, z, ?_, hR⟩
      simp [PyFn.whileM, hC, hz2]
    · have hzz : z = size := by rcases hz with h | h; omega; exact h
      have hz2 : z ≥ 2 := by omega
      rw [tlvLoop_succ hs]
      simp only [PyFn.whileM, hC, hz2, decide_true, hB]
      rw [param_decode_bridge d hd off]
      cases hp : paramDecode d off with
      | error e => simp
      | ok p =>
        obtain ⟨t, l, v⟩ := p
        simp only [Py.bind_ok]
        obtain ⟨r', hr', hR'⟩ := hupd r st t l v (paramDecode_wt d off t l v hp) hR
        rw [hr']
        simp only [Py.bind_ok]
        have e1 : (off : Int) + 2 + (l : Int) = ((off + 2 + l : Nat) : Int) := by omega
        rw [e1]
        have := ih F' (off + 2 + l) (size - 2 - l) (z - 2 - (l : Int)) r' (app st t v) (by omega) (by omega) hR' (by omega)
        exact this

/-- `tlv_sim` for a record that is a function `enc` of the model's loop state, with continuations: usable with
`refine`, which finds `C` and `B` in the goal -/
theorem tlv_simE {ρ σ' β : Type} (d : Bytes) (hd : IsBytes d)
    (C : ρ × Int × Int → Py Bool) (B : ρ × Int × Int → Py (ρ × Int × Int))
    (upd : ρ → Int → Int → Val → Py ρ) (app : σ' → Nat → TlvV → σ') (enc : σ' → ρ)
    (hC : ∀ r o z, C (r, o, z) = .ok (decide (z ≥ 2)))
    (hB : ∀ r o z, B (r, o, z) = (Gen.Fn.pdu_param_decode d o >>= fun t =>
      upd r t.1 t.2.1 t.2.2 >>= fun r' => Except.ok (r', o + 2 + t.2.1, z - 2 - t.2.1)))
    (hupd : ∀ st (t l : Nat) (v : TlvV), WT t v → upd (enc st) t l (encV v) = .ok (enc (app st t v)))
    (fuel F off size : Nat) (z o : Int) (st : σ') (k : ρ × Int × Int → Py β) (k' : σ' → Py β)
    (hsf : size ≤ fuel) (hF : fuel < F) (hz : z = size) (ho : o = off)
    (hk : ∀ o' z' st', k (enc st', o', z') = k' st') :
    (PyFn.whileM F (enc st, o, z) C B >>= k) = (tlvLoop app fuel d off size st >>= k') := by
  subst ho
  have := tlv_sim d hd C B upd app (fun r st => r = enc st) hC hB
    (fun r st t l v hwt hR => ⟨_, hR ▸ hupd st t l v hwt, rfl⟩) fuel F off size z (enc st) st hsf hF rfl (Or.inr hz)
  cases hl : tlvLoop app fuel d off size st with
  | error e => rw [hl] at this; simp only [this]; rfl
  | ok st' =>
    rw [hl] at this
    obtain ⟨r', o', z', hw, rfl⟩ := this
    rw [hw]; exact hk o' z' st'

theorem decodeHeader_size {d : Bytes} {off size : Nat} {p : Nat × Nat} (h : decodeHeader d off size = .ok p) : 2 ≤ size := by
  unfold decodeHeader at h
  split at h
  · cases h
  · omega

/-- `Connect(dsap, ssap)` under construction as a function of the model's loop state -/
def connE (a b : Nat) (st : ConnSt) : Int × Int × Int × Val × Val :=
  ((a : Int), (b : Int), (st.miu : Int), Val.int st.rw, (match st.sn with | none => Val.none | some x => Val.bytes x))

/-- the decoded CONNECT record as the model's PDU -/
def connOf (r : Int × Int × Int × Val × Val) : Py SPdu :=
  match r.2.2.2.1, r.2.2.2.2 with
  | .int rw, .none => .ok (.connect r.1.toNat r.2.1.toNat r.2.2.1.toNat rw.toNat none)
  | .int rw, .bytes x => .ok (.connect r.1.toNat r.2.1.toNat r.2.2.1.toNat rw.toNat (some x))
  | _, _ => .error .type_

theorem connect_decode_bridge (d : Bytes) (hd : IsBytes d) (off size fuel : Nat) (hf : size ≤ fuel) :
    (Gen.Fn.pdu_connect_decode fuel d off size >>= connOf) = decConnect d off size := by
  unfold Gen.Fn.pdu_connect_decode decConnect
  refine with_header d off size fun a b hh => ?_
  have hs := decodeHeader_size hh
  simp only [bind_assoc]
  refine tlv_simE d hd _ _
    (fun (r : Int × Int × Int × Val × Val) (T L : Int) (V : Val) =>
      (if T = 2 then (PyFn.asInt V >>= fun t3 => Except.ok (r.1, r.2.1, 128 + t3, r.2.2.2.1, r.2.2.2.2))
       else Except.ok (if T = 5 then (r.1, r.2.1, r.2.2.1, V, r.2.2.2.2)
          else if T = 6 then (r.1, r.2.1, r.2.2.1, r.2.2.2.1, V) else r)))
    connApp (connE a b) (fun _ _ _ => rfl) (fun _ _ _ => rfl) ?hupd (size - 2) fuel (off + 2) (size - 2) _ _ {} _ _
    (by omega) (by omega) (by omega) (by omega) ?hk
  case hupd =>
    intro st t l v hwt
    unfold WT at hwt
    by_cases h2 : t = 2
    · subst h2
      obtain ⟨x, rfl⟩ : ∃ x, v = .num x := by simpa using hwt
      simp [connE, connApp, encV, PyFn.asInt]
    by_cases h5 : t = 5
    · subst h5
      obtain ⟨x, rfl⟩ : ∃ x, v = .num x := by simpa using hwt
      simp [connE, connApp, encV]
    by_cases h6 : t = 6
    · subst h6
      obtain ⟨x, rfl⟩ : ∃ x, v = .raw x := by simpa using hwt
      simp [connE, connApp, encV]
    have : connApp st t v = st := by unfold connApp; split <;> first | rfl | contradiction
    rw [if_neg (by omega), if_neg (by omega), if_neg (by omega), this]
  case hk =>
    intro o' z' st'
    cases hsn : st'.sn <;> simp [connOf, connE, hsn]

def ccE (a b : Nat) (st : ConnSt) : Int × Int × Int × Val := ((a : Int), (b : Int), (st.miu : Int), Val.int st.rw)

def ccOf (r : Int × Int × Int × Val) : Py SPdu :=
  match r.2.2.2 with
  | .int rw => .ok (.cc r.1.toNat r.2.1.toNat r.2.2.1.toNat rw.toNat)
  | _ => .error .type_

theorem cc_decode_bridge (d : Bytes) (hd : IsBytes d) (off size fuel : Nat) (hf : size ≤ fuel) :
    (Gen.Fn.pdu_cc_decode fuel d off size >>= ccOf) = decCc d off size := by
  unfold Gen.Fn.pdu_cc_decode decCc
  refine with_header d off size fun a b hh => ?_
  have hs := decodeHeader_size hh
  simp only [bind_assoc]
  refine tlv_simE d hd _ _
    (fun (r : Int × Int × Int × Val) (T L : Int) (V : Val) =>
      (if T = 2 then (PyFn.asInt V >>= fun t3 => Except.ok (r.1, r.2.1, 128 + t3, r.2.2.2))
       else Except.ok (if T = 5 then (r.1, r.2.1, r.2.2.1, V) else r)))
    ccApp (ccE a b) (fun _ _ _ => rfl) (fun _ _ _ => rfl) ?hupd (size - 2) fuel (off + 2) (size - 2) _ _ {} _ _
    (by omega) (by omega) (by omega) (by omega) ?hk
  case hupd =>
    intro st t l v hwt
    unfold WT at hwt
    by_cases h2 : t = 2
    · subst h2
      obtain ⟨x, rfl⟩ : ∃ x, v = .num x := by simpa using hwt
      simp [ccE, ccApp, encV, PyFn.asInt]
    by_cases h5 : t = 5
    · subst h5
      obtain ⟨x, rfl⟩ : ∃ x, v = .num x := by simpa using hwt
      simp [ccE, ccApp, encV]
    have : ccApp st t v = st := by unfold ccApp; split <;> first | rfl | contradiction
    rw [if_neg (by omega), if_neg (by omega), this]
  case hk => intro o' z' st'; simp [ccOf, ccE]

/-- an optional integer / octet string field of the model as the Python value (`None` or the value) -/
def oe : Option Nat → Val
  | none => .none
  | some x => .int x
def ob : Option Bytes → Val
  | none => .none
  | some x => .bytes x
def vo : Val → Py (Option Nat)
  | .none => .ok none
  | .int i => .ok (some i.toNat)
  | _ => .error .type_
def vb : Val → Py (Option Bytes)
  | .none => .ok none
  | .bytes x => .ok (some x)
  | _ => .error .type_
theorem vo_oe (o : Option Nat) : vo (oe o) = .ok o := by cases o <;> simp [vo, oe]
theorem vb_ob (o : Option Bytes) : vb (ob o) = .ok o := by cases o <;> simp [vb, ob]

def dpsE (a b : Nat) (st : DpsSt) : Int × Int × Val × Val := ((a : Int), (b : Int), ob st.ecpk, ob st.rn)
def dpsOf (r : Int × Int × Val × Val) : Py SPdu :=
  vb r.2.2.1 >>= fun e => vb r.2.2.2 >>= fun n => .ok (.dps r.1.toNat r.2.1.toNat e n)

theorem dps_decode_bridge (d : Bytes) (hd : IsBytes d) (off size fuel : Nat) (hf : size ≤ fuel) :
    (Gen.Fn.pdu_dps_decode fuel d off size >>= dpsOf) = decDps d off size := by
  unfold Gen.Fn.pdu_dps_decode decDps
  refine with_header d off size fun a b hh => ?_
  have hs := decodeHeader_size hh
  simp only [sap_ne_cast]
  by_cases h0 : (a ≠ 0 ∨ b ≠ 0)
  · simp [h0]
  · simp only [h0, if_false, bind_assoc]
    refine tlv_simE d hd _ _
      (fun (r : Int × Int × Val × Val) (T L : Int) (V : Val) =>
        Except.ok (if T = 10 then (r.1, r.2.1, V, r.2.2.2) else if T = 11 then (r.1, r.2.1, r.2.2.1, V) else r))
      dpsApp (dpsE a b) (fun _ _ _ => rfl) (fun _ _ _ => rfl) ?hupd (size - 2) fuel (off + 2) (size - 2) _ _ {} _ _
      (by omega) (by omega) (by omega) (by omega) ?hk
    case hupd =>
      intro st t l v hwt
      unfold WT at hwt
      by_cases h10 : t = 10
      · subst h10
        obtain ⟨x, rfl⟩ : ∃ x, v = .raw x := by simpa using hwt
        simp [dpsE, dpsApp, ob, encV]
      by_cases h11 : t = 11
      · subst h11
        obtain ⟨x, rfl⟩ : ∃ x, v = .raw x := by simpa using hwt
        simp [dpsE, dpsApp, ob, encV]
      have : dpsApp st t v = st := by unfold dpsApp; split <;> first | rfl | contradiction
      rw [if_neg (by omega), if_neg (by omega), this]
    case hk => intro o' z' st'; simp [dpsOf, dpsE, vb_ob]


def paxE (a b : Nat) (st : PaxSt) : Int × Int × Val × Val × Val × Val × Val :=
  ((a : Int), (b : Int), oe st.version, oe st.miux, oe st.wks, oe st.lto, oe st.opt)
def paxOf (r : Int × Int × Val × Val × Val × Val × Val) : Py SPdu :=
  vo r.2.2.1 >>= fun v => vo r.2.2.2.1 >>= fun m => vo r.2.2.2.2.1 >>= fun w => vo r.2.2.2.2.2.1 >>= fun l =>
  vo r.2.2.2.2.2.2 >>= fun o => .ok (.pax r.1.toNat r.2.1.toNat v m w l o)

theorem pax_decode_bridge (d : Bytes) (hd : IsBytes d) (off size fuel : Nat) (hf : size ≤ fuel) :
    (Gen.Fn.pdu_pax_decode fuel d off size >>= paxOf) = decPax d off size := by
  unfold Gen.Fn.pdu_pax_decode decPax
  refine with_header d off size fun a b hh => ?_
  have hs := decodeHeader_size hh
  simp only [sap_ne_cast]
  by_cases h0 : (a ≠ 0 ∨ b ≠ 0)
  · simp [h0]
  · simp only [h0, if_false, bind_assoc]
    refine tlv_simE d hd _ _
      (fun (r : Int × Int × Val × Val × Val × Val × Val) (T L : Int) (V : Val) =>
        Except.ok (if T = 1 then (r.1, r.2.1, V, r.2.2.2.1, r.2.2.2.2.1, r.2.2.2.2.2.1, r.2.2.2.2.2.2)
          else if T = 2 then (r.1, r.2.1, r.2.2.1, V, r.2.2.2.2.1, r.2.2.2.2.2.1, r.2.2.2.2.2.2)
          else if T = 3 then (r.1, r.2.1, r.2.2.1, r.2.2.2.1, V, r.2.2.2.2.2.1, r.2.2.2.2.2.2)
          else if T = 4 then (r.1, r.2.1, r.2.2.1, r.2.2.2.1, r.2.2.2.2.1, V, r.2.2.2.2.2.2)
          else if T = 7 then (r.1, r.2.1, r.2.2.1, r.2.2.2.1, r.2.2.2.2.1, r.2.2.2.2.2.1, V) else r))
      paxApp (paxE a b) (fun _ _ _ => rfl) (fun _ _ _ => rfl) ?hupd (size - 2) fuel (off + 2) (size - 2) _ _ {} _ _
      (by omega) (by omega) (by omega) (by omega) ?hk
    case hupd =>
      intro st t l v hwt
      unfold WT at hwt
      have cls : t = 1 ∨ t = 2 ∨ t = 3 ∨ t = 4 ∨ t = 7 ∨ (t ≠ 1 ∧ t ≠ 2 ∧ t ≠ 3 ∧ t ≠ 4 ∧ t ≠ 7) := by omega
      rcases cls with rfl | rfl | rfl | rfl | rfl | hne
      iterate 5
        · obtain ⟨x, rfl⟩ : ∃ x, v = .num x := by simpa using hwt
          simp [paxE, paxApp, oe, encV]
      · obtain ⟨n1, n2, n3, n4, n7⟩ := hne
        have : paxApp st t v = st := by unfold paxApp; split <;> first | rfl | contradiction
        rw [if_neg (by omega), if_neg (by omega), if_neg (by omega), if_neg (by omega), if_neg (by omega), this]
    case hk => intro o' z' st'; simp [paxOf, paxE, vo_oe]


/-! ## property statements for the regenerated functions -/

/-- C07/C11 `paramDecode_safe` for the source: on every octet string `Parameter.decode` raises nothing but `DecodeError` -/
theorem gen_param_decode_total (d : Bytes) (hd : IsBytes d) (off : Nat) :
    Safe OnlyDecodeError (Gen.Fn.pdu_param_decode d off) := by
  rw [param_decode_bridge d hd off]
  exact Safe.bind' (paramDecode_safe d off) (fun _ => Safe.ok _)

/-- the regenerated header codec round-trips: `encodeHeader_eq`, which C11 `pdu_roundtrip` rests on, then the model's
`decodeHeader_hdr` (the round trip itself reads headers through `Spec.decodeS` and `nested_refines`) -/
theorem gen_header_roundtrip (t dsap ssap : Nat) (ht : t ≤ 15) (hd : dsap ≤ 63) (hs : ssap ≤ 63) :
    (Gen.Fn.pdu_encode_header t dsap ssap >>= fun h => Gen.Fn.pdu_decode_header h 0 (some 2)) = .ok ((dsap : Int), (ssap : Int)) := by
  rw [encode_header_bridge, encodeHeader_eq ht hd hs]
  simp only [Py.bind_ok]
  have := decode_header_bridge (hdr t dsap ssap) 0 2
  simp only [Int.natCast_zero, show ((2 : Nat) : Int) = 2 from rfl] at this
  rw [this]
  have h2 := decodeHeader_hdr (d := dsap) ht hs [] 0
  simp only [List.append_nil, Nat.add_zero] at h2
  rw [h2]
  rfl

end NfcVerif.FnBridge.Pdu
