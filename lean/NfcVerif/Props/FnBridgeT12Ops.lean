import NfcVerif.Lemmas.FnBridgeT12Ops
import NfcVerif.Props.FnBridgeTagCmdT12
import NfcVerif.Lemmas.FnBridgeTlv
import NfcVerif.Model.AdvT12
/-!
# Bridge theorems, group T12Ops (`nfc/tag/tt2.py`, `nfc/tag/tt1.py` -> `Gen/FnT12Ops.lean`)

Properties C03 / C16 (`Type2Tag.sector_select`: which sector the tag object believes selected; the page write
path of the memory readers), C01 / C08 (the data area bound check of `Type2Tag.NDEF._read_ndef_data`), C02
(phase 1 of `_write_ndef_data`: the length is zeroed before any message octet is written).

What group TagCmd translates as command / response slices is translated here as WHOLE methods with
`self.transceive` as a function parameter, so the regenerated text also fixes the order check - command - check.
Model counterparts: the reference `T12OpsRef.sectorSelect`, `Adv.fits`, `Tlv.phase1`, the reference functions of
`Model/FnTagCmdRef.lean`.  Inside this namespace `Tlv.` reaches both `NfcVerif.Tlv` (the model: `Tlv.Skip`, `Tlv.phase1`)
and `NfcVerif.FnBridge.Tlv` (`Tlv.SameSkip`, `Tlv.room_len`).
-/
namespace NfcVerif.FnBridge.T12Ops
open NfcVerif NfcVerif.PyFn NfcVerif.TagCmdRef

/-! ## `Type2Tag.sector_select` -/

theorem t2o_ss_guard_bridge (sector cur : Int) : Gen.Fn.t2o_ss_guard sector cur = decide (sector ≠ cur) := rfl
theorem t2o_ss_send1_bridge (tx : Bytes → Py Bytes) : Gen.Fn.t2o_ss_send1 tx = tx [0xC2, 0xFF] := by
  show (tx [194, 255] >>= fun t1 => Except.ok t1) = tx [194, 255]
  cases tx [194, 255] <;> rfl
theorem t2o_ss_p2_passive_bridge (code : Int) : Gen.Fn.t2o_ss_p2_passive code = decide (code ≠ 0) := rfl
theorem t2o_ss_no_sector_bridge (s : Int) : Gen.Fn.t2o_ss_no_sector s = .error (.tagCmd 1) := rfl
theorem t2o_ss_unsupported_bridge : Gen.Fn.t2o_ss_unsupported = .error (.tagCmd 1) := rfl
theorem t2o_ss_commit_bridge (s : Int) : Gen.Fn.t2o_ss_commit s = s := rfl
theorem t2o_ss_ret_bridge (cur : Option Int) : Gen.Fn.t2o_ss_ret cur = cur := rfl
/-- statement 0 of the `if` in the handler of packet 2: `self._current_sector = None` (fixes/C16/0007) -/
theorem t2o_ss_p2_forget_bridge : Gen.Fn.t2o_ss_p2_forget = none := rfl

theorem select_send_bridge (cur : Option Int) (sector : Int) (tx1 : Bytes → Py Bytes) (p2 : Py Bytes)
    (hs : ¬ cur = some sector) :
    genSelectSend cur sector tx1 p2 = T12OpsRef.sectorSelect cur sector (tx1 [0xC2, 0xFF]) p2 := by
  unfold genSelectSend T12OpsRef.sectorSelect
  rw [t2o_ss_send1_bridge]
  simp only [hs, if_false]
  match tx1 [0xC2, 0xFF] with
  | .error e => rfl
  | .ok rsp =>
    simp only [TagCmd.t2_sector_ack_bridge, t2SectorAck]
    by_cases hr : rsp = [0x0A]
    · simp only [hr, decide_true, if_true]
      match p2 with
      | .ok _ => simp [t2o_ss_no_sector_bridge]
      | .error e =>
        cases e with
        | tagCmd code =>
          by_cases hc : code = 0 <;>
            simp [hc, t2o_ss_commit_bridge, t2o_ss_ret_bridge, t2o_ss_p2_passive_bridge, t2o_ss_p2_forget_bridge]
        | _ => rfl
    · simp [hr, t2o_ss_unsupported_bridge]

/-- the slices of `sector_select`, nested as in the source, are the reference function -/
theorem sector_select_bridge (cur : Option Int) (sector : Int) (tx1 : Bytes → Py Bytes) (p2 : Py Bytes) :
    genSectorSelect cur sector tx1 p2 = T12OpsRef.sectorSelect cur sector (tx1 [0xC2, 0xFF]) p2 := by
  unfold genSectorSelect
  cases cur with
  | none => exact select_send_bridge none sector tx1 p2 (by simp)
  | some c =>
    simp only [t2o_ss_guard_bridge]
    by_cases hs : sector = c
    · subst hs
      simp [T12OpsRef.sectorSelect, t2o_ss_ret_bridge]
    · have h' : ¬ (some c = some sector) := by
        intro h; cases h; exact hs rfl
      simp only [hs, ne_eq, not_false_eq_true, decide_true, if_true]
      exact select_send_bridge (some c) sector tx1 p2 h'

example : genSectorSelect (some 0) 1 (fun _ => .ok [0x0A]) (.error (.tagCmd 0)) = (.ok (some 1), some 1) := by decide
example : genSectorSelect (some 0) 1 (fun _ => .error (.tagCmd 0)) (.error (.tagCmd 0)) = (.error (.tagCmd 0), some 0) := by
  decide
example : genSectorSelect (some 0) 1 (fun _ => .ok [0x0A]) (.error (.tagCmd (-1))) = (.error (.tagCmd (-1)), none) := by decide
example : genSectorSelect none 0 (fun _ => .ok [0x0A]) (.error (.tagCmd 0)) = (.ok (some 0), some 0) := by decide

/-- C03 / C16, restated for the regenerated slices: after every return or raise the belief is unknown or the
sector the tag is in -/
theorem gen_sector_belief (cur : Option Int) (sector real : Int) (tx1 : Bytes → Py Bytes) (p2 : Py Bytes)
    (h0 : T12OpsRef.BeliefOk cur real) :
    T12OpsRef.BeliefOk (genSectorSelect cur sector tx1 p2).2
      (T12OpsRef.tagSectorAfter real cur sector (tx1 [0xC2, 0xFF]) p2) := by
  rw [sector_select_bridge]; exact T12OpsRef.sectorSelect_belief cur sector real _ p2 h0

/-- a garbled acknowledge of packet 2 leaves the regenerated slices with an unknown sector -/
theorem gen_p2_garbled_forgets (cur : Option Int) (sector code : Int) (tx1 : Bytes → Py Bytes)
    (h : cur ≠ some sector) (hc : code ≠ 0) (h1 : tx1 [0xC2, 0xFF] = .ok [0x0A]) :
    genSectorSelect cur sector tx1 (.error (.tagCmd code)) = (.error (.tagCmd code), none) := by
  rw [sector_select_bridge, h1]; exact T12OpsRef.sectorSelect_p2_garbled cur sector code h hc

/-! ## `Type2Tag.write`, `Type2Tag.read` (NAK branch) -/

/-- the whole method: argument check, WRITE command, `transceive`, answer check - in this order -/
theorem t2o_write_bridge (page : Int) (data : Bytes) (tx : Bytes → Py Bytes) :
    Gen.Fn.t2o_write page data tx = (t2WriteCmd page data >>= tx >>= t2WriteRsp) := by
  rw [← TagCmd.t2_write_cmd_bridge]
  have hr : t2WriteRsp = fun rsp => Gen.Fn.t2_write_rsp rsp data := funext fun rsp => (TagCmd.t2_write_rsp_bridge rsp data).symm
  rw [hr]
  unfold Gen.Fn.t2o_write Gen.Fn.t2_write_check Gen.Fn.t2_write_cmd Gen.Fn.t2_write_rsp
  by_cases h : len data ≠ 4
  · simp [h]
  · simp only [h, if_false, bind_assoc, Py.bind_ok]

example : Gen.Fn.t2o_write 0x104 [1, 2, 3, 4] (fun c => if c = [0xA2, 4, 1, 2, 3, 4] then .ok [0x0A] else .ok [0]) = .ok true := by
  decide

/-- `INVALID_PAGE_ERROR if self.target else RECEIVE_ERROR` after the re-activation that follows a NAK -/
theorem t2o_read_nak_exc_bridge (alive : Bool) :
    Gen.Fn.t2o_read_nak_exc alive = .error (.tagCmd (if alive then 2 else -1)) := by
  cases alive <;> rfl

/-- statement 3 of the NAK branch: `self._current_sector = 0` (fixes/C03/0003) -/
theorem t2o_read_nak_reset_bridge : Gen.Fn.t2o_read_nak_reset = T12OpsRef.reactivatedSector := rfl

/-- the NAK branch behind the re-activation: belief := 0, then the raise -/
theorem read_nak_bridge (alive : Bool) : genReadNak alive = T12OpsRef.readNak alive := by
  unfold genReadNak T12OpsRef.readNak
  rw [t2o_read_nak_exc_bridge]; rfl

/-- C03, restated for the regenerated slices: after the NAK branch the believed sector is the one a
re-activated tag is in -/
theorem gen_reactivation_resets_belief (alive : Bool) : (genReadNak alive).2 = T12OpsRef.reactivatedSector := by
  rw [read_nak_bridge]; exact T12OpsRef.reactivation_resets_belief alive

example : genReadNak true = (.error (.tagCmd 2), 0) := by decide

/-! ## `Type2Tag.NDEF._read_ndef_data`: the message must lie inside the data area -/

/-- the statements behind the TLV walk: `None` unless the value starts inside the area and fits into the
non-reserved bytes up to its end (`Adv.fits`, C08 / C01); `hdr` is 4 after the marker `FF`, else 2 -/
theorem t2o_fits_bridge (s : Tlv.Skip) (sk : List Int) (h : Tlv.SameSkip s sk) (v : Bytes) (off cap l0 : Nat) :
    Gen.Fn.t2o_fits (some v) off cap sk l0 =
      if Adv.fits false s off (if l0 = 255 then 4 else 2) (cap + 16) v.length = true then some v else none := by
  show (if Gen.Fn.t2_ndef_head off l0 > (cap : Int) + 16 ∨
      len v > len (setDiff (range (Gen.Fn.t2_ndef_head off l0) ((cap : Int) + 16)) sk) then none else some v) = _
  rw [TagCmd.t2_ndef_head_bridge, show ((cap : Int) + 16) = ((cap + 16 : Nat) : Int) by omega, Tlv.room_len s sk h, len_eq]
  unfold Adv.fits
  simp only [Bool.false_or, Bool.and_eq_true, decide_eq_true_eq]
  generalize off + (if l0 = 255 then 4 else 2) = head
  generalize Tlv.countFree s head (cap + 16) = cf
  exact ite_flip (by omega) (fun _ => rfl) fun _ => rfl

/-- no NDEF TLV: nothing to check -/
theorem t2o_fits_none (off cap l0 : Int) (sk : List Int) : Gen.Fn.t2o_fits none off cap sk l0 = none := rfl

/-- the two statements on their own: first value byte and the free addresses behind it -/
theorem t2o_room_bridge (v : Bytes) (off cap l0 : Int) (sk : List Int) :
    Gen.Fn.t2o_room v off cap sk l0 =
      (off + (if l0 = 255 then 4 else 2), setDiff (range (off + (if l0 = 255 then 4 else 2)) (cap + 16)) sk) := rfl

theorem t2o_fits_cond_bridge (v : Bytes) (head cap : Int) (room : List Int) :
    Gen.Fn.t2o_fits_cond v head cap room = decide (head > cap + 16 ∨ (v.length : Int) > (room.length : Int)) := rfl

example : Gen.Fn.t2o_fits (some [1, 2, 3]) 16 8 [22, 23] 3 = some [1, 2, 3] := by decide
example : Gen.Fn.t2o_fits (some [1, 2, 3, 4, 5]) 16 8 [22, 23] 3 = none := by decide

/-! ## `_write_ndef_data`, phase 1: the length octet is zeroed first (C02) -/

theorem phase1_eq (c : Tlv.Cfg) (m : Bytes) (off : Nat) (h : off + 1 < m.length) :
    setB m ((off : Int) + 1) 0 = Tlv.phase1 c m off := by
  unfold setB Tlv.phase1 Tlv.wr
  have a : ¬ ((off : Int) + 1 < 0) := by omega
  have b : ¬ ((off : Int) + 1 < 0 ∨ (off : Int) + 1 ≥ (m.length : Int)) := by omega
  have e : ((off : Int) + 1).toNat = off + 1 := by omega
  have d : (off : Int) + 1 < (m.length : Int) := by omega
  simp [a, h, e, d]

/-- Type 2: `tag_memory[offset+1] = 0; tag_memory.synchronize()` are statements 4, 5 of the method, in front of
every write of a message octet.  Inside the cached image this is `Tlv.phase1`; outside (`IndexError` here) the
real memory reader first fetches the missing pages from the tag. -/
theorem t2o_phase1_bridge (m : Bytes) (off : Nat) (h : off + 1 < m.length) :
    Gen.Fn.t2o_phase1 m off = Tlv.phase1 Tlv.t2Cfg m off := phase1_eq _ m off h

/-- Type 1: statements 5, 6 (seeded regression C02-r5m3 makes them conditional) -/
theorem t1o_phase1_bridge (unit : Nat) (m : Bytes) (off : Nat) (h : off + 1 < m.length) :
    Gen.Fn.t1o_phase1 m off = Tlv.phase1 (Tlv.t1Cfg unit) m off := phase1_eq _ m off h

example : Gen.Fn.t1o_phase1 [0xE1, 0x10, 3, 5, 1, 2] 2 = .ok [0xE1, 0x10, 3, 0, 1, 2] := by decide

/-! ## the Type 2 memory reader -/

/-- `elif key >= len(self)`: the test of the int-key branch of `__getitem__` (`SectC03.getItem`) -/
theorem t2o_mr_get_cond_bridge (a n : Nat) : Gen.Fn.t2o_mr_get_cond a n = decide (a ≥ n) := by
  unfold Gen.Fn.t2o_mr_get_cond; simp

theorem t2o_mr_get_stop_bridge (a : Nat) : Gen.Fn.t2o_mr_get_stop a = ((a + 1 : Nat) : Int) := by
  unfold Gen.Fn.t2o_mr_get_stop; omega

/-- one round of `_read_from_tag`: SECTOR SELECT for `index / 1024`, then READ of linear page `index / 4`
(`SectC03.readFrom`) -/
theorem t2o_mr_read_step_bridge (index : Nat) (rd : Int → Py Bytes) (sel : Int → Py Int) :
    Gen.Fn.t2o_mr_read_step index rd sel =
      (sel ((index / 1024 : Nat) : Int) >>= fun _ => rd ((index / 4 : Nat) : Int)) := by
  show (sel (Gen.Fn.t2_sector_of index) >>= fun _ => rd (Gen.Fn.t2_page_of index) >>= fun d => .ok d) = _
  rw [TagCmd.t2_sector_of_bridge, TagCmd.t2_page_of_bridge]
  exact bind_congr fun _ => bind_pure _

/-- the page image that is compared and written: `SectC03.writeUnits` uses `sliceN cache i (i + 4)` -/
theorem t2o_mr_write_data_bridge (i : Nat) (cache : Bytes) :
    Gen.Fn.t2o_mr_write_data i cache = sliceN cache i (i + 4) := by
  unfold Gen.Fn.t2o_mr_write_data
  py_nat

/-- which pages `_write_to_tag` writes: changed ones and those whose last write is unconfirmed -/
theorem t2o_mr_write_cond_bridge (i : Nat) (data fromTag : Bytes) (unconf : List Int) :
    Gen.Fn.t2o_mr_write_cond i data fromTag unconf =
      decide (data ≠ sliceN fromTag i (i + 4) ∨ (i : Int) ∈ unconf) := by
  unfold Gen.Fn.t2o_mr_write_cond
  py_nat

/-- the write of one page: select, MARK, write, RELEASE (the order `SectC03.writeUnits` models) -/
theorem t2o_mr_write_step_bridge (i : Nat) (data : Bytes) (sel : Int → Py Int) (wr : Int → Bytes → Py Bool)
    (uadd udel : Int → Py Int) :
    Gen.Fn.t2o_mr_write_step i data sel wr uadd udel =
      (sel ((i / 1024 : Nat) : Int) >>= fun _ => uadd i >>= fun _ => wr ((i / 4 : Nat) : Int) data >>= fun _ =>
       udel i >>= fun _ => .ok data) := by
  show (sel (Gen.Fn.t2_sector_of i) >>= fun _ => uadd i >>= fun _ => wr (Gen.Fn.t2_page_of i) data >>= fun _ =>
    udel i >>= fun _ => .ok data) = _
  rw [TagCmd.t2_sector_of_bridge, TagCmd.t2_page_of_bridge]; rfl

/-- a failed WRITE leaves the page marked: with the mark operations read as updates of a mark list, the step is
`T12OpsRef.writeStep` -/
theorem gen_write_step_marks (i : Nat) (data : Bytes) (marks : List Int) (sel : Py Int) (wr : Py Bool) :
    (match Gen.Fn.t2o_mr_write_step i data (fun _ => sel) (fun _ _ => wr) (fun _ => .ok 0) (fun _ => .ok 0) with
     | .ok _ => (.ok (), marks.filter (· ≠ (i : Int)))
     | .error e => (.error e, match sel with
                             | .error _ => marks
                             | .ok _ => if (i : Int) ∈ marks then marks else (i : Int) :: marks)) =
    T12OpsRef.writeStep i marks (sel >>= fun _ => .ok ()) (wr >>= fun _ => .ok ()) := by
  rw [t2o_mr_write_step_bridge]
  unfold T12OpsRef.writeStep
  cases sel with
  | error e => rfl
  | ok v => cases wr <;> rfl

theorem t2o_mr_sync_stop_bridge (n : Int) : Gen.Fn.t2o_mr_sync_stop n = n := rfl

/-! ## Type 1 Tag commands as whole methods: check - command - `transceive` - answer check -/

theorem t1o_read_id_bridge (tx : Bytes → Py Bytes) : Gen.Fn.t1o_read_id tx = tx t1Rid := rfl
theorem t1o_read_all_bridge (uid : Bytes) (tx : Bytes → Py Bytes) : Gen.Fn.t1o_read_all uid tx = tx (t1Rall uid) := rfl

theorem t1o_read_byte_bridge (addr : Int) (uid : Bytes) (tx : Bytes → Py Bytes) :
    Gen.Fn.t1o_read_byte addr uid tx =
      (t1Read addr uid >>= tx >>= fun rsp => if len rsp < 2 then .error (.tagCmd 2) else getB rsp (-1)) := by
  rw [← TagCmd.t1_read_byte_cmd_bridge, bind_assoc]
  unfold Gen.Fn.t1o_read_byte Gen.Fn.t1_read_byte_cmd
  rw [check_build_then]

theorem t1o_read_block_bridge (block : Int) (uid : Bytes) (tx : Bytes → Py Bytes) :
    Gen.Fn.t1o_read_block block uid tx = (t1Read8 block uid >>= tx >>= t1Read8Rsp) := by
  rw [← TagCmd.t1_read_block_cmd_bridge, bind_assoc,
    show t1Read8Rsp = Gen.Fn.t1_read_block_rsp from funext fun r => (TagCmd.t1_read_block_rsp_bridge r).symm]
  unfold Gen.Fn.t1o_read_block Gen.Fn.t1_read_block_cmd
  rw [check_build_then]; rfl

theorem t1o_read_segment_bridge (segment : Int) (uid : Bytes) (tx : Bytes → Py Bytes) :
    Gen.Fn.t1o_read_segment segment uid tx = (t1Rseg segment uid >>= tx >>= t1RsegRsp) := by
  rw [← TagCmd.t1_read_segment_cmd_bridge, bind_assoc,
    show t1RsegRsp = Gen.Fn.t1_read_segment_rsp from funext fun r => (TagCmd.t1_read_segment_rsp_bridge r).symm]
  unfold Gen.Fn.t1o_read_segment Gen.Fn.t1_read_segment_cmd
  rw [check_build_then]; rfl

theorem t1o_write_byte_bridge (addr data : Int) (erase : Bool) (uid : Bytes) (tx : Bytes → Py Bytes) :
    Gen.Fn.t1o_write_byte addr data erase uid tx = (t1Write addr data erase uid >>= tx) := by
  rw [← TagCmd.t1_write_byte_cmd_bridge]
  unfold Gen.Fn.t1o_write_byte Gen.Fn.t1_write_byte_cmd
  rw [check_build_then]

theorem t1o_write_block_bridge (block : Int) (data : Bytes) (erase : Bool) (uid : Bytes) (tx : Bytes → Py Bytes) :
    Gen.Fn.t1o_write_block block data erase uid tx =
      (t1Write8 block data erase uid >>= tx >>= fun rsp => t1Write8Rsp rsp data erase) := by
  rw [← TagCmd.t1_write_block_cmd_bridge, bind_assoc]
  simp only [← TagCmd.t1_write_block_rsp_bridge]
  unfold Gen.Fn.t1o_write_block Gen.Fn.t1_write_block_cmd
  rw [check_build_then]; rfl

example : Gen.Fn.t1o_read_byte 8 [1, 2, 3, 4] (fun c => if c = [1, 8, 0, 1, 2, 3, 4] then .ok [8, 0xE1] else .error .runtime)
    = .ok 0xE1 := by decide

/-- write-back of one 8 byte block / one byte of a Type 1 Tag: MARK, write, RELEASE -/
theorem t1o_mr_write_block_step_bridge (i : Int) (data : Bytes) (wr : Int → Bytes → Py Unit) (uadd udel : Int → Py Int) :
    Gen.Fn.t1o_mr_write_block_step i data wr uadd udel =
      (uadd i >>= fun _ => wr (i / 8) data >>= fun _ => udel i >>= fun _ => .ok data) := rfl

theorem t1o_mr_write_byte_step_bridge (i data : Int) (wr : Int → Int → Py Bytes) (uadd udel : Int → Py Int) :
    Gen.Fn.t1o_mr_write_byte_step i data wr uadd udel =
      (uadd i >>= fun _ => wr i data >>= fun _ => udel i >>= fun _ => .ok data) := rfl

end NfcVerif.FnBridge.T12Ops
