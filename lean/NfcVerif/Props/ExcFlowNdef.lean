import NfcVerif.Props.ExcFlow
/-!
# Exception flow, instance theorems: C08 / C16: activation and `tag.ndef` turn command errors into `None`

Re-checked on the regenerated `Gen/ExcFlow.lean` (see `Props/ExcFlow.lean` for what `Only` / `Can` mean).
-/
namespace NfcVerif.ExcFlowProps
open NfcVerif.ExcFlow NfcVerif.Gen.ClassTree NfcVerif.Gen.ExcFlow

/-- every `Only` statement of this module -/
def ndefOnly : List (Site × List Cls) := [
  (Site.fn_tag_activate, []),
  (Site.fn_tt1_ndef_read, [Cls.ValueError, Cls.RuntimeError, Cls.AssertionError]),
  (Site.fn_tt2_ndef_read, [Cls.RuntimeError]),
  (Site.fn_tt3_ndef_read, [Cls.ValueError]),
  (Site.fn_tt4_ndef_read, [Cls.ValueError]),
  (Site.fn_tag_ndef, [Cls.ValueError, Cls.RuntimeError, Cls.AssertionError]),
  (Site.fn_tag_NDEF_has_changed, [Cls.ValueError, Cls.RuntimeError, Cls.AssertionError])]
def ndefCan : List (Site × Cls) := [
  (Site.fn_tt4_activate, Cls.clf_TimeoutError),
  (Site.fn_tt2_read_tlv, Cls.tag_tt2_Type2TagCommandError),
  (Site.fn_tt4_ndef_read_binary, Cls.tag_tt4_Type4TagCommandError),
  (Site.fn_tt3_read_from_ndef_service, Cls.tag_tt3_Type3TagCommandError),
  (Site.fn_tt1_mem_getitem, Cls.tag_tt1_Type1TagCommandError)]
/-- both lists, checked with one evaluation of the summary table -/
theorem ndefAll_ok : checkAll world table prog ndefOnly [] ndefCan = true :=
  checkAll_of_checkM tree_ordered (by decide +kernel)
theorem ndefOnly_ok : checkOnly world table prog ndefOnly = true := (checkAll_split ndefAll_ok).1
theorem ndefCan_ok : checkCan world table prog ndefCan = true := (checkAll_split ndefAll_ok).2.2

/-- `nfc.tag.activate`: nothing escapes - the `CommunicationError` of the activation commands (RATS,
ATTRIB, GET_VERSION, authenticate probe) ends as `None` -/
theorem tag_activate_escapes : Only Site.fn_tag_activate [] :=
  escapesOnly_of_checkOnly tree_ordered ndefOnly_ok (by decide)
/-- non-vacuity: the Type 4A constructor does raise (RATS), `nfc.tag.activate` catches it -/
theorem tt4_activate_raises : Can Site.fn_tt4_activate Cls.clf_TimeoutError :=
  canEscape_of_checkCan tree_ordered ndefCan_ok (by decide)

/-- `_read_ndef_data` of the four tag types: no `TagCommandError`, no `CommunicationError`; what remains
are argument checks of the command layer (`ValueError`), the `assert isinstance` of the Type 1 memory reader
and the `RuntimeError` of `transceive` (open finding) -/
theorem ndef_read_escapes : Only Site.fn_tt1_ndef_read [Cls.ValueError, Cls.RuntimeError, Cls.AssertionError] ∧
    Only Site.fn_tt2_ndef_read [Cls.RuntimeError] ∧ Only Site.fn_tt3_ndef_read [Cls.ValueError] ∧
    Only Site.fn_tt4_ndef_read [Cls.ValueError] := by
  and_intros <;> exact escapesOnly_of_checkOnly tree_ordered ndefOnly_ok (by decide)
/-- non-vacuity: the commands underneath do fail with `TagCommandError` -/
theorem ndef_read_inner_raises : Can Site.fn_tt2_read_tlv Cls.tag_tt2_Type2TagCommandError ∧
    Can Site.fn_tt4_ndef_read_binary Cls.tag_tt4_Type4TagCommandError ∧
    Can Site.fn_tt3_read_from_ndef_service Cls.tag_tt3_Type3TagCommandError ∧
    Can Site.fn_tt1_mem_getitem Cls.tag_tt1_Type1TagCommandError := by
  and_intros <;> exact canEscape_of_checkCan tree_ordered ndefCan_ok (by decide)

/-- `Tag.ndef` and `NDEF.has_changed` (dispatching to any of the four types) -/
theorem tag_ndef_escapes : Only Site.fn_tag_ndef [Cls.ValueError, Cls.RuntimeError, Cls.AssertionError] ∧
    Only Site.fn_tag_NDEF_has_changed [Cls.ValueError, Cls.RuntimeError, Cls.AssertionError] := by
  and_intros <;> exact escapesOnly_of_checkOnly tree_ordered ndefOnly_ok (by decide)

end NfcVerif.ExcFlowProps
