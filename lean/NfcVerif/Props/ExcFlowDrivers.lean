import NfcVerif.Props.ExcFlow
/-!
# Exception flow, instance theorems: C13: the driver boundary

Re-checked on the regenerated `Gen/ExcFlow.lean` (see `Props/ExcFlow.lean` for what `Only` / `Can` mean).

Assumption (table): the transport (`self.transport.read/write`, the UDP socket, `select`) raises `IOError`
only.  Everything between the transport and `Device.send_cmd_recv_rsp` / `send_rsp_recv_cmd` is translated:
`Chipset.command`, the chipset helpers, the register access of all PN53x variants, `acr122.Chipset.command`.
-/
namespace NfcVerif.ExcFlowProps
open NfcVerif.ExcFlow NfcVerif.Gen.ClassTree NfcVerif.Gen.ExcFlow

/-- every `Only` statement of this module -/
def driversOnly : List (Site × List Cls) := [
  (Site.fn_pn53x_Chipset_command, [Cls.clf_pn53x_Chipset_Error, Cls.OSError, Cls.AssertionError]),
  (Site.fn_rcs380_Device_send_cmd_recv_rsp, [Cls.clf_CommunicationError, Cls.OSError]),
  (Site.fn_rcs380_Device_send_rsp_recv_cmd, [Cls.clf_CommunicationError, Cls.OSError, Cls.AssertionError]),
  (Site.fn_clf_exchange, [Cls.clf_CommunicationError, Cls.OSError, Cls.AssertionError, Cls.NotImplementedError]),
  (Site.fn_pn53x_Device_send_cmd_recv_rsp, [Cls.clf_CommunicationError, Cls.OSError, Cls.AssertionError, Cls.NotImplementedError]),
  (Site.fn_pn533_Device_send_cmd_recv_rsp, [Cls.clf_CommunicationError, Cls.OSError, Cls.AssertionError, Cls.NotImplementedError]),
  (Site.fn_pn53x_Device_send_rsp_recv_cmd, [Cls.clf_CommunicationError, Cls.OSError, Cls.AssertionError]),
  (Site.fn_pn533_Device_send_rsp_recv_cmd, [Cls.clf_CommunicationError, Cls.OSError, Cls.AssertionError]),
  (Site.fn_udp_Device_send_cmd_recv_rsp, [Cls.clf_CommunicationError, Cls.OSError]),
  (Site.fn_udp_Device_send_rsp_recv_cmd, [Cls.clf_CommunicationError, Cls.OSError])]
def driversCan : List (Site × Cls) := [
  (Site.fn_pn53x_Device__send_cmd_recv_rsp, Cls.clf_pn53x_Chipset_Error),
  (Site.fn_pn53x_Device_send_cmd_recv_rsp, Cls.clf_TransmissionError),
  (Site.fn_pn53x_Device_send_cmd_recv_rsp, Cls.OSError),
  (Site.fn_rcs380_Device__send_cmd_recv_rsp, Cls.clf_rcs380_StatusError),
  (Site.fn_rcs380_Chipset_in_comm_rf, Cls.clf_rcs380_CommunicationError)]
/-- both lists, checked with one evaluation of the summary table -/
theorem driversAll_ok : checkAll world table prog driversOnly [] driversCan = true :=
  checkAll_of_checkM tree_ordered (by decide +kernel)
theorem driversOnly_ok : checkOnly world table prog driversOnly = true := (checkAll_split driversAll_ok).1
theorem driversCan_ok : checkCan world table prog driversCan = true := (checkAll_split driversAll_ok).2.2

/-- the PN53x chipset layer raises `Chipset.Error`, `IOError`, and `AssertionError` (frame size / argument
`assert`s) - this is what the `Device` layer has to translate -/
theorem pn53x_chipset_command_escapes : Only Site.fn_pn53x_Chipset_command
    [Cls.clf_pn53x_Chipset_Error, Cls.OSError, Cls.AssertionError] :=
  escapesOnly_of_checkOnly tree_ordered driversOnly_ok (by decide)
theorem pn53x_chipset_raises_internal : Can Site.fn_pn53x_Device__send_cmd_recv_rsp Cls.clf_pn53x_Chipset_Error :=
  canEscape_of_checkCan tree_ordered driversCan_ok (by decide)

/-- PN53x family `send_cmd_recv_rsp` (base class, inherited by pn531/pn532/rcs956/acr122/arygon, and the
pn533 override; `self.chipset` / `self._tt1_send_cmd_recv_rsp` dispatch to every variant): no `Chipset.Error`.
Residual outside the documented set: `AssertionError` (the `assert`s of `Chipset.command` /
`write_register`), `NotImplementedError` (Type 1 command on a driver without `_tt1_send_cmd_recv_rsp`). -/
theorem pn53x_send_cmd_recv_rsp_escapes : ∀ f ∈ [Site.fn_pn53x_Device_send_cmd_recv_rsp, Site.fn_pn533_Device_send_cmd_recv_rsp],
    Only f [Cls.clf_CommunicationError, Cls.OSError, Cls.AssertionError, Cls.NotImplementedError] :=
  only_each driversOnly_ok (by decide)
theorem pn53x_send_rsp_recv_cmd_escapes : ∀ f ∈ [Site.fn_pn53x_Device_send_rsp_recv_cmd, Site.fn_pn533_Device_send_rsp_recv_cmd],
    Only f [Cls.clf_CommunicationError, Cls.OSError, Cls.AssertionError] :=
  only_each driversOnly_ok (by decide)
theorem pn53x_send_cmd_recv_rsp_can_fail : Can Site.fn_pn53x_Device_send_cmd_recv_rsp Cls.clf_TransmissionError ∧
    Can Site.fn_pn53x_Device_send_cmd_recv_rsp Cls.OSError := by
  and_intros <;> exact canEscape_of_checkCan tree_ordered driversCan_ok (by decide)

/-- RC-S380: `StatusError` and the driver-internal `CommunicationError` do not escape -/
theorem rcs380_send_cmd_recv_rsp_escapes : Only Site.fn_rcs380_Device_send_cmd_recv_rsp [Cls.clf_CommunicationError, Cls.OSError] :=
  escapesOnly_of_checkOnly tree_ordered driversOnly_ok (by decide)
/-- `send_rsp_recv_cmd` starts with `assert timeout is None or timeout >= 0` -/
theorem rcs380_send_rsp_recv_cmd_escapes : Only Site.fn_rcs380_Device_send_rsp_recv_cmd
    [Cls.clf_CommunicationError, Cls.OSError, Cls.AssertionError] :=
  escapesOnly_of_checkOnly tree_ordered driversOnly_ok (by decide)
theorem rcs380_inner_raises_internal : Can Site.fn_rcs380_Device__send_cmd_recv_rsp Cls.clf_rcs380_StatusError ∧
    Can Site.fn_rcs380_Chipset_in_comm_rf Cls.clf_rcs380_CommunicationError := by
  and_intros <;> exact canEscape_of_checkCan tree_ordered driversCan_ok (by decide)

theorem udp_exchange_escapes : ∀ f ∈ [Site.fn_udp_Device_send_cmd_recv_rsp, Site.fn_udp_Device_send_rsp_recv_cmd],
    Only f [Cls.clf_CommunicationError, Cls.OSError] :=
  only_each driversOnly_ok (by decide)

/-- `ContactlessFrontend.exchange` over all translated drivers -/
theorem clf_exchange_escapes : Only Site.fn_clf_exchange
    [Cls.clf_CommunicationError, Cls.OSError, Cls.AssertionError, Cls.NotImplementedError] :=
  escapesOnly_of_checkOnly tree_ordered driversOnly_ok (by decide)

end NfcVerif.ExcFlowProps
