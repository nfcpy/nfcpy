import NfcVerif.Props.C01T34
import NfcVerif.Lemmas.T3Format
/-!
# C03, part t34 - NDEF writes touch nothing outside the NDEF area (Type 3, Type 4)

The models never address anything but the NDEF service blocks (Type 3) / the NDEF file (Type 4: `Trace` has
no way to change the capability container); the theorems bound the addressed range and state what keeps its value.
-/
namespace NfcVerif.C03T34
open NfcVerif NfcVerif.T34

/-- Type 3: every write command addresses only blocks `0 .. ⌈len/16⌉` (≤ Nmaxb) with 16 octets per block;
everything behind block `⌈len/16⌉` keeps its value; the memory keeps its size; in block 0 only WriteF, Ln and
the checksum change (Ver, Nbr, Nbw, Nmaxb, RWFlag are written back unchanged, RFU octets as zero). -/
theorem t3_write_confined (m data : Bytes) (a : T3.Attr) (wf : T3.WF m a) (hlen : data.length ≤ 16 * a.nmaxb) :
    ∃ t, T3.setOctets m data = .ok (some t) ∧
      (∀ c ∈ t.sent, c.blk + c.n ≤ 1 + (data.length + 15) / 16 ∧ c.blk + c.n ≤ a.nmaxb + 1 ∧ c.data.length = 16 * c.n) ∧
      t.mem.drop (16 * (1 + (data.length + 15) / 16)) = m.drop (16 * (1 + (data.length + 15) / 16)) ∧
      t.mem.length = m.length ∧
      T3.decodeAttr (t.mem.take 16) = .ok (some { a with writef := 0, ln := data.length }) :=
  ⟨_, T3.setOctets_spec m data a wf hlen, T3.write_confined m data a wf hlen⟩

/-- Type 4: every UPDATE BINARY addresses only file offsets below `NLEN size + len` (≤ file size limit),
everything from that offset on keeps its value, the file keeps its size. -/
theorem t4_write_confined (v : T4.Variant) (c : T4.Card) (i : T4.Info) (data : Bytes) (wf : T4.WF v c i)
    (hlen : (data.length : Int) ≤ i.capacity) (hv : v.nlenLoop = true ∨ i.nlenSize ≤ i.maxLc) :
    ∃ t, T4.setOctets v c data = .ok (some t) ∧
      (∀ u ∈ t.sent, u.off + u.data.length ≤ i.nlenSize + data.length ∧
        ((i.nlenSize + data.length : Nat) : Int) ≤ i.nlenSize + i.capacity) ∧
      t.file.drop (i.nlenSize + data.length) = c.file.drop (i.nlenSize + data.length) ∧
      t.file.length = c.file.length := by
  have hcap := wf.cap; have hlc := wf.lim.lc; have hnl := wf.lim.nl
  have hl : i.nlenSize + data.length ≤ c.file.length := by omega
  have hc := T4.write_confined v i data c.file hlc.1 (by omega) hl
  refine ⟨_, T4.setOctets_spec v c i data wf hlen hv, ?_, hc.2.1, hc.2.2⟩
  intro u hu
  have := hc.1 u hu
  omega

/-- Type 3 `format(version, wipe)` (repaired code, `Model/T3Format.lean`): on a tag of `N ≥ 1` blocks (at most
65536) that accepts at least one block per read / write command, with no version or a version 1.x and no wipe
or a wipe octet: the call returns True; afterwards the memory is the new attribute block (the version,
Nbr = min(limR, 15), Nbw = min(limW, 13) reduced to 12 when block numbers need three octets, Nmaxb = N-1,
WriteF 0, RWFlag 1, Ln 0) followed by the UNCHANGED data blocks (no wipe) or by `16·(N-1)` wipe octets; every
state-changing command, the probing writes included, addresses blocks below `N` only. -/
theorem t3_format_confined (t : T3.Phys) (N : Nat) (hm : t.mem.length = 16 * N) (hN : 1 ≤ N ∧ N ≤ 65536)
    (hr : 1 ≤ t.limR) (hw : 1 ≤ t.limW) (version wipe : Option Nat)
    (hv : ∀ v, version = some v → v / 16 = 1) (hwp : ∀ w, wipe = some w → w < 256) :
    (T3.format true t version wipe).res = .ok true ∧
    (T3.format true t version wipe).mem
      = T3.formatAttr (version.getD 0x10) (min t.limR 15) (T3.fmtNbw t.limW N) (N - 1)
          ++ (match wipe with
              | none => t.mem.drop 16
              | some w => List.replicate (16 * (N - 1)) w) ∧
    ∀ c ∈ (T3.format true t version wipe).sent, ∀ b ∈ c.blocks, b < N := by
  have hro : T3.readOk t [0] = true := (T3.opOk_replicate t.limR N 1 hN.1 (Nat.le_refl 1) t.mem hm).mpr hr
  have hwo : T3.writeOk t [0] = true := (T3.opOk_replicate t.limW N 1 hN.1 (Nat.le_refl 1) t.mem hm).mpr hw
  have hbs : T3.bsearch t 17 0 0x10000 = N - 1 := T3.bsearch_spec t N hm hr 17 0 0x10000 (by omega) (by omega) (by decide)
  have hnbr : T3.probeUp (fun k => T3.readOk t (List.replicate k 0)) 15 15 1 = min t.limR 15 :=
    T3.probeUp_spec _ 15 t.limR (fun k hk => T3.opOk_replicate t.limR N k hN.1 hk t.mem hm) 15 1
      (by omega) (by omega) (by omega)
  have hnbw : T3.probeUp (fun k => T3.writeOk t (List.replicate k 0)) 13 13 1 = min t.limW 13 :=
    T3.probeUp_spec _ 13 t.limW (fun k hk => T3.opOk_replicate t.limW N k hN.1 hk t.mem hm) 13 1
      (by omega) (by omega) (by omega)
  have hm16 : 16 ≤ t.mem.length := by omega
  have hpf := T3.probeWrites_fold t.mem hm16 (min t.limW 13)
  have hal : (T3.formatAttr (version.getD 0x10) (min t.limR 15) (T3.fmtNbw t.limW N) (N - 1)).length = 16 := by
    simp [T3.formatAttr, T3.encodeAttr_length]
  have hm2 : T3.applyG t.mem ⟨[0], T3.formatAttr (version.getD 0x10) (min t.limR 15) (T3.fmtNbw t.limW N) (N - 1)⟩
      = T3.formatAttr (version.getD 0x10) (min t.limR 15) (T3.fmtNbw t.limW N) (N - 1) ++ t.mem.drop 16 := by
    rw [T3.applyG_single _ _ _ hal]; simp [splice, hal]
  have hprobe : ∀ c ∈ T3.probeWrites (t.mem.take 16) (min t.limW 13), ∀ b ∈ c.blocks, b < N := by
    intro c hc b hb
    simp only [T3.probeWrites, List.mem_map, List.mem_range] at hc
    obtain ⟨j, _, rfl⟩ := hc
    simp only [List.mem_replicate] at hb
    omega
  have hfin : (T3.format true t version wipe) = (
      let a : T3.GCmd := ⟨[0], T3.formatAttr (version.getD 0x10) (min t.limR 15) (T3.fmtNbw t.limW N) (N - 1)⟩
      let probes := T3.probeWrites (t.mem.take 16) (min t.limW 13)
      match wipe with
      | none => ⟨probes ++ [a], T3.applyG t.mem a, .ok true⟩
      | some w => if w > 255 then ⟨probes ++ [a], T3.applyG t.mem a, .error .value⟩
          else ⟨probes ++ [a] ++ T3.wipeCmds w (N - 1), (T3.wipeCmds w (N - 1)).foldl T3.applyG (T3.applyG t.mem a), .ok true⟩) := by
    rcases version with _ | v
    · cases wipe <;> simp [T3.format, hro, hbs, hnbr, hnbw, hpf, hwo, T3.fmtNbw]
    · have h1 := hv v rfl
      have h2 : ¬ 255 < v := by omega
      cases wipe <;> simp [T3.format, hro, hbs, hnbr, hnbw, hpf, hwo, T3.fmtNbw, h1, h2]
  rw [hfin]
  cases wipe with
  | none =>
    simp only [hm2]
    refine ⟨trivial, trivial, ?_⟩
    intro c hc b hb
    simp only [List.mem_append, List.mem_singleton] at hc
    rcases hc with hc | rfl
    · exact hprobe c hc b hb
    · simp at hb; omega
  | some w =>
    have hw256 := hwp w rfl
    simp only [if_neg (show ¬ w > 255 by omega), hm2]
    refine ⟨trivial, ?_, ?_⟩
    · rw [T3.wipe_fold w (N - 1) _ (by simp [hal, hm]; omega), List.take_left' hal,
        List.drop_of_length_le (by simp [hal, hm]; omega)]
      simp
    · intro c hc b hb
      simp only [List.mem_append, List.mem_singleton] at hc
      rcases hc with (hc | rfl) | hc
      · exact hprobe c hc b hb
      · simp at hb; omega
      · have := T3.wipeCmds_mem w (N - 1) c hc b hb; omega

/-- on the unchanged code `format()` without a version raises `struct.error` after the probing writes -/
theorem t3_format_version_none_counterexample :
    (T3.format false ⟨List.replicate 32 7, 1, 1⟩ none none).res = .error .struct ∧
    (T3.format false ⟨List.replicate 32 7, 1, 1⟩ none none).sent.length = 1 := by decide

example : (T3.format true ⟨List.replicate 48 7, 2, 1⟩ none (some 0x5A)).mem
    = T3.formatAttr 0x10 2 1 2 ++ List.replicate 32 0x5A := by decide

example : ∃ t, T3.setOctets C01T34.exM [5, 6] = .ok (some t) ∧ t.mem.drop 32 = C01T34.exM.drop 32 := by
  obtain ⟨t, h1, _, h3, _⟩ := t3_write_confined _ [5, 6] _ C01T34.exWF3 (by decide)
  exact ⟨t, h1, h3⟩

end NfcVerif.C03T34
