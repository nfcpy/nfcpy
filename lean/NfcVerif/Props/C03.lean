import NfcVerif.Lemmas.TlvSync
import NfcVerif.Lemmas.T1Format
/-!
# C03 - NDEF writes touch nothing outside the NDEF message area (Type 1 and Type 2 Tag)

`Area L x`: `x` lies behind the NDEF TLV's tag byte, inside the data area, and is not reserved
by a lock/memory control TLV (nor, Type 1, one of the static lock/reserved bytes 104..127).
Everything else - UID, static lock bytes, OTP, capability container, the TLVs in front of the
NDEF TLV and its tag byte, reserved ranges, dynamic lock bytes and whatever follows the data
area - is outside.  Model: `NfcVerif.Model.Tlv` (F1, F2, F3 modelled as repaired).
-/
namespace NfcVerif.C03
open NfcVerif NfcVerif.Tlv

/-- **Bytes outside the area keep their value** in each of the three images that reach the
tag, for every well-formed image and every message up to the capacity (`Hdr3`: a message of
255 bytes or more needs the 3-byte length field, whose bytes must not be reserved - the
property's "anywhere except on the NDEF TLV's tag and length-field bytes"). -/
theorem t12_write_confined (c : Cfg) (m : Bytes) (L : Layout) (data : Bytes)
    (hread : readNdef c m = .ok (some L)) (hwf : WF c m L) (hcap : (data.length : Int) ≤ L.cap)
    (h3 : Hdr3 L data.length) :
    ∃ ph, writeNdef c m L data = .ok ph ∧ ph.m3.length = m.length ∧
      ∀ x, ¬ Area L x → ph.m1[x]? = m[x]? ∧ ph.m2[x]? = m[x]? ∧ ph.m3a[x]? = m[x]? ∧ ph.m3[x]? = m[x]? := by
  obtain ⟨m1, m2, m3a, m3, w, _⟩ := roundtrip c m L data ((readNdef_some c m L).1 hread) hwf hcap
  obtain ⟨c1, c2, c3a, c3⟩ := w.chg hwf h3
  exact ⟨_, w.writeNdef_eq, w.len3, fun x hx => ⟨c1.outside x hx, (c1.trans c2).outside x hx,
    ((c1.trans c2).trans c3a).outside x hx, (((c1.trans c2).trans c3a).trans c3).outside x hx⟩⟩

/-- **No command addresses a unit wholly outside the area**: every write command the setter
sends (all `synchronize()` calls) covers at least one byte of `Area`. -/
theorem t12_commands_confined (c : Cfg) (m : Bytes) (L : Layout) (data : Bytes)
    (hread : readNdef c m = .ok (some L)) (hwf : WF c m L) (hcap : (data.length : Int) ≤ L.cap)
    (h3 : Hdr3 L data.length) :
    ∀ cmd ∈ (setOctets c m L data).cmds, ∃ x, cmd.1 ≤ x ∧ x < cmd.1 + cmd.2.length ∧ Area L x := by
  obtain ⟨m1, m2, m3a, m3, w, _⟩ := roundtrip c m L data ((readNdef_some c m L).1 hread) hwf hcap
  obtain ⟨c1, c2, c3a, c3⟩ := w.chg hwf h3
  intro cmd hc
  unfold setOctets at hc
  split at hc
  · cases hc
  · rw [if_neg (by omega), writeCmds_eq w] at hc
    simp only [List.mem_append] at hc
    rcases hc with ((hc | hc) | hc) | hc
    · exact c1.covers _ cmd hc
    · exact c2.covers _ cmd hc
    · exact c3a.covers _ cmd hc
    · exact c3.covers _ cmd hc

/-- **Type 2 format (erase), with and without wipe** - `Type2Tag._format` as repaired (F3): only
bytes of the area change, and every WRITE covers a byte of the area.  Hypotheses: the length byte
exists inside the data area and is not reserved. -/
theorem t2_format_confined (m m' : Bytes) (L : Layout) (wipe : Option Nat)
    (hs1 : inSkip L.skip (L.off + 1) = false) (h1 : L.off + 1 < L.areaEnd)
    (h : formatT2 m L wipe = .ok m') :
    m'.length = m.length ∧ (∀ x, ¬ Area L x → m'[x]? = m[x]?)
    ∧ ∀ cmd ∈ diffUnits 4 m m', ∃ x, cmd.1 ≤ x ∧ x < cmd.1 + cmd.2.length ∧ Area L x :=
  (formatT2_spec m m' L wipe hs1 h1 h).confined 4

/-- **Topaz / Topaz-512 format (erase) on NDEF formatted tags**, `version=None`, with and without
wipe (`tt1_broadcom.py`): on a tag that already carries the factory NDEF management data (capability
container and, Topaz-512, the lock and memory control TLVs, NDEF TLV tag at 12 resp. 22 - everything
`_format` writes except the length byte) only bytes of the area change - the NDEF length byte
and, with wipe, the data bytes 14..103 resp. 24..103 and 128..511; never the UID, the static lock
and reserved bytes 104..127 or the capability container - and every write command (byte writes on
the Topaz, 8-byte blocks on the Topaz-512) covers a byte of the area.  `topazLayout` /
`topaz512Layout` are what the reader computes on such tags. -/
theorem t1_format_confined (m m' : Bytes) (wipe : Option Nat) :
    ((∀ i, i < 5 → m[8 + i]? = topazHdr[i]?) → formatTopaz m wipe = .ok m' →
      m'.length = m.length ∧ (∀ x, ¬ Area topazLayout x → m'[x]? = m[x]?)
      ∧ ∀ cmd ∈ diffUnits 1 m m', ∃ x, cmd.1 ≤ x ∧ x < cmd.1 + cmd.2.length ∧ Area topazLayout x)
    ∧ ((∀ i, i < 15 → m[8 + i]? = topaz512Hdr[i]?) → formatTopaz512 m wipe = .ok m' →
      m'.length = m.length ∧ (∀ x, ¬ Area topaz512Layout x → m'[x]? = m[x]?)
      ∧ ∀ cmd ∈ diffUnits 8 m m', ∃ x, cmd.1 ≤ x ∧ x < cmd.1 + cmd.2.length ∧ Area topaz512Layout x) :=
  ⟨fun hfac h => (formatTopaz_spec m m' wipe hfac h).confined 1,
    fun hfac h => (formatTopaz512_spec m m' wipe hfac h).confined 8⟩

/-! ## Non-vacuity -/

/-- non-vacuity: a factory formatted Topaz with a 3-byte message; the reader finds `topazLayout`'s
offset, skip set and area end; format with wipe succeeds -/
def tpM : Bytes :=
  [1, 2, 3, 4, 5, 6, 7, 0] ++ [0xE1, 0x10, 0x0E, 0, 3, 3, 0xD0, 0, 0, 0xFE] ++ List.replicate 102 0x5A
example : (∀ i, i < 5 → tpM[8 + i]? = topazHdr[i]?) ∧ (formatTopaz tpM (some 0)).isOk = true
    ∧ readNdef (t1Cfg 1) tpM = .ok (some { topazLayout with ndef := [0xD0, 0, 0] }) := by
  decide +kernel

/-- memory control TLV reserving bytes 27..28 inside the message (the image of `Props/C01`) -/
def exM : Bytes :=
  List.replicate 12 0 ++ [0xE1, 0x10, 6, 0] ++ [2, 3, 0x33, 2, 3, 0, 3, 2, 0xAA, 0xBB, 0xFE] ++ List.replicate 37 0
def exL : Layout :=
  { off := 22, skip := [(27, 29)], areaEnd := 64, cap := 38, readable := true, writeable := true, ndef := [0xAA, 0xBB] }
example : readNdef t2Cfg exM = .ok (some exL) ∧ WF t2Cfg exM exL ∧ Hdr3 exL 6 := by decide +kernel
/-- the reserved bytes 27, 28 are outside the area, 26 and 29 inside -/
example : ¬ Area exL 27 ∧ ¬ Area exL 28 ∧ Area exL 26 ∧ Area exL 29 ∧ ¬ Area exL 22 ∧ ¬ Area exL 64 := by
  unfold Area; decide
/-- F3 witness layout: a memory control TLV reserves the second byte after the NDEF TLV tag (24);
the repaired format puts the terminator at 25 and leaves 24 alone -/
def f3M : Bytes :=
  List.replicate 12 0 ++ [0xE1, 0x10, 6, 0] ++ [2, 3, 0x30, 1, 3, 0, 3, 1, 0x77, 0x55, 0xFE] ++ List.replicate 37 0
def f3L : Layout :=
  { off := 22, skip := [(24, 25)], areaEnd := 64, cap := 39, readable := true, writeable := true, ndef := [0x55] }
example : readNdef t2Cfg f3M = .ok (some f3L) := by decide +kernel
example : ∃ m', formatT2 f3M f3L none = .ok m' ∧ m'[24]? = some 0x77 ∧ m'[25]? = some 0xFE ∧ m'[23]? = some 0
    ∧ diffUnits 4 f3M m' = [(20, [3, 0, 3, 0]), (24, [0x77, 0xFE, 0xFE, 0])] := by
  refine ⟨_, rfl, ?_⟩; decide +kernel

/-! ## The hypothesis `Hdr3` is necessary (documentation, not a finding: the property's quantifier
excludes reserved ranges on the NDEF TLV's length-field bytes, and a message of 255 bytes or more
has the three bytes behind the tag as its length field)

320-byte data area, memory control TLV reserving byte 24, NDEF TLV at 22 carrying the 1-byte
message `42` (length byte 23, byte 24 = `99` reserved and jumped over, value at 25): well formed.
Writing 255 bytes puts `FF 00 FF` at 23..25: the reserved byte 24 becomes `00`. -/
def h3M : Bytes :=
  List.replicate 12 0 ++ [0xE1, 0x10, 40, 0] ++ [2, 3, 0x30, 1, 3, 0, 3, 1, 0x99, 0x42, 0xFE] ++ List.replicate 309 0
def h3L : Layout :=
  { off := 22, skip := [(24, 25)], areaEnd := 336, cap := 309, readable := true, writeable := true, ndef := [0x42] }

theorem t12_long_length_counterexample :
    readNdef t2Cfg h3M = .ok (some h3L) ∧ WF t2Cfg h3M h3L ∧ ((255 : Nat) : Int) ≤ h3L.cap ∧ ¬ Hdr3 h3L 255
    ∧ inSkip h3L.skip 24 = true ∧ h3M[24]? = some 0x99
    ∧ (match writeNdef t2Cfg h3M h3L (List.replicate 255 0) with
       | .ok ph => ph.m3[24]? | .error _ => none) = some 0 := by
  refine ⟨by decide +kernel, by decide +kernel, by decide, by decide, by decide, by decide, ?_⟩
  -- any 255-byte message gets the length field `FF 00 FF` at 23..25 (`WriteSpec.m3_eq`), and 24 is the reserved byte;
  -- the message is made a variable first, so that nothing evaluates the write of its 255 bytes
  have hd : (List.replicate 255 0 : Bytes).length = 255 := List.length_replicate
  generalize (List.replicate 255 0 : Bytes) = data at hd ⊢
  obtain ⟨m1, m2, m3a, m3, w⟩ := write_spec t2Cfg h3M h3L data (by decide +kernel) (by decide +kernel)
    (by rw [hd]; decide)
  have hl2 := w.len2
  rw [w.writeNdef_eq]
  show m3[24]? = some 0
  rw [w.m3_eq, hd, if_neg (by decide), get_set_ne _ _ _ _ (by decide)]
  exact get_set_eq _ _ _ (by rw [List.length_set, hl2]; decide +kernel)

end NfcVerif.C03
