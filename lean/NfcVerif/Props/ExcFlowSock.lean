import NfcVerif.Props.ExcFlow
/-!
# Exception flow, instance theorems: C09 / C17 / C05: the LLCP socket API

Re-checked on the regenerated `Gen/ExcFlow.lean` (see `Props/ExcFlow.lean` for what `Only` / `Can` mean).

Translated: `nfc.llcp.Socket` (every method), the socket API of `LogicalLinkController` (`socket`, `bind` with
`_bind*`, `connect`, `listen`, `accept`, `send`, `sendto`, `recv`, `recvfrom`, `poll`, `close`, `resolve`,
`setsockopt`, `getsockopt`, `getsockname`, `getpeername`), `ServiceAccessPoint`, `ServiceDiscovery`, every method
of the three socket kinds of `nfc/llcp/tco.py` and of their base class, and `collect` / `dispatch` of the link
loop.  There is no layer boundary underneath: the only primitive sites are the data operations whose exception
*is* the mechanism (`popleft()` of an empty queue - how a blocked call learns that the socket was closed -,
`list.index(None)` of a full address range, a dictionary key that is not there, `str.encode('latin')`).
A call `socket.<m>()` on a socket of unknown kind is a branch over what each of the three kinds resolves to.
-/
namespace NfcVerif.ExcFlowProps
open NfcVerif.ExcFlow NfcVerif.Gen.ClassTree NfcVerif.Gen.ExcFlow

/-! ## C09 / C17 / C05: "returns or raises an nfc.llcp.Error" -/

/-- `nfc.llcp.Socket` and the `LogicalLinkController` methods behind it: per method, `nfc.llcp.Error` (with its
subclass `ConnectRefused`) and the named residual -/
def sockApiOnly : List (Site × List Cls) := [
  (Site.fn_sock_Socket___init__, []),
  (Site.fn_sock_Socket_getsockopt, [Cls.llcp_err_Error]),
  (Site.fn_sock_Socket_poll, [Cls.llcp_err_Error]),
  (Site.fn_sock_Socket_getsockname, [Cls.llcp_err_Error]),
  (Site.fn_sock_Socket_getpeername, [Cls.llcp_err_Error]),
  (Site.fn_sock_Socket_bind, [Cls.llcp_err_Error, Cls.UnicodeEncodeError]),
  (Site.fn_sock_Socket_send, [Cls.llcp_err_Error, Cls.TypeError]),
  (Site.fn_sock_Socket_sendto, [Cls.llcp_err_Error, Cls.TypeError]),
  (Site.fn_sock_Socket_recv, [Cls.llcp_err_Error, Cls.RuntimeError]),
  (Site.fn_sock_Socket_recvfrom, [Cls.llcp_err_Error, Cls.RuntimeError]),
  (Site.fn_sock_Socket_accept, [Cls.llcp_err_Error, Cls.RuntimeError]),
  (Site.fn_sock_Socket_listen, [Cls.llcp_err_Error, Cls.TypeError, Cls.ValueError]),
  (Site.fn_sock_Socket_connect, [Cls.llcp_err_Error, Cls.TypeError, Cls.RuntimeError, Cls.UnicodeEncodeError]),
  (Site.fn_sock_Socket_setsockopt, [Cls.llcp_err_Error, Cls.NotImplementedError, Cls.ValueError]),
  (Site.fn_sock_Socket_close, [Cls.llcp_err_Error, Cls.AssertionError]),
  (Site.fn_sock_Socket_resolve, [Cls.IndexError, Cls.UnicodeEncodeError]),
  (Site.fn_llc_socket, []),
  (Site.fn_llc_getsockopt, [Cls.llcp_err_Error]),
  (Site.fn_llc_poll, [Cls.llcp_err_Error]),
  (Site.fn_llc_getsockname, [Cls.llcp_err_Error]),
  (Site.fn_llc_getpeername, [Cls.llcp_err_Error]),
  (Site.fn_llc_bind, [Cls.llcp_err_Error, Cls.UnicodeEncodeError]),
  (Site.fn_llc_bind_none, [Cls.llcp_err_Error]),
  (Site.fn_llc__bind_by_none, [Cls.llcp_err_Error]),
  (Site.fn_llc__bind_by_addr, [Cls.llcp_err_Error]),
  (Site.fn_llc__bind_by_name, [Cls.llcp_err_Error]),
  (Site.fn_llc_send, [Cls.llcp_err_Error, Cls.TypeError]),
  (Site.fn_llc_sendto, [Cls.llcp_err_Error, Cls.TypeError]),
  (Site.fn_llc_recv, [Cls.llcp_err_Error, Cls.RuntimeError]),
  (Site.fn_llc_recvfrom, [Cls.llcp_err_Error, Cls.RuntimeError]),
  (Site.fn_llc_accept, [Cls.llcp_err_Error, Cls.RuntimeError]),
  (Site.fn_llc_listen, [Cls.llcp_err_Error, Cls.TypeError, Cls.ValueError]),
  (Site.fn_llc_connect, [Cls.llcp_err_Error, Cls.TypeError, Cls.RuntimeError, Cls.UnicodeEncodeError]),
  (Site.fn_llc_setsockopt, [Cls.llcp_err_Error, Cls.NotImplementedError, Cls.ValueError]),
  (Site.fn_llc_close, [Cls.llcp_err_Error, Cls.AssertionError]),
  (Site.fn_llc_resolve, [Cls.IndexError, Cls.UnicodeEncodeError])]

/-- the methods of `nfc.llcp.Socket` -/
def socketMethods : List Site := [Site.fn_sock_Socket___init__, Site.fn_sock_Socket_getsockopt, Site.fn_sock_Socket_poll,
  Site.fn_sock_Socket_getsockname, Site.fn_sock_Socket_getpeername, Site.fn_sock_Socket_bind, Site.fn_sock_Socket_send,
  Site.fn_sock_Socket_sendto, Site.fn_sock_Socket_recv, Site.fn_sock_Socket_recvfrom, Site.fn_sock_Socket_accept,
  Site.fn_sock_Socket_listen, Site.fn_sock_Socket_connect, Site.fn_sock_Socket_setsockopt, Site.fn_sock_Socket_close,
  Site.fn_sock_Socket_resolve]
/-- one list for the whole class: `nfc.llcp.Error`, the argument errors `TypeError` / `ValueError` (includes
`UnicodeEncodeError`), and the residual `RuntimeError` (includes `NotImplementedError`), `AssertionError`, `IndexError` -/
def socketAllowed : List Cls := [Cls.llcp_err_Error, Cls.TypeError, Cls.ValueError, Cls.RuntimeError, Cls.AssertionError,
  Cls.IndexError]

/-- the three socket kinds and their base class; service access points; collect / dispatch -/
def sockInnerOnly : List (Site × List Cls) := [
  (Site.fn_tco_TCO_recv, [Cls.IndexError]),
  (Site.fn_tco_TCO_setsockopt, [Cls.NotImplementedError, Cls.ValueError]),
  (Site.fn_tco_TCO_getsockopt, []), (Site.fn_tco_TCO_bind, []), (Site.fn_tco_TCO_poll, []), (Site.fn_tco_TCO_send, []),
  (Site.fn_tco_TCO_close, []), (Site.fn_tco_TCO_enqueue, []), (Site.fn_tco_TCO_dequeue, []),
  (Site.fn_tco_RAW_setsockopt, [Cls.llcp_err_Error, Cls.NotImplementedError, Cls.ValueError]),
  (Site.fn_tco_RAW_getsockopt, [Cls.llcp_err_Error]), (Site.fn_tco_RAW_poll, [Cls.llcp_err_Error]),
  (Site.fn_tco_RAW_send, [Cls.llcp_err_Error]), (Site.fn_tco_RAW_recv, [Cls.llcp_err_Error]), (Site.fn_tco_RAW_close, []),
  (Site.fn_tco_RAW_enqueue, []), (Site.fn_tco_RAW_dequeue, []),
  (Site.fn_tco_LDL_setsockopt, [Cls.llcp_err_Error, Cls.NotImplementedError, Cls.ValueError]),
  (Site.fn_tco_LDL_getsockopt, [Cls.llcp_err_Error]), (Site.fn_tco_LDL_connect, [Cls.llcp_err_Error]),
  (Site.fn_tco_LDL_poll, [Cls.llcp_err_Error]), (Site.fn_tco_LDL_sendto, [Cls.llcp_err_Error]),
  (Site.fn_tco_LDL_recvfrom, [Cls.llcp_err_Error]), (Site.fn_tco_LDL_close, []), (Site.fn_tco_LDL_enqueue, []),
  (Site.fn_tco_LDL_dequeue, []),
  (Site.fn_tco_DLC_setsockopt, [Cls.NotImplementedError, Cls.ValueError]), (Site.fn_tco_DLC_getsockopt, []),
  (Site.fn_tco_DLC_listen, [Cls.llcp_err_Error]), (Site.fn_tco_DLC_accept, [Cls.llcp_err_Error, Cls.RuntimeError]),
  (Site.fn_tco_DLC_connect, [Cls.llcp_err_Error, Cls.TypeError, Cls.RuntimeError, Cls.UnicodeEncodeError]),
  (Site.fn_tco_DLC_send, [Cls.llcp_err_Error]), (Site.fn_tco_DLC_recv, [Cls.llcp_err_Error, Cls.RuntimeError]),
  (Site.fn_tco_DLC_poll, [Cls.llcp_err_Error]), (Site.fn_tco_DLC__poll, [Cls.llcp_err_Error]), (Site.fn_tco_DLC_close, []),
  (Site.fn_tco_DLC_enqueue, []), (Site.fn_tco_DLC__enqueue_state_established, []), (Site.fn_tco_DLC_dequeue, []),
  (Site.fn_tco_DLC_sendack, []),
  (Site.fn_llc_SAP_insert_socket, []), (Site.fn_llc_SAP_remove_socket, [Cls.AssertionError]), (Site.fn_llc_SAP_send, []),
  (Site.fn_llc_SAP_shutdown, []), (Site.fn_llc_SAP_enqueue, []), (Site.fn_llc_SAP_dequeue, []), (Site.fn_llc_SAP_sendack, []),
  (Site.fn_llc_SD_resolve, [Cls.IndexError]), (Site.fn_llc_SD_enqueue, []), (Site.fn_llc_SD_dequeue, []),
  (Site.fn_llc_SD_shutdown, []),
  (Site.fn_llc_collect, [Cls.llcp_sec_EncryptionError, Cls.llcp_pdu_EncodeError, Cls.llcp_pdu_DecodeError]),
  (Site.fn_llc_dispatch, [Cls.llcp_sec_DecryptionError, Cls.llcp_pdu_EncodeError, Cls.llcp_pdu_DecodeError])]

/-- every `Only` statement of this module -/
abbrev sockOnly : List (Site × List Cls) := sockApiOnly ++ (socketMethods.map (fun f => (f, socketAllowed)) ++ sockInnerOnly)

/-- the `IndexError` of the empty queue (the wake-up after `close()`) never leaves a socket call: it is mapped to
`Error(EPIPE)` (`recv` of a connection: `None`) by every caller of `TransmissionControlObject.recv` -/
def sockNever : List (Site × List Cls) := [
  (Site.fn_sock_Socket_recv, [Cls.IndexError]), (Site.fn_sock_Socket_recvfrom, [Cls.IndexError]),
  (Site.fn_sock_Socket_accept, [Cls.IndexError]), (Site.fn_sock_Socket_connect, [Cls.IndexError]),
  (Site.fn_sock_Socket_close, [Cls.IndexError]), (Site.fn_sock_Socket_send, [Cls.IndexError]),
  (Site.fn_sock_Socket_sendto, [Cls.IndexError]), (Site.fn_sock_Socket_poll, [Cls.IndexError]),
  (Site.fn_llc_collect, [Cls.IndexError, Cls.KeyError, Cls.ValueError]),
  (Site.fn_llc_dispatch, [Cls.IndexError, Cls.KeyError, Cls.ValueError]),
  (Site.fn_llc_SAP_shutdown, [Cls.BaseException]), (Site.fn_llc_SD_shutdown, [Cls.BaseException])]

def sockCan : List (Site × Cls) := [
  (Site.fn_tco_TCO_recv, Cls.IndexError),
  (Site.fn_sock_Socket_recv, Cls.llcp_err_Error),
  (Site.fn_sock_Socket_connect, Cls.llcp_err_ConnectRefused),
  (Site.fn_sock_Socket_bind, Cls.llcp_err_Error),
  (Site.fn_sock_Socket_recv, Cls.RuntimeError),
  (Site.fn_sock_Socket_accept, Cls.RuntimeError),
  (Site.fn_sock_Socket_connect, Cls.RuntimeError),
  (Site.fn_sock_Socket_connect, Cls.TypeError),
  (Site.fn_sock_Socket_setsockopt, Cls.NotImplementedError),
  (Site.fn_sock_Socket_setsockopt, Cls.ValueError),
  (Site.fn_sock_Socket_listen, Cls.ValueError),
  (Site.fn_sock_Socket_sendto, Cls.TypeError),
  (Site.fn_sock_Socket_bind, Cls.UnicodeEncodeError),
  (Site.fn_sock_Socket_connect, Cls.UnicodeEncodeError),
  (Site.fn_sock_Socket_resolve, Cls.UnicodeEncodeError),
  (Site.fn_sock_Socket_resolve, Cls.IndexError),
  (Site.fn_sock_Socket_close, Cls.AssertionError),
  (Site.fn_llc_collect, Cls.llcp_pdu_EncodeError),
  (Site.fn_llc_collect, Cls.llcp_sec_EncryptionError),
  (Site.fn_llc_dispatch, Cls.llcp_pdu_DecodeError),
  (Site.fn_llc_dispatch, Cls.llcp_sec_DecryptionError)]
/-- every statement of this module, checked with one evaluation of the summary table -/
theorem sockAll_ok : checkAll world table prog sockOnly sockNever sockCan = true :=
  checkAll_of_checkM tree_ordered (by decide +kernel)
theorem sockOnly_ok : checkOnly world table prog sockOnly = true := (checkAll_split sockAll_ok).1
theorem sockNever_ok : checkNever world table prog sockNever = true := (checkAll_split sockAll_ok).2.1
theorem sockCan_ok : checkCan world table prog sockCan = true := (checkAll_split sockAll_ok).2.2

/-- **per method**: what can leave each method of `nfc.llcp.Socket` and of the `LogicalLinkController` socket API
(the lists are in `sockApiOnly`): `nfc.llcp.Error`, and
* `TypeError` / `ValueError`: argument checks (`listen`: backlog; `send` / `sendto`: message type; `connect`:
  destination type; `setsockopt`: unknown option),
* `UnicodeEncodeError`: a `str` name that is not latin-1 (`bind`, `connect`, `resolve` encode it with `'latin'`),
* `NotImplementedError`: `setsockopt(SO_SNDBUF)`,
* `RuntimeError`: internal consistency checks of `DataLinkConnection.accept` / `connect` / `recv`,
* `AssertionError`: the `assert` of `ServiceAccessPoint.remove_socket` (`close`; it was reached in the C09 finding
  `exc-racing-terminate-close-AssertionError`, repaired in /repo by weakening the asserted condition - the `assert`
  statement itself is still there),
* `IndexError`: `resolve` when all 256 transaction identifiers are in use (`random.choice([])`). -/
theorem socket_api_escapes : ∀ fa ∈ sockApiOnly, Only fa.1 fa.2 :=
  fun fa h => only_all sockOnly_ok fa (List.mem_append_left _ h)
/-- **the class as a whole**: only `nfc.llcp.Error`, `TypeError`, `ValueError`, `RuntimeError`, `AssertionError`,
`IndexError` (and subclasses) leave a method of `nfc.llcp.Socket`; in particular no `pdu.Error`, no `sec.Error`,
no `CommunicationError`, no `KeyError` -/
theorem socket_class_escapes : ∀ f ∈ socketMethods, Only f socketAllowed := by
  intro f hf
  exact only_all sockOnly_ok (f, socketAllowed)
    (List.mem_append_right _ (List.mem_append_left _ (List.mem_map.mpr ⟨f, hf, rfl⟩)))
/-- the methods that raise `nfc.llcp.Error` and nothing else -/
theorem socket_api_error_only : ∀ f ∈ [Site.fn_sock_Socket_getsockopt, Site.fn_sock_Socket_poll,
    Site.fn_sock_Socket_getsockname, Site.fn_sock_Socket_getpeername], Only f [Cls.llcp_err_Error] :=
  only_each sockOnly_ok (by decide)

/-- the socket kinds of `nfc/llcp/tco.py`, service access points, service discovery, `collect`, `dispatch`
(the lists are in `sockInnerOnly`).  `enqueue` / `dequeue` / `sendack` / `shutdown` - what the link loop and
`terminate()` call - raise nothing. -/
theorem socket_kinds_escape : ∀ fa ∈ sockInnerOnly, Only fa.1 fa.2 :=
  fun fa h => only_all sockOnly_ok fa (List.mem_append_right _ (List.mem_append_right _ h))

/-- C09 mechanism: `close()` clears the queues and notifies; the woken call finds the queue empty (`IndexError`,
`socket_recv_raises_indexerror`) and reports `Error(EPIPE)` - the `IndexError` itself never leaves -/
theorem socket_wakeup_indexerror_mapped : ∀ f ∈ [Site.fn_sock_Socket_recv, Site.fn_sock_Socket_recvfrom,
    Site.fn_sock_Socket_accept, Site.fn_sock_Socket_connect, Site.fn_sock_Socket_close, Site.fn_sock_Socket_send,
    Site.fn_sock_Socket_sendto, Site.fn_sock_Socket_poll], NeverEscapes world table prog f [Cls.IndexError] :=
  never_each sockNever_ok (by decide)
theorem socket_recv_raises_indexerror : Can Site.fn_tco_TCO_recv Cls.IndexError ∧
    Can Site.fn_sock_Socket_recv Cls.llcp_err_Error ∧ Can Site.fn_sock_Socket_connect Cls.llcp_err_ConnectRefused ∧
    Can Site.fn_sock_Socket_bind Cls.llcp_err_Error := by
  and_intros <;> exact canEscape_of_checkCan tree_ordered sockCan_ok (by decide)
/-- `shutdown()` of a service access point - what `terminate()` runs for all 64 of them - raises nothing at all -/
theorem sap_shutdown_never_raises : NeverEscapes world table prog Site.fn_llc_SAP_shutdown [Cls.BaseException] ∧
    NeverEscapes world table prog Site.fn_llc_SD_shutdown [Cls.BaseException] := by
  and_intros <;> exact neverEscapes_of_checkNever tree_ordered sockNever_ok (by decide)

/-- the residual is reachable in the abstract semantics (each witness names the clause of C09 / C17 it is outside
of: "returns or raises an nfc.llcp.Error", "EADDRINUSE, EACCES, EFAULT or EAGAIN otherwise") -/
theorem socket_api_residual : Can Site.fn_sock_Socket_recv Cls.RuntimeError ∧ Can Site.fn_sock_Socket_accept Cls.RuntimeError ∧
    Can Site.fn_sock_Socket_connect Cls.RuntimeError ∧ Can Site.fn_sock_Socket_connect Cls.TypeError ∧
    Can Site.fn_sock_Socket_setsockopt Cls.NotImplementedError ∧ Can Site.fn_sock_Socket_setsockopt Cls.ValueError ∧
    Can Site.fn_sock_Socket_listen Cls.ValueError ∧ Can Site.fn_sock_Socket_sendto Cls.TypeError ∧
    Can Site.fn_sock_Socket_bind Cls.UnicodeEncodeError ∧ Can Site.fn_sock_Socket_connect Cls.UnicodeEncodeError ∧
    Can Site.fn_sock_Socket_resolve Cls.UnicodeEncodeError ∧ Can Site.fn_sock_Socket_resolve Cls.IndexError ∧
    Can Site.fn_sock_Socket_close Cls.AssertionError := by
  and_intros <;> exact canEscape_of_checkCan tree_ordered sockCan_ok (by decide)

/-! ## `collect` / `dispatch` of the link loop -/

/-- `collect` raises the `EncryptionError` the run loops are assumed to see (`Props/ExcFlowLlc.lean`), and - only
through the header re-coding around the cipher (`encrypt`: `encode_header` / `decode_header` of a UI / I PDU taken
from a send queue) - `pdu.EncodeError` / `pdu.DecodeError`; `dispatch` likewise with `DecryptionError`.  No
`IndexError` / `KeyError` / `ValueError` of the queue and table operations underneath leaves them. -/
theorem llc_collect_dispatch_escape :
    Only Site.fn_llc_collect [Cls.llcp_sec_EncryptionError, Cls.llcp_pdu_EncodeError, Cls.llcp_pdu_DecodeError] ∧
    Only Site.fn_llc_dispatch [Cls.llcp_sec_DecryptionError, Cls.llcp_pdu_EncodeError, Cls.llcp_pdu_DecodeError] ∧
    NeverEscapes world table prog Site.fn_llc_collect [Cls.IndexError, Cls.KeyError, Cls.ValueError] ∧
    NeverEscapes world table prog Site.fn_llc_dispatch [Cls.IndexError, Cls.KeyError, Cls.ValueError] :=
  ⟨socket_kinds_escape (_, _) (by decide), socket_kinds_escape (_, _) (by decide),
   neverEscapes_of_checkNever tree_ordered sockNever_ok (by decide),
   neverEscapes_of_checkNever tree_ordered sockNever_ok (by decide)⟩
/-- stated because it is outside the run loops' assumption `self.collect: [EncryptionError]` /
`self.dispatch: [DecryptionError]`: with data protection on, a UI / I PDU whose address fields do not encode
(possible for a PDU handed to a raw access point) raises `pdu.EncodeError` inside `collect` -/
theorem llc_collect_dispatch_pdu_error : Can Site.fn_llc_collect Cls.llcp_pdu_EncodeError ∧
    Can Site.fn_llc_collect Cls.llcp_sec_EncryptionError ∧ Can Site.fn_llc_dispatch Cls.llcp_pdu_DecodeError ∧
    Can Site.fn_llc_dispatch Cls.llcp_sec_DecryptionError := by
  and_intros <;> exact canEscape_of_checkCan tree_ordered sockCan_ok (by decide)

end NfcVerif.ExcFlowProps
