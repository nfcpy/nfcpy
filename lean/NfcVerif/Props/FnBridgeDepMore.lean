import NfcVerif.Gen.FnDepMore
import NfcVerif.Model.FnDepMoreRef
import NfcVerif.Props.FnBridgeDepSm
/-!
# Bridge theorems, group DepMore (`nfc/dep.py`: statement RANGES of activate / exchange / deactivate between the cuts of
the groups Dep, DepPdu, DepSm -> `Gen/FnDepMore.lean` -> `Model/FnDepMoreRef.lean`, `Model/NfcDep.lean`)

Properties C04 (payload limits, first request, retransmission), C07 (timeout extension PDU validated before use),
C09 (deactivation deadline), C19 (send limit from the peer's announcement).  The cuts are listed in
`harness/fnspecs/depmore.py` and in the doc comments of `Gen/FnDepMore.lean`.

* `ini_act_tail_bridge`, `tgt_act_held_bridge`: the stored information unit sizes are `DepMoreRef.iniMiu` of the TARGET's
  `atr_res.lr` / `DepMoreRef.tgtMiu` of the INITIATOR's `atr_req.lr`; `gen_ini_miu_peer_lr`, `gen_tgt_miu_peer_lr`: the own
  LR, the FSL of the PSL_REQ and the DID of the ATR_RES have no influence; `gen_ini_frame_fits`, `gen_tgt_frame_fits`: a chunk
  within the limit gives a frame the peer announced it can take; `ini_act_tail_c04`: it is `NfcDep.iMiu` of the C04 model;
* `rtox_step_bridge`, `rtox_order_bridge`: both copies of the timeout extension turn are `DepMoreRef.rtoxTurn` - validate,
  then use - for any validating builder; `gen_rtox_step_safe`: with the regenerated RTOX builder nothing but ProtocolError;
  `gen_rtox_validated_first`: an accepted turn read an octet in 1..59;
* `ini_send_tail_bridge`, `ini_recv_tail_bridge`, `ini_send_final_bridge`, `tgt_send_tail_bridge`: the order of the checks and
  of the packet number increment behind the blocking calls;
* `tgt_first_call_bridge`, `tgt_first_block_bridge`, `gen_first_call_filtered`: the first request passes the filter;
* `tgt_retrans_test_bridge`, `gen_retrans_any_type`: equal packet number = repetition, whatever the PDU type;
* `tgt_deact_*_bridge`, `gen_deact_deadline_fixed`, `gen_deact_bounded`: one deadline, never renewed.
-/
namespace NfcVerif.FnBridge.DepMore
open NfcVerif NfcVerif.PyFn NfcVerif.DepMoreRef NfcVerif.FnBridge.DepPdu NfcVerif.FnBridge.DepSm

abbrev mk6 (a : Bytes) (b c d e : Int) (f : Bytes) : Bytes × Int × Int × Int × Int × Bytes := (a, b, c, d, e, f)
abbrev mk7 (a : Bytes) (b c d e f : Int) (g : Bytes) : Bytes × Int × Int × Int × Int × Int × Bytes := (a, b, c, d, e, f, g)

/-! ## `Initiator.activate` -/

/-- the statements behind the PSL exchange: `miu` is the reference `iniMiu` of `atr_res.lr` (LRt), whatever `atr_req.lr`,
`psl_req.lr` and `atr_res.did` are; `gbt = atr_res.gb`, `pni = 0` -/
theorem ini_act_tail_bridge (did nad : Option Int) (lrRes lrReq lrPsl didRes : Int) (gb : Bytes) :
    Gen.Fn.dm_ini_act_tail did nad lrRes lrReq lrPsl didRes gb = (iniMiu lrRes did nad, gb, 0) := by
  unfold Gen.Fn.dm_ini_act_tail iniMiu bit
  cases did <;> cases nad <;> simp

/-- C19 / C04: the Initiator's send limit depends on the TARGET's announced LR only -/
theorem gen_ini_miu_peer_lr (did nad : Option Int) (lrRes lrReq lrPsl didRes lrReq' lrPsl' didRes' : Int) (gb gb' : Bytes) :
    (Gen.Fn.dm_ini_act_tail did nad lrRes lrReq lrPsl didRes gb).1
      = (Gen.Fn.dm_ini_act_tail did nad lrRes lrReq' lrPsl' didRes' gb').1 := by
  rw [ini_act_tail_bridge, ini_act_tail_bridge]

/-- C19: a chunk of at most `self.miu` octets gives an information DEP_REQ of at most LRt transport octets -/
theorem gen_ini_frame_fits (did nad : Option Int) (lrRes lrReq lrPsl didRes n : Int) (gb : Bytes)
    (h : n ≤ (Gen.Fn.dm_ini_act_tail did nad lrRes lrReq lrPsl didRes gb).1) : iniFrameLen did nad n ≤ lrRes := by
  rw [ini_act_tail_bridge] at h
  exact iniMiu_fits lrRes did nad n h

/-- the same value as the statement cut of group DepPdu, hence `NfcDep.iMiu` of the C04 model -/
theorem ini_act_tail_c04 (lrt : Nat) (did nad : Option Nat) (lrReq lrPsl didRes : Int) (gb : Bytes) :
    (Gen.Fn.dm_ini_act_tail (did.map (fun (d : Nat) => (d : Int))) (nad.map (fun (d : Nat) => (d : Int)))
        ((NfcDep.lrTable lrt : Nat) : Int) lrReq lrPsl didRes gb).1 = ((NfcDep.iMiu lrt did nad : Nat) : Int) := by
  rw [← ini_miu_c04]
  rfl

example : Gen.Fn.dm_ini_act_tail (some 1) none 64 254 254 0 [0x46] = (60, [0x46], 0) := by decide +kernel

/-- the ATR_REQ is built from 10 random octets, DID, BS = BR = 0, PP and the general bytes, in this order -/
theorem ini_atr_req_call_bridge (did ppi : Int) (gbi : Bytes) (urandom : Int → Bytes)
    (mk : Bytes → Int → Int → Int → Int → Bytes → (Bytes × Int × Int × Int × Int × Bytes)) :
    Gen.Fn.dm_ini_atr_req_call did ppi gbi mk urandom = mk (urandom 10) did 0 0 ppi gbi
    ∧ Gen.Fn.dm_ini_atr_req_call did ppi gbi mk6 urandom = atrReqArgs (urandom 10) did ppi gbi :=
  ⟨rfl, rfl⟩

example : Gen.Fn.dm_ini_atr_req_call 1 0x32 [7] mk6 (fun n => List.replicate n.toNat 9)
    = (List.replicate 10 9, 1, 0, 0, 0x32, [7]) := by decide +kernel

/-! ## `Initiator.exchange`: the timeout extension turn -/

theorem turn_eq {α} (x : Py α) (data : Bytes) (srwt : Int) :
    (x >>= fun t1 => getB data 0 >>= fun t2 => Except.ok (t1, t2 * srwt)) = rtoxTurn (fun _ => x) data srwt := by
  unfold rtoxTurn
  cases x with
  | error e => rfl
  | ok r =>
    cases data with
    | nil => simp [getB_nil]
    | cons v t => simp [getB_zero]

/-- both copies (send loop, receive loop): the request is built by the validating builder `mk` first, then
`res.data[0]` is read - for every builder -/
theorem rtox_step_bridge (data : Bytes) (srwt : Int) (did nad : Option Int) (mk : Bytes → Option Int → Option Int → Py Rec) :
    Gen.Fn.dm_ini_rtox_step_s data srwt did nad mk = rtoxTurn (fun d => mk d did nad) data srwt
    ∧ Gen.Fn.dm_ini_rtox_step_r data srwt did nad mk = rtoxTurn (fun d => mk d did nad) data srwt := by
  have e := turn_eq (mk data did nad) data srwt
  exact ⟨e, e⟩

/-- the variant with int tokens for the PDU objects (the one the differential self-test runs) -/
theorem rtox_order_bridge (data : Bytes) (srwt : Int) (did nad : Option Int) (mk : Bytes → Option Int → Option Int → Py Int) :
    Gen.Fn.dm_ini_rtox_order_s data srwt did nad mk = rtoxTurn (fun d => mk d did nad) data srwt
    ∧ Gen.Fn.dm_ini_rtox_order_r data srwt did nad mk = rtoxTurn (fun d => mk d did nad) data srwt := by
  have e := turn_eq (mk data did nad) data srwt
  exact ⟨e, e⟩

theorem smi_rtox_ok_nonempty (did nad : Option Nat) (d : Bytes) (r : Rec) (h : Gen.Fn.smi_rtox d (oi did) (oi nad) = .ok r) :
    d ≠ [] := by
  rw [rtox_bridge] at h
  cases d with
  | nil => cases h
  | cons v t => simp

/-- C07: whatever the Target puts into a timeout extension PDU (also NO octet), a turn of either loop raises nothing but
ProtocolError - in particular no IndexError from `res.data[0]` -/
theorem gen_rtox_step_safe (data : Bytes) (srwt : Int) (did nad : Option Nat) :
    Safe (fun e => e = .protocol) (Gen.Fn.dm_ini_rtox_step_s data srwt (oi did) (oi nad) Gen.Fn.smi_rtox)
    ∧ Safe (fun e => e = .protocol) (Gen.Fn.dm_ini_rtox_step_r data srwt (oi did) (oi nad) Gen.Fn.smi_rtox) := by
  have key : Safe (fun e => e = .protocol) (rtoxTurn (fun d => Gen.Fn.smi_rtox d (oi did) (oi nad)) data srwt) := by
    intro e he
    have hv := rtoxTurn_only_validator_errors (fun d => Gen.Fn.smi_rtox d (oi did) (oi nad))
      (fun d r h => smi_rtox_ok_nonempty did nad d r h) data srwt e he
    exact gen_rtox_safe data did nad e hv
  rw [(rtox_step_bridge data srwt (oi did) (oi nad) Gen.Fn.smi_rtox).1, (rtox_step_bridge data srwt (oi did) (oi nad) Gen.Fn.smi_rtox).2]
  exact ⟨key, key⟩

/-- C07: an accepted turn read an RTOX octet in 1..59 and waits that many response waiting times -/
theorem gen_rtox_validated_first (data : Bytes) (srwt : Int) (did nad : Option Nat) (r : Rec) (w : Int)
    (h : Gen.Fn.dm_ini_rtox_step_r data srwt (oi did) (oi nad) Gen.Fn.smi_rtox = .ok (r, w)) :
    ∃ v t, data = v :: t ∧ 0 < v ∧ v < 60 ∧ w = (v : Int) * srwt := by
  rw [(rtox_step_bridge data srwt (oi did) (oi nad) Gen.Fn.smi_rtox).2] at h
  obtain ⟨hv, v, t, hd, hw⟩ := rtoxTurn_ok _ _ _ _ _ h
  subst hd
  have hv' : Gen.Fn.smi_rtox (v :: t) (oi did) (oi nad) = .ok r := hv
  rw [rtox_bridge] at hv'
  simp only at hv'
  split at hv'
  · rename_i hr; exact ⟨v, t, rfl, hr.1, hr.2, hw⟩
  · cases hv'

example : Gen.Fn.dm_ini_rtox_step_r [] 5 none none Gen.Fn.smi_rtox = .error .protocol := rfl
example : Gen.Fn.dm_ini_rtox_step_s [7, 1] 5 none none Gen.Fn.smi_rtox = .ok (((9, false, false, 0), none, none, [7]), 35) := by
  rfl
example : Gen.Fn.dm_ini_rtox_order_r [] 5 none none (fun _ _ _ => .error .protocol) = .error .protocol := by decide +kernel

/-! ## `Initiator.exchange`: behind the blocking calls -/

theorem ini_send_tail_bridge (rest : Bytes) (fmt rpni pni : Int) :
    Gen.Fn.dm_ini_send_tail rest fmt rpni pni = iniSendTail rest fmt rpni pni (band (pni + 1) 3) := by
  unfold Gen.Fn.dm_ini_send_tail iniSendTail
  py_nat

/-- for packet numbers in their range: the new number is `(pni + 1) % 4` (`NfcDep.sendLoop`) -/
theorem ini_send_tail_nat (rest : Bytes) (fmt : Int) (rp pni : Nat) :
    Gen.Fn.dm_ini_send_tail rest fmt (rp : Int) (pni : Int)
      = iniSendTail rest fmt (rp : Int) (pni : Int) (((pni + 1) % 4 : Nat) : Int) := by
  rw [ini_send_tail_bridge, pni_inc]

theorem ini_recv_tail_bridge (acc data : Bytes) (fmt rpni pni : Int) :
    Gen.Fn.dm_ini_recv_tail acc fmt rpni pni data = iniRecvTail acc fmt rpni pni data (band (pni + 1) 3) := by
  unfold Gen.Fn.dm_ini_recv_tail iniRecvTail
  py_nat

theorem ini_send_final_bridge (fmt : Int) (data : Bytes) :
    Gen.Fn.dm_ini_send_final fmt data = iniSendFinal fmt data := by
  unfold Gen.Fn.dm_ini_send_final iniSendFinal
  py_nat

example : Gen.Fn.dm_ini_send_tail [] 4 2 2 = .error .protocol := by decide +kernel
example : Gen.Fn.dm_ini_send_tail [1] 4 3 3 = .ok 0 := by decide +kernel
example : Gen.Fn.dm_ini_recv_tail [1] 1 2 2 [5] = .ok ([1, 5], 3) := by decide +kernel

/-- `Initiator.deactivate`: the DID comparison (its branch only logs) -/
theorem ini_deact_did_test_bridge (a b : Option Int) : Gen.Fn.dm_ini_deact_did_test a b = decide (a ≠ b) := rfl

/-! ## `Target.activate` -/

theorem tgt_atr_res_call_bridge (nfcid3t gbt : Bytes) (rwt pp : Int)
    (mk : Bytes → Int → Int → Int → Int → Int → Bytes → (Bytes × Int × Int × Int × Int × Int × Bytes)) :
    Gen.Fn.dm_tgt_atr_res_call nfcid3t rwt pp gbt mk = mk nfcid3t 0 0 0 rwt pp gbt
    ∧ Gen.Fn.dm_tgt_atr_res_call nfcid3t rwt pp gbt mk7 = atrResArgs nfcid3t rwt pp gbt :=
  ⟨rfl, rfl⟩

/-- as found (known finding C19 `did0-..`): the ATR_RES of nfcpy's Target always carries DID 0 -/
theorem gen_tgt_atr_res_did0 (nfcid3t gbt : Bytes) (rwt pp : Int) :
    (Gen.Fn.dm_tgt_atr_res_call nfcid3t rwt pp gbt mk7).2.1 = 0 := rfl

theorem tgt_act_consts_bridge (urandom : Int → Bytes) : Gen.Fn.dm_tgt_act_consts urandom = listenConsts (urandom 3) := rfl

/-- the SEL_RES the Target listens with passes the regenerated NFC-DEP test of `Initiator.activate` (group DepSm) -/
theorem gen_tgt_sel_res_accepted (urandom : Int → Bytes) :
    Gen.Fn.smi_act_sel_res (Gen.Fn.dm_tgt_act_consts urandom).2.2 = .ok true := by
  show Gen.Fn.smi_act_sel_res [0x40] = .ok true
  decide +kernel

theorem tgt_act_held_bridge (lrt lrReq didReq : Int) (gbt gbReq : Bytes) :
    Gen.Fn.dm_tgt_act_held lrt gbt gbReq lrReq didReq = tgtHeld lrt gbt gbReq lrReq didReq := by
  unfold Gen.Fn.dm_tgt_act_held tgtHeld tgtMiu tgtDid bit
  py_nat

/-- C19 / C04: the Target's send limit depends on the INITIATOR's announced LR (and DID) only, not on its own `lrt` -/
theorem gen_tgt_miu_peer_lr (lrt lrt' lrReq didReq : Int) (gbt gbReq gbt' gbReq' : Bytes) :
    (Gen.Fn.dm_tgt_act_held lrt gbt gbReq lrReq didReq).2.2.2.1 = (Gen.Fn.dm_tgt_act_held lrt' gbt' gbReq' lrReq didReq).2.2.2.1 := by
  rw [tgt_act_held_bridge, tgt_act_held_bridge]; rfl

theorem gen_tgt_frame_fits (lrt lrReq didReq n : Int) (gbt gbReq : Bytes)
    (h : n ≤ (Gen.Fn.dm_tgt_act_held lrt gbt gbReq lrReq didReq).2.2.2.1) : tgtFrameLen didReq n ≤ lrReq := by
  rw [tgt_act_held_bridge] at h
  exact tgtMiu_fits lrReq didReq n h

example : Gen.Fn.dm_tgt_act_held 3 [1] [2] 64 7 = (3, [1], [2], 60, some 7) := by decide +kernel
example : Gen.Fn.dm_tgt_act_held 0 [] [] 254 0 = (0, [], [], 251, none) := by decide +kernel

/-! ## `Target.exchange` -/

theorem tgt_first_call_bridge (deadline : Int) (sdr srr : Option Int → Int → Option Int) :
    Gen.Fn.dm_tgt_first_call deadline sdr srr = firstRequest sdr srr deadline := rfl

theorem tgt_first_block_bridge (sendData : Option Bytes) (deadline : Int) (sdr srr : Option Int → Int → Option Int) :
    Gen.Fn.dm_tgt_first_block sendData deadline sdr srr = firstBlock sendData sdr srr deadline := by
  unfold Gen.Fn.dm_tgt_first_block firstBlock firstRequest
  cases sendData with
  | some d => simp
  | none =>
    cases sdr none deadline <;> simp

/-- C04: what the raw receive function would return has no influence on the first request -/
theorem gen_first_call_filtered (deadline : Int) (sdr srr srr' : Option Int → Int → Option Int) :
    Gen.Fn.dm_tgt_first_call deadline sdr srr = Gen.Fn.dm_tgt_first_call deadline sdr srr'
    ∧ Gen.Fn.dm_tgt_first_block none deadline sdr srr = Gen.Fn.dm_tgt_first_block none deadline sdr srr' := by
  rw [tgt_first_block_bridge, tgt_first_block_bridge]
  exact ⟨rfl, rfl⟩

example : Gen.Fn.dm_tgt_first_block none 5 (fun _ d => some (d + 1)) (fun _ _ => none) = .ok (some (6, 0)) := by decide +kernel
example : Gen.Fn.dm_tgt_first_block (some []) 5 (fun _ d => some d) (fun _ _ => none) = .error .assertion := by decide +kernel

theorem tgt_send_tail_bridge (more : Bool) (rest : Bytes) (fmt rpni pni miu : Int) :
    Gen.Fn.dm_tgt_send_tail more rest fmt rpni pni miu
      = tgtSendTail more fmt rpni (band (pni + 1) 3) (delSlice rest 0 miu) := by
  unfold Gen.Fn.dm_tgt_send_tail tgtSendTail
  cases more <;> by_cases h1 : fmt = 4 <;> by_cases h3 : rpni = band (pni + 1) 3 <;> simp [h1, h3]

example : Gen.Fn.dm_tgt_send_tail true [1, 2, 3] 4 1 0 2 = .ok (1, [3]) := by decide +kernel
example : Gen.Fn.dm_tgt_send_tail true [1, 2, 3] 0 1 0 2 = .error .protocol := by decide +kernel

/-! ## `Target.send_dep_res_recv_dep_req` -/

theorem tgt_retrans_test_bridge (rpni pni fmt : Int) : Gen.Fn.dm_tgt_retrans_test rpni pni fmt = isRepeated rpni pni fmt := rfl

/-- C04: a request with the packet number of the last one is recognised as repeated whatever its PDU type - INF, I++
and ACK alike -/
theorem gen_retrans_any_type (pni fmt : Int) : Gen.Fn.dm_tgt_retrans_test pni pni fmt = true := by
  rw [tgt_retrans_test_bridge]; simp [isRepeated]

/-! ## `Target._deactivate` -/

theorem tgt_deact_deadline_bridge (tplus1 : Int) : Gen.Fn.dm_tgt_deact_deadline tplus1 = deactDeadline tplus1 := rfl

theorem tgt_deact_cond_bridge (deadline now : Int) : Gen.Fn.dm_tgt_deact_cond deadline now = deactRunning deadline now := rfl

theorem tgt_deact_dep_bridge (data : Bytes) (deadline fmt rpni tplus1 : Int) (did nad : Option Int)
    (mkatn : Option Int → Option Int → Int) (mkinf : Int → Bytes → Option Int → Option Int → Int) :
    Gen.Fn.dm_tgt_deact_dep data deadline fmt rpni did nad tplus1 mkatn mkinf
      = deactTurn (if fmt = 8 then mkatn did nad else mkinf rpni data did nad) deadline := by
  unfold Gen.Fn.dm_tgt_deact_dep deactTurn
  py_nat

theorem tgt_deact_other_bridge (res : Option Int) (deadline tplus1 : Int) :
    Gen.Fn.dm_tgt_deact_other res deadline tplus1 = deactTurn () deadline := rfl

/-- C09: neither an answered DEP_REQ nor a foreign / unknown PDU moves the deadline of the deactivation dialogue -/
theorem gen_deact_deadline_fixed (data : Bytes) (deadline fmt rpni tplus1 : Int) (did nad res : Option Int)
    (mkatn : Option Int → Option Int → Int) (mkinf : Int → Bytes → Option Int → Option Int → Int) :
    (Gen.Fn.dm_tgt_deact_dep data deadline fmt rpni did nad tplus1 mkatn mkinf).2 = deadline
    ∧ (Gen.Fn.dm_tgt_deact_other res deadline tplus1).2 = deadline := by
  rw [tgt_deact_dep_bridge]
  exact ⟨rfl, rfl⟩

/-- C09: with the regenerated start value and loop condition, after any sequence of turns the loop is not entered once
the clock reached start + 1 s -/
theorem gen_deact_bounded (tplus1 now : Int) (turns : List Int) (h : tplus1 ≤ now) :
    Gen.Fn.dm_tgt_deact_cond (turns.foldl (fun d r => (deactTurn r d).2) (Gen.Fn.dm_tgt_deact_deadline tplus1)) now = false := by
  rw [tgt_deact_cond_bridge, tgt_deact_deadline_bridge]
  exact deact_bounded tplus1 now turns h

example : Gen.Fn.dm_tgt_deact_dep [1] 77 8 2 none none 1000 (fun _ _ => 11) (fun _ _ _ _ => 22) = (11, 77) := by decide +kernel
example : Gen.Fn.dm_tgt_deact_cond 10 9 = true ∧ Gen.Fn.dm_tgt_deact_cond 10 10 = false := by decide +kernel

/-! ## counters -/

theorem cnt_bridge (l : List Int) : Gen.Fn.dm_cnt_sent l = total l ∧ Gen.Fn.dm_cnt_rcvd l = total l := ⟨rfl, rfl⟩

example : Gen.Fn.dm_cnt_sent [1, 2, 3] = 6 := by decide +kernel

end NfcVerif.FnBridge.DepMore
