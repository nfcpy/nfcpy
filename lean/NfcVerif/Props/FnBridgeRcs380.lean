import NfcVerif.Gen.FnRcs380
import NfcVerif.Lemmas.HostFrame
import NfcVerif.Lemmas.FnBridgeRcs380
/-!
# Bridge theorems, group Rcs380 (`nfc/clf/rcs380.py` -> `Gen/FnRcs380.lean` -> `Model/HostFrame.lean`, `Model/ErrMap.lean`)

Properties C14 (`rcs380_build_valid` is about `rcsBuild`) and C13 (`rcsMapI`, `rcsMapT` decide on bits of
the status word that `CommunicationError.__init__` unpacks and `__eq__` tests).  `Gen/FnRcs380.lean` is
regenerated from the source on every run.

Encodings: a status word is the Python int `(st : Nat)`; the table lookup `str2err[strerr]` of `__eq__` is a
parameter (`mask`) - the theorems instantiate it with the two values the drivers' handlers ask for.
-/
namespace NfcVerif.FnBridge.Rcs380
open NfcVerif NfcVerif.PyFn NfcVerif.HostFrame NfcVerif.ErrMap NfcVerif.FnBridge.HostLink

/-- `Frame.__init__`, command frame construction: `rcsBuild d` for every payload whose length fits the
16-bit length field, `struct.error` otherwise -/
theorem frame_build_bridge (d : Bytes) :
    Gen.Fn.rcs380_frame_build d = if d.length < 65536 then .ok (rcsBuild d) else .error .struct := by
  unfold Gen.Fn.rcs380_frame_build rcsBuild
  simp only [lit_cast, len_eq, mkBytes_cons, mkBytes_nil, Nat.reduceLT, if_true, Py.bind_ok, pack_cons, pack_nil,
    packField_Hle_nat]
  by_cases h : d.length < 65536
  · simp only [h, if_true, Py.bind_ok, List.append_nil, slice_ofNat, header_len, cksum_mod, packField_B_nat, cksum_lt,
      sliceFrom_ofNat, header_drop, mkBytes_cons, mkBytes_nil, Nat.reduceLT]
    rw [Nat.mod_eq_of_lt (by omega : d.length / 256 < 256), cksum_pair _ _ (by omega)]
  · simp only [h, if_false, Py.bind_error]

example : Gen.Fn.rcs380_frame_build [0xD6, 0x2A, 1] = .ok [0, 0, 0xFF, 0xFF, 0xFF, 3, 0, 0xFD, 0xD6, 0x2A, 1, 0xFF, 0] := by
  decide +kernel

/-- `C14.rcs380_build_valid` for the regenerated construction -/
theorem gen_build_valid (d w : Bytes) (h : Gen.Fn.rcs380_frame_build d = .ok w) : Spec.rcsParse w = some d := by
  rw [frame_build_bridge] at h
  by_cases hl : d.length < 65536
  · rw [if_pos hl] at h; cases h; exact rcs_build_valid d hl
  · rw [if_neg hl] at h; cases h

/-- `CommunicationError.__init__`: the status word is `ErrMap.unpackLeL` of the four status octets
(`struct.error` unless exactly four are given) -/
theorem comm_err_init_bridge (b : Bytes) :
    Gen.Fn.rcs380_comm_err_init b = (unpackLeL b >>= fun st => .ok (st : Int)) := by
  unfold Gen.Fn.rcs380_comm_err_init unpackLeL
  py_nat
  match b with
  | [] | [_] | [_, _] | [_, _, _] => rfl
  | [a, b, c, d] =>
    rw [if_pos (show ([a, b, c, d] : Bytes).length = 4 from rfl)]
    exact congrArg (fun n : Nat => (Except.ok (n : Int) : Py Int)) (beNat_reverse_four a b c d)
  | _ :: _ :: _ :: _ :: _ :: _ => simp

example : Gen.Fn.rcs380_comm_err_init [0x80, 0, 0, 0] = .ok 128 := by decide +kernel
example : Gen.Fn.rcs380_comm_err_init [0x80, 0, 0] = .error .struct := by decide +kernel

/-- `CommunicationError.__eq__` with the table value `mask = str2err[strerr]`: for a non-zero mask the
comparison is the bit test `errno & mask != 0` -/
theorem comm_err_eq_bridge (s : String) (st mask : Nat) (hm : mask ≠ 0) :
    Gen.Fn.rcs380_comm_err_eq s st mask = decide (st &&& mask ≠ 0) := by
  unfold Gen.Fn.rcs380_comm_err_eq
  have h1 : ((st : Int) ≠ 0 ∨ (mask : Int) ≠ 0) := Or.inr (by omega)
  simp only [h1, if_true, band_ofNat]
  apply decide_eq_decide.mpr
  constructor <;> intro h <;> omega

theorem comm_err_eq_bit (s : String) (st k : Nat) :
    Gen.Fn.rcs380_comm_err_eq s st ((2 ^ k : Nat) : Int) = decide ((st / 2 ^ k) % 2 = 1) :=
  (comm_err_eq_bridge s st (2 ^ k) (Nat.ne_of_gt (Nat.two_pow_pos k))).trans
    (decide_eq_decide.mpr (and_two_pow_ne_zero st k))

/-- `error == "RECEIVE_TIMEOUT_ERROR"` (mask 0x80) is the condition of `ErrMap.rcsMapI` / `rcsMapT` -/
theorem comm_err_eq_timeout (s : String) (st : Nat) :
    Gen.Fn.rcs380_comm_err_eq s st 0x80 = decide ((st / 128) % 2 = 1) := comm_err_eq_bit s st 7

/-- `error == "RF_OFF_ERROR"` (mask 0x400) is the first condition of `ErrMap.rcsMapT` -/
theorem comm_err_eq_rfoff (s : String) (st : Nat) :
    Gen.Fn.rcs380_comm_err_eq s st 0x400 = decide ((st / 1024) % 2 = 1) := comm_err_eq_bit s st 10

example : Gen.Fn.rcs380_comm_err_eq "RECEIVE_TIMEOUT_ERROR" 0x84 0x80 = true := by decide +kernel
/-- a zero status word "equals" only the zero mask (NO_ERROR) -/
example : Gen.Fn.rcs380_comm_err_eq "NO_ERROR" 0 0 = true := by decide +kernel

/-- `if data and data[0] != 0: raise StatusError(data[0])` (InSetRF): `ErrMap.statusCheck` on a response
payload, for every byte string -/
theorem status_check_bridge (d : Bytes) :
    Gen.Fn.rcs380_in_set_rf_status d = statusCheck (.ok (some d)) := by
  unfold Gen.Fn.rcs380_in_set_rf_status statusCheck
  match d with
  | [] => rfl
  | s :: rest => py_nat

example : Gen.Fn.rcs380_in_set_rf_status [1] = .error .rcsStatus := by decide
example : Gen.Fn.rcs380_in_set_rf_status [0, 7] = .ok () := by decide
example : Gen.Fn.rcs380_in_set_rf_status [] = .ok () := by decide

/-- the six other copies of the statement (InSetProtocol, SwitchRF, TgSetRF, TgSetProtocol, TgSetAuto,
SetCommandType) are the same function -/
theorem status_check_all (d : Bytes) :
    Gen.Fn.rcs380_in_set_protocol_status d = statusCheck (.ok (some d)) ∧
    Gen.Fn.rcs380_switch_rf_status d = statusCheck (.ok (some d)) ∧
    Gen.Fn.rcs380_tg_set_rf_status d = statusCheck (.ok (some d)) ∧
    Gen.Fn.rcs380_tg_set_protocol_status d = statusCheck (.ok (some d)) ∧
    Gen.Fn.rcs380_tg_set_auto_status d = statusCheck (.ok (some d)) ∧
    Gen.Fn.rcs380_set_command_type_status d = statusCheck (.ok (some d)) :=
  ⟨status_check_bridge d, status_check_bridge d, status_check_bridge d, status_check_bridge d,
   status_check_bridge d, status_check_bridge d⟩

/-! ## received frames (`Frame.__init__`, first arm) and `send_command` -/

/-- the four tests of the received-frame arm of `Frame.__init__` are the tests of `ErrMap.rcsFrame` -/
theorem frame_conditions_bridge (f : Bytes) :
    Gen.Fn.rcs380_frame_is_rsp f = decide (sliceN f 0 3 = [0, 0, 0xFF]) ∧
    Gen.Fn.rcs380_frame_is_ack f = decide (f = ErrMap.ack) ∧
    Gen.Fn.rcs380_frame_is_err f = decide (f = [0, 0, 0xFF, 0xFF, 0xFF]) ∧
    Gen.Fn.rcs380_frame_is_data f = decide (sliceN f 3 5 = [0xFF, 0xFF]) := by
  refine ⟨?_, rfl, rfl, ?_⟩
  · unfold Gen.Fn.rcs380_frame_is_rsp; py_nat
  · unfold Gen.Fn.rcs380_frame_is_data; py_nat

/-- payload extraction of a data frame: little-endian length at octets 5..6, payload from octet 8
(`struct.error` when fewer than 7 octets are there) -/
theorem frame_data_bridge (f : Bytes) :
    Gen.Fn.rcs380_frame_data f = (unpackLeH (sliceN f 5 7) >>= fun len => .ok (sliceN f 8 (8 + len))) := by
  unfold Gen.Fn.rcs380_frame_data unpackLeH
  py_nat
  generalize sliceN f 5 7 = s
  match s with
  | [] | [_] => rfl
  | [a, b] =>
    rw [if_pos (show ([a, b] : Bytes).length = 2 from rfl)]
    exact congrArg (fun n : Nat => (Except.ok (sliceN f 8 (8 + n)) : Py Bytes)) (beNat_reverse_two a b)
  | _ :: _ :: _ :: _ => simp

/-- `ErrMap.rcsFrame` is the if/elif chain of the source over the regenerated tests and the regenerated
extraction (the chain itself is read from the source: the arm stores `self._type` and reads it back through the
property `self.type`, which the translator cannot follow) -/
theorem frame_parse_bridge (f : Bytes) :
    rcsFrame f =
      if Gen.Fn.rcs380_frame_is_rsp f = true then
        if Gen.Fn.rcs380_frame_is_ack f = true then .ok (.ack, [])
        else if Gen.Fn.rcs380_frame_is_err f = true then .ok (.err, [])
        else if Gen.Fn.rcs380_frame_is_data f = true then (Gen.Fn.rcs380_frame_data f >>= fun d => .ok (.data, d))
        else .ok (.none, [])
      else .ok (.none, []) := by
  obtain ⟨h1, h2, h3, h4⟩ := frame_conditions_bridge f
  rw [h1, h2, h3, h4, frame_data_bridge]
  unfold rcsFrame
  simp only [decide_eq_true_eq, Py.pure_eq, bind_assoc, Py.bind_ok]

example : Gen.Fn.rcs380_frame_data [0, 0, 0xFF, 0xFF, 0xFF, 3, 0, 0xFD, 0xD7, 0x2B, 0, 0x28, 0] = .ok [0xD7, 0x2B, 0] := by
  decide +kernel
example : Gen.Fn.rcs380_frame_data [0, 0, 0xFF, 0xFF, 0xFF, 3] = .error .struct := by decide +kernel

/-- `send_command`: response code test and returned payload are those of `ErrMap.rcsRsp`; the remaining arm of
`rcsRsp` (IndexError of the log call for a one-octet payload) has no regenerated counterpart -/
theorem rsp_bridge (cmd : Nat) (d : Bytes) :
    rcsRsp cmd d = (Gen.Fn.rcs380_rsp_code_ok cmd d >>= fun c =>
      if c = true then .ok (some (Gen.Fn.rcs380_rsp_payload d))
      else if d.length < 2 then .error .index else .ok none) := by
  unfold rcsRsp Gen.Fn.rcs380_rsp_code_ok Gen.Fn.rcs380_rsp_payload
  py_nat
  -- the two sides differ in the test `len(d) < 2` behind a second octet that was read
  match d with
  | [] | [_] => rfl
  | _ :: _ :: t => simp [show ¬ t.length + 1 + 1 < 2 by omega]

example : Gen.Fn.rcs380_rsp_code_ok 0x2A [0xD7, 0x2B, 0] = .ok true := by decide
example : Gen.Fn.rcs380_rsp_code_ok 0x2A [0xD7] = .error .index := by decide

/-! ## InCommRF / TgCommRF status words -/

/-- what `in_comm_rf` and `tg_comm_rf` share: the test on the four status octets `w`, for any value returned at status 0 -/
theorem comm_check {α} (w : Bytes) (a : α) :
    withStatus (if ¬ w = [0, 0, 0, 0] then (Gen.Fn.rcs380_comm_err_init w >>= fun _ => (.error .rcsComm : Py α)) else .ok a)
        (unpackLeL w)
      = if w ≠ [0, 0, 0, 0] then liftR (unpackLeL w) >>= fun st => throw (.comm st) else .ok a := by
  by_cases h : w = [0, 0, 0, 0]
  · rw [if_neg (not_not_intro h), if_neg (not_not_intro h)]; rfl
  · rw [if_pos h, if_pos h, comm_err_init_bridge]
    cases hu : unpackLeL w with
    | ok st => rfl
    | error e =>
      -- `unpackLeL` raises only struct.error, which `withStatus` hands on as it is
      unfold unpackLeL at hu
      split at hu <;> cases hu
      rfl

/-- `in_comm_rf` behind `send_command`: `ErrMap.inCommRf` on a response payload, for every byte string (the
status word of the raised `CommunicationError` is the one its constructor unpacks) -/
theorem in_comm_rf_bridge (d : Bytes) :
    inCommRf (.ok (some d)) = withStatus (Gen.Fn.rcs380_in_comm_rf_check d) (unpackLeL (sliceN d 0 4)) := by
  unfold inCommRf Gen.Fn.rcs380_in_comm_rf_check
  simp only [lit_cast, slice_ofNat, sliceFrom_ofNat, ints_ne_zero4]
  match d with
  | [] => rfl
  | a :: t =>
    simp only [ne_eq, reduceCtorEq, not_false_eq_true, true_and, if_true]
    exact (comm_check _ _).symm

example : Gen.Fn.rcs380_in_comm_rf_check [0, 0, 0, 0, 8, 0xAA] = .ok (some [0xAA]) := by decide +kernel
example : Gen.Fn.rcs380_in_comm_rf_check [0x80, 0, 0, 0, 8] = .error .rcsComm := by decide +kernel
example : Gen.Fn.rcs380_in_comm_rf_check [0x80] = .error .struct := by decide +kernel

/-- `tg_comm_rf` behind `send_command`, followed by `return data[7:] if data else None` of
`send_rsp_recv_cmd`: `ErrMap.tgCommRf` -/
theorem tg_comm_rf_bridge (d : Bytes) :
    tgCommRf (.ok (some d))
      = withStatus (Gen.Fn.rcs380_tg_comm_rf_check d >>= fun x => .ok (Gen.Fn.rcs380_tgt_result x))
          (unpackLeL (sliceN d 3 7)) := by
  unfold tgCommRf Gen.Fn.rcs380_tg_comm_rf_check Gen.Fn.rcs380_tgt_result
  simp only [lit_cast, slice_ofNat, sliceFrom_ofNat, ints_ne_zero4, ite_bind, bind_assoc, Py.bind_ok, Py.bind_error]
  match d with
  | [] => rfl
  | a :: t =>
    simp only [ne_eq, reduceCtorEq, not_false_eq_true, true_and, if_true]
    exact (comm_check _ _).symm

end NfcVerif.FnBridge.Rcs380
