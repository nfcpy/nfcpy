import NfcVerif.Lemmas.FnBridgeDep
import NfcVerif.Lemmas.PeerDep
/-!
# Bridge theorems, group Dep (`nfc/dep.py` framing -> `Gen/FnDep.lean` -> `Model/NfcDep.lean`, `Model/PeerDep.lean`)

Properties C04 (every frame is decoded by `NfcDep.decodeFrame`), C07 (`Peer.decodeFrameV`), C19.
The translated slices (see the doc comments in `Gen/FnDep.lean`):

* `encode_frame`: everything after `frame = packet.encode()`; the parameter is the encoded PDU;
* `decode_frame`: the checks in front of the dispatch `eval(name + "_RES").decode(frame)`; the result is
  the frame as handed to that dispatch.  The bridge continues with `tail req` (`Lemmas/FnBridgeDep.lean`):
  the table lookup of the real dispatch (`KeyError` for an unknown code, `frame[0]` not inspected) followed
  by the model's PDU decoders - so a weakened code check in the source is not masked.

`brty` is the string `self.target.brty`; the models' `b106` is `brty = "106A"`.
-/
namespace NfcVerif.FnBridge.Dep
open NfcVerif NfcVerif.PyFn NfcVerif.NfcDep

theorem initiator_encode_frame_bridge (brty : String) (p : Pdu) :
    Gen.Fn.initiator_encode_frame (encodePdu false p) brty = encodeFrame (decide (brty = "106A")) false p :=
  encode_frame brty _

theorem target_encode_frame_bridge (brty : String) (p : Pdu) :
    Gen.Fn.target_encode_frame (encodePdu true p) brty = encodeFrame (decide (brty = "106A")) true p :=
  encode_frame brty _

example : Gen.Fn.initiator_encode_frame (encodePdu false (.dsl none)) "106A" = .ok [0xF0, 3, 0xD5, 9] := by decide +kernel
example : Gen.Fn.target_encode_frame (encodePdu true (.rls (some 1))) "212F" = .ok [4, 0xD4, 10, 1] := by decide +kernel

/-- `Initiator.decode_frame` up to the dispatch, for every frame and both framings -/
theorem initiator_decode_frame_bridge (brty : String) (frame : Bytes) :
    decodeFrame (decide (brty = "106A")) false frame = Gen.Fn.initiator_decode_frame frame brty >>= tail false :=
  start_byte _ _ _ (frame_checks false 213 _ rfl fun c1 => by simp [cast_eq_lit]; omega) frame

/-- `Target.decode_frame` up to the dispatch -/
theorem target_decode_frame_bridge (brty : String) (frame : Bytes) :
    decodeFrame (decide (brty = "106A")) true frame = Gen.Fn.target_decode_frame frame brty >>= tail true :=
  start_byte _ _ _ (frame_checks true 212 _ rfl fun c1 => by simp [cast_eq_lit]) frame

example : Gen.Fn.initiator_decode_frame [0xF0, 4, 0xD5, 9, 7] "106A" = .ok [0xD5, 9, 7] := by decide +kernel
example : Gen.Fn.target_decode_frame [3, 0xD4, 5] "424F" = .error .protocol := by decide +kernel
example : Gen.Fn.target_decode_frame [] "424F" = .error .transmission := by decide +kernel

/-! ## the C07 / C04 statements for the regenerated functions -/

/-- the C07 frame model (`Peer.decodeFrameV`, repaired code) is the regenerated framing followed by the dispatch -/
theorem initiator_decode_frame_peer (brty : String) (frame : Bytes) :
    Peer.decodeFrameV true (decide (brty = "106A")) false frame
      = Gen.Fn.initiator_decode_frame frame brty >>= tail false := by
  rw [Peer.decodeFrameV_repaired, initiator_decode_frame_bridge]
theorem target_decode_frame_peer (brty : String) (frame : Bytes) :
    Peer.decodeFrameV true (decide (brty = "106A")) true frame
      = Gen.Fn.target_decode_frame frame brty >>= tail true := by
  rw [Peer.decodeFrameV_repaired, target_decode_frame_bridge]

/-- `C07.dep_decode_total` for the source: whatever octets the peer sends, the regenerated framing checks
of both roles raise nothing but `ProtocolError` / `TransmissionError` -/
theorem gen_decode_frame_total (brty : String) (frame : Bytes) :
    Safe Peer.FrameErr (Gen.Fn.initiator_decode_frame frame brty)
    ∧ Safe Peer.FrameErr (Gen.Fn.target_decode_frame frame brty) := by
  -- an exception of the checks is an exception of the whole decoder, which is `Peer.dep_decode_total`
  have h := Peer.dep_decode_total (decide (brty = "106A"))
  exact ⟨Safe.of_bind (initiator_decode_frame_peer brty frame ▸ h _ frame),
    Safe.of_bind (target_decode_frame_peer brty frame ▸ h _ frame)⟩

end NfcVerif.FnBridge.Dep
