import NfcVerif.Gen.FnT4
import NfcVerif.Model.IsoDep
import NfcVerif.Model.T4
import NfcVerif.Lemmas.FnBridgeT4
/-!
# Bridge theorems, group T4 (`nfc/tag/tt4.py` -> `Gen/FnT4.lean` -> `Model/IsoDep.lean`; C12, C08, C01)

* `apdu_build_bridge`: the command APDU `send_apdu` hands to `transceive` is `IsoDep.encodeApdu` (short and
  extended length fields, `ValueError`s), for all header values, data strings and `mrl`;
* `apdu_status_bridge`: the status word handling after `transceive` is `IsoDep.checkStatus`;
* `t4a_params_bridge` / `t4b_params_bridge`: the FSCI/FWI evaluation in `Type4ATag.__init__` /
  `Type4BTag.__init__` followed by what `IsoDepInitiator.__init__` stores (`pcdOf`, float arithmetic, not
  translated) is `IsoDep.activateA` / `activateB`;
* `cc_parse_bridge`: the evaluation of the capability container in `_discover_ndef` is the tail of `T4.discover`
  (`discoverTail`, `discover_eq`); `read_binary_bridge`: `T4.readBinary` on the regenerated argument computation.
-/
namespace NfcVerif.FnBridge.T4
open NfcVerif NfcVerif.PyFn NfcVerif.IsoDep NfcVerif.FnBridge.Pdu

theorem mkBytes_nil : mkBytes [] = .ok [] := PyFn.mkBytes_nil

theorem apdu_build_bridge (ext : Bool) (cla ins p1 p2 : Nat) (data : Bytes) (mrl : Nat) :
    Gen.Fn.t4_apdu_build cla ins p1 p2 data mrl ext = encodeApdu ext cla ins p1 p2 data mrl := by
  unfold Gen.Fn.t4_apdu_build encodeApdu
  by_cases hh : cla ≥ 256 ∨ ins ≥ 256 ∨ p1 ≥ 256 ∨ p2 ≥ 256
  · rw [mkBytes_error _ (by simp; omega), if_pos hh]; rfl
  rw [mkBytes_ok _ (by simp; omega), if_neg hh]
  simp only [List.map, Int.toNat_natCast, Py.bind_ok]
  -- `data and len(data) > k`, `mrl and mrl > k` are the model's plain comparisons
  have hne : ∀ k, (¬ data = [] ∧ k < data.length) ↔ k < data.length :=
    fun k => and_iff_right_of_imp (fun h hd => by rw [hd] at h; exact Nat.not_lt_zero _ h)
  have hm : ∀ k, (¬ mrl = 0 ∧ k < mrl) ↔ k < mrl := fun k => and_iff_right_of_imp (by omega)
  cases ext
  · simp only [Bool.false_eq_true, not_false_eq_true, if_true, Bool.not_false]
    py_nat
    simp only [hne, hm]
    by_cases h1 : 255 < data.length
    · simp only [h1, if_true]
    by_cases h2 : 256 < mrl
    · simp only [h1, h2, if_true, if_false]
    -- behind the two guards neither `pack` raises
    have hle : ¬ 255 < (if mrl = 256 then 0 else mrl) := by split <;> omega
    simp only [h1, h2, if_false, packField_B_nat, if_pos (Nat.lt_of_not_le h1), if_pos (Nat.lt_of_not_le hle), Py.bind_ok]
    by_cases hd : data = [] <;> by_cases h3 : 0 < mrl <;> simp [hd, h3]
  · simp only [not_true, if_false, Bool.not_true, Bool.false_eq_true]
    py_nat
    simp only [hne, hm]
    by_cases h1 : 65535 < data.length
    · simp only [h1, if_true]
    by_cases h2 : 65536 < mrl
    · simp only [h1, h2, if_true, if_false]
    have hle : ¬ 65535 < (if mrl = 65536 then 0 else mrl) := by split <;> omega
    simp only [h1, h2, if_false, packField_ok (f := .Hbe) (Nat.lt_of_not_le h1), packField_ok (f := .Hbe) (Nat.lt_of_not_le hle), Py.bind_ok]
    -- `Fmt.octets .Hbe n` is by definition the model's `toBE 2 n`
    by_cases hd : data = [] <;> by_cases h3 : 0 < mrl <;> simp [hd, h3, Fmt.octets]

theorem apdu_status_bridge (rsp : Bytes) (check : Bool) :
    Gen.Fn.t4_apdu_status rsp check = checkStatus check rsp := by
  unfold Gen.Fn.t4_apdu_status checkStatus
  have e2 : (-2 : Int) = -((2 : Nat) : Int) := rfl
  simp only [e2, sliceFrom_neg _ 2 (by omega), sliceTo_neg _ 2 (by omega), PROTOCOL_ERROR]
  py_nat
  by_cases h : rsp.length < 2
  · simp [h]
  · have hne : rsp ≠ [] := by intro h0; subst h0; simp at h
    have hl : (rsp.drop (rsp.length - 2)).length = 2 := by rw [List.length_drop]; omega
    simp only [h, hne, not_true, not_false_eq_true, false_or, if_false, hl, if_true]
    obtain ⟨a, b, hab⟩ := len_two hl
    rw [hab]
    cases check <;> simp [beNat]

/-- what `IsoDepInitiator.__init__(clf, fsc, fwt)` stores for `fwt = 4096 / 13.56E6 * 2**fwi` (not translated:
float arithmetic): `miu = fsc - 3`, `n_retry = min(int(1/fwt), 5)` -/
def pcdOf (r : Int × Int) : Pcd :=
  { pni := 0, miu := r.1 - 3, nNak := min (13560000 / (4096 * 2 ^ r.2.toNat)) 5,
    nAck := min (13560000 / (4096 * 2 ^ r.2.toNat)) 5, failed := none }

theorem fsc_lookup (L : List Int) (hL : L = [16, 24, 32, 40, 48, 64, 96, 128, 256]) (k : Nat) (hk : k ≤ 8) :
    idxN L k = .ok ((fscTable.getD k 256 : Nat) : Int) := by
  subst hL
  have : k = 0 ∨ k = 1 ∨ k = 2 ∨ k = 3 ∨ k = 4 ∨ k = 5 ∨ k = 6 ∨ k = 7 ∨ k = 8 := by omega
  rcases this with rfl | rfl | rfl | rfl | rfl | rfl | rfl | rfl | rfl <;> rfl

/-- the tail shared by both tag types (in the form `py_nat` produces): clamp FSCI and FWI,
table lookup, clamp to the device limit -/
theorem params_tail (L : List Int) (hL : L = [16, 24, 32, 40, 48, 64, 96, 128, 256]) (fsci fwi maxSend : Nat) :
    (idxN L (if 8 < fsci then 8 else fsci) >>= fun t =>
      Except.ok (pcdOf ((if (maxSend : Int) < t then (maxSend : Int) else t), ((if 14 < fwi then 4 else fwi : Nat) : Int))))
    = .ok (mkPcd fsci fwi maxSend) := by
  rw [fsc_lookup L hL _ (by split <;> omega)]
  simp only [Py.bind_ok, mkPcd, deriveFsc, deriveRetry, deriveFwi, pcdOf, Int.toNat_natCast, gt_iff_lt]
  generalize fscTable.getD (if 8 < fsci then 8 else fsci) 256 = f
  by_cases h : maxSend < f
  · have : (maxSend : Int) < (f : Int) := by omega
    simp [h, this]
  · have : ¬ (maxSend : Int) < (f : Int) := by omega
    simp [h, this]

theorem t4b_params_bridge (sensb : Bytes) (maxSend : Nat) :
    (Gen.Fn.t4b_params sensb maxSend >>= fun r => .ok (pcdOf r)) = activateB sensb maxSend := by
  unfold Gen.Fn.t4b_params activateB
  py_nat
  simp only [idxN_nat]
  by_cases h10 : 10 < sensb.length
  · by_cases h11 : 11 < sensb.length
    · simp only [h10, h11, if_true, Py.bind_ok]
      exact params_tail _ rfl _ _ _
    · simp [h10, h11]
  · simp [h10]

theorem t4a_params_bridge (rats : Bytes) (maxSend : Nat) :
    (Gen.Fn.t4a_params rats maxSend >>= fun r => .ok (pcdOf r)) = activateA rats maxSend := by
  unfold Gen.Fn.t4a_params activateA
  py_nat
  -- what is left: T0 is read three times, and the reference reads `rats[i]?` where the source tests `i < len(rats)`
  have hat : ∀ {i}, i < rats.length → rats[i]? = some (at0 rats i) := fun h => by rw [at0_lt h, List.getElem?_eq_getElem h]
  by_cases h1 : 1 < rats.length
  · simp only [h1, if_true, idxN_eq_at0 h1, hat h1, Py.bind_ok]
    generalize at0 rats 1 = t0
    generalize (if t0 &&& 16 = 0 then 2 else 3) = k
    by_cases h32 : t0 &&& 32 = 0
    · simp only [h32, not_true_eq_false, false_and, if_false, if_true]
      exact params_tail _ rfl _ _ _
    · by_cases hk : k < rats.length
      · simp only [h32, hk, not_false_eq_true, and_self, if_true, if_false, idxN_eq_at0 hk, hat hk, Py.bind_ok]
        exact params_tail _ rfl _ _ _
      · simp only [h32, hk, and_false, if_false, List.getElem?_eq_none (Nat.le_of_not_lt hk)]
        exact params_tail _ rfl _ _ _
  · rw [if_neg h1, List.getElem?_eq_none (Nat.le_of_not_lt h1)]
    exact params_tail _ rfl 2 4 _

example : Gen.Fn.t4a_params [5, 0x78, 0x80, 0x70, 0x02] 256 = .ok (256, 7) := by decide +kernel
example : Gen.Fn.t4a_params [1] 100 = .ok (32, 4) := by decide +kernel

example : Gen.Fn.t4_apdu_build 0 0xA4 4 0 [0xD2, 0x76] 256 false = .ok [0, 0xA4, 4, 0, 2, 0xD2, 0x76, 0] := by decide +kernel
example : Gen.Fn.t4_apdu_build 0 0xB0 0 0 [] 65536 true = .ok [0, 0xB0, 0, 0, 0, 0, 0] := by decide +kernel
example : Gen.Fn.t4_apdu_build 0 0xB0 0 0 [] 257 false = .error .value := by decide +kernel
example : Gen.Fn.t4_apdu_status [1, 2, 0x6A, 0x82] true = .error (.tagCmd 0x6A82) := by decide +kernel
example : Gen.Fn.t4_apdu_status [1, 2, 0x90, 0x00] true = .ok [1, 2] := by decide +kernel
example : Gen.Fn.t4_apdu_status [0x90] false = .error (.tagCmd (-2)) := by decide +kernel
example : Gen.Fn.t4b_params [0x50, 1, 2, 3, 4, 0, 0, 0, 0, 0, 0x81, 0x71] 200 = .ok (200, 7) := by decide +kernel

/-! ## capability container and READ BINARY arguments (`Model/T4.lean`, C01/C08)

`discoverTail` is the text of `T4.discover` behind its second `readBinary` (`discover_eq : .. := rfl`); the cut of
`_discover_ndef` returns `False` or the tuple of the attributes it stores, `infoVal` is that encoding of the model's
`Option Info`.  `ext` of the source is `!v.shortApdu`; the 16 bit offset clamp of the repaired code is
`v.offsetClamp = true`. -/

theorem len15 {l : Bytes} (h : l.length = 15) :
    ∃ a0 a1 a2 a3 a4 a5 a6 a7 a8 a9 a10 a11 a12 a13 a14, l = [a0, a1, a2, a3, a4, a5, a6, a7, a8, a9, a10, a11, a12, a13, a14] := by
  match l, h with
  | [a0, a1, a2, a3, a4, a5, a6, a7, a8, a9, a10, a11, a12, a13, a14], _ =>
    exact ⟨a0, a1, a2, a3, a4, a5, a6, a7, a8, a9, a10, a11, a12, a13, a14, rfl⟩

/-- `_discover_ndef` behind the second `_read_binary`, as `T4.discover` has it -/
def discoverTail (v : T4.Variant) (caps : Bytes) : Py (Option T4.Info) :=
  if caps.length < 13 then .ok none else
  match caps ++ T34.zeros (15 - caps.length) with
  | [ver, e1, e0, c1, c0, tag, plen, v0, v1, v2, v3, v4, v5, v6, v7] =>
    let val := [v0, v1, v2, v3, v4, v5, v6, v7].take (min plen 8)
    if ¬ (ver / 16 = 1 ∨ ver / 16 = 2 ∨ ver / 16 = 3) then .ok none
    else if ¬ ((tag = 4 ∧ val.length = 6) ∨ (tag = 6 ∧ val.length = 8)) then .ok none
    else
      let mfs : Nat := if tag = 4 then beNat [v2, v3] else beNat [v2, v3, v4, v5]
      let rf := if tag = 4 then v4 else v6
      let wf := if tag = 4 then v5 else v7
      let mle := e1 * 256 + e0
      let mlc := c1 * 256 + c0
      .ok (some { maxLe := if v.shortApdu then min mle 256 else mle,
                  maxLc := if v.shortApdu then min mlc 255 else mlc,
                  capacity := ((if v.offsetClamp then min mfs 65536 else mfs : Nat) : Int) - tag + 2,
                  readable := decide (rf = 0), writeable := decide (wf = 0),
                  nlenSize := tag - 2, fid := [v0, v1] })
  | _ => .error .struct

theorem discover_eq (v : T4.Variant) (c : T4.Card) :
    T4.discover v c = (T4.readBinary c c.cc 15 0 2 >>= fun cclen =>
      if cclen.length ≠ 2 then .ok none else
      T4.readBinary c c.cc 15 2 (min ((beNat cclen : Int) - 2) 15) >>= fun caps => discoverTail v caps) := rfl

/-- the result of the cut: `False` or the tuple of the stored attributes -/
def infoVal : Option T4.Info → Val
  | none => .bool false
  | some i => .tuple [.int i.maxLe, .int i.maxLc, .int i.capacity, .bool i.readable, .bool i.writeable,
      .int i.nlenSize, .bytes i.fid]

theorem cc_parse_bridge (v : T4.Variant) (caps : Bytes) (hv : v.offsetClamp = true) :
    Gen.Fn.t4_cc_parse caps (!v.shortApdu) = (discoverTail v caps >>= fun o => .ok (infoVal o)) := by
  unfold Gen.Fn.t4_cc_parse discoverTail
  have e15 : ((15 : Int) - PyFn.len caps).toNat = 15 - caps.length := by rw [len_eq]; omega
  rw [repeatL_one, e15, ← T34.zeros]
  simp only [false_or, len_eq, cast_lt_lit]
  by_cases h13 : caps.length < 13
  · rw [if_pos h13, if_pos h13]; rfl
  rw [if_neg h13, if_neg h13]
  generalize caps ++ T34.zeros (15 - caps.length) = P
  by_cases hl : P.length = 15
  · obtain ⟨ver, e1, e0, c1, c0, tag, plen, v0, v1, v2, v3, v4, v5, v6, v7, rfl⟩ := len15 hl
    -- the five fields of `struct.unpack(">BHHB9p")`, so that the rest is about variables
    have hver : ube [ver, e1, e0, c1, c0, tag, plen, v0, v1, v2, v3, v4, v5, v6, v7] 0 1 = (ver : Int) := by
      simp [ube, beNat]
    have hmle : ube [ver, e1, e0, c1, c0, tag, plen, v0, v1, v2, v3, v4, v5, v6, v7] (0 + 1) 2
        = ((e1 * 256 + e0 : Nat) : Int) := by
      simp [ube, beNat]
    have hmlc : ube [ver, e1, e0, c1, c0, tag, plen, v0, v1, v2, v3, v4, v5, v6, v7] (0 + 3) 2
        = ((c1 * 256 + c0 : Nat) : Int) := by
      simp [ube, beNat]
    have htag : ube [ver, e1, e0, c1, c0, tag, plen, v0, v1, v2, v3, v4, v5, v6, v7] (0 + 5) 1 = (tag : Int) := by
      simp [ube, beNat]
    have hval : pascal [ver, e1, e0, c1, c0, tag, plen, v0, v1, v2, v3, v4, v5, v6, v7] (0 + 6) 9
        = [v0, v1, v2, v3, v4, v5, v6, v7].take (min plen 8) := by
      simp [pascal, ube, beNat, PyFn.sub]
    simp only [hver, hmle, hmlc, htag, hval]
    generalize hval' : List.take (min plen 8) [v0, v1, v2, v3, v4, v5, v6, v7] = val
    have hvl : val.length = min plen 8 := by subst hval'; simp
    simp only [lit_cast, needExact_nat, shr_ofNat, Nat.shiftRight_eq_div_pow, Int.natCast_inj, sub_nat, ← Int.natCast_add,
      ube_one]
    simp only [List.length_cons, List.length_nil, if_true, Py.bind_ok, Prod.mk.injEq, Int.natCast_inj, Nat.reducePow,
      imin_nat, apply_ite Prod.fst, apply_ite Prod.snd, Bool.not_eq_true', Bool.not_eq_false, ite_cast, hv]
    by_cases hv1 : ¬ (ver / 16 = 1 ∨ ver / 16 = 2 ∨ ver / 16 = 3)
    · simp [hv1, infoVal]
    simp only [hv1, if_false]
    -- the control TLV is accepted with exactly 6 (tag 4) or 8 (tag 6) value octets, which fixes `val`
    by_cases h4 : tag = 4 ∧ val.length = 6
    · obtain ⟨rfl, h6⟩ := h4
      have : val = [v0, v1, v2, v3, v4, v5] := by rw [← hval', ← hvl, h6]; rfl
      subst this
      simp [infoVal, ube, beNat, at0]
      -- left: the file size clamped to 65536, `imin` on the cast against the model's `min` on naturals
      unfold imin; omega
    by_cases h6 : tag = 6 ∧ val.length = 8
    · obtain ⟨rfl, h8⟩ := h6
      have : val = [v0, v1, v2, v3, v4, v5, v6, v7] := by rw [← hval', ← hvl, h8]; rfl
      subst this
      simp [infoVal, ube, beNat, at0]
      -- left: the file size clamped to 65536, `imin` on the cast against the model's `min` on naturals
      unfold imin; omega
    simp only [h4, h6, or_self, not_false_eq_true, if_true, Py.bind_ok, infoVal]
  · -- more or fewer than 15 octets: `struct.error`
    have : needExact P 15 = .error .struct := by
      rw [show (15 : Int) = ((15 : Nat) : Int) from rfl, needExact_nat, if_neg hl]
    rw [this, Py.bind_error]
    split
    · exact absurd rfl hl
    · rfl

/-- `_read_binary(offset, size)`: the regenerated argument computation, then the part of `T4.readBinary` that
follows (`send_apdu` refuses Le > 256, sends no Le field for `max_data <= 0`, the card answers) -/
theorem read_binary_bridge (c : T4.Card) (f : Bytes) (maxLe off : Nat) (size : Int) :
    T4.readBinary c f maxLe off size
      = (Gen.Fn.t4_read_binary_args off size maxLe >>= fun r =>
          if r.2.2 > 256 then .error .value
          else if r.2.2 ≤ 0 then .ok []
          else T4.cardRead c f (r.1.toNat * 256 + r.2.1.toNat) r.2.2.toNat) := by
  unfold Gen.Fn.t4_read_binary_args T4.readBinary
  simp only [p1p2]
  by_cases h : off > 65535
  · simp [h]
  · simp [h, PyFn.imin, Int.min_def]
    have e2 : ((off : Int) / 256).toNat * 256 + ((off : Int) % 256).toNat = off := by omega
    have e3 : (if (maxLe : Int) ≤ size then (maxLe : Int) else size) = (if size < (maxLe : Int) then size else (maxLe : Int)) := by
      split <;> split <;> omega
    rw [e2, e3]

example : Gen.Fn.t4_cc_parse [0x20, 0, 0x3B, 0, 0x34, 4, 6, 0xE1, 4, 0x10, 0, 0, 0] false
    = .ok (.tuple [.int 59, .int 52, .int 4094, .bool true, .bool true, .int 2, .bytes [0xE1, 4]]) := by rfl
example : Gen.Fn.t4_cc_parse [0x40, 0, 0x3B, 0, 0x34, 4, 6, 0xE1, 4, 0x10, 0, 0, 0] false = .ok (.bool false) := by rfl

end NfcVerif.FnBridge.T4
