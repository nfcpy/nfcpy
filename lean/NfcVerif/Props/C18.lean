import NfcVerif.Lemmas.Sense
import NfcVerif.Lemmas.Connect
import NfcVerif.Lemmas.ConnectPrompt
import NfcVerif.Lemmas.ConnectSteps
/-!
# C18 - connect() and sense() honour their documented contract

The theorems of the property; the development behind them is in `Lemmas/Sense.lean` and
`Lemmas/Connect.lean`, `ConnectPrompt.lean`, `ConnectPolls.lean`, `ConnectStartup.lean`,
`ConnectSteps.lean`.
Models: `Model/Sense.lean` (`sense`, `listen`, `exchange`), `Model/Connect.lean`
(`connect`, `_rdwr_connect`, `_llcp_connect`, `_card_connect`) - transcriptions of
`src/nfc/clf/__init__.py` against a scripted world (every driver/collaborator call consumes one
answer of the script `env` and is logged together with the answer; `terminate()` is the
stream `ts`, an exhausted stream answers true).

The theorems quantify over every option record `o` (which of rdwr/llcp/card, every callback
absent or returning any of the seven result values, on-startup results, roles, target lists,
iterations), every script `env` and every terminate stream `ts`.

`mon log` is the monitor of the documented callback discipline (`Lemmas/Connect.lean`):
on-startup first (llcp, rdwr, card, at most once each); then activations: on-discover (rdwr/card),
on-connect only after a true on-discover of the same role (llcp: directly), on-release only - and as
the next callback - after a true on-connect of the same role; nothing after the on-connect that
returned false or the on-release that returned true.  `mon log = none` means the history is illegal.
-/
namespace NfcVerif.C18
open NfcVerif NfcVerif.Clf

/-! ## connect() -/

/-- The callbacks of every run come in the documented order. -/
theorem connect_callback_order (o : Opts) (env : List Ans) (ts : List Bool) :
    (mon (connect o env ts).2.log).isSome = true := by
  obtain ⟨q, h, _⟩ := (connect_all o env ts).1
  simp [h]

/-- For every role: on-release ran exactly once for every on-connect that returned a true value,
whenever connect() ended by returning None, an object or on-release's value; when it ended through
an exception (returned False, or the exception escaped) at most one on-release is missing - the one
of the activation the exception interrupted.  ("Never otherwise" is `connect_callback_order`: the
monitor admits on-release only directly after a true on-connect of the same role.) -/
theorem release_iff_connect_true (o : Opts) (env : List Ans) (ts : List Bool) (r : Role) :
    let log := (connect o env ts).2.log
    log.countP (isRelease r) ≤ log.countP (isConnTrue r) ∧
    log.countP (isConnTrue r) ≤ log.countP (isRelease r) + 1 ∧
    (∀ v, (connect o env ts).1 = .ret v → log.countP (isRelease r) = log.countP (isConnTrue r)) := by
  obtain ⟨q, h, hout⟩ := (connect_all o env ts).1
  have hc := runFrom_counts r _ (.su 0) q h
  have h0 : owed r (.su 0) = 0 := rfl
  rw [h0] at hc
  have hq : owed r q ≤ 1 := by cases q <;> simp [owed]; split <;> omega
  refine ⟨by omega, by omega, ?_⟩
  intro v hv
  rw [hv] at hout
  have : owed r q = 0 := by
    cases v with
    | none => rcases hout with h | ⟨k, h⟩ <;> subst h <;> rfl
    | obj r' => simp only at hout; subst hout; rfl
    | val r' v => obtain ⟨_, h⟩ := hout; subst h; rfl
  omega

/-- The return value table of the documentation, read off the history:
* None: the last callback/terminate event is a true `terminate()` - or no option survived on-startup;
* the Tag / LogicalLinkController / TagEmulation object of role r: the last callback is the on-connect
  of r and it returned a false value;
* otherwise the (true) value on-release of role r returned - `True` for the default on-release;
* False: exactly for IOError, UnsupportedTargetError, KeyboardInterrupt.
PARTIAL only because of the last case: an exception leaves connect() (`.raised`) exactly in three
situations, and nothing else can (after the repair of F30 a CommunicationError inside listen() is
"no target this round"; every CommunicationError of every command `nfc.tag.activate` sends is absorbed
and, after the repairs fixes/C18/0003 and 0004, no target makes `nfc.tag.activate` raise a TypeError):
* SystemExit, and then the last event is the link loop `llc.run` answering SystemExit (F21, open);
* TypeError, and then the rdwr on-startup returned a true value that is not iterable;
* ValueError, and then an argument error: the rdwr option has a single target (whose own error is
  raised, as documented for sense()), an element that is not a RemoteTarget, or the card option has
  a LocalTarget of unknown technology. -/
theorem connect_return_table_partial (o : Opts) (env : List Ans) (ts : List Bool) :
    ∃ q, mon (connect o env ts).2.log = some q ∧
      (match (connect o env ts).1 with
       | .ret .none => q = .idle true ∨ ∃ k, q = .su k
       | .ret (.obj r) => q = .finObj r
       | .ret (.val r v) => v.truthy = true ∧ q = .finRel r v.code
       | .caught e => isCaught e = true
       | .raised e =>
         (e = .type_ ∧ NonIterableStartup o) ∨ (e = .value ∧ OptsV o) ∨
         (e = .systemExit ∧ (connect o env ts).2.log.getLast? = some (.call .llcRun .sysExit))) := by
  exact (connect_all o env ts).1

/-- The full table: when the option record has no argument error and the link loop does not raise
SystemExit during the run, connect() returns - None, False, the object or on-release's value -
whatever targets are discovered and whatever the tag activation commands are answered. -/
theorem connect_return_table (o : Opts) (env : List Ans) (ts : List Bool)
    (h1 : ¬ NonIterableStartup o) (h2 : ¬ OptsV o)
    (h3 : (connect o env ts).2.log.getLast? ≠ some (.call .llcRun .sysExit)) :
    ∀ e, (connect o env ts).1 ≠ .raised e := by
  intro e he
  obtain ⟨_, _, h⟩ := (connect_all o env ts).1
  rw [he] at h
  rcases h with ⟨_, h⟩ | ⟨_, h⟩ | ⟨_, h⟩
  · exact h1 h
  · exact h2 h
  · exact h3 h

/-! ## the activation step: `nfc.tag.activate` inside `_rdwr_connect` -/

/-- `nfc.tag.activate(clf, target)` on the target `sense()` just returned (`HasT s`: the frontend
holds a remote target), for EVERY target data `f` (technology incl. a target found by `sense_dep`,
SENS_RES, SEL_RES, SDD_RES variant, RID present or not) and EVERY script - whatever the commands of
the type specific activation are answered (RATS / ATTRIB of a Type 4 Tag, AUTHENTICATE and
GET_VERSION of the NXP Type 2 Tag detection, the nested `sense()` calls that re-select the tag; data,
TimeoutError, TransmissionError, ProtocolError, BrokenLinkError at the first or at any later command):
* the history grows by driver/collaborator calls only (no callback, no terminate poll);
* no CommunicationError ever leaves it - a failed activation is "no tag", connect() tries again;
* no interpreter-internal exception (TypeError, AttributeError, IndexError ...) leaves it: a target
  it cannot operate is "no tag" (repairs fixes/C18/0003, 0004);
* what leaves it is exactly a device error: IOError, KeyboardInterrupt, or the UnsupportedTargetError
  of the nested single-target `sense()` - all of which end connect() with False. -/
theorem activate_absorbs_communication_errors (f : Found) (s : St) (h : HasT s) :
    NExt s (tagActivate f s).2 ∧
    ∀ e, (tagActivate f s).1 = .error e →
      isCommErr e = false ∧ e.internal = false ∧
      (e = .io 5 ∨ e = .keyboardInterrupt ∨ e = .unsupportedTarget) := by
  obtain ⟨hn, he⟩ := tagActivate_act f s h
  refine ⟨hn, fun e h' => ?_⟩
  rcases he e h' with hd | hd | hd <;> subst hd
  · exact ⟨rfl, rfl, Or.inl rfl⟩
  · exact ⟨rfl, rfl, Or.inr (Or.inl rfl)⟩
  · exact ⟨rfl, rfl, Or.inr (Or.inr rfl)⟩

/-- the target `connect()` hands to `nfc.tag.activate` is the one the frontend holds: the commands
of the activation go to the target this round's `sense()` returned, never to an earlier one -/
theorem activate_gets_current_target (tl : List TgtSpec) (iters : Int) (s s1 : St) (x : Nat × Found)
    (h : sense tl iters s = (.ok (some x), s1)) : s1.target = .remote x.1 ∧ HasT s1 :=
  ⟨sense_some_target tl iters s s1 x h, x.1, sense_some_target tl iters s s1 x h⟩

def good' : Ans := .found ⟨[0x44, 0x00], [], false, 20, 0, 0⟩
def rdwr4a : Opts :=
  ⟨some ⟨some (.proper, 0), [.a 0], .ret .true_, .ret .false_, .ret .true_, 1, true⟩, none, none⟩
/-- a Type 4A Tag (SEL_RES 20h) -/
def t4a : Ans := .found { sens := [0x44, 0x03], rid := [], p2p := false, atrLen := 0, var := 1 }
def ats : Ans := .found { sens := [0x05, 0x78, 0x80, 0x70, 0x02], rid := [], p2p := false, atrLen := 0 }

/-- the RATS response of a Type 4A Tag is garbled once (TransmissionError / ProtocolError /
BrokenLinkError / TimeoutError): no on-connect for it, the next round connects the tag and connect()
returns the Tag object because on-connect returned a false value -/
example : (connect rdwr4a [.nothing, t4a, .transErr, .nothing, t4a, ats] [false, false, true]).1 = .ret (.obj .rdwr) := by decide
example : (connect rdwr4a [.nothing, t4a, .protoErr, .nothing, t4a, ats] [false, false, true]).1 = .ret (.obj .rdwr) := by decide
example : (connect rdwr4a [.nothing, t4a, .brokenLink, .nothing, t4a, ats] [false, false, true]).1 = .ret (.obj .rdwr) := by decide
example : (connect rdwr4a [.nothing, t4a, .commErr, .nothing, t4a, ats] [false, false, true]).1 = .ret (.obj .rdwr) := by decide
example : (mon (connect rdwr4a [.nothing, t4a, .transErr, .nothing, t4a, ats] [false, false, true]).2.log)
    = some (.finObj .rdwr) := by decide
/-- an NXP Type 2 Tag (SEL_RES 00h, NFCID1 04..): AUTHENTICATE times out, the tag is re-selected,
GET_VERSION fails with a ProtocolError: no tag this round -/
example : (tagActivate { sens := [0x44, 0x00], rid := [], p2p := false, atrLen := 0, tech := 1 }
    { env := [.commErr, .nothing, good', .protoErr], n := 3, log := [], target := .remote 2 }).1 = .ok none := by decide
example : HasT { env := [], n := 3, log := [], target := .remote 2 } := ⟨2, rfl⟩

/-- `nfc.tag.activate` never raises TypeError (nor any other interpreter-internal exception), for
every target and script: the positive form of the two repaired defects (an NFC-DEP target given to
the rdwr option and accepted by on-discover; SENS_RES byte 1 = xCh without RID response). -/
theorem activate_never_typeerror (f : Found) (s : St) (h : HasT s) :
    (tagActivate f s).1 ≠ .error .type_ ∧ ∀ e, (tagActivate f s).1 = .error e → e.internal = false := by
  obtain ⟨_, he⟩ := activate_absorbs_communication_errors f s h
  refine ⟨?_, fun e h' => (he e h').2.1⟩
  intro h'
  have := (he _ h').2.1
  cases this

def rdwrDep : Opts :=
  ⟨some ⟨some (.proper, 0), [.dep 16, .b], .ret .true_, .ret .true_, .ret .true_, 1, true⟩, none, none⟩
/-- the former failing inputs: the DEP target is "no tag", discovery goes on and finds the Type 4B Tag -/
example : (connect rdwrDep [.nothing, good'] [false, true]).1 = .ret .none := by decide
example : (connect rdwrDep [.nothing, good', .nothing, .nothing, good', good'] [false, false, true]).1
    = .ret (.val .rdwr .true_) := by decide
example : (tagActivate { sens := [0x44, 0x0C], rid := [], p2p := false, atrLen := 0, tech := 1 }
    { env := [], n := 2, log := [], target := .remote 1 }).1 = .ok none := by decide

/-- the full statement ("connect() never raises") is false on the current code -/
def ConnectNeverRaises : Prop := ∀ o env ts e, (connect o env ts).1 ≠ .raised e

def llcpOnly : Opts := ⟨none, some ⟨none, .absent, .absent, .initiator⟩, none⟩
def cardDep : Opts := ⟨none, none, some ⟨some (.proper, 0), .dep, .absent, .absent, .absent⟩⟩

/-- F21: SystemExit from the link loop leaves connect() -/
theorem connect_systemexit_counterexample : ¬ ConnectNeverRaises := by
  intro h
  exact h llcpOnly [.found default, .sysExit] [false, false] .systemExit (by decide)

/-- F30 repaired: a CommunicationError raised inside listen() no longer leaves connect() -/
example : (connect cardDep [.nothing, .listenErr] [false, true]).1 = .ret .none := by decide

/-- connect() ends: the main loop needs at most one round per false answer of terminate() plus one,
for every surviving option set, script and stream (the model's fuel `ts.length + 1` is never used up). -/
theorem connect_total (o : Opts) (env : List Ans) (ts : List Bool) (l : Live) (s : St)
    (h : startupPhase o (St.init env) = (.ok l, s)) :
    (mainLoop l (ts.length + 1) ts s).isSome = true := by
  obtain ⟨⟨k, hk⟩, _⟩ := startupPhase_all o (St.init env) rfl
  rw [h] at hk
  obtain ⟨r, s', hm, _⟩ := mainLoop_all l (ts.length + 1) ts s (.su k) (by omega) hk rfl
  simp [hm]

/-- connect() ends promptly once `terminate()` is true: for every terminate predicate that stays
true once it was true (`Mono ts`; the exhausted stream answers true), wherever the first true answer
is given - at the head of the loop, in the presence loop, inside `llc.run`, in the card loop - at
most 21 further events (callbacks, driver/collaborator calls, terminate polls, sleeps) happen before
connect() returns.  `after log = none`: terminate() never answered true (connect() ended for
another reason). -/
theorem connect_ends_after_terminate (o : Opts) (env : List Ans) (ts : List Bool) (hm : Mono ts) :
    after (connect o env ts).2.log = none ∨
    ∃ n, n ≤ 21 ∧ after (connect o env ts).2.log = some n :=
  (connect_all o env ts).2 hm

/-- The run loop of the link controller (`run_as_initiator` / `run_as_target`, `while not terminate()`)
notices `terminate()` at the head of the very next turn, WHATEVER the traffic is: for every traffic
list `l` (one entry per exchange the peer still answers, `true` = the local link layer has a PDU to send
in the next turn), if `terminate()` answers false `pre.length` times (the peer answering at least that
many exchanges) and then true, the loop makes exactly these polls and ends with the true answer as its
last event - no further exchange, the remaining stream untouched. -/
theorem llc_run_loop_ends_at_first_true (l : List Bool) (pre rest : List Bool) (s : St)
    (hpre : ∀ b ∈ pre, b = false) (hlen : pre.length ≤ l.length) :
    runLoop l (pre ++ true :: rest) s =
      ({ s with log := s.log ++ pre.map (fun _ => Ev.term false) ++ [.term true] }, rest) := by
  induction pre generalizing l s with
  | nil => cases l <;> simp [runLoop, St.emit]
  | cons b pre ih =>
    have hb : b = false := hpre b (by simp)
    subst hb
    cases l with
    | nil => simp at hlen
    | cons a l =>
      simp only [List.cons_append, runLoop]
      rw [ih l (s.emit (.term false)) (fun b hb => hpre b (by simp [hb])) (by simpa using hlen)]
      simp [St.emit]

/-- the loop never makes more polls than the peer answers exchanges plus one, and the traffic flags
do not matter: it is the bounded poll loop `runPolls` -/
theorem llc_run_loop_polls (l : List Bool) (ts : List Bool) (s : St) :
    runLoop l ts s = runPolls (l.length + 1) ts s := runLoop_eq l ts s

/-- busy traffic in every turn, terminate() true at the third poll: three polls, nothing else -/
example : (runLoop [true, true, true, true, true, true] [false, false, true, true] (St.init [])).1.log
    = [.term false, .term false, .term true] := by decide

example : Mono [false, false, true, true] := by simp [Mono, AllTrue]
def cardF : Opts := ⟨none, none, some ⟨some (.proper, 0), .f, .absent, .absent, .absent⟩⟩
example : after (connect cardF [.nothing, good', good', good', good'] [false, false, true]).2.log = some 1 := by decide
/-- card emulation with the real `nfc.tag.emulate`: only an activation that captured a Type 3 Tag
command is emulated (the others are "nothing this round") -/
example : (connect cardF [.nothing, good', good'] [false, false, true]).1 = .ret (.val .card .true_) := by decide
example : (connect cardDep [.nothing, good', good'] [false, true]).1 = .ret .none := by decide

/-! ## sense() / listen() / exchange() -/

/-- `sense()` with RemoteTarget arguments, from any state (any earlier history): the driver is
called in the order given - `mute`, then per iteration the targets whose arguments are valid, then
`mute` - and the call stops at the FIRST call that produced an acceptable target: the returned
target is the product of the last call, no earlier call of this `sense()` produced one. -/
theorem sense_first_in_order (tl : List TgtSpec) (iters : Int) (s : St)
    (hnt : tl.any (· == .notTarget) = false) :
    ∃ seg, (sense tl iters s).2.log = s.log ++ seg ∧ sitesOf seg <+: senseOrder tl iters ∧
      (∀ x, (sense tl iters s).1 = .ok (some x) →
        ∃ pre e, seg = pre ++ [e] ∧ validFind e = true ∧ (∀ y ∈ pre, validFind y = false) ∧
          x.1 + 1 = (sense tl iters s).2.n) ∧
      ((sense tl iters s).1 = .ok none → ∀ e ∈ seg, validFind e = false) := by
  obtain ⟨⟨seg, h⟩, _⟩ := sense_spec tl iters s hnt
  refine ⟨seg, h.log, h.sites, ?_, ?_⟩
  · intro x hx
    obtain ⟨pre, e, a, b, c⟩ := h.last x hx
    exact ⟨pre, e, a, b, c, (h.fresh x hx).1⟩
  · intro hn
    exact (h.notFound (by intro x hx; rw [hn] at hx; cases hx)).1

theorem senseOrder_last (tl : List TgtSpec) (iters : Int) : (senseOrder tl iters).getLast? = some .mute := by
  have hk : ∃ k, (max 1 iters).toNat = k + 1 := ⟨(max 1 iters).toNat - 1, by omega⟩
  obtain ⟨k, hk⟩ := hk
  unfold senseOrder
  rw [hk]
  by_cases hemp : tl.isEmpty = true
  · have : callOrder tl (k + 1) = [] := by
      have : tl = [] := by simpa using hemp
      subst this
      simp [callOrder, iterOrder, reach]
    rw [this]; rfl
  · have : callOrder tl (k + 1) = callOrder tl k ++ (reach tl ++ [.mute]) := by
      simp [callOrder, List.replicate_succ', iterOrder, hemp]
    rw [this, show (Site.mute :: (callOrder tl k ++ (reach tl ++ [Site.mute])))
      = (Site.mute :: (callOrder tl k ++ reach tl)) ++ [Site.mute] by simp]
    exact List.getLast?_concat

/-- When nothing was found the last driver call is `mute`: the field is off. -/
theorem sense_field_off_when_none (tl : List TgtSpec) (iters : Int) (s : St)
    (hnt : tl.any (· == .notTarget) = false) (hn : (sense tl iters s).1 = .ok none) :
    ∃ seg, (sense tl iters s).2.log = s.log ++ seg ∧ (sitesOf seg).getLast? = some .mute := by
  obtain ⟨⟨seg, h⟩, _⟩ := sense_spec tl iters s hnt
  exact ⟨seg, h.log, by rw [h.full hn]; exact senseOrder_last tl iters⟩

/-- With two or more targets `sense()` raises only what the device raises (IOError,
KeyboardInterrupt): never UnsupportedTargetError, never the ValueError of an invalid target
(after the repair of F24), never a CommunicationError. -/
theorem sense_no_raise_unsupported (tl : List TgtSpec) (iters : Int) (s : St)
    (hnt : tl.any (· == .notTarget) = false) (h2 : 2 ≤ tl.length) (e : Exc)
    (he : (sense tl iters s).1 = .error e) : e = .io 5 ∨ e = .keyboardInterrupt := by
  obtain ⟨_, herr⟩ := sense_spec tl iters s hnt
  rcases herr e he with h | h | ⟨h, _⟩
  · exact Or.inl h
  · exact Or.inr h
  · have : (tl.length == 1) = false := by simp; omega
    rw [this] at h; cases h

/-- `exchange()` never uses a target of an earlier `sense()`/`listen()`: from ANY state `s` (any
history, any stale `self.target`), after `sense()` or `listen()` the frontend's target is exactly the
target this call returned - created by an answer consumed during this call - or none; and
`exchange()` drives the device only with the current target (no driver call without one). -/
theorem exchange_no_stale_target (s : St) :
    (∀ tl iters, tl.any (· == .notTarget) = false →
      (∀ x, (sense tl iters s).1 = .ok (some x) →
        (sense tl iters s).2.target = .remote x.1 ∧ s.n ≤ x.1 ∧ x.1 < (sense tl iters s).2.n) ∧
      ((∀ x, (sense tl iters s).1 ≠ .ok (some x)) → (sense tl iters s).2.target = .none)) ∧
    (∀ t,
      (∀ x, (listen t s).1 = .ok (some x) →
        (listen t s).2.target = .loc x.1 ∧ s.n ≤ x.1 ∧ x.1 < (listen t s).2.n) ∧
      ((∀ x, (listen t s).1 ≠ .ok (some x)) → (listen t s).2.target = .none)) ∧
    ((exchange s).2.target = s.target ∧
      (match s.target with
       | .none => exchange s = (.ok none, s)
       | .remote id => ∃ a, (exchange s).2.log = s.log ++ [.call (.cmdRsp id) a]
       | .loc id => ∃ a, (exchange s).2.log = s.log ++ [.call (.rspCmd id) a])) := by
  refine ⟨?_, ?_, exchange_spec s⟩
  · intro tl iters hnt
    obtain ⟨⟨seg, h⟩, _⟩ := sense_spec tl iters s hnt
    constructor
    · intro x hx
      obtain ⟨hid, hge, htg⟩ := h.fresh x hx
      exact ⟨htg, hge, by omega⟩
    · intro hx; exact (h.notFound hx).2
  · intro t
    obtain ⟨_, h3, h4, _⟩ := listen_spec t s
    exact ⟨h3, h4⟩

/-- Target hygiene over whole histories: after ANY sequence `ops` of sense / listen / exchange calls
(whatever they found, however they failed), one more `sense()` or `listen()` leaves the frontend with
exactly the target this last call returned - created by an answer consumed during this call - or
with none; one more `exchange()` leaves the target as it is and drives the device only with it. -/
theorem history_no_stale_target (ops : List Op) (s : St) :
    let s0 := runOps ops s
    (∀ tl iters, tl.any (· == .notTarget) = false →
      (∀ x, (sense tl iters s0).1 = .ok (some x) →
        (runOps (ops ++ [.sense tl iters]) s).target = .remote x.1 ∧ s0.n ≤ x.1) ∧
      ((∀ x, (sense tl iters s0).1 ≠ .ok (some x)) → (runOps (ops ++ [.sense tl iters]) s).target = .none)) ∧
    (∀ t,
      (∀ x, (listen t s0).1 = .ok (some x) →
        (runOps (ops ++ [.listen t]) s).target = .loc x.1 ∧ s0.n ≤ x.1) ∧
      ((∀ x, (listen t s0).1 ≠ .ok (some x)) → (runOps (ops ++ [.listen t]) s).target = .none)) ∧
    (runOps (ops ++ [.exchange]) s).target = s0.target := by
  have happ : ∀ op, runOps (ops ++ [op]) s = runOp op (runOps ops s) := by
    intro op; simp [runOps, List.foldl_append]
  obtain ⟨h1, h2, h3⟩ := exchange_no_stale_target (runOps ops s)
  refine ⟨?_, ?_, ?_⟩
  · intro tl iters hnt
    obtain ⟨ha, hb⟩ := h1 tl iters hnt
    rw [happ]
    exact ⟨fun x hx => ⟨(ha x hx).1, (ha x hx).2.1⟩, hb⟩
  · intro t
    obtain ⟨ha, hb⟩ := h2 t
    rw [happ]
    exact ⟨fun x hx => ⟨(ha x hx).1, (ha x hx).2.1⟩, hb⟩
  · rw [happ]; exact h3.1

/-- sense finds a tag, listen fails with an exception of the device, exchange: no driver call -/
example : (runOps [.sense [.a 0] 1, .listen .a, .exchange] (St.init [.nothing, good', .nothing, .unsupported, good'])).target = .none := by decide
example : (runOps [.sense [.a 0] 1, .listen .a, .exchange] (St.init [.nothing, good', .nothing, .unsupported, good'])).log.length = 4 := by decide

/-! ## Non-vacuity: concrete runs -/

def rdwrAll : Opts :=
  ⟨some ⟨some (.proper, 0), [.a 0, .b], .ret .true_, .ret .true_, .ret .true_, 1, true⟩, none, none⟩
def good : Ans := .found ⟨[0x44, 0x00], [], false, 0, 0, 0⟩

/-- a tag is found by the second target, stays for one presence check, then terminate() turns true -/
example : (connect rdwrAll [.nothing, .nothing, good, good, .nothing, good] [false, false, true]).1
    = .ret (.val .rdwr .true_) := by decide
example : (mon (connect rdwrAll [.nothing, .nothing, good, good, .nothing, good] [false, false, true]).2.log)
    = some (.finRel .rdwr 2) := by decide
/-- a device IOError during the presence check: False, and the on-release is missing -/
example : (connect rdwrAll [.nothing, .nothing, good, good, .nothing, .ioError] [false, false, true]).1
    = .caught (.io 5) := by decide
example : (mon (connect rdwrAll [.nothing, .nothing, good, good, .nothing, .ioError] [false, false, true]).2.log)
    = some (.conn .rdwr) := by decide
/-- sense: the first target is invalid (3 byte sel_req) and is ignored, the second finds a tag -/
example : (sense [.a 3, .b] 2 (St.init [.nothing, good])).1 = .ok (some (1, ⟨[0x44, 0x00], [], false, 0, 0, 2⟩)) := by decide
example : (sense [.a 3] 2 (St.init [.nothing, good])).1 = .error .value := by decide
example : (sense [.unknown, .f] 1 (St.init [])).1 = .ok none := by decide

end NfcVerif.C18
