import NfcVerif.Lemmas.FnBridgeTlv
import NfcVerif.Lemmas.Tlv
/-!
# Bridge theorems, group Tlv (`nfc/tag/tt2.py`, `nfc/tag/tt1.py` -> `Gen/FnTlv.lean` -> `Model/Tlv.lean`)

Properties C01, C02, C03 (the reserved ranges and the capacity decide where a message is placed) and
C08 (the reader walks the same ranges).  Encodings, stated in the theorems:

* the source returns a `slice(start, stop)` object; the callers take `range(*x.indices(limit))`,
  which is `clip limit (start, stop)`; the model's `ctlRange lock limit v` returns that clipped pair;
* the Python set `skip_bytes` is a duplicate-free `List Int`, the model's skip set a list of
  half-open ranges; `SameSkip s sk` says they have the same members.
-/
namespace NfcVerif.FnBridge.Tlv
open NfcVerif NfcVerif.PyFn NfcVerif.Tlv

/-- `tt2.get_lock_byte_range(data)` for every value field (short ones raise `IndexError`) -/
theorem tt2_lock_range_bridge (limit : Nat) (v : Bytes) :
    (Gen.Fn.tt2_get_lock_byte_range v >>= fun r => .ok (clip limit r)) = ctlRange true limit v := by
  have := ctl_range limit v (fun t => (t + 7) / 8) (fun n => (n + 7) / 8) (fun n => by omega)
  unfold Gen.Fn.tt2_get_lock_byte_range ctlRange
  simpa only [bind_assoc, Py.bind_ok, if_true] using this

example : (Gen.Fn.tt2_get_lock_byte_range [0x82, 0x20, 0x33] >>= fun r => .ok (clip 0x100000 r))
    = .ok (66, 70) := by decide +kernel
example : Gen.Fn.tt2_get_lock_byte_range [0x82, 0x20] = .error .index := by decide +kernel

/-- `tt2.get_rsvd_byte_range(data)` -/
theorem tt2_rsvd_range_bridge (limit : Nat) (v : Bytes) :
    (Gen.Fn.tt2_get_rsvd_byte_range v >>= fun r => .ok (clip limit r)) = ctlRange false limit v := by
  have := ctl_range limit v id id (fun n => rfl)
  unfold Gen.Fn.tt2_get_rsvd_byte_range ctlRange
  simpa only [bind_assoc, Py.bind_ok, id, Bool.false_eq_true, if_false] using this

example : (Gen.Fn.tt2_get_rsvd_byte_range [0xA5, 0x00, 0x04] >>= fun r => .ok (clip 0x100000 r))
    = .ok (165, 421) := by decide +kernel

/-- the Type 1 module carries textually identical helpers -/
theorem tt1_lock_range_bridge (limit : Nat) (v : Bytes) :
    (Gen.Fn.tt1_get_lock_byte_range v >>= fun r => .ok (clip limit r)) = ctlRange true limit v :=
  tt2_lock_range_bridge limit v
theorem tt1_rsvd_range_bridge (limit : Nat) (v : Bytes) :
    (Gen.Fn.tt1_get_rsvd_byte_range v >>= fun r => .ok (clip limit r)) = ctlRange false limit v :=
  tt2_rsvd_range_bridge limit v

example : (Gen.Fn.tt1_get_lock_byte_range [0xE0, 0x30, 0x03] >>= fun r => .ok (clip 0x800 r))
    = .ok (112, 118) := by decide +kernel

/-- `tt1.get_capacity(tag_memory_size, offset, skip_bytes)` -/
theorem tt1_capacity_bridge (s : Skip) (sk : List Int) (h : SameSkip s sk) (size off : Nat) :
    Gen.Fn.tt1_get_capacity size off sk = Tlv.capacity s off size := by
  unfold Gen.Fn.tt1_get_capacity Tlv.capacity
  rw [room_len s sk h]
  py_nat
  split <;> rfl

/-- `tt2.get_capacity(capacity, offset, skip_bytes)`; the data area ends at `capacity + 16` -/
theorem tt2_capacity_bridge (s : Skip) (sk : List Int) (h : SameSkip s sk) (cap off : Nat) :
    Gen.Fn.tt2_get_capacity cap off sk = Tlv.capacity s off (cap + 16) :=
  tt1_capacity_bridge s sk h (cap + 16) off

example : SameSkip [(104, 120)] (PyFn.range 104 120) := by
  intro a
  simp only [PyFn.range, inSkip, List.any_cons, List.any_nil, Bool.or_false, Bool.and_eq_true, decide_eq_true_eq,
    List.mem_map, List.mem_range]
  constructor
  · rintro ⟨i, hi, h⟩; omega
  · intro h; exact ⟨a - 104, by omega, by omega⟩
example : Gen.Fn.tt1_get_capacity 120 14 (PyFn.range 104 120) = 88 := by decide +kernel

/-- `C01.t12_capacity_sound`, first part, for the regenerated `get_capacity`: a message that does not
exceed the reported capacity fits, with its TLV header, into the non-reserved bytes of the data area -/
theorem gen_capacity_sound (s : Skip) (sk : List Int) (h : SameSkip s sk) (cap off n : Nat)
    (hn : (n : Int) ≤ Gen.Fn.tt2_get_capacity cap off sk) :
    n + hdrLen n ≤ countFree s off (cap + 16) := by
  rw [tt2_capacity_bridge s sk h] at hn
  exact cap_fits s off (cap + 16) n hn

end NfcVerif.FnBridge.Tlv
