import NfcVerif.Gen.FnErrMap
import NfcVerif.Lemmas.FnBridgeErrMap
import NfcVerif.Props.FnBridgePn53x
import NfcVerif.Props.FnBridgeCrc
import NfcVerif.Props.FnBridgeRcs380
/-!
# Bridge theorems, group ErrMap (`nfc/clf/pn53x.py`, `rcs380.py`, `udp.py` -> `Gen/FnErrMap.lean` -> `Model/ErrMap.lean`)

Property C13 (drivers report RF and host-link failures only as documented errors).  Each regenerated
definition is the body of one `except` handler (or one raising `if`) of the drivers' exchange functions, as a
function of the caught exception's `errno`; the model side is the corresponding case of `pnMapI`, `pnMapT`,
`guardChip`, `guardStatus`, `udpParse`, `udpRecv`, `udpExchange`, taken at result type `Unit` (the models
change only the exception, `Lemmas/FnBridgeErrMap.lean: *_error`).  `Gen/FnErrMap.lean` is regenerated from the
source on every run.
-/
namespace NfcVerif.FnBridge.ErrMap
open NfcVerif NfcVerif.PyFn NfcVerif.ErrMap NfcVerif.HostFrame NfcVerif.FnBridge.HostLink

/-- `except Chipset.Error` of `_send_cmd_recv_rsp` (pn53x.py): errno 1 is a timeout, every other chip
status a transmission error - the `chipsetError` case of `pnMapI`, for every status -/
theorem ini_chip_error_bridge (n : Nat) :
    Gen.Fn.pn53x_ini_chip_error n = pnMapI (.error (.chipsetError n) : Py Unit) := by
  unfold Gen.Fn.pn53x_ini_chip_error pnMapI
  py_nat

example : Gen.Fn.pn53x_ini_chip_error 1 = .error .timeout := by decide
example : Gen.Fn.pn53x_ini_chip_error 2 = .error .transmission := by decide

/-- `except IOError` of `_send_cmd_recv_rsp` (pn53x.py): `ETIMEDOUT` is a timeout, every other errno is
re-raised unchanged - the `io` case of `pnMapI`, for every errno -/
theorem ini_io_error_bridge (n : Nat) :
    Gen.Fn.pn53x_ini_io_error n = pnMapI (.error (.io n) : Py Unit) := by
  unfold Gen.Fn.pn53x_ini_io_error pnMapI ETIMEDOUT
  -- errno 110 is the one that becomes a timeout
  by_cases h : n = 110
  · subst h; rfl
  · have hi : ¬ ((n : Int) = 110) := by omega
    simp only [hi, h, not_false_eq_true, if_true, if_false, Int.toNat_natCast]

example : Gen.Fn.pn53x_ini_io_error 110 = .error .timeout := by decide
example : Gen.Fn.pn53x_ini_io_error 5 = .error (.io 5) := by decide

/-- `except Chipset.Error` of `send_rsp_recv_cmd` (pn53x.py): 0x0A, 0x29, 0x31 are a broken link -/
theorem tgt_chip_error_bridge (n : Nat) :
    Gen.Fn.pn53x_tgt_chip_error n = pnMapT (.error (.chipsetError n) : Py Unit) := by
  unfold Gen.Fn.pn53x_tgt_chip_error pnMapT
  py_nat

example : Gen.Fn.pn53x_tgt_chip_error 0x29 = .error .brokenLink := by decide
example : Gen.Fn.pn53x_tgt_chip_error 0x01 = .error .transmission := by decide

/-- `except IOError` of `send_rsp_recv_cmd` (pn53x.py) - the `io` case of `pnMapT` -/
theorem tgt_io_error_bridge (n : Nat) (timeout : Int) :
    Gen.Fn.pn53x_tgt_io_error timeout n = pnMapT (.error (.io n) : Py Unit) := by
  unfold Gen.Fn.pn53x_tgt_io_error pnMapT ETIMEDOUT
  py_nat

example : Gen.Fn.pn53x_tgt_io_error 1 110 = .error .timeout := by decide
example : Gen.Fn.pn53x_tgt_io_error 1 19 = .error (.io 19) := by decide

/-- `except Chipset.Error` around `_send_cmd_recv_rsp`: `IOError(EIO)`, the repaired `guardChip` -/
theorem guard_chip_bridge (n : Nat) :
    Gen.Fn.pn53x_guard_chip n = guardChip .repaired (.error (.chipsetError n) : Py Unit) := rfl

/-- the same around `_tt3_send_rsp_recv_cmd` -/
theorem tt3_guard_chip_bridge (n : Nat) :
    Gen.Fn.pn53x_tt3_guard_chip n = guardChip .repaired (.error (.chipsetError n) : Py Unit) := rfl

/-- `except StatusError` of rcs380 `send_cmd_recv_rsp`: `IOError(EIO)`, the repaired `guardStatus` -/
theorem guard_status_bridge (n : Nat) :
    Gen.Fn.rcs380_guard_status n = guardStatus .repaired (.error .rcsStatus : Py Unit) := rfl

/-- udp `_recv_data`: a datagram that starts with `RFOFF` is a broken link; otherwise `udpParse` continues
with the split (`udpParseRest`) -/
theorem udp_rfoff_bridge (v : Variant) (brty dg : Bytes) :
    udpParse v brty dg = (Gen.Fn.udp_rfoff dg >>= fun _ => udpParseRest v brty dg) := by
  rw [udpParse_split]
  unfold Gen.Fn.udp_rfoff startsWith rfoff
  -- the one distinction: the datagram starts with `RFOFF`
  by_cases h : ([82, 70, 79, 70, 70] : Bytes).isPrefixOf dg = true
  · rw [if_pos h, if_pos h]; rfl
  · rw [if_neg h, if_neg h]; rfl

example : Gen.Fn.udp_rfoff [82, 70, 79, 70, 70, 32] = .error .brokenLink := by decide
example : Gen.Fn.udp_rfoff [82, 70, 79, 70] = .ok () := by decide

/-- udp `_recv_data`, `except ValueError`: what a datagram without exactly two fields becomes in the
repaired model -/
theorem udp_parse_error_bridge (brty dg : Bytes) (h : ∀ b hex, splitWs dg ≠ [b, hex]) :
    udpParseRest .repaired brty dg = (Gen.Fn.udp_parse_error >>= fun _ => .ok none) := by
  unfold udpParseRest Gen.Fn.udp_parse_error
  split
  · rename_i b hex he; exact absurd he (h b hex)
  · rfl

example : ∀ b hex, splitWs [0x31] ≠ [b, hex] := by intro b hex h; cases h

/-- udp `_send_data`: fewer (or more) octets accepted than given is a transmission error - `Wr.short` of
`udpExchange` -/
theorem udp_send_check_bridge (ret : Int) (d : Bytes) :
    Gen.Fn.udp_send_check ret d = if ret = (d.length : Int) then .ok () else .error .transmission := by
  unfold Gen.Fn.udp_send_check
  py_nat
  by_cases h : ret = (d.length : Int) <;> simp [h]

theorem udp_send_short (v : Variant) (brty : Bytes) (recv : Host) (ret : Int) (d : Bytes) (h : ret ≠ (d.length : Int)) :
    udpExchange v brty true ⟨.short, []⟩ recv = (Gen.Fn.udp_send_check ret d >>= fun _ => udpRecv v brty recv.reads) := by
  rw [udp_send_check_bridge, if_neg h]; rfl

example : Gen.Fn.udp_send_check 3 [1, 2, 3] = .ok () := by decide
example : Gen.Fn.udp_send_check 2 [1, 2, 3] = .error .transmission := by decide

/-- udp `_recv_data`: the time is over - the empty case of `udpRecv` -/
theorem udp_recv_timeout_bridge (v : Variant) (brty : Bytes) :
    udpRecv v brty [] = (Gen.Fn.udp_recv_timeout >>= fun _ => .ok []) := rfl

/-- C13 for the regenerated handlers: whatever status the chip reports, what leaves the handler is a
documented exception (`Lemmas/ErrMap.lean: Documented`) -/
theorem gen_handlers_documented (n : Nat) (dg : Bytes) (ret : Int) :
    Safe Documented (Gen.Fn.pn53x_ini_chip_error n) ∧ Safe Documented (Gen.Fn.pn53x_tgt_chip_error n) ∧
    Safe Documented (Gen.Fn.pn53x_ini_io_error n) ∧ Safe Documented (Gen.Fn.pn53x_tgt_io_error ret n) ∧
    Safe Documented (Gen.Fn.pn53x_guard_chip n) ∧ Safe Documented (Gen.Fn.pn53x_tt3_guard_chip n) ∧
    Safe Documented (Gen.Fn.rcs380_guard_status n) ∧ Safe Documented (Gen.Fn.udp_rfoff dg) ∧
    Safe Documented Gen.Fn.udp_parse_error ∧ Safe Documented (Gen.Fn.udp_send_check ret dg) ∧
    Safe Documented Gen.Fn.udp_recv_timeout := by
  refine ⟨?_, ?_, ?_, ?_, ?_, ?_, ?_, ?_, ?_, ?_, ?_⟩
  · rw [ini_chip_error_bridge]; exact pnMapI_doc _ (Safe.throw (mid_chip n))
  · rw [tgt_chip_error_bridge]; exact pnMapT_doc _ (Safe.throw (mid_chip n))
  · rw [ini_io_error_bridge]; exact pnMapI_doc _ (Safe.throw (doc_io n).mid)
  · rw [tgt_io_error_bridge]; exact pnMapT_doc _ (Safe.throw (doc_io n).mid)
  · exact Safe.throw (doc_io 5)
  · exact Safe.throw (doc_io 5)
  · exact Safe.throw (doc_io 5)
  · unfold Gen.Fn.udp_rfoff; exact Safe.ite (Safe.throw doc_brokenLink) (Safe.ok ())
  · exact Safe.throw doc_transmission
  · unfold Gen.Fn.udp_send_check; exact Safe.ite (Safe.throw doc_transmission) (Safe.ok ())
  · exact Safe.throw doc_timeout

/-! ## chipset functions of an RF exchange (status evaluation behind `self.command(..)`) -/

/-- `self.chipset_error(data)` on a response payload is the model's `chipErr`, whatever follows -/
theorem chipset_error_bytes_chipErr {α} (d : Bytes) (k : Unit → Py α) :
    (Gen.Fn.pn53x_chipset_error_bytes d >>= k) = chipErr d := by
  rw [Pn53x.chipset_error_bytes_bridge]; unfold chipErr
  cases idxN d 0 <;> rfl

/-- the status octet in front of a continuation, in the nat view: an empty payload is the `IndexError` of `data[0]`,
status 0 goes on with `k`, any other status is `chipset_error(data)`, which swallows what follows it -/
theorem status_then {α} (d : Bytes) (k : Py α) (c : Unit → Py α) :
    (idxN d 0 >>= fun s => if s = 0 then k else Gen.Fn.pn53x_chipset_error_bytes d >>= c)
      = (idxN d 0 >>= fun s => if s = 0 then k else chipErr d) := by
  match d with
  | [] => rfl
  | s :: rest =>
    rw [idxN_cons_zero, Py.bind_ok, Py.bind_ok]
    by_cases h : s = 0
    · rw [if_pos h, if_pos h]
    · rw [if_neg h, if_neg h, chipset_error_bytes_chipErr]

/-- `in_communicate_thru` (inside `if timeout > 0`): status 0 returns the rest of the payload, anything else
(also an empty payload) goes to `chipset_error` - `ErrMap.inCommunicateThru` -/
theorem in_communicate_thru_bridge (d : Bytes) :
    Gen.Fn.pn53x_in_communicate_thru d = (inCommunicateThru (.ok d) >>= fun r => .ok (some r)) := by
  unfold Gen.Fn.pn53x_in_communicate_thru inCommunicateThru
  py_nat
  rw [status_then, chipset_error_bytes_chipErr]
  -- the source tests `data and data[0] == 0`, the model matches on the first octet
  rcases d with _ | ⟨_ | s, rest⟩ <;> rfl

/-- `tg_get_initiator_command`: textually the same statements - `ErrMap.tgGetInitiatorCommand` -/
theorem tg_get_initiator_command_bridge (d : Bytes) :
    Gen.Fn.pn53x_tg_get_initiator_command d = (tgGetInitiatorCommand (.ok d) >>= fun r => .ok (some r)) :=
  in_communicate_thru_bridge d

example : Gen.Fn.pn53x_in_communicate_thru [0, 0xAA] = .ok (some [0xAA]) := by decide
example : Gen.Fn.pn53x_in_communicate_thru [1] = .error (.chipsetError 1) := by decide
example : Gen.Fn.pn53x_in_communicate_thru [] = .error .index := by decide

/-- `in_data_exchange`: the low six bits of the status octet are the errno - `ErrMap.inDataExchange` (first
component of the returned pair; the second is the more-information bit) -/
theorem in_data_exchange_bridge (d : Bytes) :
    (Gen.Fn.pn53x_in_data_exchange d >>= fun r => .ok r.1) = inDataExchange (.ok d) := by
  unfold Gen.Fn.pn53x_in_data_exchange inDataExchange Gen.Fn.pn53x_chipset_error_opt
  py_nat
  -- the source reads `data[0]` again behind `if data` for the errno: behind the first read it is there
  rcases d with _ | ⟨s, rest⟩
  · rfl
  · simp only [idxN_cons_zero, Py.bind_ok, reduceCtorEq, if_false]

example : (Gen.Fn.pn53x_in_data_exchange [0x41] >>= fun r => .ok r.1) = .error (.chipsetError 1) := by decide
example : Gen.Fn.pn53x_in_data_exchange [0x40, 7] = .ok ([7], true) := by decide

/-- `tg_response_to_initiator` - `ErrMap.tgResponseToInitiator` -/
theorem tg_response_to_initiator_bridge (d : Bytes) :
    Gen.Fn.pn53x_tg_response_to_initiator d = tgResponseToInitiator (.ok d) := by
  unfold Gen.Fn.pn53x_tg_response_to_initiator tgResponseToInitiator
  py_nat
  exact status_then d _ _

/-- pn533 `_read_register`: status octet, then the register values; `ErrMap.readRegister .pn533` is this followed
by the list-or-int conversion of `read_register` (`regResult`, not translated: `list(data)`) -/
theorem pn533_read_register_bridge (d : Bytes) :
    readRegister .pn533 (.ok d) = (Gen.Fn.pn533_read_register d >>= regResult) := by
  unfold Gen.Fn.pn533_read_register readRegister
  py_nat
  exact (status_then d _ _).symm

/-- pn533 `_write_register` - `ErrMap.writeRegister .pn533` -/
theorem pn533_write_register_bridge (d : Bytes) :
    Gen.Fn.pn533_write_register d = writeRegister .pn533 (.ok d) := by
  unfold Gen.Fn.pn533_write_register writeRegister
  py_nat
  exact status_then d _ _

/-- rcs956 `_write_register`: a non-zero status sum is `Chipset.Error(0xfe)` - `ErrMap.writeRegister .rcs956` -/
theorem rcs956_write_register_bridge (d : Bytes) :
    Gen.Fn.rcs956_write_register d = writeRegister .rcs956 (.ok d) := by
  unfold Gen.Fn.rcs956_write_register writeRegister
  simp only [lit_cast, Pn53x.chipset_error_int_bridge]
  py_nat
  -- `HostFrame.sum` is this fold
  rfl

/-- the Type 2 Tag CRC check behind InCommunicateThru, for every octet string -/
theorem tt2_crc_bridge (d : Bytes) (hd : IsBytes d) : Gen.Fn.pn53x_tt2_crc d = tt2Crc d := by
  unfold Gen.Fn.pn53x_tt2_crc tt2Crc ErrMap.checkCrcA
  have hc : Gen.Fn.check_crc_a d = Crc.checkCrcA (d.map (BitVec.ofNat 8)) := by
    have := Crc.check_crc_a_bridge (Crc.dec d)
    rw [Crc.enc_dec d hd] at this
    exact this
  rw [hc]
  py_nat
  refine ite_congr rfl (fun h => bind_congr fun b => ?_) fun h => by rw [if_neg h]
  rw [if_pos h, sliceTo_neg d 2 (by decide)]; cases b <;> rfl

/-- rcs380 `_tt2_send_cmd_recv_rsp`: textually the same statements -/
theorem rcs380_tt2_crc_bridge (d : Bytes) (hd : IsBytes d) : Gen.Fn.rcs380_tt2_crc d = tt2Crc d :=
  tt2_crc_bridge d hd

example : Gen.Fn.pn53x_tt2_crc [0x0A] = .ok [0x0A] := by decide +kernel
example : Gen.Fn.pn53x_tt2_crc [0x12, 0x34, 0x26, 0xCF] = .ok [0x12, 0x34] := by decide +kernel
example : Gen.Fn.pn53x_tt2_crc [0x12, 0x34, 0x26, 0xCE] = .error .transmission := by decide +kernel

/-- C13 for the regenerated chipset functions: on a non-empty response payload they raise only what the
handlers above translate - a documented exception or a `Chipset.Error` (`Lemmas/ErrMap.lean: Mid`) -/
theorem gen_chip_functions_mid (d : Bytes) (hd : d ≠ []) (hb : IsBytes d) :
    Safe Mid (Gen.Fn.pn53x_in_communicate_thru d) ∧ Safe Mid (Gen.Fn.pn53x_tg_get_initiator_command d) ∧
    Safe Mid (Gen.Fn.pn53x_in_data_exchange d >>= fun r => .ok r.1) ∧
    Safe Mid (Gen.Fn.pn53x_tg_response_to_initiator d) ∧ Safe Mid (Gen.Fn.pn53x_tt2_crc d) := by
  have hr : Safe CmdDoc (.ok d : Py Bytes) := Safe.ok d
  have hs : ∀ p, (.ok d : Py Bytes) = .ok p → p ≠ [] := by intro p h; cases h; exact hd
  refine ⟨?_, ?_, ?_, ?_, ?_⟩
  · rw [in_communicate_thru_bridge]; exact Safe.bind' (thru_mid _ hr hs) (fun _ => Safe.ok _)
  · rw [tg_get_initiator_command_bridge]; exact Safe.bind' (thru_mid _ hr hs) (fun _ => Safe.ok _)
  · rw [in_data_exchange_bridge]; exact dataex_mid _ hr hs
  · rw [tg_response_to_initiator_bridge]; exact tgresp_mid _ hr hs
  · rw [tt2_crc_bridge d hb]; exact tt2Crc_mid d

/-! ## rcs380 `except CommunicationError` -/

/-- `_send_cmd_recv_rsp` (rcs380): with the regenerated `CommunicationError.__eq__` for the comparison
`error == "RECEIVE_TIMEOUT_ERROR"` (table value 0x80) the handler is the `comm` case of `rcsMapI`, for every
32-bit (indeed every) status word -/
theorem rcs_ini_comm_error_bridge (st : Nat) (s : String) :
    Gen.Fn.rcs380_ini_comm_error (Gen.Fn.rcs380_comm_err_eq s st 0x80) = rcsMapI (.error (.comm st) : RPy Unit) := by
  rw [Rcs380.comm_err_eq_timeout]
  unfold Gen.Fn.rcs380_ini_comm_error rcsMapI
  by_cases h : st / 128 % 2 = 1 <;> simp [h]

/-- `send_rsp_recv_cmd` (rcs380): RF_OFF_ERROR (0x400) first, then RECEIVE_TIMEOUT_ERROR (0x80) - the `comm`
case of `rcsMapT` -/
theorem rcs_tgt_comm_error_bridge (st : Nat) (s t : String) :
    Gen.Fn.rcs380_tgt_comm_error (Gen.Fn.rcs380_comm_err_eq s st 0x400) (Gen.Fn.rcs380_comm_err_eq t st 0x80) st
      = rcsMapT (.error (.comm st) : RPy Unit) := by
  rw [Rcs380.comm_err_eq_timeout, Rcs380.comm_err_eq_rfoff]
  unfold Gen.Fn.rcs380_tgt_comm_error rcsMapT
  by_cases h : st / 1024 % 2 = 1 <;> by_cases h2 : st / 128 % 2 = 1 <;> simp [h, h2]

example : Gen.Fn.rcs380_ini_comm_error (Gen.Fn.rcs380_comm_err_eq "RECEIVE_TIMEOUT_ERROR" 0x80 0x80) = .error .timeout := by
  decide
example : Gen.Fn.rcs380_tgt_comm_error (Gen.Fn.rcs380_comm_err_eq "RF_OFF_ERROR" 0x480 0x400)
    (Gen.Fn.rcs380_comm_err_eq "RECEIVE_TIMEOUT_ERROR" 0x480 0x80) 0x480 = .error .brokenLink := by decide

/-- C13 for the regenerated rcs380 handlers: for every value of the comparisons, a documented exception -/
theorem gen_rcs_handlers_documented (a b : Bool) :
    Safe Documented (Gen.Fn.rcs380_ini_comm_error a) ∧ Safe Documented (Gen.Fn.rcs380_tgt_comm_error a b 0) := by
  constructor
  · unfold Gen.Fn.rcs380_ini_comm_error; exact Safe.ite (Safe.throw doc_timeout) (Safe.throw doc_transmission)
  · unfold Gen.Fn.rcs380_tgt_comm_error
    exact Safe.ite (Safe.throw doc_brokenLink) (Safe.ite (Safe.throw doc_timeout) (Safe.throw doc_transmission))

/-! ## the Type 3 Tag target loop (`_tt3_send_rsp_recv_cmd`) -/

/-- CIU_DivIRq bit 0: the external field was switched off -/
theorem tt3_field_off_bridge (d : Nat) :
    Gen.Fn.pn53x_tt3_field_off d = if d % 2 = 1 then .error .brokenLink else .ok () := by
  unfold Gen.Fn.pn53x_tt3_field_off
  py_nat
  by_cases h : d % 2 = 1
  · simp [h]
  · have : d % 2 = 0 := by omega
    simp [this]

/-- CIU_CommIRq bit 5 (RxIRq) -/
theorem tt3_rx_irq_bridge (c : Nat) : (Gen.Fn.pn53x_tt3_rx_irq c ≠ 0) ↔ (c / 32) % 2 = 1 := by
  unfold Gen.Fn.pn53x_tt3_rx_irq
  py_nat
  exact and_two_pow_ne_zero c 5

/-- one iteration of `ErrMap.tt3Poll` is the two regenerated tests around the register accesses -/
theorem tt3_poll_step (fam : Fam) (r : Nat → Py Bytes) (p : Py Bytes) (later : List (Py Bytes)) :
    tt3Poll fam r (p :: later) = (readRegister fam p >>= unpack2 >>= fun irq =>
      Gen.Fn.pn53x_tt3_field_off irq.2 >>= fun _ =>
      if Gen.Fn.pn53x_tt3_rx_irq irq.1 ≠ 0 then (writeRegister fam (r 2) >>= fun _ => fifoRead fam (r 3) (r 4))
      else tt3Poll fam r later) := by
  rw [tt3Poll]
  congr 1
  funext irq
  rw [tt3_field_off_bridge]
  by_cases h : irq.2 % 2 = 1
  · simp only [h, if_true, Py.bind_error]; rfl
  · simp only [h, if_false, Py.bind_ok]
    by_cases h2 : (irq.1 / 32) % 2 = 1
    · rw [if_pos h2, if_pos ((tt3_rx_irq_bridge irq.1).mpr h2)]
    · rw [if_neg h2, if_neg (fun hh => h2 ((tt3_rx_irq_bridge irq.1).mp hh))]

example : Gen.Fn.pn53x_tt3_field_off 0x11 = .error .brokenLink := by decide
example : Gen.Fn.pn53x_tt3_rx_irq 0x64 = 32 := by decide

/-- the FIFO length octet check - the tail of `ErrMap.fifoData` -/
theorem tt3_fifo_check_bridge (fifo : Bytes) :
    Gen.Fn.pn53x_tt3_fifo_check fifo
      = (idxN fifo 0 >>= fun l0 => if l0 ≠ fifo.length then .error .transmission else .ok fifo) := by
  unfold Gen.Fn.pn53x_tt3_fifo_check
  py_nat

example : Gen.Fn.pn53x_tt3_fifo_check [3, 1, 2] = .ok [3, 1, 2] := by decide
example : Gen.Fn.pn53x_tt3_fifo_check [4, 1, 2] = .error .transmission := by decide
example : Gen.Fn.pn53x_tt3_fifo_check [] = .error .index := by decide

/-- the time is over (positive timeout): the empty case of `ErrMap.tt3Poll` -/
theorem tt3_timeout_bridge (fam : Fam) (r : Nat → Py Bytes) (t : Int) (h : t > 0) :
    tt3Poll fam r [] = (Gen.Fn.pn53x_tt3_timeout t >>= fun _ => .ok []) := by
  unfold Gen.Fn.pn53x_tt3_timeout
  simp only [h, if_true, Py.bind_error]; rfl

end NfcVerif.FnBridge.ErrMap
