import NfcVerif.Lemmas.IsoDepV2Live
import NfcVerif.Lemmas.IsoDepV2C08
/-!
# C12 - ISO-DEP exchanges each APDU exactly once or reports a tag error

Statements and the session-level arguments (`exchange_step`, `isodep_session_ops`); the loop invariants are in
`Lemmas/IsoDepV2.lean` (safety), `Lemmas/IsoDepV2Term.lean` (termination
against every card), `Lemmas/IsoDepV2Live.lean` (absorbed faults), `Lemmas/IsoDepV2Same.lean` (repaired = as found against
rule-abiding cards).  Model: `Model/IsoDepV2.lean` - `exchange` is
`IsoDepInitiator.exchange` with the repairs of `fixes/C12` (S(WTX) answered inside the retry loops, no further command
after an unrecoverable error) and of `fixes/C08/0010 - 0012` (endless retransmissions after R(ACK) cut off, empty / oversized
chained response refused, S(WTX) multiplier checked and the granted waiting time limited); `isoPeer cfg` is an ISO/IEC
14443-4 PICC with an arbitrary application `cfg.app`, arbitrary response block size and arbitrary placement of S(WTX)
requests (`Model/IsoDep.lean`), `Peer σ` is ANY card, the `World` carries an arbitrary fault script (`d`eliver, `l`ose,
`c`orrupt, `p`rotocol error, `e`mpty frame, per transmitted block).

`SessInv pcd card` (the block number is a block number; no unrecoverable error so far => card and reader in step, no
partial command chain in the card) holds after activation (`sess_init`) and is preserved by every operation of a
session - command exchanges, successful or not, and presence checks (`isodep_session_inv`, `isodep_session_ops`) - so
the theorems hold for every exchange of every session without any hypothesis on the state left by earlier failures.

The statements about the loops as they were before `fixes/C08/0010 - 0012` are kept in `Props/C12AsFound.lean`.
-/
namespace NfcVerif.C12
open NfcVerif NfcVerif.IsoDep2
open NfcVerif.IsoDep hiding Pcd exchange exchangeCmd mkPcd activateA activateB presence sendApdu xchgW blockLoop
  sendChunks recvChain exchangeCmd_post exchangeCmd_failed exchangeCmd_nop exchange_unfailed exchangeCmd_live xchgW_post
  blockLoop_post sendChunks_post recvChain_post ExchPost xchgW_succ blockLoop_succ sendChunks_cons recvChain_succ

/-- the session invariant: the reader's block number is 0 or 1, and as long as no unrecoverable error was raised card
and reader are in step -/
def SessInv (pcd : Pcd) (c : Card) : Prop := pcd.pni < 2 ∧ (pcd.failed = none → Sync pcd.pni c)

/-- activation state: PCD block number 0, PICC block number 1 (rules A and C), for every FSCI/FWI/device limit -/
theorem sess_init (fsci fwi maxSend : Nat) : SessInv (mkPcd fsci fwi maxSend) Card.init :=
  ⟨by simp [mkPcd], fun _ => ⟨rfl, rfl⟩⟩

/-- what one `exchange` guarantees in a session -/
def StepPost (cfg : CardCfg) (cmd : Bytes) (w : World Card) (r : World Card × Pcd × Py Bytes) : Prop :=
  (r.1.card.log = w.card.log ∨ r.1.card.log = w.card.log ++ [cmd]) ∧
  (∀ x, r.2.2 = .ok x → x = cfg.app w.card.log.length cmd ∧ r.1.card.log = w.card.log ++ [cmd]) ∧
  (r.2.2 ≠ .error .outOfFuel → SessInv r.2.1 r.1.card)

theorem exchange_step (cfg : CardCfg) (F : Nat) (pcd : Pcd) (cmd : Bytes) (w : World Card)
    (hs : SessInv pcd w.card) : StepPost cfg cmd w (exchange (isoPeer cfg) F pcd cmd w) := by
  have hplt := exchange_pni_lt (isoPeer cfg) F pcd cmd w hs.1
  unfold exchange at hplt ⊢
  cases hf : pcd.failed with
  | some e =>
    simp only
    refine ⟨Or.inl rfl, (by intro x hx; cases hx), ?_⟩
    intro _; exact ⟨hs.1, fun hn => by rw [hf] at hn; cases hn⟩
  | none =>
    simp only [hf] at hplt ⊢
    obtain ⟨hp, hsync'⟩ := hs
    have hsync := hsync' hf
    by_cases h : pcd.miu ≤ 0 ∨ cmd = []
    · -- nothing is sent: ValueError / UnboundLocalError before the first block
      rcases exchangeCmd_nop (isoPeer cfg) F pcd cmd w h with hun | hun <;> rw [hun] <;> simp only <;>
        exact ⟨Or.inl rfl, (by intro x hx; cases hx), fun _ => ⟨hp, fun _ => hsync⟩⟩
    · have hpos : 0 < pcd.miu := by
        by_cases h' : pcd.miu ≤ 0
        · exact absurd (Or.inl h') h
        · omega
      have hm : 1 ≤ pcd.miu.toNat := by omega
      have hc : cmd ≠ [] := fun hc => h (Or.inr hc)
      have := exchangeCmd_post cfg F pcd cmd w pcd.miu.toNat (by omega) hm hc hp hsync (fun _ => True)
        (fun _ _ => trivial) (fun _ _ => trivial)
      obtain ⟨_, hres⟩ := this
      generalize exchangeCmd (isoPeer cfg) F pcd cmd w = r at hres hplt ⊢
      obtain ⟨w1, p1, res⟩ := r
      cases res with
      | ok x =>
        simp only at hres hplt ⊢
        refine ⟨Or.inr hres.1, ?_, fun _ => ⟨hres.2.2.1, fun _ => hres.2.2.2⟩⟩
        intro y hy; cases hy; exact ⟨hres.2.1, hres.1⟩
      | error e =>
        simp only at hres ⊢
        obtain ⟨hk, hlog⟩ := hres
        rcases hk with rfl | rfl | rfl | rfl
        · exact ⟨hlog, (by intro x hx; cases hx), fun hne => absurd rfl hne⟩
        all_goals
          exact ⟨hlog, (by intro x hx; cases hx), fun _ => ⟨by simpa using hplt, fun hn => by simp at hn⟩⟩

/-- **At most once.** For every card application, response block size, S(WTX) placement and multiplier, fuel,
retry budgets, waiting time limit, frame size, command, *every fault script* and every state a session can be in:
the card's execution log after `exchange` is the old log, or the old log plus exactly the command
that was sent (never a second execution, never a truncated or spliced command) - also when
`exchange` fails, and also after earlier failures. -/
theorem isodep_at_most_once (cfg : CardCfg) (F : Nat) (pcd : Pcd) (cmd : Bytes) (w : World Card)
    (hs : SessInv pcd w.card) :
    (exchange (isoPeer cfg) F pcd cmd w).1.card.log = w.card.log ∨
    (exchange (isoPeer cfg) F pcd cmd w).1.card.log = w.card.log ++ [cmd] :=
  (exchange_step cfg F pcd cmd w hs).1

example : (exchange (isoPeer ⟨2, 1, 1, 1, 3, fun n c => c ++ [n, 0x90, 0]⟩) 20 { pni := 0, miu := 2, nNak := 5, nAck := 5, wlim := 9 }
    [1, 2, 3, 4, 5]
    ⟨Card.init, [.d, .l, .d, .c, .d, .d, .e, .d, .d, .d, .l], []⟩).1.card.log = [[1, 2, 3, 4, 5]] := by decide
/-- the same exchange with a retry budget of 1 fails, nothing was executed -/
example : (exchange (isoPeer ⟨2, 1, 1, 1, 3, fun n c => c ++ [n, 0x90, 0]⟩) 20 { pni := 0, miu := 3, nNak := 1, nAck := 1, wlim := 9 }
    [1, 2, 3, 4, 5]
    ⟨Card.init, [.d, .l, .l, .d, .c, .d, .d, .e, .d, .d, .d, .l], []⟩).1.card.log = [] := by decide

/-- **Exact response.** A response that `exchange` returns is the complete response of the card's
execution of this very command (execution number `w.card.log.length`, so not a retransmission of
an earlier response) and the command was executed exactly once. No hypothesis on how earlier
exchanges of the session ended. -/
theorem isodep_response_exact (cfg : CardCfg) (F : Nat) (pcd : Pcd) (cmd : Bytes) (w : World Card)
    (hs : SessInv pcd w.card) (x : Bytes) (hx : (exchange (isoPeer cfg) F pcd cmd w).2.2 = .ok x) :
    x = cfg.app w.card.log.length cmd ∧
    (exchange (isoPeer cfg) F pcd cmd w).1.card.log = w.card.log ++ [cmd] :=
  (exchange_step cfg F pcd cmd w hs).2.1 x hx

/-- command chained in 3 blocks, response chained in 4 blocks, S(WTX) before every card block, 5 faults -/
example : (exchange (isoPeer ⟨2, 1, 1, 1, 3, fun n c => c ++ [n, 0x90, 0]⟩) 20 { pni := 0, miu := 2, nNak := 5, nAck := 5, wlim := 9 }
    [1, 2, 3, 4, 5]
    ⟨Card.init, [.d, .l, .d, .c, .d, .d, .e, .d, .d, .d, .l], []⟩).2.2 = .ok [1, 2, 3, 4, 5, 0, 0x90, 0] := by decide

/-- **The session invariant is preserved** by every exchange, whether it succeeds or raises. -/
theorem isodep_session_inv (cfg : CardCfg) (F : Nat) (pcd : Pcd) (cmd : Bytes) (w : World Card)
    (hs : SessInv pcd w.card) (hf : (exchange (isoPeer cfg) F pcd cmd w).2.2 ≠ .error .outOfFuel) :
    SessInv (exchange (isoPeer cfg) F pcd cmd w).2.1 (exchange (isoPeer cfg) F pcd cmd w).1.card :=
  (exchange_step cfg F pcd cmd w hs).2.2 hf

/-- **After an unrecoverable error** no block is sent any more: the error is raised again, the card is not touched. -/
theorem isodep_refuses_after_error {σ : Type} (P : Peer σ) (F : Nat) (pcd : Pcd) (cmd : Bytes) (w : World σ) (e : Int)
    (h : pcd.failed = some e) : exchange P F pcd cmd w = (w, pcd, .error (.tagCmd e)) := by
  unfold exchange; simp [h]

/-- every `Type4TagCommandError` raised by `exchange` sets the flag -/
theorem isodep_error_sets_flag {σ : Type} (P : Peer σ) (F : Nat) (pcd : Pcd) (cmd : Bytes) (w : World σ) (e : Int)
    (h : (exchange P F pcd cmd w).2.2 = .error (.tagCmd e)) : (exchange P F pcd cmd w).2.1.failed = some e := by
  unfold exchange at h ⊢
  cases hf : pcd.failed with
  | some e' => simp only [hf] at h ⊢; cases h; rfl
  | none =>
    simp only [hf] at h ⊢
    generalize exchangeCmd P F pcd cmd w = r at h ⊢
    obtain ⟨w1, p1, res⟩ := r
    cases res with
    | ok x => simp at h
    | error e' =>
      cases e' with
      | tagCmd n => simp only at h ⊢; cases h; rfl
      | _ => simp only at h; cases h

/-- the error flag holds one of the three documented error numbers -/
def FlagOk (pcd : Pcd) : Prop :=
  ∀ e, pcd.failed = some e → e = TIMEOUT_ERROR ∨ e = RECEIVE_ERROR ∨ e = PROTOCOL_ERROR

theorem flagOk_err3 {pcd : Pcd} (h : FlagOk pcd) : ∀ e, pcd.failed = some e → Err3 (.tagCmd e) := by
  intro e he
  rcases h e he with rfl | rfl | rfl
  · exact Or.inl rfl
  · exact Or.inr (Or.inl rfl)
  · exact Or.inr (Or.inr rfl)

/-- **Termination, against EVERY card.**  Whatever the card answers (any `Peer`: any state, any answer to any block -
endless S(WTX) requests, R(ACK) with the other block number for ever, chained blocks for ever, garbage), whatever the
fault script and the command: once the model's fuel exceeds `fuelNeed pcd = max(max_wtxm_sum + 1, roundsMax n_retry + 1, 65540)`
no loop of `exchange` uses it up - every loop of the repaired `IsoDepInitiator.exchange` ends - and the exchange
hands at most `exchFrames pcd len(command)` blocks to the reader:
`len * roundsMax n_nak * (max_wtxm_sum + 1) + 65539 * roundsMax n_ack * (max_wtxm_sum + 1)` with
`roundsMax n = n + 2` rounds per retry loop. -/
theorem isodep_terminates {σ : Type} (P : Peer σ) (F : Nat) (pcd : Pcd) (cmd : Bytes) (w : World σ)
    (hF : fuelNeed pcd ≤ F) (hp : pcd.pni < 2) :
    (exchange P F pcd cmd w).2.2 ≠ .error .outOfFuel ∧
    (exchange P F pcd cmd w).1.trace.length ≤ w.trace.length + exchFrames pcd cmd.length :=
  let h := exchange_spec P F pcd hF hp cmd w
  ⟨h.1, h.2.2.2.1⟩

/-- a card that asks for waiting time for ever (multiplier 59, FWI 14: limit 59): the exchange ends with
`TIMEOUT_ERROR` after the I-block and one granted request; the fuel 70000 is not used up -/
example : (exchange (⟨fun (_ : Unit) _ => ((), some [0xF2, 59])⟩ : Peer Unit) 70000 { pni := 0, miu := 13, nNak := 0, nAck := 0, wlim := 59 }
    [1, 2] ⟨(), [], []⟩).2.2 = .error (.tagCmd TIMEOUT_ERROR) ∧
    (exchange (⟨fun (_ : Unit) _ => ((), some [0xF2, 59])⟩ : Peer Unit) 70000 { pni := 0, miu := 13, nNak := 0, nAck := 0, wlim := 59 }
    [1, 2] ⟨(), [], []⟩).1.trace = [[2, 1, 2], [0xF2, 59]] := by decide
/-- a card that answers every block with R(ACK) for the other block number: `PROTOCOL_ERROR` after `n + 2` I-blocks -/
example : (exchange (⟨fun (_ : Unit) _ => ((), some [0xA3])⟩ : Peer Unit) 70000 { pni := 0, miu := 13, nNak := 2, nAck := 2, wlim := 59 }
    [1, 2] ⟨(), [], []⟩).2.2 = .error (.tagCmd PROTOCOL_ERROR) ∧
    (exchange (⟨fun (_ : Unit) _ => ((), some [0xA3])⟩ : Peer Unit) 70000 { pni := 0, miu := 13, nNak := 2, nAck := 2, wlim := 59 }
    [1, 2] ⟨(), [], []⟩).1.trace = [[2, 1, 2], [2, 1, 2], [2, 1, 2], [2, 1, 2]] := by decide
/-- a card that chains empty blocks for ever: `PROTOCOL_ERROR` at the first one -/
example : (exchange (⟨fun (_ : Unit) _ => ((), some [0x12])⟩ : Peer Unit) 70000 { pni := 0, miu := 13, nNak := 2, nAck := 2, wlim := 59 }
    [1, 2] ⟨(), [], []⟩).2.2 = .error (.tagCmd PROTOCOL_ERROR) := by decide

/-- the bound for the parameters an activation can produce: the retry budget is at most 5, the S(WTX) limit at most
`59 * 2^14`; fuel `966657` is enough for every activated tag and an exchange never needs more than
`(len + 65539) * 7 * 966657` blocks (the astronomical figure is the price of FWI 0, where 292 seconds of granted waiting
time are 966656 requests; for FWI ≥ 8 the limit is below 3777) -/
theorem isodep_terminates_activated {σ : Type} (P : Peer σ) (fsci fwi maxSend : Nat) (cmd : Bytes) (script : List Fault) (s : σ) :
    fuelNeed (mkPcd fsci fwi maxSend) ≤ 966657 ∧
    (exchange P 966657 (mkPcd fsci fwi maxSend) cmd ⟨s, script, []⟩).2.2 ≠ .error .outOfFuel ∧
    (exchange P 966657 (mkPcd fsci fwi maxSend) cmd ⟨s, script, []⟩).1.trace.length ≤ (cmd.length + 65539) * (7 * 966657) := by
  have hw : wtxLimit fwi ≤ 966656 := by
    unfold wtxLimit
    have : 2 ^ (14 - deriveFwi fwi) ≤ 2 ^ 14 := Nat.pow_le_pow_right (by omega) (by omega)
    omega
  have hn : deriveRetry fwi ≤ 5 := by unfold deriveRetry; omega
  have hrm := (roundsMax_ge (deriveRetry fwi)).2.2
  have hfuel : fuelNeed (mkPcd fsci fwi maxSend) ≤ 966657 := by
    unfold fuelNeed mkPcd
    simp only
    omega
  have h := isodep_terminates P 966657 (mkPcd fsci fwi maxSend) cmd ⟨s, script, []⟩ hfuel (by simp [mkPcd])
  refine ⟨hfuel, h.1, Nat.le_trans h.2 ?_⟩
  have hl : loopFrames (wtxLimit fwi) (deriveRetry fwi) ≤ 7 * 966657 := by
    unfold loopFrames
    exact Nat.mul_le_mul (by omega) (by omega)
  simp only [List.length_nil, Nat.zero_add, exchFrames, mkPcd]
  rw [Nat.add_mul]
  exact Nat.add_le_add (Nat.mul_le_mul_left _ hl) (Nat.mul_le_mul_left _ hl)

/-- **Error kind.** Whatever the card does (any `Peer`, not only the ISO PICC), every fault script, every session
state: if `exchange` raises for a command APDU, it raises `Type4TagCommandError` with errno `TIMEOUT_ERROR`,
`RECEIVE_ERROR` or `PROTOCOL_ERROR` - no `IndexError`, no raw `nfc.clf` exception, and (with the repairs) no
endless loop: `outOfFuel` does not occur. -/
theorem isodep_error_kind {σ : Type} (P : Peer σ) (F : Nat) (pcd : Pcd) (cmd : Bytes) (w : World σ)
    (hF : fuelNeed pcd ≤ F) (hp : pcd.pni < 2) (hm : 0 < pcd.miu) (hcmd : cmd ≠ []) (hfl : FlagOk pcd) :
    (∀ e, (exchange P F pcd cmd w).2.2 = .error e →
      e = .tagCmd TIMEOUT_ERROR ∨ e = .tagCmd RECEIVE_ERROR ∨ e = .tagCmd PROTOCOL_ERROR) ∧
    FlagOk (exchange P F pcd cmd w).2.1 := by
  have hres := (exchange_spec P F pcd hF hp cmd w).2.2.2.2.2 hm hcmd (flagOk_err3 hfl)
  refine ⟨fun e he => by rw [he] at hres; exact hres, ?_⟩
  intro e he
  by_cases hf : pcd.failed = none
  · -- the flag was set by this exchange: it holds the errno that was raised
    have : (exchange P F pcd cmd w).2.2 = .error (.tagCmd e) := by
      unfold exchange at he ⊢
      simp only [hf] at he ⊢
      have hfl' := exchangeCmd_failed P F pcd cmd w
      generalize exchangeCmd P F pcd cmd w = r at he hfl' ⊢
      obtain ⟨w1, p1, res⟩ := r
      simp only at hfl'
      cases res with
      | ok x => simp only at he; rw [hfl', hf] at he; cases he
      | error e' =>
        cases e' with
        | tagCmd n => simp only at he ⊢; cases he; rfl
        | _ => simp only at he; rw [hfl', hf] at he; cases he
    rw [this] at hres
    rcases hres with h | h | h <;> cases h <;> simp
  · obtain ⟨e0, he0⟩ := Option.ne_none_iff_exists'.mp hf
    rw [isodep_refuses_after_error P F pcd cmd w e0 he0] at he
    exact hfl e he

example : (exchange (isoPeer ⟨2, 1, 0, 0, 3, fun n c => c ++ [n, 0x90, 0]⟩) 20 { pni := 0, miu := 3, nNak := 1, nAck := 1, wlim := 9 } [1, 2]
    ⟨Card.init, [.d, .d, .d, .c, .d, .l], []⟩).2.2 = .error (.tagCmd TIMEOUT_ERROR) := by decide

/-- **send_apdu.** When `send_apdu(..., check_status=True)` returns `x`, the card executed exactly one command, namely
the ISO 7816-4 encoding of the arguments, and answered `x` followed by the status word 9000; any other status word
is raised as `Type4TagCommandError(SW)`. -/
theorem isodep_send_apdu_exact (cfg : CardCfg) (F : Nat) (pcd : Pcd) (ext : Bool) (cla ins p1 p2 : Nat) (data : Bytes)
    (mrl : Nat) (w : World Card) (hs : SessInv pcd w.card) (x : Bytes)
    (hx : (sendApdu (isoPeer cfg) F pcd ext cla ins p1 p2 data mrl true w).2.2 = .ok x) :
    ∃ apdu, encodeApdu ext cla ins p1 p2 data mrl = .ok apdu ∧
      (sendApdu (isoPeer cfg) F pcd ext cla ins p1 p2 data mrl true w).1.card.log = w.card.log ++ [apdu] ∧
      cfg.app w.card.log.length apdu = x ++ [0x90, 0x00] := by
  unfold sendApdu at hx ⊢
  cases henc : encodeApdu ext cla ins p1 p2 data mrl with
  | error e => simp [henc] at hx
  | ok apdu =>
    simp only [henc] at hx ⊢
    refine ⟨apdu, rfl, ?_⟩
    cases hex : (exchange (isoPeer cfg) F pcd apdu w).2.2 with
    | error e => simp [hex] at hx
    | ok rsp =>
      simp only [hex] at hx ⊢
      obtain ⟨hr, hlog⟩ := isodep_response_exact cfg F pcd apdu w hs rsp hex
      exact ⟨hlog, by rw [← hr]; exact checkStatus_ok hx⟩

example : (sendApdu (isoPeer ⟨3, 0, 0, 0, 1, fun _ c => c.take 2 ++ [0x90, 0]⟩) 20 { pni := 0, miu := 4, nNak := 2, nAck := 2, wlim := 9 } false 0 0xB0 0 0 [] 2 true
    ⟨Card.init, [.d, .l, .c], []⟩).2.2 = .ok [0, 0xB0] := by decide

/-- what the absorption theorem asks of the card: it asks for waiting time at most `W` times per block, with a
multiplier `WTXM & 0x3F` in 1..59 (ISO/IEC 14443-4 7.3) and `W` requests stay within the reader's limit; its chained
response blocks are not empty and its response has at most 65539 octets (a response APDU has at most 65538) -/
def CardOk (cfg : CardCfg) (W : Nat) (pcd : Pcd) (cmd : Bytes) (w : World Card) : Prop :=
  1 ≤ cfg.chunk ∧ cfg.wtxAck ≤ W ∧ cfg.wtxI ≤ W ∧ cfg.wtxChain ≤ W ∧
  1 ≤ cfg.wtxm &&& 0x3F ∧ cfg.wtxm &&& 0x3F ≤ 59 ∧ W * (cfg.wtxm &&& 0x3F) ≤ pcd.wlim ∧
  (cfg.app w.card.log.length cmd).length ≤ 65539

/-- **Absorbed faults.** If the fault script (over the whole exchange: all command blocks, S(WTX) exchanges and response
blocks) contains `k` lost / corrupted / empty blocks with `2k ≤ resendMax n_retry = n_retry + 1` and no reader protocol
error, and the card keeps to `CardOk`, the exchange succeeds and returns the card's response.  The bound is exact for the
code: a block lost on its way to the card costs the R(NAK) and the retransmission after R(ACK), so a fault can cost two
counts; `k ≤ n_retry` is *not* enough (`isodep_absorbs_bound_tight`).  The termination repairs have not changed the
bound: the retransmission after an R(NAK) that was answered by R(ACK) is always made (`fixes/C08/0010` cuts off at
`n_retry + 1`, an R(NAK) is only sent up to `n_retry`). -/
theorem isodep_absorbs (cfg : CardCfg) (W F : Nat) (pcd : Pcd) (cmd : Bytes) (w : World Card)
    (hs : SessInv pcd w.card) (hf : pcd.failed = none) (hm : 0 < pcd.miu) (hcmd : cmd ≠ [])
    (hF : fuelNeed pcd ≤ F) (hcard : CardOk cfg W pcd cmd w) (hnp : Fault.p ∉ w.script)
    (hk1 : 2 * nfaults w.script ≤ pcd.nNak + 1) (hk2 : 2 * nfaults w.script ≤ pcd.nAck + 1) :
    (exchange (isoPeer cfg) F pcd cmd w).2.2 = .ok (cfg.app w.card.log.length cmd) := by
  obtain ⟨hp, hsync'⟩ := hs
  have hsync := hsync' hf
  obtain ⟨h1, h2, h3, h4, h5, h6, h7, h8⟩ := hcard
  obtain ⟨fW, fN, fA, fC⟩ := fuelNeed_le hF
  have hWle : W ≤ pcd.wlim := by
    have : W * 1 ≤ W * (cfg.wtxm &&& 0x3F) := Nat.mul_le_mul_left W h5
    omega
  have hl := exchangeCmd_live cfg W F pcd cmd w pcd.miu.toNat (by omega) (by omega) hcmd hp hsync h1 h2 h3 h4
    ⟨h5, h6⟩ h7 h8 (by omega) fN fA (by omega) hnp hk1 hk2
  obtain ⟨⟨d, hd⟩, _⟩ := hl
  rw [← (exchange_unfailed _ F pcd cmd w hf).1] at hd
  rw [hd, (isodep_response_exact cfg F pcd cmd w ⟨hp, hsync'⟩ d hd).1]

/-- 3 faults with the maximal budget 5 (2k = 6 ≤ n + 1), S(WTX) with multiplier 3 before the response: absorbed -/
example : (exchange (isoPeer ⟨8, 1, 0, 0, 3, fun n c => c ++ [n, 0x90, 0]⟩) 14 { pni := 0, miu := 13, nNak := 5, nAck := 5, wlim := 3 }
    [1, 2] ⟨Card.init, [.l, .d, .d, .l, .d, .d, .d, .c], []⟩).2.2 = .ok [1, 2, 0, 0x90, 0] := by decide

/-- budget 1, the I-block is lost once and nothing else happens (`2k = 2 ≤ n + 1`): R(NAK), R(ACK), retransmission at
count 2, success - the recovery of a lost command block works with a single retry -/
example : (exchange (isoPeer ⟨8, 0, 0, 0, 3, fun n c => c ++ [n, 0x90, 0]⟩) 14 { pni := 0, miu := 13, nNak := 1, nAck := 1, wlim := 59 }
    [1, 2] ⟨Card.init, [.l], []⟩).2.2 = .ok [1, 2, 0, 0x90, 0] ∧
    (exchange (isoPeer ⟨8, 0, 0, 0, 3, fun n c => c ++ [n, 0x90, 0]⟩) 14 { pni := 0, miu := 13, nNak := 1, nAck := 1, wlim := 59 }
    [1, 2] ⟨Card.init, [.l], []⟩).1.trace = [[2, 1, 2], [0xB2], [2, 1, 2]] := by decide

/-- the bound is tight: budget 2, two faults (`2k = 4 > n + 1`): the I-block is lost, R(NAK) is answered by R(ACK), the
I-block is retransmitted at count 3 and its answer is lost - `Type4TagCommandError` although only two blocks were lost -/
theorem isodep_absorbs_bound_tight :
    (exchange (isoPeer ⟨8, 0, 0, 0, 3, fun n c => c ++ [n, 0x90, 0]⟩) 14 { pni := 0, miu := 13, nNak := 2, nAck := 2, wlim := 59 }
      [1, 2] ⟨Card.init, [.l, .d, .d, .d, .l], []⟩).2.2 = .error (.tagCmd TIMEOUT_ERROR) := by decide

/-- **A repair must not change behaviour against rule-abiding cards.**  Against the ISO/IEC 14443-4 card within `CardOk`
(S(WTX) multiplier 1..59, at most `W` requests per block with `W * WTXM ≤ max_wtxm_sum`, non-empty chained blocks,
response of at most 65539 octets), for every fault script, command and session state, the repaired `exchange` (with
`fixes/C08/0010 - 0012`) does exactly what the `exchange` of `Model/IsoDep.lean` (the loops before those repairs) does:
the same blocks in the same order, the same card state, the same response or error, the same block number and error
flag.  In particular the retransmission after R(ACK) is never refused (it is due at count `n_retry + 1` at the latest). -/
theorem isodep_repairs_invisible (cfg : CardCfg) (W F : Nat) (pcd : Pcd) (cmd : Bytes) (w : World Card)
    (hs : SessInv pcd w.card) (hm : 0 < pcd.miu) (hcmd : cmd ≠ []) (hcard : CardOk cfg W pcd cmd w) (hF : W + 1 ≤ F) :
    exchange (isoPeer cfg) F pcd cmd w = liftX pcd.wlim (IsoDep.exchange (isoPeer cfg) F pcd.base cmd w) := by
  obtain ⟨h1, h2, h3, h4, h5, h6, h7, h8⟩ := hcard
  unfold exchange IsoDep.exchange
  cases hf : pcd.failed with
  | some e =>
    simp only [show pcd.base.failed = some e from hf]
    rfl
  | none =>
    have hcs := exchangeCmd_same cfg W F pcd cmd w pcd.miu.toNat (by omega) (by omega) hcmd hs.1 (hs.2 hf) h1 h2 h3 h4
      ⟨h5, h6⟩ h7 h8 hF
    simp only [show pcd.base.failed = none from hf]
    rw [hcs]
    generalize IsoDep.exchangeCmd (isoPeer cfg) F pcd.base cmd w = r
    obtain ⟨w1, p1, res⟩ := r
    cases res with
    | ok x => rfl
    | error e => cases e <;> rfl

/-- command and response chained, S(WTX) before every card block, five faults: block for block the same -/
example :
    let a := exchange (isoPeer ⟨2, 1, 1, 1, 3, fun n c => c ++ [n, 0x90, 0]⟩) 20 { pni := 0, miu := 2, nNak := 5, nAck := 5, wlim := 9 }
      [1, 2, 3, 4, 5] ⟨Card.init, [.d, .l, .d, .c, .d, .d, .e, .d, .d, .d, .l], []⟩
    let b := liftX 9 (IsoDep.exchange (isoPeer ⟨2, 1, 1, 1, 3, fun n c => c ++ [n, 0x90, 0]⟩) 20 { pni := 0, miu := 2, nNak := 5, nAck := 5 }
      [1, 2, 3, 4, 5] ⟨Card.init, [.d, .l, .d, .c, .d, .d, .e, .d, .d, .d, .l], []⟩)
    a.1.trace = b.1.trace ∧ a.1.card = b.1.card ∧ a.2 = b.2 ∧ a.1.trace.length = 17 := by decide

/-- **One initiator for C12, C08 and the source translation.**  `IsoDepR.exchange` of `Model/IsoDepC08.lean` with the three
repairs switched on - the function the adversarial-card theorems of C08 are about and the function the regenerated
decision logic of `IsoDepInitiator` (function bridge, group IsoSm) is proved equal to - is the `exchange` of this file's
model, for every card, fuel, reader state, command and world. -/
theorem isodep_same_as_c08_model {σ : Type} (P : Peer σ) (F : Nat) (pcd : Pcd) (cmd : Bytes) (w : World σ) :
    ((IsoDepR.exchange P (c08Cfg pcd.wlim F) pcd.toBase cmd w).1,
     Pcd.withBase (IsoDepR.exchange P (c08Cfg pcd.wlim F) pcd.toBase cmd w).2.1 pcd.wlim,
     (IsoDepR.exchange P (c08Cfg pcd.wlim F) pcd.toBase cmd w).2.2) = exchange P F pcd cmd w :=
  exchange_c08 P F pcd cmd w

example : (c08Cfg 59 1000).fx = IsoDepR.Fix.all ∧ (c08Cfg 59 1000).lim = 59 := by decide

/-- **Block bound.** With `miu = FSC - 3` every block handed to the reader during the exchange - I-blocks,
retransmitted I-blocks, R(ACK), R(NAK) and S(WTX) responses - is at most `FSC - 2` octets, i.e. fits the card's frame
size with its two CRC octets. -/
theorem isodep_block_bound (cfg : CardCfg) (F : Nat) (pcd : Pcd) (cmd : Bytes) (w : World Card) (fsc : Nat)
    (hfsc : 4 ≤ fsc) (hmiu : pcd.miu = (fsc : Int) - 3) (hcmd : cmd ≠ []) (hs : SessInv pcd w.card) :
    ∀ b ∈ (exchange (isoPeer cfg) F pcd cmd w).1.trace, b ∈ w.trace ∨ b.length + 2 ≤ fsc := by
  cases hf : pcd.failed with
  | some e => rw [isodep_refuses_after_error _ F pcd cmd w e hf]; exact fun b hb => Or.inl hb
  | none =>
    rw [(exchange_unfailed _ F pcd cmd w hf).2.1]
    exact (exchangeCmd_post cfg F pcd cmd w (fsc - 3) (by omega) (by omega) hcmd hs.1 (hs.2 hf)
      (fun b => b ∈ w.trace ∨ b.length + 2 ≤ fsc) (fun b hb => Or.inr (by omega)) (fun b hb => Or.inl hb)).1

/-- the frame size of the card after clamping to the device limit, FSCI 0..8 and the RFU values 9..15 -/
theorem isodep_block_bound_derived (cfg : CardCfg) (F : Nat) (fsci fwi maxSend : Nat) (cmd : Bytes)
    (script : List Fault) (hdev : 4 ≤ maxSend) (hcmd : cmd ≠ []) :
    ∀ b ∈ (exchange (isoPeer cfg) F (mkPcd fsci fwi maxSend) cmd ⟨Card.init, script, []⟩).1.trace,
      b.length + 2 ≤ maxSend ∧ b.length + 2 ≤ fscTable.getD (min fsci 8) 256 := by
  intro b hb
  obtain ⟨hfsc, _, h16⟩ := deriveFsc_spec fsci maxSend
  rcases isodep_block_bound cfg F (mkPcd fsci fwi maxSend) cmd ⟨Card.init, script, []⟩ (deriveFsc fsci maxSend)
    (by omega) rfl hcmd (sess_init fsci fwi maxSend) b hb with h | h
  · simp at h
  · omega

example : ∀ b ∈ (exchange (isoPeer ⟨13, 1, 0, 0, 3, fun n c => c ++ [n, 0x90, 0]⟩) 20 (mkPcd 0 4 256)
    (List.range 30) ⟨Card.init, [.d, .l], []⟩).1.trace, b.length + 2 ≤ 16 := by decide

/-- **Block bound, every card.**  Whatever the card does - also a card that follows no rule - every block handed to
the reader during `exchange` is one the initiator built itself (an I-block with at most MIU octets of the command, a
retransmitted I-block, R(ACK), R(NAK): at most `MIU + 1 = FSC - 2` octets), or the repetition of an S(WTX) request
exactly as the card sent it (a frame the card produced itself). -/
theorem isodep_block_bound_any_card {σ : Type} (P : Peer σ) (F : Nat) (pcd : Pcd) (cmd : Bytes) (w : World σ) (fsc : Nat)
    (hfsc : 3 ≤ fsc) (hmiu : pcd.miu = (fsc : Int) - 3) :
    ∀ b ∈ (exchange P F pcd cmd w).1.trace, b ∈ w.trace ∨ b.length + 2 ≤ fsc ∨ ∃ m, wtxmOf b = some m :=
  exchange_fits P F pcd cmd w (fsc - 3) (by omega) (fun b => b ∈ w.trace ∨ b.length + 2 ≤ fsc ∨ ∃ m, wtxmOf b = some m)
    (fun b hb => Or.inr (Or.inl (by omega))) (fun b hb => Or.inr (Or.inr (Option.isSome_iff_exists.mp hb)))
    (fun b hb => Or.inl hb)

example : (exchange (⟨fun (_ : Unit) _ => ((), some [0xF2, 1, 2, 3, 4, 5, 6, 7, 8, 9, 10, 11, 12, 13, 14, 15, 16, 17, 18])⟩ : Peer Unit) 70000
    { pni := 0, miu := 13, nNak := 0, nAck := 0, wlim := 2 } [1, 2] ⟨(), [], []⟩).1.trace.map List.length = [3, 19, 19] := by decide

/-! ## sessions: commands and presence checks in any order -/

/-- **The presence check does not touch the card**: `exchange(None)` sends R(NAK) with the reader's block number,
which the card answers (R(ACK), or its last block again) without changing its state; exactly that one block is sent;
the reader's state (block number, error latch) is not an output of the presence check at all. -/
theorem isodep_presence_keeps_card (cfg : CardCfg) (pcd : Pcd) (w : World Card) (hp : pcd.pni < 2) :
    (presence (isoPeer cfg) pcd w).1.card = w.card ∧
    (presence (isoPeer cfg) pcd w).1.trace = w.trace ++ [[0xB2 ||| pcd.pni]] := by
  have hrx : (Card.rx cfg w.card [0xB2 ||| pcd.pni]).1 = w.card := by
    rcases bn_cases hp with h | h <;> rw [h] <;> simp [Card.rx] <;> split <;> rfl
  rw [presence_world, xchg_trace]
  refine ⟨?_, rfl⟩
  rcases xchg_card (isoPeer cfg) w [0xB2 ||| pcd.pni] with h | h
  · exact h
  · rw [h]; exact hrx

/-- what a sequence of operations (commands and presence checks in any order) guarantees, operation by operation:
for a command the at-most-once / exact-response / error-kind / block-size / no-fuel clauses and - if an unrecoverable
error was raised before - that nothing is sent and the same error is raised; for a presence check that the card is
left as it was and one R(NAK) block is sent -/
def OpsExact (cfg : CardCfg) (F fsc : Nat) : List Op → Pcd → World Card → Prop
  | [], _, _ => True
  | .cmd c :: os, pcd, w =>
    ((exchange (isoPeer cfg) F pcd c w).1.card.log = w.card.log ∨
     (exchange (isoPeer cfg) F pcd c w).1.card.log = w.card.log ++ [c]) ∧
    (∀ x, (exchange (isoPeer cfg) F pcd c w).2.2 = .ok x →
      x = cfg.app w.card.log.length c ∧ (exchange (isoPeer cfg) F pcd c w).1.card.log = w.card.log ++ [c]) ∧
    (c ≠ [] → ∀ e, (exchange (isoPeer cfg) F pcd c w).2.2 = .error e → Err3 e) ∧
    (∀ e, pcd.failed = some e → exchange (isoPeer cfg) F pcd c w = (w, pcd, .error (.tagCmd e))) ∧
    (c ≠ [] → ∀ b ∈ (exchange (isoPeer cfg) F pcd c w).1.trace, b ∈ w.trace ∨ b.length + 2 ≤ fsc) ∧
    OpsExact cfg F fsc os (exchange (isoPeer cfg) F pcd c w).2.1 (exchange (isoPeer cfg) F pcd c w).1
  | .present :: os, pcd, w =>
    (presence (isoPeer cfg) pcd w).1.card = w.card ∧
    (presence (isoPeer cfg) pcd w).1.trace = w.trace ++ [[0xB2 ||| pcd.pni]] ∧
    OpsExact cfg F fsc os pcd (presence (isoPeer cfg) pcd w).1

/-- **Sessions.** Any sequence of commands and presence checks on one activation, any fault script, failed exchanges
included: every command is executed at most once, every response returned is the exact response to its command, every
failure is a `Type4TagCommandError` with a documented reason, every block fits the card's frame size, no loop runs out
of fuel, a presence check never changes the card and never re-opens a session that an unrecoverable error has closed. -/
theorem isodep_session_ops (cfg : CardCfg) (F fsc : Nat) (hfsc : 4 ≤ fsc) (ops : List Op) :
    ∀ (pcd : Pcd) (w : World Card), SessInv pcd w.card → FlagOk pcd → fuelNeed pcd ≤ F → pcd.miu = (fsc : Int) - 3 →
      OpsExact cfg F fsc ops pcd w := by
  induction ops with
  | nil => intro _ _ _ _ _ _; trivial
  | cons o os ih =>
    intro pcd w hs hfl hF hmiu
    cases o with
    | present =>
      obtain ⟨h1, h2⟩ := isodep_presence_keeps_card cfg pcd w hs.1
      refine ⟨h1, h2, ih pcd _ ?_ hfl hF hmiu⟩
      rw [h1]; exact hs
    | cmd c =>
      obtain ⟨h1, h2, h3⟩ := exchange_step cfg F pcd c w hs
      have hsp := exchange_spec (isoPeer cfg) F pcd hF hs.1 c w
      have hnf := hsp.1
      obtain ⟨hst1, hst2, hst3, hst4⟩ := hsp.2.2.2.2.1
      have hF' : fuelNeed (exchange (isoPeer cfg) F pcd c w).2.1 ≤ F := by
        unfold fuelNeed at hF ⊢; rw [hst2, hst3, hst4]; exact hF
      refine ⟨h1, h2, ?_, ?_, ?_, ih _ _ (h3 hnf) ?_ hF' (by rw [hst1]; exact hmiu)⟩
      · intro hc e he
        have := hsp.2.2.2.2.2 (by omega) hc (flagOk_err3 hfl)
        rw [he] at this; exact this
      · intro e he; exact isodep_refuses_after_error _ F pcd c w e he
      · intro hc; exact isodep_block_bound cfg F pcd c w fsc hfsc hmiu hc hs
      · by_cases hc : c = []
        · -- an empty string is not a command: nothing is sent, the flag is not touched
          subst hc
          intro e he
          have : (exchange (isoPeer cfg) F pcd [] w).2.1.failed = pcd.failed := by
            unfold exchange
            cases hf : pcd.failed with
            | some e' => simp [hf]
            | none => rcases exchangeCmd_nop (isoPeer cfg) F pcd [] w (Or.inr rfl) with hun | hun <;> simp [hun, hf]
          rw [this] at he; exact hfl e he
        · have hm : 0 < pcd.miu := by omega
          exact (isodep_error_kind (isoPeer cfg) F pcd c w hF hs.1 hm hc hfl).2

/-- sessions after an activation: every FSCI (0..8 and the RFU values), FWI and device limit -/
theorem isodep_session_from_activation (cfg : CardCfg) (ops : List Op) (fsci fwi maxSend : Nat) (hdev : 4 ≤ maxSend)
    (script : List Fault) :
    OpsExact cfg 966657 (deriveFsc fsci maxSend) ops (mkPcd fsci fwi maxSend) ⟨Card.init, script, []⟩ := by
  obtain ⟨hfsc, _, h16⟩ := deriveFsc_spec fsci maxSend
  exact isodep_session_ops cfg 966657 (deriveFsc fsci maxSend) (by omega) ops _ _ (sess_init fsci fwi maxSend)
    (by intro e he; simp [mkPcd] at he) (isodep_terminates_activated (isoPeer cfg) fsci fwi maxSend [] [] Card.init).1 rfl

/-- **Once failed, always failed - presence checks in between do not re-open the session.**  After an unrecoverable
error, whatever operations follow (any number of commands and presence checks in any order, any card): the reader state
stays as it is, every command is answered with the same error, and the only blocks sent are the R(NAK) blocks of the
presence checks. -/
theorem isodep_session_latched {σ : Type} (P : Peer σ) (F : Nat) (e : Int) (ops : List Op) :
    ∀ (pcd : Pcd) (w : World σ), pcd.failed = some e →
      (runOps P F ops pcd w).2.1 = pcd ∧
      (∀ r ∈ (runOps P F ops pcd w).2.2, (∃ u, r = .pres u) ∨ r = .rsp (.error (.tagCmd e))) ∧
      (∀ b ∈ (runOps P F ops pcd w).1.trace, b ∈ w.trace ∨ b = [0xB2 ||| pcd.pni]) := by
  induction ops with
  | nil => intro pcd w _; exact ⟨rfl, by simp [runOps], fun b hb => Or.inl hb⟩
  | cons o os ih =>
    intro pcd w hf
    cases o with
    | cmd c =>
      have hx := isodep_refuses_after_error P F pcd c w e hf
      simp only [runOps, step, hx]
      obtain ⟨i1, i2, i3⟩ := ih pcd w hf
      refine ⟨i1, ?_, i3⟩
      intro r hr
      rcases List.mem_cons.mp hr with rfl | hr
      · exact Or.inr rfl
      · exact i2 r hr
    | present =>
      simp only [runOps, step]
      obtain ⟨i1, i2, i3⟩ := ih pcd (presence P pcd w).1 hf
      refine ⟨i1, ?_, ?_⟩
      · intro r hr
        rcases List.mem_cons.mp hr with rfl | hr
        · exact Or.inl ⟨_, rfl⟩
        · exact i2 r hr
      · intro b hb
        rcases i3 b hb with h | h
        · have htr : (presence P pcd w).1.trace = w.trace ++ [[0xB2 ||| pcd.pni]] := by
            rw [presence_world, xchg_trace]
          rw [htr] at h
          rcases List.mem_append.mp h with h | h
          · exact Or.inl h
          · simp at h; exact Or.inr h
        · exact Or.inr h

def exCfg : CardCfg := ⟨253, 0, 0, 0, 1, fun n c => c ++ [n, 0x90, 0]⟩
def exPcd : Pcd := { pni := 0, miu := 253, nNak := 1, nAck := 1, wlim := 59 }
/-- first exchange: command delivered, response and its retransmission lost; presence check answered;
second exchange: I-block would be lost -/
def exWorld : World Card := ⟨Card.init, [.d, .l, .d, .l, .d, .d, .l, .d, .d], []⟩

/-- the witness of finding `isodep-stale-after-error` with a presence check in between (seeds C12-r2m3 / r3m1: the
latch cleared by `is_present`; without the latch the second command returns the response of the first one): it raises
the error of the first exchange and the card sees nothing but the R(NAK) of the presence check -/
example :
    (runOps (isoPeer exCfg) 8 [.cmd [1, 1], .present, .cmd [2, 2]] exPcd exWorld).2.2 =
      [.rsp (.error (.tagCmd TIMEOUT_ERROR)), .pres (.ok ()), .rsp (.error (.tagCmd TIMEOUT_ERROR))] ∧
    (runOps (isoPeer exCfg) 8 [.cmd [1, 1], .present, .cmd [2, 2]] exPcd exWorld).1.trace = [[2, 1, 1], [0xB2], [0xB2]] ∧
    (runOps (isoPeer exCfg) 8 [.cmd [1, 1], .present, .cmd [2, 2]] exPcd exWorld).1.card.log = [[1, 1]] := by decide

/-! ## activation parameters -/

/-- **FSC / FWT derivation.** FSCI indexes the ISO table (RFU values 9..15 read as 8 = 256 octets), the result is
clamped to the device limit; the retry budget is `min(int(1/FWT), 5)` with `FWT = 4096/13.56 MHz * 2^FWI`
(FWI 15 read as 4): 5 for FWI ≤ 9, 3 for FWI 10, 1 for FWI 11, none from FWI 12 on; the S(WTX) limit is
`59 * 2^(14 - FWI)` multiplier units (the waiting time one request with WTXM 59 gets at FWI 14). -/
theorem fsc_fwt_derivation (fsci fwi maxSend : Nat) :
    deriveFsc fsci maxSend = min (fscTable.getD (min fsci 8) 256) maxSend ∧
    fscTable.getD (min fsci 8) 256 ∈ fscTable ∧
    (mkPcd fsci fwi maxSend).miu = (deriveFsc fsci maxSend : Int) - 3 ∧
    (mkPcd fsci fwi maxSend).pni = 0 ∧ (mkPcd fsci fwi maxSend).failed = none ∧
    (mkPcd fsci fwi maxSend).nNak = deriveRetry fwi ∧ (mkPcd fsci fwi maxSend).nAck = deriveRetry fwi ∧
    deriveRetry fwi ≤ 5 ∧
    (fwi ≤ 9 ∨ fwi = 15 → deriveRetry fwi = 5) ∧ (fwi = 10 → deriveRetry fwi = 3) ∧
    (fwi = 11 → deriveRetry fwi = 1) ∧ (12 ≤ fwi ∧ fwi ≤ 14 → deriveRetry fwi = 0) ∧
    (16 ≤ maxSend → 13 ≤ (mkPcd fsci fwi maxSend).miu) ∧
    (mkPcd fsci fwi maxSend).wlim = 59 * 2 ^ (14 - (if fwi > 14 then 4 else fwi)) ∧
    59 ≤ (mkPcd fsci fwi maxSend).wlim ∧ (mkPcd fsci fwi maxSend).wlim ≤ 966656 := by
  obtain ⟨hfsc, hmem, h16⟩ := deriveFsc_spec fsci maxSend
  obtain ⟨r1, r2, r3, r4, r5⟩ := deriveRetry_spec fwi
  have hpow : 1 ≤ 2 ^ (14 - deriveFwi fwi) ∧ 2 ^ (14 - deriveFwi fwi) ≤ 2 ^ 14 :=
    ⟨Nat.one_le_two_pow, Nat.pow_le_pow_right (by omega) (by omega)⟩
  refine ⟨hfsc, hmem, rfl, rfl, rfl, rfl, rfl, r1, r2, r3, r4, r5, fun h => ?_, rfl, ?_, ?_⟩
  · show 13 ≤ (deriveFsc fsci maxSend : Int) - 3
    omega
  · show 59 ≤ 59 * 2 ^ (14 - deriveFwi fwi); omega
  · show 59 * 2 ^ (14 - deriveFwi fwi) ≤ 966656; omega

example : mkPcd 2 11 24 = { pni := 0, miu := 21, nNak := 1, nAck := 1, wlim := 472 } := by decide

/-- **ATS evaluation (Type 4A).** For every Answer To Select laid out as in ISO/IEC 14443-4 - FSCI 0..15 in T0, any
subset of TA(1), TB(1), TC(1) present, any historical bytes - activation derives the parameters from the FSCI
announced in T0 and from the FWI in TB(1), or FWI 4 when TB(1) is absent. -/
theorem ats_derivation (fsci : Nat) (hf : fsci < 16) (ta tb tc : Option Nat) (hist : Bytes) (maxSend : Nat) :
    activateA (mkAts fsci ta tb tc hist) maxSend =
      .ok (mkPcd fsci (match tb with | some b => b >>> 4 | none => 4) maxSend) :=
  mkAts_decode (β := Py Pcd) (fun a b => Except.ok (mkPcd a b maxSend)) fsci hf ta tb tc hist

/-- an ATS that consists of the length byte only: the defaults FSCI 2 (32 octets) and FWI 4 -/
theorem ats_tl_only (maxSend : Nat) : activateA [1] maxSend = .ok (mkPcd 2 4 maxSend) := rfl

/-- **Block bound after a Type 4A activation**: whatever the shape of the ATS, every block of a following exchange fits
the frame size the card announced in T0 (and the device limit). -/
theorem isodep_block_bound_ats (cfg : CardCfg) (F : Nat) (fsci : Nat) (hf : fsci < 16) (ta tb tc : Option Nat)
    (hist : Bytes) (maxSend : Nat) (cmd : Bytes) (script : List Fault) (hdev : 4 ≤ maxSend) (hcmd : cmd ≠ []) :
    ∃ pcd, activateA (mkAts fsci ta tb tc hist) maxSend = .ok pcd ∧
      ∀ b ∈ (exchange (isoPeer cfg) F pcd cmd ⟨Card.init, script, []⟩).1.trace,
        b.length + 2 ≤ maxSend ∧ b.length + 2 ≤ fscTable.getD (min fsci 8) 256 :=
  ⟨_, ats_derivation fsci hf ta tb tc hist maxSend,
    isodep_block_bound_derived cfg F fsci _ maxSend cmd script hdev hcmd⟩

example : activateA [2, 0x00] 256 = .ok { pni := 0, miu := 13, nNak := 5, nAck := 5, wlim := 60416 } := by decide
example : activateA (mkAts 1 none (some 0xB0) (some 2) [0x80, 0x01]) 256 = .ok { pni := 0, miu := 21, nNak := 1, nAck := 1, wlim := 472 } := by decide
example : activateA [5, 0x78, 0x80, 0x70, 0x02] 256 = .ok { pni := 0, miu := 253, nNak := 5, nAck := 5, wlim := 7552 } := by decide

end NfcVerif.C12
