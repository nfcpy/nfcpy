import NfcVerif.Props.C03
import NfcVerif.Lemmas.SessC03
import NfcVerif.Lemmas.TlvBlock
/-!
# C03 - sequences of operations on one tag object

Model: `NfcVerif.Model.SessC03` - the `Tag._ndef` cache next to the tag memory; `step` is one
application call (`tag.ndef`, `tag.ndef.octets = data`, `tag.format(version, wipe)`, `tag.protect()`)
of a Type 2 Tag, a generic Type 1 Tag, a Topaz or a Topaz-512; `run` a whole session.
`Coherent`: the cached NDEF object is what a new reader would compute on the tag's memory.
-/
namespace NfcVerif.C03Sess
open NfcVerif NfcVerif.Tlv

/-- **A used tag object behaves like a fresh one**: in every session whose calls are admissible
(`Adm`: the layout on the tag is well-formed when a write is made; `protect()` is not aborted by a
command error) every call sends the same commands, returns the same result and leaves the same tag
memory as the same call made on a NEW tag object activated on the memory the previous call left - for
any number and order of read / write / format / protect calls.  Cached state (`Tag._ndef`, the NDEF
object's offset, skip set, capacity and memory image) never shows, and the cache is coherent at the end. -/
theorem session_steps_fresh (k : Klass) (ops : List Op) (s : Sess) (hc : Coherent k s)
    (ha : AdmAll k s.tag ops) :
    (run k true s ops).1 = freshOuts k s.tag ops ∧ (run k true s ops).2.tag = freshTag k s.tag ops
    ∧ Coherent k (run k true s ops).2 := by
  induction ops generalizing s with
  | nil => exact ⟨rfl, rfl, hc⟩
  | cons op ops ih =>
    obtain ⟨h1, h2⟩ := step_fresh k s op hc
    have hc' := step_coherent k s op hc ha.1
    have ha' : AdmAll k (step k true s op).2.tag ops := by rw [h2]; exact ha.2
    obtain ⟨i1, i2, i3⟩ := ih (step k true s op).2 hc' ha'
    simp only [run, freshOuts, freshTag]
    exact ⟨by rw [i1, h1, h2], by rw [i2, h2], i3⟩

/-- **A write at any point of a session is confined to the area of the layout that is on the tag at
that moment**: on a coherent session, with `L` the layout a new reader computes on the current
memory (well-formed, message within capacity, length field off reserved bytes), the write step sends
exactly `setOctets` of that memory and layout; every command covers a byte of `Area L` and every byte
outside `Area L` keeps its value. -/
theorem session_write_confined (k : Klass) (s : Sess) (data : Bytes) (hc : Coherent k s) (L : Layout)
    (hr : k.rdNdef s.tag = .ok (some L)) (hwf : WF k.cfg s.tag L) (hcap : (data.length : Int) ≤ L.cap)
    (h3 : Hdr3 L data.length) (hw : L.writeable = true) :
    (step k true s (.write data)).1.cmds = (setOctets k.cfg s.tag L data).cmds
    ∧ (∀ cmd ∈ (step k true s (.write data)).1.cmds, ∃ x, cmd.1 ≤ x ∧ x < cmd.1 + cmd.2.length ∧ Area L x)
    ∧ ∀ x, ¬ Area L x → (step k true s (.write data)).2.tag[x]? = s.tag[x]? := by
  obtain ⟨e1, e2⟩ := step_write_eq k s data hc L hr
  have hrd := rdNdef_readNdef k s.tag L hr
  refine ⟨e1, ?_, fun x hx => ?_⟩
  · rw [e1]; exact C03.t12_commands_confined k.cfg s.tag L data hrd hwf hcap h3
  · obtain ⟨ph, hph, hap⟩ := setOctets_apply k.cfg s.tag L data hrd hwf hcap hw
    obtain ⟨ph', hph', _, hconf⟩ := C03.t12_write_confined k.cfg s.tag L data hrd hwf hcap h3
    rw [hph] at hph'; injection hph' with hph'; subst hph'
    rw [e2, hap]; exact (hconf x hx).2.2.2

/-- **Write after format uses the new layout.**  After a `format()` that returned `True` the cached
NDEF object is gone (`Tag._ndef = None`); the next `tag.ndef.octets = data` on the same tag object
reads the layout that is on the tag NOW and is confined to its area: every command covers a byte of
`Area L'` and every byte outside keeps its value, `L'` being what a new reader computes on the
formatted memory. -/
theorem format_then_write_confined (k : Klass) (s : Sess) (version wipe : Option Nat) (hc : Coherent k s)
    (hok : (step k true s (.format version wipe)).1.res = .ok true) :
    (step k true s (.format version wipe)).2.ndef = none
    ∧ ∀ (data : Bytes) (L' : Layout), k.rdNdef (step k true s (.format version wipe)).2.tag = .ok (some L') →
        WF k.cfg (step k true s (.format version wipe)).2.tag L' → (data.length : Int) ≤ L'.cap →
        Hdr3 L' data.length → L'.writeable = true →
        (∀ cmd ∈ (step k true (step k true s (.format version wipe)).2 (.write data)).1.cmds,
            ∃ x, cmd.1 ≤ x ∧ x < cmd.1 + cmd.2.length ∧ Area L' x)
        ∧ ∀ x, ¬ Area L' x →
            (step k true (step k true s (.format version wipe)).2 (.write data)).2.tag[x]?
              = (step k true s (.format version wipe)).2.tag[x]? := by
  have hnone : (step k true s (.format version wipe)).2.ndef = none := by
    cases k with
    | t1 => simp [step] at hok
    | topaz | topaz512 =>
      simp only [step] at hok ⊢
      split at hok
      · rfl
      · simp at hok
      · simp at hok
    | t2 =>
      -- without an NDEF object `format()` does not return `True`
      rcases getNdef_new .t2 s.tag with ⟨L, hr, hn⟩ | hn | ⟨e, hn⟩ <;>
        simp only [step, getNdef_fresh _ s hc, hn] at hok ⊢
      cases hf : formatT2On L s.tag wipe with
      | error e => rw [hf] at hok; simp at hok
      | ok r =>
        cases r with
        | none => rw [hf] at hok; simp at hok
        | some m' => rfl
  refine ⟨hnone, fun data L' hr hwf hcap h3 hw => ?_⟩
  have hc' : Coherent k (step k true s (.format version wipe)).2 := by
    intro L C h; rw [hnone] at h; cases h
  obtain ⟨_, b, c⟩ := session_write_confined k _ data hc' L' hr hwf hcap h3 hw
  exact ⟨b, c⟩

/-- **Topaz / Topaz-512: read, format, write on one object.**  Whatever layout the tag carried and
whatever the object had cached before, after `format()` returned `True` on a Topaz (memory of at
least 120 bytes) resp. Topaz-512 (512 bytes) a write of any message up to the capacity of the factory
layout (90 resp. 462 bytes) through the same object is confined to the area of the factory layout:
never the UID, the capability container, the Lock / Memory Control TLVs at 12..21 of the Topaz-512,
the NDEF TLV's tag byte or bytes 104..127. -/
theorem topaz_format_then_write_confined (s : Sess) (version wipe : Option Nat) (data : Bytes) :
    (Coherent .topaz s → 120 ≤ s.tag.length → (step .topaz true s (.format version wipe)).1.res = .ok true →
      data.length ≤ 90 →
      (∀ cmd ∈ (step .topaz true (step .topaz true s (.format version wipe)).2 (.write data)).1.cmds,
          ∃ x, cmd.1 ≤ x ∧ x < cmd.1 + cmd.2.length ∧ Area topazLayout x)
      ∧ ∀ x, ¬ Area topazLayout x →
          (step .topaz true (step .topaz true s (.format version wipe)).2 (.write data)).2.tag[x]?
            = (step .topaz true s (.format version wipe)).2.tag[x]?)
    ∧ (Coherent .topaz512 s → 512 ≤ s.tag.length → (step .topaz512 true s (.format version wipe)).1.res = .ok true →
      data.length ≤ 462 →
      (∀ cmd ∈ (step .topaz512 true (step .topaz512 true s (.format version wipe)).2 (.write data)).1.cmds,
          ∃ x, cmd.1 ≤ x ∧ x < cmd.1 + cmd.2.length ∧ Area topaz512Layout x)
      ∧ ∀ x, ¬ Area topaz512Layout x →
          (step .topaz512 true (step .topaz512 true s (.format version wipe)).2 (.write data)).2.tag[x]?
            = (step .topaz512 true s (.format version wipe)).2.tag[x]?) := by
  constructor
  · intro hc hlen hok hd
    obtain ⟨_, hgen⟩ := format_then_write_confined .topaz s version wipe hc hok
    have htag : ∃ m', formatTopazV s.tag version wipe = .ok (some m')
        ∧ (step .topaz true s (.format version wipe)).2.tag = m' := by
      simp only [step] at hok ⊢
      cases hf : formatTopazV s.tag version wipe with
      | error e => rw [hf] at hok; simp at hok
      | ok r => cases r with
        | none => rw [hf] at hok; simp at hok
        | some m' =>
          refine ⟨m', rfl, ?_⟩
          simp only
          have hl := (formatTopazV_hdr s.tag m' version wipe hf).1
          exact apply_diff 1 (by omega) _ _ hl.symm
    obtain ⟨m', hf, htg⟩ := htag
    obtain ⟨hrd, hwf⟩ := topaz_format_layout s.tag m' version wipe hf hlen
    rw [htg] at hgen ⊢
    exact hgen data topazLayout ((readNdef_some _ _ _).2 hrd) hwf (by show (data.length : Int) ≤ 90; omega)
      (fun _ => by decide) rfl
  · intro hc hlen hok hd
    obtain ⟨_, hgen⟩ := format_then_write_confined .topaz512 s version wipe hc hok
    have htag : ∃ m', formatTopaz512V s.tag version wipe = .ok (some m')
        ∧ (step .topaz512 true s (.format version wipe)).2.tag = m' := by
      simp only [step] at hok ⊢
      cases hf : formatTopaz512V s.tag version wipe with
      | error e => rw [hf] at hok; simp at hok
      | ok r => cases r with
        | none => rw [hf] at hok; simp at hok
        | some m' =>
          refine ⟨m', rfl, ?_⟩
          simp only
          have hl := (formatTopaz512V_hdr s.tag m' version wipe hf).1
          exact apply_diff 8 (by omega) _ _ hl.symm
    obtain ⟨m', hf, htg⟩ := htag
    obtain ⟨hrd, hwf⟩ := topaz512_format_layout s.tag m' version wipe hf hlen
    rw [htg] at hgen ⊢
    exact hgen data topaz512Layout ((readNdef_some _ _ _).2 hrd) hwf (by show (data.length : Int) ≤ 462; omega)
      (fun _ => by decide) rfl

/-! ## What the invalidation is needed for (seeded change C03-r3m4), and non-vacuity

A Topaz-512 whose NDEF TLV directly follows the capability container (legal).  The application reads
the message, formats, writes three bytes - all through one tag object. -/
def ceM : Bytes :=
  [1, 2, 3, 4, 5, 6, 7, 0] ++ [0xE1, 0x10, 0x3F, 0] ++ [3, 1, 0x42, 0xFE] ++ List.replicate 496 0
def ceOps : List Op := [.read, .format none none, .write [0xA1, 0xA2, 0xA3]]

/-- With a `format()` that keeps the cached NDEF object (`drop = false`) the write uses the stale
offset 12 and the stale memory image: three WRITE-E8 commands go to block 1 (bytes 8..15: capability
container and the place of the Lock Control TLV), which lies wholly outside the NDEF area of the
layout that is on the tag (`topaz512Layout`, NDEF TLV at 22).  The code as it is (`drop = true`) sends
blocks 3 and 2 (the message behind the NDEF TLV at 22, then its length byte at 23). -/
theorem format_keep_cache_counterexample :
    (run .topaz512 false ⟨ceM, none⟩ ceOps).1.map (·.cmds) =
      [[], [(8, [225, 16, 63, 0, 1, 3, 242, 48]), (16, [51, 2, 3, 240, 2, 3, 3, 0])],
       [(8, [225, 16, 63, 0, 3, 0, 66, 254]), (8, [225, 16, 63, 0, 3, 0, 161, 162]),
        (16, [163, 254, 0, 0, 0, 0, 0, 0]), (8, [225, 16, 63, 0, 3, 3, 161, 162])]]
    ∧ (∀ x, 8 ≤ x → x < 16 → ¬ Area topaz512Layout x)
    ∧ (run .topaz512 true ⟨ceM, none⟩ ceOps).1.map (·.cmds) =
      [[], [(8, [225, 16, 63, 0, 1, 3, 242, 48]), (16, [51, 2, 3, 240, 2, 3, 3, 0])],
       [(24, [161, 162, 163, 254, 0, 0, 0, 0]), (16, [51, 2, 3, 240, 2, 3, 3, 3])]] := by
  -- both runs are evaluated with the write-back in its one-pass form (`diffUnits` takes a slice of the 512 bytes per block and
  -- image); `rw`, not `simp only [run, step]`: the kernel would check that unfolding of the concrete session by running it
  refine ⟨?_, fun x h1 h2 hA => ?_, ?_⟩
  · rw [ceOps, run, run, run, run, step, step, step]
    simp only [setOctets, writeCmds, diffUnits_eq_diffFrom]
    decide +kernel
  · have := hA.1
    simp [topaz512Layout] at this
    omega
  · rw [ceOps, run, run, run, run, step, step, step]
    simp only [setOctets, writeCmds, diffUnits_eq_diffFrom]
    decide +kernel

/-- the hypotheses of the session theorems hold on this session: fresh object, admissible calls -/
example : Coherent .topaz512 ⟨ceM, none⟩ := coherent_fresh _ _
example : (step .topaz512 true ⟨ceM, none⟩ (.format none (some 0))).1.res = .ok true ∧ 512 ≤ ceM.length := by
  decide +kernel

end NfcVerif.C03Sess
