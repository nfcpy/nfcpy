import NfcVerif.Lemmas.FnBridgeSnepHo
import NfcVerif.Props.C06
/-!
# Bridge theorems, group SnepHo (`nfc/snep/client.py`, `nfc/snep/server.py`, `nfc/handover/server.py`,
`nfc/handover/client.py` -> `Gen/FnSnepHo.lean` -> `Model/FnSnepHoRef.lean`, `Model/SnepObj.lean`, `Model/SnepChannel.lean`)

Properties C06 (acceptable length, fragmentation, client histories), C07 (empty first fragment), C09 (listen loops end
with the link).  The cuts are listed in `harness/fnspecs/snepho.py`.  All socket calls are oracle parameters of type
`.. -> Py ..`; every theorem holds for every oracle.

* `recv_response_bridge`: the whole `recv_response` is `FnSnepHoRef.recvResponse` (header checks, acceptable length in
  front of the Continue request, reassembly loop with the same fuel);
* `srv_respond_bridge`, `ho_respond_bridge`: the response fragment loops are `sendEach` / `sendWhile` over `Chan.chunks`
  (send MIU >= 1);
* `listen_loop_bridge`, `ho_listen_loop_bridge`: the accept loops are `listenLoop` (no handler inside the loop);
* `put_release_bridge`, `get_release_bridge`, `request_release_bridge`, `finally_bridge`: `release_connection` bookkeeping;
  `SnepObj.request` (C06 client-history model, `sticky := false`) is the composition of the regenerated pieces;
* `close_bridge`, `connect_bridge`, `exchange_calls_bridge`: `SnepClient.close` / `connect`, the calls of
  `send_request` / `recv_response` with their arguments;
* `process_bridge`, `handlers_bridge`: `process_snep_request` dispatch and its handlers;
* `ho_guard_bridge`, `ho_step_bridge`, `ho_modes_bridge`, `serve_pieces_bridge`: pieces of the serve loops at pinned positions;
* `gen_*`: the property statements for the regenerated code.
-/
namespace NfcVerif.FnBridge.SnepHo
open NfcVerif NfcVerif.PyFn NfcVerif.Chan NfcVerif.Snep NfcVerif.FnSnepHoRef NfcVerif.FnBridge NfcVerif.FnBridge.Snep

theorem recv_response_bridge (fuel : Nat) (acc timeout : Int) (poll : String → Int → Py Bool) (recv : Py Bytes)
    (send : Bytes → Py Bool) :
    Gen.Fn.sh_recv_response fuel acc timeout poll recv send = recvResponse fuel acc (poll "recv" timeout) recv send := by
  unfold Gen.Fn.sh_recv_response recvResponse
  cases poll "recv" timeout with
  | error e => rfl
  | ok b =>
    cases b with
    | false => rfl
    | true =>
      cases recv with
      | error e => rfl
      | ok r =>
        have e3 : ube (r.take 6) (0 + 2) 4 = ((rspLength r : Nat) : Int) := ube_nat _ 2 4
        simp only [Py.bind_ok, if_true, len_eq, show (6 : Int) = ((6 : Nat) : Int) from rfl, sliceTo_ofNat, needExact_nat,
          List.length_take, e3, Int.ofNat_lt]
        by_cases h6 : r.length < 6
        · rw [if_pos h6, if_pos h6]
        · rw [if_neg h6, if_neg h6, if_pos (by omega)]
          simp only [Py.bind_ok]
          by_cases hb : ((rspLength r : Nat) : Int) > acc
          · rw [if_pos hb, if_pos hb]
          · rw [if_neg hb, if_neg hb]
            by_cases hm : (r.length : Int) - (6 : Nat) < ((rspLength r : Nat) : Int)
            · rw [if_pos hm, if_pos hm]
              show (send contReq >>= _) = _
              cases send contReq with
              | error e => rfl
              | ok b => exact whileC_reasm (Except.ok true) (Except.ok r) (rspLength r) fuel r
            · rw [if_neg hm, if_neg hm]

theorem srv_respond_bridge (data : Bytes) (miu : Nat) (hm : 0 < miu) (recv : Py Bytes) (send : Bytes → Py Bool) :
    Gen.Fn.sh_srv_respond data (miu : Int) recv send = srvRespond data miu recv send := by
  unfold Gen.Fn.sh_srv_respond srvRespond
  simp only [len_eq, Int.ofNat_le]
  by_cases hfit : data.length ≤ miu
  · rw [if_pos hfit, if_pos hfit]
    cases send data with
    | error e => rfl
    | ok b => rfl
  · rw [if_neg hfit, if_neg hfit, slice_zero_cast]
    cases send (data.take miu) with
    | error e => rfl
    | ok b =>
      cases recv with
      | error e => rfl
      | ok m =>
        simp only [Py.bind_ok]
        by_cases hc : m = [16, 0, 0, 0, 0, 0]
        · have hc' : m = contReq := hc
          rw [if_pos hc, if_pos hc', rangeStep_offs miu data.length miu hm]
          simp only [Py.bind_ok]
          rw [forM_sendEach send (fun (offset : Int) => slice data offset (offset + (miu : Int))), offs_slices data miu miu hm]
          cases sendEach send (chunks miu (List.drop miu data)) with
          | error e => rfl
          | ok u => rfl
        · have hc' : ¬ m = contReq := hc
          rw [if_neg hc, if_neg hc']
          rfl

theorem ho_respond_bridge (response : Bytes) (miu : Nat) (hm : 0 < miu) (send : Bytes → Py Bool) :
    Gen.Fn.sh_ho_respond response (miu : Int) send
      = match hoRespond response miu send with
        | .error e => .error e
        | .ok _ => .ok none := by
  unfold Gen.Fn.sh_ho_respond hoRespond
  rw [len_eq, rangeStep_zero response.length miu hm]
  simp only [Py.bind_ok]
  rw [forC_sendWhile send (fun (offset : Int) => slice response offset (offset + (miu : Int))), offs_slices response 0 miu hm,
    List.drop_zero]
  cases sendWhile send (chunks miu response) with
  | error e => rfl
  | ok b => cases b <;> rfl

theorem listen_loop_bridge (fuel : Nat) (ct : Int) (start : Py Unit) (accept : Py Int) :
    Gen.Fn.sh_listen_loop fuel ct start accept = listenLoop accept start fuel := by
  unfold Gen.Fn.sh_listen_loop
  induction fuel with
  | zero => rfl
  | succ n ih =>
    unfold listenLoop
    simp only [PyFn.whileM, decide_true]
    cases accept with
    | error e => rfl
    | ok s =>
      cases start with
      | error e => rfl
      | ok u => simpa using ih

theorem ho_listen_loop_bridge (fuel : Nat) (ct : Int) (start : Py Unit) (accept : Py Int) :
    Gen.Fn.sh_ho_listen_loop fuel ct start accept = listenLoop accept start fuel :=
  listen_loop_bridge fuel ct start accept


theorem put_release_bridge {α} (s : Option α) : putReleaseGen (sockTok s) = releaseAfter s.isSome := by
  cases s <;> simp [putReleaseGen, sockTok, releaseAfter, Gen.Fn.sh_put_need_connect, Gen.Fn.sh_put_release_opened,
    Gen.Fn.sh_put_release_kept]

theorem get_release_bridge {α} (s : Option α) : getReleaseGen (sockTok s) = releaseAfter s.isSome := by
  cases s <;> simp [getReleaseGen, sockTok, releaseAfter, Gen.Fn.sh_get_need_connect, Gen.Fn.sh_get_release_opened,
    Gen.Fn.sh_get_release_kept]

theorem request_release_bridge (w : SnepObj.World) (fuel : Nat) (o : SnepObj.Obj) (op : Op) (octets : Bytes) :
    SnepObj.request w fuel false o op octets = requestGen w fuel o op octets := by
  unfold SnepObj.request requestGen
  cases h : o.sock with
  | none =>
    simp only [sockTok, Gen.Fn.sh_put_need_connect, Gen.Fn.sh_put_release_opened, Option.map_none]
    rfl
  | some c =>
    simp [sockTok, Gen.Fn.sh_put_need_connect, Gen.Fn.sh_put_release_kept]

theorem finally_bridge (release : Bool) (close : Py Unit) :
    Gen.Fn.sh_put_finally release close = (if release = true then close else .ok ())
    ∧ Gen.Fn.sh_get_finally release close = (if release = true then close else .ok ()) := by
  unfold Gen.Fn.sh_put_finally Gen.Fn.sh_get_finally
  cases release <;> cases close <;> exact ⟨rfl, rfl⟩

theorem close_bridge (sock : Option Int) (sclose : Py Unit) :
    Gen.Fn.sh_close sock sclose
      = (match sock with
         | none => .ok none
         | some s => if s ≠ 0 then (match sclose with | .error e => .error e | .ok _ => .ok none) else .ok (some s))
    ∧ Gen.Fn.sh_ho_close sock sclose = Gen.Fn.sh_close sock sclose := by
  unfold Gen.Fn.sh_close Gen.Fn.sh_ho_close
  refine ⟨?_, rfl⟩
  cases sock with
  | none => rfl
  | some s =>
    by_cases h : s ≠ 0
    · simp only [if_pos h]
      cases sclose <;> rfl
    · simp only [if_neg h]
      rfl

theorem connect_bridge (name : String) (llc dlc so : Int) (mksock : Int → Int → Py Int) (close : Py Unit)
    (sconnect : String → Py Unit) (getsockopt : Int → Py Int) :
    Gen.Fn.sh_connect name llc dlc so mksock close sconnect getsockopt
      = (match close with
         | .error e => .error e
         | .ok _ =>
           match mksock llc dlc with
           | .error e => .error e
           | .ok _ =>
             match sconnect name with
             | .error e => .error e
             | .ok _ => getsockopt so) := by
  unfold Gen.Fn.sh_connect
  cases close with
  | error e => rfl
  | ok u =>
    cases mksock llc dlc with
    | error e => rfl
    | ok sk =>
      cases sconnect name with
      | error e => rfl
      | ok u2 => cases getsockopt so <;> rfl

theorem ho_guard_bridge (request : Bytes) : Gen.Fn.sh_ho_guard request = decide (request = []) := by
  unfold Gen.Fn.sh_ho_guard
  cases request with
  | nil => rfl
  | cons a t =>
    have : ¬ (PyFn.len (a :: t) = 0) := by rw [len_eq, List.length_cons]; omega
    simp [this]

theorem ho_step_bridge (complete : Bytes → Bool) (request : Bytes) : hoStepGen complete request = hoStep complete request := by
  unfold hoStepGen hoStep
  rw [ho_guard_bridge]
  simp

theorem ho_modes_bridge : Gen.Fn.sh_ho_complete_mode = completeMode ∧ Gen.Fn.sh_ho_process_mode = processMode
    ∧ Gen.Fn.sh_ho_complete_mode ≠ Gen.Fn.sh_ho_process_mode := by
  refine ⟨rfl, rfl, ?_⟩
  decide

theorem serve_pieces_bridge (data received : Bytes) (recv : Py Bytes) (send : Bytes → Py Bool) :
    Gen.Fn.sh_srv_more_first recv send = send contRsp
    ∧ Gen.Fn.sh_srv_append data received = data ++ received
    ∧ Gen.Fn.sh_srv_first recv send = recv := by
  refine ⟨rfl, rfl, ?_⟩
  unfold Gen.Fn.sh_srv_first
  cases recv <;> rfl

theorem handlers_bridge : Gen.Fn.sh_process_bad = (0xC2, []) ∧ Gen.Fn.sh_process_notfound = (0xC0, [])
    ∧ Gen.Fn.sh_ho_recv_closed = [] ∧ (∀ e : Int, Gen.Fn.sh_listen_debug e = decide (e = 32)) :=
  ⟨rfl, rfl, rfl, fun _ => rfl⟩

theorem exchange_calls_bridge (request : Bytes) (sock miu acc timeout : Int) (rr : Int → Int → Int → Py (Option Bytes))
    (sr : Int → Bytes → Int → Py Bool) :
    Gen.Fn.sh_put_send_test request sock miu rr sr = (match sr sock request miu with | .error e => .error e | .ok b => .ok (!b))
    ∧ Gen.Fn.sh_get_send_test request sock miu rr sr = (match sr sock request miu with | .error e => .error e | .ok b => .ok (!b))
    ∧ Gen.Fn.sh_put_recv_call timeout sock rr sr = rr sock 0 timeout
    ∧ Gen.Fn.sh_get_recv_call timeout sock acc rr sr = rr sock acc timeout := by
  unfold Gen.Fn.sh_put_send_test Gen.Fn.sh_get_send_test
  refine ⟨?_, ?_, rfl, rfl⟩ <;> (cases sr sock request miu with | error e => rfl | ok b => cases b <;> rfl)

theorem process_bridge (d : Bytes) (records : Int) (isInt : Bool) (encoded : Bytes) (onGet onPut : Int → Py Int) :
    Gen.Fn.sh_process d records isInt encoded onGet onPut = processDispatch d records isInt encoded onGet onPut := by
  unfold Gen.Fn.sh_process processDispatch
  match d with
  | [] => simp [getB_nil]
  | [a] => simp [getB_one, getB_nil]
  | a :: code :: t =>
    have hg : PyFn.getB (a :: code :: t) 1 = .ok (code : Int) := by rw [getB_one, getB_zero]
    simp only [hg, Py.bind_ok, len_eq]
    by_cases hget : code = 1 ∧ 10 ≤ (a :: code :: t).length
    · have hget' : ((code : Int) = 1) ∧ (((a :: code :: t).length : Int) ≥ 10) := ⟨by omega, by omega⟩
      rw [if_pos hget', if_pos hget]
      simp only [lit_cast, slice_cast, needExact_nat, ube_nat, List.length_take, List.length_drop, List.drop_zero,
        List.take_take, Nat.min_self]
      rw [if_pos (by omega)]
      simp only [Py.bind_ok]
      cases onGet records with
      | error e => rfl
      | ok rsp =>
        simp only [Py.bind_ok]
        cases isInt with
        | true =>
          simp
          rw [if_neg (by omega)]
          exact ⟨rfl, rfl⟩
        | false => simp  -- `len(encoded) > acceptable` on ints and on naturals
    · have hget' : ¬ (((code : Int) = 1) ∧ (((a :: code :: t).length : Int) ≥ 10)) := by
        intro h; exact hget ⟨by omega, by omega⟩
      rw [if_neg hget', if_neg hget]
      by_cases h2 : code = 2
      · have h2' : (code : Int) = 2 := by omega
        rw [if_pos h2', if_pos h2]
        cases onPut records <;> rfl
      · have h2' : ¬ (code : Int) = 2 := by omega
        rw [if_neg h2', if_neg h2]
        rfl

/-! ## property statements for the regenerated code -/

/-- C06 (acceptable length, client side): a response whose header announces more than the acceptable length is never
returned by the regenerated `recv_response`, complete or as a first fragment, whatever the socket does afterwards -/
theorem gen_recv_oversize_dropped (fuel : Nat) (acc timeout : Int) (poll : String → Int → Py Bool) (r : Bytes)
    (send : Bytes → Py Bool) (hp : poll "recv" timeout = .ok true) (h : (rspLength r : Int) > acc) :
    Gen.Fn.sh_recv_response fuel acc timeout poll (.ok r) send = .ok none := by
  rw [recv_response_bridge]
  exact recvResponse_oversize fuel acc _ r send hp h

/-- C09: every exception of `accept()` - every `nfc.llcp.Error`, whatever its errno - ends both regenerated listen loops -/
theorem gen_listen_ends_on_any_error (fuel : Nat) (ct : Int) (start : Py Unit) (e : Exc) :
    Gen.Fn.sh_listen_loop (fuel + 1) ct start (.error e) = .error e
    ∧ Gen.Fn.sh_ho_listen_loop (fuel + 1) ct start (.error e) = .error e := by
  rw [listen_loop_bridge, ho_listen_loop_bridge]
  exact ⟨rfl, rfl⟩

/-- ... and nothing but an exception ends them -/
theorem gen_listen_only_exception (fuel : Nat) (ct s : Int) :
    Gen.Fn.sh_listen_loop fuel ct (.ok ()) (.ok s) = .error .outOfFuel := by
  rw [listen_loop_bridge]
  exact listenLoop_only_exception s fuel

/-- C06 (client histories): `release_connection` is true iff the connection was opened by that very call -/
theorem gen_release_iff {α} (s : Option α) :
    (putReleaseGen (sockTok s) = true ↔ s = none) ∧ (getReleaseGen (sockTok s) = true ↔ s = none) := by
  rw [put_release_bridge, get_release_bridge]
  cases s <;> simp [releaseAfter]

/-- C07: an empty reassembly buffer never reaches the completeness test nor `records[0]` -/
theorem gen_ho_empty_never_processed (complete : Bytes → Bool) : hoStepGen complete [] = .needData := by
  rw [ho_step_bridge]
  rfl

/-- C06: the fragments the regenerated SNEP server response loop offers (peer sent Continue, socket accepts) are the
model's `Chan.fragments`, which concatenate to the response -/
theorem gen_respond_offers_fragments (data : Bytes) (miu : Nat) (hm : 0 < miu) (hbig : ¬ data.length ≤ miu)
    (send : Bytes → Py Bool) :
    Gen.Fn.sh_srv_respond data (miu : Int) (.ok contReq) send = sendEach send (fragments miu data)
    ∧ (fragments miu data).flatten = data := by
  refine ⟨?_, ?_⟩
  · rw [srv_respond_bridge data miu hm]
    unfold srvRespond fragments
    rw [if_neg hbig]
    simp only [sendEach]
    cases send (data.take miu) <;> simp
  · have hd : data ≠ [] := by intro h; subst h; simp at hbig
    exact ((C06.frag_concat miu hm data).2 hd).1

/-- C06: a GET response longer than the acceptable length of the request is answered ExcessData with no octet of it -/
theorem gen_process_excess (a : Nat) (t : Bytes) (hl : 10 ≤ (a :: 1 :: t).length)
    (records rsp : Int) (encoded : Bytes) (onGet onPut : Int → Py Int) (hg : onGet records = .ok rsp)
    (hx : encoded.length > beNat (((a :: 1 :: t).drop 6).take 4)) :
    Gen.Fn.sh_process (a :: 1 :: t) records false encoded onGet onPut = .ok (0xC1, []) := by
  rw [process_bridge]
  exact process_excess _ a 1 t rfl rfl hl records rsp encoded onGet onPut hg hx

/-! ## non-vacuity -/

/-- a complete two-octet response under a 10-octet limit is returned; announced 300 octets are refused -/
example : Gen.Fn.sh_recv_response 3 10 1 (fun _ _ => .ok true) (.ok [0x10, 0x81, 0, 0, 0, 2, 7, 8]) (fun _ => .ok true)
    = .ok (some [0x10, 0x81, 0, 0, 0, 2, 7, 8]) := by decide
example : Gen.Fn.sh_recv_response 3 10 1 (fun _ _ => .ok true) (.ok [0x10, 0x81, 0, 0, 1, 44, 7, 8]) (fun _ => .ok true)
    = .ok none := by decide
/-- fragmented: Continue is sent, the oracle repeats its answer until the announced length is there -/
example : Gen.Fn.sh_recv_response 5 100 1 (fun _ _ => .ok true) (.ok [0x10, 0x81, 0, 0, 0, 10, 7, 8]) (fun _ => .ok true)
    = .ok (some [0x10, 0x81, 0, 0, 0, 10, 7, 8, 0x10, 0x81, 0, 0, 0, 10, 7, 8]) := by decide
example : Gen.Fn.sh_listen_loop 5 0 (.ok ()) (.error (.llcp 108)) = .error (.llcp 108) := by decide
example : Gen.Fn.sh_srv_respond [1, 2, 3, 4, 5] 2 (.ok contReq) (fun f => if f = [5] then .error .brokenLink else .ok true)
    = .error .brokenLink := by decide
example : Gen.Fn.sh_ho_respond [1, 2, 3, 4, 5] 2 (fun f => .ok (decide (f ≠ [3, 4]))) = .ok none := by decide
example : hoRespond [1, 2, 3, 4, 5] 2 (fun f => .ok (decide (f ≠ [3, 4]))) = .ok false := by decide
example : putReleaseGen (sockTok (none : Option Nat)) = true ∧ putReleaseGen (sockTok (some 7)) = false := by decide
example : Gen.Fn.sh_process [0x10, 1, 0, 0, 0, 4, 0, 0, 0, 2] 0 false [1, 2, 3] (fun _ => .ok 0) (fun _ => .ok 0x81)
    = .ok (0xC1, []) := by decide
example : Gen.Fn.sh_process [0x10, 2, 0, 0, 0, 0] 0 false [] (fun _ => .ok 0) (fun _ => .ok 0x81) = .ok (0x81, []) := by decide
example : Gen.Fn.sh_close (some 5) (.ok ()) = .ok none := by decide
example : hoStepGen (fun _ => true) [] = .needData ∧ hoStepGen (fun _ => true) [0xd0, 0, 0] = .process := by decide

end NfcVerif.FnBridge.SnepHo
