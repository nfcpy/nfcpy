import NfcVerif.Lemmas.ErrMap
/-!
# C13 - Drivers report RF and host-link failures only as documented errors

The theorems of the property; the lemmas behind them are in `Lemmas/ErrMap.lean`.  Model:
`Model/ErrMap.lean` (transcription of `pn53x.Chipset.command`,
`acr122.Chipset.command`, `rcs380.Chipset.send_command`, the chipset functions
of an RF exchange, `send_cmd_recv_rsp` / `send_rsp_recv_cmd` of pn53x, rcs380,
udp and `ContactlessFrontend.exchange`).

The host link is universally quantified: `w i : Host` is what
`transport.write` does and what the successive `transport.read` calls deliver
during the `i`-th host command (any errno, any octets: short, garbled, foreign
frames), `polls` the same for the register polls of the Type 3 Tag target
loop.  A chip status is the first payload octet of a well-formed response
(`Ev.good p`), quantified over all values.

`Variant.repaired` is the tree with the three `fix:` commits of `fixes/C13`
(pn53x, rcs380 `StatusError`, udp); `Variant.asFound` the tree before them.
-/
namespace NfcVerif.C13
open NfcVerif NfcVerif.ErrMap NfcVerif.HostFrame

/-- `Chipset.command` of the PN53x family and of the ACR122 raises, for every
behaviour of the host link (any write result, any sequence of read results
with arbitrary octets), only `IOError` or the error-frame `Chipset.Error(0x7F)`. -/
theorem host_command_documented (cmd : Nat) (h : Host) :
    Safe (fun e => (∃ n, e = .io n) ∨ e = .chipsetError 0x7F) (pnCommand cmd h) ∧
    Safe (fun e => (∃ n, e = .io n) ∨ e = .chipsetError 0x7F) (acrCommand cmd h) :=
  ⟨pnCommand_doc cmd h, acrCommand_doc cmd h⟩

example : pnCommand 0x42 ⟨.ok, [.frame ack, .raise 110]⟩ = .error (.io 110) := by decide
example : pnCommand 0x42 ⟨.ok, [.frame ack, .frame [0, 0, 0xFF, 1, 0xFF, 0x7F, 0x81, 0]]⟩ = .error (.chipsetError 0x7F) := by
  decide

/-- PARTIAL (hypothesis `PayloadOK`) for pn531, pn532, pn533, rcs956, acr122, arygon
(A and B); full for udp.  Both directions, every target kind: whatever the host link
does at EVERY host command of the exchange and whatever status the chip reports,
the caller of `ContactlessFrontend.exchange` gets data or TimeoutError /
TransmissionError / BrokenLinkError / ProtocolError / IOError - never
`Chipset.Error`, IndexError, struct.error, ValueError...
Missing part: `PayloadOK` - responses that pass the frame validation carry the number
of octets the chip manual specifies (a status octet, one value per register read, at
least two FIFO octets).  Without it the statement is false on the current code, see
`short_payload_counterexample` and `fifo_single_register_counterexample` (open findings
`pn53x-short-payload-internal-error`, `pn53x-fifo-level-internal-error`). -/
theorem driver_outcome_documented_partial (c : Cfg) (brty : Bytes) (w : Nat → Host) (polls : List Host)
    (h380 : c.drv ≠ .rcs380) (hp : c.drv ≠ .udp → PayloadOK c w polls) :
    Safe Documented (exchange .repaired c brty w polls) := by
  rw [exchange_eq]
  by_cases hu : c.drv = .udp
  · exact udp_exchange_doc c brty w polls hu
  · exact pn_exchange_doc c brty w polls h380 hu (hp hu)

/-- the full statement for the PN53x family and udp (no hypothesis on payload lengths) -/
def PnFullStatement : Prop :=
  ∀ (c : Cfg) (brty : Bytes) (w : Nat → Host) (polls : List Host), c.drv ≠ .rcs380 →
    Safe Documented (exchange .repaired c brty w polls)

/-- nominal world: every host command is acknowledged and answered with `p i` -/
def nominalWorld (p : Nat → Bytes) : Nat → Host := fun i => ⟨.ok, [.frame ack, .good (p i)]⟩

/-- non-vacuity: the nominal PN533 Type 2 Tag exchange satisfies `PayloadOK` and returns data;
a status 0x01 at the RF command satisfies it too and gives TimeoutError -/
example : PayloadOK ⟨.pn533, .initiator, .thru, true, false, true⟩
    (nominalWorld fun i => if i = 0 then [0, 1, 2, 3] else if i = 3 then [0, 0xAA] else [0]) [] := by
  refine ⟨?_, ?_, ?_⟩ <;> intro p hp <;> cases hp <;> simp [RegShape, WrShape, famOf]
example : exchange .repaired ⟨.pn533, .initiator, .thru, true, false, true⟩ []
    (nominalWorld fun i => if i = 0 then [0, 1, 2, 3] else if i = 3 then [0, 0xAA] else [0]) [] = .ok (some [0xAA]) := by
  decide
example : exchange .repaired ⟨.pn533, .initiator, .thru, true, false, true⟩ []
    (nominalWorld fun i => if i = 0 then [0, 1, 2, 3] else if i = 3 then [1] else [0]) [] = .error .timeout := by
  decide

/-- The full statement is false on the current code: a well-formed InCommunicateThru
response without status octet (`D5 43`) reaches `chipset_error(bytearray())`, whose
`cause[0]` raises IndexError out of `exchange()`. -/
theorem short_payload_counterexample : ¬ PnFullStatement := by
  intro h
  have hs := h ⟨.pn531, .initiator, .thru, true, false, true⟩ []
    (nominalWorld fun i => if i = 0 then [1, 2, 3] else []) [] (by decide) .index (by decide)
  rcases hs with h | h | h | h | ⟨n, h⟩ <;> cases h

/-- As coded `read_register` returns an int for one register: in the Type 3 Tag target
loop a FIFO level of 1 makes `bytearray(int)`; with the octet 0 the frame is empty and
`fifo_data[0]` raises IndexError out of `exchange()`. -/
theorem fifo_single_register_counterexample :
    exchange .repaired ⟨.pn531, .target, .thru, false, true, true⟩ []
      (nominalWorld fun i => if i = 3 then [1] else if i = 4 then [0] else [])
      [⟨.ok, [.frame ack, .good [0x20, 0]]⟩] = .error .index := by decide

/-- RC-S380, PARTIAL: holds when every host command of the exchange either
fails with a transport IOError or completes with a response of the specified
minimum length (`RcsHostOk`).  Missing part: short, garbled or unexpected
frames - `send_command` does not validate them, see
`rcs380_short_frame_counterexample` (open findings
`rcs380-host-frame-internal-error`, `rcs380-host-garbage-returns-none`).
All 2^32 communication status words and all status octets are covered. -/
theorem driver_outcome_documented_rcs380_partial (c : Cfg) (brty : Bytes) (w : Nat → Host) (polls : List Host)
    (h380 : c.drv = .rcs380) (hh : RcsHostOk c w) :
    Safe Documented (exchange .repaired c brty w polls) := by
  rw [exchange_eq]
  exact rcs_exchange_doc c brty w polls h380 hh

/-- the full statement for the RC-S380 (no hypothesis on the host link) -/
def Rcs380FullStatement : Prop :=
  ∀ (c : Cfg) (brty : Bytes) (w : Nat → Host) (polls : List Host), c.drv = .rcs380 →
    Safe Documented (exchange .repaired c brty w polls)

def rcsNominal : Nat → Host :=
  nominalWorld fun i => if i = 3 then [0, 0, 0, 0, 8, 0xAA] else [0]

example : RcsHostOk ⟨.rcs380, .initiator, .thru, true, false, true⟩ rcsNominal := by
  refine ⟨Or.inr ⟨[0], rfl, by simp⟩, Or.inr ⟨[0], rfl, by simp⟩, Or.inr ⟨[0], rfl, by simp⟩,
    Or.inr ⟨[0, 0, 0, 0, 8, 0xAA], rfl, by simp⟩⟩
example : exchange .repaired ⟨.rcs380, .initiator, .thru, true, false, true⟩ [] rcsNominal [] = .ok (some [0xAA]) := by
  decide

/-- The full RC-S380 statement is false on the current code: the response
`00 00 FF FF FF 03` (a data frame cut after six octets) to InSetRF makes
`exchange()` raise `struct.error`. -/
theorem rcs380_short_frame_counterexample : ¬ Rcs380FullStatement := by
  intro h
  have hs := h ⟨.rcs380, .initiator, .thru, true, false, true⟩ []
    (fun i => if i = 0 then ⟨.ok, [.frame ack, .frame [0, 0, 0xFF, 0xFF, 0xFF, 3]]⟩ else rcsNominal i) [] rfl
    .struct (by decide)
  rcases hs with h | h | h | h | ⟨n, h⟩ <;> cases h

/-- As found (F19): the error frame `00 00 FF 01 FF 7F 81 00` in response to the
first ReadRegister of `send_cmd_recv_rsp` reaches the caller as `Chipset.Error`. -/
theorem asfound_chipset_error_counterexample :
    exchange .asFound ⟨.pn531, .initiator, .thru, true, false, true⟩ []
      (fun i => if i = 0 then ⟨.ok, [.frame ack, .frame [0, 0, 0xFF, 1, 0xFF, 0x7F, 0x81, 0]]⟩
                else nominalWorld (fun i => if i = 0 then [1, 2, 3] else [0, 0xAA]) i) []
      = .error (.chipsetError 0x7F) := by decide

/-- As found (F19): status 1 of InSetRF reaches the caller as rcs380 `StatusError`. -/
theorem asfound_status_error_counterexample :
    exchange .asFound ⟨.rcs380, .initiator, .thru, true, false, true⟩ []
      (fun i => if i = 0 then ⟨.ok, [.frame ack, .good [1]]⟩ else rcsNominal i) []
      = .error .rcsStatus := by decide

/-- As found: the datagram `106A zz` makes the UDP driver raise `binascii.Error` (a ValueError). -/
theorem asfound_udp_counterexample :
    exchange .asFound ⟨.udp, .initiator, .t2, true, false, true⟩ [49, 48, 54, 65]
      (fun i => if i = 1 then ⟨.ok, [.frame [49, 48, 54, 65, 32, 122, 122]]⟩ else ⟨.ok, []⟩) []
      = .error .value := by decide

/-! ## specific clauses -/

/-- Initiator, PN53x family: after the preparatory commands the status octet `s` of
InCommunicateThru decides: 0 → the data, 0x01 → TimeoutError, every other value →
TransmissionError (both variants). -/
theorem initiator_status_clauses (v : Variant) (fam : Fam) (r : Nat → Py Bytes) (s : Nat) (rest : Bytes)
    (hprep : pnPrep fam r = .ok ()) (h3 : r 3 = .ok (s :: rest)) :
    pnSendCmdRecvRsp v fam .thru r =
      if s = 0 then .ok rest else if s = 1 then .error .timeout else .error .transmission := by
  unfold pnSendCmdRecvRsp pnBodyI
  rw [hprep, h3]
  simp only [Py.bind_ok]
  by_cases h0 : s = 0
  · subst h0; cases v <;> rfl
  · rw [inCommunicateThru_status s rest h0]
    simp only [h0, if_false]
    by_cases h1 : s = 1
    · subst h1; cases v <;> rfl
    · simp only [pnMapI, h1, if_false]; cases v <;> rfl

example : pnPrep .pn531 (fun i => if i = 0 then .ok [1, 2, 3] else .ok []) = .ok () := by decide

/-- Initiator, PN53x family: a host error at the RF command: ETIMEDOUT → TimeoutError,
every other errno → the IOError itself; and what `Chipset.command` makes of a
transport error: write or ACK read failing → IOError(EIO), response read failing
with errno `e` → IOError(e). -/
theorem initiator_host_fault_clauses (v : Variant) (fam : Fam) (path : IPath) (r : Nat → Py Bytes) (e : Nat)
    (hprep : pnPrep fam r = .ok ()) (h3 : r 3 = .error (.io e)) :
    pnSendCmdRecvRsp v fam path r = (if e = ETIMEDOUT then .error .timeout else .error (.io e)) ∧
    (∀ cmd n evs, pnCommand cmd ⟨.raise n, evs⟩ = .error (.io 5)) ∧
    (∀ cmd n evs, pnCommand cmd ⟨.ok, .raise n :: evs⟩ = .error (.io 5)) ∧
    (∀ cmd n evs, pnCommand cmd ⟨.ok, .frame ack :: .raise n :: evs⟩ = .error (.io n)) := by
  refine ⟨?_, fun _ _ _ => rfl, fun _ _ _ => rfl, fun _ _ _ => by simp [pnCommand, pnAwait, ack, startsWith, sof]⟩
  unfold pnSendCmdRecvRsp pnBodyI inCommunicateThru inDataExchange
  rw [hprep, h3]
  by_cases he : e = ETIMEDOUT
  · subst he; cases v <;> cases path <;> rfl
  · cases v <;> cases path <;> simp [pnMapI, he, guardChip]

/-- Target, PN53x family (TgGetInitiatorCommand without data to send): status 0 → the
command data; 0x0A, 0x29, 0x31 (RF field off / released / deselected) → BrokenLinkError;
every other status → TransmissionError. -/
theorem target_status_clauses (r : Nat → Py Bytes) (s : Nat) (rest : Bytes) (h0 : r 0 = .ok (s :: rest)) :
    pnTgOther false r =
      if s = 0 then .ok rest
      else if s = 0x0A ∨ s = 0x29 ∨ s = 0x31 then .error .brokenLink else .error .transmission := by
  unfold pnTgOther tgGetInitiatorCommand
  simp only [Bool.false_eq_true, if_false, Py.pure_eq, Py.bind_ok, h0]
  by_cases hz : s = 0
  · subst hz; rfl
  · rw [inCommunicateThru_status s rest hz]
    simp only [hz, if_false]
    rfl

/-- Target activated as Type 3 Tag: when the first poll of CIU_CommIRq/CIU_DivIRq shows
the external field switched off (DivIRq bit 0) the caller gets BrokenLinkError;
no poll within the timeout → TimeoutError. -/
theorem target_rf_off_tt3 (v : Variant) (r : Nat → Py Bytes) (later : List (Py Bytes)) (commirq divirq : Nat)
    (h0 : r 0 = .ok []) (hd : divirq % 2 = 1) :
    pnTgTt3 v .pn532 r (.ok [commirq, divirq] :: later) = .error .brokenLink ∧
    pnTgTt3 v .pn532 r [] = .error .timeout := by
  unfold pnTgTt3
  simp [h0, writeRegister, tt3Poll, readRegister, regResult, unpack2, hd]
  cases v <;> exact ⟨rfl, rfl⟩

/-- RC-S380 target: for EVERY non-zero 32-bit communication status word: RF_OFF_ERROR
(bit 10) → BrokenLinkError, else RECEIVE_TIMEOUT_ERROR (bit 7) → TimeoutError, else
TransmissionError; initiator: bit 7 → TimeoutError, else TransmissionError. -/
theorem rcs380_status_clauses (st : Nat) :
    (rcsMapT (.error (.comm st) : RPy (Option Bytes)) =
      if (st / 1024) % 2 = 1 then .error .brokenLink
      else if (st / 128) % 2 = 1 then .error .timeout else .error .transmission) ∧
    (rcsMapI (.error (.comm st) : RPy (Option Bytes)) =
      if (st / 128) % 2 = 1 then .error .timeout else .error .transmission) ∧
    (∀ x0 x1 x2 a b c d t, [a, b, c, d] ≠ [0, 0, 0, 0] →
      tgCommRf (.ok (some (x0 :: x1 :: x2 :: a :: b :: c :: d :: t))) =
        .error (.comm (a + 256 * b + 65536 * c + 16777216 * d))) :=
  ⟨rfl, rfl, tgCommRf_status⟩

/-- UDP: `RFOFF…` → BrokenLinkError, silence → TimeoutError, short `sendto` →
TransmissionError, socket error → IOError (both variants). -/
theorem udp_clauses (v : Variant) (brty t : Bytes) (recv : Host) (n : Nat) :
    udpParse v brty (rfoff ++ t) = .error .brokenLink ∧
    udpRecv v brty [] = .error .timeout ∧
    udpExchange v brty true ⟨.short, []⟩ recv = .error .transmission ∧
    udpExchange v brty true ⟨.raise n, []⟩ recv = .error (.io n) := by
  refine ⟨?_, rfl, rfl, rfl⟩
  unfold udpParse
  have : startsWith (rfoff ++ t) rfoff = true := by simp [startsWith, rfoff]
  simp [this]

/-- `ContactlessFrontend.exchange` hands the result of the driver's exchange
function (data or exception) to its caller unchanged; without a device it
raises IOError(ENODEV), without a target it returns None. -/
theorem frontend_exchange_passthrough {α} (a b : Py (Option α)) (t : TargetSel)
    (v : Variant) (c : Cfg) (brty : Bytes) (w : Nat → Host) (polls : List Host) :
    frontendExchange true .remote a b = a ∧ frontendExchange true .local a b = b ∧
    frontendExchange true .none a b = .ok none ∧ frontendExchange false t a b = .error (.io 19) ∧
    exchange v c brty w polls = driverExchange v c brty w polls :=
  ⟨rfl, rfl, rfl, rfl, exchange_eq v c brty w polls⟩

end NfcVerif.C13
