import NfcVerif.Lemmas.DesBytes
import NfcVerif.Lemmas.Mac
import NfcVerif.Lemmas.Auth
import NfcVerif.Lemmas.AuthHist
import NfcVerif.Lemmas.AuthCard
import NfcVerif.Lemmas.AuthNdef
/-!
# C20 - Tag authentication and MAC-protected reads cannot be fooled

The lemmas are in `Lemmas/Des.lean`, `Lemmas/DesBytes.lean`, `Lemmas/Mac.lean`, `Lemmas/Auth.lean`
(first part) and `Lemmas/AuthHist.lean`, `Lemmas/AuthCard.lean`, `Lemmas/AuthNdef.lean` (histories).  Models: `Model/Des.lean` (FIPS 46-3
DES and two-key triple DES), `Model/Mac.lean` (`FelicaLite.generate_mac` over
an abstract cipher), `Model/Auth.lean` (reader side of FeliCa Lite / Lite-S /
NTAG21x authentication, `read_with_mac`, `write_with_mac`, key provisioning,
and the tags of the manuals).

Second part (below `## histories`): the same methods as methods of ONE tag object whose attributes
live on from call to call, against an air interface that is an arbitrary state machine
(`Model/AuthHist.lean`), and against the stateful card of the manuals (`Model/AuthCard.lean`):
every session of every history is decided by its own challenge and the frames that arrive in it,
`write_with_mac` reads the write counter from the card in every call, `read_with_mac` sends one
command for all blocks, mutual authentication succeeds in every card state.

Last part (`## the public attribute tag.ndef`): the NDEF cache and read service of the tag object
(`Model/AuthNdef.lean`): what `tag.ndef` hands out after a successful `authenticate()` was MAC-verified
in that session, resp. (tags without MAC) read again from the tag.

NOT claimed (cryptographic assumptions, DESIGN.md section 11.3, C20, "Assumed"): unforgeability of
the MAC without the key, absence of collisions between messages that differ in
more than one 8-byte group, and hence "authenticate is true ONLY IF the tag
holds the key".
-/
namespace NfcVerif.C20
open NfcVerif NfcVerif.Des NfcVerif.Mac NfcVerif.Auth

/-- A Feistel network is a bijection of the pair of halves, for EVERY round function `f`, every
list of round keys and every "xor" `x` with `x (x a b) b = a`. -/
theorem feistel_bijective {α κ : Type} (x : α → α → α) (f : α → κ → α) (hx : ∀ a b, x (x a b) b = a) (ks : List κ) :
    Function.Injective (feistel x f ks) ∧ Function.Surjective (feistel x f ks) :=
  ⟨Function.LeftInverse.injective (feistel_inv x f hx ks), Function.RightInverse.surjective (feistel_inv' x f hx ks)⟩

example : ∀ a b : Bits 32, xorV (xorV a b) b = a := xorV_cancel

/-- the initial and the final permutation of FIPS 46-3 are permutations, inverse to each other -/
theorem ip_perm : (∀ b : Bits 64, perm fpTbl (perm ipTbl b) = b) ∧ (∀ b : Bits 64, perm ipTbl (perm fpTbl b) = b) :=
  ⟨perm_fp_ip, perm_ip_fp⟩

/-- DES under any key is a bijection of the 64-bit blocks; `desDec` is its inverse -/
theorem des_bijective (key : Bits 64) :
    Function.Injective (desEnc key) ∧ Function.Surjective (desEnc key)
      ∧ (∀ b, desDec key (desEnc key b) = b) ∧ (∀ b, desEnc key (desDec key b) = b) :=
  ⟨Function.LeftInverse.injective (desDec_desEnc key), Function.RightInverse.surjective (desEnc_desDec key),
    desDec_desEnc key, desEnc_desDec key⟩

/-- two-key triple DES (EDE) under any key pair is a bijection -/
theorem tdes_bijective (k1 k2 : Bits 64) :
    Function.Injective (tdesEnc k1 k2) ∧ Function.Surjective (tdesEnc k1 k2)
      ∧ (∀ b, tdesDec k1 k2 (tdesEnc k1 k2 b) = b) :=
  ⟨Function.LeftInverse.injective (tdesDec_tdesEnc k1 k2), Function.RightInverse.surjective (tdesEnc_tdesDec k1 k2),
    tdesDec_tdesEnc k1 k2⟩

/-- at the octet level (what `generate_mac` feeds to pyDes): triple DES maps 8-octet blocks to
8-octet blocks, injectively, under every key string -/
theorem tdes_block_cipher : BlockCipher tdesBytes :=
  fun _ => ⟨fun _ _ => bitsToBytes_block _, fun a b ha hb h =>
    bytesToBits_injOn a b ha hb (Function.LeftInverse.injective (tdesDec_tdesEnc _ _) (bitsToBytes_injective h))⟩

example : BlockCipher (fun _ b => b) := fun _ => ⟨fun _ h => h, fun _ _ _ _ h => h⟩

/-- Two messages of equal length that differ in exactly one 8-byte group (in particular in one
bit) have different MACs, for every key, start value, and with or without the key flip - for every
cipher that is injective on blocks.  `pre`, `post`: the common parts, whole groups. -/
theorem mac_detects_block_change (C : Cipher) (hC : BlockCipher C) (key iv pre post b b' : Bytes) (flip : Bool)
    (hk : key.length = 16) (hiv : Block iv)
    (hpre : pre.length % 8 = 0) (hpost : post.length % 8 = 0) (hpreB : IsBytes pre) (hpostB : IsBytes post)
    (hb : Block b) (hb' : Block b') (hne : b ≠ b') :
    generateMac C (pre ++ b ++ post) key iv flip ≠ generateMac C (pre ++ b' ++ post) key iv flip := by
  have hl : (pre ++ b ++ post).length % 8 = 0 := by simp [hb.1]; omega
  have hl' : (pre ++ b' ++ post).length % 8 = 0 := by simp [hb'.1]; omega
  rw [generateMac_ok C _ key iv flip hl hk hiv.1, generateMac_ok C _ key iv flip hl' hk hiv.1]
  have e1 : chunks8 (pre ++ b ++ post) = chunks8 pre ++ [b] ++ chunks8 post := by
    rw [chunks8_append (pre ++ b) post (by simp [hb.1]; omega), chunks8_append pre b hpre, chunks8_block b hb.1]
  have e2 : chunks8 (pre ++ b' ++ post) = chunks8 pre ++ [b'] ++ chunks8 post := by
    rw [chunks8_append (pre ++ b') post (by simp [hb'.1]; omega), chunks8_append pre b' hpre, chunks8_block b' hb'.1]
  rw [e1, e2]
  intro h
  exact macBlocks_ne C hC _ iv _ _ b b' hiv (chunks8_blocks pre hpreB) (chunks8_blocks post hpostB) hb hb' hne
    (Except.ok.inj h)

/-- the same for the cipher of the code, without hypothesis on the cipher -/
theorem mac_detects_block_change_tdes (key iv pre post b b' : Bytes) (flip : Bool)
    (hk : key.length = 16) (hiv : Block iv)
    (hpre : pre.length % 8 = 0) (hpost : post.length % 8 = 0) (hpreB : IsBytes pre) (hpostB : IsBytes post)
    (hb : Block b) (hb' : Block b') (hne : b ≠ b') :
    generateMac tdesBytes (pre ++ b ++ post) key iv flip ≠ generateMac tdesBytes (pre ++ b' ++ post) key iv flip :=
  mac_detects_block_change tdesBytes tdes_block_cipher key iv pre post b b' flip hk hiv hpre hpost hpreB hpostB hb hb' hne

example : generateMac (fun _ b => b) (List.replicate 16 1) (List.replicate 16 2) (List.replicate 8 3) false
    = .ok (List.replicate 8 3) := by decide

example : Block [1, 2, 3, 4, 5, 6, 7, 8] ∧ Block [1, 2, 3, 4, 5, 6, 7, 9] ∧ ([1, 2, 3, 4, 5, 6, 7, 8] : Bytes) ≠ [1, 2, 3, 4, 5, 6, 7, 9] := by
  decide

/-- `read_with_mac` returns data only if the MAC field of the response (all eight octets) equals
`generate_mac` over exactly the returned data (all of it) under the session key and start value. -/
theorem mac_field_compared (C : Cipher) (idm : Bytes) (s : Session) (blocks : List Nat) (rsp d : Bytes)
    (h : readWithMac C idm (some s) blocks rsp = .ok (some d)) :
    ∃ data, readRsp idm (blocks ++ [0x81]) rsp = .ok data ∧ d = slice data 0 (-16)
      ∧ generateMac C d s.sk s.iv false = .ok (slice data (-16) (-8)) :=
  readWithMac_some C idm s blocks rsp d h

/-- A response carrying the data `pre ++ b ++ post` with the tag's MAC `m`: untouched it is
returned; with one 8-byte group of the data changed (and the padding changed at will), or with a
changed MAC field, `read_with_mac` returns `None` - every single-bit modification of data or MAC
is among these. -/
theorem read_tamper_rejected (C : Cipher) (hC : BlockCipher C) (idm : Bytes) (s : Session) (blocks : List Nat) (nb : Nat)
    (pre b b' post m m' p p' : Bytes)
    (hidm : idm.length = 8) (hblk : blocks.length ≤ 4) (hsk : s.sk.length = 16) (hiv : Block s.iv)
    (hlen : (pre ++ b ++ post).length = blocks.length * 16)
    (hpre : pre.length % 8 = 0) (hpost : post.length % 8 = 0) (hpreB : IsBytes pre) (hpostB : IsBytes post)
    (hb : Block b) (hb' : Block b')
    (hm : generateMac C (pre ++ b ++ post) s.sk s.iv false = .ok m) (hp : p.length = 8) (hp' : p'.length = 8) :
    readWithMac C idm (some s) blocks (rspFrame idm 6 ([nb] ++ ((pre ++ b ++ post) ++ (m ++ p))))
        = .ok (some (pre ++ b ++ post))
    ∧ (b' ≠ b → readWithMac C idm (some s) blocks (rspFrame idm 6 ([nb] ++ ((pre ++ b' ++ post) ++ (m ++ p')))) = .ok none)
    ∧ (m' ≠ m → m'.length = 8 →
        readWithMac C idm (some s) blocks (rspFrame idm 6 ([nb] ++ ((pre ++ b ++ post) ++ (m' ++ p')))) = .ok none) := by
  have hl8 : (pre ++ b ++ post).length % 8 = 0 := by simp [hb.1]; omega
  have hl8' : (pre ++ b' ++ post).length % 8 = 0 := by simp [hb'.1]; omega
  have hlen' : (pre ++ b' ++ post).length = blocks.length * 16 := by
    rw [← hlen]; simp [hb.1, hb'.1]
  have hmlen : m.length = 8 := by
    rw [generateMac_ok C _ s.sk s.iv false hl8 hsk hiv.1] at hm
    injection hm with hm
    rw [← hm]
    refine (macBlocks_block C hC _ s.iv _ hiv (chunks8_blocks _ ?_) (chunks8_ne_nil _ (by simp [hb.1]; omega))).1
    exact isBytes_append (isBytes_append hpreB hb.2) hpostB
  refine ⟨?_, ?_, ?_⟩
  · rw [readWithMac_eval C idm s blocks nb _ m p m hidm (by omega) hlen hmlen hp hm]; simp
  · intro hne
    have hg' := generateMac_ok C (pre ++ b' ++ post) s.sk s.iv false hl8' hsk hiv.1
    rw [readWithMac_eval C idm s blocks nb _ m p' _ hidm (by omega) hlen' hmlen hp' hg']
    have hdiff := mac_detects_block_change C hC s.sk s.iv pre post b' b false hsk hiv hpre hpost hpreB hpostB hb' hb hne
    rw [hg', hm] at hdiff
    have : ¬ (m = macBlocks C (if false = true then s.sk.drop 8 ++ s.sk.take 8 else s.sk) s.iv (chunks8 (pre ++ b' ++ post))) :=
      fun h => hdiff (by rw [h])
    rw [if_neg this]
  · intro hne hm'len
    rw [readWithMac_eval C idm s blocks nb _ m' p' m hidm (by omega) hlen hm'len hp' hm]
    simp [hne]

/-- NTAG21x: against the tag of the data sheet, `authenticate(pw)` is true exactly when the tag's
PWD is the first four and its PACK the next two octets of the key derived from `pw` -/
theorem ntag_auth_exact (pw key : Bytes) (t : NtagTag) (hk : ntagKey pw = .ok key) :
    ntagAuthenticate pw (.ok (t.respond (ntagAuthCmd key))) = .ok true ↔ (t.pwd = key.take 4 ∧ t.pack = key.drop 4) := by
  have hl := ntagKey_length pw key hk
  have hd : (key.drop 4).take 2 = key.drop 4 := List.take_of_length_le (by simp [hl])
  rw [ntag_response_exact pw key _ hk, hd]
  unfold NtagTag.respond ntagAuthCmd
  by_cases h : key.take 4 = t.pwd
  · simp [h]
  · have h' : ¬ ([0x1B] ++ key.take 4 = [0x1B] ++ t.pwd) := by simpa using h
    simp only [h', if_false]
    constructor
    · intro h2
      have := congrArg List.length h2
      simp [hl] at this
    · intro h2
      exact absurd h2.1.symm h

/-- whatever arrives: true exactly when the arrived octets are the two expected PACK octets;
a `Type2TagCommandError` (no answer) gives false -/
theorem ntag_auth_response_exact (pw key : Bytes) (hk : ntagKey pw = .ok key) :
    (∀ r, ntagAuthenticate pw (.ok r) = .ok true ↔ r = (key.drop 4).take 2)
    ∧ (∀ n, ntagAuthenticate pw (.error (.tagCmd n)) = .ok false) :=
  ⟨fun r => ntag_response_exact pw key r hk, fun n => by simp [ntagAuthenticate, hk]⟩

example : ntagKey [1, 2, 3, 4, 5, 6, 7] = .ok [1, 2, 3, 4, 5, 6] := by decide
example : ntagKey [] = .ok [0xFF, 0xFF, 0xFF, 0xFF, 0, 0] := by decide

/-- FeliCa Lite: the tag of the manual that holds the key of the password (card key block in the
layout `revHalves key`) and received the reader's challenge answers so that `authenticate`
returns true and stores the session key - for every cipher, key, challenge and ID block. -/
theorem auth_complete (C : Cipher) (hC : BlockCipher C) (idm pw key rc idBlock wc : Bytes)
    (hidm : idm.length = 8) (hkey : liteKey pw = .ok key) (hrc : rc.length = 16) (hrcB : IsBytes rc)
    (hid : idBlock.length = 16) (hidB : IsBytes idBlock) :
    ∃ sk, sessionKey C key rc = .ok sk ∧ sk.length = 16 ∧
      liteAuthenticate C idm pw rc (writeOk idm)
        (LiteTag.readFrame C ⟨revHalves key, revHalves rc, wc⟩ idm 2 idBlock) = .ok (true, some ⟨sk, rc.take 8⟩) :=
  lite_auth_complete C hC idm pw key rc idBlock wc hidm hkey hrc hrcB hid hidB

example : liteKey (List.replicate 20 7) = .ok (List.replicate 16 7) := by decide

/-- `protect(pw)` then `authenticate(pw)` on FeliCa Lite / Lite-S (internal authentication): the
tag stores the 16 data octets of the key-provisioning command and of the challenge command as
its CK and RC blocks; its answer makes `authenticate` true.  The byte-order conventions of
provisioning and verification agree. -/
theorem protect_then_auth_lite (C : Cipher) (hC : BlockCipher C) (idm pw rc idBlock wc pc cc : Bytes)
    (hidm : idm.length = 8) (hpc : liteProtectKeyCmd idm pw = .ok pc) (hcc : liteChallengeCmd idm rc = .ok cc)
    (hrc : rc.length = 16) (hrcB : IsBytes rc) (hid : idBlock.length = 16) (hidB : IsBytes idBlock) :
    ∃ s, liteAuthenticate C idm pw rc (writeOk idm)
        (LiteTag.readFrame C ⟨pc.drop 16, cc.drop 16, wc⟩ idm 2 idBlock) = .ok (true, some s) := by
  obtain ⟨key, hkey, _⟩ : ∃ key, liteKey pw = .ok key ∧ _ := by
    unfold liteProtectKeyCmd at hpc
    exact Py.bind_eq_ok.mp hpc
  have hcd : cc.drop 16 = revHalves rc := writeCmd_drop idm [0x80] _ cc hidm hcc
  rw [protect_key_block idm pw key pc hidm hkey hpc, hcd]
  obtain ⟨sk, _, _, h⟩ := lite_auth_complete C hC idm pw key rc idBlock wc hidm hkey hrc hrcB hid hidB
  exact ⟨_, h⟩

/-- The empty password explicitly (the documented "factory key" option), as opposed to `None`:
`protect(b"")` DOES write a key block, namely 16 zero octets (FeliCa Lite / Lite-S), resp. PWD
FF FF FF FF and PACK 00 00 (NTAG21x), whatever key the tag held before, and `authenticate(b"")`
then succeeds against the tag that stored it; only `protect(None)` writes no key. -/
theorem protect_empty_password (C : Cipher) (hC : BlockCipher C) (idm rc idBlock wc cc : Bytes)
    (hidm : idm.length = 8) (hcc : liteChallengeCmd idm rc = .ok cc)
    (hrc : rc.length = 16) (hrcB : IsBytes rc) (hid : idBlock.length = 16) (hidB : IsBytes idBlock) :
    (∃ pc, liteProtectKeyWrite idm (some []) = .ok (some pc) ∧ pc.drop 16 = zeros 16
      ∧ ∃ s, liteAuthenticate C idm [] rc (writeOk idm)
          (LiteTag.readFrame C ⟨pc.drop 16, cc.drop 16, wc⟩ idm 2 idBlock) = .ok (true, some s))
    ∧ liteProtectKeyWrite idm none = .ok none
    ∧ (∀ rp pf cfg pages, ntagProtectPages [] rp pf cfg = .ok pages →
        NtagTag.ofPages pages = ⟨[0xFF, 0xFF, 0xFF, 0xFF], [0, 0]⟩
        ∧ ntagAuthenticate [] (.ok ((NtagTag.ofPages pages).respond (ntagAuthCmd [0xFF, 0xFF, 0xFF, 0xFF, 0, 0]))) = .ok true) := by
  have hkey : liteKey [] = .ok (zeros 16) := by decide
  have hw := writeCmd_ok idm [0x87] (revHalves (zeros 16)) hidm (by decide)
  obtain ⟨pc0, hpc⟩ : ∃ pc0, liteProtectKeyCmd idm [] = .ok pc0 :=
    ⟨_, by simp only [liteProtectKeyCmd, hkey, Py.bind_ok]; exact hw⟩
  refine ⟨⟨pc0, by simp only [liteProtectKeyWrite, hpc, Py.bind_ok], ?_, ?_⟩, rfl, ?_⟩
  · rw [protect_key_block idm [] (zeros 16) _ hidm hkey hpc]; decide
  · exact protect_then_auth_lite C hC idm [] rc idBlock wc _ cc hidm hpc hcc hrc hrcB hid hidB
  · intro rp pf cfg pages h
    have hk : ntagKey [] = .ok [0xFF, 0xFF, 0xFF, 0xFF, 0, 0] := by decide
    have ht := ntag_protect_tag [] _ cfg rp pf pages hk h
    refine ⟨by rw [ht]; rfl, ?_⟩
    rw [ht]
    exact (ntag_auth_exact [] _ _ hk).mpr ⟨rfl, rfl⟩

example : liteProtectKeyWrite [1, 2, 3, 4, 5, 6, 7, 8] (some [])
    = .ok (some ([32, 8, 1, 2, 3, 4, 5, 6, 7, 8, 1, 9, 0, 1, 0x80, 0x87] ++ List.replicate 16 0)) := by decide

/-- `protect(pw)` then `authenticate` on NTAG21x: the tag whose PWD / PACK pages are the pages the
reader wrote answers PACK to `authenticate(pw)`, which is true; a password with another derived
key is false. -/
theorem protect_then_auth_ntag (pw pw' key key' cfg : Bytes) (rp : Bool) (pf : Nat) (pages : List Bytes)
    (hk : ntagKey pw = .ok key) (hk' : ntagKey pw' = .ok key') (h : ntagProtectPages pw rp pf cfg = .ok pages) :
    ntagAuthenticate pw (.ok ((NtagTag.ofPages pages).respond (ntagAuthCmd key))) = .ok true
    ∧ (key' ≠ key → ntagAuthenticate pw' (.ok ((NtagTag.ofPages pages).respond (ntagAuthCmd key'))) ≠ .ok true) := by
  rw [ntag_protect_tag pw key cfg rp pf pages hk h]
  constructor
  · exact (ntag_auth_exact pw key _ hk).mpr ⟨rfl, rfl⟩
  · intro hne hc
    have := (ntag_auth_exact pw' key' _ hk').mp hc
    apply hne
    rw [← List.take_append_drop 4 key', ← List.take_append_drop 4 key, ← this.1, ← this.2]

example : ntagProtectPages [1, 2, 3, 4, 5, 6] true 4 (List.replicate 16 0)
    = .ok [[0, 0, 0, 4], [0x80, 0, 0, 0], [1, 2, 3, 4], [5, 6, 0, 0]] := by decide

/-- Lite-S external authentication / `write_with_mac`: the MAC_A the reader puts into the write
command is the MAC_A the tag of the manual computes (key SK2|SK1, write counter and block number in
the first word), so the tag accepts the write; the command also carries the write counter. -/
theorem lite_s_write_mac_accepted (C : Cipher) (hC : BlockCipher C) (idm key rc wblock data : Bytes) (block : Nat) (sk : Bytes)
    (hidm : idm.length = 8) (hk : key.length = 16) (hrc : rc.length = 16) (hrcB : IsBytes rc)
    (hsk : sessionKey C key rc = .ok sk) (hw : wblock.length = 16) (hd : data.length = 16) (hb : block ≤ 255)
    (hwB : IsBytes wblock) (hdB : IsBytes data) :
    ∃ cmd, writeWithMacCmd C idm (some ⟨sk, rc.take 8⟩) data block (rspFrame idm 6 ([1] ++ wblock)) = .ok cmd
      ∧ cmd.drop 18 = data ++ (LiteTag.macA C ⟨revHalves key, revHalves rc, wblock⟩ block data ++ wblock.take 3 ++ zeros 5) := by
  have hml := (macA_block C hC key rc wblock block data hk hrc hrcB hwB hw hb hdB).1
  have hwc := writeCmd_ok idm [block, 0x91]
    (data ++ (LiteTag.macA C ⟨revHalves key, revHalves rc, wblock⟩ block data ++ wblock.take 3 ++ zeros 5)) hidm
    (by simp [hd, hw, zeros, hml])
  rw [writeWithMacCmd_tag C hC idm key rc wblock data block sk hidm hk hrc hrcB hsk hw hd hb]
  exact ⟨_, hwc, writeCmd_drop idm [block, 0x91] _ _ hidm hwc⟩

/-- Partial (the cryptographic half of "exactly when" is an assumption): `authenticate = true`
implies that the MAC field received from the tag equals `generate_mac` of the received ID block
under the reader's own session key (derived from the password and the challenge) - all eight
octets - and that exactly this session key is stored for later `read_with_mac` calls.  NOT
proved: that only a tag holding the key can produce that MAC. -/
theorem auth_sound_partial (C : Cipher) (idm pw rc rsp1 rsp2 : Bytes) (s : Option Session)
    (h : liteAuthenticate C idm pw rc rsp1 rsp2 = .ok (true, s)) :
    ∃ key sk data, liteKey pw = .ok key ∧ sessionKey C key rc = .ok sk
      ∧ readRsp idm [0x82, 0x81] rsp2 = .ok data
      ∧ generateMac C (slice data 0 (-16)) sk (rc.take 8) false = .ok (slice data (-16) (-8))
      ∧ s = some ⟨sk, rc.take 8⟩ :=
  lite_auth_true C idm pw rc rsp1 rsp2 s h

/-! ## histories: many calls on one tag object -/

open NfcVerif.AuthHist NfcVerif.AuthHist.RW NfcVerif.AuthCard

/-- EVERY session of EVERY history (FeliCa Lite): take any air interface `x` (any card, any attacker,
as a state machine), any start state, any calls `pre` before and `post` after.  If call number
`pre.length`, `authenticate(pw)` with the challenge `rc` that `os.urandom(16)` returned in THAT call,
returns True, then: the command that wrote the challenge block carried THIS `rc`; it and the read of
the ID and MAC blocks were answered during THIS call by `rsp1`, `rsp2` (after at most two unanswered
attempts each); the MAC field of `rsp2` equals `generate_mac` of the received ID block under the
session key derived from the password and THIS challenge (all eight octets); and exactly that
session is what the tag object holds afterwards.  Nothing that happened in `pre` - an earlier
challenge, an earlier session key, an earlier verdict - takes part. -/
theorem session_sound_every_history {σ : Type} (C : Cipher) (forget : Bool) (x : Air σ) (idm pw rc : Bytes)
    (pre post : List (Op σ)) (s0 : St σ)
    (h : (run C forget x idm false (pre ++ .auth pw rc :: post) s0).1[pre.length]? = some (.ok (.bool true))) :
    ∃ key sk c1 c2 rsp1 rsp2 data t1,
      liteKey pw = .ok key ∧ sessionKey C key rc = .ok sk
      ∧ liteChallengeCmd idm rc = .ok c1 ∧ readCmd idm [0x82, 0x81] = .ok c2
      ∧ Answered c1 rsp1 (run C forget x idm false pre s0).2.tr t1
      ∧ Answered c2 rsp2 t1 (run C forget x idm false (pre ++ [.auth pw rc]) s0).2.tr
      ∧ readRsp idm [0x82, 0x81] rsp2 = .ok data
      ∧ generateMac C (slice data 0 (-16)) sk (rc.take 8) false = .ok (slice data (-16) (-8))
      ∧ (run C forget x idm false (pre ++ [.auth pw rc]) s0).2.rd = ⟨some ⟨sk, rc.take 8⟩, true⟩ := by
  obtain ⟨b, hb, e⟩ := bind_pure_ok (run_at C forget x idm h)
  cases e
  obtain ⟨c1, c2, rsp1, rsp2, sess, t1, hc1, hc2, ha1, ha2, hla, hrd⟩ := authLite_true C forget x idm hb
  obtain ⟨key, sk, data, hkey, hsk, hdata, hmac, hsess⟩ := lite_auth_true C idm pw rc rsp1 rsp2 sess hla
  exact ⟨key, sk, c1, c2, rsp1, rsp2, data, t1, hkey, hsk, hc1, hc2, ha1, ha2, hdata, hmac, by rw [hrd, hsess]⟩

/-- the 16 octets the challenge command writes to the RC block are the challenge of this call
(byte order of the card), for every state of everything else -/
theorem challenge_written_is_session_challenge (idm rc c1 : Bytes) (hidm : idm.length = 8) (hrc : rc.length = 16)
    (h : liteChallengeCmd idm rc = .ok c1) : c1.drop 16 = revHalves rc :=
  writeCmd_drop idm [0x80] _ c1 hidm h

/-- EVERY session of EVERY history (FeliCa Lite-S, mutual authentication): if call number
`pre.length` returns True then five commands were answered DURING THAT CALL - the write of this
call's challenge, the ID read, the WCNT read, the MAC'ed STATE write whose MAC_A is computed from
the WCNT answer of this call (`writeWithMacCmd ... rsp3`), the MAC'ed STATE read - and the pure
verdict function of these five answers and this call's challenge is True. -/
theorem session_sound_every_history_lite_s {σ : Type} (C : Cipher) (forget : Bool) (x : Air σ) (idm pw rc : Bytes)
    (pre post : List (Op σ)) (s0 : St σ)
    (h : (run C forget x idm true (pre ++ .auth pw rc :: post) s0).1[pre.length]? = some (.ok (.bool true))) :
    ∃ c1 c2 c3 c4 c5 rsp1 rsp2 rsp3 rsp4 rsp5 sess,
      liteChallengeCmd idm rc = .ok c1 ∧ readCmd idm [0x82, 0x81] = .ok c2 ∧ readCmd idm [0x90] = .ok c3
      ∧ writeWithMacCmd C idm sess ([1] ++ zeros 15) 0x92 rsp3 = .ok c4 ∧ readCmd idm [0x92, 0x81] = .ok c5
      ∧ Answers [(c1, rsp1), (c2, rsp2), (c3, rsp3), (c4, rsp4), (c5, rsp5)]
          (run C forget x idm true pre s0).2.tr (run C forget x idm true (pre ++ [.auth pw rc]) s0).2.tr
      ∧ liteAuthenticate C idm pw rc rsp1 rsp2 = .ok (true, sess)
      ∧ liteSAuthenticate C idm pw rc rsp1 rsp2 rsp3 rsp4 rsp5 = .ok true
      ∧ (run C forget x idm true (pre ++ [.auth pw rc]) s0).2.rd = ⟨sess, true⟩ := by
  obtain ⟨b, hb, e⟩ := bind_pure_ok (run_at C forget x idm h)
  cases e
  exact authLiteS_true C forget x idm hb

/-- `FelicaLite.authenticate` never looks at `_sk`, `_iv`, `_authenticated`: in two states of the tag
object over the same world the call has the same outcome (verdict or exception), makes the same
exchanges and leaves the same world - there is nothing an implementation of this model could cache
from one authentication to the next. -/
theorem auth_verdict_independent_of_object_state {σ : Type} (C : Cipher) (forget : Bool) (x : Air σ) (idm pw rc : Bytes)
    (rd1 rd2 : Reader) (w : σ) (tr : List (Bytes × Option Bytes)) :
    (authLite C forget x idm pw rc ⟨rd1, w, tr⟩).1 = (authLite C forget x idm pw rc ⟨rd2, w, tr⟩).1
    ∧ (authLite C forget x idm pw rc ⟨rd1, w, tr⟩).2.w = (authLite C forget x idm pw rc ⟨rd2, w, tr⟩).2.w
    ∧ (authLite C forget x idm pw rc ⟨rd1, w, tr⟩).2.tr = (authLite C forget x idm pw rc ⟨rd2, w, tr⟩).2.tr :=
  authLite_blind C forget x idm pw rc ⟨rd1, w, tr⟩ ⟨rd2, w, tr⟩ ⟨rfl, rfl⟩

/-- EVERY `read_with_mac` of EVERY history, for ANY number of blocks: if call number `pre.length`
returns data `d`, then ONE command `c` asked for all the blocks plus the MAC block (it was
answered during this call by `rsp`, after at most two unanswered attempts), `d` has 16 octets for
every requested block, the MAC field of `rsp` equals `generate_mac` over ALL of `d` under the
session the tag object held (there is no returned block outside the verified MAC), and the tag
object is unchanged. -/
theorem read_covered_every_history {σ : Type} (C : Cipher) (forget : Bool) (x : Air σ) (idm : Bytes) (liteS : Bool)
    (blocks : List Nat) (d : Bytes) (pre post : List (Op σ)) (s0 : St σ)
    (h : (run C forget x idm liteS (pre ++ .readMac blocks :: post) s0).1[pre.length]? = some (.ok (.data (some d)))) :
    ∃ sess c rsp data,
      (run C forget x idm liteS pre s0).2.rd.sess = some sess
      ∧ readCmd idm (blocks ++ [0x81]) = .ok c
      ∧ Answered c rsp (run C forget x idm liteS pre s0).2.tr (run C forget x idm liteS (pre ++ [.readMac blocks]) s0).2.tr
      ∧ readRsp idm (blocks ++ [0x81]) rsp = .ok data ∧ d = slice data 0 (-16)
      ∧ d.length = 16 * blocks.length
      ∧ generateMac C d sess.sk sess.iv false = .ok (slice data (-16) (-8))
      ∧ (run C forget x idm liteS (pre ++ [.readMac blocks]) s0).2.rd = (run C forget x idm liteS pre s0).2.rd := by
  obtain ⟨v, hv, e⟩ := bind_pure_ok (run_at C forget x idm h)
  cases e
  obtain ⟨sess, c, rsp, hsess, hc, ha, hv, hrd⟩ := readMac_some C x idm hv
  obtain ⟨data, hdata, hd, hmac⟩ := readWithMac_some C idm sess blocks rsp d hv
  have hlen := readRsp_length idm (blocks ++ [0x81]) rsp data hdata
  refine ⟨sess, c, rsp, data, hsess, hc, ha, hdata, hd, ?_, hmac, hrd⟩
  rw [hd]
  rw [show slice _ 0 (-16) = _ from slice_zero_neg _ 16 (by omega)]
  simp [hlen]; omega

/-- `write_with_mac(data, block)` in ANY state of tag object and world: when the call completes,
the write counter that went into MAC_A and into the command is the one the card delivered IN THIS
CALL (`rspW` answers the read of block 90h that this call sent first); no counter kept by the tag
object exists in the model. -/
theorem write_counter_read_in_every_write {σ : Type} (C : Cipher) (x : Air σ) (idm data : Bytes) (block : Nat) (s s' : St σ)
    (h : writeMac C x idm data block s = (.ok (), s')) :
    ∃ sess c0 rspW c rsp t1, s.rd.sess = some sess ∧ readCmd idm [0x90] = .ok c0 ∧ Answered c0 rspW s.tr t1
      ∧ writeWithMacCmd C idm (some sess) data block rspW = .ok c ∧ Answered c rsp t1 s'.tr
      ∧ writeRsp idm rsp = .ok () ∧ s'.rd = s.rd :=
  writeMac_ok C x idm h

/-- The repaired behaviour (`forget = true`, fixes/C20/0003): an authentication that does not
return True - refused, or ended by a `TagCommandError` - leaves NO session in the tag object,
whatever an earlier authentication had established, and `read_with_mac` then raises RuntimeError
without sending anything. -/
theorem failed_auth_leaves_no_session_repaired {σ : Type} (C : Cipher) (x : Air σ) (idm pw rc key : Bytes) (s : St σ)
    (blocks : List Nat) (hk : liteKey pw = .ok key) (h : (authLite C true x idm pw rc s).1 ≠ .ok true) :
    (authLite C true x idm pw rc s).2.rd = ⟨none, false⟩
    ∧ readMac C x idm blocks (authLite C true x idm pw rc s).2 = (.error .runtime, (authLite C true x idm pw rc s).2) := by
  have h1 := failed_auth_forgets C x idm hk h
  exact ⟨h1, readMac_no_session C x idm (by rw [h1])⟩

/-- the identity "cipher": enough to run concrete histories inside the kernel -/
def idC : Cipher := fun _ b => b
def idm0 : Bytes := [1, 2, 3, 4, 5, 6, 7, 8]

/-- a device that knows no key: it acknowledges every write and answers every read with one and
the same frame - the one it overheard when the genuine card answered the first authentication
(key, challenge and ID block all zero, MAC 00..00 under the identity cipher) -/
def parrot : Air Unit := fun w cmd =>
  (some (if (cmd.drop 1).take 1 = [8] then writeOk idm0 else rspFrame idm0 6 ([2] ++ zeros 32)), w)

def staleHistory : List (Op Unit) :=
  [.auth (zeros 16) (zeros 16), .auth (zeros 16) (List.replicate 16 1), .readMac [1]]

/-- Finding `stale-session-after-failed-auth` (the code as found, `forget = false`): the first
authentication succeeds, the second one - another challenge, the device replays the old answer -
is refused as it must, and yet `read_with_mac` returns the replayed frame's data, verified under
the session key of the FIRST authentication.  `failed_auth_leaves_no_session_repaired` is false
for `forget = false`. -/
theorem stale_session_counterexample :
    (run idC false parrot idm0 false staleHistory ⟨Reader.init, (), []⟩).1
      = [.ok (.bool true), .ok (.bool false), .ok (.data (some (zeros 16)))] := by decide +kernel

/-- the same history on the repaired code: RuntimeError("authentication required") -/
theorem stale_session_repaired_example :
    (run idC true parrot idm0 false staleHistory ⟨Reader.init, (), []⟩).1
      = [.ok (.bool true), .ok (.bool false), .error .runtime] := by decide +kernel

example : (run idC false parrot idm0 false (staleHistory.take 1 ++ .auth (zeros 16) (List.replicate 16 1) :: [.readMac [1]])
    ⟨Reader.init, (), []⟩).1[(staleHistory.take 1).length]? = some (.ok (.bool false)) := by decide +kernel

/-- non-vacuity of `session_sound_every_history` / `read_covered_every_history`: a history with a
successful session and a successful MAC'ed read -/
example : (run idC false parrot idm0 false ([] ++ .auth (zeros 16) (zeros 16) :: [.readMac [1]]) ⟨Reader.init, (), []⟩).1[0]?
    = some (.ok (.bool true)) := by decide +kernel
example : (run idC false parrot idm0 false ([.auth (zeros 16) (zeros 16)] ++ .readMac [1] :: []) ⟨Reader.init, (), []⟩).1[1]?
    = some (.ok (.data (some (zeros 16)))) := by decide +kernel

/-! ### against the stateful card of the manuals -/

/-- Mutual authentication succeeds in EVERY card state (the C20-r2m3 class: counters are read from
the card): take a Lite-S card that holds the key of `pw` in the layout `protect` writes
(`Holds`: nothing is assumed about the value of its write counter, its challenge block, its
authentication status, MC or the user blocks) and ANY state of the tag object; `authenticate(pw)`
with any challenge returns True, the session is the one of this challenge, the card is externally
authenticated, has counted two more writes and still `Holds` the key - so the statement applies
again to the next call, whatever was written in between. -/
theorem mutual_auth_complete_every_card_state (C : Cipher) (hC : BlockCipher C) (forget : Bool) (c : Card)
    (idm pw key rc : Bytes) (rd : Reader) (tr : List (Bytes × Option Bytes))
    (h : Holds c idm key) (hkey : liteKey pw = .ok key) (hrc : rc.length = 16) (hrcB : IsBytes rc) :
    (∃ sk tr', sessionKey C key rc = .ok sk ∧
      authLiteS C forget (honest C) idm pw rc ⟨rd, c, tr⟩
        = (.ok true, ⟨⟨some ⟨sk, rc.take 8⟩, true⟩, afterAuth c rc, tr'⟩))
    ∧ Holds (afterAuth c rc) idm key ∧ (afterAuth c rc).extAuth = true := by
  obtain ⟨⟨sk, hsk, hr⟩, hH, hext, _, _⟩ := authLiteS_card C hC forget c idm pw key rc rd h hkey hrc hrcB
  obtain ⟨tr', e⟩ := hr tr
  exact ⟨⟨sk, tr', hsk, e⟩, hH, hext⟩

/-- a card that `Holds` the factory key, with write counter FF FF 00 -/
def card0 : Card :=
  Card.ofBlocks true idm0 [(0x80, zeros 16), (0x82, idm0 ++ zeros 8), (0x87, zeros 16), (0x88, [0xFF, 0xFF, 0xFF, 0, 7] ++ zeros 11),
    (0x90, [0xFF, 0xFF, 0] ++ zeros 13), (0x92, zeros 16), (5, zeros 16)] false false

example : Holds card0 idm0 (zeros 16) :=
  ⟨rfl, rfl, rfl, rfl, rfl, ⟨_, rfl, rfl, by decide⟩, ⟨_, rfl, rfl, by decide⟩, rfl, rfl⟩

example : liteKey [] = .ok (zeros 16) := by decide

/-- Every session of a history of authentications succeeds: each `authenticate` meets a card whose
write counter was advanced by all the writes before it. -/
theorem every_session_complete (C : Cipher) (hC : BlockCipher C) (forget : Bool) (idm key : Bytes)
    (calls : List (Bytes × Bytes)) (hcalls : ∀ p ∈ calls, liteKey p.1 = .ok key ∧ p.2.length = 16 ∧ IsBytes p.2)
    (c : Card) (rd : Reader) (tr : List (Bytes × Option Bytes)) (h : Holds c idm key) :
    (run C forget (honest C) idm true (calls.map fun p => Op.auth p.1 p.2) ⟨rd, c, tr⟩).1
      = calls.map fun _ => .ok (.bool true) := by
  induction calls generalizing c rd tr with
  | nil => rfl
  | cons p rest ih =>
    obtain ⟨hk, hl, hB⟩ := hcalls p (List.mem_cons_self ..)
    -- the card holds the key after the session as before it
    obtain ⟨⟨sk, _, ha⟩, h', _⟩ := authLiteS_card C hC forget c idm p.1 key p.2 rd h hk hl hB
    obtain ⟨tr', hstep⟩ := step_of_runs C forget (honest C) idm true (.auth p.1 p.2) _ Res.bool rfl ha tr
    simp only [List.map_cons, run_cons, hstep]
    rw [ih (fun q hq => hcalls q (List.mem_cons_of_mem _ hq)) _ _ _ h']

/-- `authenticate`, `write_with_mac(data, n)`, `authenticate` (the history of C20-r2m3): against the
card that holds the key and lets block `n` be written, all three calls succeed for EVERY initial
write counter, the block holds the data, the tag object is authenticated. -/
theorem auth_write_auth_complete (C : Cipher) (hC : BlockCipher C) (forget : Bool) (c : Card) (idm pw key rc1 rc2 data : Bytes)
    (n : Nat) (rd : Reader) (tr : List (Bytes × Option Bytes)) (h : Holds c idm key) (hkey : liteKey pw = .ok key)
    (hrc1 : rc1.length = 16) (hrc1B : IsBytes rc1) (hrc2 : rc2.length = 16) (hrc2B : IsBytes rc2)
    (hn : n < 14) (hpn : c.present n = true) (hrw : c.mcBit 0 n = true) (hd : data.length = 16) (hdB : IsBytes data) :
    let r := run C forget (honest C) idm true [.auth pw rc1, .writeMac data n, .auth pw rc2] ⟨rd, c, tr⟩
    r.1 = [.ok (.bool true), .ok .unit, .ok (.bool true)] ∧ r.2.w.mem n = some data ∧ r.2.rd.authed = true := by
  obtain ⟨⟨sk, hsk, ha⟩, h1, hext1, hrcw1, hrcm1⟩ := authLiteS_card C hC forget c idm pw key rc1 rd h hkey hrc1 hrc1B
  have hpn1 : (afterAuth c rc1).present n = true := by
    simp only [Card.present, afterAuth_mem c rc1 n (by omega) (by omega)]; exact hpn
  have hrw1 : (afterAuth c rc1).mcBit 0 n = true := by
    rw [mcBit_congr c (afterAuth c rc1) 0 n (afterAuth_mem c rc1 0x88 (by decide) (by decide))]; exact hrw
  have hw := writeMac_card C hC (afterAuth c rc1) idm key rc1 sk data n ⟨some ⟨sk, rc1.take 8⟩, true⟩ h1
    (Or.inr ⟨hn, hpn1, hrw1, hext1⟩) hrcw1 hrcm1 hrc1 hrc1B hsk rfl hd hdB
  rw [afterMacWrite_user _ _ _ (by omega)] at hw
  have h2 := afterWrite_holds (afterAuth c rc1) idm key data n h1 (by omega) (by omega) (by omega)
  obtain ⟨⟨sk2, _, ha2⟩, _⟩ := authLiteS_card C hC forget (afterWrite (afterAuth c rc1) n data) idm pw key rc2
    ⟨some ⟨sk, rc1.take 8⟩, true⟩ h2 hkey hrc2 hrc2B
  obtain ⟨tr1, hs1⟩ := step_of_runs C forget (honest C) idm true (.auth pw rc1) _ Res.bool rfl ha tr
  obtain ⟨tr2, hs2⟩ := step_of_runs C forget (honest C) idm true (.writeMac data n) _ (fun _ => Res.unit) rfl hw tr1
  obtain ⟨tr3, hs3⟩ := step_of_runs C forget (honest C) idm true (.auth pw rc2) _ Res.bool rfl ha2 tr2
  simp only [run_cons, run_nil, hs1, hs2, hs3, true_and, and_true]
  rw [afterAuth_mem _ rc2 n (by omega) (by omega)]
  exact afterWrite_mem_same _ n data (by omega)

example : card0.present 5 = true ∧ card0.mcBit 0 5 = true := by decide

/-- `protect(pw)` followed by `authenticate(pw)` succeeds (FeliCa Lite-S), through ALL the commands
of both methods against the stateful card: on a card whose system blocks are not locked yet -
whatever key it holds, whatever its write counter, challenge block and user blocks are -
`FelicaLiteS.protect(pw, read_protect, protect_from >= 1)` reads MC and CKV, writes CKV and the key
block, authenticates mutually with the new key (its own challenge `rc0`) and writes MC: True;
the `authenticate(pw)` that follows on the same tag object (challenge `rc1`, the counter advanced
by the six writes before it) returns True.  `pw` is the empty password or has at least 16 octets. -/
theorem protect_then_authenticate_complete (C : Cipher) (hC : BlockCipher C) (forget : Bool) (c : Card) (idm p rc0 rc1 : Bytes)
    (rp : Bool) (pf : Nat) (rd : Reader) (tr : List (Bytes × Option Bytes)) (h : Unlocked c idm)
    (hp : p = [] ∨ 16 ≤ p.length)
    (hrc0 : rc0.length = 16) (hrc0B : IsBytes rc0) (hrc1 : rc1.length = 16) (hrc1B : IsBytes rc1) :
    (run C forget (honest C) idm true [.protect (some p) rp pf rc0, .auth p rc1] ⟨rd, c, tr⟩).1
      = [.ok (.bool true), .ok (.bool true)] := by
  obtain ⟨sk, cF, hprot, hH⟩ := protectLiteS_card C hC forget c idm p rc0 rp pf rd h hp hrc0 hrc0B
  obtain ⟨⟨_, _, ha⟩, _⟩ := authLiteS_card C hC forget cF idm p (keyOf p) rc1 ⟨some ⟨sk, rc0.take 8⟩, true⟩ hH (liteKey_keyOf p hp)
    hrc1 hrc1B
  obtain ⟨tr1, hs1⟩ := step_of_runs C forget (honest C) idm true (.protect (some p) rp pf rc0) _ Res.bool rfl hprot tr
  obtain ⟨tr2, hs2⟩ := step_of_runs C forget (honest C) idm true (.auth p rc1) _ Res.bool rfl ha tr1
  simp only [run_cons, run_nil, hs1, hs2]

/-- an `Unlocked` card (MC octet 2 is FFh): a CKV block, the key 09..09, write counter FE FF 00 -/
def card1 : Card :=
  Card.ofBlocks true idm0 [(0x80, zeros 16), (0x82, idm0 ++ zeros 8), (0x86, zeros 16), (0x87, List.replicate 16 9),
    (0x88, [0xFF, 0xFF, 0xFF, 0, 7, 0] ++ zeros 10), (0x90, [0xFE, 0xFF, 0] ++ zeros 13), (0x92, zeros 16)] false false

example : Unlocked card1 idm0 :=
  ⟨rfl, rfl, rfl, ⟨_, _, _, _, _, _, rfl, rfl⟩, ⟨_, _, _, rfl, rfl⟩, rfl, ⟨_, rfl, rfl, by decide⟩, ⟨_, rfl, rfl, by decide⟩, rfl, rfl⟩

/-! ### frames of any length, PWD_AUTH answers of any length -/

/-- a frame shorter than the 12 octets of length, code, IDm and status flags is refused with
`TagCommandError(RSP_LENGTH_ERROR)`, never indexed -/
theorem short_frame_refused (idm : Bytes) (code : Nat) (rsp : Bytes) (h : rsp.length < 12) :
    t3Response idm code rsp = .error (.tagCmd 1) := by
  unfold t3Response
  rw [if_pos h]

/-- NTAG21x: `authenticate` is True only for an answer of EXACTLY two octets (the C20-m3 / r2m4
class: an empty answer, a one-octet NAK that equals the first PACK octet, PACK followed by more
octets are all refused) -/
theorem ntag_auth_true_length (pw r : Bytes) (h : ntagAuthenticate pw (.ok r) = .ok true) : r.length = 2 := by
  unfold ntagAuthenticate at h
  rcases Py.bind_eq_ok.mp h with ⟨key, hk, h⟩
  have hl := ntagKey_length pw key hk
  simp only at h
  injection h with h
  have := of_decide_eq_true h
  rw [this]
  simp [hl]

example : ntagAuthenticate [1, 2, 3, 4, 0, 0] (.ok [0]) = .ok false := by decide
example : ntagAuthenticate [] (.ok [0]) = .ok false := by decide
example : ntagAuthenticate [] (.ok []) = .ok false := by decide
example : ntagAuthenticate [] (.ok [0, 0, 0]) = .ok false := by decide
example : ntagAuthenticate [] (.ok [0, 0]) = .ok true := by decide

/-! ## the public attribute `tag.ndef` around `authenticate()` (`Model/AuthNdef.lean`) -/

open NfcVerif.AuthNdef NfcVerif.AuthNdef.NRW

/-- a successful `authenticate()` (FelicaLite and FelicaLiteS) leaves no cached NDEF object, switches the
NDEF read service to `read_with_mac` and stores the session of this call's challenge - in any state -/
theorem auth_drops_ndef_cache {σ : Type} (C : Cipher) (forget : Bool) (x : Air σ) (idm pw rc : Bytes) (liteS : Bool) (n n' : NSt σ)
    (h : auth C forget x idm liteS pw rc n = (.ok true, n')) :
    n'.ndef = none ∧ n'.useMac = true ∧
      ∃ key sk, liteKey pw = .ok key ∧ sessionKey C key rc = .ok sk ∧ n'.st.rd = ⟨some ⟨sk, rc.take 8⟩, true⟩ := by
  unfold auth at h
  cases liteS
  · exact authN_true C forget x idm h
  · exact authNS_true C forget x idm h

/-- Every octet of `tag.ndef.octets` obtained after a successful `authenticate()` was covered by a
MAC verified in THAT session (the C20-r3m3 class).  Take any history of calls on one FelicaLite /
FelicaLiteS tag object over any air interface: `pre` (anything - in particular `tag.ndef` looked at
before the authentication, answered by falsified frames and cached in the tag object), then
`authenticate(pw)` with challenge `rc` returning True, then calls `mid` none of which is or contains
an authentication (`Quiet`: `tag.ndef`, `has_changed`, `format`, `read_with_mac`, `write_with_mac`,
plain reads and writes, anything happening to the world), then `tag.ndef` returning data `d`.  Then
`d` is `VerifiedNdef` under the session key derived from `pw` and THIS challenge: the attribute
block that gives the length and every data block of `d` came out of `read_with_mac` accepting a
frame under that session - nothing cached before the authentication, nothing read without MAC.
Both behaviours of a failed MAC (`noneOk`) and of a failed authentication (`forget`) are covered. -/
theorem ndef_after_auth_is_mac_verified {σ : Type} (C : Cipher) (forget noneOk : Bool) (x : Air σ) (idm : Bytes) (liteS : Bool)
    (pre mid post : List (NOp σ)) (pw rc d : Bytes) (n0 : NSt σ) (hq : ∀ op ∈ mid, Quiet op)
    (ha : (nrun C forget noneOk x idm liteS (pre ++ .auth pw rc :: (mid ++ .ndef :: post)) n0).1[pre.length]?
      = some (.ok (.bool true)))
    (hn : (nrun C forget noneOk x idm liteS (pre ++ .auth pw rc :: (mid ++ .ndef :: post)) n0).1[pre.length + 1 + mid.length]?
      = some (.ok (.data (some d)))) :
    ∃ key sk, liteKey pw = .ok key ∧ sessionKey C key rc = .ok sk ∧ VerifiedNdef C idm ⟨sk, rc.take 8⟩ d := by
  -- the authentication
  obtain ⟨b, h2, hb⟩ := nbind_pure_ok (nrun_at C forget noneOk x idm ha)
  cases hb
  obtain ⟨hnd, hum, key, sk, hkey, hsk, hrd⟩ := auth_drops_ndef_cache C forget x idm pw rc liteS _ _ h2
  have hj : InSession C idm ⟨sk, rc.take 8⟩ (nrun C forget noneOk x idm liteS (pre ++ [NOp.auth pw rc]) n0).2 :=
    ⟨hum, by rw [hrd], fun d hd => by rw [hnd] at hd; cases hd⟩
  -- the quiet calls and the final tag.ndef
  have hsplit : pre ++ NOp.auth pw rc :: (mid ++ NOp.ndef :: post) = (pre ++ [NOp.auth pw rc] ++ mid) ++ NOp.ndef :: post := by simp
  have hlen : pre.length + 1 + mid.length = (pre ++ [NOp.auth pw rc] ++ mid).length := by simp; omega
  rw [hsplit, hlen] at hn
  obtain ⟨v, h3, hv⟩ := nbind_pure_ok (nrun_at C forget noneOk x idm hn)
  cases hv
  rw [nrun_append_state C forget noneOk x idm liteS (pre ++ [NOp.auth pw rc]) mid n0] at h3
  have quiet_calls_keep_session := nrun_inSession C forget noneOk x idm liteS _ mid hq _ hj
  have ndef_in_session_is_verified := (Yields.ndefProp C noneOk x idm liteS _ quiet_calls_keep_session).2 _ (by rw [h3])
  exact ⟨key, sk, hkey, hsk, ndef_in_session_is_verified d rfl⟩

/-- a FeliCa Lite card for the identity cipher, NDEF formatted, message 01 02 03 -/
def card2 : Card :=
  Card.ofBlocks false idm0 [(0, [0x10, 4, 1, 0, 13, 0, 0, 0, 0, 0, 1, 0, 0, 3, 0, 0x26]), (1, [1, 2, 3] ++ zeros 13),
    (0x80, zeros 16), (0x82, idm0 ++ zeros 8), (0x87, zeros 16), (0x88, [0xFF, 0xFF, 0xFF, 1] ++ zeros 12)] false false

/-- non-vacuity: `tag.ndef` (read without MAC and cached), `authenticate`, `tag.ndef` (read with MAC) -/
example : (nrun idC false false (honest idC) idm0 false ([.ndef] ++ .auth [] (List.replicate 16 7) :: ([] ++ .ndef :: []))
    ⟨⟨Reader.init, card2, []⟩, none, false, true⟩).1
    = [.ok (.data (some [1, 2, 3])), .ok (.bool true), .ok (.data (some [1, 2, 3]))] := by decide +kernel

/-- the same calls while the first answers are falsified in transit (an air interface that flips a bit
of block 1 in the second exchange, the unprotected read of the data block): the application sees the falsified data before the
authentication and the card's data after it -/
def falsifier : Air (Card × Nat) := fun w cmd =>
  let r := w.1.command idC cmd
  ((if w.2 = 1 then r.1.map (fun f => f.set 13 (f.getD 13 0 ^^^ 4)) else r.1), (r.2, w.2 + 1))

example : (nrun idC false false falsifier idm0 false [.ndef, .auth [] (List.replicate 16 7), .ndef]
    ⟨⟨Reader.init, (card2, 0), []⟩, none, false, true⟩).1
    = [.ok (.data (some [5, 2, 3])), .ok (.bool true), .ok (.data (some [1, 2, 3]))] := by decide +kernel

/-- The NDEF cache of `nfc.tag.Tag` for every tag type (used for NTAG21x, which has no MAC): in any
history, right after an `authenticate()` - or `protect()` / `format()` - that returned True the next
`tag.ndef` READS THE TAG and hands out exactly what that read gave, whatever was cached before
(data read before the authentication, possibly falsified, or before the pages were protected). -/
theorem ndef_read_again_after_authenticate (pre post : List TagCache.COp) (c f : Option Bytes) (op : TagCache.COp)
    (hop : op = .auth (.ok true) ∨ op = .protect (.ok true) ∨ op = .format (.ok true)) :
    (TagCache.crun (pre ++ op :: .ndef f :: post) c).1[pre.length + 1]? = some ⟨.ok f, true⟩ := by
  have hsplit : pre ++ op :: TagCache.COp.ndef f :: post = (pre ++ [op]) ++ TagCache.COp.ndef f :: post := by simp
  have hlen : pre.length + 1 = (pre ++ [op]).length := by simp
  -- the cache is empty after `op`, so `tag.ndef` fetches
  rw [hsplit, hlen, TagCache.crun_eq_scan, scan_result_at, scan_state_snoc]
  rcases hop with rfl | rfl | rfl <;> simp [TagCache.cstep]

example : (TagCache.crun [.ndef (some [1]), .ndef (some [2]), .auth (.ok false), .ndef (some [3]), .auth (.ok true), .ndef (some [4])] none).1
    = [⟨.ok (some [1]), true⟩, ⟨.ok (some [1]), false⟩, ⟨.ok none, false⟩, ⟨.ok (some [1]), false⟩, ⟨.ok none, false⟩,
       ⟨.ok (some [4]), true⟩] := by decide

end NfcVerif.C20
