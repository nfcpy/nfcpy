import NfcVerif.Lemmas.FnBridgeIsoSm
import NfcVerif.Model.FnIsoSmRef
import NfcVerif.Lemmas.FnBridgeT4
import NfcVerif.Props.C12
import NfcVerif.Props.C08
/-!
# Bridge theorems, group IsoSm (`nfc/tag/tt4.py`: the decisions of the ISO-DEP initiator and of the Type 4 Tag NDEF
procedures -> `Gen/FnIsoSm.lean` -> `Model/IsoDepC08.lean`, `Model/Retry.lean`, `Model/AdvT34.lean`, `Model/T4.lean`,
`Model/FnIsoSmRef.lean`)

Properties C12 (ISO-DEP: every command is executed once and answered, or the failure is reported), C16 (which errors are
retried and how they are reported), C08 (octets of an arbitrary card raise nothing unhandled, the procedures end), C01
(NDEF write / read plan of Type 4 Tags).  The cuts are listed in `harness/fnspecs/isosm.py` and in the doc comments of
`Gen/FnIsoSm.lean`; APDU build / status and the READ / UPDATE BINARY arguments are group T4, whose regenerated
definitions and bridge theorems are used here.  The source is the tree with fixes/C08/0010-0012 applied, so the ISO-DEP
part is proved against `IsoDepR` (`Model/IsoDepC08.lean`) with all repairs on (`Fix.all`), which `IsoDep2.exchange_c08`
identifies with the model of C12 (`Model/IsoDepV2.lean`); `harness/fnspecs/_alt_isosm_asfound` keeps the bridge for a tree
without the three patches.

* `wtx_test_bridge` .. `chain_acc_bridge`: the single pieces (S(WTX) test and step, empty-answer test, retransmit test
  and budget, every `except` handler, I-block, block number check, R(ACK) / I-block step, chaining test, accumulation)
  against the expressions of the model, for block numbers 0 / 1;
* `xchgW_bridge`, `cmd_loop_bridge`, `rsp_loop_bridge`, `send_offsets_aux`, `recv_chain_bridge`, `exchange_cmd_bridge`,
  `exchange_bridge`, `presence_bridge`: the functions of the model equal the `..Gen` functions of
  `Lemmas/FnBridgeIsoSm.lean` built from regenerated pieces only (the hand-written skeleton is listed there);
  `offsets_bridge` / `send_offsets_aux` connect the source's loop over OFFSETS with the model's loop over CHUNKS;
* `dep_fail_bridge`: the `except` clauses are `Retry.depFail` (C16); `latch_bridge`: the error latch;
* `read_bin_bridge` .. `read_file4_bridge`: the NDEF read of `Model/AdvT34.lean` (C08) on regenerated pieces;
  `chunk_cmds_bridge`, `plan_write_bridge`: the UPDATE BINARY plan of `Model/T4.lean` (C01 part t34);
* `gen_*`: statements of C12 / C08 restated for the regenerated functions.
-/
namespace NfcVerif.FnBridge.IsoSm
open NfcVerif NfcVerif.PyFn NfcVerif.IsoDep NfcVerif.IsoSmRef

theorem wtx_test_bridge (d : Bytes) : Gen.Fn.iso_wtx_test d = .ok (isWtx d) := by
  unfold Gen.Fn.iso_wtx_test isWtx
  match d with
  | [] => simp [len_eq]
  | [a] => simp [len_eq]
  | a :: b :: t =>
    py_nat
    rw [if_pos (by simp)]; rfl

theorem empty_chk_bridge (d : Bytes) :
    Gen.Fn.iso_empty_chk d = (if d = [] then .error .transmission else .ok ())
    ∧ Gen.Fn.iso_empty_chk_r d = (if d = [] then .error .transmission else .ok ()) := by
  unfold Gen.Fn.iso_empty_chk Gen.Fn.iso_empty_chk_r
  cases d with
  | nil => simp [len_eq]
  | cons a t =>
    have : ¬ ((t.length : Int) + 1 = 0) := by omega
    simp [len_eq, this]

theorem pni_cases {pni : Nat} (h : pni < 2) : pni = 0 ∨ pni = 1 := by omega

theorem resend_test_bridge (a : Nat) (t : Bytes) (pni : Nat) (h : pni < 2) :
    Gen.Fn.iso_resend_test (a :: t) (pni : Int) = .ok (decide (a = 0xA2 ||| ((pni + 1) % 2))) := by
  unfold Gen.Fn.iso_resend_test
  rw [getB_zero]
  simp only [Py.bind_ok]
  congr 1
  rcases pni_cases h with rfl | rfl
  · have e : bor 162 (band (bnot ((0 : Nat) : Int)) 1) = 163 := by decide +kernel
    rw [e, Bool.eq_iff_iff]; simp only [decide_eq_true_eq]
    show (a : Int) = 163 ↔ a = 163
    omega
  · have e : bor 162 (band (bnot ((1 : Nat) : Int)) 1) = 162 := by decide +kernel
    rw [e, Bool.eq_iff_iff]; simp only [decide_eq_true_eq]
    show (a : Int) = 162 ↔ a = 162
    omega

/-- the handlers of the command phase: R(NAK) while the budget lasts -/
theorem nak_handlers_bridge (i n pni : Nat) (h : pni < 2) :
    Gen.Fn.iso_nak_on_transmission (i : Int) (n : Int) (pni : Int)
      = (if i ≤ n then .ok [0xB2 ||| pni] else .error (.tagCmd RECEIVE_ERROR))
    ∧ Gen.Fn.iso_nak_on_timeout (i : Int) (n : Int) (pni : Int)
      = (if i ≤ n then .ok [0xB2 ||| pni] else .error (.tagCmd TIMEOUT_ERROR)) := by
  unfold Gen.Fn.iso_nak_on_transmission Gen.Fn.iso_nak_on_timeout RECEIVE_ERROR TIMEOUT_ERROR
  have e : ((i : Int) ≤ (n : Int)) ↔ i ≤ n := by omega
  simp only [e]
  rcases pni_cases h with rfl | rfl <;> (constructor <;> split <;> rfl)

/-- the handlers of the response phase: R(ACK) again while the budget lasts -/
theorem ack_handlers_bridge (i n pni : Nat) (h : pni < 2) :
    Gen.Fn.iso_ack_on_transmission (i : Int) (n : Int) (pni : Int)
      = (if i ≤ n then .ok [0xA2 ||| pni] else .error (.tagCmd RECEIVE_ERROR))
    ∧ Gen.Fn.iso_ack_on_timeout (i : Int) (n : Int) (pni : Int)
      = (if i ≤ n then .ok [0xA2 ||| pni] else .error (.tagCmd TIMEOUT_ERROR)) := by
  unfold Gen.Fn.iso_ack_on_transmission Gen.Fn.iso_ack_on_timeout RECEIVE_ERROR TIMEOUT_ERROR
  have e : ((i : Int) ≤ (n : Int)) ↔ i ≤ n := by omega
  simp only [e]
  rcases pni_cases h with rfl | rfl <;> (constructor <;> split <;> rfl)

theorem protocol_handlers_bridge :
    (raised Gen.Fn.iso_cmd_on_protocol : Py Bytes) = .error (.tagCmd PROTOCOL_ERROR)
    ∧ (raised Gen.Fn.iso_rsp_on_protocol : Py Bytes) = .error (.tagCmd PROTOCOL_ERROR)
    ∧ (raised Gen.Fn.iso_cmd_on_other : Py Bytes) = .error (.tagCmd RECEIVE_ERROR)
    ∧ (raised Gen.Fn.iso_rsp_on_other : Py Bytes) = .error (.tagCmd RECEIVE_ERROR) := ⟨rfl, rfl, rfl, rfl⟩

variable {σ : Type} (P : Peer σ)

/-- the body of the S(WTX) loop on a block that passed the S(WTX) test: WTXM range, sum, limit (`IsoDepR.xchgW`) -/
theorem wtx_step_bridge (a b : Nat) (t : Bytes) (sum lim : Nat) :
    Gen.Fn.iso_wtx_step (a :: b :: t) (sum : Int) (lim : Int)
      = if b &&& 0x3F = 0 ∨ b &&& 0x3F > 59 then .error .protocol
        else if sum + (b &&& 0x3F) > lim then .error (.tagCmd TIMEOUT_ERROR)
        else .ok (((b &&& 0x3F : Nat) : Int), ((sum + (b &&& 0x3F) : Nat) : Int)) := by
  unfold Gen.Fn.iso_wtx_step TIMEOUT_ERROR
  py_nat

theorem wtxmOf_eq (d : Bytes) :
    IsoDepR.wtxmOf d = if isWtx d = true then (match d with | _ :: b :: _ => some (b &&& 0x3F) | _ => none) else none := by
  unfold IsoDepR.wtxmOf isWtx
  match d with
  | [] => rfl
  | [a] => rfl
  | a :: b :: t =>
    simp only [beq_iff_eq]

theorem xchgW_bridge (lim : Nat) : ∀ (f sum : Nat) (w : World σ) (out : Bytes),
    IsoDepR.xchgW P (some lim) f sum w out = xchgWGen P lim f sum w out := by
  intro f
  induction f with
  | zero => intro sum w out; rfl
  | succ f ih =>
    intro sum w out
    simp only [IsoDepR.xchgW, xchgWGen]
    rcases w.xchg P out with ⟨w', r⟩
    cases r with
    | data d =>
      simp only [wtx_test_bridge, wtxmOf_eq]
      cases hw : isWtx d
      · rfl
      · match d, hw with
        | a :: b :: t, _ =>
          simp only [if_true, wtx_step_bridge]
          by_cases h1 : b &&& 0x3F = 0 ∨ b &&& 0x3F > 59
          · simp only [h1, if_true]
          · rw [if_neg h1, if_neg h1]
            by_cases h2 : sum + (b &&& 0x3F) > lim
            · simp only [h2, if_true, TIMEOUT_ERROR]
            · rw [if_neg h2, if_neg h2]
              simp only [Int.toNat_natCast, ih]
    | timeout => rfl
    | transmission => rfl
    | protocol => rfl
    | fuel => rfl

/-- a retransmission after R(ACK) counts against the retry limit: it is made while `i <= n_retry_nak + 1` -/
theorem resend_budget_bridge (i n : Nat) :
    Gen.Fn.iso_resend_budget (i : Int) (n : Int) = if i > n + 1 then .error (.tagCmd PROTOCOL_ERROR) else .ok () := by
  unfold Gen.Fn.iso_resend_budget PROTOCOL_ERROR
  py_nat

theorem cmd_loop_bridge (c : IsoDepR.Cfg) (hw : c.fx.wtx = true) (ha : c.fx.ack = true) (n pni : Nat) (hp : pni < 2)
    (pfb cmd : Bytes) (offset miu : Int) (req : Bytes)
    (hreq : req = Gen.Fn.iso_resend_blk pfb cmd offset miu) :
    ∀ (f i : Nat) (out : Bytes) (w : World σ),
      IsoDepR.blockLoop P c n (some (0xA2 ||| ((pni + 1) % 2))) req [0xB2 ||| pni] f i out w
        = cmdLoopGen P c.lim c.F n pni pfb cmd offset miu f i out w := by
  subst hreq
  have hl : c.wlim = some c.lim := by simp [IsoDepR.Cfg.wlim, hw]
  intro f
  induction f with
  | zero => intro i out w; rfl
  | succ f ih =>
    intro i out w
    simp only [IsoDepR.blockLoop, cmdLoopGen, hl, ← xchgW_bridge]
    rcases IsoDepR.xchgW P (some c.lim) c.F 0 w out with ⟨w', r⟩
    cases r with
    | data d =>
      cases d with
      | nil =>
        simp only [rxTry, Py.bind_ok, (empty_chk_bridge []).1, if_true, Py.bind_error, (nak_handlers_bridge i n pni hp).1]
        by_cases hi : i ≤ n <;> simp only [hi, if_true, if_false, ih]
      | cons a t =>
        simp only [rxTry, Py.bind_ok, (empty_chk_bridge (a :: t)).1, reduceCtorEq, if_false, resend_test_bridge a t pni hp,
          resend_budget_bridge, ha, true_and]
        by_cases hx : a = 0xA2 ||| ((pni + 1) % 2)
        · simp only [hx, decide_true, if_true]
          by_cases hi : i > n + 1
          · simp only [hi, if_true, Py.bind_error]
          · simp only [hi, if_false, Py.bind_ok, ih]
        · have : ¬ (some (0xA2 ||| ((pni + 1) % 2)) = some a) := by
            intro x; injection x with x; exact hx x.symm
          simp only [this, hx, decide_false, if_false, Bool.false_eq_true]
    | timeout =>
      simp only [rxTry, Py.bind_error, (nak_handlers_bridge i n pni hp).2]
      by_cases hi : i ≤ n <;> simp only [hi, if_true, if_false, ih]
    | transmission =>
      simp only [rxTry, Py.bind_error, (nak_handlers_bridge i n pni hp).1]
      by_cases hi : i ≤ n <;> simp only [hi, if_true, if_false, ih]
    | protocol => simp only [rxTry, Py.bind_error, protocol_handlers_bridge.1]
    | fuel => rfl
    | waited => rfl

theorem rsp_loop_bridge (c : IsoDepR.Cfg) (hw : c.fx.wtx = true) (n pni : Nat) (hp : pni < 2) :
    ∀ (f i : Nat) (out : Bytes) (w : World σ),
      IsoDepR.blockLoop P c n none [0xA2 ||| pni] [0xA2 ||| pni] f i out w = rspLoopGen P c.lim c.F n pni f i out w := by
  have hl : c.wlim = some c.lim := by simp [IsoDepR.Cfg.wlim, hw]
  intro f
  induction f with
  | zero => intro i out w; rfl
  | succ f ih =>
    intro i out w
    simp only [IsoDepR.blockLoop, rspLoopGen, hl, ← xchgW_bridge]
    rcases IsoDepR.xchgW P (some c.lim) c.F 0 w out with ⟨w', r⟩
    cases r with
    | data d =>
      cases d with
      | nil =>
        simp only [rxTry, Py.bind_ok, (empty_chk_bridge []).2, if_true, Py.bind_error, (ack_handlers_bridge i n pni hp).1]
        by_cases hi : i ≤ n <;> simp only [hi, if_true, if_false, ih]
      | cons a t =>
        simp only [rxTry, Py.bind_ok, (empty_chk_bridge (a :: t)).2, reduceCtorEq, if_false]
    | timeout =>
      simp only [rxTry, Py.bind_error, (ack_handlers_bridge i n pni hp).2]
      by_cases hi : i ≤ n <;> simp only [hi, if_true, if_false, ih]
    | transmission =>
      simp only [rxTry, Py.bind_error, (ack_handlers_bridge i n pni hp).1]
      by_cases hi : i ≤ n <;> simp only [hi, if_true, if_false, ih]
    | protocol => simp only [rxTry, Py.bind_error, protocol_handlers_bridge.2.1]
    | fuel => rfl
    | waited => rfl

/-- `pack('B', base | self.pni)` / `bytearray([base | self.pni])` for a block number -/
theorem pack_bn (base pni : Nat) (hb : base < 255) (hp : pni < 2) :
    PyFn.pack [.B] [bor (base : Int) (pni : Int)] = .ok [base ||| pni]
    ∧ mkBytes [bor (base : Int) (pni : Int)] = .ok [base ||| pni] := by
  have h : base ||| pni < 2 ^ 8 := Nat.or_lt_two_pow (by omega) (by omega)
  rw [bor_ofNat]
  exact ⟨T4.pack_B_ok (by omega), mkBytes_isBytes [_] (by intro x hx; rw [List.mem_singleton.mp hx]; exact h)⟩

/-- the I-block at offset `o`: `more` iff more than `miu` octets remain, PCB 02h / 12h with the block number -/
theorem iblock_bridge (cmd : Bytes) (o miu pni : Nat) (hp : pni < 2) :
    Gen.Fn.iso_iblock cmd (o : Int) (miu : Int) (pni : Int)
      = .ok (decide (cmd.length - o > miu ∧ o ≤ cmd.length), [(if cmd.length - o > miu ∧ o ≤ cmd.length then 0x12 else 0x02) ||| pni],
             ((if cmd.length - o > miu ∧ o ≤ cmd.length then 0x12 else 0x02) ||| pni) :: (cmd.drop o).take miu) := by
  unfold Gen.Fn.iso_iblock
  have em : ((PyFn.len cmd - (o : Int)) > (miu : Int)) ↔ (cmd.length - o > miu ∧ o ≤ cmd.length) := by
    rw [len_eq]; omega
  simp only [em, slice_add_cast]
  by_cases h : cmd.length - o > miu ∧ o ≤ cmd.length
  · simp only [h, and_self, decide_true, if_true]
    rw [show (18 : Int) = ((18 : Nat) : Int) from rfl, (pack_bn 18 pni (by omega) hp).1]
    rfl
  · simp only [h, decide_false, if_false, Bool.false_eq_true]
    rw [show (2 : Int) = ((2 : Nat) : Int) from rfl, (pack_bn 2 pni (by omega) hp).1]
    rfl

theorem bn_chk_bridge (d : Bytes) (pni : Nat) :
    Gen.Fn.iso_bn_chk_cmd d (pni : Int)
      = (match d with | [] => .error .index | a :: _ => if a &&& 0x01 ≠ pni then .error (.tagCmd PROTOCOL_ERROR) else .ok ())
    ∧ Gen.Fn.iso_bn_chk_rsp d (pni : Int)
      = (match d with | [] => .error .index | a :: _ => if a &&& 0x01 ≠ pni then .error (.tagCmd PROTOCOL_ERROR) else .ok ()) := by
  unfold Gen.Fn.iso_bn_chk_cmd Gen.Fn.iso_bn_chk_rsp PROTOCOL_ERROR
  cases d with
  | nil => simp [getB_nil]
  | cons a t =>
    simp only [getB_zero, Py.bind_ok]
    rw [show (1 : Int) = ((1 : Nat) : Int) from rfl, band_ofNat]
    have e : ((((a &&& 1 : Nat) : Int)) ≠ (pni : Int)) ↔ (a &&& 1 ≠ pni) := by omega
    simp only [e, and_self]

theorem ack_step_bridge (a : Nat) (t : Bytes) (pni : Nat) :
    Gen.Fn.iso_ack_step (a :: t) (pni : Int)
      = if a &&& 0xFE = 0xA2 then .ok (((pni + 1) % 2 : Nat) : Int) else .error (.tagCmd PROTOCOL_ERROR) := by
  unfold Gen.Fn.iso_ack_step PROTOCOL_ERROR
  py_nat
  rfl

theorem inf_step_bridge (a : Nat) (t : Bytes) (pni : Nat) :
    Gen.Fn.iso_inf_step (a :: t) (pni : Int)
      = if a &&& 0xEE = 0x02 then .ok ((((pni + 1) % 2 : Nat) : Int), t) else .error (.tagCmd PROTOCOL_ERROR) := by
  unfold Gen.Fn.iso_inf_step PROTOCOL_ERROR
  py_nat
  rfl

theorem chain_test_bridge (d : Bytes) :
    Gen.Fn.iso_chain_test d = match d with | [] => .error .index | a :: _ => .ok (decide (a &&& 0x10 ≠ 0)) := by
  unfold Gen.Fn.iso_chain_test
  cases d with
  | nil => simp [getB_nil]
  | cons a t =>
    simp only [getB_zero, Py.bind_ok]
    rw [show (16 : Int) = ((16 : Nat) : Int) from rfl, band_ofNat]
    congr 1
    rw [Bool.eq_iff_iff]
    simp only [decide_eq_true_eq, ne_eq]
    omega

theorem ack_blk_bridge (pni : Nat) (hp : pni < 2) :
    Gen.Fn.iso_ack_blk (pni : Int) = .ok [0xA2 ||| pni] ∧ Gen.Fn.iso_presence_blk (pni : Int) = .ok [0xB2 ||| pni] := by
  unfold Gen.Fn.iso_ack_blk Gen.Fn.iso_presence_blk
  rw [show (162 : Int) = ((162 : Nat) : Int) from rfl, (pack_bn 162 pni (by omega) hp).1,
    show (178 : Int) = ((178 : Nat) : Int) from rfl, (pack_bn 178 pni (by omega) hp).2]
  exact ⟨rfl, rfl⟩

theorem chain_acc_bridge (resp : Bytes) (b : Nat) (t : Bytes) (pni : Nat) :
    Gen.Fn.iso_chain_acc resp (b :: t) (pni : Int) = (resp ++ t, (((pni + 1) % 2 : Nat) : Int)) := by
  unfold Gen.Fn.iso_chain_acc
  py_nat
  rfl

/-- the offsets `o, o + miu, ..` below `len` -/
def offsFrom (miu len : Nat) : Nat → Nat → List Nat
  | 0, _ => []
  | f+1, o => if len ≤ o then [] else o :: offsFrom miu len f (o + miu)

theorem offsFrom_eq (miu len : Nat) (hm : 0 < miu) :
    ∀ (f o : Nat), len - o ≤ f → offsFrom miu len f o = (List.range ((len - o + miu - 1) / miu)).map fun i => o + i * miu := by
  intro f
  induction f with
  | zero => intro o h; rw [(Nat.div_eq_zero_iff_lt hm).mpr (by omega)]; rfl
  | succ f ih =>
    intro o h
    rw [offsFrom]
    by_cases hl : len ≤ o
    · rw [if_pos hl, (Nat.div_eq_zero_iff_lt hm).mpr (by omega)]; rfl
    · have e : (len - o + miu - 1) / miu = (len - (o + miu) + miu - 1) / miu + 1 := by
        rw [← Nat.sub_sub]; exact ceilDiv_step miu (len - o) hm (by omega)
      rw [if_neg hl, ih (o + miu) (by omega), e, List.range_succ_eq_map]
      simp only [List.map_cons, List.map_map, Nat.zero_mul, Nat.add_zero, List.cons.injEq, true_and]
      apply List.map_congr_left
      intro i _
      simp only [Function.comp, Nat.succ_eq_add_one, Nat.add_mul, Nat.one_mul]
      omega

theorem offsets_bridge (cmd : Bytes) (miu : Nat) (hm : 0 < miu) :
    Gen.Fn.iso_offsets cmd (miu : Int) = .ok ((offsFrom miu cmd.length cmd.length 0).map (fun (n : Nat) => (n : Int))) := by
  unfold Gen.Fn.iso_offsets
  rw [len_eq, show (0 : Int) = ((0 : Nat) : Int) from rfl, rangeStep_nat 0 _ miu hm, offsFrom_eq miu _ hm _ 0 (by omega), List.map_map]
  rfl

theorem resend_blk_bridge (pcb : Nat) (cmd : Bytes) (o miu : Nat) :
    Gen.Fn.iso_resend_blk [pcb] cmd (o : Int) (miu : Int) = pcb :: (cmd.drop o).take miu := by
  unfold Gen.Fn.iso_resend_blk
  rw [slice_add_cast]; rfl

/-- what `sendOffsetsGen` returns for the answer `d` the model returns: the block and `response = data[1:]` -/
def withResponse {σ} (r : World σ × Nat × Py Bytes) : World σ × Nat × Py (Bytes × Bytes) :=
  (r.1, r.2.1, r.2.2 >>= fun d => .ok (d, d.drop 1))

theorem send_offsets_aux (c : IsoDepR.Cfg) (hw : c.fx.wtx = true) (ha : c.fx.ack = true) (nNak : Nat) (cmd : Bytes) (miu : Nat)
    (hm : 0 < miu) :
    ∀ (f o pni : Nat) (w : World σ), o < cmd.length → cmd.length - o ≤ f → pni < 2 →
      sendOffsetsGen P c.lim c.F nNak cmd (miu : Int) ((offsFrom miu cmd.length f o).map (fun (n : Nat) => (n : Int))) pni w
        = withResponse (IsoDepR.sendChunks P c nNak (chunksAux miu f (cmd.drop o)) pni w) := by
  intro f
  induction f with
  | zero => intro o pni w h1 h2; omega
  | succ f ih =>
    intro o pni w ho hf hp
    have hl : ¬ cmd.length ≤ o := by omega
    have hlen : (cmd.drop o).length ≤ miu ↔ ¬ (cmd.length - o > miu ∧ o ≤ cmd.length) := by rw [List.length_drop]; omega
    have hch : chunksAux miu (f + 1) (cmd.drop o) = (cmd.drop o).take miu ::
        (if (cmd.drop o).length ≤ miu then [] else chunksAux miu f ((cmd.drop o).drop miu)) := by
      rw [chunksAux]
      split
      · rw [List.take_of_length_le ‹_›]
      · rfl
    have hmo : (!(if (cmd.drop o).length ≤ miu then [] else chunksAux miu f ((cmd.drop o).drop miu)).isEmpty)
        = decide (cmd.length - o > miu ∧ o ≤ cmd.length) := by
      by_cases h : (cmd.drop o).length ≤ miu
      · rw [if_pos h, decide_eq_false (hlen.mp h)]; rfl
      · have hmore := Classical.not_not.mp ((not_congr hlen).mp h)
        obtain ⟨f', rfl⟩ : ∃ f', f = f' + 1 := ⟨f - 1, by omega⟩
        rw [if_neg h, decide_eq_true hmore, chunksAux]
        split <;> rfl
    rw [hch]
    simp only [offsFrom, hl, if_false, List.map_cons, sendOffsetsGen, iblock_bridge cmd o miu pni hp, IsoDepR.sendChunks, hmo,
      decide_eq_true_eq]
    rw [← cmd_loop_bridge P c hw ha nNak pni hp _ cmd o miu _ (resend_blk_bridge _ cmd o miu).symm]
    rcases IsoDepR.blockLoop P c nNak (some (162 ||| (pni + 1) % 2))
      (((if cmd.length - o > miu ∧ o ≤ cmd.length then 18 else 2) ||| pni) :: List.take miu (List.drop o cmd)) [178 ||| pni] c.F 1
      (((if cmd.length - o > miu ∧ o ≤ cmd.length then 18 else 2) ||| pni) :: List.take miu (List.drop o cmd)) w with ⟨w', r⟩
    cases r with
    | error e => rfl
    | ok d =>
      cases d with
      | nil => simp [(bn_chk_bridge [] pni).1, withResponse]
      | cons a t =>
        simp only [(bn_chk_bridge (a :: t) pni).1]
        by_cases hb : a &&& 0x01 ≠ pni
        · simp only [hb, if_true, withResponse, Py.bind_error, ne_eq, not_false_eq_true]
        rw [if_neg hb, if_neg hb]
        by_cases hmore : cmd.length - o > miu ∧ o ≤ cmd.length
        · -- a further block follows
          simp only [hmore, and_self, if_true, ack_step_bridge, if_neg ((not_congr hlen).mpr (not_not_intro hmore)), List.drop_drop]
          by_cases ha : a &&& 0xFE = 0xA2
          · simp only [ha, if_true, Int.toNat_natCast]
            exact ih (o + miu) ((pni + 1) % 2) w' (by omega) (by omega) (by omega)
          · simp only [ha, if_false, withResponse, Py.bind_error]
        · -- the last block
          simp only [hmore, if_false, inf_step_bridge]
          by_cases ha : a &&& 0xEE = 0x02 <;> simp [ha, withResponse]
          omega

/-- the chaining check in front of every R(ACK) (`IsoDepR.recvChain`: `inf = [] ∨ resp.length > 65538`) -/
theorem chain_chk_bridge (a : Nat) (inf resp : Bytes) :
    Gen.Fn.iso_chain_chk (a :: inf) resp = if inf = [] ∨ resp.length > 65538 then .error (.tagCmd PROTOCOL_ERROR) else .ok () := by
  unfold Gen.Fn.iso_chain_chk PROTOCOL_ERROR
  have e1 : (PyFn.len (a :: inf) = 1) ↔ inf = [] := by
    rw [len_eq]; cases inf <;> simp <;> omega
  have e2 : (PyFn.len resp > 65538) ↔ resp.length > 65538 := by rw [len_eq]; omega
  simp only [e1, e2]

theorem recv_chain_bridge (c : IsoDepR.Cfg) (hw : c.fx.wtx = true) (hc : c.fx.chain = true) (nAck : Nat) :
    ∀ (f pni : Nat) (data resp : Bytes) (w : World σ), pni < 2 →
      IsoDepR.recvChain P c nAck f pni data resp w = recvChainGen P c.lim c.F nAck f pni data resp w := by
  intro f
  induction f with
  | zero => intro pni data resp w hp; rfl
  | succ f ih =>
    intro pni data resp w hp
    simp only [IsoDepR.recvChain, recvChainGen, chain_test_bridge]
    cases data with
    | nil => rfl
    | cons a t =>
      simp only
      by_cases hcb : a &&& 0x10 = 0
      · simp [hcb]
      · simp only [hcb, if_false, ne_eq, not_false_eq_true, decide_true, chain_chk_bridge, hc, true_and]
        by_cases hx : t = [] ∨ resp.length > 65538
        · simp only [hx, if_true]
        · rw [if_neg hx, if_neg hx]
          simp only [(ack_blk_bridge pni hp).1, ← rsp_loop_bridge P c hw nAck pni hp]
          rcases IsoDepR.blockLoop P c nAck none [162 ||| pni] [162 ||| pni] c.F 1 [162 ||| pni] w with ⟨w', r⟩
          cases r with
          | error e => rfl
          | ok d =>
            cases d with
            | nil => simp [(bn_chk_bridge [] pni).2]
            | cons b t' =>
              simp only [(bn_chk_bridge (b :: t') pni).2]
              by_cases hb : b &&& 0x01 ≠ pni
              · simp only [hb, if_true, ne_eq, not_false_eq_true]
              · rw [if_neg hb, if_neg hb]
                simp only [chain_acc_bridge, Int.toNat_natCast]
                exact ih _ _ _ _ (by omega)

/-- `_exchange_command(command)`; `pcd.pni` is a block number -/
theorem exchange_cmd_bridge (c : IsoDepR.Cfg) (hx : c.fx = IsoDepR.Fix.all) (pcd : Pcd) (hp : pcd.pni < 2) (cmd : Bytes) (w : World σ) :
    IsoDepR.exchangeCmd P c pcd cmd w = exchangeCmdGen P c.lim c.F pcd cmd w := by
  have hw : c.fx.wtx = true := by rw [hx]; rfl
  have ha : c.fx.ack = true := by rw [hx]; rfl
  have hch : c.fx.chain = true := by rw [hx]; rfl
  unfold IsoDepR.exchangeCmd exchangeCmdGen
  by_cases h0 : pcd.miu = 0
  · simp [h0, Gen.Fn.iso_offsets, PyFn.rangeStep]
  · rw [if_neg h0]
    by_cases hneg : pcd.miu < 0
    · have hn : ¬ pcd.miu > 0 := by omega
      have : Gen.Fn.iso_offsets cmd pcd.miu = .ok [] := by
        unfold Gen.Fn.iso_offsets PyFn.rangeStep
        rw [if_neg h0, if_neg hn]
        have : ((0 - PyFn.len cmd - pcd.miu - 1) / (-pcd.miu)).toNat = 0 := by
          rw [len_eq]
          have := Int.ediv_lt_of_lt_mul (by omega : 0 < -pcd.miu)
            (by omega : 0 - (cmd.length : Int) - pcd.miu - 1 < 1 * (-pcd.miu))
          omega
        rw [this]; rfl
      simp [hneg, this]
    · obtain ⟨m, hm⟩ : ∃ m : Nat, pcd.miu = (m : Int) := ⟨pcd.miu.toNat, by omega⟩
      have hm0 : 0 < m := by omega
      rw [hm, offsets_bridge cmd m hm0]
      cases cmd with
      | nil => simp [offsFrom]
      | cons c0 cs =>
        have hnot : ¬ ((m : Int) < 0 ∨ (c0 :: cs) = []) := by simp
        rw [if_neg hnot]
        have hoffs : (offsFrom m (c0 :: cs).length (c0 :: cs).length 0).map (fun (n : Nat) => (n : Int))
            = ((0 : Nat) : Int) :: (offsFrom m (c0 :: cs).length cs.length (0 + m)).map (fun (n : Nat) => (n : Int)) := by
          simp [offsFrom]
        have haux := send_offsets_aux P c hw ha pcd.nNak (c0 :: cs) m hm0 (c0 :: cs).length 0 pcd.pni w (by simp) (by simp) hp
        rw [List.drop_zero, ← show chunks m (c0 :: cs) = _ from if_neg (List.cons_ne_nil c0 cs)] at haux
        rw [hoffs] at haux ⊢
        simp only [Int.toNat_natCast]
        rw [haux]
        rcases hs : IsoDepR.sendChunks P c pcd.nNak (chunks m (c0 :: cs)) pcd.pni w with ⟨w1, pni1, r⟩
        cases r with
        | error e => rfl
        | ok d =>
          have hp1 : pni1 < 2 := by
            have := IsoDepR.sendChunks_pni_lt P c hx pcd.nNak (chunks m (c0 :: cs)) pcd.pni w hp
            rw [hs] at this; exact this
          simp only [withResponse, Py.bind_ok, recv_chain_bridge P c hw hch pcd.nAck c.F pni1 d (d.drop 1) w1 hp1]

/-- `IsoDepInitiator.exchange(command)`: the latch test, the command, the latch store; `pcd.pni` is a block number as long
as no error is latched (`C12.SessInv`) -/
theorem exchange_bridge (c : IsoDepR.Cfg) (hx : c.fx = IsoDepR.Fix.all) (pcd : Pcd) (hp : pcd.failed = none → pcd.pni < 2) (cmd : Bytes)
    (w : World σ) : IsoDepR.exchange P c pcd cmd w = exchangeGen P c.lim c.F pcd cmd w := by
  unfold IsoDepR.exchange exchangeGen Gen.Fn.iso_latch_chk Gen.Fn.iso_latch_set
  cases hf : pcd.failed with
  | some e => simp
  | none =>
    simp only [Option.isSome_none, Bool.false_eq_true, decide_false, if_false, ← exchange_cmd_bridge P c hx pcd (hp hf)]
    rcases IsoDepR.exchangeCmd P c pcd cmd w with ⟨w', pcd', r⟩
    cases r with
    | ok d => rfl
    | error e => cases e <;> rfl

theorem presence_bridge (pcd : Pcd) (hp : pcd.pni < 2) (w : World σ) : presence P pcd w = presenceGen P pcd w := by
  unfold presence presenceGen
  rw [(ack_blk_bridge pcd.pni hp).2]
  simp only
  cases (w.xchg P [0xB2 ||| pcd.pni]).2 <;> rfl

/-! ## the `except` clauses against `Model/Retry.lean` (C16), the error latch -/

/-- C16: the handlers of both retry loops are `Retry.depFail` (repaired: an unknown CommunicationError is RECEIVE_ERROR):
`none` = the loop goes on with an R(NAK) / R(ACK), `some e` = the exception that leaves the loop -/
theorem dep_fail_bridge (cfg : Retry.Cfg) (h : cfg.fixT4 = true) (budget i pni : Nat) (hp : pni < 2) (f : Retry.Fault) :
    Retry.depFail cfg budget i f = (match cmdHandlerGen i budget pni f with | .ok _ => none | .error e => some e)
    ∧ Retry.depFail cfg budget i f = (match rspHandlerGen i budget pni f with | .ok _ => none | .error e => some e) := by
  have hs := nak_handlers_bridge i budget pni hp
  have ha := ack_handlers_bridge i budget pni hp
  have hq := protocol_handlers_bridge
  cases f with
  | timeout =>
    simp only [Retry.depFail, cmdHandlerGen, rspHandlerGen, hs.2, ha.2, TIMEOUT_ERROR]
    by_cases hi : i ≤ budget <;> simp [hi]
  | transmission =>
    simp only [Retry.depFail, cmdHandlerGen, rspHandlerGen, hs.1, ha.1, RECEIVE_ERROR]
    by_cases hi : i ≤ budget <;> simp [hi]
  | protocol =>
    simp only [Retry.depFail, cmdHandlerGen, rspHandlerGen, hq.1, hq.2.1, PROTOCOL_ERROR]
    exact ⟨trivial, trivial⟩
  | brokenLink | base =>
    simp only [Retry.depFail, cmdHandlerGen, rspHandlerGen, hq.2.2.1, hq.2.2.2, RECEIVE_ERROR, h, if_true]
    exact ⟨trivial, trivial⟩

/-- the error latch: a latched reason code is raised again for every further command (`IsoDep.exchange`: `pcd.failed`),
the presence check (`command is None`) passes; the latch stores the reason code (`Retry.World.stick`) -/
theorem latch_bridge (cmd : Option Bytes) (failed : Option Int) (e : Int) :
    Gen.Fn.iso_latch_chk cmd failed.isSome (failed.getD 0)
      = (match cmd, failed with | some _, some n => .error (.tagCmd n) | _, _ => .ok ())
    ∧ Gen.Fn.iso_latch_set e = e := by
  refine ⟨?_, rfl⟩
  unfold Gen.Fn.iso_latch_chk
  cases cmd <;> cases failed <;> simp

/-- the waiting time granted with an S(WTX) response is the reference `wtxTime` of the accepted multiplier -/
theorem wtx_time_bridge (b : Nat) (fwt : Int) :
    Gen.Fn.iso_wtx_time ((b &&& 0x3F : Nat) : Int) fwt = wtxTime b fwt ∧ Gen.Fn.iso_wtx_sum0 = 0 := by
  refine ⟨?_, rfl⟩
  unfold Gen.Fn.iso_wtx_time wtxTime
  rw [and63]

/-- `IsoDepInitiator.__init__`: block number 0, MIU = FSC - 3, no latched error (`IsoDep.mkPcd`) -/
theorem init_bridge (fsci fwi maxSend : Nat) :
    let r := Gen.Fn.iso_init (deriveFsc fsci maxSend : Int)
    ((mkPcd fsci fwi maxSend).pni : Int) = r.1 ∧ (mkPcd fsci fwi maxSend).miu = r.2.1 ∧ (mkPcd fsci fwi maxSend).failed = none := by
  simp [Gen.Fn.iso_init, mkPcd]

/-! ## Type 4 Tag NDEF read on regenerated pieces (`Model/AdvT34.lean`, C08) -/

/-- the argument slices of `_read_binary` / `_update_binary` (group T4): `struct.error` beyond a 16 bit offset, else
P1, P2 and the length limited by MLe / MLc -/
theorem binary_args (off : Nat) (size : Int) (lim : Nat) (data : Bytes) :
    Gen.Fn.t4_read_binary_args (off : Int) size (lim : Int)
      = (if off > 65535 then .error .struct else .ok (((off / 256 : Nat) : Int), ((off % 256 : Nat) : Int), min (lim : Int) size))
    ∧ Gen.Fn.t4_update_binary_args (off : Int) data (lim : Int)
      = (if off > 65535 then .error .struct
         else .ok (((off / 256 : Nat) : Int), ((off % 256 : Nat) : Int), ((min lim data.length : Nat) : Int))) := by
  unfold Gen.Fn.t4_read_binary_args Gen.Fn.t4_update_binary_args
  simp only [T4.p1p2]
  simp only [len_eq, T4.imin_nat, imin_eq_min (lim : Int) size, and_self]

section ndef
open NfcVerif.Adv
variable {σ : Type} (X : Xp σ)

theorem read_bin_bridge (maxLe off : Nat) (size : Int) (s : σ) : readBin X maxLe off size s = readBinGen X maxLe off size s := by
  unfold readBin readBinGen
  rw [(binary_args off size maxLe []).1]
  by_cases h : off > 65535
  · rw [if_pos h, if_pos h]
  · rw [if_neg h, if_neg h]
    simp only [Int.toNat_natCast, surplus, Gen.Fn.iso_read_surplus]
    congr 1
    cases (apdu4 X 0xB0 (off / 256) (off % 256) [] (min (maxLe : Int) size) s).2 with
    | error e => rfl
    | ok d =>
      simp only [Py.bind_ok, len_eq, imax_eq_max]
      by_cases hs : (d.length : Int) > max (min (maxLe : Int) size) 0 <;> simp [hs]

theorem select_fid_bridge (v1 : Bool) (fid : Bytes) (s : σ) : selectFid X v1 fid s = selectFidGen X v1 fid s := by
  unfold selectFid selectFidGen Gen.Fn.iso_sel_fid_p2
  cases v1 <;> rfl

theorem select_app_bridge (s : σ) : selectApp X s = selectAppGen X s := by
  unfold selectApp selectAppGen
  simp only [Gen.Fn.iso_sel_app_table, Gen.Fn.iso_sel_app_stop, decide_eq_true_eq]
  rfl

theorem unpack_be (l : Bytes) (k : Nat) :
    (needExact l (k : Int) >>= fun _ => Except.ok (ube l 0 k)) = if l.length ≠ k then .error .struct else .ok ((beNat l : Nat) : Int) := by
  rw [needExact_nat]
  by_cases h : l.length = k
  · rw [if_pos h, if_neg (not_not_intro h), show (0 : Int) = ((0 : Nat) : Int) from rfl, ube_nat, List.drop_zero,
      List.take_of_length_le (by omega)]
    rfl
  · rw [if_neg h, if_pos h]; rfl

/-- `unpack('>H', cclen)` -/
theorem cclen_parse (cclen : Bytes) :
    Gen.Fn.iso_disc_cclen cclen = if cclen.length ≠ 2 then .error .struct else .ok ((beNat cclen : Nat) : Int) :=
  unpack_be cclen 2

theorem cclen_bridge (cclen : Bytes) :
    Gen.Fn.iso_disc_cclen_bad cclen = decide (cclen.length ≠ 2)
    ∧ (cclen.length = 2 → Gen.Fn.iso_disc_cclen cclen = .ok ((beNat cclen : Nat) : Int))
    ∧ ∀ n : Int, Gen.Fn.iso_disc_cc_size n = min (n - 2) 15 := by
  refine ⟨?_, ?_, ?_⟩
  · unfold Gen.Fn.iso_disc_cclen_bad
    rw [Bool.eq_iff_iff]
    cases cclen <;> simp [len_eq] <;> omega
  · intro h
    rw [cclen_parse, if_neg (not_not_intro h)]
  · exact fun n => imin_eq_min _ _

/-! `discover4Gen`, `readLoop4Gen` and `readFile4Gen` are the texts of the model functions with the pieces put in, so
`discover4_bridge`, `read_loop4_bridge` and `read_file4_bridge` rewrite the pieces back (`← .._bridge`, the unfolded comparisons)
and `rfl` compares what is left.  `+contextual`: the parse of a length field (`cclen_parse`, `nlen_parse`) is an `if` on the
length of the string, and what decides it is the `else` branch of the skeleton's own length test in front of the parse. -/

theorem discover4_bridge (s : σ) : discover4 X s = discover4Gen X s := by
  unfold discover4 discover4Gen
  simp +contextual only [← select_app_bridge, ← select_fid_bridge, ← read_bin_bridge, Gen.Fn.iso_disc_init,
    (cclen_bridge _).1, Gen.Fn.iso_disc_cc_size, imin_eq_min, cclen_parse, decide_eq_true_eq, show (15 : Int).toNat = 15 from rfl, if_false]
  rfl

theorem read_loop4_bridge (i : Info) (nlen : Nat) :
    ∀ (f : Nat) (acc : Bytes) (s : σ), readLoop4 X i nlen f acc s = readLoop4Gen X i nlen f acc s := by
  intro f
  induction f with
  | zero => intro acc s; rfl
  | succ f ih =>
    intro acc s
    have e1 : ((acc.length : Int) < (nlen : Int)) ↔ ¬ acc.length ≥ nlen := by omega
    have e2 : ((i.nlenSize : Int) + (acc.length : Int)).toNat = i.nlenSize + acc.length := by omega
    have e3 : ∀ m : Bytes, ((m.length : Int) = 0) ↔ m.length = 0 := fun m => by omega
    simp only [readLoop4, readLoop4Gen, Gen.Fn.iso_read_more, Gen.Fn.iso_read_args, Gen.Fn.iso_read_stuck, Gen.Fn.iso_read_acc,
      len_eq, ← read_bin_bridge, ← ih, e1, e2, e3, decide_eq_false_iff_not, decide_eq_true_eq, Classical.not_not]
    rfl

/-- `unpack(lfmt, nlen)` for the two length field sizes -/
theorem nlen_parse (nl : Bytes) (n : Nat) (hn : n = 2 ∨ n = 4) :
    Gen.Fn.iso_nlen_parse nl (n : Int) = if nl.length ≠ n then .error .struct else .ok ((beNat nl : Nat) : Int) := by
  unfold Gen.Fn.iso_nlen_parse
  rcases hn with rfl | rfl
  · rw [if_neg (by omega), ← unpack_be nl 2]
    cases needExact nl ((2 : Nat) : Int) <;> rfl
  · rw [if_pos (show ((4 : Nat) : Int) = 4 from rfl), ← unpack_be nl 4]
    cases needExact nl ((4 : Nat) : Int) <;> rfl

theorem nlen_bridge (nl : Bytes) (n : Nat) (hn : n = 2 ∨ n = 4) :
    Gen.Fn.iso_nlen_len_bad nl (n : Int) = decide (nl.length ≠ n)
    ∧ (nl.length = n → Gen.Fn.iso_nlen_parse nl (n : Int) = .ok ((beNat nl : Nat) : Int)) := by
  constructor
  · unfold Gen.Fn.iso_nlen_len_bad
    rw [Bool.eq_iff_iff, len_eq]
    simp only [decide_eq_true_eq, ne_eq]
    omega
  · intro h
    rw [nlen_parse nl n hn, if_neg (not_not_intro h)]

theorem read_file4_bridge (i : Info) (hn : i.nlenSize = 2 ∨ i.nlenSize = 4) (s1 : σ) :
    readFile4 X i s1 = readFile4Gen X i s1 := by
  unfold readFile4 readFile4Gen
  have e : ∀ n : Nat, (((i.nlenSize : Int) + (n : Int)) > 65536) ↔ (i.nlenSize + n > 0x10000) := fun n => by omega
  simp +contextual only [← select_fid_bridge, ← read_bin_bridge, ← read_loop4_bridge, (nlen_bridge _ _ hn).1, nlen_parse _ _ hn,
    Gen.Fn.iso_nlen_limit, Gen.Fn.iso_read_init, Int.toNat_natCast, decide_eq_true_eq, e, if_false]
  rfl

theorem parseCC_nlen (v1 : Bool) (caps : Bytes) (i : Info) (h : parseCC v1 caps = .ok (some i)) :
    i.nlenSize = 2 ∨ i.nlenSize = 4 :=
  (Adv.parseCC_yields v1 caps _ h i rfl).2

theorem discover4_nlen (s : σ) (i : Info) (s' : σ) (h : discover4 X s = (s', .ok (some i))) : i.nlenSize = 2 ∨ i.nlenSize = 4 := by
  unfold discover4 at h
  split at h
  · cases h
  · cases h
  · split at h
    · cases h
    · cases h
    · split at h
      · cases h
      · split at h
        · cases h
        · split at h
          · cases h
          · injection h with _ h
            exact parseCC_nlen _ _ i h

/-- `_read_ndef_data` as a whole (`Adv.readNdef4`, C08) on regenerated pieces; `known`: the attributes kept from an earlier
`_discover_ndef` (an NLEN field of 2 or 4 octets, as every discovery leaves it: `discover4_nlen`) -/
theorem read_ndef4_bridge (known : Option Info) (hk : ∀ i, known = some i → i.nlenSize = 2 ∨ i.nlenSize = 4) (s : σ) :
    readNdef4 X known s = readNdef4Gen X known s := by
  unfold readNdef4 readNdef4Body readNdef4Gen readNdef4BodyGen
  cases known with
  | some i => simp only [read_file4_bridge X i (hk i rfl)]
  | none =>
    simp only [← discover4_bridge]
    rcases hd : discover4 X s with ⟨s1, r⟩
    cases r with
    | error e => rfl
    | ok o =>
      cases o with
      | none => rfl
      | some i => simp only [read_file4_bridge X i (discover4_nlen X s i s1 hd)]

end ndef

/-! ## the UPDATE BINARY plan of `_write_ndef_data` (`Model/T4.lean`, C01 part t34) -/

section write
open NfcVerif.T4

/-- what the pieces of one update loop compute -/
structure WriteCut.Sound (q : WriteCut) : Prop where
  more : ∀ (o : Nat) (b : Bytes), q.more (o : Int) b = decide (o < b.length)
  step : ∀ (o : Int) (b : Bytes) (ub : Int → Bytes → Int), q.step o b ub = o + ub o (PyFn.sliceFrom b o)

theorem lt_len_decide (o : Nat) (b : Bytes) : decide ((o : Int) < PyFn.len b) = decide (o < b.length) := by
  rw [len_eq, Bool.eq_iff_iff]; simp

theorem cutData_sound : cutData.Sound := ⟨lt_len_decide, fun _ _ _ => rfl⟩
theorem cutNlen_sound : cutNlen.Sound := ⟨lt_len_decide, fun _ _ _ => rfl⟩

theorem ubGen_eq (lc off : Nat) (d : Bytes) (h : off ≤ 65535) : ubGen lc (off : Int) d = ((min lc d.length : Nat) : Int) := by
  unfold ubGen
  rw [(binary_args off 0 lc d).2, if_neg (by omega)]

/-- both update loops send the commands of `T4.chunkCmds` (a buffer that a 16 bit offset can address) -/
theorem chunk_cmds_bridge (q : WriteCut) (hq : q.Sound) (lc : Nat) (buf : Bytes) (hb : buf.length ≤ 65536) :
    ∀ (fuel off : Nat), chunkCmds lc buf fuel off = chunkCmdsGen q lc buf fuel off := by
  intro fuel
  induction fuel with
  | zero => intro off; rfl
  | succ fuel ih =>
    intro off
    simp only [chunkCmds, chunkCmdsGen, hq.more, hq.step]
    by_cases ho : off ≥ buf.length
    · have : ¬ off < buf.length := by omega
      simp [ho, this]
    · have h1 : off < buf.length := by omega
      have hd : PyFn.sliceFrom buf (off : Int) = buf.drop off := sliceFrom_ofNat buf off
      have hu := ubGen_eq lc off (buf.drop off) (by omega)
      simp only [ho, h1, if_false, decide_true, Bool.true_eq_false, hd, hu, List.length_drop]
      have e1 : ((off : Int) + ((min lc (buf.length - off) : Nat) : Int)).toNat = off + min lc (buf.length - off) := by omega
      rw [e1, ← ih]
      congr 2
      unfold Gen.Fn.iso_update_chunk sliceN
      rw [sliceTo_ofNat, show off + lc - off = lc by omega]
      by_cases hl : lc ≤ buf.length - off
      · rw [Nat.min_eq_left hl]
      · rw [Nat.min_eq_right (by omega), List.take_of_length_le (by rw [List.length_drop]; omega),
          List.take_of_length_le (by rw [List.length_drop]; omega)]

theorem pack_be (f : Fmt) (hf : f = .Hbe ∨ f = .Ibe) (n : Nat) :
    PyFn.pack [f] [(n : Int)] = if n ≥ 256 ^ f.size then .error .struct else .ok (toBE f.size n) := by
  have e : ((n : Int) < 0 ∨ (n : Int) ≥ 256 ^ f.size) ↔ n ≥ 256 ^ f.size := by
    rw [show (256 : Int) = ((256 : Nat) : Int) from rfl, ← Int.natCast_pow]; omega
  rw [pack_one]
  unfold packField
  simp only [e, Int.toNat_natCast]
  rcases hf with rfl | rfl <;> rfl

/-- the NLEN field `pack(lfmt, len(data))` -/
theorem pack_nlen (n : Nat) (k : Nat) (hk : k = 2 ∨ k = 4) :
    (if (k : Int) = 4 then PyFn.pack [.Ibe] [(n : Int)] else PyFn.pack [.Hbe] [(n : Int)])
      = if n ≥ 256 ^ k then .error .struct else .ok (toBE k n) := by
  rcases hk with rfl | rfl
  · rw [if_neg (by omega), pack_be _ (Or.inl rfl)]; rfl
  · rw [if_pos (show ((4 : Nat) : Int) = 4 from rfl), pack_be _ (Or.inr rfl)]; rfl

/-- `_write_ndef_data`: `struct.error` when the length does not fit the NLEN field (`T4.writeNdef`), else the UPDATE BINARY
sequence of `T4.planWrite` with the final NLEN update looped (the repaired variant: the source HAS the loop) -/
theorem plan_write_bridge (v : Variant) (hv : v.nlenLoop = true) (i : Info) (hn : i.nlenSize = 2 ∨ i.nlenSize = 4) (data : Bytes)
    (hb : i.nlenSize + data.length ≤ 65536) :
    planWriteGen i data = if data.length ≥ 256 ^ i.nlenSize then .error .struct else .ok (planWrite v i data) := by
  unfold planWriteGen Gen.Fn.iso_write_plan
  simp only [len_eq]
  rw [pack_nlen data.length i.nlenSize hn]
  by_cases hfit : data.length ≥ 256 ^ i.nlenSize
  · simp [hfit]
  · simp only [hfit, if_false, Py.bind_ok, toBE_length]
    have e1 : (((i.nlenSize : Nat) : Int) + ((data.length : Nat) : Int) ≤ ((i.maxLc : Nat) : Int))
        ↔ (i.nlenSize + data.length ≤ i.maxLc) := by omega
    simp only [e1]
    unfold planWrite
    by_cases hone : i.nlenSize + data.length ≤ i.maxLc
    · simp only [hone, if_true, Py.bind_ok, Gen.Fn.iso_write_nlen_test]
      have hl : (toBE i.nlenSize data.length ++ data).length ≤ 65536 := by rw [List.length_append, toBE_length]; exact hb
      rw [← chunk_cmds_bridge cutData cutData_sound i.maxLc _ hl]
      simp [List.length_append, toBE_length]
    · have hz : PyFn.zeros ((i.nlenSize : Nat) : Int) = .ok (T34.zeros i.nlenSize) := zeros_nat _
      have hne : toBE i.nlenSize data.length ≠ [] := by
        intro h; have := toBE_length i.nlenSize data.length; rw [h] at this; simp at this; omega
      have hl : (T34.zeros i.nlenSize ++ data).length ≤ 65536 := by simp [T34.zeros]; exact hb
      have hl2 : (toBE i.nlenSize data.length).length ≤ 65536 := by rw [toBE_length]; omega
      have ht : Gen.Fn.iso_write_nlen_test (some (toBE i.nlenSize data.length)) = true := by
        simp [Gen.Fn.iso_write_nlen_test, hne]
      simp only [hone, if_false, hz, Py.bind_ok, ht, hv, if_true, Option.getD_some,
        ← chunk_cmds_bridge cutData cutData_sound i.maxLc _ hl, ← chunk_cmds_bridge cutNlen cutNlen_sound i.maxLc _ hl2]
      simp [List.length_append, toBE_length, T34.zeros]

end write

/-! ## statements of C08 for the regenerated functions -/

/-- C08 `isodep_exchange_safe` for `exchangeGen`: one repaired `IsoDepInitiator.exchange` against EVERY card gives a response
or a `Type4TagCommandError`, uses up no loop fuel and sends at most `exchFrames` frames -/
theorem gen_exchange_safe {σ} (P : Peer σ) (c : IsoDepR.Cfg) (pcd : Pcd) (hR : c.Repaired pcd.nNak pcd.nAck)
    (hp : pcd.failed = none → pcd.pni < 2) (hm : 0 < pcd.miu) (cmd : Bytes) (hc : cmd ≠ []) (w : World σ) :
    IsoDepR.CmdRes (exchangeGen P c.lim c.F pcd cmd w).2.2 ∧
    IsoDepR.frames (exchangeGen P c.lim c.F pcd cmd w).1 ≤ IsoDepR.frames w + IsoDepR.exchFrames c pcd cmd.length := by
  have hx : c.fx = IsoDepR.Fix.all := by
    have h1 := hR.wtx; have h2 := hR.ack; have h3 := hR.chain
    cases hfx : c.fx with
    | mk a b d => rw [hfx] at h1 h2 h3; simp only at h1 h2 h3; subst h1 h2 h3; rfl
  rw [← exchange_bridge P c hx pcd hp]
  exact ⟨(C08.isodep_exchange_safe P c pcd hR hm cmd hc w).1, (C08.isodep_exchange_safe P c pcd hR hm cmd hc w).2.2⟩

/-- C08 `t4_read_safe` for the regenerated `_read_ndef_data`: against EVERY card (APDU level) at most `7 + 65536` commands,
never an exception, `None` or an object with `length <= capacity` and octets from the file -/
theorem gen_t4_read_safe {σ} (X : Adv.Xp σ) (hX : Adv.XOk X) (known : Option Adv.Info)
    (hk : ∀ i, known = some i → Adv.InfoOk i) (hn : ∀ i, known = some i → i.nlenSize = 2 ∨ i.nlenSize = 4) (s : σ) (n : Nat) :
    (readNdef4Gen (Adv.countX X) known (s, n)).1.2 ≤ n + 7 + 65536 ∧
    ((readNdef4Gen (Adv.countX X) known (s, n)).2 = .ok none ∨
     ∃ d j, (readNdef4Gen (Adv.countX X) known (s, n)).2 = .ok (some (d, j)) ∧ Adv.SafeNdef d ∧ Adv.InfoOk j) := by
  rw [← read_ndef4_bridge (Adv.countX X) known hn]
  exact C08.t4_read_safe X hX known hk s n

/-- the source leaves the loop over the offsets when they are used up, the twin when `more` is false: `more` is false
exactly at the last offset -/
theorem gen_more_false_last (cmd : Bytes) (o miu pni : Nat) (hp : pni < 2) (ho : o < cmd.length) (r : Bool × Bytes × Bytes)
    (h : Gen.Fn.iso_iblock cmd (o : Int) (miu : Int) (pni : Int) = .ok r) :
    r.1 = false ↔ cmd.length ≤ o + miu := by
  rw [iblock_bridge cmd o miu pni hp] at h
  injection h with h
  subst h
  simp only [decide_eq_false_iff_not]
  omega

example : Gen.Fn.iso_wtx_test [0xF2, 3] = .ok true ∧ Gen.Fn.iso_wtx_test [0xF2] = .ok false := by decide +kernel
example : Gen.Fn.iso_wtx_step [0xF2, 60] 0 1000 = .error .protocol ∧ Gen.Fn.iso_wtx_step [0xF2, 59] 950 1000 = .error (.tagCmd 0)
    ∧ Gen.Fn.iso_wtx_step [0xF2, 3] 10 1000 = .ok (3, 13) := by decide +kernel
example : Gen.Fn.iso_iblock [1, 2, 3, 4, 5] 2 2 1 = .ok (true, [0x13], [0x13, 3, 4]) := by decide +kernel
example : Gen.Fn.iso_iblock [1, 2, 3, 4, 5] 4 2 0 = .ok (false, [0x02], [0x02, 5]) := by decide +kernel
example : Gen.Fn.iso_offsets [1, 2, 3, 4, 5] 2 = .ok [0, 2, 4] ∧ Gen.Fn.iso_offsets [1] 0 = .error .value := by decide +kernel
example : Gen.Fn.iso_nak_on_timeout 3 2 1 = .error (.tagCmd 0) ∧ Gen.Fn.iso_nak_on_timeout 2 2 1 = .ok [0xB3] := by decide +kernel
example : Gen.Fn.iso_latch_chk (some [1]) true (-2) = .error (.tagCmd (-2)) ∧ Gen.Fn.iso_latch_chk none true (-2) = .ok () := by
  decide +kernel
example : planWriteGen ⟨15, 4, 100, true, true, 2, [0xE1, 4]⟩ [7, 8, 9]
    = .ok [⟨0, [0, 0, 7, 8]⟩, ⟨4, [9]⟩, ⟨0, [0, 3]⟩] := by decide +kernel
example : planWriteGen ⟨15, 8, 100, true, true, 2, [0xE1, 4]⟩ [7, 8, 9] = .ok [⟨0, [0, 3, 7, 8, 9]⟩] := by decide +kernel

/-! ## statements of C12 for the regenerated functions

`exchange_bridge` (regenerated decision logic = `IsoDepR.exchange` with all repairs) and `IsoDep2.exchange_c08`
(`IsoDepR.exchange` with all repairs = `IsoDep2.exchange`, the model of C12) -/

section c12
variable {σ : Type} (P : Peer σ)

/-- the `exchange` built from the regenerated pieces is the `exchange` of the C12 model (`Model/IsoDepV2.lean`) -/
theorem gen_exchange_is_c12 (F : Nat) (pcd : IsoDep2.Pcd) (hp : pcd.failed = none → pcd.pni < 2) (cmd : Bytes) (w : World σ) :
    ((exchangeGen P pcd.wlim F pcd.toBase cmd w).1,
     IsoDep2.Pcd.withBase (exchangeGen P pcd.wlim F pcd.toBase cmd w).2.1 pcd.wlim,
     (exchangeGen P pcd.wlim F pcd.toBase cmd w).2.2) = IsoDep2.exchange P F pcd cmd w := by
  have hb : IsoDepR.exchange P (IsoDep2.c08Cfg pcd.wlim F) pcd.toBase cmd w = exchangeGen P pcd.wlim F pcd.toBase cmd w :=
    exchange_bridge P (IsoDep2.c08Cfg pcd.wlim F) rfl pcd.toBase hp cmd w
  rw [← hb]
  exact IsoDep2.exchange_c08 P F pcd cmd w

/-- C12 `isodep_terminates` / `isodep_error_kind` for the regenerated `exchange`: against EVERY card no loop runs out of
fuel, at most `exchFrames` blocks are sent, and the only exceptions for a command APDU are Type4TagCommandError with the
reasons TIMEOUT / RECEIVE / PROTOCOL_ERROR -/
theorem gen_terminates (F : Nat) (pcd : IsoDep2.Pcd) (cmd : Bytes) (w : World σ) (hF : IsoDep2.fuelNeed pcd ≤ F)
    (hp : pcd.pni < 2) :
    (exchangeGen P pcd.wlim F pcd.toBase cmd w).2.2 ≠ .error .outOfFuel ∧
    (exchangeGen P pcd.wlim F pcd.toBase cmd w).1.trace.length ≤ w.trace.length + IsoDep2.exchFrames pcd cmd.length ∧
    (0 < pcd.miu → cmd ≠ [] → C12.FlagOk pcd → ∀ e, (exchangeGen P pcd.wlim F pcd.toBase cmd w).2.2 = .error e →
      e = .tagCmd TIMEOUT_ERROR ∨ e = .tagCmd RECEIVE_ERROR ∨ e = .tagCmd PROTOCOL_ERROR) := by
  have h := gen_exchange_is_c12 P F pcd (fun _ => hp) cmd w
  have h1 : (exchangeGen P pcd.wlim F pcd.toBase cmd w).1 = (IsoDep2.exchange P F pcd cmd w).1 := congrArg (·.1) h
  have h2 : (exchangeGen P pcd.wlim F pcd.toBase cmd w).2.2 = (IsoDep2.exchange P F pcd cmd w).2.2 := congrArg (·.2.2) h
  rw [h1, h2]
  have ht := C12.isodep_terminates P F pcd cmd w hF hp
  exact ⟨ht.1, ht.2, fun hm hc hfl => (C12.isodep_error_kind P F pcd cmd w hF hp hm hc hfl).1⟩

/-- C12 `isodep_at_most_once` and `isodep_response_exact` for the regenerated `exchange` against the ISO/IEC 14443-4
card: in every session state, under every fault script, the card executes the command at most once and a returned
response is the card's response to exactly this execution -/
theorem gen_at_most_once_exact (cfg : CardCfg) (F : Nat) (pcd : IsoDep2.Pcd) (cmd : Bytes) (w : World Card)
    (hs : C12.SessInv pcd w.card) :
    ((exchangeGen (isoPeer cfg) pcd.wlim F pcd.toBase cmd w).1.card.log = w.card.log ∨
     (exchangeGen (isoPeer cfg) pcd.wlim F pcd.toBase cmd w).1.card.log = w.card.log ++ [cmd]) ∧
    (∀ x, (exchangeGen (isoPeer cfg) pcd.wlim F pcd.toBase cmd w).2.2 = .ok x →
      x = cfg.app w.card.log.length cmd ∧
      (exchangeGen (isoPeer cfg) pcd.wlim F pcd.toBase cmd w).1.card.log = w.card.log ++ [cmd]) := by
  have h := gen_exchange_is_c12 (isoPeer cfg) F pcd (fun _ => hs.1) cmd w
  have h1 : (exchangeGen (isoPeer cfg) pcd.wlim F pcd.toBase cmd w).1 = (IsoDep2.exchange (isoPeer cfg) F pcd cmd w).1 :=
    congrArg (·.1) h
  have h2 : (exchangeGen (isoPeer cfg) pcd.wlim F pcd.toBase cmd w).2.2 = (IsoDep2.exchange (isoPeer cfg) F pcd cmd w).2.2 :=
    congrArg (·.2.2) h
  rw [h1, h2]
  exact ⟨C12.isodep_at_most_once cfg F pcd cmd w hs, fun x hx => C12.isodep_response_exact cfg F pcd cmd w hs x hx⟩

end c12

end NfcVerif.FnBridge.IsoSm
