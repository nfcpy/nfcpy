import NfcVerif.Lemmas.HostFrame
import NfcVerif.Lemmas.Crc
/-!
# C14 - Host-link frames and ISO 14443 CRCs are built and checked correctly

The theorems of the property; the lemmas behind them are in `Lemmas/HostFrame.lean` and `Lemmas/Crc.lean`.
Models: `Model/HostFrame.lean` (transcription of `pn53x.Chipset.command`,
`acr122.Chipset.ccid_xfr_block/command`, `rcs380.Frame`) and `Model/Crc.lean`
(`device.calculate_crc`, `add/check_crc_a/b`).  `Spec.*` are independent
readings of the frame formats; `isoUpdate` is ISO/IEC 14443-3 Annex B.
-/
namespace NfcVerif.C14
open NfcVerif NfcVerif.HostFrame NfcVerif.Crc

/-- Every PN53x command frame is well formed, for every command code and every
payload (both sides of the 254/255 normal/extended switch; the driver asserts
`len ≤ host_command_frame_max_size - 2 ≤ 263`). -/
theorem pn53x_build_valid (cmd : Nat) (d : Bytes) (h : d.length + 2 < 65536) :
    Spec.parse (pnBuild cmd d) = some (0xD4, cmd, d) :=
  pn_build_valid cmd d h

/-- A PN53x response is returned as data only if the independent validator
accepts the frame as `D5, cmd+1, data`: start code, length and length checksum,
data checksum, postamble, frame identifier and response code are all valid. -/
theorem pn53x_accept_sound (cmd : Nat) (f data : Bytes) (h : pnAccept cmd f = .ok data) :
    Spec.parse f = some (0xD5, cmd + 1, data) :=
  pn_accept_sound cmd f data h

/-- Conversely every frame that is valid under the independent reading is accepted: the driver
accepts a response **exactly when** it is a valid `D5, cmd+1` frame. -/
theorem pn53x_accept_complete (cmd : Nat) (f data : Bytes) (h : Spec.parse f = some (0xD5, cmd + 1, data)) :
    pnAccept cmd f = .ok data :=
  pn_accept_complete cmd f data h

/-- Every other response - any byte string at all - ends in `IOError(EIO)` or, for
a well-formed error frame, in `Chipset.Error(0x7F)`; never in an internal exception. -/
theorem pn53x_accept_documented (cmd : Nat) (f : Bytes) :
    Safe (fun e => e = .io 5 ∨ e = .chipsetError 0x7F) (pnAccept cmd f) :=
  pn_accept_doc cmd f

/-- ACR122: CCID escape envelope and pseudo APDU are well formed whenever the
driver writes a frame at all. -/
theorem acr122_build_valid (cmd : Nat) (d w : Bytes) (h : acrBuild cmd d = .ok w) :
    Spec.acrCommand w = some (cmd, d) :=
  acr_build_valid cmd d w h

theorem acr122_accept_sound (cmd : Nat) (raw data : Bytes) (h : acrAccept cmd raw = .ok data) :
    Spec.acrResponse raw = some (cmd + 1, data) :=
  acr_accept_sound cmd raw data h

theorem acr122_accept_documented (cmd : Nat) (raw : Bytes) :
    Safe (fun e => e = .io 5) (acrAccept cmd raw) :=
  acr_accept_doc cmd raw

theorem rcs380_build_valid (d : Bytes) (h : d.length < 65536) :
    Spec.rcsParse (rcsBuild d) = some d :=
  rcs_build_valid d h

/-- The bit loop of `calculate_crc` computes the ISO/IEC 14443-3 Annex B CRC
for every initial register value and every message of any length. -/
theorem crc_impl_eq_iso (init : BitVec 16) (d : List (BitVec 8)) : crcOf init d = isoCrcOf init d :=
  crcOf_eq_iso init d

theorem crc_a_eq_iso (d : List (BitVec 8)) : addCrcA d = d ++ [lo (isoCrcA d), hi (isoCrcA d)] := by
  simp [addCrcA, isoCrcA, crcOf_eq_iso]

theorem crc_b_eq_iso (d : List (BitVec 8)) : addCrcB d = d ++ [lo (isoCrcB d), hi (isoCrcB d)] := by
  simp [addCrcB, isoCrcB, crcOf_eq_iso]

/-- a frame is accepted exactly when its last two octets are the ISO CRC of the rest -/
theorem crc_check_iff (f : List (BitVec 8)) (h : 2 ≤ f.length) :
    (checkCrcA f = .ok true ↔ f = f.take (f.length - 2) ++ [lo (isoCrcA (f.take (f.length - 2))), hi (isoCrcA (f.take (f.length - 2)))])
    ∧ (checkCrcB f = .ok true ↔ f = f.take (f.length - 2) ++ [lo (isoCrcB (f.take (f.length - 2))), hi (isoCrcB (f.take (f.length - 2)))]) := by
  have hsplit : f = f.take (f.length - 2) ++ f.drop (f.length - 2) := (List.take_append_drop _ _).symm
  have hn : ¬ f.length < 2 := by omega
  constructor
  all_goals
    simp only [checkCrcA, checkCrcB, hn, if_false, isoCrcA, isoCrcB, crcOf_eq_iso]
    constructor
    · intro hc
      simp at hc
      rw [← hc]; exact hsplit
    · intro hc
      have := List.append_cancel_left (hsplit.symm.trans hc)
      simp [this]

/-- what the driver appends is accepted by the driver's check -/
theorem crc_check_add (d : List (BitVec 8)) :
    checkCrcA (addCrcA d) = .ok true ∧ checkCrcB (addCrcB d) = .ok true := by
  simp [checkCrcA, addCrcA, checkCrcB, addCrcB]

/-- **Every single-bit error is detected.** Flipping any one bit of a frame the driver produced
(any octet of the message of any length, or either CRC octet) makes the driver's check fail -
for CRC_A and CRC_B. (From GF(2)-linearity of the register update and injectivity of the
zero-input step; no enumeration.) -/
theorem crc_detects_single_bit (d : List (BitVec 8)) (i : Nat) (b : Fin 8) (h : i < d.length + 2) :
    checkCrcA (flipBit (addCrcA d) i b) = .ok false ∧ checkCrcB (flipBit (addCrcB d) i b) = .ok false :=
  ⟨checkA_flip d i b h, checkB_flip d i b h⟩

/-! Non-vacuity: concrete instances satisfying the hypotheses. -/
example : Spec.parse (pnBuild 0 [0x31, 0x32, 0x33]) = some (0xD4, 0, [0x31, 0x32, 0x33]) := by decide
example : pnAccept 0 [0, 0, 0xFF, 5, 0xFB, 0xD5, 1, 0x34, 0x35, 0x36, 0x8B, 0] = .ok [0x34, 0x35, 0x36] := by decide
example : pnAccept 0 [0, 0, 0xFF] = .error (.io 5) := by decide
example : pnAccept 0 [0, 0, 0xFF, 1, 0xFF, 0x7F, 0x81, 0] = .error (.chipsetError 0x7F) := by decide
/-- the response that was accepted before the repair (DCS one too small, postamble 01) -/
example : pnAccept 0 [0, 0, 0xFF, 5, 0xFB, 0xD5, 1, 0x34, 0x35, 0x36, 0x8A, 1] = .error (.io 5) := by decide
example : acrAccept 0 [0x80, 5, 0, 0, 0, 0, 0, 0, 0, 0, 0xD5, 1, 0x77, 0x90, 0] = .ok [0x77] := by decide
example : checkCrcA (flipBit (addCrcA [0x12, 0x34]) 1 3) = .ok false := by decide +kernel
example : addCrcA [0x00, 0x00] = [0x00, 0x00, 0xA0, 0x1E] := by decide +kernel  -- ISO/IEC 14443-3 Annex B example
example : addCrcA [0x12, 0x34] = [0x12, 0x34, 0x26, 0xCF] := by decide +kernel  -- ISO/IEC 14443-3 Annex B example
example : addCrcB [0x00, 0x00, 0x00] = [0x00, 0x00, 0x00, 0xCC, 0xC6] := by decide +kernel  -- Annex B example
example : addCrcB [0x0F, 0xAA, 0xFF] = [0x0F, 0xAA, 0xFF, 0xFC, 0xD1] := by decide +kernel  -- Annex B example

end NfcVerif.C14
