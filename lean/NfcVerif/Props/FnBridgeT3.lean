import NfcVerif.Gen.FnT3
import NfcVerif.Model.T3
import NfcVerif.Model.AdvT34
import NfcVerif.Model.T3Emu
import NfcVerif.Lemmas.FnBridgePdu
import NfcVerif.Props.FnBridgeTagCmdT12
import NfcVerif.Props.FnBridgeTagCmdT3
/-!
# Bridge theorems, group T3 (`nfc/tag/tt3.py` -> `Gen/FnT3.lean` -> `Model/T3.lean`, `Model/AdvT34.lean`, `Model/T3Emu.lean`)

Properties C01 - C03 (Type 3 part: attribute block, block batching of the NDEF reader / writer), C08 (the checks of
`_read_ndef_data` as `Adv.readNdef3` has them) and C07 (`Type3TagEmulation.process_command`: the dispatch is
translated as a whole, with `read_without_encryption` / `write_without_encryption` as function parameters).
-/
namespace NfcVerif.FnBridge.T3
open NfcVerif NfcVerif.PyFn NfcVerif.FnBridge.Pdu

/-- the decoded attribute block as the values the cut returns (fields, then capacity and the two flags) -/
def attrTup (a : T3.Attr) : Int × Int × Int × Int × Int × Int × Int × Int × Bool × Bool :=
  ((a.ver : Int), (a.nbr : Int), (a.nbw : Int), (a.nmaxb : Int), (a.writef : Int), (a.rwflag : Int), (a.ln : Int),
   ((a.nmaxb * 16 : Nat) : Int), decide (a.rwflag ≠ 0 ∧ a.nbw > 0), decide (a.writef = 0 ∧ a.nbr > 0))

/-- `_read_attribute_data`: the checksum cut and the field cut have their bridges in group TagCmd -/
theorem attr_decode_slices (d : Bytes) :
    Gen.Fn.t3_attr_decode (some d) =
      (Gen.Fn.t3_rd_csum d >>= fun bad => if bad then .ok none else
        Gen.Fn.t3_rd_attr d >>= fun r => .ok (some (r.1, r.2.1, r.2.2.1, r.2.2.2.1, r.2.2.2.2.1, r.2.2.2.2.2.1, r.2.2.2.2.2.2,
          r.2.2.2.1 * 16, decide (r.2.2.2.2.2.1 ≠ 0 ∧ r.2.2.1 > 0), decide (r.2.2.2.2.1 = 0 ∧ r.2.1 > 0)))) := by
  unfold Gen.Fn.t3_rd_csum Gen.Fn.t3_rd_attr
  simp only [Gen.Fn.t3_attr_decode, bind_assoc, Py.bind_ok, decide_eq_true_eq]

/-- the fields that the field cut returns are naturals, so the tuple of the whole cut is `attrTup` of the record that
`TagCmd.t3_rd_attr_bridge` makes of them -/
theorem rd_attr_nat (d : Bytes) (r) (h : Gen.Fn.t3_rd_attr d = .ok r) :
    (r.1, r.2.1, r.2.2.1, r.2.2.2.1, r.2.2.2.2.1, r.2.2.2.2.2.1, r.2.2.2.2.2.2,
          r.2.2.2.1 * 16, decide (r.2.2.2.2.2.1 ≠ 0 ∧ r.2.2.1 > 0), decide (r.2.2.2.2.1 = 0 ∧ r.2.1 > 0))
      = attrTup ⟨r.1.toNat, r.2.1.toNat, r.2.2.1.toNat, r.2.2.2.1.toNat, r.2.2.2.2.1.toNat, r.2.2.2.2.2.1.toNat, r.2.2.2.2.2.2.toNat⟩ := by
  unfold Gen.Fn.t3_rd_attr at h
  obtain ⟨_, _, h⟩ := Py.bind_eq_ok.mp h
  obtain ⟨_, _, h⟩ := Py.bind_eq_ok.mp h
  obtain ⟨_, _, h⟩ := Py.bind_eq_ok.mp h
  cases h
  simp [attrTup, ube]

theorem attr_decode_bridge (d : Bytes) (h : d.length ≤ 16) :
    Gen.Fn.t3_attr_decode (some d) = (T3.decodeAttr d >>= fun o => .ok (o.map attrTup)) := by
  rw [attr_decode_slices]
  by_cases h16 : d.length = 16
  · obtain ⟨b0, b1, b2, b3, b4, b5, b6, b7, b8, b9, b10, b11, b12, b13, b14, b15, rfl⟩ := eq_of_length_sixteen h16
    rw [← TagCmd.t3_rd_attr_bridge]
    cases Gen.Fn.t3_rd_csum _ with
    | error e => rfl
    | ok bad =>
      cases bad
      · cases hr : Gen.Fn.t3_rd_attr _ with
        | error e => rfl
        | ok r => exact congrArg (fun t => Except.ok (some t)) (rd_attr_nat _ r hr)
      · rfl
  · rw [TagCmd.t3_rd_csum_short d (by omega)]
    unfold T3.decodeAttr
    split
    · simp at h16
    · rfl

/-- block 0 could not be verified (`read_from_ndef_service` gave None): no attributes, like a checksum error -/
theorem attr_decode_none : Gen.Fn.t3_attr_decode none = .ok none := rfl

theorem attr_encode_bridge (a : T3.Attr) (h1 : a.ver < 256) (h2 : a.nbr < 256) (h3 : a.nbw < 256)
    (h4 : a.nmaxb < 65536) (h5 : a.writef < 256) (h6 : a.rwflag < 256) (h7 : a.ln < 4294967296) :
    Gen.Fn.t3_attr_encode a.ver a.nbr a.nbw a.nmaxb a.writef a.rwflag a.ln = .ok (T3.encodeAttr a) :=
  TagCmd.attr_block a h1 h2 h3 h4 h5 h6 h7

/-- the checks of `_read_ndef_data` between the attribute read and the block loop, as `AdvT34.readNdef3` has them -/
def readPlan (ver ln nmaxb nbr : Nat) : Option (Nat × Nat) :=
  if ver / 16 ≠ 1 then none
  else if ln > nmaxb * 16 then none
  else
    let last := 1 + (ln + 15) / 16
    let n := min nbr 15
    if n = 0 then none else some (last, n)

theorem read_plan_bridge (ver ln nmaxb nbr : Nat) :
    Gen.Fn.t3_read_plan ver ln nmaxb nbr = (readPlan ver ln nmaxb nbr).map (fun p => ((p.1 : Int), (p.2 : Int))) := by
  have e : Gen.Fn.t3_read_plan ver ln nmaxb nbr =
      if Gen.Fn.t1_cc_version ver then none else if Gen.Fn.t3_ln_too_big ln nmaxb then none else
        if Gen.Fn.t3_nbr nbr = 0 then none else some (Gen.Fn.t3_last_block ln, Gen.Fn.t3_nbr nbr) := by
    simp only [Gen.Fn.t3_read_plan, Gen.Fn.t1_cc_version, Gen.Fn.t3_ln_too_big, decide_eq_true_eq]; rfl
  rw [e, TagCmd.t1_cc_version_bridge, TagCmd.t3_ln_too_big_bridge, TagCmd.t3_nbr_bridge, TagCmd.t3_last_block_bridge]
  unfold readPlan
  simp only [decide_eq_true_eq, Int.natCast_eq_zero]
  split
  · rfl
  · split
    · rfl
    · split <;> rfl

open Adv in
/-- `readNdef3` with its checks between attribute read and block loop replaced by `readPlan` -/
def readNdef3P (t : Adv.Tag) (s : Adv.S3) : Py (Option Ndef) × Adv.S3 :=
  let p : Py Unit × Adv.S3 := if s.sys ≠ 0x12FC then Adv.polling3 t s else (.ok (), s)
  match p with
  | (.error e, s1) => if isTagCmd e then (.ok none, s1) else (.error e, s1)
  | (.ok _, s1) =>
    match Adv.read3 t [0] s1 with
    | (.error e, s2) => if isTagCmd e then (.ok none, s2) else (.error e, s2)
    | (.ok d, s2) =>
      match Adv.parseAttr d with
      | .error e => (.error e, s2)
      | .ok none => (.ok none, s2)
      | .ok (some a) =>
        match readPlan a.ver a.ln a.nmaxb a.nbr with
        | none => (.ok none, s2)
        | some (last, nbr) =>
            match Adv.blockLoop3 t last nbr last 1 [] s2 with
            | (.error e, s3) => (.error e, s3)
            | (.ok none, s3) => (.ok none, s3)
            | (.ok (some data), s3) =>
              (.ok (some { length := (data.take a.ln).length, cap := (a.nmaxb * 16 : Nat),
                           readable := decide (a.writef = 0 ∧ a.nbr > 0),
                           writeable := decide (a.rwflag ≠ 0 ∧ a.nbw > 0),
                           octets := data.take a.ln, addrs := List.range' 16 (data.take a.ln).length,
                           lo := 16, hi := 16 + a.nmaxb * 16 }), s3)

theorem readNdef3_plan (t : Adv.Tag) (s : Adv.S3) : Adv.readNdef3 t s = readNdef3P t s := by
  unfold Adv.readNdef3 readNdef3P
  simp only []
  generalize (if s.sys ≠ 0x12FC then Adv.polling3 t s else (Except.ok (), s)) = p
  rcases p with ⟨e | u, s1⟩
  · rfl
  · simp only []
    generalize Adv.read3 t [0] s1 = q
    rcases q with ⟨e | d, s2⟩
    · rfl
    · simp only []
      generalize Adv.parseAttr d = r
      rcases r with e | (_ | a)
      · rfl
      · rfl
      · simp only []
        unfold readPlan
        by_cases h1 : a.ver / 16 ≠ 1
        · rw [if_pos h1, if_pos h1]
        · rw [if_neg h1, if_neg h1]
          by_cases h2 : a.ln > a.nmaxb * 16
          · rw [if_pos h2, if_pos h2]
          · rw [if_neg h2, if_neg h2]
            by_cases h3 : min a.nbr 15 = 0
            · rw [if_pos h3, if_pos h3]
            · rw [if_neg h3, if_neg h3]
              rfl

theorem read_batch_end_bridge (i nbr last : Nat) :
    Gen.Fn.t3_read_batch_end i nbr last = ((min (i + nbr) last : Nat) : Int) :=
  TagCmd.t3_chunk_end_bridge i nbr last

theorem write_plan_bridge (data : Bytes) :
    Gen.Fn.t3_write_plan data = .ok (((1 + (data.length + 15) / 16 : Nat) : Int), T3.padded data) := by
  have e : Gen.Fn.t3_write_plan data = (Gen.Fn.t3_pad data >>= fun p => .ok (Gen.Fn.t3_wr_last_block data, p)) := by
    unfold Gen.Fn.t3_write_plan Gen.Fn.t3_pad; rw [bind_assoc]; rfl
  rw [e, TagCmd.t3_pad_bridge, TagCmd.t3_wr_last_block_bridge]; rfl

/-- one write command of the loop: blocks `i .. lb-1` and their data, as `T3.dataCmds` builds them (`i ≥ 1`) -/
theorem write_batch_bridge (i last nbw : Nat) (data : Bytes) (hi : 1 ≤ i) (hl : i < last) :
    Gen.Fn.t3_write_batch i data last nbw
      = (((min (i + nbw) last : Nat) : Int), sliceN data ((i - 1) * 16) ((min (i + nbw) last - 1) * 16)) := by
  show (Gen.Fn.t3_chunk_end i nbw last, Gen.Fn.t3_wr_chunk data i (Gen.Fn.t3_chunk_end i nbw last)) = _
  rw [TagCmd.t3_chunk_end_bridge, TagCmd.t3_wr_chunk_bridge data i _ hi (by omega)]

/-! ## emulation: `Type3TagEmulation.process_command` -/
section emu
open NfcVerif.T3Emu

/-- the response octets of the model's read / write handlers: what the translated dispatch gets for its two
function parameters (`read_without_encryption`, `write_without_encryption`) -/
def rdOf (e : Emu) (d : Bytes) : Py Bytes := emuRead e d >>= fun r => .ok r.1
def wrOf (e : Emu) (d : Bytes) : Py Bytes := emuWrite e d >>= fun r => .ok r.1

theorem respond_eq (e : Emu) (c : Nat) (rsp : Bytes) (hc : c < 256) :
    (mkBytes [(10 : Int) + len rsp, (c : Int)] >>= fun t => Except.ok (some ((t ++ e.idm) ++ rsp)))
      = (respond e c rsp >>= fun r => Except.ok (some r)) := by
  unfold respond
  rw [← TagCmd.t3e_rsp_frame 10 c hc e.idm rsp, bind_assoc]; rfl

theorem process_bridge (e : Emu) (cmd : Bytes) (hne : cmd ≠ []) :
    Gen.Fn.t3emu_process cmd e.idm e.pmm e.sys (rdOf e) (wrOf e)
      = (processCommand e cmd >>= fun r => .ok r.1) := by
  unfold Gen.Fn.t3emu_process processCommand
  obtain ⟨c0, rest, rfl⟩ := List.exists_cons_of_ne_nil hne
  rw [getB_zero, idxN_cons_zero]
  simp only [ne_eq, reduceCtorEq, not_false_eq_true, not_true_eq_false, if_false, Py.bind_ok, len_eq, Int.natCast_inj, decide_eq_true_eq]
  generalize c0 :: rest = cmd
  rw [ite_bind]
  refine ite_branch_congr rfl fun _ => ?_
  rw [show slice cmd 0 4 = cmd.take 4 from slice_nat cmd 0 4, show slice cmd 2 10 = _ from slice_nat cmd 2 10,
    show PyFn.sliceFrom cmd 2 = _ from sliceFrom_ofNat cmd 2, show PyFn.sliceFrom cmd 10 = _ from sliceFrom_ofNat cmd 10,
    show ([6, 0, 255, 255] : List Int) = ints [6, 0, 255, 255] from rfl, show [6, 0] ++ ints e.sys = ints ([6, 0] ++ e.sys) from rfl]
  simp only [ints_inj]
  rw [ite_bind]
  refine ite_branch_congr ?_ fun _ => ?_
  · rw [show Gen.Fn.t3emu_polling = Gen.Fn.t3e_polling from rfl, TagCmd.t3e_polling_bridge, bind_assoc, bind_assoc]
    refine bind_congr fun rc => ?_
    generalize (if rc = 1 then e.idm ++ e.pmm ++ e.sys else e.idm ++ e.pmm) = rsp
    rw [Py.bind_ok, ite_bind]
    refine Eq.trans (b := Gen.Fn.t3e_polling_rsp rsp >>= fun r => .ok (some r))
      (by unfold Gen.Fn.t3e_polling_rsp; rw [bind_assoc]; rfl) ?_
    rw [TagCmd.t3e_polling_rsp_bridge, ite_bind]; rfl
  · rw [ite_bind]
    refine ite_branch_congr ?_ fun _ => rfl
    rw [show getB cmd 1 = _ from getB_nat cmd 1, idxN_nat]
    by_cases h1 : 1 < cmd.length
    · rw [if_pos h1, if_pos h1]
      simp only [Py.bind_ok, ite_bind, lit_cast, Int.natCast_inj, rdOf, wrOf, bind_assoc]
      exact ite_branch_congr (respond_eq e 5 [0] (by omega)) fun _ =>
        ite_branch_congr (bind_congr fun x => respond_eq e 7 x.1 (by omega)) fun _ =>
        ite_branch_congr (bind_congr fun x => respond_eq e 9 x.1 (by omega)) fun _ =>
        ite_branch_congr (respond_eq e 13 ([1] ++ e.sys) (by omega)) fun _ => rfl
    · rw [if_neg h1, if_neg h1]; rfl

/-- `process_command` = the model with the repair of F23, seen through its response: for every command, with the
model's own read / write handlers as the two callbacks -/
theorem process_command_bridge (e : Emu) (cmd : Bytes) :
    Gen.Fn.t3emu_process_command cmd e.idm e.pmm e.sys (rdOf e) (wrOf e)
      = (processCommandR true e cmd >>= fun r => .ok r.1) := by
  unfold Gen.Fn.t3emu_process_command processCommandR
  by_cases hne : cmd = []
  · subst hne
    simp [Gen.Fn.t3emu_process, processCommand, idxN, catchRet]
  · rw [process_bridge e cmd hne]
    cases processCommand e cmd with
    | ok r => rfl
    | error x => cases x <;> rfl

example : Gen.Fn.t3emu_process_command [6, 0, 0x12, 0xFC, 1, 0] [1,2,3,4,5,6,7,8] [9,9,9,9,9,9,9,9] [0x12, 0xFC]
    (fun _ => .error .index) (fun _ => .error .index)
    = .ok (some [20, 1, 1,2,3,4,5,6,7,8, 9,9,9,9,9,9,9,9, 0x12, 0xFC]) := by decide
example : Gen.Fn.t3emu_process_command [10, 6, 1,2,3,4,5,6,7,8] [1,2,3,4,5,6,7,8] [9,9,9,9,9,9,9,9] [0x12, 0xFC]
    (fun _ => .error .index) (fun _ => .error .index) = .ok none := by decide
example : Gen.Fn.t3emu_process_command [3, 6, 1] [1,2,3,4,5,6,7,8] [9,9,9,9,9,9,9,9] [0x12, 0xFC]
    (fun _ => .error .index) (fun _ => .error .index) = .ok none := by decide

end emu

/-- the attribute record of the adversarial reader model is the one of `Model/T3` -/
def toAdv (a : T3.Attr) : Adv.Attr :=
  { ver := a.ver, nbr := a.nbr, nbw := a.nbw, nmaxb := a.nmaxb, writef := a.writef, rwflag := a.rwflag, ln := a.ln }

theorem parseAttr_eq (d : Bytes) : Adv.parseAttr d = (T3.decodeAttr d >>= fun o => .ok (o.map toAdv)) := by
  unfold Adv.parseAttr T3.decodeAttr
  split
  · simp only []
    split <;> simp_all [toAdv]
  · rename_i h
    split
    · rename_i b0 b1 b2 b3 b4 b5 b6 b7 b8 b9 b10 b11 b12 b13 b14 b15
      exact absurd rfl (h b0 b1 b2 b3 b4 b5 b6 b7 b8 b9 b10 b11 b12 b13 b14 b15)
    · rfl

/-! ## non-vacuity -/
example : Gen.Fn.t3_attr_decode (some [0x10, 4, 1, 0, 13, 0, 0, 0, 0, 0, 1, 0, 0, 5, 0, 0x28])
    = .ok (some (16, 4, 1, 13, 0, 1, 5, 208, true, true)) := by rfl
example : Gen.Fn.t3_attr_decode (some [0x10, 4, 1, 0, 13, 0, 0, 0, 0, 0, 1, 0, 0, 5, 0, 0x29]) = .ok none := by rfl
example : Gen.Fn.t3_attr_decode (some [0x10, 4, 1]) = .error .struct := by rfl
example : Gen.Fn.t3_attr_encode 0x10 4 1 13 0 1 5 = .ok [0x10, 4, 1, 0, 13, 0, 0, 0, 0, 0, 1, 0, 0, 5, 0, 0x28] := by decide
example : Gen.Fn.t3_read_plan 0x10 5 13 4 = some (2, 4) := by decide
example : Gen.Fn.t3_read_plan 0x20 5 13 4 = none := by decide
example : Gen.Fn.t3_read_plan 0x10 209 13 4 = none := by decide
example : Gen.Fn.t3_read_plan 0x10 5 13 0 = none := by decide
example : Gen.Fn.t3_write_plan [1, 2, 3] = .ok (2, [1, 2, 3, 0, 0, 0, 0, 0, 0, 0, 0, 0, 0, 0, 0, 0]) := by decide
example : Gen.Fn.t3_write_batch 1 [1, 2, 3, 0, 0, 0, 0, 0, 0, 0, 0, 0, 0, 0, 0, 0] 2 4
    = (2, [1, 2, 3, 0, 0, 0, 0, 0, 0, 0, 0, 0, 0, 0, 0, 0]) := by decide

end NfcVerif.FnBridge.T3
