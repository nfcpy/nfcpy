import NfcVerif.Gen.FnTagCmd
import NfcVerif.Lemmas.FnBridgeTagCmd
import NfcVerif.Lemmas.T3
import NfcVerif.Model.T3Format
import NfcVerif.Model.T3Emu
/-!
# Bridge theorems, group TagCmd, Type 3 and its emulation (`nfc/tag/tt3.py`)

Service and block codes, command frame, answer checks, polling (C16, C08, C20), the attribute block and the block
arithmetic of the NDEF reader / writer (C01-C03), element decoding and response framing of `Type3TagEmulation` (C07).
Header comment of the group: `Props/FnBridgeTagCmd.lean`.  The lemmas about the prelude that only the tag groups need
(`or_low`, `pack_Hle`, `pack_Hbe'`, `setB_nat`, ..) are in `Lemmas/FnBridgeTagCmdPrelude.lean`; `Lemmas/FnBridgeTagCmd.lean`
(`blockCode_eq`, `checkRsp3_eq`, `t3Response_eq`) ties the property models to the reference functions.
-/
namespace NfcVerif.FnBridge.TagCmd
open NfcVerif NfcVerif.PyFn NfcVerif.TagCmdRef

/-! ## Type 3 Tag: service and block codes, command frame, answer checks, polling -/

/-- `ServiceCode.pack` for a natural service number and attribute (both are masked) -/
theorem t3_service_code_pack_bridge (number attr : Nat) :
    Gen.Fn.t3_service_code_pack number attr = .ok (t3ServiceCode number attr) := by
  unfold Gen.Fn.t3_service_code_pack t3ServiceCode
  simp only [lit_cast, band_ofNat, shl_ofNat, bor_ofNat, Nat.shiftLeft_eq, Nat.and_two_pow_sub_one_eq_mod _ 10,
    Nat.and_two_pow_sub_one_eq_mod _ 6]
  rw [or_low _ _ 6 (Nat.mod_lt _ (by decide)), pack_Hle, if_neg (by omega)]

example : Gen.Fn.t3_service_code_pack 0 0b001011 = .ok [0x0B, 0x00] := by decide +kernel
example : Gen.Fn.t3_service_code_pack 0 0b001001 = .ok [0x09, 0x00] := by decide +kernel

/-- `BlockCode.pack` for natural fields -/
theorem t3_block_code_pack_bridge (number access service : Nat) :
    Gen.Fn.t3_block_code_pack number access service = t3BlockCode number access service := by
  unfold Gen.Fn.t3_block_code_pack t3BlockCode
  -- `py_nat` leaves the first octet as `flag * 2 ^ 7 ||| access % 8 * 2 ^ 4 ||| service % 16`; the fields do not overlap
  have hf : access % 8 * 2 ^ 4 ||| service % 16 = access % 8 * 16 + service % 16 := or_low _ _ 4 (Nat.mod_lt _ (by decide))
  by_cases h1 : number < 256
  · simp only [h1, show (number : Int) < 256 by omega, decide_true, if_true]
    py_nat
    -- the two displays have become one test, of the first octet and of `number`
    rw [Nat.or_assoc, hf, or_low 1 _ 7 (by omega), if_pos ⟨by omega, h1⟩]
  · simp only [h1, show ¬ (number : Int) < 256 by omega, decide_false, Bool.false_eq_true, if_false]
    py_nat
    -- the test of the first octet, then the `<H` field in front of the continuation
    rw [Nat.zero_mul, Nat.zero_or, hf, if_pos (by omega), packField_Hle_nat, ite_ok_bind]
    -- the field has `number / 256 % 256` as its high octet
    refine ite_congr rfl (fun h2 => ?_) fun _ => rfl
    rw [Nat.mod_eq_of_lt (by omega : number / 256 < 256)]

example : Gen.Fn.t3_block_code_pack 5 0 0 = .ok [0x80, 5] := by decide +kernel
example : Gen.Fn.t3_block_code_pack 0x1234 0 1 = .ok [0x01, 0x34, 0x12] := by decide +kernel
example : Gen.Fn.t3_block_code_pack 0x10000 0 0 = .error .struct := by decide +kernel

/-- the block list element of the C08 model is the regenerated one -/
theorem gen_block_code_model (bn : Nat) : Gen.Fn.t3_block_code_pack bn 0 0 = Adv.blockCode bn := by
  rw [blockCode_eq]
  exact t3_block_code_pack_bridge bn 0 0

/-- `send_cmd_recv_rsp`: the command frame, for a natural command code -/
theorem t3_frame_bridge (code : Nat) (data : Bytes) (timeout : Int) (sendIdm : Bool) (idm : Bytes) :
    Gen.Fn.t3_frame code data timeout sendIdm idm =
      if 2 + (if sendIdm then idm else []).length + data.length ≥ 256 ∨ code ≥ 256 then .error .value
      else .ok ([2 + (if sendIdm then idm else []).length + data.length, code] ++ (if sendIdm then idm else []) ++ data) := by
  unfold Gen.Fn.t3_frame
  simp only []
  generalize (if sendIdm = true then idm else ([] : Bytes)) = idm'
  py_nat
  -- `bytearray([length, code])` has become one test of both octets; the reference raises on the opposite
  show (if 2 + idm'.length + data.length < 256 ∧ code < 256 then _ else _) = _
  exact ite_flip (by omega) (fun _ => rfl) fun _ => rfl

example : Gen.Fn.t3_frame 6 [1, 0x0B, 0, 1, 0x80, 0] 0 true [1, 2, 3, 4, 5, 6, 7, 8]
    = .ok [16, 6, 1, 2, 3, 4, 5, 6, 7, 8, 1, 0x0B, 0, 1, 0x80, 0] := by decide +kernel
example : Gen.Fn.t3_frame 0 [0x12, 0xFC, 0, 0] 0 false [1, 2, 3, 4, 5, 6, 7, 8] = .ok [6, 0, 0x12, 0xFC, 0, 0] := by
  decide +kernel

/-- the regenerated frame is the frame of the C20 model (`Auth.t3Command`, commands with IDm) -/
theorem gen_frame_eq_t3Command (code : Nat) (hc : code < 256) (data : Bytes) (timeout : Int) (idm : Bytes) :
    Gen.Fn.t3_frame code data timeout true idm = Auth.t3Command idm code data := by
  rw [t3_frame_bridge, t3Command_frame]
  by_cases h : 2 + idm.length + data.length > 255
  · have : 2 + idm.length + data.length ≥ 256 := by omega
    simp [h, this]
  · have : ¬ (2 + idm.length + data.length ≥ 256 ∨ code ≥ 256) := by omega
    simp [h, this]

/-- ... and the frame the C08 model hands to the air interface (`Adv.sendCmd3`) -/
theorem gen_frame_eq_sendCmd3 (t : Adv.Tag) (code : Nat) (data : Bytes) (timeout : Int) (sendIdm : Bool) (s : Adv.S3) :
    Adv.sendCmd3 t code data sendIdm s =
      match Gen.Fn.t3_frame code data timeout sendIdm s.idm with
      | .error e => (.error e, s)
      | .ok frame =>
        ((match (Adv.trx t 3 s.w frame).1 with
          | none => .error (.tagCmd 0)
          | some rsp => Adv.checkRsp3 code sendIdm s.idm rsp),
         { s with w := (Adv.trx t 3 s.w frame).2 }) := by
  rw [t3_frame_bridge]
  unfold Adv.sendCmd3
  by_cases h : 2 + (if sendIdm then s.idm else []).length + data.length ≥ 256 ∨ code ≥ 256
  · simp only [h, if_true]
  · simp only [h, if_false]
    rfl

/-- `send_cmd_recv_rsp`: the checks on the response frame, for a natural command code -/
theorem t3_check_rsp_bridge (code : Nat) (sendIdm checkStatus : Bool) (rsp idm : Bytes) :
    Gen.Fn.t3_check_rsp code sendIdm checkStatus rsp idm = t3CheckRsp code sendIdm checkStatus idm rsp := by
  unfold Gen.Fn.t3_check_rsp t3CheckRsp
  -- the minimal length, which guards every octet the checks read
  obtain ⟨m, hm, hm12, eI, eN⟩ : ∃ m : Nat, 2 ≤ m ∧ (sendIdm = true → checkStatus = true → 12 ≤ m) ∧
      (if ¬ sendIdm = true then (2 : Int) else if checkStatus = true then 12 else 10) = (m : Int) ∧
      (if ¬ sendIdm = true then 2 else if checkStatus = true then 12 else 10) = m := by
    cases sendIdm <;> cases checkStatus <;> exact ⟨_, by decide, by decide, rfl, rfl⟩
  simp only [eI, eN]
  by_cases hl : rsp.length < m
  · rw [if_pos (by rw [len_eq]; omega), if_pos (Or.inl hl)]; rfl
  · have h0 : 0 < rsp.length := by omega
    have h1 : 1 < rsp.length := by omega
    simp only [at0_eq, lit_cast, slice_ofNat, sliceN, sliceFrom_ofNat, getB_nat, len_eq, ← Int.natCast_add, Int.ofNat_lt,
      Int.natCast_inj, Nat.reduceSub, hl, h0, h1, if_true, if_false, false_or, Py.bind_ok, ne_eq, decide_eq_true_eq]
    refine ite_branch_congr rfl fun _ => ite_branch_congr rfl fun _ => ite_branch_congr rfl fun _ => ite_branch_congr rfl fun hs => ?_
    cases checkStatus
    · rfl
    · have h12 := hm12 (by simpa using hs) rfl
      have h10 : 10 < rsp.length := by omega
      have hsl : List.take 2 (List.drop 10 rsp) = [at0 rsp 10, at0 rsp 11] := by
        have := slice2_at rsp 10 (by omega)
        rwa [slice_ofNat] at this
      simp only [h10, if_true, Py.bind_ok, hsl, ube_pair, needExact_pair, true_and, not_true_eq_false, if_false,
        decide_not, Bool.not_eq_true', decide_eq_false_iff_not, Int.natCast_inj]

example : Gen.Fn.t3_check_rsp 6 true true [13, 7, 1, 2, 3, 4, 5, 6, 7, 8, 0, 0, 0xAA] [1, 2, 3, 4, 5, 6, 7, 8] = .ok [0xAA] := by
  decide +kernel
example : Gen.Fn.t3_check_rsp 6 true true [12, 7, 1, 2, 3, 4, 5, 6, 7, 8, 1, 0xA6] [1, 2, 3, 4, 5, 6, 7, 8]
    = .error (.tagCmd 0x01A6) := by decide +kernel
example : Gen.Fn.t3_check_rsp 6 true true [11, 7, 1, 2, 3, 4, 5, 6, 7, 8, 0] [1, 2, 3, 4, 5, 6, 7, 8] = .error (.tagCmd 1) := by
  decide +kernel
example : Gen.Fn.t3_check_rsp 0 false true [4, 1, 9, 9] [] = .ok [9, 9] := by decide +kernel

/-- the regenerated checks are the checks of the C08 model ... -/
theorem gen_check_rsp_model (code : Nat) (sendIdm : Bool) (idm rsp : Bytes) :
    Gen.Fn.t3_check_rsp code sendIdm true rsp idm = Adv.checkRsp3 code sendIdm idm rsp := by
  rw [t3_check_rsp_bridge, checkRsp3_eq]

/-- ... and of the C20 model -/
theorem gen_check_rsp_auth (code : Nat) (idm rsp : Bytes) :
    Gen.Fn.t3_check_rsp code true true rsp idm = Auth.t3Response idm code rsp := by
  rw [t3_check_rsp_bridge, t3Response_eq]

/-- C08 `checkRsp3_spec` for the regenerated function (every combination of the flags): whatever arrives, the
result is a command error or a suffix of the frame - no `IndexError`, no `struct.error` -/
theorem gen_check_rsp_safe (code : Nat) (sendIdm checkStatus : Bool) (idm rsp : Bytes) :
    (∀ e, Gen.Fn.t3_check_rsp code sendIdm checkStatus rsp idm = .error e → ∃ n, e = .tagCmd n) ∧
    (∀ d, Gen.Fn.t3_check_rsp code sendIdm checkStatus rsp idm = .ok d → ∃ k, d = rsp.drop k) := by
  rw [t3_check_rsp_bridge]; exact t3CheckRsp_spec code sendIdm checkStatus idm rsp

/-- `Type3Tag.polling`: argument checks and command data, for all ints -/
theorem t3_polling_cmd_bridge (sys rc tsn : Int) :
    Gen.Fn.t3_polling_cmd sys rc tsn = t3PollingCmd sys rc tsn := by
  unfold Gen.Fn.t3_polling_cmd t3PollingCmd
  -- both sides test `tsn` and `rc` alike; behind the tests the two are octets
  refine ite_congr rfl (fun _ => rfl) fun h1 => ite_congr rfl (fun _ => rfl) fun h2 => ?_
  rw [Decidable.not_not] at h1 h2
  simp only [pack_cons, PyFn.pack_nil, packField_B, packField_Hbe]
  rw [if_neg (by omega : ¬ (rc < 0 ∨ rc > 255)), if_neg (by omega : ¬ (tsn < 0 ∨ tsn > 255))]
  by_cases h : sys < 0 ∨ sys > 65535
  · rw [if_pos h, if_pos h]; rfl
  · rw [if_neg h, if_neg h]; rfl

example : Gen.Fn.t3_polling_cmd 0x12FC 0 0 = .ok [0x12, 0xFC, 0, 0] := by decide +kernel
example : Gen.Fn.t3_polling_cmd 0x12FC 3 0 = .error .value := by decide +kernel
example : Gen.Fn.t3_polling_cmd 0x12FC 0 2 = .error .value := by decide +kernel
example : Gen.Fn.t3_polling_cmd 0x10000 0 0 = .error .struct := by decide +kernel

/-- the regenerated polling command data is what the C08 model sends (one time slot) -/
theorem gen_polling_cmd_model (sys rc : Nat) (hs : sys < 65536) (hr : rc = 0 ∨ rc = 1 ∨ rc = 2) :
    Gen.Fn.t3_polling_cmd sys rc 0 = .ok [sys / 256, sys % 256, rc, 0] := by
  rw [t3_polling_cmd_bridge]
  unfold t3PollingCmd
  have h3 : ¬ ((sys : Int) < 0 ∨ (sys : Int) > 65535) := by omega
  rcases hr with rfl | rfl | rfl <;> simp [h3]

/-- `Type3Tag.polling`: response length check -/
theorem t3_polling_len_bridge (rc : Int) (d : Bytes) : Gen.Fn.t3_polling_len rc d = t3PollingLen rc d := by
  unfold Gen.Fn.t3_polling_len t3PollingLen
  rfl

example : Gen.Fn.t3_polling_len 0 (List.replicate 16 1) = .ok () := by decide +kernel
example : Gen.Fn.t3_polling_len 1 (List.replicate 16 1) = .error (.tagCmd 4) := by decide +kernel

/-- `Type3Tag.polling`: length check and result tuple (`Adv.pollingTuple`) -/
theorem t3_polling_rsp_bridge (rc : Int) (d : Bytes) :
    Gen.Fn.t3_polling_rsp rc d = (t3PollingLen rc d >>= fun _ => .ok (Val.tuple ((t3PollingParts d).map Val.bytes))) := by
  unfold Gen.Fn.t3_polling_rsp t3PollingLen t3PollingParts
  rw [show slice d 0 8 = d.take 8 from slice_ofNat d 0 8, show slice d 8 16 = _ from slice_ofNat d 8 16,
    show slice d 16 18 = _ from slice_ofNat d 16 18, len_eq]
  by_cases h : (d.length : Int) ≠ (if rc = 0 then 16 else 18)
  · rw [if_pos h, if_pos h]; rfl
  · rw [if_neg h, if_neg h]
    simp only [Py.bind_ok, lit_cast, Int.natCast_inj, apply_ite (List.map Val.bytes), apply_ite Val.tuple, List.map_cons, List.map_nil]
    rfl

/-- the tuple of the C08 model (`Adv.pollingTuple`) -/
theorem gen_polling_parts (d : Bytes) :
    t3PollingParts d = if d.length = 16 then [d.take 8, (d.drop 8).take 8] else [d.take 8, (d.drop 8).take 8, (d.drop 16).take 2] := rfl

example : Gen.Fn.t3_polling_rsp 0 (List.replicate 18 1) = .error (.tagCmd 4) := by rfl

/-- `read_without_encryption`: size check of the answer (only the number of blocks matters) -/
theorem t3_read_rsp_bridge (bl : List Int) (d : Bytes) : Gen.Fn.t3_read_rsp bl d = t3ReadRsp bl.length d := by
  unfold Gen.Fn.t3_read_rsp t3ReadRsp
  py_nat

example : Gen.Fn.t3_read_rsp [0] (List.replicate 17 3) = .ok (List.replicate 16 3) := by decide +kernel
example : Gen.Fn.t3_read_rsp [0, 1] (List.replicate 17 3) = .error (.tagCmd 4) := by decide +kernel

/-- count octets of the service and block lists -/
theorem t3_rw_nsvc_bridge (l : List Int) : Gen.Fn.t3_rw_nsvc l = t3Count l.length := by
  unfold Gen.Fn.t3_rw_nsvc t3Count
  rw [len_eq, mkBytes_cons, PyFn.mkBytes_nil]
  exact ite_flip (by omega) (fun _ => rfl) fun _ => rfl
theorem t3_rw_nblk_bridge (l : List Int) : Gen.Fn.t3_rw_nblk l = t3Count l.length := t3_rw_nsvc_bridge l

/-- system code from SENSF_RES (`Adv.activate`) -/
theorem t3_sys_bridge (sensf : Bytes) :
    (Gen.Fn.t3_sys sensf >>= fun v => .ok v.toNat) = unpackH (sliceN sensf 17 19) 0 := by
  unfold Gen.Fn.t3_sys
  py_nat
  -- the exact-size guard and the field, on a slice of width two
  exact (unpackH_exact _ (by rw [length_sliceN]; omega)).symm

/-! ## Type 3 attribute block -/

/-- `_write_attribute_data`: the 16 octets are `T3.encodeAttr` (of a four octet length the low three are written) -/
theorem attr_block (a : T3.Attr) (h1 : a.ver < 256) (h2 : a.nbr < 256) (h3 : a.nbw < 256)
    (h4 : a.nmaxb < 65536) (h5 : a.writef < 256) (h6 : a.rwflag < 256) (h7 : a.ln < 4294967296) :
    Gen.Fn.t3_wr_attr a.ver a.nbr a.nbw a.nmaxb a.writef a.rwflag a.ln = .ok (T3.encodeAttr a) := by
  obtain ⟨ver, nbr, nbw, nmaxb, writef, rwflag, ln⟩ := a
  simp only at h1 h2 h3 h4 h5 h6 h7
  unfold Gen.Fn.t3_wr_attr T3.encodeAttr
  rw [zeros16']
  simp only [Py.bind_ok, lit_cast]
  -- the item and slice assignments on the sixteen octets, evaluated
  simp only [setB_nat, setSlice_nat, slice_ofNat, sliceN, pack_Hbe', pack_Ibe, sum_ints, Py.bind_ok, List.length_cons,
    List.length_nil, List.set, List.take, List.drop, List.take_succ_cons, List.cons_append, List.nil_append, List.foldl,
    Nat.zero_add, Nat.add_zero, Nat.le_refl, Nat.reduceAdd, Nat.reduceSub, Nat.reduceLT, Nat.reduceLeDiff, h1, h2, h3, h4, h5,
    h6, h7]
  rw [pack_Hbe' _ (by omega)]
  simp only [Py.bind_ok, List.append_nil]

/-- `_write_attribute_data`: the attribute block is `T3.encodeAttr` -/
theorem t3_wr_attr_bridge (a : T3.Attr) (h : T3.AttrRange a) :
    Gen.Fn.t3_wr_attr a.ver a.nbr a.nbw a.nmaxb a.writef a.rwflag a.ln = .ok (T3.encodeAttr a) :=
  attr_block a h.ver h.nbr h.nbw h.nmaxb h.writef h.rwflag (Nat.lt_trans h.ln (by decide))

example : Gen.Fn.t3_wr_attr 0x10 4 1 13 0 1 5 = .ok [0x10, 4, 1, 0, 13, 0, 0, 0, 0, 0, 1, 0, 0, 5, 0, 0x28] := by decide +kernel

/-- `Type3Tag._format`: the attribute block is `T3.formatAttr` -/
theorem t3_fmt_attr_bridge (version nbr nbw nmaxb : Nat) (h1 : version < 256) (h2 : nbr < 256) (h3 : nbw < 256) (h4 : nmaxb < 65536) :
    Gen.Fn.t3_fmt_attr version nbr nbw nmaxb = .ok (T3.formatAttr version nbr nbw nmaxb) := by
  unfold Gen.Fn.t3_fmt_attr T3.formatAttr T3.encodeAttr
  rw [zeros16']
  have hw : (if ((nbw : Int) > 0) then (1 : Int) else 0) = (((if nbw > 0 then 1 else 0 : Nat)) : Int) := by
    by_cases h : nbw > 0 <;> simp [h]
  rw [hw]
  have hw2 : (if nbw > 0 then 1 else 0 : Nat) < 256 := by split <;> omega
  generalize (if nbw > 0 then 1 else 0 : Nat) = rwf at *
  simp only [Py.bind_ok, lit_cast]
  rw [pack_BBBH version nbr nbw nmaxb h1 h2 h3 h4]
  simp only [setB_nat, setSlice_nat, slice_ofNat, sliceN, sum_ints, Py.bind_ok, List.length_cons, List.length_nil, List.set,
    List.take, List.drop, List.cons_append, List.nil_append, List.foldl, Nat.zero_add, Nat.add_zero, Nat.le_refl,
    Nat.reduceAdd, Nat.reduceSub, Nat.reduceLT, Nat.reduceLeDiff, hw2]
  rw [pack_Hbe' _ (by omega)]
  simp only [Py.bind_ok, List.append_nil]
  congr 1

/-- `_read_attribute_data` on a 16 octet block: checksum test and field extraction are `T3.decodeAttr` -/
theorem t3_rd_attr_bridge (b0 b1 b2 b3 b4 b5 b6 b7 b8 b9 b10 b11 b12 b13 b14 b15 : Nat) :
    (Gen.Fn.t3_rd_csum [b0, b1, b2, b3, b4, b5, b6, b7, b8, b9, b10, b11, b12, b13, b14, b15] >>= fun bad =>
      if bad then .ok none else
        Gen.Fn.t3_rd_attr [b0, b1, b2, b3, b4, b5, b6, b7, b8, b9, b10, b11, b12, b13, b14, b15] >>= fun r =>
          .ok (some (⟨r.1.toNat, r.2.1.toNat, r.2.2.1.toNat, r.2.2.2.1.toNat, r.2.2.2.2.1.toNat, r.2.2.2.2.2.1.toNat,
            r.2.2.2.2.2.2.toNat⟩ : T3.Attr)))
      = T3.decodeAttr [b0, b1, b2, b3, b4, b5, b6, b7, b8, b9, b10, b11, b12, b13, b14, b15] := by
  unfold Gen.Fn.t3_rd_csum Gen.Fn.t3_rd_attr T3.decodeAttr
  simp only [lit_cast, ← Int.natCast_add, slice_ofNat, sliceN, List.take, List.drop, List.cons_append, List.nil_append, needExact_nat, sum_ints,
    List.foldl, List.length_cons, List.length_nil, Nat.reduceAdd, Nat.reduceSub, if_true, Py.bind_ok, ube_one, at0_cons_zero,
    at0_cons_succ, Nat.zero_add, List.take_succ_cons]
  have u1 : ube [b14, b15] ((0 : Nat) : Int) 2 = ((b14 * 256 + b15 : Nat) : Int) := ube_pair b14 b15
  have u2 : ube [b0, b1, b2, b3, b4] ((3 : Nat) : Int) 2 = ((b3 * 256 + b4 : Nat) : Int) := by simp [ube, beNat]
  have u3 : ube [0, b11, b12, b13] ((0 : Nat) : Int) 4 = (((b11 * 256 + b12) * 256 + b13 : Nat) : Int) := by simp [ube, beNat]
  rw [u1, u2, u3]
  simp only [Int.toNat_natCast, ne_eq, Int.natCast_inj, decide_not, Bool.not_eq_true', decide_eq_false_iff_not]

/-- an attribute block that `read_from_ndef_service` could not verify (`None`): `_read_attribute_data` gives no attributes -/
theorem t3_rd_attr_none_bridge (d : Option Bytes) : Gen.Fn.t3_rd_attr_none d = d.isNone := by
  unfold Gen.Fn.t3_rd_attr_none; cases d <;> simp

/-- a block shorter than 16 octets: `struct.error` like `T3.decodeAttr` -/
theorem t3_rd_csum_short (d : Bytes) (h : d.length < 16) : Gen.Fn.t3_rd_csum d = .error .struct := by
  unfold Gen.Fn.t3_rd_csum
  py_nat
  rw [if_neg (by simp [sliceN]; omega)]

/-! ## Type 3 NDEF: block arithmetic, padding, the block loop -/

/-- block arithmetic of `Type3Tag.NDEF._read_ndef_data` / `_write_ndef_data` (`T3.readNdef`, `Adv.readNdef3`,
`T3.planWrite`) -/
theorem t3_last_block_bridge (ln : Nat) : Gen.Fn.t3_last_block ln = ((1 + (ln + 15) / 16 : Nat) : Int) := by
  unfold Gen.Fn.t3_last_block; omega
theorem t3_nbr_bridge (nbr : Nat) : Gen.Fn.t3_nbr nbr = ((min nbr 15 : Nat) : Int) := by
  unfold Gen.Fn.t3_nbr imin; split <;> omega
theorem t3_ln_too_big_bridge (ln nmaxb : Nat) : Gen.Fn.t3_ln_too_big ln nmaxb = decide (ln > nmaxb * 16) := by
  unfold Gen.Fn.t3_ln_too_big
  py_nat
theorem t3_chunk_end_bridge (i nbr last : Nat) : Gen.Fn.t3_chunk_end i nbr last = ((min (i + nbr) last : Nat) : Int) := by
  unfold Gen.Fn.t3_chunk_end imin; split <;> omega
theorem t3_wr_last_block_bridge (data : Bytes) : Gen.Fn.t3_wr_last_block data = ((1 + (data.length + 15) / 16 : Nat) : Int) := by
  unfold Gen.Fn.t3_wr_last_block len; omega

/-- the message padded to whole blocks is `T3.padded` -/
theorem t3_pad_bridge (data : Bytes) : Gen.Fn.t3_pad data = .ok (T3.padded data) := by
  unfold Gen.Fn.t3_pad T3.padded T34.zeros PyFn.zeros len
  have h : ¬ (-(data.length : Int) % 16 < 0) := by omega
  have e : (-(data.length : Int) % 16).toNat = (16 - data.length % 16) % 16 := by omega
  simp only [h, if_false, Py.bind_ok, e]

example : Gen.Fn.t3_pad [1, 2, 3] = .ok ([1, 2, 3] ++ List.replicate 13 0) := by decide +kernel

/-- the data of one write command: blocks `i .. last-1` of the padded message (`T3.dataCmds`) -/
theorem t3_wr_chunk_bridge (data : Bytes) (i last : Nat) (hi : 1 ≤ i) (hl : 1 ≤ last) :
    Gen.Fn.t3_wr_chunk data i last = sliceN data ((i - 1) * 16) ((last - 1) * 16) := by
  unfold Gen.Fn.t3_wr_chunk
  have e1 : ((i : Int) - 1) * 16 = (((i - 1) * 16 : Nat) : Int) := by omega
  have e2 : ((last : Int) - 1) * 16 = (((last - 1) * 16 : Nat) : Int) := by omega
  rw [e1, e2, slice_ofNat]

/-- one round of the block loop of `_read_ndef_data`: a `None` from `read_from_ndef_service` ends the read with no data,
otherwise the answer is appended (`T3.readLoop` / `Adv.blockLoop3`: `acc ++ d`) -/
theorem t3_rd_block_step_bridge (data : Bytes) (bd : Option Bytes) :
    Gen.Fn.t3_rd_block_step data bd = bd.map fun b => data ++ b := by
  unfold Gen.Fn.t3_rd_block_step; cases bd <;> rfl

/-- no data survives a `None`, whatever was read before -/
theorem gen_rd_block_none (data : Bytes) : Gen.Fn.t3_rd_block_step data none = none := by
  rw [t3_rd_block_step_bridge]; rfl

example : Gen.Fn.t3_rd_block_step [1, 2] (some [3]) = some [1, 2, 3] := by decide

/-! ## Type 3 Tag emulation (`Type3TagEmulation`, model `T3Emu`, C07) -/
section emulation

/-- little-endian 16 bit value `d[k+1] << 8 | d[k]` of octets -/
theorem le16_at (d : Bytes) (hb : IsBytes d) (k : Nat) :
    (getB d ((k + 1 : Nat) : Int) >>= fun t1 => getB d (k : Int) >>= fun t2 => Except.ok (bor (shl t1 8) t2))
      = (idxN d (k + 1) >>= fun hi => idxN d k >>= fun lo => .ok ((hi * 256 + lo : Nat) : Int)) := by
  rw [getB_idxN, getB_idxN]
  cases h1 : idxN d (k + 1) with
  | error e => rfl
  | ok hi =>
    cases h0 : idxN d k with
    | error e => rfl
    | ok lo =>
      have hlo : lo < 2 ^ 8 := hb lo (idxN_mem h0)
      simp only [Py.bind_ok, lit_cast, shl_ofNat, bor_ofNat, Nat.shiftLeft_eq, or_low hi lo 8 hlo, Nat.reducePow]

/-- service code at the head of the command data (`T3Emu.parseServices`) -/
theorem t3e_rd_service_code_bridge (d : Bytes) (hb : IsBytes d) :
    Gen.Fn.t3e_rd_service_code d = (idxN d 1 >>= fun hi => idxN d 0 >>= fun lo => .ok ((hi * 256 + lo : Nat) : Int)) :=
  le16_at d hb 0
theorem t3e_wr_service_code_bridge (d : Bytes) (hb : IsBytes d) :
    Gen.Fn.t3e_wr_service_code d = (idxN d 1 >>= fun hi => idxN d 0 >>= fun lo => .ok ((hi * 256 + lo : Nat) : Int)) :=
  le16_at d hb 0

/-- block number of a 3-octet block list element (`T3Emu.parseBlocks`) -/
theorem t3e_rd_block_number_bridge (d : Bytes) (hb : IsBytes d) :
    Gen.Fn.t3e_rd_block_number d = (idxN d 2 >>= fun hi => idxN d 1 >>= fun lo => .ok ((hi * 256 + lo : Nat) : Int)) :=
  le16_at d hb 1
theorem t3e_wr_block_number_bridge (d : Bytes) (hb : IsBytes d) :
    Gen.Fn.t3e_wr_block_number d = (idxN d 2 >>= fun hi => idxN d 1 >>= fun lo => .ok ((hi * 256 + lo : Nat) : Int)) :=
  le16_at d hb 1

example : Gen.Fn.t3e_rd_block_number [0x00, 0x34, 0x12] = .ok 0x1234 := by decide +kernel
example : Gen.Fn.t3e_rd_block_number [0x00, 0x34] = .error .index := by decide +kernel

/-- service list index and length bit of a block list element -/
theorem t3e_rd_service_index_bridge (d : Bytes) :
    Gen.Fn.t3e_rd_service_index d = (idxN d 0 >>= fun b0 => .ok ((b0 % 16 : Nat) : Int)) := by
  unfold Gen.Fn.t3e_rd_service_index
  py_nat
theorem t3e_wr_service_index_bridge (d : Bytes) :
    Gen.Fn.t3e_wr_service_index d = (idxN d 0 >>= fun b0 => .ok ((b0 % 16 : Nat) : Int)) := t3e_rd_service_index_bridge d

theorem t3e_rd_short_elem_bridge (d : Bytes) :
    Gen.Fn.t3e_rd_short_elem d = (idxN d 0 >>= fun b0 => .ok (decide (b0 ≥ 128))) := by
  unfold Gen.Fn.t3e_rd_short_elem
  py_nat
theorem t3e_wr_short_elem_bridge (d : Bytes) :
    Gen.Fn.t3e_wr_short_elem d = (idxN d 0 >>= fun b0 => .ok (decide (b0 ≥ 128))) := t3e_rd_short_elem_bridge d

/-- status flags: bit `i mod 8` of the first flag octet names the block list position -/
theorem t3e_status (i : Nat) (code : Nat) (hc : code < 256) :
    mkBytes [shl 1 ((i : Int) % 8), (code : Int)] = .ok [2 ^ (i % 8), code] := by
  have e : shl 1 ((i : Int) % 8) = ((2 ^ (i % 8) : Nat) : Int) := by
    rw [show ((i : Int) % 8) = ((i % 8 : Nat) : Int) from by omega, show (1 : Int) = ((1 : Nat) : Int) from rfl, shl_ofNat,
      Nat.shiftLeft_eq, Nat.one_mul]
  have hp : 2 ^ (i % 8) ≤ 2 ^ 7 := Nat.pow_le_pow_right (by omega) (by omega)
  rw [e]
  exact mkBytes_two _ _ (by omega) hc

theorem t3e_rd_status_a3_bridge (i : Nat) : Gen.Fn.t3e_rd_status_a3 i = .ok [2 ^ (i % 8), 0xA3] := t3e_status i 0xA3 (by omega)
theorem t3e_rd_status_a2_bridge (i : Nat) : Gen.Fn.t3e_rd_status_a2 i = .ok [2 ^ (i % 8), 0xA2] := t3e_status i 0xA2 (by omega)
theorem t3e_wr_status_a3_bridge (i : Nat) : Gen.Fn.t3e_wr_status_a3 i = .ok [2 ^ (i % 8), 0xA3] := t3e_status i 0xA3 (by omega)
theorem t3e_wr_status_a2_bridge (i : Nat) : Gen.Fn.t3e_wr_status_a2 i = .ok [2 ^ (i % 8), 0xA2] := t3e_status i 0xA2 (by omega)

example : Gen.Fn.t3e_rd_status_a3 9 = .ok [2, 0xA3] := by decide +kernel

/-- one step of `T3Emu.parseBlocks` in terms of the regenerated element decoding (an element whose service list
index is legal): 2 octets with the length bit, else 3 octets with a little-endian block number -/
theorem gen_parseBlocks_step (nsvc n i : Nat) (d : Bytes) (hb : IsBytes d) (acc : List (Nat × Nat)) (b0 : Nat) (rest : Bytes)
    (hd : d = b0 :: rest) (hs : ¬ b0 % 16 ≥ nsvc) :
    T3Emu.parseBlocks nsvc (n + 1) i d acc =
      (Gen.Fn.t3e_rd_short_elem d >>= fun short =>
        if short then idxN d 1 >>= fun bn => T3Emu.parseBlocks nsvc n (i + 1) (d.drop 2) (acc ++ [(b0 % 16, bn)])
        else Gen.Fn.t3e_rd_block_number d >>= fun bn =>
          T3Emu.parseBlocks nsvc n (i + 1) (d.drop 3) (acc ++ [(b0 % 16, bn.toNat)])) := by
  rw [t3e_rd_short_elem_bridge, t3e_rd_block_number_bridge d hb]
  subst hd
  simp only [T3Emu.parseBlocks, hs, if_false, idxN_cons_zero, Py.bind_ok]
  by_cases h128 : b0 ≥ 128
  · simp only [h128, if_true, decide_true]
  · simp only [h128, if_false, decide_false, Bool.false_eq_true]
    cases idxN (b0 :: rest) 2 with
    | error e => rfl
    | ok hi =>
      cases idxN (b0 :: rest) 1 with
      | error e => rfl
      | ok lo => simp only [Py.bind_ok, Int.toNat_natCast]

/-- response framing (`T3Emu.respond`) -/
theorem t3e_rsp_frame (n code : Nat) (hc : code < 256) (idm rsp : Bytes) :
    (mkBytes [((n : Int) + len rsp), (code : Int)] >>= fun t1 => Except.ok ((t1 ++ idm) ++ rsp))
      = if n + rsp.length > 255 then .error .value else .ok ([n + rsp.length, code] ++ idm ++ rsp) := by
  py_nat
  -- one test of both octets of the display; `code` is an octet, the reference raises on a length above 255
  show (if n + rsp.length < 256 ∧ code < 256 then _ else _) = _
  exact ite_flip (by omega) (fun _ => rfl) fun _ => rfl

theorem t3e_read_rsp_bridge (e : T3Emu.Emu) (rsp : Bytes) : Gen.Fn.t3e_read_rsp rsp e.idm = T3Emu.respond e 0x07 rsp :=
  t3e_rsp_frame 10 7 (by omega) e.idm rsp
theorem t3e_write_rsp_bridge (e : T3Emu.Emu) (rsp : Bytes) : Gen.Fn.t3e_write_rsp rsp e.idm = T3Emu.respond e 0x09 rsp :=
  t3e_rsp_frame 10 9 (by omega) e.idm rsp
theorem t3e_polling_rsp_bridge (rsp : Bytes) :
    Gen.Fn.t3e_polling_rsp rsp = if 2 + rsp.length > 255 then .error .value else .ok ([2 + rsp.length, 1] ++ rsp) := by
  have := t3e_rsp_frame 2 1 (by omega) [] rsp
  simpa [Gen.Fn.t3e_polling_rsp] using this

example : Gen.Fn.t3e_read_rsp [0, 0, 1, 7] [1, 2, 3, 4, 5, 6, 7, 8] = .ok [14, 7, 1, 2, 3, 4, 5, 6, 7, 8, 0, 0, 1, 7] := by decide +kernel

/-- the polling answer of the emulation (`T3Emu.processCommand`: request code 1 appends the system code) -/
theorem t3e_polling_bridge (d idm pmm sys : Bytes) :
    Gen.Fn.t3e_polling d idm pmm sys = (idxN d 2 >>= fun rc => .ok (if rc = 1 then idm ++ pmm ++ sys else idm ++ pmm)) := by
  unfold Gen.Fn.t3e_polling
  py_nat

/-- length test of a received command -/
theorem t3e_cmd_bad_len_bridge (cmd : Bytes) :
    Gen.Fn.t3e_cmd_bad_len cmd = .ok (decide (cmd = [] ∨ cmd.length ≠ at0 cmd 0)) := by
  unfold Gen.Fn.t3e_cmd_bad_len
  match cmd with
  | [] => rfl
  | a :: r =>
    rw [getB_zero]
    py_nat
    simp [at0_cons_zero, eq_comm]

/-- for a non-empty command this is the test of `T3Emu.processCommand` -/
theorem gen_cmd_len_model (a : Nat) (r : Bytes) :
    (idxN (a :: r) 0 >>= fun l0 => (.ok (decide ((a :: r).length ≠ l0)) : Py Bool)) = Gen.Fn.t3e_cmd_bad_len (a :: r) := by
  rw [t3e_cmd_bad_len_bridge]; simp [at0_cons_zero]

theorem t3e_idm_match_bridge (cmd idm : Bytes) : Gen.Fn.t3e_idm_match cmd idm = decide (sliceN cmd 2 10 = idm) := by
  unfold Gen.Fn.t3e_idm_match
  py_nat

theorem t3e_wr_data_len_bridge (data : Bytes) : Gen.Fn.t3e_wr_data_len data = decide (data.length % 16 ≠ 0) := by
  unfold Gen.Fn.t3e_wr_data_len
  py_nat
  exact decide_eq_decide.mpr (by omega)

theorem t3e_wr_block_bridge (data : Bytes) (i : Nat) : Gen.Fn.t3e_wr_block data i = sliceN data (i * 16) ((i + 1) * 16) := by
  unfold Gen.Fn.t3e_wr_block
  py_nat

/-- the reader-side encodings of the emulation model are the regenerated ones -/
theorem gen_frame_eq_T3Emu (code : Nat) (hc : code < 256) (body : Bytes) (timeout : Int) (idm : Bytes) :
    Gen.Fn.t3_frame code body timeout true idm = T3Emu.frame code idm body := by
  rw [gen_frame_eq_t3Command code hc]; rfl
theorem gen_block_code_T3Emu (bn : Nat) : Gen.Fn.t3_block_code_pack bn 0 0 = T3Emu.blockCode bn := by
  rw [gen_block_code_model]; rfl

end emulation

end NfcVerif.FnBridge.TagCmd
