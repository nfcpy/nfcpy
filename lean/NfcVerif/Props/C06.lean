import NfcVerif.Lemmas.Snep
import NfcVerif.Lemmas.Handover
import NfcVerif.Lemmas.SnepSched
import NfcVerif.Lemmas.NdefRecords
import NfcVerif.Lemmas.SnepHostile
import NfcVerif.Lemmas.SnepObj
/-!
# C06 - SNEP and handover carry NDEF messages intact through fragmentation

The single-request runs are proved in `Lemmas/Snep.lean` and `Lemmas/Handover.lean` over
`Lemmas/SnepChannel.lean`.  Models: `Model/Snep.lean` (`send_request`,
`recv_response`, `put_octets`, `get_octets`, `SnepServer._serve`,
`process_snep_request`), `Model/Handover.lean` (`send_octets`, `recv_octets`,
`HandoverServer.serve`), both as state machines cut at the blocking socket
calls, composed over the reliable ordered channel of `Model/SnepChannel.lean`
(what C05 establishes for a data link connection).  `runOp … fuel` delivers
at most `fuel` messages; every theorem gives a bound from which on the
result no longer changes (the network is quiet).

All statements are for every message, every MIU `≥ 6` (SNEP: both sides send
6-octet control messages regardless of the MIU; LLCP guarantees `≥ 128`) resp.
`≥ 1` (handover), every acceptable-length limit, and any connection state that
is idle - so they compose to any number of requests on one connection.
-/
namespace NfcVerif.C06
open NfcVerif NfcVerif.Chan

/-- Fragmentation loses, adds and reorders nothing: the fragments concatenate to the
message, none exceeds the MIU, none is empty - for the `first fragment, then the rest`
scheme of SNEP (`fragments`) and the plain slicing of handover (`chunks`). -/
theorem frag_concat (miu : Nat) (hm : 0 < miu) (d : Bytes) :
    ((chunks miu d).flatten = d ∧ ∀ f ∈ chunks miu d, f.length ≤ miu ∧ f ≠ []) ∧
    (d ≠ [] → (fragments miu d).flatten = d ∧ ∀ f ∈ fragments miu d, f.length ≤ miu ∧ f ≠ []) := by
  refine ⟨⟨chunks_flatten miu hm d, chunks_bound miu hm d⟩, fun hd => ⟨?_, ?_⟩⟩
  · simp [fragments, chunks_flatten miu hm]
  · intro f hf
    rcases List.mem_cons.mp hf with h | h
    · exact h ▸ take_bound hm hd
    · exact chunks_bound miu hm _ f h

example : fragments 4 [1, 2, 3, 4, 5, 6, 7, 8, 9] = [[1, 2, 3, 4], [5, 6, 7, 8], [9]] := by decide

section snep
open NfcVerif.Snep

/-- the connection is idle: the server waits for a request, nothing is in flight -/
def Idle (n : SNet) : Prop := n.sst = .idle ∧ n.c2s = [] ∧ n.s2c = []

/-- **Put**: for every message the server accepts by length and the decoder accepts, every
client and server MIU, the application callback is called exactly once with exactly the message
(`dl` grows by this one entry), the client gets Success (`True`), the client sent exactly the
fragments of the request and the connection is idle again. -/
theorem snep_put_delivers (cfg : SCfg) (cc : CCfg) (msg : Bytes) (n : SNet) (hn : Idle n)
    (hc : 6 ≤ cc.miu) (hs : 6 ≤ cfg.smiu) (hlen : msg.length < 2 ^ 32) (hacc : msg.length ≤ cfg.maxAcc)
    (hv : cfg.h.valid msg = true) (hput : cfg.h.put msg = 0x81) :
    ∃ N, ∀ fuel, N ≤ fuel →
      (runOp cfg cc fuel n .put msg).dl = n.dl ++ [(Op.put, msg)] ∧
      result (runOp cfg cc fuel n .put msg) = .okTrue ∧
      (runOp cfg cc fuel n .put msg).logC = n.logC ++ fragments cc.miu (putReq msg) ∧
      Idle (runOp cfg cc fuel n .put msg) := by
  obtain ⟨N, hN⟩ := put_run cfg cc msg n hn hc hs hlen hacc hv
  exact ⟨N, fun fuel hf => by rw [hN fuel hf]; simp [result, cliOnTimeout, putRes, hput, Idle]⟩

example : ∃ (cfg : SCfg) (cc : CCfg) (msg : Bytes), 6 ≤ cc.miu ∧ 6 ≤ cfg.smiu ∧ msg.length ≤ cfg.maxAcc ∧
    cfg.h.valid msg = true ∧ cfg.h.put msg = 0x81 ∧ cc.miu < (putReq msg).length ∧
    (runOp cfg cc 10 Snep.init .put msg).dl = [(Op.put, msg)] :=
  ⟨{ maxAcc := 100, smiu := 6, h := { valid := fun _ => true, put := fun _ => 0x81, get := fun _ => .inl 0xE0 } },
   { miu := 6, acc := 10 }, [0xD1, 1, 3, 0x54, 1, 2, 3], by decide⟩

/-- any number of Put requests on one connection: each message is delivered exactly once, in order -/
theorem snep_put_sequence_delivers (cfg : SCfg) (cc : CCfg) (msgs : List Bytes) (n : SNet) (hn : Idle n)
    (hc : 6 ≤ cc.miu) (hs : 6 ≤ cfg.smiu)
    (hall : ∀ m ∈ msgs, m.length < 2 ^ 32 ∧ m.length ≤ cfg.maxAcc ∧ cfg.h.valid m = true) :
    ∃ N, ∀ fuel, N ≤ fuel →
      (runOps cfg cc fuel n (msgs.map fun m => (Op.put, m))).1 = msgs.map (fun m => putRes (cfg.h.put m)) ∧
      (runOps cfg cc fuel n (msgs.map fun m => (Op.put, m))).2.dl = n.dl ++ msgs.map (fun m => (Op.put, m)) ∧
      Idle (runOps cfg cc fuel n (msgs.map fun m => (Op.put, m))).2 := by
  induction msgs generalizing n with
  | nil => exact ⟨0, fun _ _ => by simp [runOps, hn]⟩
  | cons m rest ih =>
    obtain ⟨hl, ha, hv⟩ := hall m (by simp)
    obtain ⟨N1, hN1⟩ := put_run cfg cc m n hn hc hs hl ha hv
    obtain ⟨N2, hN2⟩ := ih
      { cst := .done (putRes (cfg.h.put m)), sst := .idle, c2s := [], s2c := [],
        logC := n.logC ++ fragments cc.miu (putReq m),
        logS := n.logS ++ (if (putReq m).length ≤ cc.miu then [] else [contRsp]) ++ [hdr (cfg.h.put m) 0],
        dl := n.dl ++ [(Op.put, m)] } ⟨rfl, rfl, rfl⟩ (fun x hx => hall x (List.mem_cons_of_mem _ hx))
    refine ⟨max N1 N2, fun fuel hf => ?_⟩
    have h1 := hN1 fuel (by omega)
    have h2 := hN2 fuel (by omega)
    simp only [List.map_cons, runOps, h1, result, cliOnTimeout]
    simp only [List.append_assoc, List.singleton_append] at h2 ⊢
    exact ⟨by rw [h2.1], h2.2⟩

example : (runOps { maxAcc := 100, smiu := 6, h := { valid := fun _ => true, put := fun _ => 0x81, get := fun _ => .inl 0xE0 } }
    { miu := 7, acc := 10 } 20 Snep.init [(.put, [0xD0, 0, 0]), (.put, [0xD1, 1, 2, 0x54, 7, 8])]).2.dl =
    [(.put, [0xD0, 0, 0]), (.put, [0xD1, 1, 2, 0x54, 7, 8])] := by decide

/-- **Oversize**: a message longer than the server's acceptable length is never delivered, not
even in part (`dl` unchanged); the server's only output is the Reject response; the client sent
nothing beyond the first fragment and reports failure (`False`, or `SnepError(0xFF)` when the
request fitted into one fragment). -/
theorem snep_oversize_rejected (cfg : SCfg) (cc : CCfg) (msg : Bytes) (n : SNet) (hn : Idle n)
    (hc : 6 ≤ cc.miu) (hlen : msg.length < 2 ^ 32) (hacc : cfg.maxAcc < msg.length) :
    ∃ N, ∀ fuel, N ≤ fuel →
      (runOp cfg cc fuel n .put msg).dl = n.dl ∧
      (runOp cfg cc fuel n .put msg).logS = n.logS ++ [rejectRsp] ∧
      (runOp cfg cc fuel n .put msg).logC = n.logC ++ [(putReq msg).take cc.miu] ∧
      result (runOp cfg cc fuel n .put msg) =
        (if (putReq msg).length ≤ cc.miu then .snepError 0xFF else .okFalse) ∧
      Idle (runOp cfg cc fuel n .put msg) := by
  obtain ⟨N, hN⟩ := oversize_run cfg cc .put msg 0x02 msg n hn hc
    (by simp only [request]; rw [if_neg (by omega)]; rfl) hlen hacc
  rw [show hdr 0x02 msg.length ++ msg = putReq msg from rfl] at hN
  exact ⟨N, fun fuel hf => by rw [hN fuel hf]; simp [result, cliOnTimeout, Idle, sendFailed]⟩

example : ∃ (cfg : SCfg) (cc : CCfg) (msg : Bytes), 6 ≤ cc.miu ∧ cfg.maxAcc < msg.length ∧
    result (runOp cfg cc 10 Snep.init .put msg) = .okFalse ∧ (runOp cfg cc 10 Snep.init .put msg).dl = [] :=
  ⟨{ maxAcc := 6, smiu := 6, h := { valid := fun _ => true, put := fun _ => 0x81, get := fun _ => .inl 0xE0 } },
   { miu := 8, acc := 10 }, [0xD1, 1, 3, 0x54, 1, 2, 3], by decide⟩

/-- **Get**, response acceptable to the client: the request message reaches the application exactly
once and intact, the response message comes back intact (any sizes, both directions fragmented
as the MIUs require). -/
theorem snep_get_returns (cfg : SCfg) (cc : CCfg) (msg rd : Bytes) (n : SNet) (hn : Idle n)
    (hc : 6 ≤ cc.miu) (hs : 6 ≤ cfg.smiu) (hlen : 4 + msg.length < 2 ^ 32) (hcacc : cc.acc < 2 ^ 32)
    (hacc : 4 + msg.length ≤ cfg.maxAcc) (hv : cfg.h.valid msg = true)
    (hget : cfg.h.get msg = .inr rd) (hrd : rd.length ≤ cc.acc) :
    ∃ N, ∀ fuel, N ≤ fuel →
      (runOp cfg cc fuel n .get msg).dl = n.dl ++ [(Op.get, msg)] ∧
      result (runOp cfg cc fuel n .get msg) = .okData rd ∧
      Idle (runOp cfg cc fuel n .get msg) := by
  obtain ⟨N, hN⟩ := get_run cfg cc msg rd n hn hc hs hlen hcacc hacc hv hget
  have hans : getAnswer cc.acc rd = (0x81, rd) := getAnswer_fits hrd
  exact ⟨N, fun fuel hf => by rw [hN fuel hf]; simp [result, cliOnTimeout, Idle, hans]⟩

/-- **Get**, response longer than the client's acceptable length: the client gets the ExcessData
error (0xC1) and the server sent the 6-octet error header only - no part of the body. -/
theorem snep_get_excess_data (cfg : SCfg) (cc : CCfg) (msg rd : Bytes) (n : SNet) (hn : Idle n)
    (hc : 6 ≤ cc.miu) (hs : 6 ≤ cfg.smiu) (hlen : 4 + msg.length < 2 ^ 32) (hcacc : cc.acc < 2 ^ 32)
    (hacc : 4 + msg.length ≤ cfg.maxAcc) (hv : cfg.h.valid msg = true)
    (hget : cfg.h.get msg = .inr rd) (hrd : cc.acc < rd.length) (hrd32 : rd.length < 2 ^ 32) :
    ∃ N, ∀ fuel, N ≤ fuel →
      result (runOp cfg cc fuel n .get msg) = .snepError 0xC1 ∧
      (runOp cfg cc fuel n .get msg).logS =
        n.logS ++ (if (getReq cc.acc msg).length ≤ cc.miu then [] else [contRsp]) ++ [hdr 0xC1 0] ∧
      (runOp cfg cc fuel n .get msg).dl = n.dl ++ [(Op.get, msg)] ∧
      Idle (runOp cfg cc fuel n .get msg) := by
  obtain ⟨N, hN⟩ := get_run cfg cc msg rd n hn hc hs hlen hcacc hacc hv hget
  have hans : getAnswer cc.acc rd = (0xC1, []) := getAnswer_excess hrd
  have hfr : fragments cfg.smiu (hdr 0xC1 0) = [hdr 0xC1 0] := fragments_single (show 6 ≤ _ from hs)
  exact ⟨N, fun fuel hf => by
    rw [hN fuel hf]
    simp only [hans, List.length_nil, List.append_nil, hfr]
    simp [result, cliOnTimeout, Idle]⟩

example : ∃ (cfg : SCfg) (cc : CCfg) (msg rd : Bytes), cfg.h.get msg = .inr rd ∧ cc.acc < rd.length ∧
    result (runOp cfg cc 20 Snep.init .get msg) = .snepError 0xC1 :=
  ⟨{ maxAcc := 100, smiu := 6, h := { valid := fun _ => true, put := fun _ => 0x81, get := fun _ => .inr [0xD0, 0, 0] } },
   { miu := 6, acc := 2 }, [0xD0, 0, 0], [0xD0, 0, 0], by decide⟩

example : result (runOp
    { maxAcc := 100, smiu := 7, h := { valid := fun _ => true, put := fun _ => 0x81, get := fun _ => .inr [0xD1, 1, 2, 0x54, 7, 8] } }
    { miu := 6, acc := 9 } 30 Snep.init .get [0xD0, 0, 0]) = .okData [0xD1, 1, 2, 0x54, 7, 8] := by decide

end snep

section handover
open NfcVerif.Handover

def HIdle (n : HNet) : Prop := n.sst = .collecting [] ∧ n.c2s = [] ∧ n.s2c = []

/-- **Handover**, one request (repaired server): the request reaches `_process_request_data`
exactly once and intact, the select message comes back intact, the server's buffer is empty
again.  `complete` (the strict NDEF decoder) is a parameter: it must accept the two messages and
none of their proper non-empty prefixes. -/
theorem handover_roundtrip (cfg : HCfg) (cmiu : Nat) (msg : Bytes) (n : HNet) (hn : HIdle n)
    (hc : 0 < cmiu) (hs : 0 < cfg.smiu) (hreset : cfg.reset = true)
    (hm : PrefixFree cfg.complete msg) (hr : PrefixFree cfg.complete (cfg.handler msg)) :
    ∃ N, ∀ fuel, N ≤ fuel →
      (runReq cfg cmiu fuel n msg).dl = n.dl ++ [msg] ∧
      Handover.result (runReq cfg cmiu fuel n msg) = some (cfg.handler msg) ∧
      (runReq cfg cmiu fuel n msg).logC = n.logC ++ chunks cmiu msg ∧
      (runReq cfg cmiu fuel n msg).logS = n.logS ++ chunks cfg.smiu (cfg.handler msg) ∧
      HIdle (runReq cfg cmiu fuel n msg) := by
  obtain ⟨N, hN⟩ := req_run cfg cmiu msg n hn hc hs hreset hm hr
  exact ⟨N, fun fuel hf => by rw [hN fuel hf]; simp [Handover.result, HIdle]⟩

/-- the hypothesis is met by the structural NDEF reading used in the model driver -/
example : PrefixFree ndefComplete [0xD1, 1, 2, 0x54, 7, 8] :=
  prefixFree_encMsg [{ tnf := 1, sr := true, typ := [0x54], id := none, payload := [7, 8] }] (by simp) (by decide)

/-- full statement: any number of requests on one connection, each delivered exactly once, in order -/
theorem handover_sequence_roundtrip (cfg : HCfg) (cmiu : Nat) (msgs : List Bytes) (n : HNet) (hn : HIdle n)
    (hc : 0 < cmiu) (hs : 0 < cfg.smiu) (hreset : cfg.reset = true)
    (hall : ∀ m ∈ msgs, PrefixFree cfg.complete m ∧ PrefixFree cfg.complete (cfg.handler m)) :
    ∃ N, ∀ fuel, N ≤ fuel →
      (runReqs cfg cmiu fuel n msgs).1 = msgs.map (fun m => some (cfg.handler m)) ∧
      (runReqs cfg cmiu fuel n msgs).2.dl = n.dl ++ msgs ∧
      HIdle (runReqs cfg cmiu fuel n msgs).2 := by
  induction msgs generalizing n with
  | nil => exact ⟨0, fun _ _ => by simp [runReqs, hn]⟩
  | cons m rest ih =>
    obtain ⟨hm, hr⟩ := hall m (by simp)
    obtain ⟨N1, hN1⟩ := req_run cfg cmiu m n hn hc hs hreset hm hr
    obtain ⟨N2, hN2⟩ := ih
      { cst := .idle, sst := .collecting [], c2s := [], s2c := [],
        logC := n.logC ++ chunks cmiu m, logS := n.logS ++ chunks cfg.smiu (cfg.handler m), dl := n.dl ++ [m] }
      ⟨rfl, rfl, rfl⟩ (fun x hx => hall x (List.mem_cons_of_mem _ hx))
    refine ⟨max N1 N2, fun fuel hf => ?_⟩
    have h1 := hN1 fuel (by omega)
    have h2 := hN2 fuel (by omega)
    simp only [List.map_cons, runReqs, h1, Handover.result]
    simp only [List.append_assoc, List.singleton_append] at h2 ⊢
    exact ⟨by rw [h2.1], h2.2⟩

/-- two fragmented requests on one connection of the repaired server (MIU 4 and 2): both delivered, in order -/
example : (runReqs { smiu := 2, complete := ndefComplete, handler := fun _ => [0xD0, 0, 0], reset := true } 4 6
    Handover.init [[0xD1, 1, 2, 0x54, 7, 8], [0xD1, 1, 0, 0x54]]).2.dl = [[0xD1, 1, 2, 0x54, 7, 8], [0xD1, 1, 0, 0x54]] ∧
    (runReqs { smiu := 2, complete := ndefComplete, handler := fun _ => [0xD0, 0, 0], reset := true } 4 6
    Handover.init [[0xD1, 1, 2, 0x54, 7, 8], [0xD1, 1, 0, 0x54]]).1 = [some [0xD0, 0, 0], some [0xD0, 0, 0]] := by decide

/-- the sequence statement for the server as found (`reset = false`, finding F29) -/
def AsFoundSequence : Prop :=
  ∀ (cfg : HCfg) (cmiu : Nat) (msgs : List Bytes), 0 < cmiu → 0 < cfg.smiu → cfg.reset = false →
    (∀ m ∈ msgs, PrefixFree cfg.complete m ∧ PrefixFree cfg.complete (cfg.handler m)) →
    ∃ N, ∀ fuel, N ≤ fuel → (runReqs cfg cmiu fuel Handover.init msgs).2.dl = msgs

def f29cfg : HCfg := { smiu := 128, complete := ndefComplete, handler := fun _ => [0xD0, 0, 0], reset := false }

/-- F29: with the buffer never reset the second request on a connection is not delivered; the
application sees the first message again (here: requests `D0 00 00` then `D1 01 00 54`). -/
theorem handover_asfound_counterexample : ¬ AsFoundSequence := by
  intro h
  -- both requests are encodings of one short record
  have hpf1 : PrefixFree ndefComplete [0xD0, 0, 0] :=
    prefixFree_encMsg [{ tnf := 0, sr := true, typ := [], id := none, payload := [] }] (by simp) (by decide)
  have hpf2 : PrefixFree ndefComplete [0xD1, 1, 0, 0x54] :=
    prefixFree_encMsg [{ tnf := 1, sr := true, typ := [0x54], id := none, payload := [] }] (by simp) (by decide)
  obtain ⟨N, hN⟩ := h f29cfg 128 [[0xD0, 0, 0], [0xD1, 1, 0, 0x54]] (by decide) (by decide) rfl
    (by intro m hm; simp at hm; rcases hm with rfl | rfl <;> exact ⟨by assumption, hpf1⟩)
  have h4 := hN (4 + N) (by omega)
  -- both requests are single fragments: four deliveries per request suffice, the rest is idle fuel
  have stable : ∀ (n : HNet) (m : Bytes) (k : Nat),
      quiet (proto f29cfg) (pump (proto f29cfg) 4 (startReq 128 n m)) →
      runReq f29cfg 128 (4 + k) n m = pump (proto f29cfg) 4 (startReq 128 n m) := by
    intro n m k hq
    simp only [runReq]; rw [pump_add, pump_quiet _ _ _ hq]
  have key : (runReqs f29cfg 128 (4 + N) Handover.init [[0xD0, 0, 0], [0xD1, 1, 0, 0x54]]).2.dl =
      [[0xD0, 0, 0], [0xD0, 0, 0, 0xD1, 1, 0, 0x54]] := by
    simp only [runReqs]
    rw [stable Handover.init [0xD0, 0, 0] N (by decide)]
    rw [stable _ [0xD1, 1, 0, 0x54] N (by decide)]
    decide
  rw [key] at h4
  exact absurd h4 (by decide)

end handover
/-! ## Any interleaving, any receive window

The statements above deliver the queued messages in one fixed order over an unbounded channel.
The following ones remove both idealisations: the two applications and the two link threads may
be interleaved in any way (in particular the receiving application may be arbitrarily slow), and
each direction of the data link connection lets only `RW` unacknowledged messages travel and
keeps at most `RW` in the receive queue (`Model/SnepSched.lean`, `WNet`).  With
acknowledgements that follow consumption (`AckMode.onConsume`, the code as it is) nothing is ever
discarded, the link never blocks for ever and every schedule that comes to rest ends in the state
of the ideal run - so every delivery statement of this file holds for every schedule and every
pair of receive windows.  Acknowledging what still sits in the receive queue breaks this
(`ack_on_receipt_loses_fragment`, `ack_all_received_loses_fragment`). -/
section schedules
variable {C S D : Type}

/-- **confluence**: two interleavings of the same network that both come to rest end in the same
state after the same number of deliveries - nothing is delivered twice or skipped by reordering -/
theorem interleavings_confluent (p : Proto C S D) (n m1 m2 : Net C S D) (s1 s2 : List Who)
    (h1 : Exec p n s1 m1) (hq1 : quiet p m1) (h2 : Exec p n s2 m2) (hq2 : quiet p m2) :
    m1 = m2 ∧ s1.length = s2.length :=
  exec_confluent p h1 hq1 h2 hq2

/-- every interleaving can be continued to rest, and then has made exactly as many deliveries as
any other one -/
theorem interleavings_extend (p : Proto C S D) (n m q : Net C S D) (s s0 : List Who)
    (h : Exec p n s m) (h0 : Exec p n s0 q) (hq : quiet p q) :
    ∃ s', Exec p m s' q ∧ s.length + s'.length = s0.length :=
  exec_extend p h h0 hq

/-- two programs that both have a message waiting: the two orders of delivery are two different
executions with the same end -/
def pingProto : Proto Nat Nat Bytes :=
  { srv := fun s m => (s + 1, [], [m]), cli := fun c _ => (c + 1, []), cwait := fun _ => true, swait := fun _ => true }

example : ∃ m, Exec pingProto { cst := 0, sst := 0, c2s := [[1]], s2c := [[2]] } [.srv, .cli] m ∧
    Exec pingProto { cst := 0, sst := 0, c2s := [[1]], s2c := [[2]] } [.cli, .srv] m ∧ quiet pingProto m :=
  ⟨_, Exec.cons .srv _ (by decide) (Exec.cons .cli _ (by decide) (Exec.nil _)),
    Exec.cons .cli _ (by decide) (Exec.cons .srv _ (by decide) (Exec.nil _)), by decide⟩

/-- **the windowed link never discards** (acknowledgement on consumption): whatever the receive
windows and the schedule -/
theorem window_never_discards (p : Proto C S D) (k : Win) (hk : k.mode = .onConsume) (n : Net C S D)
    (ss : List WStep) :
    (runW p k ss n.onLink).c2s.lost = [] ∧ (runW p k ss n.onLink).s2c.lost = [] ∧
    (runW p k ss n.onLink).c2s.inq.length ≤ k.rwS ∧ (runW p k ss n.onLink).s2c.inq.length ≤ k.rwC := by
  obtain ⟨⟨⟨a1, a2, a3⟩, ⟨b1, b2, b3⟩⟩, _⟩ := wnet_refines p k hk ss n.onLink (onLink_inv k n)
  exact ⟨a1, b1, by omega, by omega⟩

/-- **no deadlock by flow control**: receive windows of at least 1, a message under way that its
receiver waits for - then some link or application step is enabled -/
theorem window_no_deadlock (p : Proto C S D) (k : Win) (hk : k.mode = .onConsume) (hS : 0 < k.rwS)
    (hC : 0 < k.rwC) (n : Net C S D) (ss : List WStep) (hq : ¬ quiet p (runW p k ss n.onLink).abs) :
    ∃ s, WEn p k s (runW p k ss n.onLink) :=
  wnet_progress p k hS hC _ (wnet_refines p k hk ss n.onLink (onLink_inv k n)).1 hq

/-- lifting: what holds for the ideal run from some fuel on holds for every windowed schedule that
comes to rest -/
theorem any_window_any_schedule (p : Proto C S D) (k : Win) (hk : k.mode = .onConsume) (n0 : Net C S D)
    (P : Net C S D → Prop) (h : ∃ N, ∀ fuel, N ≤ fuel → P (pump p fuel n0) ∧ quiet p (pump p fuel n0))
    (ss : List WStep) (hq : quiet p (runW p k ss n0.onLink).abs) :
    P (runW p k ss n0.onLink).abs ∧
    (runW p k ss n0.onLink).c2s.lost = [] ∧ (runW p k ss n0.onLink).s2c.lost = [] := by
  obtain ⟨N, hN⟩ := h
  obtain ⟨hp, hqp⟩ := hN N (Nat.le_refl _)
  obtain ⟨he, l1, l2⟩ := windowed_confluent p k hk n0 ss N hq hqp
  exact ⟨by rw [he]; exact hp, l1, l2⟩

end schedules

section snep_windowed
open NfcVerif.Snep

theorem idle_quiet (cfg : SCfg) (n : SNet) (h : Idle n) : quiet (proto cfg) n :=
  ⟨h.2.1, Or.inl h.2.2⟩

/-- **Put over the complete picture**: any receive windows, any interleaving of the two link
threads and the two applications (slow consumers included) - once nothing is deliverable any more
the message has reached the callback exactly once and intact, the client has Success, the
connection is idle, and no I PDU was discarded on the way. -/
theorem snep_put_delivers_windowed (cfg : SCfg) (cc : CCfg) (msg : Bytes) (n : SNet) (hn : Idle n)
    (hc : 6 ≤ cc.miu) (hs : 6 ≤ cfg.smiu) (hlen : msg.length < 2 ^ 32) (hacc : msg.length ≤ cfg.maxAcc)
    (hv : cfg.h.valid msg = true) (hput : cfg.h.put msg = 0x81)
    (k : Win) (hk : k.mode = .onConsume) (ss : List WStep)
    (hq : quiet (proto cfg) (runW (proto cfg) k ss (startOp cc n .put msg).onLink).abs) :
    (runW (proto cfg) k ss (startOp cc n .put msg).onLink).abs.dl = n.dl ++ [(Op.put, msg)] ∧
    result (runW (proto cfg) k ss (startOp cc n .put msg).onLink).abs = .okTrue ∧
    Idle (runW (proto cfg) k ss (startOp cc n .put msg).onLink).abs ∧
    (runW (proto cfg) k ss (startOp cc n .put msg).onLink).c2s.lost = [] ∧
    (runW (proto cfg) k ss (startOp cc n .put msg).onLink).s2c.lost = [] := by
  obtain ⟨N, hN⟩ := snep_put_delivers cfg cc msg n hn hc hs hlen hacc hv hput
  have := any_window_any_schedule (proto cfg) k hk (startOp cc n .put msg)
    (fun m => m.dl = n.dl ++ [(Op.put, msg)] ∧ result m = .okTrue ∧ Idle m)
    ⟨N, fun fuel hf => ⟨⟨(hN fuel hf).1, (hN fuel hf).2.1, (hN fuel hf).2.2.2⟩,
      idle_quiet cfg _ (hN fuel hf).2.2.2⟩⟩ ss hq
  exact ⟨this.1.1, this.1.2.1, this.1.2.2, this.2.1, this.2.2⟩

/-- **Oversize over the complete picture**: never delivered, not even in part, whatever the
schedule and the windows -/
theorem snep_oversize_rejected_windowed (cfg : SCfg) (cc : CCfg) (msg : Bytes) (n : SNet) (hn : Idle n)
    (hc : 6 ≤ cc.miu) (hlen : msg.length < 2 ^ 32) (hacc : cfg.maxAcc < msg.length)
    (k : Win) (hk : k.mode = .onConsume) (ss : List WStep)
    (hq : quiet (proto cfg) (runW (proto cfg) k ss (startOp cc n .put msg).onLink).abs) :
    (runW (proto cfg) k ss (startOp cc n .put msg).onLink).abs.dl = n.dl ∧
    (runW (proto cfg) k ss (startOp cc n .put msg).onLink).abs.logS = n.logS ++ [rejectRsp] ∧
    result (runW (proto cfg) k ss (startOp cc n .put msg).onLink).abs =
      (if (putReq msg).length ≤ cc.miu then .snepError 0xFF else .okFalse) := by
  obtain ⟨N, hN⟩ := snep_oversize_rejected cfg cc msg n hn hc hlen hacc
  have := any_window_any_schedule (proto cfg) k hk (startOp cc n .put msg)
    (fun m => m.dl = n.dl ∧ m.logS = n.logS ++ [rejectRsp] ∧
      result m = (if (putReq msg).length ≤ cc.miu then .snepError 0xFF else .okFalse))
    ⟨N, fun fuel hf => ⟨⟨(hN fuel hf).1, (hN fuel hf).2.1, (hN fuel hf).2.2.2.1⟩,
      idle_quiet cfg _ (hN fuel hf).2.2.2.2⟩⟩ ss hq
  exact this.1

/-- **Get over the complete picture** (response acceptable to the client) -/
theorem snep_get_returns_windowed (cfg : SCfg) (cc : CCfg) (msg rd : Bytes) (n : SNet) (hn : Idle n)
    (hc : 6 ≤ cc.miu) (hs : 6 ≤ cfg.smiu) (hlen : 4 + msg.length < 2 ^ 32) (hcacc : cc.acc < 2 ^ 32)
    (hacc : 4 + msg.length ≤ cfg.maxAcc) (hv : cfg.h.valid msg = true)
    (hget : cfg.h.get msg = .inr rd) (hrd : rd.length ≤ cc.acc)
    (k : Win) (hk : k.mode = .onConsume) (ss : List WStep)
    (hq : quiet (proto cfg) (runW (proto cfg) k ss (startOp cc n .get msg).onLink).abs) :
    (runW (proto cfg) k ss (startOp cc n .get msg).onLink).abs.dl = n.dl ++ [(Op.get, msg)] ∧
    result (runW (proto cfg) k ss (startOp cc n .get msg).onLink).abs = .okData rd ∧
    (runW (proto cfg) k ss (startOp cc n .get msg).onLink).c2s.lost = [] ∧
    (runW (proto cfg) k ss (startOp cc n .get msg).onLink).s2c.lost = [] := by
  obtain ⟨N, hN⟩ := snep_get_returns cfg cc msg rd n hn hc hs hlen hcacc hacc hv hget hrd
  have := any_window_any_schedule (proto cfg) k hk (startOp cc n .get msg)
    (fun m => m.dl = n.dl ++ [(Op.get, msg)] ∧ result m = .okData rd)
    ⟨N, fun fuel hf => ⟨⟨(hN fuel hf).1, (hN fuel hf).2.1⟩, idle_quiet cfg _ (hN fuel hf).2.2⟩⟩ ss hq
  exact ⟨this.1.1, this.1.2, this.2.1, this.2.2⟩

def lossCfg : SCfg := { maxAcc := 100, smiu := 6, h := { valid := fun _ => true, put := fun _ => 0x81, get := fun _ => .inl 0xE0 } }

/-- the hypotheses of `snep_put_delivers_windowed` are satisfiable with a slow consumer: receive
window 1, three fragments, the server application runs only after the link has nothing to do -/
example : (runW (proto lossCfg) { rwS := 1, rwC := 1 }
      [.xmit .srv, .app .srv, .ack .srv, .xmit .cli, .app .cli, .xmit .srv, .xmit .srv, .app .srv, .ack .srv,
       .xmit .srv, .app .srv, .xmit .cli, .app .cli]
      (startOp { miu := 6, acc := 10 } Snep.init .put [0xD1, 1, 3, 0x54, 1, 2, 3]).onLink).abs.dl =
    [(Op.put, [0xD1, 1, 3, 0x54, 1, 2, 3])] := by decide

/-- **acknowledging on receipt loses a fragment** (the class of C06-r2m4: `recv_confs` counted when
the I PDU is enqueued): receive window 1, a Put of three fragments, the server application slower
than the link - the third fragment is discarded by the full receive queue -/
theorem ack_on_receipt_loses_fragment :
    ∃ (ss : List WStep),
      (runW (proto lossCfg) { rwS := 1, rwC := 1, mode := .onReceipt } ss
        (startOp { miu := 6, acc := 10 } Snep.init .put [0xD1, 1, 3, 0x54, 1, 2, 3]).onLink).c2s.lost ≠ [] :=
  ⟨[.xmit .srv, .ack .srv, .app .srv, .xmit .cli, .ack .cli, .app .cli, .xmit .srv, .ack .srv, .xmit .srv], by decide⟩

/-- the plain sink: the server application keeps what it gets -/
def sinkProto : Proto Unit Unit Bytes :=
  { srv := fun _ m => ((), [], [m]), cli := fun _ _ => ((), []), cwait := fun _ => false, swait := fun _ => true }

/-- **acknowledging everything received loses a fragment** (the class of C06-m4: the necessary
acknowledgement sets V(RA) := V(R)): receive window 2, the application has taken one of two queued
messages when the acknowledgement goes out -/
theorem ack_all_received_loses_fragment :
    ∃ (ss : List WStep),
      (runW sinkProto { rwS := 2, rwC := 1, mode := .allReceived } ss
        ({ cst := (), sst := (), c2s := [[1], [2], [3], [4]] } : Net Unit Unit Bytes).onLink).c2s.lost ≠ [] :=
  ⟨[.xmit .srv, .xmit .srv, .app .srv, .ack .srv, .xmit .srv, .xmit .srv], by decide⟩

/-- with acknowledgement on consumption the same schedules lose nothing (instance of
`window_never_discards`) -/
example : (runW sinkProto { rwS := 2, rwC := 1 } [.xmit .srv, .xmit .srv, .app .srv, .ack .srv, .xmit .srv, .xmit .srv]
    ({ cst := (), sst := (), c2s := [[1], [2], [3], [4]] } : Net Unit Unit Bytes).onLink).c2s.lost = [] := by decide

end snep_windowed

section handover_windowed
open NfcVerif.Handover

theorem hidle_quiet (cfg : HCfg) (n : HNet) (h : HIdle n) : quiet (Handover.proto cfg) n :=
  ⟨h.2.1, Or.inl h.2.2⟩

/-- **Handover with ndeflib-shaped messages**: the completeness test is the structural NDEF reading,
request and select message are encodings of non-empty lists of well-formed records - no hypothesis
about prefixes is left: wherever the fragment boundaries fall (also exactly between two records)
the request is delivered once and intact and the select message comes back intact. -/
theorem handover_roundtrip_records (cfg : HCfg) (cmiu : Nat) (rq rs : List Rec) (n : HNet) (hn : HIdle n)
    (hc : 0 < cmiu) (hs : 0 < cfg.smiu) (hreset : cfg.reset = true) (hcomp : cfg.complete = ndefComplete)
    (hq1 : rq ≠ []) (hq2 : ∀ r ∈ rq, r.wf) (hh : cfg.handler (encMsg rq) = encMsg rs)
    (hs1 : rs ≠ []) (hs2 : ∀ r ∈ rs, r.wf) :
    ∃ N, ∀ fuel, N ≤ fuel →
      (runReq cfg cmiu fuel n (encMsg rq)).dl = n.dl ++ [encMsg rq] ∧
      Handover.result (runReq cfg cmiu fuel n (encMsg rq)) = some (encMsg rs) ∧
      HIdle (runReq cfg cmiu fuel n (encMsg rq)) := by
  obtain ⟨N, hN⟩ := handover_roundtrip cfg cmiu (encMsg rq) n hn hc hs hreset
    (by rw [hcomp]; exact prefixFree_encMsg rq hq1 hq2)
    (by rw [hcomp, hh]; exact prefixFree_encMsg rs hs1 hs2)
  exact ⟨N, fun fuel hf => ⟨(hN fuel hf).1, by rw [(hN fuel hf).2.1, hh], (hN fuel hf).2.2.2.2⟩⟩

/-- two records, the first one ends exactly at the fragment boundary (MIU 7): delivered as one message -/
example : (runReq { smiu := 128, complete := ndefComplete, handler := fun _ => [0xD0, 0, 0], reset := true } 7 10
    Handover.init (encMsg [{ tnf := 1, sr := true, typ := [0x54], id := none, payload := [1, 2, 3] },
                           { tnf := 1, sr := true, typ := [0x55], id := none, payload := [4] }])).dl =
    [[0x91, 1, 3, 0x54, 1, 2, 3, 0x51, 1, 1, 0x55, 4]] := by decide

/-- **Handover over the complete picture**: any receive windows, any interleaving -/
theorem handover_roundtrip_windowed (cfg : HCfg) (cmiu : Nat) (msg : Bytes) (n : HNet) (hn : HIdle n)
    (hc : 0 < cmiu) (hs : 0 < cfg.smiu) (hreset : cfg.reset = true)
    (hm : PrefixFree cfg.complete msg) (hr : PrefixFree cfg.complete (cfg.handler msg))
    (k : Win) (hk : k.mode = .onConsume) (ss : List WStep)
    (hq : quiet (Handover.proto cfg) (runW (Handover.proto cfg) k ss (startReq cmiu n msg).onLink).abs) :
    (runW (Handover.proto cfg) k ss (startReq cmiu n msg).onLink).abs.dl = n.dl ++ [msg] ∧
    Handover.result (runW (Handover.proto cfg) k ss (startReq cmiu n msg).onLink).abs = some (cfg.handler msg) ∧
    (runW (Handover.proto cfg) k ss (startReq cmiu n msg).onLink).c2s.lost = [] ∧
    (runW (Handover.proto cfg) k ss (startReq cmiu n msg).onLink).s2c.lost = [] := by
  obtain ⟨N, hN⟩ := handover_roundtrip cfg cmiu msg n hn hc hs hreset hm hr
  have := any_window_any_schedule (Handover.proto cfg) k hk (startReq cmiu n msg)
    (fun m => m.dl = n.dl ++ [msg] ∧ Handover.result m = some (cfg.handler msg))
    ⟨N, fun fuel hf => ⟨⟨(hN fuel hf).1, (hN fuel hf).2.1⟩, hidle_quiet cfg _ (hN fuel hf).2.2.2.2⟩⟩ ss hq
  exact ⟨this.1.1, this.1.2, this.2.1, this.2.2⟩

end handover_windowed

section hostile
open NfcVerif.Snep

/-- **the server alone, against any peer**: whatever sequence of messages arrives on a fresh
connection (correct fragments or not, any version, any length fields) and whether or not the peer
then disconnects, every request that reaches `process_put_request` / `process_get_request` comes
from octets whose SNEP header announced a length within `max_acceptable_length` - the limit check
cannot be bypassed by the way a request is fragmented (in particular not by sending it in one
fragment, the class of C06-m2 / C06-r2m1). -/
theorem snep_server_limit_any_peer (cfg : SCfg) (ms : List Bytes) :
    (∀ e ∈ (srvFeed cfg .idle ms).2.2, Admissible cfg e) ∧
    (∀ e ∈ (srvOnClose cfg (srvFeed cfg .idle ms).1).2, Admissible cfg e) := by
  obtain ⟨h1, h2⟩ := srvFeed_admissible cfg ms .idle trivial
  exact ⟨h2, srvOnClose_admissible cfg _ h1⟩

/-- a single fragment announcing more than the limit: Reject, nothing delivered, whatever follows the header -/
example : srvFeed { maxAcc := 3, smiu := 128, h := { valid := fun _ => true, put := fun _ => 0x81, get := fun _ => .inl 0xE0 } }
    .idle [[0x10, 2, 0, 0, 0, 4, 0xD1, 1, 0, 0x54]] = (.idle, [rejectRsp], []) := by decide

/-- the same request within the limit is delivered -/
example : (srvFeed { maxAcc := 4, smiu := 128, h := { valid := fun _ => true, put := fun _ => 0x81, get := fun _ => .inl 0xE0 } }
    .idle [[0x10, 2, 0, 0, 0, 4, 0xD1, 1, 0, 0x54]]).2.2 = [(Op.put, [0xD1, 1, 0, 0x54])] := by decide

end hostile

/-! ## The client objects over their life time

One `SnepClient` object is used for a whole history of calls: requests over temporary connections
to the default server, `connect(service)` + any number of requests, `close()`, in any order
(`Model/SnepObj.lean`; the peer offers any number of SNEP services, index 0 is the default one). -/
section histories
open NfcVerif.SnepObj NfcVerif.Snep

/-- **every message goes, once, to the service the client is connected to at that time** - the
default service when the connection is temporary - for every history of `connect` / `put` / `get`
/ `close` calls on one `SnepClient` object, every number of services on the peer, every MIU >= 6;
a temporary connection is released right after its request, an explicit one is kept until
`close()` / the next `connect()` (`sock`), and connections are opened exactly once per `connect`
and once per request made while unconnected (`opened`).  `Good`: `connect` names an existing
service and every message is acceptable to every service, so the *outcome* of a request cannot
tell where it went - only the delivery log can. -/
theorem client_history_delivers_to_connected_service (w : World) (hw : GoodWorld w) (acc : Nat) (h : List HOp)
    (hg : ∀ x ∈ h, Good w acc x) :
    ∃ N, ∀ fuel, N ≤ fuel →
      (hrun w fuel false { acc := acc } h).1.dl = specDl none h ∧
      (hrun w fuel false { acc := acc } h).1.sock.map (·.svc) = specCur none h ∧
      (hrun w fuel false { acc := acc } h).1.opened = specOpened none h ∧
      (hrun w fuel false { acc := acc } h).1.closed ++ (specCur none h).toList = (hrun w fuel false { acc := acc } h).1.opened := by
  have hi : Inv w ({ acc := acc } : Obj) none := ⟨rfl, fun c hc => by simp at hc, rfl⟩
  obtain ⟨r, ⟨a, b, c⟩, N, hN⟩ := history_run w hw h { acc := acc } none hi hg
  exact ⟨N, fun fuel hf => by
    rw [hN fuel hf]
    exact ⟨by simpa using b, a.cur_eq, by simpa using c, a.bal⟩⟩

/-- two services that differ in nothing the client can see -/
def twoServices : World :=
  [{ cfg := { maxAcc := 100, smiu := 6, h := { valid := fun _ => true, put := fun _ => 0x81, get := fun _ => .inl 0xE0 } }, cmiu := 6 },
   { cfg := { maxAcc := 100, smiu := 8, h := { valid := fun _ => true, put := fun _ => 0x81, get := fun _ => .inl 0xE0 } }, cmiu := 7 }]

/-- a temporary connection, then `connect` to the other service and two requests -/
def mixedHistory : List HOp :=
  [.req .put [0xD0, 0, 0], .connect 1, .req .put [0xD1, 1, 1, 0x54, 7], .req .put [0xD1, 1, 0, 0x55], .close, .req .put [0xD0, 0, 0]]

theorem twoServices_good : GoodWorld twoServices :=
  ⟨by decide, fun s hs => by simp [twoServices] at hs; rcases hs with rfl | rfl <;> simp⟩

theorem mixedHistory_good : ∀ x ∈ mixedHistory, Good twoServices 10 x := by
  intro x hx
  simp only [mixedHistory, List.mem_cons, List.not_mem_nil, or_false] at hx
  rcases hx with rfl | rfl | rfl | rfl | rfl | rfl <;> simp [Good, twoServices]

example : GoodWorld twoServices ∧ (∀ x ∈ mixedHistory, Good twoServices 10 x) :=
  ⟨twoServices_good, mixedHistory_good⟩

example : (hrun twoServices 20 false { acc := 10 } mixedHistory).1.dl =
    [(0, .put, [0xD0, 0, 0]), (1, .put, [0xD1, 1, 1, 0x54, 7]), (1, .put, [0xD1, 1, 0, 0x55]), (0, .put, [0xD0, 0, 0])] ∧
    (hrun twoServices 20 false { acc := 10 } mixedHistory).1.opened = [0, 1, 0] ∧
    (hrun twoServices 20 false { acc := 10 } mixedHistory).1.closed = [0, 1, 0] := by decide

/-- the statement for a client whose `release_connection` is only ever raised (C06-r4m1); `rest`
says that every request of the run had enough fuel to come to rest -/
def StickyHistories : Prop :=
  ∀ (w : World) (acc : Nat) (h : List HOp) (fuel : Nat), GoodWorld w → (∀ x ∈ h, Good w acc x) →
    (hrun w fuel true { acc := acc } h).1.rest = true → (hrun w fuel true { acc := acc } h).1.dl = specDl none h

/-- **a release flag that sticks sends messages to the wrong application**: after one request over
a temporary connection the explicit connection to service 1 is torn down after its first request,
and the next message goes to the default service -/
theorem client_history_sticky_release_counterexample : ¬ StickyHistories := by
  intro h
  have := h twoServices 10 mixedHistory 20 twoServices_good mixedHistory_good (by decide)
  exact absurd this (by decide)

/-- where the third message went -/
example : (hrun twoServices 20 true { acc := 10 } mixedHistory).1.dl =
    [(0, .put, [0xD0, 0, 0]), (1, .put, [0xD1, 1, 1, 0x54, 7]), (0, .put, [0xD1, 1, 0, 0x55]), (0, .put, [0xD0, 0, 0])] := by decide

end histories

section handover_histories
open NfcVerif.SnepObj NfcVerif.Handover

/-- **HandoverClient histories**: any sequence of `connect` / request / `close` in which every
request is made while connected - each request message reaches the server application exactly once,
in order, every connection starts with an empty reassembly buffer on both sides, and every request
gets its own select message -/
theorem handover_client_history_delivers (cfg : HCfg) (cmiu : Nat) (hc : 0 < cmiu) (hs : 0 < cfg.smiu)
    (hreset : cfg.reset = true) (h : List HHOp) (msgs : List Bytes) (hsp : hhSpec false h = some msgs)
    (hpf : ∀ m ∈ msgs, PrefixFree cfg.complete m ∧ PrefixFree cfg.complete (cfg.handler m)) :
    ∃ N, ∀ fuel, N ≤ fuel →
      (hhrun cfg cmiu fuel {} h).1.dl = msgs ∧
      (hhrun cfg cmiu fuel {} h).2.filterMap HHRes.answer =
        msgs.map (fun m => some (cfg.handler m)) := by
  obtain ⟨N, hN⟩ := hh_history_run cfg cmiu hc hs hreset h {} false msgs ⟨rfl, fun n hn => by simp at hn⟩ hsp hpf
  exact ⟨N, fun fuel hf => by simpa using hN fuel hf⟩

example : (hhrun { smiu := 2, complete := ndefComplete, handler := fun _ => [0xD0, 0, 0], reset := true } 4 8 {}
    [.connect, .req [0xD1, 1, 2, 0x54, 7, 8], .close, .connect, .req [0xD1, 1, 0, 0x54], .req [0xD0, 0, 0]]).1.dl =
    [[0xD1, 1, 2, 0x54, 7, 8], [0xD1, 1, 0, 0x54], [0xD0, 0, 0]] := by decide

end handover_histories

end NfcVerif.C06
