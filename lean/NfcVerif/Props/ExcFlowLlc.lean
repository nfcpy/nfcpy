import NfcVerif.Props.ExcFlow
/-!
# Exception flow, instance theorems: C07 / C09: link loop and service threads

Re-checked on the regenerated `Gen/ExcFlow.lean` (see `Props/ExcFlow.lean` for what `Only` / `Can` mean).
-/
namespace NfcVerif.ExcFlowProps
open NfcVerif.ExcFlow NfcVerif.Gen.ClassTree NfcVerif.Gen.ExcFlow

/-- every `Only` statement of this module -/
def llcOnly : List (Site × List Cls) := [
  (Site.fn_llc_exchange, [Cls.OSError]),
  (Site.fn_snep_server_listen, []),
  (Site.fn_snep_server_serve, [Cls.AssertionError]),
  (Site.fn_handover_server_listen, []),
  (Site.fn_handover_server_serve, [Cls.ndef_EncodeError]),
  (Site.fn_llc_run_as_initiator, [Cls.KeyboardInterrupt, Cls.SystemExit, Cls.OSError]),
  (Site.fn_llc_run_as_target, [Cls.KeyboardInterrupt, Cls.SystemExit, Cls.OSError])]
def llcCan : List (Site × Cls) := [
  (Site.fn_llc_run_as_initiator, Cls.SystemExit),
  (Site.fn_llc_run_as_target, Cls.SystemExit),
  (Site.fn_handover_server_serve, Cls.ndef_EncodeError)]
/-- both lists, checked with one evaluation of the summary table -/
theorem llcAll_ok : checkAll world table prog llcOnly [] llcCan = true :=
  checkAll_of_checkM tree_ordered (by decide +kernel)
theorem llcOnly_ok : checkOnly world table prog llcOnly = true := (checkAll_split llcAll_ok).1
theorem llcCan_ok : checkCan world table prog llcCan = true := (checkAll_split llcAll_ok).2.2

/-- `llc.exchange`: `CommunicationError` and `pdu.Error` (undecodable PDU) are absorbed (link disruption);
`IOError` passes -/
theorem llc_exchange_escapes : Only Site.fn_llc_exchange [Cls.OSError] :=
  escapesOnly_of_checkOnly tree_ordered llcOnly_ok (by decide)

/-- the run loops end with `KeyboardInterrupt`, `SystemExit` (open finding F21) or the `IOError` of a
`terminate()` that could not deactivate the device - nothing else -/
theorem llc_run_escapes : ∀ f ∈ [Site.fn_llc_run_as_initiator, Site.fn_llc_run_as_target],
    Only f [Cls.KeyboardInterrupt, Cls.SystemExit, Cls.OSError] :=
  only_each llcOnly_ok (by decide)
theorem llc_run_systemexit : Can Site.fn_llc_run_as_initiator Cls.SystemExit ∧ Can Site.fn_llc_run_as_target Cls.SystemExit := by
  and_intros <;> exact canEscape_of_checkCan tree_ordered llcCan_ok (by decide)

/-- SNEP server: nothing kills the listen thread; the serve thread only by the `assert isinstance` of
`process_snep_request` (its argument is the `bytearray` built by `_serve`).  Assumption: the socket API
raises `nfc.llcp.Error` only (C09), ndeflib raises `DecodeError`/`ValueError`/`EncodeError`. -/
theorem snep_server_threads_escape : Only Site.fn_snep_server_listen [] ∧ Only Site.fn_snep_server_serve [Cls.AssertionError] := by
  and_intros <;> exact escapesOnly_of_checkOnly tree_ordered llcOnly_ok (by decide)
/-- handover server: nothing kills the listen thread; the serve thread can be left by `ndef.EncodeError`
(the response of `process_handover_request_message` is encoded outside every handler) -/
theorem handover_server_threads_escape : Only Site.fn_handover_server_listen [] ∧
    Only Site.fn_handover_server_serve [Cls.ndef_EncodeError] := by
  and_intros <;> exact escapesOnly_of_checkOnly tree_ordered llcOnly_ok (by decide)
theorem handover_serve_encodeerror : Can Site.fn_handover_server_serve Cls.ndef_EncodeError :=
  canEscape_of_checkCan tree_ordered llcCan_ok (by decide)

end NfcVerif.ExcFlowProps
