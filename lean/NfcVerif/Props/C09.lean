import NfcVerif.Lemmas.Term
import NfcVerif.Lemmas.TermMulti
import NfcVerif.Lemmas.Deact
/-!
# C09 - when the LLCP link ends no application thread is left waiting

Statements about the executable models `NfcVerif.Model.Term` (wait structures of the socket
calls of tco.py / llc.py as repaired by fixes/C09, `terminate()`, the run loops, the SNEP /
handover service loops - one thread) and `NfcVerif.Model.TermMulti` (any number of threads on one
socket / controller, condition variables with FIFO waiter lists, `notify()` vs `notify_all()`,
schedules).  The models are tied to the real code by harness/props/c09.py (every scheduling
point, result and final socket state compared under a Condition double, action tree enumerated)
and harness/props/c09_multi.py (2..4 real threads under a deterministic scheduler, every
execution compared with `TermMulti.runM`; the service loops walked along `serviceStep`).

Assumed, not proved (Python runtime): `notify()` wakes waiters in arrival order, a woken thread
eventually gets the lock, a thread is preempted only at outermost lock acquisitions and waits.
-/
namespace NfcVerif.C09
open NfcVerif NfcVerif.Term NfcVerif.TermMulti

/-- `terminate()` notifies the condition variable of every thread that waits in a socket call, and it
    wakes EVERY such thread (notify_all, not notify): `m` is any state of any number of threads on one
    socket / controller (`NfcVerif.TermMulti`, condition variables with FIFO waiter lists and
    `notify()` / `notify_all()` as in threading.Condition) in which the link thread is about to run
    `terminate()`; every thread `i` parked at a waiting point `p` - its socket in a service access point
    (resp. the service discovery SAP alive, for `resolve`), any state, queues, counters - is marked
    notified afterwards. -/
theorem terminate_notifies_every_waiter (m : MState) (rest : List Act) (hs : m.script = .term :: rest)
    (i : Nat) (t : Thread) (p : Pt) (hi : m.ths[i]? = some t) (hst : t.stat = .parked p false)
    (hw : p.isWait = true) (hreg : waiter m.w p = true) (hk : kindOK m.w p = true) :
    (terminate m.w).2.contains p.cv = true ∧
    (linkStep m).ths[i]? = some { t with stat := .parked p true } := by
  have hnot := terminate_notifies m.w p hw hreg hk
  refine ⟨hnot, ?_⟩
  have hnot' : p.cv ∈ (terminate m.w).2 := by simpa using hnot
  rw [(linkStep_term m rest hs).2.1, List.getElem?_map, hi]
  simp [wakeIf, waitsOn, hst, hnot', wake]

/-- four threads wait on one established connection and its controller: two for the send window, one for
    acknowledgements, one in resolve() -/
def exThreeWaiters : MState :=
  { w := { s := ⟨.dlc, .established, true, [], [.i], 1, 1, 128, 1, 1, 0, 0, 0, 1⟩, registered := true,
           sapAlive := true, sapOthers := false, terminated := false, sdAlive := true, resolved := false,
           viaSap := false },
    ths := [⟨.send false 1, .parked .wWindow false, false⟩, ⟨.send false 1, .parked .wWindow false, false⟩,
            ⟨.poll .acks false, .parked .wPollAcks false, false⟩, ⟨.resolve, .parked .wResolve false, false⟩],
    order := [0, 1, 2, 3], script := [.term] }

example : (linkStep exThreeWaiters).ths.map stillWaiting = [false, false, false, false] := by decide
example : exThreeWaiters.ths.map stillWaiting = [true, true, true, true] := by decide

/-- the model distinguishes `notify()` from `notify_all()` (seeded change C09-r2m1: ServiceDiscovery.shutdown
    with `resp.notify()`): of two threads in resolve() the second one stays parked, un-notified - for ever,
    whatever the schedule of the threads afterwards -/
theorem notify_one_counterexample (ds : List Nat) :
    (linkStepG applyActNotifyOne twoResolvers).ths.map stillWaiting = [false, true] ∧
    ((runThreads (linkStepG applyActNotifyOne twoResolvers) ds).ths[1]?).map stillWaiting = some true := by
  refine ⟨notify_one_leaves_a_waiter.1, ?_⟩
  have key : ∀ (m : MState), m.ths[1]? = some resolver → (∀ t ∈ m.ths, t.call = .resolve) →
      ∀ ds, ((runThreads m ds).ths[1]?).map stillWaiting = some true := by
    intro m h1 hc ds
    induction ds generalizing m with
    | nil => simp [runThreads, h1, stillWaiting, resolver]
    | cons d ds ih =>
      suffices (stepThread m d).ths[1]? = some resolver ∧ ∀ t ∈ (stepThread m d).ths, t.call = .resolve from
        ih _ this.1 this.2
      unfold stepThread
      cases hd : m.ths[d]? with
      | none => exact ⟨h1, hc⟩
      | some t =>
        have htc : t.call = .resolve := hc t (List.mem_of_getElem? hd)
        dsimp only
        cases hso : stepOf t m.w with
        | none => exact ⟨h1, hc⟩
        | some s =>
          -- the parked thread 1 cannot run, and `resolve` notifies nobody
          have hd1 : d ≠ 1 := by
            rintro rfl
            obtain rfl : resolver = t := by rw [h1] at hd; exact Option.some.inj hd
            simp [stepOf, resolver, callTimeout] at hso
          have hn : threadNotes t m.w = [] := by unfold threadNotes; rw [htc]
          simp only [hn, applyNotes]
          refine ⟨by rw [List.getElem?_set_ne hd1]; exact h1, fun t2 ht2 => ?_⟩
          rcases List.mem_or_eq_of_mem_set ht2 with h | rfl
          · exact hc t2 h
          · exact htc
  have hths : (linkStepG applyActNotifyOne twoResolvers).ths =
      [{ call := .resolve, stat := .parked .wResolve true }, resolver] := rfl
  refine key _ (by rw [hths]; rfl) (fun t ht => ?_) ds
  rw [hths] at ht
  simp only [List.mem_cons, List.not_mem_nil, or_false] at ht
  rcases ht with rfl | rfl <;> rfl

/-- **all threads return, any number of threads, any schedule**: `m` is the moment the link thread is about
    to execute `terminate()`; every thread is in a state `preB` allows - its call not started, at a lock
    acquisition of its call (`validAcq`, `acqInv`), parked at a wait of its call (notified or not; its socket
    in a service access point), or ended.  After the termination, in whatever order `ds` the threads continue:
    * no thread is ever parked without having been notified (no lost wake-up, no wait entered on the dead link),
    * a thread keeps its call, and every result it obtains is a value or nfc.llcp.Error,
    * a thread that has been scheduled four times has returned. -/
theorem all_threads_return (m : MState) (rest : List Act) (hs : m.script = .term :: rest) (hwf : WF m.w)
    (hpre : ∀ t ∈ m.ths, preB m.w t = true) (ds : List Nat) :
    (∀ t' ∈ (runThreads (linkStep m) ds).ths, waitsOn t' = none) ∧
    ∀ i t, m.ths[i]? = some t → ∃ t', (runThreads (linkStep m) ds).ths[i]? = some t' ∧ t'.call = t.call ∧
      (∀ r, t'.stat = .done r → good r = true ∨ t.stat = .done r) ∧
      (4 ≤ ds.count i → ∃ r, t'.stat = .done r) := by
  obtain ⟨hI2, h2⟩ := runThreads_spec (linkStep m) (inv_linkStep m rest hs hwf hpre) ds
  refine ⟨fun t' ht' => waitsOn_of_postB _ t' (hI2.post t' ht'), fun i t hi => ?_⟩
  have hi1 : (linkStep m).ths[i]? = some (wakeIf (terminate m.w).2 t) := by
    rw [(linkStep_term m rest hs).2.1, List.getElem?_map, hi]; rfl
  obtain ⟨t', ht', hp⟩ := h2 i _ hi1
  have hp' := (wakeIf_prog (terminate m.w).2 t).trans hp
  exact ⟨t', ht', hp'.1, hp'.2.2, fun hc => hp'.done (by omega)⟩

example : WF exThreeWaiters.w ∧ ∀ t ∈ exThreeWaiters.ths, preB exThreeWaiters.w t = true := by
  refine ⟨by simp [WF, exThreeWaiters], ?_⟩
  decide

/-- the scheduler runs of the driver (`runM`) are runs of the threads once the link thread has ended -/
theorem schedule_after_terminate (m : MState) (hs : m.script = [.term]) (ds : List Nat) :
    runM m (m.ths.length :: ds) = runThreads (linkStep m) ds := by
  have h1 : decide1 m m.ths.length = linkStep m := by simp [decide1]
  have h2 : (linkStep m).script = [] := (linkStep_term m [] hs).2.2
  simp only [runM, h1]
  exact runM_eq_runThreads _ h2 ds

example : waiter { s := ⟨.dlc, .established, true, [], [.i], 1, 1, 128, 1, 1, 0, 0, 0, 1⟩, registered := true,
                   sapAlive := true, sapOthers := false, terminated := false, sdAlive := true, resolved := false,
                   viaSap := false } .wWindow = true := by decide

/-- **blocked calls return**: a thread waiting at any waiting point `p` of any call `c`, socket of any
    kind in any state (any queues, window, counters): when the link terminates the thread is woken,
    and resuming the call ends - within 3 scheduling steps of its own, whatever quiet event `a2`
    comes next - in a return value or nfc.llcp.Error.  Together with `wait_points_closed` (every
    earlier wake-up, for whatever reason, leaves the thread at a waiting point of the same call or
    ends the call) this covers any number of wake-ups in any order before the link ends. -/
theorem blocked_calls_return (c : Call) (p : Pt) (w : World) (a2 : Act) (hv : validWait c p = true)
    (hreg : waiter w p = true) (hk : kindOK w p = true) (hq : quiet a2 = true) :
    finishesGood (run c 3 (.at p w) [.term, a2]) = true := by
  have hw := validWait_isWait c p hv
  have hn : p.cv ∈ (terminate w).2 := by simpa using terminate_notifies w p hw hreg hk
  have hrun : run c 3 (.at p w) [.term, a2] = run c 2 (exec c p (terminate w).1) [a2] := by
    simp [run, applyAct, hw, hn]
  rw [hrun]
  by_cases hp : p = .wResolve
  · -- only `resolve` waits there, and the service discovery access point is gone
    subst hp
    cases c <;> simp [validWait] at hv
    simp [exec, resolveLoop, terminate, run, finishesGood, good, ret]
  · have hr : w.registered = true := by simpa [waiter, hp] using hreg
    exact run_stepGood c 2 _ _ 2 [a2] (by simpa using hq)
      (parked_step c p _ (by simp [terminate, hr, tcoClose, After]) hv
        (Or.inr (shutB_terminate_of_registered w hr)))
      (by omega)

example : validWait .connect .wTcoRecv = true ∧ validWait (.send false 5) .wWindow = true ∧
    validWait (.poll .acks false) .wPollAcks = true ∧ validWait .resolve .wResolve = true := by decide

/-- **no lost wake-up**: the link terminates while the thread stands at a lock acquisition point of
    its call (it has made its unlocked checks, the link thread runs first): the call still ends in a
    return value or nfc.llcp.Error, it never reaches a wait that nobody will notify.
    `WF`: the socket is as the API leaves sockets; `acqInv`: what `start` has established. -/
theorem no_lost_wakeup (c : Call) (p : Pt) (w : World) (a2 : Act) (hv : validAcq c p = true) (hwf : WF w)
    (hinv : acqInv c p w = true) (hal : allowed c w = true) (hq : quiet a2 = true) :
    finishesGood (run c 4 (.at p w) [.term, a2]) = true := by
  have hrun : run c 4 (.at p w) [.term, a2] = run c 3 (exec c p (terminate w).1) [a2] := by
    simp [run, applyAct, validAcq_isAcq c p hv]
  rw [hrun]
  have hP := post_of_pre w hwf ⟨c, .ready p, false⟩ (by simp [preB, hv, hinv, hal])
  exact run_stepGood c 3 _ _ (rankP p) [a2] (by simpa using hq)
    (ready_step c p _ (wf_terminate_after w hwf) hP) (by cases p <;> decide)

example : WF { s := ⟨.raw, .established, true, [], [], 1, 1, 128, 1, 0, 0, 0, 0, 1⟩, registered := true,
               sapAlive := true, sapOthers := false, terminated := false, sdAlive := true, resolved := false,
               viaSap := false } := by simp [WF]

/-- **later calls return**: every call (except `connect` on a raw access point, which has no such
    method) issued on a socket of a terminated link - shut down by terminate(), closed before, or
    created afterwards - ends in a return value or nfc.llcp.Error within 4 scheduling steps. -/
theorem later_calls_return (c : Call) (w : World) (a1 a2 : Act) (hw : After w) (hal : allowed c w = true)
    (hq1 : quiet a1 = true) (hq2 : quiet a2 = true) :
    finishesGood (run c 4 (start c w) [a1, a2]) = true :=
  run_stepGood c 4 _ w 4 [a1, a2] (by simp [hq1, hq2]) (fresh_step c w hw hal) (by omega)

/-- the hypothesis of `later_calls_return` is what terminate() leaves behind -/
theorem terminated_stable (w : World) (h : WF w) : After (terminate w).1 := wf_terminate_after w h

/-- a data link connection waiting for the CC of its CONNECT -/
def exConnecting : World :=
  { s := ⟨.dlc, .connect, true, [], [.connect], 1, 1, 128, 1, 0, 0, 0, 0, 1⟩, registered := true, sapAlive := true,
    sapOthers := false, terminated := false, sdAlive := true, resolved := false, viaSap := false }

example : After (terminate exConnecting).1 := terminated_stable _ (by simp [WF, exConnecting])
example : finishesGood (run .connect 3 (.at .wTcoRecv exConnecting) [.term, .none]) = true := by decide
example : ∃ cv w, run .connect 3 (.at .wTcoRecv exConnecting) [.none] = .hang cv w := ⟨_, _, rfl⟩

/-- the scheduling points of a call are closed: `start` leads to a lock acquisition point of the call
    (with `acqInv`), continuing from a point of the call leads to a point of the call, and only a data
    link connection reaches the send_token / acks_ready waits -/
theorem wait_points_closed (c : Call) (w : World) (p p' : Pt) (w' : World) :
    (start c w = .at p' w' → validAcq c p' = true ∧ acqInv c p' w' = true) ∧
    (validPt c p = true → kindOK w p = true → exec c p w = .at p' w' → validPt c p' = true ∧ kindOK w' p' = true) :=
  ⟨fun h => by have := start_spec c w; rw [h] at this; exact ⟨this.1, this.2.1⟩,
   fun hv hk h => by have := exec_pts c p w hv hk; rw [h] at this; exact this⟩

/-- **terminate reached**: for every cause of ending - remote DISC, exchange() returning None, the
    terminate callback, KeyboardInterrupt, IOError (also with a dead device), the three security
    errors and any other exception - striking at every point of the run loop (during the DPS key
    agreement, at the first collect/exchange before the link is ESTABLISHED, or later) the run loop of
    either role executes terminate(); and terminate() shuts the service access points down even when
    the MAC deactivation raises. -/
theorem terminate_reached (r : Role) (pt : LoopPt) (c : Cause) (deactivateRaises : Bool) :
    (loopEnd r pt c).terminateCalled = true ∧ terminateShutsDown deactivateRaises = true :=
  ⟨by cases c <;> cases pt <;> rfl, rfl⟩

example : (loopEnd .target .first .otherException).terminateCalled = true := by decide

/-- **a bind() racing terminate() never leaks a socket**: terminate() is the sequence "set the
    terminated flag, shut down SAP 63, ..., SAP 0"; an application thread that binds a socket to any
    address after any number `k` of these steps is either refused (ESHUTDOWN) or its socket is shut
    down by the remaining steps. -/
theorem late_bind_never_leaks (k a : Nat) (ha : a < 64) : lateBind termSteps k a ≠ .leaked := by
  cases k with
  | zero =>
    -- nothing done yet: the loop over the service access points 63 .. 0 still comes to `a`
    simpa [lateBind, termSteps] using ha
  | succ n => simp [lateBind, termSteps]

example : lateBind termSteps 0 40 = .shutDown ∧ lateBind termSteps 30 40 = .refused := by decide

/-- the order matters: with the flag set after the loop a socket bound to 63 after the first step leaks -/
theorem late_bind_order_counterexample : lateBind termStepsFlagLast 1 63 = .leaked := by decide

/-- connect() returns to its caller (or re-raises the unexpected exception itself) for every cause
    except IOError and the security errors, at every point of the loop. Partial: see
    `connect_returns_counterexample` (F21). -/
theorem connect_returns_partial (r : Role) (pt : LoopPt) (c : Cause)
    (h : c ≠ .ioError ∧ c ≠ .keyAgreementError ∧ c ≠ .decryptionError ∧ c ≠ .encryptionError) :
    connectEnd r pt c = .returns ∨ (c = .otherException ∧ connectEnd r pt c = .reraises) :=
  connect_returns r pt c h

def ConnectAlwaysReturns : Prop := ∀ r pt c, connectEnd r pt c ≠ .raisesSystemExit

/-- F21: an IOError (or a security error) in the link loop leaves connect() by SystemExit -/
theorem connect_returns_counterexample : ¬ ConnectAlwaysReturns := by
  intro h; exact h .initiator .established .ioError (by decide)

/-- **service threads exit**: from every program point of the SNEP / handover listen and serve loops,
    on a socket of a terminated link, the thread function ends within 3 socket calls. -/
theorem service_threads_exit (srv : Srv) (w : World) (p : SPt) (hw : After w) : serviceRun srv w 3 p = .exited := by
  obtain ⟨⟨n1, h1⟩, ⟨n2, h2⟩, ⟨n3, h3⟩, ⟨n4, h4⟩, h5⟩ := resultAfter_dead w hw
  cases srv <;> cases p <;> simp [serviceRun, SPt.call, h1, h2, h3, h4, h5, serviceStep, classify]

/-- **service threads exit, from every point, at every moment**: a service thread (thread `i` of any number
    of threads) stands at program point `sp` of its listen / serve loop; the socket call of that point is in
    progress - not yet started, at one of its lock acquisitions, or parked at one of its waits (`preB`) -
    when the link thread executes `terminate()`.  Whatever the schedule `ds` afterwards, once the thread has
    been given four turns its call has returned a value or nfc.llcp.Error, and from the program point that
    follows this result the thread function of either server ends within three further socket calls. -/
theorem service_threads_exit_any_point (srv : Srv) (sp : SPt) (m : MState) (rest : List Act)
    (hs : m.script = .term :: rest) (hwf : WF m.w) (hpre : ∀ t ∈ m.ths, preB m.w t = true)
    (i : Nat) (t : Thread) (hi : m.ths[i]? = some t) (_hc : t.call = sp.call) (hnd : ∀ r, t.stat ≠ .done r)
    (ds : List Nat) (h4 : 4 ≤ ds.count i) :
    ∃ t' r, (runThreads (linkStep m) ds).ths[i]? = some t' ∧ t'.stat = .done r ∧ good r = true ∧
      serviceRun srv (runThreads (linkStep m) ds).w 3 (serviceStep srv sp (classify r)) = .exited := by
  obtain ⟨_, h⟩ := all_threads_return m rest hs hwf hpre ds
  obtain ⟨t', ht', _, hgood, hdone⟩ := h i t hi
  obtain ⟨r, hr⟩ := hdone h4
  refine ⟨t', r, ht', hr, ?_, service_threads_exit srv _ _
    (runThreads_spec _ (inv_linkStep m rest hs hwf hpre) ds).1.after⟩
  rcases hgood r hr with h | h
  · exact h
  · exact absurd h (hnd r)

/-- the listen thread of a server parked in accept(), a second thread about to take the llc lock after its
    accept() returned a connection (the window of C09-r2m3) -/
def exListener : MState :=
  { w := { s := ⟨.dlc, .listen, true, [], [.cc], 1, 2, 128, 1, 0, 0, 0, 0, 1⟩, registered := true,
           sapAlive := true, sapOthers := true, terminated := false, sdAlive := true, resolved := false,
           viaSap := false },
    ths := [⟨.accept, .parked .wTcoRecv false, false⟩, ⟨.accept, .ready .llcAcq, false⟩],
    order := [0], script := [.term] }

example : WF exListener.w ∧ (∀ t ∈ exListener.ths, preB exListener.w t = true) ∧
    (∀ t ∈ exListener.ths, t.call = SPt.listenAccept.call) := by
  refine ⟨by simp [WF, exListener], by decide, by decide⟩

/-! ## the MAC deactivation that `terminate()` runs BEFORE it shuts the sockets down (virtual clock)

`NfcVerif.Model.Deact`: `Target._deactivate` / `send_res_recv_req` and `Initiator.deactivate` of nfc/dep.py
with the clock made explicit; the peer is an arbitrary script of exchange outcomes (requests of any kind,
with matching or foreign DID, undecodable frames, None, TimeoutError, TransmissionError, other communication
errors, anything else the driver raises) with arbitrary response times.  Tied to the real classes by
harness/props/c09_deact.py (virtual `time` patched into nfc.dep, scripted `clf.exchange`): outcome, end time,
and per exchange what was sent with which timeout. -/
section Deactivation
open NfcVerif.Deact

/-- **Target.deactivate returns in bounded time, every peer script** (the code as found, and with the
    proposed repair): called at `t0`, it has ended - by return or by an exception of the driver, in both cases
    `terminate()` goes on to shut the service access points down - by
    `t0 + D + 2 * lat + txSlack`: the deadline of one second, one driver latency for the exchange that runs
    into the deadline, one for the RLS_RES / DSL_RES sent with timeout 0, and `txSlack` = one driver latency per
    TransmissionError event of the script on the code as found (0 with the repair fixes/C09/0010, which stops
    repeating an exchange once the deadline has passed).  No hypothesis on the script, the pending first command,
    `D`, `lat` or `t0`. -/
theorem target_deactivate_time (cfg : Cfg) (hr : cfg.renew = false) (cmd : Pending) (script : List Deact.Ev)
    (t0 : Nat) :
    (targetDeactivate cfg cmd script t0).tEnd ≤ t0 + cfg.D + 2 * cfg.lat + txSlack cfg script := by
  unfold targetDeactivate
  split
  · cases cmd with
    | bad => simp only; omega
    | no =>
      have := finish_bound cfg hr script (.go ⟨.main, .nothing, t0, t0 + cfg.D, []⟩)
      simp only [finish, pot, base] at this ⊢; omega
    | req r ok =>
      have := finish_bound cfg hr script (afterReq cfg (t0 + cfg.D) r ok t0 [])
      have := afterReq_pot cfg hr (t0 + cfg.D) r ok t0 []
      show (finish cfg script (afterReq cfg (t0 + cfg.D) r ok t0 [])).tEnd ≤ _
      omega
  · simp only; omega

/-- with the repair the bound is a constant: deadline + two driver latencies, for EVERY peer script; this is
    also the moment by which `terminate()` has reached the shutdown of the service access points -/
theorem target_deactivate_bounded (cfg : Cfg) (hr : cfg.renew = false) (hb : cfg.retryBounded = true)
    (cmd : Pending) (script : List Deact.Ev) (t0 : Nat) :
    targetShutdownAt cfg cmd script t0 ≤ t0 + cfg.D + 2 * cfg.lat := by
  have := target_deactivate_time cfg hr cmd script t0
  simp only [txSlack, hb, if_true] at this
  simpa [targetShutdownAt] using this

/-- the code as found: the same constant bound for every peer script in which the driver never reports a
    TransmissionError. Partial: see `target_deactivate_unbounded_counterexample`. -/
theorem target_deactivate_bounded_partial (cfg : Cfg) (hr : cfg.renew = false) (cmd : Pending)
    (script : List Deact.Ev) (hs : ∀ ev ∈ script, ev.out ≠ .transmission) (t0 : Nat) :
    targetShutdownAt cfg cmd script t0 ≤ t0 + cfg.D + 2 * cfg.lat := by
  have := target_deactivate_time cfg hr cmd script t0
  have h0 : txSlack cfg script = 0 := by
    unfold txSlack; split
    · rfl
    · exact slack_no_tx cfg script hs
  simpa [targetShutdownAt, h0] using this

def TargetDeactivateBounded (cfg : Cfg) : Prop :=
  ∃ B, ∀ script t0, (targetDeactivate cfg .no script t0).tEnd ≤ t0 + B

/-- finding `deactivate-unbounded-transmission-errors`: before the repair fixes/C09/0010 `send_res_recv_req`
    repeats an exchange after a TransmissionError without looking at the deadline (`while True`), so a driver that
    keeps reporting transmission errors (one per tick) keeps `_deactivate` - and with it `terminate()` - busy
    beyond every bound -/
theorem target_deactivate_unbounded_counterexample (cfg : Cfg) (hb : cfg.retryBounded = false) (hl : 1 ≤ cfg.lat)
    (hD : 0 < cfg.D) : ¬ TargetDeactivateBounded cfg := by
  rintro ⟨B, h⟩
  obtain ⟨script, hs⟩ := target_unbounded cfg hb hl hD 0 B
  have := h script 0
  omega

/-- the model tells a renewed deadline from a fixed one (class of seeded change C09-r5m4: "allow the initiator
    one more second from each answered request"): an initiator that does nothing but legal DEP requests, one per
    tick, keeps the deactivation - and the application threads - waiting beyond every bound -/
theorem renewed_deadline_counterexample (cfg : Cfg) (hn : cfg.renew = true) (hl : 1 ≤ cfg.lat) (hD : 0 < cfg.D)
    (t0 B : Nat) :
    ∃ script, (∀ ev ∈ script, ev = infEv) ∧ B < (targetDeactivate cfg .no script t0).tEnd := by
  refine ⟨List.replicate (B + 1) infEv, fun ev h => (List.mem_replicate.1 h).2, ?_⟩
  unfold targetDeactivate
  rw [if_pos (by omega)]
  have := renew_run cfg hn hD hl (B + 1) ⟨.main, .nothing, t0, t0 + cfg.D, []⟩ rfl
  simp only at this ⊢; omega

/-- **Initiator.deactivate returns in bounded time**: exactly one exchange, over by `t0 + tInit + lat`,
    whatever the target answers or the driver raises -/
theorem initiator_deactivate_bounded (cfg : Cfg) (tInit : Nat) (release : Bool) (script : List Deact.Ev) (t0 : Nat) :
    (initiatorDeactivate cfg tInit release script t0).tEnd ≤ t0 + tInit + cfg.lat ∧
    (initiatorDeactivate cfg tInit release script t0).trace.length = 1 := by
  unfold initiatorDeactivate
  cases script with
  | nil => simp [silentEnd]; omega
  | cons ev rest =>
    simp only
    have := xchg_le cfg t0 (t0 + tInit) ev
    split <;> simp <;> omega

/-- one second = 1024 ticks, driver latency 2 ticks -/
def exCfg : Cfg := { D := 1024, lat := 2, retryBounded := false }

/-- a chatty initiator: SYMM every 100 ticks for ever; the dialogue ends with the deadline -/
example : (targetDeactivate exCfg .no (List.replicate 300 ⟨.frame .inf true, 100⟩) 5000).tEnd = 6026 := by decide
/-- ATN, RLS: released after two requests -/
example : (targetDeactivate exCfg .no [⟨.frame .atn true, 7⟩, ⟨.frame .rls true, 9⟩, ⟨.timeout, 1⟩] 0).tEnd = 17 := by decide
/-- the same chatty initiator against a renewed deadline: still there after 300 requests -/
example : (targetDeactivate { exCfg with renew := true } .no (List.replicate 300 ⟨.frame .inf true, 100⟩) 5000).tEnd
    = 5000 + 300 * 100 + 1026 := by decide
/-- ten transmission errors after the deadline cost ten more latencies -/
example : (targetDeactivate exCfg .no (⟨.frame .inf true, 1023⟩ :: List.replicate 10 ⟨.transmission, 2⟩) 0).tEnd
    = 1023 + 2 + 9 * 2 + 2 := by decide
example : (initiatorDeactivate exCfg 102 false [⟨.frame .inf true, 500⟩] 10).tEnd = 114 := by decide

end Deactivation

end NfcVerif.C09
