import NfcVerif.Model.PeerT3Gen
import NfcVerif.Lemmas.PeerT3
import NfcVerif.Lemmas.PyYields
/-!
# C07: `process_command` of the emulated Type 3 Tag is total for ANY services with total callbacks

The loops and `read/write_without_encryption` are walked as in `Lemmas/PeerT3.lean` (same `loop_head`, same
parsing loops), here with the length bounds that keep every `mkBytes` in range; `processCommand_framed`
is a walk of its own because it asks nothing of the callbacks and of the ids only that the IDm has 8 octets, where
`processCommand_oi` must assume `ReadOk` and `IdsOk`.
-/
namespace NfcVerif.PeerT3
open NfcVerif.T3Emu (Step Dict dictGet dictSet countDict Call)
open NfcVerif.Peer (HasKey dictGet_of_hasKey hasKey_dictSet countDict_keys)

variable {σ : Type}

/-- only `IndexError` (caught by the wrapper) -/
def OnlyIndex (e : Exc) : Prop := e = .index

theorem onlyIndex_index : OnlyIndex .index := rfl

/-- the application's read callbacks deliver at most one block (16 octets) per call -/
def ReadOk (svc : Svc σ) : Prop :=
  ∀ s sc bn rb re blk, (svc.read s sc bn rb re).1 = some blk → blk.length ≤ 16

theorem readLoop_ok (svc : Svc σ) (hr : ReadOk svc) (svcs : List Nat) (d0 : Dict) (bl : List (Nat × Nat)) (i : Nat) (d : Dict)
    (acc : Bytes) (s : σ) (log : List Call) (hk : ∀ sc ∈ svcs, HasKey d0 sc ∧ HasKey d sc)
    (hacc : acc.length + 16 * bl.length ≤ 240) :
    Tri OnlyIndex (fun x => x.1.length ≤ 3 + acc.length + 16 * bl.length) (readLoop svc svcs d0 bl i d acc s log) := by
  induction bl generalizing i d acc s log with
  | nil =>
    unfold readLoop
    have hb : mkBytes [0, 0, acc.length / 16] = .ok [0, 0, acc.length / 16] := by
      apply mkBytes_ok
      intro b hb
      simp only [List.mem_cons, List.not_mem_nil, or_false] at hb
      simp only [List.length_nil] at hacc
      rcases hb with rfl | rfl | rfl <;> omega
    simp only [hb, Py.bind_ok]
    exact Tri.ok (by simp; omega)
  | cons b rest ih =>
    obtain ⟨si, bn⟩ := b
    unfold readLoop
    refine Peer.loop_head onlyIndex_index hk si fun sc v0 v hk' => ?_
    dsimp only
    cases hrd : (svc.read s sc bn (decide (v0 = v)) (decide (v - 1 = 0))).1 with
    | none =>
      simp only [mkBytes_flag i 0xA2 (by decide), Py.bind_ok]
      exact Tri.ok (by simp only [List.length_cons, List.length_nil]; omega)
    | some blk =>
      simp only
      have hb := hr _ _ _ _ _ _ hrd
      simp only [List.length_cons] at hacc
      refine (ih (i + 1) (dictSet d sc (v - 1)) (acc ++ blk) _ _ hk'
        (by simp only [List.length_append]; omega)).mono (fun _ h => h) fun x h => ?_
      simp only [List.length_append, List.length_cons] at h ⊢
      omega

theorem writeLoop_ok (svc : Svc σ) (svcs : List Nat) (d0 : Dict) (data : Bytes) (bl : List (Nat × Nat)) (i : Nat) (d : Dict)
    (s : σ) (log : List Call) (hk : ∀ sc ∈ svcs, HasKey d0 sc ∧ HasKey d sc) :
    Tri OnlyIndex (fun x => x.1.length = 2) (writeLoop svc svcs d0 data bl i d s log) := by
  induction bl generalizing i d s log with
  | nil =>
    unfold writeLoop
    exact Tri.ok rfl
  | cons b rest ih =>
    obtain ⟨si, bn⟩ := b
    unfold writeLoop
    refine Peer.loop_head onlyIndex_index hk si fun sc v0 v hk' => Tri.ite (fun _ => ?_) fun _ => ih (i + 1) (dictSet d sc (v - 1)) _ _ hk'
    simp only [mkBytes_flag i 0xA2 (by decide), Py.bind_ok]
    exact Tri.ok rfl

theorem emuRead_ok (e : Emu σ) (hr : ReadOk e.svc) (s : σ) (d : Bytes) :
    Tri OnlyIndex (fun x => x.1.length ≤ 243) (emuRead e s d) := by
  unfold emuRead
  simp only [parseBlocks_eq]
  refine (idxN_ix onlyIndex_index _ _).bind fun nsvc _ => (parseServices_tri onlyIndex_index _ _ _ _).bind fun p h1 => ?_
  match p, h1 with
  | .done r, h1 => exact Tri.ok (by have := h1 r rfl; simp only; omega)
  | .cont (svcs, d1), _ =>
    refine (idxN_ix onlyIndex_index _ _).bind fun nblk _ => Tri.ite (fun _ => Tri.ok (by simp)) fun hn =>
      (Peer.parseBlocks_tri onlyIndex_index _ _ _ _ _).bind fun b h3 => ?_
    match b, h3 with
    | .done r, h3 => exact Tri.ok (by have := h3.1 r rfl; simp only; omega)
    | .cont (blocks, rest), h3 =>
      have hl := h3.2 _ _ rfl
      simp only [List.length_nil] at hl
      refine (readLoop_ok e.svc hr svcs _ blocks 0 _ [] s []
        (fun sc hsc => ⟨countDict_keys _ _ _ hsc, countDict_keys _ _ _ hsc⟩)
        (by simp only [List.length_nil]; omega)).mono (fun _ h => h) fun x h => ?_
      simp only [List.length_nil] at h
      omega

theorem emuWrite_ok (e : Emu σ) (s : σ) (d : Bytes) : Tri OnlyIndex (fun x => x.1.length = 2) (emuWrite e s d) := by
  unfold emuWrite
  simp only [parseBlocks_eq]
  refine (idxN_ix onlyIndex_index _ _).bind fun nsvc _ => (parseServices_tri onlyIndex_index _ _ _ _).bind fun p h1 => ?_
  match p, h1 with
  | .done r, h1 => exact Tri.ok (h1 r rfl)
  | .cont (svcs, d1), _ =>
    refine (idxN_ix onlyIndex_index _ _).bind fun nblk _ => (Peer.parseBlocks_tri onlyIndex_index _ _ _ _ _).bind fun b h3 => ?_
    match b, h3 with
    | .done r, h3 => exact Tri.ok (h3.1 r rfl)
    | .cont (blocks, data), _ =>
      exact Tri.ite (fun _ => Tri.ok rfl) fun _ =>
        writeLoop_ok e.svc svcs (countDict svcs blocks) data blocks 0 (countDict svcs blocks) s []
          fun sc hsc => ⟨countDict_keys _ _ _ hsc, countDict_keys _ _ _ hsc⟩

theorem respond_ok (e : Emu σ) (c : Nat) (hc : c < 256) (r : Bytes) (h : r.length ≤ 245) :
    respond e c r = .ok ([10 + r.length, c] ++ e.idm ++ r) := by
  unfold respond
  rw [mkBytes_ok (by
    intro b hb
    simp only [List.mem_cons, List.not_mem_nil, or_false] at hb
    rcases hb with rfl | rfl <;> omega)]
  rfl

/-- the ids are slices of SENSF_RES: `sensf_res[1:9]`, `[9:17]`, `[17:19]` -/
def IdsOk (e : Emu σ) : Prop := e.idm.length ≤ 8 ∧ e.pmm.length ≤ 8 ∧ e.sys.length ≤ 2

theorem processCommand_oi (e : Emu σ) (hl : IdsOk e) (hr : ReadOk e.svc) (s : σ) (cmd : Bytes) :
    Safe OnlyIndex (processCommand e s cmd) := by
  unfold processCommand
  match cmd with
  | [] => exact Safe.ok _
  | l0 :: t =>
    refine Safe.ite (Safe.ok _) (Safe.ite ?_ (Safe.ite ?_ (Safe.ok _)))
    · refine Safe.bind' (idxN_safe onlyIndex_index _ _) fun rc => ?_
      simp only
      obtain ⟨h1, h2, h3⟩ := hl
      rw [mkBytes_ok (by
        intro b hb
        simp only [List.mem_cons, List.not_mem_nil, or_false] at hb
        rcases hb with rfl | rfl
        · split <;> simp only [List.length_append] <;> omega
        · decide)]
      exact Safe.ok _
    · refine Safe.bind' (idxN_safe onlyIndex_index _ _) fun code => ?_
      apply Safe.ite
      · rw [respond_ok e 0x05 (by decide) [0] (by decide)]; exact Safe.ok _
      apply Safe.ite
      · have g := emuRead_ok e hr s ((l0 :: t).drop 10)
        refine Safe.bind g.safe ?_
        intro x hx
        rw [respond_ok e 0x07 (by decide) x.1 (by have := g.yields x hx; omega)]
        exact Safe.ok _
      apply Safe.ite
      · have g := emuWrite_ok e s ((l0 :: t).drop 10)
        refine Safe.bind g.safe ?_
        intro x hx
        rw [respond_ok e 0x09 (by decide) x.1 (by have := g.yields x hx; omega)]
        exact Safe.ok _
      apply Safe.ite
      · rw [respond_ok e 0x0D (by decide) ([1] ++ e.sys)
          (by simp only [List.length_append, List.length_cons, List.length_nil]; have := hl.2.2; omega)]
        exact Safe.ok _
      · exact Safe.ok _

theorem processCommandR_total (e : Emu σ) (hl : IdsOk e) (hr : ReadOk e.svc) (s : σ) (cmd : Bytes) :
    ∃ r, processCommandR e s cmd = .ok r := by
  unfold processCommandR
  cases h : processCommand e s cmd with
  | ok r => exact ⟨r, rfl⟩
  | error x =>
    have := processCommand_oi e hl hr s cmd x h
    unfold OnlyIndex at this
    subst this
    exact ⟨_, rfl⟩

theorem storeSvc_readOk (tab : List (Nat × Mode)) : ReadOk (storeSvc tab) := by
  intro s sc bn rb re blk h
  unfold storeSvc at h
  simp only at h
  split at h
  · exact Peer.storeRead_len h
  · exact Peer.storeRead_len h
  · simp only at h
    split at h
    · exact Peer.storeRead_len h
    · cases h
  · cases h

/-- a reader can do what it likes - any commands, any transmission faults: the card loop ends with a normal return -/
theorem cardLoop_returns (e : Emu σ) (hl : IdsOk e) (hr : ReadOk e.svc) (script : List CardEv)
    (hs : ∀ x, CardEv.err x ∈ script → Peer.isComm x = true) (s : σ) : cardLoop e script s = .returned := by
  induction script generalizing s with
  | nil => rfl
  | cons ev rest ih =>
    have hrest : ∀ x, CardEv.err x ∈ rest → Peer.isComm x = true := fun x hx => hs x (List.mem_cons_of_mem _ hx)
    cases ev with
    | err x =>
      unfold cardLoop
      split
      · rfl
      · rw [if_pos (hs x (List.mem_cons_self ..))]
        exact ih hrest s
    | cmd c =>
      unfold cardLoop
      obtain ⟨r, hr'⟩ := processCommandR_total e hl hr s c
      rw [hr']
      exact ih hrest _

/-- a response frame: first octet = total length, which fits one octet -/
def Framed (r : Bytes) : Prop := r.head? = some r.length ∧ r.length ≤ 255

theorem mkBytes_eq {l r : List Nat} (h : mkBytes l = .ok r) : r = l ∧ ∀ b ∈ l, b < 256 := by
  unfold mkBytes at h
  split at h
  · rename_i ha
    cases h
    exact ⟨rfl, fun b hb => of_decide_eq_true (List.all_eq_true.mp ha b hb)⟩
  · cases h

theorem framed_of_mkBytes {n c : Nat} {hd body : Bytes} (h : mkBytes [n, c] = .ok hd) (hn : n = 2 + body.length) :
    Framed (hd ++ body) := by
  obtain ⟨rfl, hb⟩ := mkBytes_eq h
  have := hb n List.mem_cons_self
  subst hn
  refine ⟨congrArg some ?_, ?_⟩ <;> simp only [List.length_append, List.length_cons, List.length_nil] <;> omega

theorem respond_framed (e : Emu σ) (hi : e.idm.length = 8) (c : Nat) (rsp : Bytes) : Yields Framed (respond e c rsp) := by
  unfold respond
  refine Yields.bind fun hd hh => Yields.ok ?_
  rw [List.append_assoc]
  exact framed_of_mkBytes hh (by rw [List.length_append, hi]; omega)

/-- every response of `_process_command` is built by `respond` or, for the polling response, in the same way -/
theorem processCommand_framed (e : Emu σ) (hi : e.idm.length = 8) (s : σ) (cmd : Bytes) :
    Yields (fun x => ∀ r, x.1 = some r → Framed r) (processCommand e s cmd) := by
  have none_ok : ∀ (s : σ) (lg : List Call),
      Yields (fun x => ∀ r, x.1 = some r → Framed r) (.ok ((none : Option Bytes), s, lg)) := by
    intro _ _; exact Yields.ok fun _ h => nomatch h
  have resp : ∀ c rsp (s : σ) (lg : List Call), Yields (fun x => ∀ r, x.1 = some r → Framed r)
      (respond e c rsp >>= fun r => .ok (some r, s, lg)) := fun c rsp _ _ =>
    Yields.bind fun r hr => Yields.ok fun r' h => Option.some.inj h ▸ respond_framed e hi c rsp r hr
  unfold processCommand
  match cmd with
  | [] => exact none_ok _ _
  | l0 :: t =>
    refine Yields.ite (none_ok _ _) (Yields.ite ?_ (Yields.ite ?_ (none_ok _ _)))
    · refine Yields.bind' fun rc => Yields.bind fun hd hh => Yields.ok fun r h => ?_
      exact Option.some.inj h ▸ framed_of_mkBytes hh rfl
    · refine Yields.bind' fun code => Yields.ite (resp _ _ _ _) (Yields.ite ?_ (Yields.ite ?_ (Yields.ite (resp _ _ _ _) (none_ok _ _))))
      · exact Yields.bind' fun x => resp _ _ _ _
      · exact Yields.bind' fun x => resp _ _ _ _

end NfcVerif.PeerT3
