import NfcVerif.Lemmas.Tlv
import NfcVerif.Lemmas.PyPrims
/-!
The tag's side of a write: `apply`/`diffUnits` (`apply_diff`: a write-back is exact), and what the tag holds when the
commands stop early.  After the commands for the units `0 .. j-1` (`unitCmds`) the tag is `B` below `j * u` and `A` from
there on (`ThrAt`, `apply_diff_prefix`), so a prefix of a write-back from `A` to `B` is a threshold image `Thr u A B img`
(`prefix_thr`), every cut of a write lies inside one of its four write-backs (`WriteSpec.cuts`), and `WriteSpec.cut`
reads the three possible views off that.  Confinement is `Chg` (`Lemmas/Tlv.lean`) with `P := Area L`: `WriteSpec.chg` widens `WriteSpec.steps` to the
area, `Chg.confined` says what that means for the commands; the Type 2 format is such a change too (`formatT2_spec`).
-/
namespace NfcVerif.Tlv
open NfcVerif

theorem writeAt_length (m : Bytes) (a : Nat) (ds : Bytes) : (writeAt m a ds).length = m.length := by
  induction ds generalizing m a with
  | nil => rfl
  | cons d ds ih => simp [writeAt, ih]

theorem writeAt_get (m : Bytes) (a : Nat) (ds : Bytes) (x : Nat) :
    (writeAt m a ds)[x]? = if a ≤ x ∧ x < a + ds.length ∧ x < m.length then ds[x - a]? else m[x]? := by
  induction ds generalizing m a with
  | nil => simp only [writeAt, List.length_nil]; rw [if_neg (by omega)]
  | cons d ds ih =>
    simp only [writeAt, ih, List.length_cons, List.length_set]
    by_cases hxa : x = a
    · subst hxa
      rw [if_neg (by omega)]
      by_cases hl : x < m.length
      · rw [if_pos ⟨Nat.le_refl _, by omega, hl⟩]; simp [hl]
      · rw [if_neg (by omega)]
        have e1 : m[x]? = none := List.getElem?_eq_none (by omega)
        rw [e1]; simp [hl]
    · rw [get_set_ne m a d x (fun h => hxa h.symm)]
      by_cases h1 : a + 1 ≤ x ∧ x < a + 1 + ds.length ∧ x < m.length
      · rw [if_pos h1, if_pos ⟨by omega, by omega, h1.2.2⟩]
        have : x - a = (x - (a + 1)) + 1 := by omega
        rw [this]; simp
      · rw [if_neg h1, if_neg (by omega)]

theorem Chg.writeAt (m : Bytes) (a : Nat) (v : Bytes) : Chg m (writeAt m a v) fun x => a ≤ x ∧ x < a + v.length := by
  refine ⟨writeAt_length m a v, fun x hx => ?_⟩
  rw [writeAt_get] at hx
  split at hx
  · rename_i hc; exact ⟨hc.1, hc.2.1⟩
  · exact absurd rfl hx

theorem sliceN_get (m : Bytes) (a u k : Nat) : (sliceN m a (a + u))[k]? = if k < u then m[a + k]? else none := by
  unfold sliceN
  have : a + u - a = u := by omega
  rw [this, List.getElem?_take]
  split <;> simp [List.getElem?_drop]

theorem sliceN_eq_of (m m' : Bytes) (a u : Nat) (h : ∀ k, k < u → m[a + k]? = m'[a + k]?) :
    sliceN m a (a + u) = sliceN m' a (a + u) := by
  apply List.ext_getElem?
  intro k
  rw [sliceN_get, sliceN_get]
  split
  · rename_i hk; exact h k hk
  · rfl

theorem sliceN_ne (m m' : Bytes) (a u : Nat) (h : sliceN m a (a + u) ≠ sliceN m' a (a + u)) :
    ∃ k, k < u ∧ m[a + k]? ≠ m'[a + k]? := by
  apply Classical.byContradiction
  intro hn
  apply h
  apply sliceN_eq_of
  intro k hk
  apply Classical.byContradiction
  intro hne
  exact hn ⟨k, hk, hne⟩

theorem writeAt_slice_get (img m' : Bytes) (a u x : Nat) (hl : img.length = m'.length) :
    (writeAt img a (sliceN m' a (a + u)))[x]? = if a ≤ x ∧ x < a + u then m'[x]? else img[x]? := by
  rw [writeAt_get]
  by_cases h : a ≤ x ∧ x < a + u
  · rw [if_pos h]
    by_cases hx : x < img.length
    · have hlen : x < a + (sliceN m' a (a + u)).length := by rw [length_sliceN]; omega
      rw [if_pos ⟨h.1, hlen, hx⟩, sliceN_get, if_pos (by omega)]
      congr 1; omega
    · rw [if_neg (by omega)]
      have e1 : img[x]? = none := List.getElem?_eq_none (by omega)
      have e2 : m'[x]? = none := List.getElem?_eq_none (by omega)
      rw [e1, e2]
  · have := length_sliceN m' a (a + u)
    rw [if_neg h, if_neg (by omega)]

theorem mem_diffUnits (u : Nat) (m m' : Bytes) (c : Cmd) (h : c ∈ diffUnits u m m') :
    ∃ i, c = (i * u, sliceN m' (i * u) (i * u + u)) ∧ sliceN m (i * u) (i * u + u) ≠ sliceN m' (i * u) (i * u + u) := by
  unfold diffUnits at h
  rw [List.mem_filterMap] at h
  obtain ⟨i, _, hi⟩ := h
  split at hi
  · rename_i hne; cases hi; exact ⟨i, rfl, hne⟩
  · cases hi

theorem apply_append (m : Bytes) (a b : List Cmd) : apply m (a ++ b) = apply (apply m a) b := by
  simp [apply, List.foldl_append]

/-- the commands of a write-back from `A` to `B` for the units `0 .. j-1`; `diffUnits` is all of them -/
def unitCmds (u : Nat) (A B : Bytes) (j : Nat) : List Cmd :=
  (List.range j).filterMap fun i =>
    if sliceN A (i * u) (i * u + u) ≠ sliceN B (i * u) (i * u + u)
    then some (i * u, sliceN B (i * u) (i * u + u)) else none

theorem diffUnits_eq_unitCmds (u : Nat) (A B : Bytes) :
    diffUnits u A B = unitCmds u A B ((A.length + u - 1) / u) := rfl

theorem unitCmds_succ (u : Nat) (A B : Bytes) (j : Nat) :
    unitCmds u A B (j + 1) = unitCmds u A B j ++
      if sliceN A (j * u) (j * u + u) ≠ sliceN B (j * u) (j * u + u)
      then [(j * u, sliceN B (j * u) (j * u + u))] else [] := by
  unfold unitCmds
  rw [List.range_succ, List.filterMap_append]
  congr 1
  by_cases h : sliceN A (j * u) (j * u + u) ≠ sliceN B (j * u) (j * u + u)
  · rw [if_pos h]; simp only [List.filterMap_cons, List.filterMap_nil, if_pos h]
  · rw [if_neg h]; simp only [List.filterMap_cons, List.filterMap_nil, if_neg h]

/-- `img` is `B` below the boundary `j * u` and `A` from there on -/
def ThrAt (u j : Nat) (A B img : Bytes) : Prop :=
  img.length = A.length ∧ ∀ x, img[x]? = if x < j * u then B[x]? else A[x]?

/-- the tag in the middle of a write-back from `A` to `B` (commands go out in ascending order): `B` below a unit
boundary, `A` from there on -/
def Thr (u : Nat) (A B img : Bytes) : Prop := ∃ j, ThrAt u j A B img

/-- after the first `j` units have been handled the boundary is at `j * u` -/
theorem apply_diff_prefix (u : Nat) (hu : 0 < u) (m m' : Bytes) (hl : m.length = m'.length) (j : Nat) :
    ThrAt u j m m' (apply m (unitCmds u m m' j)) := by
  induction j with
  | zero => exact ⟨rfl, fun x => by rw [if_neg (by omega)]; rfl⟩
  | succ j ih =>
    obtain ⟨il, ig⟩ := ih
    have hju : (j + 1) * u = j * u + u := by rw [Nat.succ_mul]
    rw [unitCmds_succ, apply_append]
    by_cases hne : sliceN m (j * u) (j * u + u) ≠ sliceN m' (j * u) (j * u + u)
    · rw [if_pos hne]
      show ThrAt u (j + 1) m m' (writeAt (apply m (unitCmds u m m' j)) (j * u) (sliceN m' (j * u) (j * u + u)))
      refine ⟨by rw [writeAt_length]; exact il, fun x => ?_⟩
      rw [writeAt_slice_get _ m' (j * u) u x (il.trans hl), ig x, hju]
      by_cases h1 : x < j * u
      · rw [if_neg (by omega), if_pos h1, if_pos (by omega)]
      · by_cases h2 : x < j * u + u
        · rw [if_pos ⟨by omega, h2⟩, if_pos h2]
        · rw [if_neg (by omega), if_neg h1, if_neg h2]
    · rw [if_neg hne]
      show ThrAt u (j + 1) m m' (apply m (unitCmds u m m' j))
      have heq : sliceN m (j * u) (j * u + u) = sliceN m' (j * u) (j * u + u) := by
        simpa using hne
      refine ⟨il, fun x => ?_⟩
      rw [ig x, hju]
      by_cases h1 : x < j * u
      · rw [if_pos h1, if_pos (by omega)]
      · by_cases h2 : x < j * u + u
        · rw [if_neg h1, if_pos h2]
          have := congrArg (fun l => l[x - j * u]?) heq
          simp only [sliceN_get, if_pos (show x - j * u < u by omega)] at this
          have e : j * u + (x - j * u) = x := by omega
          rw [e] at this; exact this
        · rw [if_neg h1, if_neg h2]

theorem div_bounds (a u : Nat) (hu : 0 < u) : a / u * u ≤ a ∧ a < a / u * u + u := by
  have h1 := Nat.div_add_mod a u
  have h2 := Nat.mod_lt a hu
  have h3 : a / u * u = u * (a / u) := Nat.mul_comm _ _
  omega

/-- **write-back is exact**: the units that differ, written in order, turn `m` into `m'` -/
theorem apply_diff (u : Nat) (hu : 0 < u) (m m' : Bytes) (hl : m.length = m'.length) :
    apply m (diffUnits u m m') = m' := by
  obtain ⟨_, ig⟩ := apply_diff_prefix u hu m m' hl ((m.length + u - 1) / u)
  rw [diffUnits_eq_unitCmds]
  apply List.ext_getElem?
  intro x
  rw [ig x]
  split
  · rfl
  · -- the boundary lies behind the end of both images
    have := div_bounds (m.length + u - 1) u hu
    rw [List.getElem?_eq_none (show m.length ≤ x by omega), List.getElem?_eq_none (show m'.length ≤ x by omega)]

theorem diffUnits_self (u : Nat) (m : Bytes) : diffUnits u m m = [] := by
  unfold diffUnits
  simp

/-- the new length field reaches the tag with a single command: 1-byte format, or the three
bytes `FF hi lo` lie in one write unit -/
def OneCmd (c : Cfg) (L : Layout) (n : Nat) : Prop :=
  n < 255 ∨ (L.off + 1) / c.unit = (L.off + 3) / c.unit

instance (c : Cfg) (L : Layout) (n : Nat) : Decidable (OneCmd c L n) := by unfold OneCmd; infer_instance

theorem writeCmdsFrom_eq {c C L data m1 m2 m3a m3} (w : WriteSpec c C L data m1 m2 m3a m3) (T : Bytes) :
    writeCmdsFrom c T C L data =
      ⟨diffUnits c.unit T m1 ++ diffUnits c.unit m1 m2 ++ diffUnits c.unit m2 m3a ++ diffUnits c.unit m3a m3,
        .ok ()⟩ := by
  unfold writeCmdsFrom; rw [w.p1]; simp only; rw [w.p2]; simp only; rw [w.p3a]; simp only; rw [w.p3]

/-- a fresh object: the reader's belief and its cache are the image itself -/
theorem writeCmds_fresh (c : Cfg) (m : Bytes) (L : Layout) (data : Bytes) :
    writeCmds c m L data = writeCmdsFrom c m m L data := rfl

theorem writeCmds_eq {c m L data m1 m2 m3a m3} (w : WriteSpec c m L data m1 m2 m3a m3) :
    writeCmds c m L data =
      ⟨diffUnits c.unit m m1 ++ diffUnits c.unit m1 m2 ++ diffUnits c.unit m2 m3a ++ diffUnits c.unit m3a m3,
        .ok ()⟩ :=
  writeCmdsFrom_eq w m

theorem WriteSpec.writeNdef_eq {c m L data m1 m2 m3a m3} (w : WriteSpec c m L data m1 m2 m3a m3) :
    writeNdef c m L data = .ok ⟨m1, m2, m3a, m3⟩ := by
  unfold writeNdef; rw [w.p1, Py.bind_ok, w.p2, Py.bind_ok, w.p3a, Py.bind_ok, w.p3, Py.bind_ok]

theorem WriteSpec.apply_from {c C L data m1 m2 m3a m3} (w : WriteSpec c C L data m1 m2 m3a m3) (T : Bytes)
    (hTl : T.length = C.length) (hu : 0 < c.unit) :
    apply T (diffUnits c.unit T m1 ++ diffUnits c.unit m1 m2 ++ diffUnits c.unit m2 m3a ++ diffUnits c.unit m3a m3)
      = m3 := by
  have hl1 := w.len1
  have hl2 := w.len2
  have hl3 := w.len3
  have hl3a := w.len3a
  rw [apply_append, apply_append, apply_append, apply_diff _ hu _ _ (by omega), apply_diff _ hu _ _ (by omega),
    apply_diff _ hu _ _ (by omega), apply_diff _ hu _ _ (by omega)]

theorem WriteSpec.setOctets_eq {c m L data m1 m2 m3a m3} (w : WriteSpec c m L data m1 m2 m3a m3)
    (hw : L.writeable = true) (hcap : (data.length : Int) ≤ L.cap) (hu : 0 < c.unit) :
    setOctets c m L data =
      ⟨diffUnits c.unit m m1 ++ diffUnits c.unit m1 m2 ++ diffUnits c.unit m2 m3a ++ diffUnits c.unit m3a m3,
        .ok ()⟩
    ∧ apply m (setOctets c m L data).cmds = m3 := by
  have he : setOctets c m L data = writeCmds c m L data := by
    unfold setOctets; rw [if_neg (by simp [hw]), if_neg (by omega)]
  rw [writeCmds_eq w] at he
  exact ⟨he, by rw [he]; exact w.apply_from m rfl hu⟩

theorem write_state (c : Cfg) (m : Bytes) (L : Layout) (data : Bytes)
    (hread : readNdef c m = .ok (some L)) (hwf : WF c m L) (hcap : (data.length : Int) ≤ L.cap)
    (hw : L.writeable = true) :
    (setOctets c m L data).res = .ok ()
    ∧ readNdef c (apply m (setOctets c m L data).cmds) = .ok (some { L with ndef := data }) := by
  obtain ⟨m1, m2, m3a, m3, w, hnew⟩ := roundtrip c m L data ((readNdef_some c m L).1 hread) hwf hcap
  obtain ⟨hcm, hap⟩ := w.setOctets_eq hw hcap hwf.2.1
  exact ⟨by rw [hcm], by rw [hap]; exact (readNdef_some c m3 _).2 hnew⟩

theorem take_filterMap_range {α} (f : Nat → Option α) (n k : Nat) :
    ∃ j, ((List.range n).filterMap f).take k = (List.range j).filterMap f := by
  induction n with
  | zero => exact ⟨0, by simp⟩
  | succ n ih =>
    rw [List.range_succ, List.filterMap_append]
    by_cases hk : k ≤ ((List.range n).filterMap f).length
    · rw [List.take_append_of_le_length hk]; exact ih
    · rw [List.take_append, List.take_of_length_le (by omega)]
      cases hf : f n with
      | none => exact ⟨n, by simp [hf]⟩
      | some v =>
        refine ⟨n + 1, ?_⟩
        rw [List.range_succ, List.filterMap_append]
        have : List.filterMap f [n] = [v] := by simp [hf]
        rw [this]
        congr 1
        apply List.take_of_length_le
        simp; omega

theorem take_unitCmds (u : Nat) (A B : Bytes) (n k : Nat) :
    ∃ j, (unitCmds u A B n).take k = unitCmds u A B j :=
  take_filterMap_range _ n k

theorem prefix_thr (u : Nat) (hu : 0 < u) (A B : Bytes) (hl : A.length = B.length) (k : Nat) :
    Thr u A B (apply A ((diffUnits u A B).take k)) := by
  obtain ⟨j, hj⟩ := take_unitCmds u A B ((A.length + u - 1) / u) k
  rw [diffUnits_eq_unitCmds, hj]
  exact ⟨j, apply_diff_prefix u hu A B hl j⟩

theorem prefix_threshold (u : Nat) (hu : 0 < u) (m m' : Bytes) (hl : m.length = m'.length) (k : Nat) :
    ∃ j, ∀ x : Nat, (apply m ((diffUnits u m m').take k))[x]? = if x < j * u then m'[x]? else m[x]? := by
  obtain ⟨j, hj⟩ := prefix_thr u hu m m' hl k
  exact ⟨j, hj.2⟩

theorem Thr.length {u : Nat} {A B img : Bytes} (h : Thr u A B img) : img.length = A.length := by
  obtain ⟨_, hl, _⟩ := h; exact hl

theorem Thr.get_both {u : Nat} {A B img : Bytes} (h : Thr u A B img) {x : Nat} {v : Option Nat}
    (ha : A[x]? = v) (hb : B[x]? = v) : img[x]? = v := by
  obtain ⟨j, _, hj⟩ := h
  rw [hj x]; split <;> assumption

/-- **prefix mixture**: after any prefix of a write-back every byte is old or new, for every unit size -/
theorem prefix_mix (u : Nat) (m m' : Bytes) (hl : m.length = m'.length) (k : Nat) :
    (apply m ((diffUnits u m m').take k)).length = m.length ∧
      ∀ x : Nat, (apply m ((diffUnits u m m').take k))[x]? = m[x]?
        ∨ (apply m ((diffUnits u m m').take k))[x]? = m'[x]? := by
  by_cases hu : 0 < u
  · obtain ⟨j, hl', hj⟩ := prefix_thr u hu m m' hl k
    exact ⟨hl', fun x => by rw [hj x]; split; exact Or.inr rfl; exact Or.inl rfl⟩
  · -- unit 0: no command at all
    have : diffUnits u m m' = [] := by
      have : u = 0 := by omega
      subst this; simp [diffUnits]
    rw [this, List.take_nil]; exact ⟨rfl, fun _ => Or.inl rfl⟩

/-- a write-back that has not got beyond the first address at which the images differ has changed nothing -/
theorem Thr.low {u : Nat} {A B img : Bytes} (h : Thr u A B img) (lo : Nat) (hd : ∀ x, x < lo → B[x]? = A[x]?) :
    img = A ∨ ∃ j, lo < j * u ∧ ThrAt u j A B img := by
  obtain ⟨j, hlen, hj⟩ := h
  by_cases h1 : j * u ≤ lo
  · refine Or.inl (List.ext_getElem? fun x => ?_)
    rw [hj x]; split
    · exact hd x (by omega)
    · rfl
  · exact Or.inr ⟨j, by omega, hlen, hj⟩

theorem Thr.cases {u : Nat} {A B img : Bytes} (h : Thr u A B img) (lo hi : Nat)
    (hd : ∀ x, B[x]? ≠ A[x]? → lo ≤ x ∧ x < hi) :
    img = A ∨ img = B ∨ ∃ j, lo < j * u ∧ j * u < hi ∧ ThrAt u j A B img := by
  rcases h.low lo (fun x hx => Classical.byContradiction fun hne => by have := hd x hne; omega)
    with e | ⟨j, h1, hlen, hj⟩
  · exact Or.inl e
  · by_cases h2 : hi ≤ j * u
    · -- and one that has reached the last such address is complete
      refine Or.inr (Or.inl (List.ext_getElem? fun x => ?_))
      rw [hj x]; split
      · rfl
      · exact Classical.byContradiction fun hne => by have := hd x (fun e => hne e.symm); omega
    · exact Or.inr (Or.inr ⟨j, h1, by omega, hlen, hj⟩)

theorem Head.thr {m : Bytes} {L : Layout} {u : Nat} {A B img : Bytes} (h : Thr u A B img) (ha : Head m L A)
    (hb : Head m L B) : Head m L img :=
  ⟨h.length.trans ha.1, fun x hx => h.get_both (ha.2 x hx) (hb.2 x hx)⟩

theorem take_two {α} (a b : List α) (k : Nat) :
    (a ++ b).take k = a.take k ∨ ∃ k', (a ++ b).take k = a ++ b.take k' := by
  by_cases h : k ≤ a.length
  · left; exact List.take_append_of_le_length h
  · right; exact ⟨k - a.length, by rw [List.take_append, List.take_of_length_le (by omega)]⟩

theorem cut_append (P : Bytes → Prop) (T : Bytes) (a b : List Cmd) (ha : ∀ k, P (apply T (a.take k)))
    (hb : ∀ k, P (apply (apply T a) (b.take k))) (k : Nat) : P (apply T ((a ++ b).take k)) := by
  rcases take_two a b k with h | ⟨k', h⟩
  · rw [h]; exact ha k
  · rw [h, apply_append]; exact hb k'

/-- an image that equals `m` in front of the length byte and has length byte 0 reads as the
same layout with an empty message -/
theorem empty_view (c : Cfg) (m img : Bytes) (L : Layout) (hr : ReadsAs c m L) (hwf : WF c m L)
    (hb : ∀ x, x < L.off + 1 → img[x]? = m[x]?) (h0 : img[L.off + 1]? = some 0) :
    ReadsAs c img { L with ndef := [] } := by
  refine hr.of_head hwf hb [] ⟨(0, L.off + 1 + 1), ?_, rfl⟩
  unfold readLen
  rw [(rd_ok_iff c img _ _).2 h0, Py.bind_ok, if_neg (by omega)]

/-- an image that equals `m` in front of the length field and whose 3-byte length field reads
`FF 00 00` shows an empty message -/
theorem empty3_view (c : Cfg) (m img : Bytes) (L : Layout) (hr : ReadsAs c m L) (hwf : WF c m L)
    (hb : ∀ x, x < L.off + 1 → img[x]? = m[x]?) (h1 : img[L.off + 1]? = some 255)
    (h2 : img[L.off + 2]? = some 0) (h3 : img[L.off + 3]? = some 0) :
    ReadsAs c img { L with ndef := [] } := by
  refine hr.of_head hwf hb [] ⟨(0 * 256 + 0, L.off + 1 + 3), ?_, rfl⟩
  unfold readLen
  rw [(rd_ok_iff c img _ _).2 h1, Py.bind_ok, if_pos rfl, (rd_ok_iff c img _ _).2 h2, Py.bind_ok,
    (rd_ok_iff c img _ _).2 h3, Py.bind_ok]

/-- what the preparation step stores in the two extra length bytes -/
theorem pre3_zero (u : Nat) (m2 : Bytes) (off n : Nat) (hn : ¬ n < 255)
    (hz : (off + 1) / u ≠ (off + 2) / u ∧ (off + 2) / u = (off + 3) / u) (hl : off + 3 < m2.length) :
    (pre3 u m2 off n)[off + 2]? = some 0 ∧ (pre3 u m2 off n)[off + 3]? = some 0 := by
  unfold pre3; rw [if_neg hn, if_pos hz]
  exact ⟨by rw [get_set_ne _ _ _ _ (by omega)]; exact get_set_eq _ _ _ (by omega),
         get_set_eq _ _ _ (by simp; omega)⟩

/-- outside the zero case, length bytes in a later unit than `FF` already hold their final value -/
theorem pre3_final (u : Nat) (m2 : Bytes) (off n : Nat) (hn : ¬ n < 255)
    (hz : ¬ ((off + 1) / u ≠ (off + 2) / u ∧ (off + 2) / u = (off + 3) / u)) (hl : off + 3 < m2.length) :
    ((off + 2) / u ≠ (off + 1) / u → (pre3 u m2 off n)[off + 2]? = some (n / 256))
    ∧ ((off + 3) / u ≠ (off + 1) / u → (pre3 u m2 off n)[off + 3]? = some (n % 256)) := by
  unfold pre3; rw [if_neg hn, if_neg hz]
  simp only
  refine ⟨fun h2 => ?_, fun h3 => ?_⟩
  · rw [if_pos h2]
    split
    · rw [get_set_ne _ _ _ _ (by omega)]; exact get_set_eq _ _ _ (by omega)
    · exact get_set_eq _ _ _ (by omega)
  · rw [if_pos h3]
    split
    · exact get_set_eq _ _ _ (by simp; omega)
    · exact get_set_eq _ _ _ (by omega)

theorem WriteSpec.cuts {c C L data m1 m2 m3a m3} (w : WriteSpec c C L data m1 m2 m3a m3) (hu : 0 < c.unit) (T : Bytes)
    (hTl : T.length = C.length) (P : Bytes → Prop)
    (h1 : ∀ img, Thr c.unit T m1 img → P img) (h2 : ∀ img, Thr c.unit m1 m2 img → P img)
    (h3a : ∀ img, Thr c.unit m2 m3a img → P img) (h3 : ∀ img, Thr c.unit m3a m3 img → P img) (k : Nat) :
    P (apply T ((writeCmdsFrom c T C L data).cmds.take k)) := by
  have hl1 := w.len1
  have hl2 := w.len2
  have hl3 := w.len3
  have hl3a := w.len3a
  rw [writeCmdsFrom_eq w T]
  refine cut_append P T _ _ (cut_append P T _ _ (cut_append P T _ _ (fun k => ?_) (fun k => ?_)) (fun k => ?_)) (fun k => ?_) k
  · exact h1 _ (prefix_thr _ hu _ _ (by omega) k)
  · rw [apply_diff _ hu _ _ (by omega)]; exact h2 _ (prefix_thr _ hu _ _ (by omega) k)
  · rw [apply_append, apply_diff _ hu _ _ (by omega), apply_diff _ hu _ _ (by omega)]
    exact h3a _ (prefix_thr _ hu _ _ (by omega) k)
  · rw [apply_append, apply_append, apply_diff _ hu _ _ (by omega), apply_diff _ hu _ _ (by omega),
      apply_diff _ hu _ _ (by omega)]
    exact h3 _ (prefix_thr _ hu _ _ (by omega) k)

/-- `T` is what the memory reader believes the tag holds, `C` its cache, `m` the image the layout was read from -/
theorem WriteSpec.cut {c C L data m1 m2 m3a m3} (w : WriteSpec c C L data m1 m2 m3a m3) {m : Bytes} (T : Bytes)
    (hr : ReadsAs c m L) (hwf : WF c m L) (hT : Head m L T) (hC : Head m L C) (k : Nat) :
    apply T ((writeCmdsFrom c T C L data).cmds.take k) = T
    ∨ ReadsAs c (apply T ((writeCmdsFrom c T C L data).cmds.take k)) { L with ndef := [] }
    ∨ apply T ((writeCmdsFrom c T C L data).cmds.take k) = m3 := by
  have hu : 0 < c.unit := hwf.2.1
  obtain ⟨H1, H2, H3a, H3⟩ := w.heads hC
  have hfit := w.fits
  have har := w.area
  have hl2 := w.len2
  have hh := hdrLen_ge data.length
  have z1 : m1[L.off + 1]? = some 0 := by rw [w.m1_eq]; exact get_set_eq _ _ _ (by omega)
  have s2 := w.steps.s2
  have s3 := w.steps.s3
  have z2 : m2[L.off + 1]? = some 0 := by rw [s2.outside _ fun h => absurd h.1 (by omega)]; exact z1
  have z3a : m3a[L.off + 1]? = some 0 := by
    rw [w.m3a_eq, pre3_get _ _ _ _ _ (by omega) (by omega)]; exact z2
  -- a write-back between two images with length byte 0 shows an empty message throughout
  have empty : ∀ {A B img}, Head m L A → Head m L B → A[L.off + 1]? = some 0 → B[L.off + 1]? = some 0 →
      Thr c.unit A B img → ReadsAs c img { L with ndef := [] } :=
    fun ha hb ha0 hb0 h => empty_view c m _ L hr hwf (Head.thr h ha hb).2 (h.get_both ha0 hb0)
  refine w.cuts hu T (hT.1.trans hC.1.symm) (fun img => img = T ∨ ReadsAs c img { L with ndef := [] } ∨ img = m3)
    (fun img h => ?_) (fun img h => Or.inr (Or.inl (empty H1 H2 z1 z2 h)))
    (fun img h => Or.inr (Or.inl (empty H2 H3a z2 z3a h))) (fun img h => ?_) k
  · -- `T` to the image with length byte 0: the boundary lies in front of the length byte or behind it
    rcases h.low (L.off + 1) (fun x hx => by rw [H1.2 x hx, hT.2 x hx]) with e | ⟨j, hlo, hj⟩
    · exact Or.inl e
    · refine Or.inr (Or.inl (empty_view c m _ L hr hwf (Head.thr h hT H1).2 ?_))
      rw [hj.2 _, if_pos hlo]; exact z1
  · -- the final length field: the prepared image, the final image, or a boundary inside the 3-byte field
    rcases h.cases _ _ (fun x => s3.of_ne) with e | e | ⟨j, hlo, hhi, hj⟩
    · rw [e]; exact Or.inr (Or.inl (empty_view c m _ L hr hwf H3a.2 z3a))
    · exact Or.inr (Or.inr e)
    · have hn : ¬ data.length < 255 := fun hn => by have := hdrLen_short hn; omega
      have h4 : hdrLen data.length = 4 := hdrLen_long hn
      -- from the boundary on, every byte lies in a later unit than `FF`
      have hlater : ∀ x, j * c.unit ≤ x → x / c.unit ≠ (L.off + 1) / c.unit := fun x hx => by
        have a1 : (L.off + 1) / c.unit < j := (Nat.div_lt_iff_lt_mul hu).2 hlo
        have a2 : j ≤ x / c.unit := (Nat.le_div_iff_mul_le hu).2 hx
        omega
      by_cases hz : (L.off + 1) / c.unit ≠ (L.off + 2) / c.unit ∧ (L.off + 2) / c.unit = (L.off + 3) / c.unit
      · -- `FF | hi lo`: the field reads FF 00 00
        obtain ⟨p2, p3⟩ := pre3_zero c.unit m2 L.off data.length hn hz (by omega)
        rw [← w.m3a_eq] at p2 p3
        have hB2 : j * c.unit ≤ L.off + 2 := by
          apply Classical.byContradiction; intro hcon
          have a1 : (L.off + 2) / c.unit < j := (Nat.div_lt_iff_lt_mul hu).2 (by omega)
          have a2 : j ≤ (L.off + 3) / c.unit := (Nat.le_div_iff_mul_le hu).2 (by omega)
          omega
        have e1 := (w.lenField3 hn).1
        refine Or.inr (Or.inl (empty3_view c m _ L hr hwf (Head.thr h H3a H3).2 ?_ ?_ ?_))
        · rw [hj.2 _, if_pos (by omega)]; exact e1
        · rw [hj.2 _, if_neg (by omega)]; exact p2
        · rw [hj.2 _, if_neg (by omega)]; exact p3
      · -- otherwise the bytes behind the boundary hold their final value already
        obtain ⟨f2, f3⟩ := pre3_final c.unit m2 L.off data.length hn hz (by omega)
        rw [← w.m3a_eq] at f2 f3
        refine Or.inr (Or.inr (List.ext_getElem? fun x => ?_))
        rw [hj.2 x]; split
        · rfl
        · apply Classical.byContradiction; intro hne
          have hr' := s3.of_ne (x := x) (fun e => hne e.symm)
          have hc : x = L.off + 2 ∨ x = L.off + 3 := by omega
          rcases hc with e | e <;> subst e
          · exact hne ((f2 (hlater _ (by omega))).trans (w.lenField3 hn).2.1.symm)
          · exact hne ((f3 (hlater _ (by omega))).trans (w.lenField3 hn).2.2.symm)

/-- **cut safety**: the reader's view after any prefix of the command list of a write -/
theorem cut_safe (c : Cfg) (m : Bytes) (L : Layout) (data : Bytes)
    (hr : ReadsAs c m L) (hwf : WF c m L) (hcap : (data.length : Int) ≤ L.cap) (k : Nat) :
    ReadsAs c (apply m ((writeCmds c m L data).cmds.take k)) L
    ∨ ReadsAs c (apply m ((writeCmds c m L data).cmds.take k)) { L with ndef := [] }
    ∨ ReadsAs c (apply m ((writeCmds c m L data).cmds.take k)) { L with ndef := data } := by
  obtain ⟨m1, m2, m3a, m3, w⟩ := write_spec c m L data hr.cap hwf.2.2.2.1 hcap
  rw [writeCmds_fresh]
  rcases w.cut m hr hwf (Head.refl m L) (Head.refl m L) k with h | h | h
  · rw [h]; exact Or.inl hr
  · exact Or.inr (Or.inl h)
  · rw [h]; exact Or.inr (Or.inr (w.reads_new hr hwf (Head.refl m L)))

/-- bytes of the NDEF TLV behind its tag byte that lie inside the data area and are not reserved -/
def Area (L : Layout) (x : Nat) : Prop := L.off < x ∧ x < L.areaEnd ∧ inSkip L.skip x = false

theorem WriteSpec.chg {c m L data m1 m2 m3a m3} (w : WriteSpec c m L data m1 m2 m3a m3) (hwf : WF c m L)
    (h3 : Hdr3 L data.length) :
    Chg m m1 (Area L) ∧ Chg m1 m2 (Area L) ∧ Chg m2 m3a (Area L) ∧ Chg m3a m3 (Area L) := by
  have hfit := w.fits
  have hh := hdrLen_ge data.length
  have hs1 := hwf.2.2.2.2.2
  have hfield : ∀ x, L.off + 1 ≤ x ∧ x < L.off + hdrLen data.length → Area L x := by
    intro x ⟨h1, h2⟩
    by_cases hn : data.length < 255
    · have : hdrLen data.length = 2 := hdrLen_short hn
      have : x = L.off + 1 := by omega
      subst this; exact ⟨by omega, by omega, hs1⟩
    · have h4 : hdrLen data.length = 4 := hdrLen_long hn
      obtain ⟨s2, s3⟩ := h3 (by omega)
      have : x = L.off + 1 ∨ x = L.off + 2 ∨ x = L.off + 3 := by omega
      rcases this with e | e | e <;> subst e
      · exact ⟨by omega, by omega, hs1⟩
      · exact ⟨by omega, by omega, s2⟩
      · exact ⟨by omega, by omega, s3⟩
  exact ⟨w.steps.s1.mono fun x e => hfield x ⟨by omega, by omega⟩,
    w.steps.s2.mono fun x h => ⟨by omega, h.2.1, h.2.2⟩, w.steps.s3a.mono hfield, w.steps.s3.mono hfield⟩

/-- every command of a write-back covers a byte in which the two images differ -/
theorem Chg.covers {m m' : Bytes} {P : Nat → Prop} (h : Chg m m' P) (u : Nat) (cmd : Cmd)
    (hc : cmd ∈ diffUnits u m m') : ∃ x, cmd.1 ≤ x ∧ x < cmd.1 + cmd.2.length ∧ P x := by
  obtain ⟨i, rfl, hne⟩ := mem_diffUnits u m m' cmd hc
  obtain ⟨k, hk, hd⟩ := sliceN_ne m m' (i * u) u hne
  refine ⟨i * u + k, by simp, ?_, h.2 _ (fun e => hd e.symm)⟩
  have hl := h.1
  have hlt : i * u + k < m'.length := by
    apply Classical.byContradiction; intro hge
    apply hd
    have e1 : m[i * u + k]? = none := List.getElem?_eq_none (by omega)
    have e2 : m'[i * u + k]? = none := List.getElem?_eq_none (by omega)
    rw [e1, e2]
  simp only [length_sliceN]; omega

theorem Chg.confined {m m' : Bytes} {P : Nat → Prop} (h : Chg m m' P) (u : Nat) :
    m'.length = m.length ∧ (∀ x, ¬ P x → m'[x]? = m[x]?)
    ∧ ∀ cmd ∈ diffUnits u m m', ∃ x, cmd.1 ≤ x ∧ x < cmd.1 + cmd.2.length ∧ P x :=
  ⟨h.1, h.outside, h.covers u⟩

theorem wipeLoop_spec (c : Cfg) (s : Skip) (v : Nat) (n a : Nat) (m m' : Bytes)
    (h : wipeLoop c s v n a m = .ok m') :
    Chg m m' fun x => a ≤ x ∧ x < a + n ∧ inSkip s x = false := by
  induction n generalizing a m with
  | zero => simp only [wipeLoop] at h; cases h; exact Chg.refl _ _
  | succ n ih =>
    simp only [wipeLoop] at h
    split at h
    · exact (ih _ _ h).mono fun x hx => ⟨by omega, by omega, hx.2.2⟩
    · rename_i hs
      obtain ⟨mm, hw, h⟩ := Py.bind_eq_ok.1 h
      obtain ⟨hlt, rfl⟩ := wr_inv c m mm a v hw
      exact ((Chg.set m a v).mono fun x e => ⟨by omega, by omega, by rw [e]; simpa using hs⟩).trans
        ((ih _ _ h).mono fun x hx => ⟨by omega, by omega, hx.2.2⟩)

theorem formatT2_spec (m m' : Bytes) (L : Layout) (wipe : Option Nat)
    (hs1 : inSkip L.skip (L.off + 1) = false) (h1 : L.off + 1 < L.areaEnd)
    (h : formatT2 m L wipe = .ok m') : Chg m m' (Area L) := by
  unfold formatT2 at h
  obtain ⟨m1, hw1, h⟩ := Py.bind_eq_ok.1 h
  obtain ⟨hlt1, rfl⟩ := wr_inv _ _ _ _ _ hw1
  obtain ⟨m2, hm2, h⟩ := Py.bind_eq_ok.1 h
  have htge := nextFree_ge L.skip (L.off + 2)
  have c1 : Chg m (m.set (L.off + 1) 0) (Area L) :=
    (Chg.set _ _ _).mono fun x e => ⟨by omega, by omega, by rw [e]; exact hs1⟩
  have c2 : Chg m m2 (Area L) := by
    split at hm2
    · rename_i ht
      obtain ⟨_, rfl⟩ := wr_inv _ _ _ _ _ hm2
      exact c1.trans ((Chg.set _ _ _).mono fun x e => ⟨by omega, by omega, by rw [e]; exact nextFree_not_skip _ _⟩)
    · cases hm2; exact c1
  cases wipe with
  | none => simp only at h; cases h; exact c2
  | some w =>
    simp only at h
    exact c2.trans ((wipeLoop_spec _ _ _ _ _ _ _ h).mono fun x hx => ⟨by omega, by omega, hx.2.2⟩)

end NfcVerif.Tlv
