import NfcVerif.Lemmas.SapSpec
/-!
# C17 - service discovery with several requests / answers per SNL PDU

`ServiceDiscovery.enqueue` answers a LIST of SDREQs, `ServiceDiscovery.dequeue` packs lists
of answers and requests into SNL PDUs, several `resolve()` calls wait at the same time.
Everything here is for arbitrary lists (any mix of bound / unbound / well-known names in
any order, repeated names, repeated transaction identifiers).

Each loop gets a closed form (`sdRequests_eq`, `sdResponses_cache`, `sdDequeue_eq` through the
greedy packing `pack`, `sdAskAll_eq`).  On a link where only service discovery has something to
send (`Quiet`) a request and its answer cross in three rounds (`pump_round_trip`); with the closed
forms this gives what several simultaneous calls return (`resolveMany_quiet`).
-/
namespace NfcVerif.Sap
open NfcVerif

/-- the answer `ServiceDiscovery.enqueue` owes for ONE request: it looks at nothing but the
request itself and the service name table -/
def sdAnswer (snl : List (Bytes × Nat)) (q : Nat × Bytes) : Nat × Nat := (q.1, (snl.lookup q.2).getD 0)

/-- `csn, sap = sap >> 6 & 1, sap & 63; if csn: sap = 1` -/
def decodeSap (v : Nat) : Nat := if (v / 64) % 2 = 1 then 1 else v % 64

theorem decodeSap_lt {v : Nat} (h : v < 64) : decodeSap v = v := by
  unfold decodeSap
  rw [Nat.div_eq_of_lt h, Nat.mod_eq_of_lt h]; simp

theorem sdRequests_eq (snl : List (Bytes × Nat)) : ∀ (rq : List (Nat × Bytes)) (sd : Sd),
    sdRequests snl sd rq = { sd with sdres := sd.sdres ++ rq.map (sdAnswer snl) }
  | [], sd => by simp [sdRequests]
  | (tid, nm) :: t, sd => by
    simp only [sdRequests]
    rw [sdRequests_eq snl t]
    simp [sdAnswer, List.append_assoc]

theorem dictSet_lookup {κ ν : Type} [BEq κ] [LawfulBEq κ] (k : κ) (v : ν) (l : List (κ × ν)) :
    (dictSet k v l).lookup k = some v := by
  induction l with
  | nil => simp [dictSet]
  | cons x t ih =>
    obtain ⟨k2, v2⟩ := x
    simp only [dictSet]
    split
    · rename_i he; simp [List.lookup, eq_of_beq he]
    · rename_i hne
      have : (k == k2) = false := by
        rw [Bool.eq_false_iff]; exact fun h => hne (by rw [eq_of_beq h]; exact beq_self_eq_true _)
      simp only [List.lookup, this]; exact ih

theorem dictSet_lookup_ne {κ ν : Type} [BEq κ] [LawfulBEq κ] {k k' : κ} (v : ν) (h : k' ≠ k) (l : List (κ × ν)) :
    (dictSet k v l).lookup k' = l.lookup k' := by
  have hk : (k' == k) = false := by rw [Bool.eq_false_iff]; exact fun he => h (eq_of_beq he)
  induction l with
  | nil => simp only [dictSet, List.lookup, hk]
  | cons x t ih =>
    obtain ⟨k2, v2⟩ := x
    simp only [dictSet]
    split
    · rename_i he; cases eq_of_beq he; simp only [List.lookup, hk]
    · simp only [List.lookup]
      split
      · rfl
      · exact ih

/-- the answers touch only the cache and the identifier pool -/
theorem sdResponses_rest : ∀ (rs : List (Nat × Nat)) (sd : Sd),
    (sdResponses sd rs).sdres = sd.sdres ∧ (sdResponses sd rs).sent = sd.sent ∧
    (sdResponses sd rs).sdreq = sd.sdreq ∧ (sdResponses sd rs).dmpdu = sd.dmpdu
  | [], sd => ⟨rfl, rfl, rfl, rfl⟩
  | (tid, v) :: t, sd => by
    simp only [sdResponses]
    split
    · exact sdResponses_rest t sd
    · exact sdResponses_rest t _

/-- the answers of `rs` that belong to the name `nm` (their transaction identifier was used for `nm`) -/
def answersFor (sent : List (Nat × Bytes)) (nm : Bytes) (rs : List (Nat × Nat)) : List (Nat × Nat) :=
  rs.filter fun r => sent.lookup r.1 == some nm

/-- cache after a list of answers, pointwise: the entry of a name is the (decoded) value of
the LAST answer whose identifier was used for that name; a name no answer belongs to keeps its entry -/
theorem sdResponses_cache (nm : Bytes) : ∀ (rs : List (Nat × Nat)) (sd : Sd),
    (sdResponses sd rs).cache.lookup nm =
      match (answersFor sd.sent nm rs).getLast? with
      | some r => some (decodeSap r.2)
      | none => sd.cache.lookup nm
  | [], sd => by simp [sdResponses, answersFor]
  | (tid, v) :: t, sd => by
    simp only [sdResponses]
    cases hs : sd.sent.lookup tid with
    | none =>
      simp only
      rw [sdResponses_cache nm t sd]
      simp [answersFor, List.filter, hs]
    | some nm' =>
      simp only
      rw [sdResponses_cache nm t]
      simp only [answersFor, List.filter, hs]
      by_cases he : nm' = nm
      · subst he
        simp only [beq_self_eq_true]
        cases hl : (List.filter (fun r => sd.sent.lookup r.1 == some nm') t).getLast? with
        | some r => simp [List.getLast?_cons, hl]
        | none =>
          have : List.filter (fun r => sd.sent.lookup r.1 == some nm') t = [] := by
            simpa [List.getLast?_eq_none_iff] using hl
          simp only [this, List.getLast?_singleton]
          rw [dictSet_lookup]; rfl
      · have : (some nm' == some nm) = false := by simpa using he
        simp only [this]
        cases hl : (List.filter (fun r => sd.sent.lookup r.1 == some nm) t).getLast? with
        | some r => rfl
        | none => simp only; exact dictSet_lookup_ne _ (fun h => he h.symm) _

/-- the transaction identifiers go back to the pool exactly for the answers that belong to a request -/
theorem sdResponses_tids : ∀ (rs : List (Nat × Nat)) (sd : Sd),
    (sdResponses sd rs).tids = sd.tids ++ (rs.filter fun r => (sd.sent.lookup r.1).isSome).map (·.1)
  | [], sd => by simp [sdResponses]
  | (tid, v) :: t, sd => by
    simp only [sdResponses]
    cases hs : sd.sent.lookup tid with
    | none => simp only; rw [sdResponses_tids t sd]; simp [List.filter, hs]
    | some nm' => simp only; rw [sdResponses_tids t]; simp [List.filter, hs, List.append_assoc]

/-- size of one SDREQ TLV -/
def reqSize (q : Nat × Bytes) : Nat := 3 + q.2.length

/-- `sent[tid] = name` for a list of requests, in order -/
def sentAll (sent : List (Nat × Bytes)) (l : List (Nat × Bytes)) : List (Nat × Bytes) :=
  l.foldl (fun s q => dictSet q.1 q.2 s) sent

theorem sentAll_append (sent : List (Nat × Bytes)) (l m : List (Nat × Bytes)) :
    sentAll sent (l ++ m) = sentAll (sentAll sent l) m := by simp [sentAll, List.foldl_append]

/-- the request loop of `ServiceDiscovery.dequeue` as a function of the queue and the room `m`:
(what goes into the PDU, what stays) -/
def pack : Nat → List (Nat × Bytes) → List (Nat × Bytes) × List (Nat × Bytes)
  | _, [] => ([], [])
  | m, q :: t =>
    if reqSize q > m then ((pack m t).1, q :: (pack m t).2)
    else (q :: (pack (m - reqSize q) t).1, (pack (m - reqSize q) t).2)

/-- a request that does not fit is rotated to the back of the queue, behind the part `r` not yet looked at -/
theorem sdTakeReq_eq : ∀ (l : List (Nat × Bytes)) (sd : Sd) (miu : Nat) (acc r : List (Nat × Bytes)),
    sd.sdreq = l ++ r →
    sdTakeReq l.length sd miu acc =
      ({ sd with sdreq := r ++ (pack miu l).2, sent := sentAll sd.sent (pack miu l).1 }, acc ++ (pack miu l).1)
  | [], sd, miu, acc, r, h => by
    simp only [List.nil_append] at h
    simp only [List.length_nil, sdTakeReq, pack, sentAll, List.foldl_nil, List.append_nil, ← h]
  | (tid, nm) :: t, sd, miu, acc, r, h => by
    simp only [List.length_cons, sdTakeReq, h, List.cons_append, pack, reqSize]
    split
    · rename_i hc
      rw [sdTakeReq_eq t _ miu acc (r ++ [(tid, nm)]) (by simp)]
      simp [hc]
    · rename_i hc
      rw [sdTakeReq_eq t _ _ _ r rfl]
      simp [hc, sentAll]

theorem pack_perm : ∀ (m : Nat) (l : List (Nat × Bytes)), ((pack m l).1 ++ (pack m l).2).Perm l
  | _, [] => .nil
  | m, q :: t => by
    simp only [pack]
    split
    · exact List.perm_middle.trans ((pack_perm m t).cons q)
    · exact (pack_perm _ t).cons q

theorem pack_fit : ∀ (m : Nat) (l : List (Nat × Bytes)), (l.map reqSize).sum ≤ m → pack m l = (l, [])
  | _, [], _ => rfl
  | m, q :: t, h => by
    simp only [List.map_cons, List.sum_cons] at h
    simp only [pack]
    rw [if_neg (by omega), pack_fit _ t (by omega)]

theorem sdDequeue_eq (sd : Sd) (h : sd.sdres ≠ [] ∨ sd.sdreq ≠ []) :
    sdDequeue sd = some (.snl (pack (128 - 4 * (sd.sdres.take 32).length) sd.sdreq).1 (sd.sdres.take 32),
      { sd with sdres := sd.sdres.drop 32, sdreq := (pack (128 - 4 * (sd.sdres.take 32).length) sd.sdreq).2,
                sent := sentAll sd.sent (pack (128 - 4 * (sd.sdres.take 32).length) sd.sdreq).1 }) := by
  unfold sdDequeue
  rw [if_pos h]
  simp only [sdTakeReq_eq sd.sdreq { sd with sdres := sd.sdres.drop 32 } _ [] [] (by simp), List.nil_append]

/-- no pending answers, all requests fit one PDU: they all leave, in order -/
theorem sdDequeue_all (sd : Sd) (hres : sd.sdres = []) (hne : sd.sdreq ≠ [])
    (hfit : (sd.sdreq.map reqSize).sum ≤ 128) :
    sdDequeue sd = some (.snl sd.sdreq [], { sd with sdreq := [], sent := sentAll sd.sent sd.sdreq }) := by
  rw [sdDequeue_eq sd (.inr hne), hres]
  simp only [List.take_nil, List.drop_nil, List.length_nil, Nat.mul_zero, Nat.sub_zero, pack_fit _ _ hfit]

/-- only answers pending (at most 32): they all leave, in order -/
theorem sdDequeue_answers (sd : Sd) (hne : sd.sdres ≠ []) (hreq : sd.sdreq = []) (hlen : sd.sdres.length ≤ 32) :
    sdDequeue sd = some (.snl [] sd.sdres, { sd with sdres := [] }) := by
  rw [sdDequeue_eq sd (.inl hne), hreq]
  simp only [pack, sentAll, List.foldl_nil, List.take_of_length_le hlen, List.drop_of_length_le hlen]

/-- the names the calls have to ask the peer for -/
def uncached (cache : List (Bytes × Nat)) (nms : List Bytes) : List Bytes :=
  nms.filter fun nm => (cache.lookup nm).isNone

/-- what the waiting calls queue: one request per name that is not cached, in the order of the calls,
each with its own transaction identifier taken from the front of the pool -/
theorem sdAskAll_eq : ∀ (nms : List Bytes) (sd : Sd),
    sdAskAll sd nms =
      if (uncached sd.cache nms).length ≤ sd.tids.length then
        some { sd with tids := sd.tids.drop (uncached sd.cache nms).length,
                       sdreq := sd.sdreq ++ (sd.tids.take (uncached sd.cache nms).length).zip (uncached sd.cache nms) }
      else none
  | [], sd => by simp [sdAskAll, uncached]
  | nm :: t, sd => by
    simp only [sdAskAll, sdAsk]
    cases hc : sd.cache.lookup nm with
    | some a =>
      simp only [Option.bind_some]
      rw [sdAskAll_eq t sd]
      simp only [uncached, List.filter, hc, Option.isNone_some]
      rfl
    | none =>
      cases ht : sd.tids with
      | nil => simp [uncached, List.filter, hc]
      | cons tid rest =>
        simp only [Option.bind_some]
        rw [sdAskAll_eq t]
        simp only [uncached, List.filter, hc, Option.isNone_none, List.length_cons, Nat.add_le_add_iff_right,
          List.drop_succ_cons, List.take_succ_cons, List.zip_cons_cons, List.append_assoc, List.singleton_append]

/-- nothing but the service discovery component has something to send -/
def Quiet (c : Llc) : Prop :=
  ∀ a e, a ≠ 1 → c.sap a = some e → e.sendl = [] ∧ ∀ id ∈ e.socks, (c.sock id).sendq = []

def SdIdle (sd : Sd) : Prop := sd.sdres = [] ∧ sd.sdreq = [] ∧ sd.dmpdu = []

theorem quiet_sd {c : Llc} (h : Quiet c) (sd : Sd) : Quiet { c with sd := sd } := h

theorem socksDequeue_quiet (c : Llc) : ∀ (l : List Nat), (∀ id ∈ l, (c.sock id).sendq = []) → socksDequeue c l = none
  | [], _ => rfl
  | id :: t, h => by
    have h0 : sockDequeue (c.sock id) = none := by
      unfold sockDequeue; rw [h id (by simp)]
    simp only [socksDequeue, h0]
    exact socksDequeue_quiet c t (fun j hj => h j (by simp [hj]))

theorem collectFrom_quiet {c : Llc} (hq : Quiet c) : ∀ (l : List Nat),
    collectFrom c l = if 1 ∈ l then (sdDequeue c.sd).map (fun r => (r.1, { c with sd := r.2 })) else none
  | [] => rfl
  | a :: t => by
    unfold collectFrom
    by_cases ha : a = 1
    · subst ha
      simp only [↓reduceIte, List.mem_cons, true_or]
      cases hd : sdDequeue c.sd with
      | some r => rfl
      | none =>
        simp only [Option.map_none]
        rw [collectFrom_quiet hq t]
        split <;> simp [hd]
    · rw [if_neg ha]
      have hm : (1 ∈ a :: t) ↔ (1 ∈ t) := by simp [List.mem_cons, Ne.symm ha]
      cases hs : c.sap a with
      | none => simp only; rw [collectFrom_quiet hq t]; simp only [hm]
      | some e =>
        obtain ⟨h1, h2⟩ := hq a e ha hs
        have : sapDequeue c a e = none := by
          unfold sapDequeue; rw [socksDequeue_quiet c e.socks h2, h1]
        simp only [this]; rw [collectFrom_quiet hq t]; simp only [hm]

theorem collect_quiet {c : Llc} (hq : Quiet c) :
    collect c = (sdDequeue c.sd).map (fun r => (r.1, { c with sd := r.2 })) := by
  unfold collect
  rw [collectFrom_quiet hq]
  have : 1 ∈ collectOrder c := by
    unfold collectOrder
    refine List.mem_append_right _ (List.mem_filter.mpr ⟨by simp, ?_⟩)
    simp [rawMode]
  rw [if_pos this]

theorem sdDequeue_idle {sd : Sd} (h : SdIdle sd) : sdDequeue sd = none := by
  obtain ⟨h1, h2, h3⟩ := h
  unfold sdDequeue
  rw [if_neg (by simp [h1, h2]), h3]

theorem collect_idle {c : Llc} (hq : Quiet c) (hi : SdIdle c.sd) : collect c = none := by
  rw [collect_quiet hq, sdDequeue_idle hi]; rfl

theorem collect_sd {c : Llc} (hq : Quiet c) {sd sd' : Sd} {q : Pdu} (h : sdDequeue sd = some (q, sd')) :
    collect { c with sd := sd } = some (q, { c with sd := sd' }) := by
  rw [collect_quiet (quiet_sd hq sd)]
  show (sdDequeue sd).map _ = _
  rw [h]; rfl

theorem xfer_none {p : Pair} {x : Side} (h : collect (p.get x) = none) : xfer p x = .ok (p, false) := by
  unfold xfer; rw [h]; rfl

theorem xfer_some {p : Pair} {x : Side} {q : Pdu} {cx cy : Llc} (hc : collect (p.get x) = some (q, cx))
    (hd : dispatch (p.get (!x)) q = .ok cy) :
    xfer p x = .ok ({ (p.set x cx).set (!x) cy with wire := (x, q) :: p.wire }, true) := by
  unfold xfer; rw [hc]; simp only; rw [get_set_other, hd]; rfl

/-- one round of the pump: A moves, then B; a round in which neither moved is the last -/
theorem pump_step (k : Nat) {p p1 p2 : Pair} {m1 m2 : Bool} (h1 : xfer p false = .ok (p1, m1))
    (h2 : xfer p1 true = .ok (p2, m2)) :
    pump (k + 1) p = if m1 = false ∧ m2 = false then .ok p2 else pump k p2 := by
  rw [pump, h1]
  show (xfer p1 true >>= _) = _
  rw [h2]; rfl

/-- `x = A`: request and answer cross in the first round, the second is idle.  `x = B`: A has nothing to send in
the first round (`n0`), so the answer only leaves in the second and the third is idle.  Hence `k + 3`. -/
theorem pump_round_trip (x : Side) (p : Pair) {q1 q2 : Pdu} {A1 A2 B1 B2 : Llc}
    (c1 : collect (p.get x) = some (q1, A1)) (d1 : dispatch (p.get (!x)) q1 = .ok B1)
    (c2 : collect B1 = some (q2, B2)) (d2 : dispatch A1 q2 = .ok A2)
    (n0 : collect (p.get (!x)) = none) (n1 : collect A2 = none) (n2 : collect B2 = none) (k : Nat) :
    ∃ p3, pump (k + 3) p = .ok p3 ∧ p3.get x = A2 ∧ p3.get (!x) = B2 := by
  cases x
  · have r1 : xfer p false = .ok (⟨A1, B1, (false, q1) :: p.wire⟩, true) := xfer_some c1 d1
    have r2 : xfer ⟨A1, B1, (false, q1) :: p.wire⟩ true = .ok (⟨A2, B2, (true, q2) :: (false, q1) :: p.wire⟩, true) :=
      xfer_some (x := true) c2 d2
    have r3 : xfer ⟨A2, B2, (true, q2) :: (false, q1) :: p.wire⟩ false = .ok (_, false) := xfer_none n1
    have r4 : xfer ⟨A2, B2, (true, q2) :: (false, q1) :: p.wire⟩ true = .ok (_, false) := xfer_none n2
    refine ⟨⟨A2, B2, (true, q2) :: (false, q1) :: p.wire⟩, ?_, rfl, rfl⟩
    show pump (k + 2 + 1) p = _
    rw [pump_step _ r1 r2, if_neg (by decide), pump_step _ r3 r4, if_pos ⟨rfl, rfl⟩]
  · have r1 : xfer p false = .ok (p, false) := xfer_none n0
    have r2 : xfer p true = .ok (⟨B1, A1, (true, q1) :: p.wire⟩, true) := xfer_some (x := true) c1 d1
    have r3 : xfer ⟨B1, A1, (true, q1) :: p.wire⟩ false = .ok (⟨B2, A2, (false, q2) :: (true, q1) :: p.wire⟩, true) :=
      xfer_some (x := false) c2 d2
    have r4 : xfer ⟨B2, A2, (false, q2) :: (true, q1) :: p.wire⟩ true = .ok (_, false) := xfer_none n1
    have r5 : xfer ⟨B2, A2, (false, q2) :: (true, q1) :: p.wire⟩ false = .ok (_, false) := xfer_none n2
    refine ⟨⟨B2, A2, (false, q2) :: (true, q1) :: p.wire⟩, ?_, rfl, rfl⟩
    show pump (k + 2 + 1) p = _
    rw [pump_step _ r1 r2, if_neg (by decide), pump_step _ r3 r4, if_neg (by decide), pump_step _ r5 r4,
      if_pos ⟨rfl, rfl⟩]

theorem sentAll_lookup_notin {t : Nat} : ∀ (l : List (Nat × Bytes)) (s : List (Nat × Bytes)),
    t ∉ l.map (·.1) → (sentAll s l).lookup t = s.lookup t
  | [], s, _ => rfl
  | q :: l, s, h => by
    simp only [List.map_cons, List.mem_cons, not_or] at h
    show (sentAll (dictSet q.1 q.2 s) l).lookup t = _
    rw [sentAll_lookup_notin l _ h.2]
    exact dictSet_lookup_ne _ h.1 _

/-- distinct transaction identifiers: after the requests went out `sent[tid]` is the name asked with `tid` -/
theorem sentAll_lookup : ∀ (l : List (Nat × Bytes)) (s : List (Nat × Bytes)), (l.map (·.1)).Nodup →
    ∀ q ∈ l, (sentAll s l).lookup q.1 = some q.2
  | [], _, _, q, hq => by simp at hq
  | q0 :: l, s, hnd, q, hq => by
    simp only [List.map_cons, List.nodup_cons] at hnd
    show (sentAll (dictSet q0.1 q0.2 s) l).lookup q.1 = _
    rcases List.mem_cons.mp hq with rfl | hq
    · rw [sentAll_lookup_notin l _ hnd.1]; exact dictSet_lookup _ _ _
    · exact sentAll_lookup l _ hnd.2 q hq

/-- requester: the answers to a list of requests, one per request and in any order of bound / unbound
names, leave for every asked name exactly the address the responder has for THAT name (or 0) -/
theorem answers_cached (sd : Sd) (rq : List (Nat × Bytes)) (snl : List (Bytes × Nat))
    (hsent : ∀ q ∈ rq, sd.sent.lookup q.1 = some q.2)
    (hv : ∀ nm a, snl.lookup nm = some a → a < 64) (nm : Bytes) (hm : nm ∈ rq.map (·.2)) :
    (sdResponses sd (rq.map (sdAnswer snl))).cache.lookup nm = some ((snl.lookup nm).getD 0) := by
  rw [sdResponses_cache]
  have hlt : (snl.lookup nm).getD 0 < 64 := by
    cases h : snl.lookup nm with
    | none => simp
    | some a => simpa using hv nm a h
  have hall : ∀ r ∈ answersFor sd.sent nm (rq.map (sdAnswer snl)), r.2 = (snl.lookup nm).getD 0 := by
    intro r hr
    obtain ⟨hr1, hr2⟩ := List.mem_filter.mp hr
    obtain ⟨q, hq, rfl⟩ := List.mem_map.mp hr1
    have : sd.sent.lookup q.1 = some nm := by simpa [sdAnswer] using hr2
    rw [hsent q hq] at this
    cases this; rfl
  have hne : answersFor sd.sent nm (rq.map (sdAnswer snl)) ≠ [] := by
    obtain ⟨q, hq, rfl⟩ := List.mem_map.mp hm
    intro h
    have : sdAnswer snl q ∈ answersFor sd.sent q.2 (rq.map (sdAnswer snl)) :=
      List.mem_filter.mpr ⟨List.mem_map.mpr ⟨q, hq, rfl⟩, by simp [sdAnswer, hsent q hq]⟩
    rw [h] at this; cases this
  cases hl : (answersFor sd.sent nm (rq.map (sdAnswer snl))).getLast? with
  | none => exact absurd (List.getLast?_eq_none_iff.mp hl) hne
  | some r =>
    have hr := hall r (List.mem_of_getLast? hl)
    simp only [hr, decodeSap_lt hlt]

/-- what a `resolve(nm)` returns when everything works: the cached address, else what the responder
has for the name now -/
def resolved (cache snl : List (Bytes × Nat)) (nm : Bytes) : Nat :=
  match cache.lookup nm with
  | some a => a
  | none => (snl.lookup nm).getD 0

theorem lookupAll_eq (old new : List (Bytes × Nat)) (f : Bytes → Nat) : ∀ (nms : List Bytes),
    (∀ nm ∈ nms, lookupOne old new nm = some (f nm)) →
    lookupAll old new nms = some (nms.map f)
  | [], _ => rfl
  | nm :: t, h => by
    simp only [lookupAll]
    rw [h nm (by simp), lookupAll_eq old new f t (fun n hn => h n (by simp [hn]))]
    rfl

theorem inv_name_lt {c : Llc} (hi : Inv c) (nm : Bytes) (a : Nat) (h : c.snl.lookup nm = some a) : a < 64 := by
  rcases hi.names nm a (lookup_mem h) with ⟨_, rfl⟩ | ⟨_, h2, _⟩
  · decide
  · cases hs : c.sap a with
    | none => simp [hs] at h2
    | some e => exact hi.dom a e hs

theorem apiResolveMany_nowait (p : Pair) (x : Side) (nms : List Bytes) (sd1 : Sd) (l : List Nat)
    (h : sdAskAll (p.get x).sd nms = some sd1) (hlen : sd1.sdreq.length = (p.get x).sd.sdreq.length)
    (hl : lookupAll (p.get x).sd.cache (p.get x).sd.cache nms = some l) :
    apiResolveMany p x nms = .ok (p, .ok (.nums l)) := by
  unfold apiResolveMany
  simp only [h, hlen, ↓reduceIte]
  show (match lookupAll (p.get x).sd.cache (p.get x).sd.cache nms with
    | some l => done p (Out.nums l) | none => throw Exc.outOfFuel) = _
  rw [hl]; rfl

theorem apiResolveMany_wait (p p3 : Pair) (x : Side) (nms : List Bytes) (sd1 : Sd) (l : List Nat)
    (h : sdAskAll (p.get x).sd nms = some sd1) (hlen : sd1.sdreq.length ≠ (p.get x).sd.sdreq.length)
    (hp : pump pumpRounds (p.set x { p.get x with sd := sd1 }) = .ok p3)
    (hl : lookupAll (p.get x).sd.cache (p3.get x).sd.cache nms = some l) :
    apiResolveMany p x nms = .ok (p3, .ok (.nums l)) := by
  unfold apiResolveMany
  simp only [h, hlen, ↓reduceIte, hp]
  show (match lookupAll (p.get x).sd.cache (p3.get x).sd.cache nms with
    | some l => done p3 (Out.nums l) | none => throw Exc.outOfFuel) = _
  rw [hl]; rfl

/-- END TO END, several `resolve()` calls at once on a quiet link: every call returns the cached
address of ITS name or, for a name that had to be asked, the address the other controller has
registered under that name at this moment (0 = not registered) - whatever the other names in the
same SNL PDU are and in whatever order they come.

Proved for: both controllers have nothing else to send (`Quiet`, `SdIdle`), the requests fit one SNL
PDU (`≤ 128` bytes, `≤ 32` names), the transaction identifiers in the pool are distinct. -/
theorem resolveMany_quiet (p : Pair) (x : Side) (nms : List Bytes)
    (hqA : Quiet (p.get x)) (hqB : Quiet (p.get (!x)))
    (hiA : SdIdle (p.get x).sd) (hiB : SdIdle (p.get (!x)).sd) (hB : Inv (p.get (!x)))
    (hnd : (p.get x).sd.tids.Nodup)
    (hk : (uncached (p.get x).sd.cache nms).length ≤ (p.get x).sd.tids.length)
    (h32 : (uncached (p.get x).sd.cache nms).length ≤ 32)
    (hfit : ((uncached (p.get x).sd.cache nms).map fun nm => 3 + nm.length).sum ≤ 128) :
    ∃ p', apiResolveMany p x nms =
        .ok (p', .ok (.nums (nms.map (resolved (p.get x).sd.cache (p.get (!x)).snl)))) ∧
      abs p'.a = abs p.a ∧ abs p'.b = abs p.b := by
  suffices h : ∃ p', apiResolveMany p x nms =
      .ok (p', .ok (.nums (nms.map (resolved (p.get x).sd.cache (p.get (!x)).snl)))) by
    obtain ⟨p', hp⟩ := h
    exact ⟨p', hp, (resolveMany_keeps _ _ _ _ hp false).abs, (resolveMany_keeps _ _ _ _ hp true).abs⟩
  obtain ⟨hA1, hA2, hA3⟩ := hiA
  have hask := sdAskAll_eq nms (p.get x).sd
  rw [if_pos hk] at hask
  generalize hun : uncached (p.get x).sd.cache nms = un at *
  generalize hrq : ((p.get x).sd.tids.take un.length).zip un = rq at hask
  rw [hA2, List.nil_append] at hask
  have hlen : ((p.get x).sd.tids.take un.length).length = un.length := by
    rw [List.length_take]; omega
  have hrq2 : rq.map (·.2) = un := by
    rw [← hrq]; exact List.map_snd_zip (by omega)
  have hrq1 : rq.map (·.1) = (p.get x).sd.tids.take un.length := by
    rw [← hrq]; exact List.map_fst_zip (by omega)
  have hrqlen : rq.length = un.length := by rw [← hrq2, List.length_map]
  -- cached names return their value whatever happens afterwards, the others what the new cache has
  have hread : ∀ new : List (Bytes × Nat), (∀ nm ∈ un, new.lookup nm = some (((p.get (!x)).snl.lookup nm).getD 0)) →
      lookupAll (p.get x).sd.cache new nms = some (nms.map (resolved (p.get x).sd.cache (p.get (!x)).snl)) := by
    intro new hnew
    apply lookupAll_eq
    intro nm hnm
    cases hc : (p.get x).sd.cache.lookup nm with
    | some a => simp [lookupOne, resolved, hc]
    | none =>
      simp only [lookupOne, hc, resolved]
      exact hnew nm (by rw [← hun]; exact List.mem_filter.mpr ⟨hnm, by simp [hc]⟩)
  generalize hsd1 : ({ (p.get x).sd with tids := (p.get x).sd.tids.drop un.length, sdreq := rq } : Sd) = sd1 at hask
  have hsd1_res : sd1.sdres = [] := by rw [← hsd1]; exact hA1
  have hsd1_req : sd1.sdreq = rq := by rw [← hsd1]
  have hsd1_dm : sd1.dmpdu = [] := by rw [← hsd1]; exact hA3
  by_cases hempty : un = []
  · -- every name is cached: nobody waits
    have hrqe : rq = [] := List.eq_nil_of_length_eq_zero (by rw [hrqlen, hempty]; rfl)
    exact ⟨p, apiResolveMany_nowait p x nms sd1 _ hask (by rw [hsd1_req, hrqe, hA2])
      (hread _ fun nm h => by rw [hempty] at h; cases h)⟩
  · have hrqne : rq ≠ [] := fun h => hempty (by rw [← hrq2, h]; rfl)
    have hfit' : (sd1.sdreq.map reqSize).sum ≤ 128 := by
      rw [hsd1_req]
      have : rq.map reqSize = (rq.map (·.2)).map fun nm => 3 + nm.length := by
        rw [List.map_map]; rfl
      rw [this, hrq2]; exact hfit
    -- the request leaves, is answered name by name, the answer comes back; then both sides are idle again
    generalize hans : rq.map (sdAnswer (p.get (!x)).snl) = ans
    have c1 := collect_sd hqA (sdDequeue_all sd1 hsd1_res (by rw [hsd1_req]; exact hrqne) hfit')
    rw [hsd1_req] at c1
    have d1 : dispatch (p.get (!x)) (.snl rq []) =
        .ok { p.get (!x) with sd := { (p.get (!x)).sd with sdres := ans } } := by
      show Except.ok { p.get (!x) with sd := sdRequests (p.get (!x)).snl (p.get (!x)).sd rq } = _
      rw [sdRequests_eq, hiB.1, List.nil_append, hans]
    have c2 := collect_sd hqB (sdDequeue_answers { (p.get (!x)).sd with sdres := ans }
      (by rw [← hans]; simpa using hrqne) hiB.2.1 (by rw [← hans, List.length_map, hrqlen]; exact h32))
    generalize hsd2 : ({ sd1 with sdreq := [], sent := sentAll sd1.sent rq } : Sd) = sd2 at c1
    obtain ⟨rest_res, _, rest_req, rest_dm⟩ := sdResponses_rest ans sd2
    obtain ⟨p3, hpump, g3, _⟩ := pump_round_trip x (p.set x { p.get x with sd := sd1 })
      (A1 := { p.get x with sd := sd2 }) (A2 := { p.get x with sd := sdResponses sd2 ans })
      (by rw [get_set]; exact c1) (by rw [get_set_other]; exact d1) c2 rfl
      (by rw [get_set_other]; exact collect_idle hqB hiB)
      (collect_idle hqA ⟨rest_res.trans (by rw [← hsd2]; exact hsd1_res), rest_req.trans (by rw [← hsd2]),
        rest_dm.trans (by rw [← hsd2]; exact hsd1_dm)⟩)
      (collect_idle hqB ⟨rfl, hiB.2.1, hiB.2.2⟩) 13
    refine ⟨p3, apiResolveMany_wait p p3 x nms sd1 _ hask ?_ hpump (hread _ fun nm hnm => ?_)⟩
    · rw [hsd1_req, hA2]; simpa using hrqne
    · rw [g3, ← hans]
      refine answers_cached sd2 rq _ ?_ (inv_name_lt hB) nm (by rw [hrq2]; exact hnm)
      rw [← hsd2]
      exact sentAll_lookup rq _ (by rw [hrq1]; exact List.Sublist.nodup (List.take_sublist _ _) hnd)

theorem quiet_init : Quiet Sap.init := by
  intro a e _ hs
  simp only [Sap.init] at hs
  split at hs
  · cases hs; exact ⟨rfl, fun _ h => by cases h⟩
  · cases hs

theorem sdIdle_init : SdIdle Sap.init.sd := ⟨rfl, rfl, rfl⟩

/-- `ServiceDiscovery.dequeue` with one queued request whose TLV (3 + length of the name) exceeds the
link MIU of 128: the request is rotated, never sent and never dropped - the state does not change and an
EMPTY SNL PDU goes out, on every call.  `resolve()` of such a name never returns (open finding
`resolve-overlong-name-hangs`). -/
theorem overlong_request_stuck (sd : Sd) (tid : Nat) (nm : Bytes) (h : 125 < nm.length)
    (hq : sd.sdreq = [(tid, nm)]) (hres : sd.sdres = []) : sdDequeue sd = some (.snl [] [], sd) := by
  rw [sdDequeue_eq sd (.inr (by rw [hq]; simp)), hres, hq]
  simp only [List.take_nil, List.drop_nil, List.length_nil, Nat.mul_zero, Nat.sub_zero, pack, reqSize]
  rw [if_pos (by omega)]
  cases sd; simp_all [sentAll]

end NfcVerif.Sap
