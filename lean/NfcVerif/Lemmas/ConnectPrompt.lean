import NfcVerif.Lemmas.Connect
/-!
# connect() ends promptly once terminate() is true (C18)

`after log`: `none` while no `terminate()` poll has answered true, then the number of events
since the first true answer.  `Pre`: no true answer yet, the remaining stream is monotone (once
true it stays true).  `Post n`: `n` events since the first true answer, the remaining stream is
all true.  Every piece of the model is a `PSpec c`: it adds at most `c` events in `Post`, and from
`Pre` it ends in `Pre` or in `Post n` with `n ≤ c`.  The steps of `connect()` carry it beside `StepEnd`
(`Lemmas/ConnectSteps.lean`); `tryStep_all` there adds the bounds up over a round of the main loop.
-/
namespace NfcVerif.Clf

def pstep : Option Nat → Ev → Option Nat
  | none, .term true => some 0
  | none, _ => none
  | some n, _ => some (n + 1)

def after (l : List Ev) : Option Nat := l.foldl pstep none

def AllTrue (ts : List Bool) : Prop := ∀ b ∈ ts, b = true

/-- once `terminate()` is true it stays true -/
def Mono : List Bool → Prop
  | [] => True
  | true :: r => AllTrue r
  | false :: r => Mono r

theorem AllTrue.mono {ts : List Bool} (h : AllTrue ts) : Mono ts := by
  induction ts with
  | nil => trivial
  | cons b r ih =>
    have hb := h b (by simp)
    subst hb
    exact fun x hx => h x (by simp [hx])

theorem foldl_pstep_some (seg : List Ev) (n : Nat) : seg.foldl pstep (some n) = some (n + seg.length) := by
  induction seg generalizing n with
  | nil => rfl
  | cons e r ih => simp only [List.foldl_cons, pstep, ih, List.length_cons]; congr 1; omega

theorem foldl_pstep_none (seg : List Ev) (h : ∀ e ∈ seg, e ≠ .term true) : seg.foldl pstep none = none := by
  induction seg with
  | nil => rfl
  | cons e r ih =>
    have he := h e (by simp)
    have : pstep none e = none := by
      cases e with
      | term b => cases b with
        | true => exact absurd rfl he
        | false => rfl
      | _ => rfl
    simp only [List.foldl_cons, this]
    exact ih (fun x hx => h x (by simp [hx]))

theorem after_append (l seg : List Ev) : after (l ++ seg) = seg.foldl pstep (after l) := by
  simp only [after, List.foldl_append]

theorem after_append_none {l seg : List Ev} (h : after l = none) (hn : ∀ e ∈ seg, e ≠ .term true) :
    after (l ++ seg) = none := by
  rw [after_append, h]; exact foldl_pstep_none seg hn

theorem after_append_some {l seg : List Ev} {m : Nat} (h : after l = some m) :
    after (l ++ seg) = some (m + seg.length) := by
  rw [after_append, h]; exact foldl_pstep_some seg m

def Pre (s : St) (ts : List Bool) : Prop := after s.log = none ∧ Mono ts
def Post (n : Nat) (s : St) (ts : List Bool) : Prop := after s.log = some n ∧ AllTrue ts

def PreSpec (c : Nat) (s : St) (ts : List Bool) (s' : St) (ts' : List Bool) : Prop :=
  Pre s ts → Pre s' ts' ∨ ∃ n, n ≤ c ∧ Post n s' ts'
def PostSpec (c : Nat) (s : St) (ts : List Bool) (s' : St) (ts' : List Bool) : Prop :=
  ∀ m, Post m s ts → ∃ n, n ≤ m + c ∧ Post n s' ts'
def PSpec (c : Nat) (s : St) (ts : List Bool) (s' : St) (ts' : List Bool) : Prop :=
  PreSpec c s ts s' ts' ∧ PostSpec c s ts s' ts'

theorem PreSpec.refl (c : Nat) (s : St) (ts : List Bool) : PreSpec c s ts s ts := fun h => Or.inl h
theorem PSpec.refl (c : Nat) (s : St) (ts : List Bool) : PSpec c s ts s ts :=
  ⟨PreSpec.refl c s ts, fun m h => ⟨m, by omega, h⟩⟩

theorem PreSpec.trans {c1 c2 : Nat} {s s1 s2 : St} {ts ts1 ts2 : List Bool}
    (h1 : PreSpec c1 s ts s1 ts1) (h2 : PSpec c2 s1 ts1 s2 ts2) : PreSpec (c1 + c2) s ts s2 ts2 := by
  intro hp
  rcases h1 hp with h | ⟨n, hn, h⟩
  · rcases h2.1 h with h' | ⟨n, hn, h'⟩
    · exact Or.inl h'
    · exact Or.inr ⟨n, by omega, h'⟩
  · obtain ⟨n', hn', h'⟩ := h2.2 n h
    exact Or.inr ⟨n', by omega, h'⟩

theorem PSpec.trans {c1 c2 : Nat} {s s1 s2 : St} {ts ts1 ts2 : List Bool}
    (h1 : PSpec c1 s ts s1 ts1) (h2 : PSpec c2 s1 ts1 s2 ts2) : PSpec (c1 + c2) s ts s2 ts2 := by
  refine ⟨PreSpec.trans h1.1 h2, ?_⟩
  intro m hm
  obtain ⟨n, hn, h⟩ := h1.2 m hm
  obtain ⟨n', hn', h'⟩ := h2.2 n h
  exact ⟨n', by omega, h'⟩

theorem PreSpec.mono {c c' : Nat} (hc : c ≤ c') {s s' : St} {ts ts' : List Bool}
    (h : PreSpec c s ts s' ts') : PreSpec c' s ts s' ts' := by
  intro hp
  rcases h hp with h | ⟨n, hn, h⟩
  · exact Or.inl h
  · exact Or.inr ⟨n, by omega, h⟩

theorem PSpec.mono {c c' : Nat} (hc : c ≤ c') {s s' : St} {ts ts' : List Bool}
    (h : PSpec c s ts s' ts') : PSpec c' s ts s' ts' := by
  refine ⟨PreSpec.mono hc h.1, ?_⟩
  intro m hm
  obtain ⟨n, hn, h'⟩ := h.2 m hm
  exact ⟨n, by omega, h'⟩

/-- `s'` extends the log of `s` by at most `k` events, none of them a true terminate() answer -/
def Seg (k : Nat) (s s' : St) : Prop :=
  ∃ seg, s'.log = s.log ++ seg ∧ (∀ e ∈ seg, e ≠ .term true) ∧ seg.length ≤ k

theorem Seg.refl (s : St) : Seg 0 s s := ⟨[], by simp, by simp, by simp⟩
theorem Seg.trans {k1 k2 : Nat} {a b c : St} (h1 : Seg k1 a b) (h2 : Seg k2 b c) : Seg (k1 + k2) a c := by
  obtain ⟨s1, l1, n1, b1⟩ := h1
  obtain ⟨s2, l2, n2, b2⟩ := h2
  exact ⟨s1 ++ s2, by rw [l2, l1, List.append_assoc], List.forall_mem_append.mpr ⟨n1, n2⟩, by simp; omega⟩
theorem Seg.mono {k k' : Nat} (hk : k ≤ k') {a b : St} (h : Seg k a b) : Seg k' a b := by
  obtain ⟨s1, l1, n1, b1⟩ := h
  exact ⟨s1, l1, n1, by omega⟩

/-- no true answer: `Pre` is kept -/
theorem Seg.keeps {k : Nat} {s s' : St} (h : Seg k s s') {ts : List Bool} (hp : Pre s ts) : Pre s' ts := by
  obtain ⟨seg, hl, hn, _⟩ := h
  obtain ⟨h1, h2⟩ := hp
  refine ⟨?_, h2⟩
  rw [hl]; exact after_append_none h1 hn

theorem Seg.pspec {k : Nat} {s s' : St} (h : Seg k s s') (ts : List Bool) : PSpec k s ts s' ts := by
  refine ⟨fun hp => Or.inl (h.keeps hp), ?_⟩
  obtain ⟨seg, hl, hn, hk⟩ := h
  intro m ⟨h1, h2⟩
  refine ⟨m + seg.length, by omega, ?_, h2⟩
  rw [hl]; exact after_append_some h1

theorem Seg.ask (s : St) (site : Site) : Seg 1 s (s.ask site).2 := by
  obtain ⟨a, ha⟩ := ask_spec s site
  rw [ha]
  exact ⟨[.call site a], rfl, by simp, by simp⟩

theorem Seg.emit (s : St) (e : Ev) (he : e ≠ .term true) : Seg 1 s (s.emit e) :=
  ⟨[e], rfl, by simpa using he, by simp⟩

theorem Seg.target (s : St) (t : Tgt) : Seg 0 s { s with target := t } := ⟨[], by simp, by simp, by simp⟩

theorem Seg.simpleCall (site : Site) (s : St) : Seg 1 s (simpleCall site s).2 := by
  obtain ⟨a, h1, _⟩ := simpleCall_spec site s
  rw [h1]
  exact ⟨[.call site a], rfl, by simp, by simp⟩

theorem Seg.exchange (s : St) : Seg 1 s (exchange s).2 := by
  have := (exchange_spec s).2
  cases ht : s.target with
  | none => rw [ht] at this; simp only at this; rw [this]; exact (Seg.refl s).mono (by omega)
  | remote id => rw [ht] at this; obtain ⟨a, ha⟩ := this; exact ⟨_, ha, by simp, by simp⟩
  | loc id => rw [ht] at this; obtain ⟨a, ha⟩ := this; exact ⟨_, ha, by simp, by simp⟩

theorem Seg.listen (t : LtSpec) (s : St) : Seg 2 s (listen t s).2 := by
  obtain ⟨⟨a, rest, hlog, hrest⟩, _⟩ := listen_spec t s
  refine ⟨_, hlog, ?_⟩
  rcases hrest with rfl | ⟨site, b, rfl⟩ <;> simp

/-- without a bound: driver calls and sleeps keep `Pre` -/
theorem NExt.keeps {s s' : St} (h : NExt s s') {ts : List Bool} (hp : Pre s ts) : Pre s' ts := by
  obtain ⟨seg, hl, hn⟩ := h
  have hseg : Seg seg.length s s' :=
    ⟨seg, hl, by intro e he h; subst h; have := hn _ he; simp [Ev.neutral] at this, Nat.le_refl _⟩
  exact hseg.keeps hp

/-! ## polls of terminate() -/

theorem after_emit (s : St) (e : Ev) : after (s.emit e).log = pstep (after s.log) e :=
  after_append s.log [e]

/-- the first true answer of `terminate()` -/
theorem after_emit_term {s : St} (h : after s.log = none) : after (s.emit (.term true)).log = some 0 := by
  rw [after_emit, h]; rfl

theorem after_emit_some {s : St} {m : Nat} (h : after s.log = some m) (e : Ev) :
    after (s.emit e).log = some (m + 1) := by
  rw [after_emit, h]; rfl

theorem Pre.termFalse {s : St} {r : List Bool} (hp : Pre s (false :: r)) : Pre (s.emit (.term false)) r :=
  -- `Mono (false :: r)` is `Mono r` by definition
  (Seg.emit s _ (by simp)).keeps ⟨hp.1, hp.2⟩

theorem PSpec.termTrue (s : St) (r : List Bool) : PSpec 1 s (true :: r) (s.emit (.term true)) r := by
  constructor
  · intro ⟨h1, h2⟩
    exact Or.inr ⟨0, by omega, after_emit_term h1, h2⟩
  · intro m ⟨h1, h2⟩
    exact ⟨m + 1, by omega, after_emit_some h1 _, fun b hb => h2 b (by simp [hb])⟩

theorem PSpec.termNil (s : St) : PSpec 1 s [] (s.emit (.term true)) [] := by
  constructor
  · intro ⟨h1, _⟩
    exact Or.inr ⟨0, by omega, after_emit_term h1, by intro b hb; cases hb⟩
  · intro m ⟨h1, h2⟩
    exact ⟨m + 1, by omega, after_emit_some h1 _, h2⟩

theorem postVacuous (c : Nat) (s s' : St) (r ts' : List Bool) : PostSpec c s (false :: r) s' ts' := by
  intro m ⟨_, h⟩; have := h false (by simp); cases this

/-! ## the distance at the end, option preparation -/

/-- how far the end is from the first true answer -/
def Final (c : Nat) (s' : St) : Prop := after s'.log = none ∨ ∃ n, n ≤ c ∧ after s'.log = some n

theorem Final.of_pre {c : Nat} {s s' : St} {ts ts' : List Bool} (h : PreSpec c s ts s' ts') (hp : Pre s ts) :
    Final c s' :=
  (h hp).imp And.left fun ⟨n, hn, h⟩ => ⟨n, hn, h.1⟩

theorem Seg.startupEvent (r : Role) (su : Option (StartRes × Nat)) (s : St) : Seg 1 s (startupEvent r su s) := by
  cases su with
  | none => exact Seg.emit s _ (by simp)
  | some x => obtain ⟨a, b⟩ := x; exact Seg.emit s _ (by simp)

end NfcVerif.Clf
