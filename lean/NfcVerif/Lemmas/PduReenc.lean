import NfcVerif.Lemmas.PduRound
/-!
# The normal form of a decoded PDU: whatever the format reading returns for an octet string is valid in
normal form (`spec_valid`)

Holds `norm`, the invariance of `encode` and `len` under it, the ranges of the parameters the format reading finds
in octets (`param_range`, `params_range`, `kept_*`) and `decodeS_valid` / `aggregate_valid` / `spec_valid`.
`ValidS` / `Valid` are those of `Lemmas/PduRound.lean`, `param_other` is from `Lemmas/PduParam.lean`; the re-encode
theorem that puts `spec_valid` and the round trip together is `C11.pdu_decode_reencode`.

Normal form `norm`: an optional octet string parameter that is present but
empty (`some []`: CONNECT service name, DPS ECPK and RN) is absent (`none`);
everything else - all other fields, SDREQ names (also empty ones), payloads,
the order and number of aggregated PDUs - is unchanged.
-/
namespace NfcVerif.Pdu
open NfcVerif

def normOpt : Option Bytes → Option Bytes
  | some [] => none
  | o => o

def normS : SPdu → SPdu
  | .connect d s m r sn => .connect d s m r (normOpt sn)
  | .dps d s e r => .dps d s (normOpt e) (normOpt r)
  | p => p

/-- the normal form: empty optional octet strings are absent -/
def norm : Pdu → Pdu
  | .simple p => .simple (normS p)
  | .agf d s items => .agf d s (items.map normS)

namespace Impl

theorem truthyTlv_norm (t : Nat) (o : Option Bytes) : truthyTlv t (normOpt o) = truthyTlv t o := by
  rcases o with _ | ⟨_ | ⟨x, xs⟩⟩ <;> rfl

theorem truthyLen_norm (o : Option Bytes) : truthyLen (normOpt o) = truthyLen o := by
  rcases o with _ | ⟨_ | ⟨x, xs⟩⟩ <;> rfl

theorem encodeS_norm (p : SPdu) : encodeS (normS p) = encodeS p := by
  cases p <;> simp [normS, encodeS, truthyTlv_norm]

theorem lenS_norm (p : SPdu) : lenS (normS p) = lenS p := by
  cases p <;> simp [normS, lenS, truthyLen_norm]

theorem encodeAll_norm (items : List SPdu) : encodeAll (items.map normS) = encodeAll items := by
  induction items with
  | nil => rfl
  | cons p ps ih => simp only [List.map_cons, encodeAll, encodeS_norm, ih]

theorem encode_norm (p : Pdu) : encode (norm p) = encode p := by
  cases p with
  | simple p => exact encodeS_norm p
  | agf d s items => simp only [norm, encode, encodeAll_norm]

/-- what `Spec.param` can return for at most 255 value octets: numbers within their field, names short enough to
be encoded again (an SDREQ name shares its value octets with the TID) -/
def PRange : Spec.Param → Prop
  | .version v => v < 256 | .miux v => v < 2048 | .wks v => v < 65536 | .lto v => v < 256 | .rw v => v < 16
  | .sn v => v.length < 256 | .opt v => v < 8 | .sdreq t n => t < 256 ∧ n.length < 255
  | .sdres t s => t < 256 ∧ s < 256 | .ecpk v => v.length < 256 | .rn v => v.length < 256
  | .other _ _ => True

/-- encoded size of the SDREQ/SDRES parameters (the others do not matter for the bound) -/
def psize : Spec.Param → Nat
  | .sdreq _ n => 3 + n.length
  | .sdres _ _ => 4
  | _ => 0

/-- one octet is below 256, two octets below 65536, the masks of `Spec.param` do the rest -/
theorem param_range {t : Nat} {v : Bytes} {p : Spec.Param} (hv : IsBytes v) (hl : v.length < 256)
    (h : Spec.param t v = some p) : PRange p ∧ psize p ≤ 2 + v.length := by
  by_cases ht : 1 ≤ t ∧ t ≤ 11
  · obtain rfl | rfl | rfl | rfl | rfl | rfl | rfl | rfl | rfl | rfl | rfl :
        t = 1 ∨ t = 2 ∨ t = 3 ∨ t = 4 ∨ t = 5 ∨ t = 6 ∨ t = 7 ∨ t = 8 ∨ t = 9 ∨ t = 10 ∨ t = 11 := by omega
    all_goals simp only [Spec.param, Nat.reduceEqDiff, ↓reduceIte] at h
    -- SN, ECPK, RN keep `v` as it is; the other types read numbers off a `v` of the right length
    all_goals first
      | (cases h; exact ⟨hl, Nat.zero_le _⟩)
      | (split at h <;> cases h
         simp only [PRange, psize, IsBytes, List.length_cons, List.length_nil, List.mem_cons, List.not_mem_nil,
           or_false, forall_eq_or_imp, forall_eq] at *
         omega)
  · rw [param_other v ht] at h
    cases h
    exact ⟨trivial, Nat.zero_le _⟩

theorem params_range (n : Nat) (info : Bytes) (ps : List Spec.Param) (hb : IsBytes info)
    (h : Spec.params n info = some ps) :
    (∀ p ∈ ps, PRange p) ∧ sumMap psize ps ≤ info.length := by
  induction n generalizing info ps with
  | zero =>
    match info, h with
    | [], h => cases h; simp [sumMap]
    | [_], h => cases h; simp [sumMap]
    | _ :: _ :: _, h => cases h
  | succ k ih =>
    match info, hb, h with
    | [], _, h => rw [params_nil] at h; cases h; simp [sumMap]
    | [x], _, h => rw [params_single] at h; cases h; simp [sumMap]
    | t :: l :: rest, hb, h =>
      rw [params_cons] at h
      split at h
      · cases h
      · split at h <;> cases h
        rename_i hl p qs hp hq
        have hbr : IsBytes rest := fun x hx => hb x (by simp [hx])
        have hl256 : l < 256 := hb l (by simp)
        have e2 : (rest.take l).length = l := by simp; omega
        obtain ⟨r1, r2⟩ := param_range (isBytes_take hbr l) (by omega) hp
        obtain ⟨i1, i2⟩ := ih (rest.drop l) qs (isBytes_drop hbr l) hq
        refine ⟨?_, ?_⟩
        · intro x hx
          rcases List.mem_cons.mp hx with rfl | hx
          · exact r1
          · exact i1 x hx
        · simp only [sumMap, List.length_cons, List.length_drop] at *
          omega

theorem lastSome_mem {α : Type} (f : Spec.Param → Option α) (ps : List Spec.Param) (v : α)
    (h : Spec.lastSome f ps = some v) : ∃ p ∈ ps, f p = some v := by
  induction ps with
  | nil => cases h
  | cons p ps ih =>
    rw [← List.singleton_append, lastSome_append, lastSome_single] at h
    cases hq : Spec.lastSome f ps with
    | some w =>
      obtain ⟨q, hq', hf⟩ := ih (by rw [hq] at h ⊢; exact h)
      exact ⟨q, List.mem_cons_of_mem _ hq', hf⟩
    | none => rw [hq] at h; exact ⟨p, List.mem_cons_self, h⟩

/-- what a class keeps through the getter `f` of parameters in range has the range `P` that `PRange` gives the
parameters `f` accepts -/
theorem lastSome_range {α : Type} (f : Spec.Param → Option α) (P : α → Prop) {ps : List Spec.Param}
    (hr : ∀ p ∈ ps, PRange p) (hf : ∀ p v, f p = some v → PRange p → P v) (v : α)
    (hv : Spec.lastSome f ps = some v) : P v := by
  obtain ⟨p, hp, hfp⟩ := lastSome_mem f ps v hv
  exact hf p v hfp (hr p hp)

section
variable {ps : List Spec.Param} (hr : ∀ p ∈ ps, PRange p)
include hr

theorem kept_version : ∀ v, Spec.lastSome Spec.Param.getVersion ps = some v → v < 256 :=
  lastSome_range _ _ hr fun p _ hf h => by cases p <;> cases hf; exact h
theorem kept_miux : ∀ v, Spec.lastSome Spec.Param.getMiux ps = some v → v < 2048 :=
  lastSome_range _ _ hr fun p _ hf h => by cases p <;> cases hf; exact h
theorem kept_wks : ∀ v, Spec.lastSome Spec.Param.getWks ps = some v → v < 65536 :=
  lastSome_range _ _ hr fun p _ hf h => by cases p <;> cases hf; exact h
theorem kept_lto : ∀ v, Spec.lastSome Spec.Param.getLto ps = some v → v < 256 :=
  lastSome_range _ _ hr fun p _ hf h => by cases p <;> cases hf; exact h
theorem kept_rw : ∀ v, Spec.lastSome Spec.Param.getRw ps = some v → v < 16 :=
  lastSome_range _ _ hr fun p _ hf h => by cases p <;> cases hf; exact h
theorem kept_sn : ∀ v, Spec.lastSome Spec.Param.getSn ps = some v → v.length < 256 :=
  lastSome_range _ _ hr fun p _ hf h => by cases p <;> cases hf; exact h
theorem kept_opt : ∀ v, Spec.lastSome Spec.Param.getOpt ps = some v → v < 8 :=
  lastSome_range _ _ hr fun p _ hf h => by cases p <;> cases hf; exact h
theorem kept_ecpk : ∀ v, Spec.lastSome Spec.Param.getEcpk ps = some v → v.length < 256 :=
  lastSome_range _ _ hr fun p _ hf h => by cases p <;> cases hf; exact h
theorem kept_rn : ∀ v, Spec.lastSome Spec.Param.getRn ps = some v → v.length < 256 :=
  lastSome_range _ _ hr fun p _ hf h => by cases p <;> cases hf; exact h

end

theorem getD_lt {o : Option Nat} {d k : Nat} (h : ∀ v, o = some v → v < k) (hd : d < k) : o.getD d < k := by
  cases o with
  | none => exact hd
  | some v => exact h v rfl

theorem normOpt_valid (o : Option Bytes) (h : ∀ v, o = some v → v.length < 256) :
    ∀ v, normOpt o = some v → v ≠ [] ∧ v.length ≤ 255 := by
  intro v hv
  rcases o with _ | ⟨_ | ⟨x, xs⟩⟩
  · cases hv
  · cases hv
  · simp only [normOpt] at hv
    cases hv
    have := h (x :: xs) rfl
    exact ⟨by simp, by omega⟩

theorem optLen_le {α : Type} (n : Nat) (o : Option α) : optLen n o ≤ n := by cases o <;> simp [optLen]

theorem truthyLen_le (o : Option Bytes) (h : ∀ v, o = some v → v.length < 256) : truthyLen o ≤ 257 := by
  rcases o with _ | v
  · simp [truthyLen]
  · have := h v rfl
    simp only [truthyLen]
    split <;> omega

theorem snl_size (ps : List Spec.Param) :
    (ps.filterMap Spec.Param.getSdres).length * 4
      + sumMap (fun r => 3 + r.2.length) (ps.filterMap Spec.Param.getSdreq) = sumMap psize ps := by
  induction ps with
  | nil => rfl
  | cons p ps ih =>
    cases p <;> simp [List.filterMap_cons, Spec.Param.getSdres, Spec.Param.getSdreq, sumMap, psize] at ih ⊢ <;> omega

/-- a decoded PDU (not an aggregate) has valid fields in normal form, and re-encodes to at most
`max(len, 520)` octets -/
theorem decodeS_valid (b0 b1 : Nat) (info : Bytes) (hb : IsBytes (b0 :: b1 :: info)) (q : SPdu)
    (h : Spec.decodeS (b0 :: b1 :: info) = some q) :
    ValidS (normS q) ∧ (lenS q ≤ info.length + 2 ∨ lenS q ≤ 520) := by
  have h0 : b0 < 256 := hb b0 (by simp)
  have h1 : b1 < 256 := hb b1 (by simp)
  have hinfo : IsBytes info := fun x hx => hb x (by simp [hx])
  have hd : b0 / 4 ≤ 63 := by omega
  have hs : b1 % 64 ≤ 63 := by omega
  rcases lt16_cases (show (b0 % 4) * 4 + b1 / 64 < 16 by omega) with
    hp | hp | hp | hp | hp | hp | hp | hp | hp | hp | hp | hp | hp | hp | hp | hp
  all_goals simp only [Spec.decodeS, hp] at h
  · -- SYMM
    split at h
    · cases h; exact ⟨⟨rfl, rfl⟩, Or.inr (by simp [lenS])⟩
    · cases h
  · -- PAX
    split at h
    · obtain ⟨ps, hps, rfl⟩ := Option.map_eq_some_iff.mp h
      obtain ⟨hr, _⟩ := params_range _ _ _ hinfo hps
      refine ⟨⟨rfl, rfl, fun v hv => Nat.le_of_lt_succ (kept_version hr v hv),
        fun v hv => Nat.le_of_lt_succ (kept_miux hr v hv), fun v hv => Nat.le_of_lt_succ (kept_wks hr v hv),
        fun v hv => Nat.le_of_lt_succ (kept_lto hr v hv), fun v hv => Nat.le_of_lt_succ (kept_opt hr v hv)⟩, Or.inr ?_⟩
      · simp only [lenS]
        have a1 := optLen_le 3 (Spec.lastSome Spec.Param.getVersion ps)
        have a2 := optLen_le 4 (Spec.lastSome Spec.Param.getMiux ps)
        have a3 := optLen_le 4 (Spec.lastSome Spec.Param.getWks ps)
        have a4 := optLen_le 3 (Spec.lastSome Spec.Param.getLto ps)
        have a5 := optLen_le 3 (Spec.lastSome Spec.Param.getOpt ps)
        omega
    · cases h
  · -- AGF is not a simple PDU
    cases h
  · -- UI
    cases h; exact ⟨⟨hd, hs⟩, Or.inl (by simp [lenS]; omega)⟩
  · -- CONNECT
    obtain ⟨ps, hps, rfl⟩ := Option.map_eq_some_iff.mp h
    obtain ⟨hr, _⟩ := params_range _ _ _ hinfo hps
    have hm := getD_lt (kept_miux hr) (by omega : 0 < 2048)
    have hrw := getD_lt (kept_rw hr) (by omega : 1 < 16)
    refine ⟨⟨hd, hs, by omega, by omega, by omega, normOpt_valid _ (kept_sn hr)⟩, Or.inr ?_⟩
    have := truthyLen_le _ (kept_sn hr)
    simp only [lenS]
    split <;> split <;> omega
  · -- DISC
    cases h; exact ⟨⟨hd, hs⟩, Or.inr (by simp [lenS])⟩
  · -- CC
    obtain ⟨ps, hps, rfl⟩ := Option.map_eq_some_iff.mp h
    obtain ⟨hr, _⟩ := params_range _ _ _ hinfo hps
    have hm := getD_lt (kept_miux hr) (by omega : 0 < 2048)
    have hrw := getD_lt (kept_rw hr) (by omega : 1 < 16)
    refine ⟨⟨hd, hs, by omega, by omega, by omega⟩, Or.inr ?_⟩
    simp only [lenS]
    split <;> split <;> omega
  · -- DM
    rcases info with _ | ⟨r, _ | ⟨x, xs⟩⟩ <;> simp at h
    subst h
    have : r < 256 := hinfo r (by simp)
    exact ⟨⟨hd, hs, by omega⟩, Or.inr (by simp [lenS])⟩
  · -- FRMR
    rcases info with _ | ⟨x0, _ | ⟨x1, _ | ⟨x2, _ | ⟨x3, _ | ⟨x4, xs⟩⟩⟩⟩⟩ <;> simp at h
    subst h
    have a0 : x0 < 256 := hinfo x0 (by simp)
    have a1 : x1 < 256 := hinfo x1 (by simp)
    have a2 : x2 < 256 := hinfo x2 (by simp)
    have a3 : x3 < 256 := hinfo x3 (by simp)
    exact ⟨⟨hd, hs, by omega, by omega, by omega, by omega, by omega, by omega, by omega, by omega⟩,
      Or.inr (by simp [lenS])⟩
  · -- SNL
    split at h
    · obtain ⟨ps, hps, rfl⟩ := Option.map_eq_some_iff.mp h
      obtain ⟨hr, hsz⟩ := params_range _ _ _ hinfo hps
      refine ⟨⟨rfl, rfl, ?req, ?res⟩, Or.inl ?_⟩
      case req | res =>
        intro x hx
        obtain ⟨p, hp, hfp⟩ := List.mem_filterMap.mp hx
        have := hr p hp
        cases p <;> cases hfp
        exact ⟨Nat.le_of_lt_succ this.1, Nat.le_of_lt_succ this.2⟩
      · have := snl_size ps
        simp only [lenS]
        omega
    · cases h
  · -- DPS
    split at h
    · obtain ⟨ps, hps, rfl⟩ := Option.map_eq_some_iff.mp h
      obtain ⟨hr, _⟩ := params_range _ _ _ hinfo hps
      refine ⟨⟨rfl, rfl, normOpt_valid _ (kept_ecpk hr), normOpt_valid _ (kept_rn hr)⟩, Or.inr ?_⟩
      have := truthyLen_le _ (kept_ecpk hr)
      have := truthyLen_le _ (kept_rn hr)
      simp only [lenS]
      omega
    · cases h
  · -- unknown 1011
    cases h; exact ⟨⟨Or.inl rfl, hd, hs⟩, Or.inl (by simp [lenS]; omega)⟩
  · -- I
    rcases info with _ | ⟨sq, sdu⟩ <;> simp at h
    subst h
    have : sq < 256 := hinfo sq (by simp)
    exact ⟨⟨hd, hs, by omega, by omega⟩, Or.inl (by simp [lenS]; omega)⟩
  · -- RR
    rcases info with _ | ⟨sq, sdu⟩ <;> simp at h
    subst h
    exact ⟨⟨hd, hs, by omega⟩, Or.inr (by simp [lenS])⟩
  · -- RNR
    rcases info with _ | ⟨sq, sdu⟩ <;> simp at h
    subst h
    exact ⟨⟨hd, hs, by omega⟩, Or.inr (by simp [lenS])⟩
  · -- unknown 1111
    cases h; exact ⟨⟨Or.inr rfl, hd, hs⟩, Or.inl (by simp [lenS]; omega)⟩

theorem decodeS_valid' (e : Bytes) (he : IsBytes e) (q : SPdu) (h : Spec.decodeS e = some q) :
    ValidS (normS q) ∧ (lenS q ≤ e.length ∨ lenS q ≤ 520) := by
  match e, he, h with
  | [], _, h => cases h
  | [_], _, h => cases h
  | b0 :: b1 :: info, he, h =>
    have := decodeS_valid b0 b1 info he q h
    simpa using this

theorem aggregate_valid (n : Nat) (info : Bytes) (qs : List SPdu) (hb : IsBytes info)
    (h : Spec.aggregate Spec.decodeS n info = some qs) :
    ∀ q ∈ qs, ValidS (normS q) ∧ lenS q ≤ 65535 := by
  induction n generalizing info qs with
  | zero =>
    match info, h with
    | [], h => rw [aggregate_nil] at h; cases h; simp
    | _ :: _, h => cases h
  | succ k ih =>
    match info, hb, h with
    | [], _, h => rw [aggregate_nil] at h; cases h; simp
    | [x], _, h => rw [aggregate_single] at h; cases h
    | a :: b :: rest, hb, h =>
      rw [aggregate_cons] at h
      split at h
      · cases h
      · split at h <;> cases h
        rename_i hl p ps hp hq
        have hbr : IsBytes rest := fun x hx => hb x (by simp [hx])
        have ha : a < 256 := hb a (by simp)
        have hb' : b < 256 := hb b (by simp)
        have e2 : (rest.take (a * 256 + b)).length = a * 256 + b := by simp; omega
        obtain ⟨v1, v2⟩ := decodeS_valid' _ (isBytes_take hbr _) p hp
        rw [e2] at v2
        intro q hq'
        rcases List.mem_cons.mp hq' with rfl | hq'
        · exact ⟨v1, by omega⟩
        · exact ih _ ps (isBytes_drop hbr _) hq q hq'

theorem spec_valid (b : Bytes) (hb : IsBytes b) (p : Pdu) (h : Spec.decode b = some p) : Valid (norm p) := by
  match b, hb, h with
  | [], _, h => cases h
  | [_], _, h => cases h
  | b0 :: b1 :: info, hb, h =>
    have hinfo : IsBytes info := fun x hx => hb x (by simp [hx])
    simp only [Spec.decode] at h
    split at h
    · split at h
      · obtain ⟨qs, hagg, rfl⟩ := Option.map_eq_some_iff.mp h
        have hv := aggregate_valid _ _ _ hinfo hagg
        refine ⟨rfl, rfl, ?_⟩
        intro q hq
        obtain ⟨q', hq', rfl⟩ := List.mem_map.mp hq
        obtain ⟨v1, v2⟩ := hv q' hq'
        exact ⟨v1, by rw [lenS_norm]; exact v2⟩
      · cases h
    · obtain ⟨q, hq, rfl⟩ := Option.map_eq_some_iff.mp h
      exact (decodeS_valid b0 b1 info hb q hq).1

theorem normOpt_of_valid (o : Option Bytes) (h : ∀ v, o = some v → v ≠ [] ∧ v.length ≤ 255) : normOpt o = o := by
  rcases o with _ | ⟨_ | ⟨x, xs⟩⟩
  · rfl
  · exact absurd rfl (h [] rfl).1
  · rfl

theorem normS_of_valid (q : SPdu) (h : ValidS q) : normS q = q := by
  cases q with
  | connect d s m r sn => simp only [normS, normOpt_of_valid sn h.2.2.2.2.2]
  | dps d s e r => simp only [normS, normOpt_of_valid e h.2.2.1, normOpt_of_valid r h.2.2.2]
  | _ => rfl

end Impl
end NfcVerif.Pdu
