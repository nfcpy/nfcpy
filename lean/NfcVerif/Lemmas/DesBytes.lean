import NfcVerif.Lemmas.Des
import NfcVerif.Model.Mac
/-!
# octets <-> bits, and triple DES as a block cipher on 8-octet blocks
-/
namespace NfcVerif.Des
open NfcVerif NfcVerif.Mac

/-! `bitsByte v` is the Horner value of the digits `v[0] .. v[7]`, so bit `k` of it is the digit
`v[7 - k]`; `byteBits n` lists the bits 7 .. 0 of `n`.  Both round trips follow bit by bit. -/

theorem testBit_double_add_zero (a : Nat) (b : Bool) : (2 * a + b.toNat).testBit 0 = b := by
  have := b.toNat_le
  rw [Nat.testBit_zero, show (2 * a + b.toNat) % 2 = b.toNat by omega]
  cases b <;> rfl

theorem testBit_double_add_succ (a k : Nat) (b : Bool) : (2 * a + b.toNat).testBit (k + 1) = a.testBit k := by
  have := b.toNat_le
  rw [Nat.testBit_add_one, show (2 * a + b.toNat) / 2 = a by omega]

theorem eight_cases {i : Nat} (h : i < 8) : i = 0 ∨ i = 1 ∨ i = 2 ∨ i = 3 ∨ i = 4 ∨ i = 5 ∨ i = 6 ∨ i = 7 := by
  omega

theorem byteBits_get (n i : Nat) (h : i < 8) : (byteBits n)[i] = n.testBit (7 - i) := by
  rcases eight_cases h with rfl | rfl | rfl | rfl | rfl | rfl | rfl | rfl <;> rfl

theorem testBit_bitsByte (v : Bits 8) (k : Nat) (h : k < 8) : (bitsByte v).testBit k = v[7 - k] := by
  have e : bitsByte v = 2 * (2 * (2 * (2 * (2 * (2 * (2 * (2 * 0 + v[0].toNat) + v[1].toNat) + v[2].toNat) + v[3].toNat)
      + v[4].toNat) + v[5].toNat) + v[6].toNat) + v[7].toNat := by
    unfold bitsByte
    omega
  rw [e]
  rcases eight_cases h with rfl | rfl | rfl | rfl | rfl | rfl | rfl | rfl <;>
    simp only [testBit_double_add_zero, testBit_double_add_succ] <;> rfl

theorem bitsByte_lt (v : Bits 8) : bitsByte v < 256 := by
  have := v[0].toNat_le; have := v[1].toNat_le; have := v[2].toNat_le; have := v[3].toNat_le
  have := v[4].toNat_le; have := v[5].toNat_le; have := v[6].toNat_le; have := v[7].toNat_le
  unfold bitsByte
  omega

theorem byteBits_bitsByte (v : Bits 8) : byteBits (bitsByte v) = v := by
  apply Vector.ext
  intro i hi
  rw [byteBits_get _ i hi, testBit_bitsByte v _ (by omega)]
  congr 1
  omega

theorem bitsByte_byteBits (n : Nat) (h : n < 256) : bitsByte (byteBits n) = n := by
  apply Nat.eq_of_testBit_eq
  intro i
  by_cases hi : i < 8
  · rw [testBit_bitsByte _ i hi, byteBits_get n _ (by omega)]
    congr 1
    omega
  · -- both numbers are below 2 ^ 8
    have h2 : 2 ^ 8 ≤ 2 ^ i := Nat.pow_le_pow_right (by decide) (by omega)
    rw [Nat.testBit_lt_two_pow (Nat.lt_of_lt_of_le (bitsByte_lt _) h2), Nat.testBit_lt_two_pow (Nat.lt_of_lt_of_le h h2)]

theorem bitsToBytes_length (v : Bits 64) : (bitsToBytes v).length = 8 := by simp [bitsToBytes]

theorem bitsToBytes_get (v : Bits 64) (j : Nat) (hj : j < 8) :
    (bitsToBytes v).getD j 0 = bitsByte (Vector.ofFn fun t : Fin 8 => v[8 * j + t.val]'(by omega)) := by
  unfold bitsToBytes
  rw [List.getD_eq_getElem?_getD, List.getElem?_eq_getElem (by simp [hj])]
  simp only [Option.getD_some]
  rw [List.getElem_ofFn]

theorem bytesToBits_bitsToBytes (v : Bits 64) : bytesToBits (bitsToBytes v) = v := by
  apply Vector.ext
  intro i hi
  unfold bytesToBits
  rw [Vector.getElem_ofFn]
  simp only []
  have h8 : i / 8 < 8 := by omega
  rw [bitsToBytes_get v (i / 8) h8]
  simp only [byteBits_bitsByte, Vector.getElem_ofFn]
  congr 1
  omega

theorem bitsToBytes_isBytes (v : Bits 64) : IsBytes (bitsToBytes v) := by
  intro b hb
  unfold bitsToBytes at hb
  rw [List.mem_ofFn] at hb
  obtain ⟨j, rfl⟩ := hb
  exact bitsByte_lt _

theorem bitsToBytes_injective : Function.Injective bitsToBytes := by
  intro a b h
  have := congrArg bytesToBits h
  rwa [bytesToBits_bitsToBytes, bytesToBits_bitsToBytes] at this

theorem bitsToBytes_bytesToBits (b : Bytes) (hl : b.length = 8) (hb : IsBytes b) : bitsToBytes (bytesToBits b) = b := by
  apply List.ext_getElem
  · simp [bitsToBytes_length, hl]
  · intro j h1 h2
    have hj : j < 8 := by simpa [bitsToBytes_length] using h1
    have := bitsToBytes_get (bytesToBits b) j hj
    rw [List.getD_eq_getElem?_getD, List.getElem?_eq_getElem h1] at this
    simp only [Option.getD_some] at this
    rw [this]
    have hv : (Vector.ofFn fun t : Fin 8 => (bytesToBits b)[8 * j + t.val]'(by omega)) = byteBits b[j] := by
      apply Vector.ext
      intro t ht
      rw [Vector.getElem_ofFn]
      unfold bytesToBits
      rw [Vector.getElem_ofFn]
      simp only []
      have e1 : (8 * j + t) / 8 = j := by omega
      have e2 : (8 * j + t) % 8 = t := by omega
      simp only [e1, e2]
      have e3 : List.getD b j 0 = b[j] := by simp [List.getD_eq_getElem?_getD, h2]
      exact congrArg (fun n => (byteBits n)[t]) e3
    rw [hv]
    exact bitsByte_byteBits _ (hb _ (List.getElem_mem h2))

theorem bitsToBytes_block (v : Bits 64) : Block (bitsToBytes v) :=
  ⟨bitsToBytes_length v, bitsToBytes_isBytes v⟩

theorem bytesToBits_injOn (a b : Bytes) (ha : Block a) (hb : Block b) (h : bytesToBits a = bytesToBits b) : a = b := by
  have := congrArg bitsToBytes h
  rwa [bitsToBytes_bytesToBits a ha.1 ha.2, bitsToBytes_bytesToBits b hb.1 hb.2] at this

theorem tdesDecBytes_tdesBytes (key blk : Bytes) (h : Block blk) : tdesDecBytes key (tdesBytes key blk) = blk := by
  unfold tdesDecBytes tdesBytes
  rw [bytesToBits_bitsToBytes, tdesDec_tdesEnc, bitsToBytes_bytesToBits blk h.1 h.2]

end NfcVerif.Des
