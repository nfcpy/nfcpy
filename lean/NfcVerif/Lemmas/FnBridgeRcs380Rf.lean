import NfcVerif.Lemmas.FnBridgePn53xCommon
/-!
# Helper lemmas for `Props/FnBridgeRcs380Rf.lean`

`idxN` on a list given by its head, the clamp of the receive timeouts.
-/
namespace NfcVerif.FnBridge.Rcs380Rf
open NfcVerif NfcVerif.PyFn NfcVerif.FnBridge.HostLink

theorem idxN_cons_zero {α} (a : α) (l : List α) : idxN (a :: l) 0 = .ok a := rfl
theorem idxN_cons_succ {α} (a : α) (l : List α) (n : Nat) : idxN (a :: l) (n + 1) = idxN l n :=
  NfcVerif.idxN_cons_succ a l n
theorem idxN_nil {α} (n : Nat) : idxN ([] : List α) n = .error .index := NfcVerif.idxN_nil n

theorem imin_clamp (ms : Int) : PyFn.imin ms 65535 = if ms > 65535 then 65535 else ms := by
  unfold PyFn.imin; by_cases h : (65535 : Int) < ms <;> simp [h]

end NfcVerif.FnBridge.Rcs380Rf
