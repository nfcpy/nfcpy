import NfcVerif.Model.FnTagCmdRef
import NfcVerif.Model.AdvT34
import NfcVerif.Model.Auth
import NfcVerif.Lemmas.FnBridgeTagCmdPrelude
/-!
The property models against the reference commands of `Model/FnTagCmdRef.lean`, with no regenerated function in any
statement: the Type 1 / Type 2 reader models of C08 (`Model/AdvT12.lean`: `stageA`, `stageB`, `segLoop`, `read2`, `fill2`,
`sectorSelect`) send and check exactly the reference commands; the Type 3 frame and response check of the C20 model
(`Model/Auth.lean`) and the response check and block list elements of the C08 model (`Model/AdvT34.lean`) are the
reference functions.  `Props/FnBridgeTagCmdT12.lean` and `Props/FnBridgeTagCmdT3.lean` compose these with the bridges
of the regenerated functions.
-/
namespace NfcVerif.FnBridge.TagCmd
open NfcVerif NfcVerif.PyFn NfcVerif.Adv NfcVerif.TagCmdRef

/-- RALL of `Type1TagMemoryReader._read_from_tag` -/
theorem stageA_cmd (t : Tag) (uid : Bytes) (s : S1) :
    stageA t uid s =
      if s.cache.length < 120 then
        match trans1 t (t1Rall uid) s with
        | (.error e, s1) => (.error e, s1)
        | (.ok rsp, s1) =>
          if rsp.length < 2 then (.error (.tagCmd 2), s1)
          else (.ok (), { s1 with hdr := rsp.take 2, cache := rsp.drop 2 })
      else (.ok (), s) := rfl

/-- READ8 of block 15: the command is `t1Read8 15`, the answer is checked by `t1Read8Rsp` -/
theorem stageB_cmd (t : Tag) (uid : Bytes) (stop : Nat) (s1 : S1) :
    stageB t uid stop s1 =
      if stop > 120 ∧ s1.cache.length < 128 then
        match t1Read8 15 uid with
        | .error e => (.error e, s1)
        | .ok cmd =>
          match trans1 t cmd s1 with
          | (.error e, s2) => (.error e, s2)
          | (.ok rsp, s2) =>
            match t1Read8Rsp rsp with
            | .error e => (.error e, s2)
            | .ok d => (.ok (), { s2 with cache := s2.cache.take 120 ++ d ++ s2.cache.drop 128 })
      else (.ok (), s1) := by
  unfold stageB
  by_cases h : stop > 120 ∧ s1.cache.length < 128
  · simp only [h, and_self, if_true]
    have hc : t1Read8 15 uid = .ok ([0x02, 15] ++ Adv.zeros8 ++ uid) := by
      simp [t1Read8, TagCmdRef.zeros8, Adv.zeros8]
    rw [hc]
    simp only []
    generalize trans1 t ([0x02, 15] ++ Adv.zeros8 ++ uid) s1 = r
    rcases r with ⟨r, s2⟩
    cases r with
    | error e => rfl
    | ok rsp =>
      unfold t1Read8Rsp
      by_cases hl : rsp.length < 9 <;> simp [hl]
  · simp only [h, if_false]

/-- one round of `while len(self) < stop: read_segment(len(self) >> 7)` -/
theorem segLoop_cmd (t : Tag) (uid : Bytes) (stop f : Nat) (s : S1) :
    segLoop t uid stop (f + 1) s =
      if s.cache.length ≥ stop then (.ok (), s)
      else
        match t1Rseg ((s.cache.length / 128 : Nat) : Int) uid with
        | .error e => (.error e, s)
        | .ok cmd =>
          match trans1 t cmd s with
          | (.error e, s1) => (.error e, s1)
          | (.ok rsp, s1) =>
            match t1RsegRsp rsp with
            | .error e => (.error e, s1)
            | .ok d => segLoop t uid stop f { s1 with cache := s1.cache ++ d } := by
  rw [segLoop]
  by_cases h : s.cache.length ≥ stop
  · simp only [h, if_true]
  · simp only [h, if_false]
    unfold t1Rseg
    by_cases hs : s.cache.length / 128 > 15
    · have : ((s.cache.length / 128 : Nat) : Int) < 0 ∨ ((s.cache.length / 128 : Nat) : Int) > 15 := by omega
      simp only [hs, if_true, this]
    · have : ¬ (((s.cache.length / 128 : Nat) : Int) < 0 ∨ ((s.cache.length / 128 : Nat) : Int) > 15) := by omega
      simp only [hs, if_false, this, Int.toNat_natCast]
      have hz : TagCmdRef.zeros8 = Adv.zeros8 := rfl
      rw [hz]
      generalize trans1 t ([0x10, s.cache.length / 128 * 16] ++ Adv.zeros8 ++ uid) s = r
      rcases r with ⟨r, s1⟩
      cases r with
      | error e => rfl
      | ok rsp =>
        unfold t1RsegRsp
        by_cases hl : rsp.length < 129 <;> simp [hl]

/-- `Type2Tag.read`: command `t2ReadCmd`, NAK recognition `t2IsNak`, length check `t2ReadRsp` -/
theorem read2_cmd (t : Tag) (page : Nat) (s : S2) :
    read2 t page s =
      match trans2 t 3 (t2ReadCmd (page : Int)) s with
      | (.error e, s') => (.error e, s')
      | (.ok d, s') =>
        if t2IsNak d then
          match xchg t s'.w [] with
          | (some _, w') => (.error (.tagCmd 2), { s' with w := w', alive := true, sector := 0 })
          | (none, w') => (.error (.tagCmd (-1)), { s' with w := w', alive := false, sector := 0 })
        else (t2ReadRsp d, s') := by
  unfold read2
  have hc : t2ReadCmd (page : Int) = [0x30, page % 256] := by
    unfold t2ReadCmd
    have : ((page : Int) % 256).toNat = page % 256 := by omega
    rw [this]
  rw [hc]
  rcases trans2 t 3 [0x30, page % 256] s with ⟨r, s'⟩
  cases r with
  | error e => rfl
  | ok d =>
    match d with
    | [] => simp [t2IsNak, t2ReadRsp]
    | [b] =>
      by_cases hb : b &&& 0xFA = 0
      · simp [t2IsNak, hb]; rfl
      · simp [t2IsNak, hb, t2ReadRsp]
    | a :: b :: r =>
      simp only [t2IsNak, t2ReadRsp, Bool.false_eq_true, if_false]
      split <;> rfl

/-- the frame of `Type3Tag.send_cmd_recv_rsp` as the C20 model builds it -/
theorem t3Command_frame (idm : Bytes) (code : Nat) (data : Bytes) :
    Auth.t3Command idm code data =
      if 2 + idm.length + data.length > 255 then .error .value
      else .ok ([2 + idm.length + data.length, code] ++ idm ++ data) := rfl

/-- the response checks of the C20 model are the reference checks (commands with IDm and status flags) -/
theorem t3Response_eq (idm : Bytes) (code : Nat) (rsp : Bytes) :
    Auth.t3Response idm code rsp = t3CheckRsp code true true idm rsp := by
  unfold Auth.t3Response t3CheckRsp
  simp only [at0_eq, not_true_eq_false, if_false, if_true, true_and]
  by_cases hl : rsp.length < 12
  · simp [hl]
  · have e0 : idx rsp 0 = _ := idx_nat rsp 0 (by omega)
    have e1 : idx rsp 1 = _ := idx_nat rsp 1 (by omega)
    have e10 : idx rsp 10 = _ := idx_nat rsp 10 (by omega)
    have hs : slice rsp 2 10 = (rsp.drop 2).take 8 := slice_ofNat rsp 2 10
    have hsl : slice rsp 10 12 = [at0 rsp 10, at0 rsp 11] := slice2_at rsp 10 (by omega)
    rw [e0, e1, e10, hs, hsl]
    simp only [hl, if_false, Py.bind_ok, false_or]

/-- the response checks of the C08 model are the reference checks with `check_status=True` -/
theorem checkRsp3_eq (code : Nat) (sendIdm : Bool) (idm rsp : Bytes) :
    Adv.checkRsp3 code sendIdm idm rsp = t3CheckRsp code sendIdm true idm rsp := by
  unfold Adv.checkRsp3 t3CheckRsp
  match rsp with
  | [] => cases sendIdm <;> simp
  | [a] => cases sendIdm <;> simp
  | r0 :: r1 :: rest =>
    simp only [List.getElem?_cons_zero, List.getElem?_cons_succ, Option.getD_some, List.drop_succ_cons, List.drop_zero, sliceN,
      List.length_cons, if_true]
    cases sendIdm
    · simp
      have : ¬ rest.length + 1 + 1 < 2 := by omega
      by_cases h0 : r0 = rest.length + 1 + 1 <;> simp [h0, this]
    · simp only [true_and, not_true_eq_false, if_false, ne_eq]
      by_cases hl : rest.length + 1 + 1 < 12
      · simp [hl]
      · have h10 : (r0 :: r1 :: rest)[10]? = some (((r0 :: r1 :: rest)[10]?).getD 0) := getD_of_lt _ 10 (by simp; omega)
        have h11 : (r0 :: r1 :: rest)[11]? = some (((r0 :: r1 :: rest)[11]?).getD 0) := getD_of_lt _ 11 (by simp; omega)
        simp only [List.getElem?_cons_succ] at h10 h11
        rw [h10, h11]
        simp only [hl, false_or, Nat.reduceSub]
        exact ite_branch_congr rfl fun _ => ite_branch_congr rfl fun _ => ite_branch_congr rfl fun _ => rfl

/-- `BlockCode(n).pack()` of the C08 model (access mode 0, service index 0) -/
theorem blockCode_eq (bn : Nat) : Adv.blockCode bn = t3BlockCode bn 0 0 := by
  unfold Adv.blockCode t3BlockCode
  by_cases h1 : bn < 256
  · simp [h1]
  · by_cases h2 : bn < 65536 <;> simp [h1, h2]

/-- ... and of the C20 model (block numbers below 256) -/
theorem blockList_eq : ∀ (bl : List Nat), (∀ b ∈ bl, b < 256) →
    (bl.mapM fun b => t3BlockCode b 0 0) = .ok (bl.map fun b => [0x80, b])
  | [], _ => rfl
  | b :: bl, h => by
    have hb : b < 256 := h b (by simp)
    have ih := blockList_eq bl (fun x hx => h x (by simp [hx]))
    have e : t3BlockCode b 0 0 = .ok [0x80, b] := by simp [t3BlockCode, hb]
    simp only [List.mapM_cons, ih, e, List.map_cons]
    rfl

/-- `Type2TagMemoryReader._read_from_tag`: sector `index >> 10`, page `index >> 2` -/
theorem fill2_cmd (t : Tag) (stop f index : Nat) (s : S2) :
    fill2 t stop (f + 1) index s =
      if index ≥ stop then (.ok (), s)
      else
        match sectorSelect t (t2Sector index) s with
        | (.error e, s1) => (.error e, s1)
        | (.ok _, s1) =>
          match read2 t (t2Page index) s1 with
          | (.error e, s2) => (.error e, s2)
          | (.ok d, s2) => fill2 t stop f (index + 16) { s2 with cache := s2.cache.take index ++ d } := rfl

/-- `index = (len(self) >> 4) << 4` -/
theorem mem2_start (t : Tag) (stop : Nat) (s : S2) :
    (mem2 t).ensure stop s = fill2 t stop (stop + 1) (t2ReadStart s.cache.length) s := rfl

/-- `Type2Tag.sector_select`: packet 2 is `t2SectorSelect2`, the ACK of packet 1 is `t2SectorAck` -/
theorem sectorSelect_cmd (t : Tag) (sector : Nat) (s : S2) :
    sectorSelect t sector s =
      if sector = s.sector then (.ok (), s)
      else
        match t2SectorSelect2 (sector : Int) with
        | .error e => (.error e, s)
        | .ok p2 =>
          match trans2 t 3 [0xC2, 0xFF] s with
          | (.error e, s1) => (.error e, s1)
          | (.ok rsp, s1) =>
            if t2SectorAck rsp then
              match trans2 t 1 p2 s1 with
              | (.error e, s2) =>
                if e = .tagCmd 0 then (.ok (), { s2 with sector := sector })
                else (.error e, s2)
              | (.ok _, s2) => (.error (.tagCmd 1), s2)
            else (.error (.tagCmd 1), s1) := by
  unfold sectorSelect t2SectorSelect2 t2SectorAck
  by_cases h0 : sector = s.sector
  · simp only [h0, if_true]
  · simp only [h0, if_false]
    by_cases h1 : sector ≥ 256
    · have : ((sector : Int) < 0 ∨ (sector : Int) > 255) := by omega
      simp only [h1, if_true, this]
    · have : ¬ ((sector : Int) < 0 ∨ (sector : Int) > 255) := by omega
      simp only [h1, if_false, this, Int.toNat_natCast, decide_eq_true_eq]
      generalize trans2 t 3 [0xC2, 0xFF] s = r
      rcases r with ⟨r, s1⟩
      cases r with
      | error e => rfl
      | ok rsp =>
        by_cases hr : rsp = [0x0A]
        · simp only [hr, if_true]
          generalize trans2 t 1 [sector, 0, 0, 0] s1 = r2
          rcases r2 with ⟨r2, s2⟩
          cases r2 <;> rfl
        · simp only [hr, if_false]

end NfcVerif.FnBridge.TagCmd
