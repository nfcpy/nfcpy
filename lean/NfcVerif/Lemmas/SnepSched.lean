import NfcVerif.Lemmas.SnepChannel
import NfcVerif.Model.SnepSched
/-!
Proofs about arbitrary interleavings (`runSched`) and the windowed link (`WNet`), property C06.

* the two kinds of moves commute and do not disable each other, hence every interleaving can be
  continued to any one that comes to rest (`exec_extend`), all that come to rest end in the same
  state after the same number of deliveries (`exec_confluent`), and that state is the one the
  fixed-order `pump` reaches (`sched_confluent`);
* with acknowledgements on consumption the windowed link never discards a message, never blocks
  for ever, and its application-level behaviour is an interleaving of the plain network
  (`NoLoss`, `wnet_refines`, `wnet_progress`).
-/
namespace NfcVerif.Chan
open NfcVerif

variable {C S D : Type}

theorem stepS_of_not_en (p : Proto C S D) (n : Net C S D) (h : ¬ En p .srv n) : stepS p n = n := by
  simp only [En, ne_eq, Decidable.not_not] at h
  simp [stepS, h]

theorem stepC_of_not_en (p : Proto C S D) (n : Net C S D) (h : ¬ En p .cli n) : stepC p n = n := by
  unfold stepC
  cases hq : n.s2c with
  | nil => rfl
  | cons m q =>
    by_cases hw : p.cwait n.cst = true
    · exact absurd ⟨by rw [hq]; simp, hw⟩ h
    · simp [hw]

theorem stepW_of_not_en (p : Proto C S D) (w : Who) (n : Net C S D) (h : ¬ En p w n) : stepW p w n = n := by
  cases w
  · exact stepS_of_not_en p n h
  · exact stepC_of_not_en p n h

theorem quiet_iff (p : Proto C S D) (n : Net C S D) : quiet p n ↔ ¬ En p .srv n ∧ ¬ En p .cli n := by
  simp only [quiet, En, ne_eq, Decidable.not_not, not_and, Bool.not_eq_true]
  constructor
  · rintro ⟨h1, h2⟩
    refine ⟨h1, fun hne => ?_⟩
    rcases h2 with h2 | h2
    · exact absurd h2 hne
    · exact h2
  · rintro ⟨h1, h2⟩
    refine ⟨h1, ?_⟩
    by_cases hs : n.s2c = []
    · exact Or.inl hs
    · exact Or.inr (h2 hs)

theorem not_en_of_quiet (p : Proto C S D) {n : Net C S D} (h : quiet p n) (w : Who) : ¬ En p w n := by
  rw [quiet_iff] at h
  cases w
  · exact h.1
  · exact h.2

theorem step_eq (p : Proto C S D) (n : Net C S D) :
    step p n = if n.c2s ≠ [] then stepS p n else stepC p n := by
  obtain ⟨cst, sst, c2s, s2c, logC, logS, dl⟩ := n
  cases c2s with
  | nil => cases s2c <;> simp [step, stepC]
  | cons m q => simp [step, stepS]

/-- the two moves commute when both are enabled -/
theorem stepS_stepC_comm (p : Proto C S D) (n : Net C S D) (hs : En p .srv n) (hc : En p .cli n) :
    stepS p (stepC p n) = stepC p (stepS p n) := by
  obtain ⟨cst, sst, c2s, s2c, logC, logS, dl⟩ := n
  simp only [En, ne_eq] at hs hc
  obtain ⟨hc1, hc2⟩ := hc
  cases c2s with
  | nil => exact absurd rfl hs
  | cons m q =>
    cases s2c with
    | nil => exact absurd rfl hc1
    | cons m' q' =>
      by_cases hw : p.swait sst = true <;> simp [stepS, stepC, hc2, hw]

theorem en_srv_stepC (p : Proto C S D) (n : Net C S D) (hs : En p .srv n) : En p .srv (stepC p n) := by
  simp only [En, ne_eq] at hs ⊢
  unfold stepC
  cases hq : n.s2c with
  | nil => simpa using hs
  | cons m q =>
    by_cases hw : p.cwait n.cst = true <;> simp [hw, hs]

theorem en_cli_stepS (p : Proto C S D) (n : Net C S D) (hc : En p .cli n) : En p .cli (stepS p n) := by
  simp only [En, ne_eq] at hc ⊢
  obtain ⟨hc1, hc2⟩ := hc
  unfold stepS
  cases hq : n.c2s with
  | nil => exact ⟨hc1, hc2⟩
  | cons m q =>
    by_cases hw : p.swait n.sst = true <;> simp [hw, hc1, hc2]

theorem stepW_comm (p : Proto C S D) (n : Net C S D) (a b : Who) (hab : a ≠ b) (ha : En p a n) (hb : En p b n) :
    stepW p a (stepW p b n) = stepW p b (stepW p a n) := by
  cases a <;> cases b
  · exact absurd rfl hab
  · exact stepS_stepC_comm p n ha hb
  · exact (stepS_stepC_comm p n hb ha).symm
  · exact absurd rfl hab

theorem en_persist (p : Proto C S D) (n : Net C S D) (a b : Who) (hab : a ≠ b) (ha : En p a n) :
    En p a (stepW p b n) := by
  cases a <;> cases b
  · exact absurd rfl hab
  · exact en_srv_stepC p n ha
  · exact en_cli_stepS p n ha
  · exact absurd rfl hab

/-! `Exec p n s m`: the moves `s`, each enabled at the moment it is made, lead from `n` to `m`. -/

inductive Exec (p : Proto C S D) : Net C S D → List Who → Net C S D → Prop
  | nil (n) : Exec p n [] n
  | cons {n m} (w : Who) (s : List Who) : En p w n → Exec p (stepW p w n) s m → Exec p n (w :: s) m

/-- an enabled move that has not been made yet can be made first -/
theorem exec_front (p : Proto C S D) {n m : Net C S D} {s : List Who} (h : Exec p n s m) (hq : quiet p m)
    (w : Who) (hw : En p w n) : ∃ s', Exec p (stepW p w n) s' m ∧ s'.length + 1 = s.length := by
  induction h with
  | nil n => exact absurd hw (not_en_of_quiet p hq w)
  | @cons n m w' s hen hrest ih =>
    by_cases hww : w' = w
    · subst hww
      exact ⟨s, hrest, rfl⟩
    · have hne : w ≠ w' := fun h => hww h.symm
      obtain ⟨s'', hs'', hl⟩ := ih hq (en_persist p n w w' hne hw)
      rw [stepW_comm p n w w' hne hw hen] at hs''
      exact ⟨w' :: s'', Exec.cons w' s'' (en_persist p n w' w hww hen) hs'', by simp; omega⟩

theorem exec_extend (p : Proto C S D) {n m q : Net C S D} {s s0 : List Who} (h : Exec p n s m)
    (h0 : Exec p n s0 q) (hq : quiet p q) : ∃ s', Exec p m s' q ∧ s.length + s'.length = s0.length := by
  induction h generalizing s0 with
  | nil n => exact ⟨s0, h0, by simp⟩
  | @cons n m w s hen _ ih =>
    obtain ⟨s0', h0', hl⟩ := exec_front p h0 hq w hen
    obtain ⟨s', hs', hl'⟩ := ih h0'
    exact ⟨s', hs', by simp; omega⟩

/-- **confluence**: all interleavings that come to rest end in the same state after the same
number of deliveries: the continuation `exec_extend` gives has no move to make -/
theorem exec_confluent (p : Proto C S D) {n m1 m2 : Net C S D} {s1 s2 : List Who} (h1 : Exec p n s1 m1)
    (hq1 : quiet p m1) (h2 : Exec p n s2 m2) (hq2 : quiet p m2) : m1 = m2 ∧ s1.length = s2.length := by
  obtain ⟨s', hs', hl⟩ := exec_extend p h1 h2 hq2
  cases hs' with
  | nil => exact ⟨rfl, by simpa using hl⟩
  | cons w s hen _ => exact absurd hen (not_en_of_quiet p hq1 w)

/-- a schedule with skipped choices is an execution of its effective moves -/
theorem runSched_exec (p : Proto C S D) : ∀ (sch : List Who) (n : Net C S D),
    ∃ s, Exec p n s (runSched p sch n) ∧ s.length ≤ sch.length := by
  intro sch
  induction sch with
  | nil => intro n; exact ⟨[], Exec.nil n, by simp⟩
  | cons w rest ih =>
    intro n
    by_cases hen : En p w n
    · obtain ⟨s, hs, hl⟩ := ih (stepW p w n)
      exact ⟨w :: s, Exec.cons w s hen hs, by simp; omega⟩
    · obtain ⟨s, hs, hl⟩ := ih n
      refine ⟨s, ?_, by simp; omega⟩
      simp only [runSched, stepW_of_not_en p w n hen]
      exact hs

/-- `step` makes an enabled move, the server's first, or the network is quiet -/
theorem step_cases (p : Proto C S D) (n : Net C S D) : quiet p n ∨ ∃ w, En p w n ∧ step p n = stepW p w n := by
  by_cases hs : En p .srv n
  · exact Or.inr ⟨.srv, hs, by rw [step_eq]; simp only [En] at hs; simp [hs, stepW]⟩
  · by_cases hc : En p .cli n
    · exact Or.inr ⟨.cli, hc, by rw [step_eq]; simp only [En, ne_eq, Decidable.not_not] at hs; simp [hs, stepW]⟩
    · exact Or.inl ((quiet_iff p n).mpr ⟨hs, hc⟩)

/-- the fixed-order pump is one of the interleavings -/
theorem pump_exec (p : Proto C S D) : ∀ (k : Nat) (n : Net C S D),
    ∃ s, Exec p n s (pump p k n) ∧ s.length ≤ k
  | 0, n => ⟨[], Exec.nil n, Nat.le_refl _⟩
  | k + 1, n => by
    simp only [pump]
    rcases step_cases p n with hq | ⟨w, hw, he⟩
    · rw [step_quiet p n hq]
      obtain ⟨s, h, hl⟩ := pump_exec p k n
      exact ⟨s, h, by omega⟩
    · rw [he]
      obtain ⟨s, h, hl⟩ := pump_exec p k (stepW p w n)
      exact ⟨w :: s, Exec.cons w s hw h, by simp; omega⟩

/-- **schedule independence**: whatever the interleaving, once nothing can be delivered any more
the network is in the state the fixed-order pump reaches -/
theorem sched_confluent (p : Proto C S D) (n : Net C S D) (sch : List Who) (k : Nat)
    (h1 : quiet p (runSched p sch n)) (h2 : quiet p (pump p k n)) : runSched p sch n = pump p k n := by
  obtain ⟨s1, e1, _⟩ := runSched_exec p sch n
  obtain ⟨s2, e2, _⟩ := pump_exec p k n
  exact (exec_confluent p e1 h1 e2 h2).1

theorem runSched_append (p : Proto C S D) (a b : List Who) (n : Net C S D) :
    runSched p (a ++ b) n = runSched p b (runSched p a n) := by
  induction a generalizing n with
  | nil => rfl
  | cons w a ih => simp only [List.cons_append, runSched]; exact ih _

/-- invariant of one direction when acknowledgements follow consumption: nothing was discarded,
every transmitted message is in the receive queue, consumed but not yet acknowledged, or
acknowledged, and at most `rw` messages are unacknowledged -/
def Dir.NoLoss (rw : Nat) (d : Dir) : Prop :=
  d.lost = [] ∧ d.inq.length + d.confs + d.acked = d.vs ∧ d.vs ≤ d.acked + rw

theorem Dir.noLoss_init (rw : Nat) (q : List Bytes) : Dir.NoLoss rw { out := q } := by
  simp [Dir.NoLoss]

theorem Dir.noLoss_out (rw : Nat) (d : Dir) (q : List Bytes) (h : d.NoLoss rw) :
    Dir.NoLoss rw { d with out := q } := h

/-- transmission keeps the invariant and the stream: with the window respected the receive queue has room -/
theorem Dir.noLoss_xmit (rw : Nat) (d : Dir) (h : d.NoLoss rw) :
    (d.xmit .onConsume rw).NoLoss rw ∧
    (d.xmit .onConsume rw).inq ++ (d.xmit .onConsume rw).out = d.inq ++ d.out := by
  obtain ⟨h1, h2, h3⟩ := h
  unfold Dir.xmit
  cases ho : d.out with
  | nil => exact ⟨⟨h1, h2, h3⟩, by simp [ho]⟩
  | cons m q =>
    by_cases hw : d.vs - d.acked < rw
    · have hroom : d.inq.length < rw := by omega
      simp only [hw, hroom, if_true, reduceCtorEq, if_false]
      refine ⟨⟨h1, ?_, ?_⟩, by simp⟩
      · simp only [List.length_append, List.length_singleton]; omega
      · show d.vs + 1 ≤ d.acked + rw; omega
    · simp only [hw, if_false]
      exact ⟨⟨h1, h2, h3⟩, by simp [ho]⟩

theorem Dir.noLoss_ack (rw : Nat) (d : Dir) (h : d.NoLoss rw) :
    (d.ack .onConsume).NoLoss rw ∧ (d.ack .onConsume).inq = d.inq ∧ (d.ack .onConsume).out = d.out := by
  obtain ⟨h1, h2, h3⟩ := h
  by_cases hc : d.confs = 0
  · have : d.ack .onConsume = d := by simp [Dir.ack, hc]
    rw [this]; exact ⟨⟨h1, h2, h3⟩, rfl, rfl⟩
  · have : d.ack .onConsume = { d with acked := d.acked + d.confs, confs := 0 } := by simp [Dir.ack, hc]
    rw [this]
    refine ⟨⟨h1, ?_, ?_⟩, rfl, rfl⟩
    · show d.inq.length + 0 + (d.acked + d.confs) = d.vs; omega
    · show d.vs ≤ d.acked + d.confs + rw; omega

theorem Dir.noLoss_take (rw : Nat) (d d' : Dir) (m : Bytes) (h : d.NoLoss rw)
    (ht : d.take .onConsume = some (m, d')) :
    d'.NoLoss rw ∧ d.inq = m :: d'.inq ∧ d'.out = d.out := by
  obtain ⟨h1, h2, h3⟩ := h
  unfold Dir.take at ht
  cases hi : d.inq with
  | nil => simp [hi] at ht
  | cons a q =>
    simp only [hi, reduceCtorEq, if_false, Option.some.injEq, Prod.mk.injEq] at ht
    obtain ⟨rfl, rfl⟩ := ht
    refine ⟨⟨h1, ?_, h3⟩, rfl, rfl⟩
    show q.length + (d.confs + 1) + d.acked = d.vs
    rw [hi] at h2; simp only [List.length_cons] at h2; omega

theorem Dir.take_none (mode : AckMode) (d : Dir) : d.take mode = none ↔ d.inq = [] := by
  unfold Dir.take
  cases d.inq <;> simp

def WInv (k : Win) (w : WNet C S D) : Prop := w.c2s.NoLoss k.rwS ∧ w.s2c.NoLoss k.rwC

/-- one step of the windowed network is a skipped or an application move of the plain network,
and nothing is discarded -/
theorem wstep_abs (p : Proto C S D) (k : Win) (hk : k.mode = .onConsume) (s : WStep) (w : WNet C S D)
    (hi : WInv k w) :
    WInv k (wstep p k s w) ∧ (wstep p k s w).abs = runSched p (appTrace p k [s] w) w.abs := by
  obtain ⟨hi1, hi2⟩ := hi
  cases s with
  | xmit to =>
    cases to
    · obtain ⟨a, b⟩ := Dir.noLoss_xmit k.rwS w.c2s hi1
      simp only [wstep, hk, appTrace, runSched]
      exact ⟨⟨a, hi2⟩, by simp only [WNet.abs, b]⟩
    · obtain ⟨a, b⟩ := Dir.noLoss_xmit k.rwC w.s2c hi2
      simp only [wstep, hk, appTrace, runSched]
      exact ⟨⟨hi1, a⟩, by simp only [WNet.abs, b]⟩
  | ack by_ =>
    cases by_
    · obtain ⟨a, b, c⟩ := Dir.noLoss_ack k.rwS w.c2s hi1
      simp only [wstep, hk, appTrace, runSched]
      exact ⟨⟨a, hi2⟩, by simp only [WNet.abs, b, c]⟩
    · obtain ⟨a, b, c⟩ := Dir.noLoss_ack k.rwC w.s2c hi2
      simp only [wstep, hk, appTrace, runSched]
      exact ⟨⟨hi1, a⟩, by simp only [WNet.abs, b, c]⟩
  | app who =>
    cases who with
    | srv =>
      cases ht : w.c2s.take .onConsume with
      | none =>
        have hin : w.c2s.inq = [] := (Dir.take_none _ _).mp ht
        simp only [wstep, hk, ht, appTrace, hin, if_true, List.append_nil, runSched]
        exact ⟨⟨hi1, hi2⟩, trivial⟩
      | some md =>
        obtain ⟨m, d⟩ := md
        obtain ⟨a, b, c⟩ := Dir.noLoss_take k.rwS w.c2s d m hi1 ht
        have hne : w.c2s.inq ≠ [] := by rw [b]; simp
        simp only [wstep, hk, ht, appTrace, hne, if_false, List.append_nil, runSched, stepW]
        by_cases hw : p.swait w.sst = true
        · simp only [hw, if_true]
          refine ⟨⟨a, Dir.noLoss_out _ _ _ hi2⟩, ?_⟩
          simp [WNet.abs, stepS, b, c, hw, List.append_assoc]
        · simp only [hw]
          refine ⟨⟨a, hi2⟩, ?_⟩
          simp [WNet.abs, stepS, b, c, hw]
    | cli =>
      by_cases hw : p.cwait w.cst = true
      · cases ht : w.s2c.take .onConsume with
        | none =>
          have hin : w.s2c.inq = [] := (Dir.take_none _ _).mp ht
          simp only [wstep, hk, hw, if_true, ht, appTrace, hin, List.append_nil, runSched]
          exact ⟨⟨hi1, hi2⟩, trivial⟩
        | some md =>
          obtain ⟨m, d⟩ := md
          obtain ⟨a, b, c⟩ := Dir.noLoss_take k.rwC w.s2c d m hi2 ht
          have hne : w.s2c.inq ≠ [] := by rw [b]; simp
          simp only [wstep, hk, hw, if_true, ht, appTrace, hne, if_false, List.append_nil, runSched, stepW]
          refine ⟨⟨Dir.noLoss_out _ _ _ hi1, a⟩, ?_⟩
          simp [WNet.abs, stepC, b, c, hw, List.append_assoc]
      · have hw' : p.cwait w.cst = false := by simpa using hw
        have hst : stepC p w.abs = w.abs := by
          apply stepC_of_not_en
          simp only [En, WNet.abs]
          exact fun h => hw h.2
        have hws : wstep p k (.app .cli) w = w := by simp [wstep, hw']
        rw [hws]
        refine ⟨⟨hi1, hi2⟩, ?_⟩
        simp only [appTrace, List.append_nil]
        split
        · rfl
        · simp only [runSched, stepW, hst]

theorem appTrace_cons (p : Proto C S D) (k : Win) (s : WStep) (ss : List WStep) (w : WNet C S D) :
    appTrace p k (s :: ss) w = appTrace p k [s] w ++ appTrace p k ss (wstep p k s w) := by
  cases s with
  | xmit to => simp [appTrace]
  | ack b => simp [appTrace]
  | app who => cases who <;> simp [appTrace]

/-- **refinement**: with acknowledgements on consumption every schedule of the windowed network
is, for the applications, an interleaving of the plain network, and no message is discarded -/
theorem wnet_refines (p : Proto C S D) (k : Win) (hk : k.mode = .onConsume) :
    ∀ (ss : List WStep) (w : WNet C S D), WInv k w →
      WInv k (runW p k ss w) ∧ (runW p k ss w).abs = runSched p (appTrace p k ss w) w.abs := by
  intro ss
  induction ss with
  | nil => intro w hi; exact ⟨hi, rfl⟩
  | cons s ss ih =>
    intro w hi
    obtain ⟨h1, h2⟩ := wstep_abs p k hk s w hi
    obtain ⟨h3, h4⟩ := ih (wstep p k s w) h1
    refine ⟨h3, ?_⟩
    simp only [runW]
    rw [h4, h2, appTrace_cons p k s ss w, runSched_append]

theorem onLink_inv (k : Win) (n : Net C S D) : WInv k n.onLink :=
  ⟨Dir.noLoss_init _ _, Dir.noLoss_init _ _⟩

theorem onLink_abs (n : Net C S D) : n.onLink.abs = n := by
  obtain ⟨cst, sst, c2s, s2c, logC, logS, dl⟩ := n
  simp [Net.onLink, WNet.abs]

/-- a step of the windowed network that changes something -/
def WEn (p : Proto C S D) (k : Win) : WStep → WNet C S D → Prop
  | .xmit .srv, w => w.c2s.out ≠ [] ∧ w.c2s.vs - w.c2s.acked < k.rwS
  | .xmit .cli, w => w.s2c.out ≠ [] ∧ w.s2c.vs - w.s2c.acked < k.rwC
  | .ack .srv, w => w.c2s.confs ≠ 0
  | .ack .cli, w => w.s2c.confs ≠ 0
  | .app .srv, w => w.c2s.inq ≠ []
  | .app .cli, w => w.s2c.inq ≠ [] ∧ p.cwait w.cst = true

theorem dir_progress (rw : Nat) (hrw : 0 < rw) (d : Dir) (h : d.NoLoss rw) (hne : d.inq ++ d.out ≠ []) :
    d.inq ≠ [] ∨ (d.out ≠ [] ∧ d.vs - d.acked < rw) ∨ d.confs ≠ 0 := by
  obtain ⟨_, h2, h3⟩ := h
  by_cases hi : d.inq = []
  · right
    have ho : d.out ≠ [] := by simpa [hi] using hne
    by_cases hw : d.vs - d.acked < rw
    · exact Or.inl ⟨ho, hw⟩
    · right
      rw [hi] at h2; simp only [List.length_nil] at h2
      omega
  · exact Or.inl hi

/-- **no deadlock by flow control**: as long as a message is under way that its receiver is
waiting for, some step of the windowed network is enabled (receive windows of at least 1) -/
theorem wnet_progress (p : Proto C S D) (k : Win) (hS : 0 < k.rwS) (hC : 0 < k.rwC) (w : WNet C S D)
    (hi : WInv k w) (hq : ¬ quiet p w.abs) : ∃ s, WEn p k s w := by
  rw [quiet_iff] at hq
  by_cases hs : En p .srv w.abs
  · rcases dir_progress k.rwS hS w.c2s hi.1 hs with h | h | h
    · exact ⟨.app .srv, h⟩
    · exact ⟨.xmit .srv, h⟩
    · exact ⟨.ack .srv, h⟩
  · obtain ⟨hc1, hc2⟩ : En p .cli w.abs := Decidable.by_contra fun hc => hq ⟨hs, hc⟩
    rcases dir_progress k.rwC hC w.s2c hi.2 hc1 with h | h | h
    · exact ⟨.app .cli, h, hc2⟩
    · exact ⟨.xmit .cli, h⟩
    · exact ⟨.ack .cli, h⟩

/-- **the windowed link is transparent**: for receive windows of any size, every schedule of link
and application steps that leaves nothing deliverable ends, for the applications, in the state of
the fixed-order pump on the ideal channel - and nothing was discarded on the way -/
theorem windowed_confluent (p : Proto C S D) (k : Win) (hk : k.mode = .onConsume) (n : Net C S D)
    (ss : List WStep) (fuel : Nat)
    (h1 : quiet p (runW p k ss n.onLink).abs) (h2 : quiet p (pump p fuel n)) :
    (runW p k ss n.onLink).abs = pump p fuel n ∧
    (runW p k ss n.onLink).c2s.lost = [] ∧ (runW p k ss n.onLink).s2c.lost = [] := by
  obtain ⟨hi, ha⟩ := wnet_refines p k hk ss n.onLink (onLink_inv k n)
  rw [onLink_abs] at ha
  refine ⟨?_, hi.1.1, hi.2.1⟩
  rw [ha] at h1 ⊢
  exact sched_confluent p n _ fuel h1 h2

end NfcVerif.Chan
