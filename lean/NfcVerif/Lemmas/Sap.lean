import NfcVerif.Model.SapLink
/-!
# C17: the address table of one controller

The allocation rule (`BindOk`/`BindErr`) and the one case analysis of `bind` (`bind_cases`);
what the link and the parts of the API operations that do not bind, accept or close leave of
a controller (`Keeps`); the table invariant `Inv` and the table operations that keep it;
where `dispatch` puts a received PDU.
-/
namespace NfcVerif.Sap
open NfcVerif

theorem upd_ne {β : Type} {f : Nat → β} {a b : Nat} {v : β} (h : b ≠ a) : upd f a v b = f b := if_neg h

theorem upd_eq {β : Type} (f : Nat → β) (a : Nat) (v : β) : upd f a v a = v := if_pos rfl

theorem upd_cases {β : Type} {P : β → Prop} {f : Nat → β} {a b : Nat} {v : β} (h1 : b = a → P v) (h2 : b ≠ a → P (f b)) :
    P (upd f a v b) := by
  by_cases h : b = a
  · rw [h, upd_eq]; exact h1 h
  · rw [upd_ne h]; exact h2 h

theorem upd_self {β : Type} (f : Nat → β) (a : Nat) : upd f a (f a) = f :=
  funext fun b => upd_cases (P := (· = f b)) (fun h => h ▸ rfl) (fun _ => rfl)

theorem upd_apply {β γ : Type} (g : β → γ) (f : Nat → β) (a : Nat) (v : β) (b : Nat) :
    g (upd f a v b) = upd (fun b => g (f b)) a (g v) b := by
  by_cases h : b = a
  · rw [h, upd_eq, upd_eq]
  · rw [upd_ne h, upd_ne h]

theorem upd_some {β : Type} {f : Nat → Option β} {a b : Nat} {v : Option β} {e : β} (h : upd f a v b = some e) :
    (b = a ∧ v = some e) ∨ (b ≠ a ∧ f b = some e) := by
  by_cases hb : b = a
  · rw [hb, upd_eq] at h; exact .inl ⟨hb, h⟩
  · rw [upd_ne hb] at h; exact .inr ⟨hb, h⟩

theorem get_set_eq (p : Pair) (x z : Side) (c : Llc) : (p.set x c).get z = if z = x then c else p.get z := by
  cases x <;> cases z <;> rfl

theorem get_set (p : Pair) (x : Side) (c : Llc) : (p.set x c).get x = c := by rw [get_set_eq, if_pos rfl]
theorem get_set_other (p : Pair) (x : Side) (c : Llc) : (p.set x c).get (!x) = p.get (!x) := by
  rw [get_set_eq, if_neg (by cases x <;> decide)]

theorem freeIn_some {c : Llc} {lo cnt a : Nat} (h : freeIn c lo cnt = some a) :
    lo ≤ a ∧ a < lo + cnt ∧ c.sap a = none := by
  have h1 := List.mem_range'_1.mp (List.mem_of_find?_eq_some h)
  exact ⟨h1.1, h1.2, by simpa using List.find?_some h⟩

theorem freeIn_none {c : Llc} {lo cnt : Nat} :
    freeIn c lo cnt = none ↔ ∀ a, lo ≤ a → a < lo + cnt → c.sap a ≠ none := by
  simp [freeIn, List.mem_range'_1]

/-- abstract address table: address ⇀ sockets, service name ⇀ address -/
structure Abs where
  owner : Nat → Option (List Nat)
  names : List (Bytes × Nat)

def abs (c : Llc) : Abs := ⟨fun a => (c.sap a).map (·.socks), c.snl⟩

def Abs.free (σ : Abs) (a : Nat) : Prop := σ.owner a = none

/-- the allocation rule of the statement: which address a successful bind may return -/
inductive BindOk (σ : Abs) (k : Kind) : BindArg → Nat → Prop
  | anon (a : Nat) : 32 ≤ a → a ≤ 63 → σ.free a → BindOk σ k .none a
  | addr (a : Nat) : a ≤ 63 → (32 ≤ a ∨ k = .raw) → σ.free a → BindOk σ k (.addr a) a
  | wks (nm : Bytes) (a : Nat) : validName nm = true → σ.names.lookup nm = none → wks nm = some a → σ.free a →
      BindOk σ k (.name nm) a
  | named (nm : Bytes) (a : Nat) : validName nm = true → σ.names.lookup nm = none → wks nm = none →
      16 ≤ a → a ≤ 31 → σ.free a → BindOk σ k (.name nm) a

/-- when a bind of an unbound socket is refused, and with which errno -/
inductive BindErr (σ : Abs) (k : Kind) : BindArg → Nat → Prop
  | eagain : (∀ a, 32 ≤ a → a ≤ 63 → ¬ σ.free a) → BindErr σ k .none EAGAIN
  | efaultAddr (a : Int) : (a < 0 ∨ a > 63) → BindErr σ k (.addr a) EFAULT
  | eacces (a : Int) : 0 ≤ a → a < 32 → k ≠ .raw → BindErr σ k (.addr a) EACCES
  | inuseAddr (a : Int) : 0 ≤ a → a ≤ 63 → (32 ≤ a ∨ k = .raw) → ¬ σ.free a.toNat → BindErr σ k (.addr a) EADDRINUSE
  | efaultName (nm : Bytes) : validName nm = false → BindErr σ k (.name nm) EFAULT
  | inuseName (nm : Bytes) (a : Nat) : validName nm = true → σ.names.lookup nm = some a → BindErr σ k (.name nm) EADDRINUSE
  | inuseWks (nm : Bytes) (a : Nat) : validName nm = true → σ.names.lookup nm = none → wks nm = some a → ¬ σ.free a →
      BindErr σ k (.name nm) EADDRINUSE
  /-- F22, as found: not one of the four codes of the statement -/
  | exhausted (nm : Bytes) : validName nm = true → σ.names.lookup nm = none → wks nm = none →
      (∀ a, 16 ≤ a → a ≤ 31 → ¬ σ.free a) → BindErr σ k (.name nm) EADDRNOTAVAIL

/-- effect of a successful bind on the abstract table -/
def Abs.bound (σ : Abs) (id a : Nat) (arg : BindArg) : Abs :=
  { owner := upd σ.owner a (some [id])
    names := match arg with
      | .name nm => σ.names ++ [(nm, a)]
      | _ => σ.names }

theorem free_abs {c : Llc} {a : Nat} : (abs c).free a ↔ c.sap a = none := by simp [Abs.free, abs]

/-- the state after a successful bind to address `a` -/
def bindTo (c : Llc) (id a : Nat) : BindArg → Llc
  | .name nm => { bindAt c id a with snl := c.snl ++ [(nm, a)] }
  | _ => bindAt c id a

theorem bindTo_sock (c : Llc) (id a : Nat) (arg : BindArg) :
    (bindTo c id a arg).sock = upd c.sock id { c.sock id with addr := some a } := by cases arg <;> rfl

theorem bindTo_addr (c : Llc) (id a : Nat) (arg : BindArg) : ((bindTo c id a arg).sock id).addr = some a := by
  rw [bindTo_sock, upd_eq]

theorem abs_bindTo (c : Llc) (id a : Nat) (arg : BindArg) : abs (bindTo c id a arg) = (abs c).bound id a arg := by
  cases arg <;>
    (simp only [abs, Abs.bound, bindTo, bindAt]
     congr 1
     funext b
     exact upd_apply (Option.map SapEntry.socks) ..)

theorem wks_lt {nm : Bytes} {a : Nat} (h : wks nm = some a) : a < 64 := by
  unfold wks at h
  split at h
  · cases h; omega
  · split at h
    · cases h; omega
    · cases h

theorem bind_cases (c : Llc) (id : Nat) (arg : BindArg) :
    ((c.sock id).addr.isSome ∧ bind c id arg = .error (.llcp EINVAL)) ∨
    ((c.sock id).addr = none ∧
      ((∃ a, BindOk (abs c) (c.sock id).kind arg a ∧ bind c id arg = .ok (bindTo c id a arg)) ∨
       (∃ n, BindErr (abs c) (c.sock id).kind arg n ∧ bind c id arg = .error (.llcp n)))) := by
  unfold bind
  cases hu : (c.sock id).addr with
  | some _ => exact .inl ⟨rfl, rfl⟩
  | none =>
  refine .inr ⟨rfl, ?_⟩
  simp only [Option.isSome_none, Bool.false_eq_true, ↓reduceIte]
  cases arg with
  | none =>
    dsimp only
    cases hf : freeIn c 32 32 with
    | none =>
      exact .inr ⟨_, .eagain fun a h1 h2 h3 => freeIn_none.mp hf a h1 (by omega) (free_abs.mp h3), rfl⟩
    | some a =>
      obtain ⟨h1, h2, h3⟩ := freeIn_some hf
      exact .inl ⟨a, .anon a h1 (by omega) (free_abs.mpr h3), rfl⟩
  | addr a =>
    dsimp only
    by_cases h0 : a < 0 ∨ a > 63
    · exact .inr ⟨_, .efaultAddr a h0, by simp only [h0, ↓reduceIte]; rfl⟩
    by_cases h1 : 32 ≤ a ∨ (c.sock id).kind = .raw
    · cases hs : c.sap a.toNat with
      | none =>
        have ha : (a.toNat : Int) = a := Int.toNat_of_nonneg (by omega)
        have hok := BindOk.addr (k := (c.sock id).kind) a.toNat (by omega) (h1.imp_left (by omega)) (free_abs.mpr hs)
        rw [ha] at hok
        exact .inl ⟨_, hok, by simp only [h0, h1, Option.isNone_none, ↓reduceIte]; rfl⟩
      | some e =>
        refine .inr ⟨_, .inuseAddr a (by omega) (by omega) h1 (by simp [free_abs, hs]), ?_⟩
        simp only [h0, h1, Option.isNone_some, Bool.false_eq_true, ↓reduceIte]; rfl
    · exact .inr ⟨_, .eacces a (by omega) (by omega) (fun h => h1 (.inr h)), by simp only [h0, h1, ↓reduceIte]; rfl⟩
  | name nm =>
    dsimp only
    cases hv : validName nm with
    | false => exact .inr ⟨_, .efaultName nm hv, rfl⟩
    | true =>
    cases hl : c.snl.lookup nm with
    | some a0 => exact .inr ⟨_, .inuseName nm a0 hv hl, rfl⟩
    | none =>
    simp only [Bool.true_eq_false, Option.isSome_none, Bool.false_eq_true, ↓reduceIte]
    cases hw : wks nm with
    | some a =>
      dsimp only
      cases hs : c.sap a with
      | some e => exact .inr ⟨_, .inuseWks nm a hv hl hw (by simp [free_abs, hs]), rfl⟩
      | none => exact .inl ⟨a, .wks nm a hv hl hw (free_abs.mpr hs), rfl⟩
    | none =>
      cases hf : freeIn c 16 16 with
      | none =>
        exact .inr ⟨_, .exhausted nm hv hl hw fun a h1 h2 h3 => freeIn_none.mp hf a h1 (by omega) (free_abs.mp h3), rfl⟩
      | some a =>
        obtain ⟨h1, h2, h3⟩ := freeIn_some hf
        exact .inl ⟨a, .named nm a hv hl hw h1 (by omega) (free_abs.mpr h3), rfl⟩

theorem bind_ok {c c' : Llc} {id : Nat} {arg : BindArg} (h : bind c id arg = .ok c') :
    (c.sock id).addr = none ∧ ∃ a, BindOk (abs c) (c.sock id).kind arg a ∧ c' = bindTo c id a arg := by
  rcases bind_cases c id arg with ⟨_, he⟩ | ⟨hu, ⟨a, hok, he⟩ | ⟨n, _, he⟩⟩
  · rw [he] at h; cases h
  · rw [he] at h; cases h; exact ⟨hu, a, hok, rfl⟩
  · rw [he] at h; cases h

theorem bind_err {c : Llc} {id : Nat} {arg : BindArg} {e : Exc} (h : bind c id arg = .error e) :
    ∃ n, e = .llcp n := by
  rcases bind_cases c id arg with ⟨_, he⟩ | ⟨_, ⟨a, _, he⟩ | ⟨n, _, he⟩⟩
  · rw [he] at h; cases h; exact ⟨_, rfl⟩
  · rw [he] at h; cases h
  · rw [he] at h; cases h; exact ⟨_, rfl⟩

theorem BindOk.free {σ : Abs} {k : Kind} {arg : BindArg} {a : Nat} (h : BindOk σ k arg a) : σ.free a ∧ a < 64 := by
  cases h with
  | anon _ _ h63 hf => exact ⟨hf, by omega⟩
  | addr _ h63 _ hf => exact ⟨hf, by omega⟩
  | wks _ _ _ _ hw hf => exact ⟨hf, wks_lt hw⟩
  | named _ _ _ _ _ _ h31 hf => exact ⟨hf, by omega⟩

/-! Everything in the model except `bind`, `accept`, `close` and `socket` changes a controller only
inside `Keeps`: queues, socket states, SAP send lists and the service discovery component. -/

/-- every UI PDU waiting in the send queue of a logical-data-link socket carries the socket's
own address as source -/
def SrcOk (s : Sock) : Prop :=
  s.kind = .ldl → ∀ d sa m, Pdu.ui d sa m ∈ s.sendq → s.addr = some sa

structure SockKeeps (s s' : Sock) : Prop where
  kind : s'.kind = s.kind
  addr : s'.addr = s.addr
  src : SrcOk s → SrcOk s'

theorem SockKeeps.refl (s : Sock) : SockKeeps s s := ⟨rfl, rfl, id⟩

theorem SockKeeps.of_sendq {s s' : Sock} (hk : s'.kind = s.kind) (ha : s'.addr = s.addr)
    (hq : ∀ d sa m, Pdu.ui d sa m ∈ s'.sendq → Pdu.ui d sa m ∈ s.sendq) : SockKeeps s s' :=
  ⟨hk, ha, fun h hl d sa m hm => ha.trans (h (hk.symm.trans hl) d sa m (hq d sa m hm))⟩

theorem SockKeeps.queue {s s' : Sock} (hk : s'.kind = s.kind) (ha : s'.addr = s.addr) (hq : s'.sendq = s.sendq) :
    SockKeeps s s' := .of_sendq hk ha fun _ _ _ h => hq ▸ h

theorem SockKeeps.notLdl {s s' : Sock} (hk : s'.kind = s.kind) (ha : s'.addr = s.addr) (hn : s.kind ≠ .ldl) :
    SockKeeps s s' := ⟨hk, ha, fun _ hl => absurd (hk.symm.trans hl) hn⟩

theorem SockKeeps.push {s s' : Sock} {q : Pdu} (hk : s'.kind = s.kind) (ha : s'.addr = s.addr)
    (hs : s'.sendq = s.sendq ++ [q]) (hq : ∀ d sa m, q ≠ .ui d sa m) : SockKeeps s s' :=
  .of_sendq hk ha fun d sa m hm => by
    rw [hs, List.mem_append, List.mem_singleton] at hm
    exact hm.resolve_right fun h => hq d sa m h.symm

/-- `sendto`: the datagram carries the address of the socket -/
theorem SockKeeps.push_ui {s s' : Sock} {a d : Nat} {m : Bytes} (hk : s'.kind = s.kind) (ha : s'.addr = s.addr)
    (hs : s'.sendq = s.sendq ++ [.ui d a m]) (hb : s.addr = some a) : SockKeeps s s' :=
  ⟨hk, ha, fun h hl d' sa m' hm => by
    rw [hs, List.mem_append, List.mem_singleton] at hm
    rcases hm with hm | hm
    · exact ha.trans (h (hk.symm.trans hl) d' sa m' hm)
    · cases hm; exact ha.trans hb⟩

/-- in every branch of `socket.enqueue` kind and address are untouched and what joins the send queue
is a DM or FRMR -/
theorem sockEnqueue_keeps {s s' : Sock} {p : Pdu} (h : sockEnqueue s p = some s') : SockKeeps s s' := by
  unfold sockEnqueue appendRecv at h
  repeat' split at h
  all_goals cases h
  all_goals exact .of_sendq rfl rfl (by simp [baseClose])

theorem sockDequeue_keeps {s s' : Sock} {p : Pdu} (h : sockDequeue s = some (p, s')) : SockKeeps s s' := by
  unfold sockDequeue at h
  split at h
  · cases h
  · rename_i q rest hq
    repeat' split at h
    all_goals cases h
    all_goals exact .of_sendq rfl rfl (by intro d sa m hm; simp_all [baseClose])

structure Keeps (c c' : Llc) : Prop where
  n : c'.n = c.n
  snl : c'.snl = c.snl
  socks : ∀ a, (c'.sap a).map (·.socks) = (c.sap a).map (·.socks)
  sock : ∀ id, SockKeeps (c.sock id) (c'.sock id)

theorem Keeps.refl (c : Llc) : Keeps c c := ⟨rfl, rfl, fun _ => rfl, fun _ => .refl _⟩

theorem Keeps.trans {c1 c2 c3 : Llc} (h1 : Keeps c1 c2) (h2 : Keeps c2 c3) : Keeps c1 c3 :=
  ⟨h2.n.trans h1.n, h2.snl.trans h1.snl, fun a => (h2.socks a).trans (h1.socks a),
   fun id => ⟨(h2.sock id).kind.trans (h1.sock id).kind, (h2.sock id).addr.trans (h1.sock id).addr,
     (h2.sock id).src ∘ (h1.sock id).src⟩⟩

theorem Keeps.abs {c c' : Llc} (h : Keeps c c') : abs c' = abs c := by
  simp only [Sap.abs, h.snl, h.socks]

theorem keeps_setSock (c : Llc) (id : Nat) (s : Sock) (h : SockKeeps (c.sock id) s) : Keeps c (setSock c id s) := by
  refine ⟨rfl, rfl, fun _ => rfl, fun j => upd_cases (fun hj => ?_) (fun _ => .refl _)⟩
  rw [hj]; exact h

theorem keeps_sap {c : Llc} {a : Nat} {e : SapEntry} (hs : c.sap a = some e) (e' : SapEntry)
    (he : e'.socks = e.socks) : Keeps c { c with sap := upd c.sap a (some e') } := by
  refine ⟨rfl, rfl, fun b => ?_, fun _ => .refl _⟩
  refine upd_cases (P := fun v : Option SapEntry => v.map (·.socks) = _) (fun hb => ?_) (fun _ => rfl)
  rw [hb, hs, Option.map_some, Option.map_some, he]

theorem keeps_sd (c : Llc) (sd : Sd) : Keeps c { c with sd := sd } := ⟨rfl, rfl, fun _ => rfl, fun _ => .refl _⟩

theorem sapEnqueue_keeps {c c' : Llc} {a : Nat} {e : SapEntry} {p : Pdu} (hs : c.sap a = some e)
    (h : sapEnqueue c a e p = .ok c') : Keeps c c' := by
  unfold sapEnqueue at h
  split at h
  · split at h
    · rename_i s' hq; cases h; exact keeps_setSock _ _ _ (sockEnqueue_keeps hq)
    · cases h
  · -- no socket takes it: a DM goes to the send list of the SAP, or nothing happens
    split at h
    · cases h; exact keeps_sap hs _ rfl
    · split at h
      · cases h; exact keeps_sap hs _ rfl
      · cases h; exact .refl _

theorem dispatch_keeps {c c' : Llc} {p : Pdu} (h : dispatch c p = .ok c') : Keeps c c' := by
  unfold dispatch at h
  split at h
  · cases h; exact keeps_sd _ _
  · split at h
    · cases h; exact keeps_sd _ _
    · split at h
      · cases h; exact keeps_sd _ _
      · rename_i e hs
        split at hs
        · cases hs
        · split at h
          · cases h; exact .refl _
          · exact sapEnqueue_keeps hs h
  · split at h
    · cases h; exact .refl _
    · split at h
      · cases h; exact .refl _
      · rename_i e hs; exact sapEnqueue_keeps hs h

theorem socksDequeue_cases {c c' : Llc} {q : Pdu} : ∀ {l : List Nat}, socksDequeue c l = some (q, c') →
    ∃ j s', sockDequeue (c.sock j) = some (q, s') ∧ c' = setSock c j s'
  | [], h => by cases h
  | id :: t, h => by
    unfold socksDequeue at h
    split at h
    · cases h; exact ⟨id, _, ‹_›, rfl⟩
    · exact socksDequeue_cases h

theorem collectFrom_cases {c c' : Llc} {q : Pdu} : ∀ {l : List Nat}, collectFrom c l = some (q, c') →
    (∃ j s', sockDequeue (c.sock j) = some (q, s') ∧ c' = setSock c j s') ∨
    (∃ a e e', c.sap a = some e ∧ e'.socks = e.socks ∧ c' = { c with sap := upd c.sap a (some e') }) ∨
    ∃ sd, c' = { c with sd := sd }
  | [], h => by cases h
  | a :: t, h => by
    unfold collectFrom at h
    split at h
    · split at h
      · cases h; exact .inr (.inr ⟨_, rfl⟩)
      · exact collectFrom_cases h
    · split at h
      · exact collectFrom_cases h
      · rename_i e hs
        split at h
        · rename_i hq
          cases h
          unfold sapDequeue at hq
          split at hq
          · cases hq; exact .inl (socksDequeue_cases ‹_›)
          · split at hq
            · cases hq
            · cases hq; exact .inr (.inl ⟨a, e, _, hs, by rfl, rfl⟩)
        · exact collectFrom_cases h

theorem collectFrom_keeps {c c' : Llc} {p : Pdu} {l : List Nat} (h : collectFrom c l = some (p, c')) : Keeps c c' := by
  rcases collectFrom_cases h with ⟨j, s', hq, rfl⟩ | ⟨a, e, e', hs, he, rfl⟩ | ⟨sd, rfl⟩
  · exact keeps_setSock _ _ _ (sockDequeue_keeps hq)
  · exact keeps_sap hs _ he
  · exact keeps_sd _ _

def PKeeps (p p' : Pair) : Prop := ∀ z, Keeps (p.get z) (p'.get z)

theorem PKeeps.refl (p : Pair) : PKeeps p p := fun _ => .refl _
theorem PKeeps.trans {p1 p2 p3 : Pair} (h1 : PKeeps p1 p2) (h2 : PKeeps p2 p3) : PKeeps p1 p3 :=
  fun z => (h1 z).trans (h2 z)

theorem pkeeps_set (p : Pair) (x : Side) (c : Llc) (h : Keeps (p.get x) c) : PKeeps p (p.set x c) := by
  intro z
  rw [get_set_eq]
  split
  · subst_vars; exact h
  · exact .refl _

theorem pkeeps_setSock (p : Pair) (x : Side) (id : Nat) (s : Sock) (h : SockKeeps ((p.get x).sock id) s) :
    PKeeps p (p.set x (setSock (p.get x) id s)) := pkeeps_set p x _ (keeps_setSock _ _ _ h)

theorem xfer_keeps {p p' : Pair} {x : Side} {m : Bool} (h : xfer p x = .ok (p', m)) : PKeeps p p' := by
  unfold xfer at h
  split at h
  · cases h; exact .refl _
  · rename_i pdu cx hc
    simp only [Py.bind_eq_ok] at h
    obtain ⟨cy, hd, h⟩ := h
    cases h
    exact (pkeeps_set p x cx (collectFrom_keeps hc)).trans (pkeeps_set _ (!x) cy (dispatch_keeps hd))

theorem pump_same : ∀ (k : Nat) {p p' : Pair}, pump k p = .ok p' → PKeeps p p'
  | 0, p, p', h => by cases h; exact .refl _
  | k + 1, p, p', h => by
    unfold pump at h
    simp only [Py.bind_eq_ok] at h
    obtain ⟨r1, h1, r2, h2, h⟩ := h
    have s := (xfer_keeps (p' := r1.1) (m := r1.2) h1).trans (xfer_keeps (p' := r2.1) (m := r2.2) h2)
    split at h
    · cases h; exact s
    · exact s.trans (pump_same k h)

theorem popOrPump_keeps {p : Pair} {x : Side} {id : Nat} {r : Pair × Option Pdu}
    (h : popOrPump p x id = .ok r) : PKeeps p r.1 := by
  unfold popOrPump at h
  split at h
  · cases h; exact pkeeps_setSock _ _ _ _ (.queue rfl rfl rfl)
  · simp only [Py.bind_eq_ok] at h
    obtain ⟨p1, hp, h⟩ := h
    have s1 := pump_same _ hp
    split at h
    · cases h; exact s1.trans (pkeeps_setSock _ _ _ _ (.queue rfl rfl rfl))
    · cases h; exact s1

/-- invariant of the address table of one controller -/
structure Inv (c : Llc) : Prop where
  dom : ∀ a e, c.sap a = some e → a < 64
  addrOf : ∀ a e id, c.sap a = some e → id ∈ e.socks → (c.sock id).addr = some a ∧ id < c.n
  nodup : ∀ a e, c.sap a = some e → e.socks.Nodup
  nonempty : ∀ a e, c.sap a = some e → 2 ≤ a → e.socks ≠ []
  res0 : ∃ e, c.sap 0 = some e ∧ e.socks = []
  res1 : ∃ e, c.sap 1 = some e ∧ e.socks = []
  noRes : ∀ id a, (c.sock id).addr = some a → 2 ≤ a
  sdp : c.snl.lookup nameSdp = some 1
  names : ∀ nm a, (nm, a) ∈ c.snl → (nm = nameSdp ∧ a = 1) ∨
      (2 ≤ a ∧ (c.sap a).isSome ∧ validName nm = true ∧ (wks nm = some a ∨ (wks nm = none ∧ 16 ≤ a ∧ a ≤ 31)))
  nameKeys : (c.snl.map Prod.fst).Nodup
  nameVals : (c.snl.map Prod.snd).Nodup
  fresh : ∀ id, c.n ≤ id → (c.sock id).addr = none

/-- the invariant reads only socket addresses, SAP membership and names -/
theorem Inv.socks {c c' : Llc} (hi : Inv c) (hn : c.n ≤ c'.n)
    (hs : ∀ a, (c'.sap a).map (·.socks) = (c.sap a).map (·.socks)) (hl : c'.snl = c.snl)
    (keep : ∀ j b, (c.sock j).addr = some b → (c'.sock j).addr = some b)
    (new : ∀ j b, (c'.sock j).addr = some b → (c.sock j).addr = some b ∨ 2 ≤ b)
    (fresh : ∀ j, c'.n ≤ j → (c'.sock j).addr = none) : Inv c' := by
  have entry : ∀ {x y : Option SapEntry} {e}, x.map (·.socks) = y.map (·.socks) → x = some e →
      ∃ e', y = some e' ∧ e'.socks = e.socks := by
    intro x y e h hx
    subst hx
    cases y with
    | none => cases h
    | some e' => exact ⟨e', rfl, (Option.some.inj h).symm⟩
  have back : ∀ {a e'}, c'.sap a = some e' → ∃ e, c.sap a = some e ∧ e.socks = e'.socks := entry (hs _)
  have fwd : ∀ {a e}, c.sap a = some e → ∃ e', c'.sap a = some e' ∧ e'.socks = e.socks := entry (hs _).symm
  constructor
  · intro a e' h; obtain ⟨e, h1, _⟩ := back h; exact hi.dom a e h1
  · intro a e' id h hm
    obtain ⟨e, h1, h2⟩ := back h
    have := hi.addrOf a e id h1 (h2 ▸ hm)
    exact ⟨keep id a this.1, Nat.lt_of_lt_of_le this.2 hn⟩
  · intro a e' h; obtain ⟨e, h1, h2⟩ := back h; exact h2 ▸ hi.nodup a e h1
  · intro a e' h h2a; obtain ⟨e, h1, h2⟩ := back h; exact h2 ▸ hi.nonempty a e h1 h2a
  · obtain ⟨e, h1, h2⟩ := hi.res0; obtain ⟨e', h3, h4⟩ := fwd h1; exact ⟨e', h3, h4.trans h2⟩
  · obtain ⟨e, h1, h2⟩ := hi.res1; obtain ⟨e', h3, h4⟩ := fwd h1; exact ⟨e', h3, h4.trans h2⟩
  · intro id a h; exact (new id a h).elim (hi.noRes id a) (fun h => h)
  · rw [hl]; exact hi.sdp
  · intro nm a hm
    rw [hl] at hm
    rcases hi.names nm a hm with h1 | ⟨h1, h2, h3⟩
    · exact .inl h1
    · refine .inr ⟨h1, ?_, h3⟩
      cases hc : c.sap a with
      | none => simp [hc] at h2
      | some e => obtain ⟨e', h3, _⟩ := fwd hc; simp [h3]
  · rw [hl]; exact hi.nameKeys
  · rw [hl]; exact hi.nameVals
  · exact fresh

theorem Inv.same {c c' : Llc} (hi : Inv c) (ha : ∀ id, (c'.sock id).addr = (c.sock id).addr) (hn : c.n ≤ c'.n)
    (hs : ∀ a, (c'.sap a).map (·.socks) = (c.sap a).map (·.socks)) (hl : c'.snl = c.snl) : Inv c' :=
  hi.socks hn hs hl (fun j _ h => (ha j).trans h) (fun j _ h => .inl ((ha j).symm.trans h))
    (fun j h => (ha j).trans (hi.fresh j (Nat.le_trans hn h)))

theorem inv_setSock {c : Llc} (hi : Inv c) {id : Nat} {s : Sock} (hs : s.addr = (c.sock id).addr) :
    Inv (setSock c id s) := by
  refine hi.same (fun j => ?_) (Nat.le_refl _) (fun _ => rfl) rfl
  refine upd_cases (P := fun s : Sock => s.addr = _) (fun hj => ?_) (fun _ => rfl)
  rw [hj]; exact hs

theorem inv_newSocket {c : Llc} (hi : Inv c) (k : Kind) : Inv (newSocket c k).1 := by
  refine hi.same (fun j => ?_) (Nat.le_succ _) (fun _ => rfl) rfl
  refine upd_cases (P := fun s : Sock => s.addr = _) (fun hj => ?_) (fun _ => rfl)
  rw [hj]; exact (hi.fresh c.n (Nat.le_refl _)).symm

theorem init_inv : Inv Sap.init := by
  constructor
  · intro a e h; simp only [Sap.init] at h; split at h
    · omega
    · cases h
  · intro a e id h hm; simp only [Sap.init] at h; split at h <;> cases h; simp at hm
  · intro a e h; simp only [Sap.init] at h; split at h <;> cases h; simp
  · intro a e h ha; simp only [Sap.init] at h; split at h
    · omega
    · cases h
  · exact ⟨{ socks := [] }, by simp [Sap.init], rfl⟩
  · exact ⟨{ socks := [] }, by simp [Sap.init], rfl⟩
  · intro id a h; simp [Sap.init] at h
  · simp [Sap.init]
  · intro nm a h; simp [Sap.init] at h; exact .inl h
  · simp [Sap.init]
  · simp [Sap.init]
  · intro id _; rfl

theorem lookup_append_some {κ ν : Type} [BEq κ] {l m : List (κ × ν)} {k : κ} {v : ν}
    (h : l.lookup k = some v) : (l ++ m).lookup k = some v := by
  rw [List.lookup_append, h]; rfl

theorem lookup_none_not_mem {ν : Type} {l : List (Bytes × ν)} {k : Bytes}
    (h : l.lookup k = none) : k ∉ l.map Prod.fst := by
  intro hm
  obtain ⟨p, hp, rfl⟩ := List.mem_map.mp hm
  simpa using List.lookup_eq_none_iff.mp h p hp

theorem lookup_mem {ν : Type} {l : List (Bytes × ν)} {k : Bytes} {v : ν}
    (h : l.lookup k = some v) : (k, v) ∈ l := by
  obtain ⟨l₁, l₂, rfl, _⟩ := List.lookup_eq_some_iff.mp h
  simp

theorem lookup_filter {ν : Type} {l : List (Bytes × ν)} {k : Bytes} {v : ν} {f : Bytes × ν → Bool}
    (h : l.lookup k = some v) (hf : f (k, v) = true) : (l.filter f).lookup k = some v := by
  -- the first entry under `k` passes the filter, and no entry before it has the key `k`
  obtain ⟨l₁, l₂, rfl, hne⟩ := List.lookup_eq_some_iff.mp h
  exact List.lookup_eq_some_iff.mpr ⟨l₁.filter f, l₂.filter f, by simp [hf],
    fun p hp => hne p (List.mem_filter.mp hp).1⟩

theorem free_ge_two {c : Llc} (hi : Inv c) {a : Nat} (h : c.sap a = none) : 2 ≤ a := by
  obtain ⟨e0, h0, _⟩ := hi.res0
  obtain ⟨e1, h1, _⟩ := hi.res1
  rcases a with _ | _ | a
  · simp [h0] at h
  · simp [h1] at h
  · omega

theorem Inv.upd_reserved {c : Llc} (hi : Inv c) {a : Nat} (h2 : 2 ≤ a) (v : Option SapEntry) :
    (∃ e, upd c.sap a v 0 = some e ∧ e.socks = []) ∧ (∃ e, upd c.sap a v 1 = some e ∧ e.socks = []) := by
  rw [upd_ne (by omega), upd_ne (by omega)]; exact ⟨hi.res0, hi.res1⟩

theorem Inv.upd_names {c : Llc} (hi : Inv c) {a : Nat} (e : SapEntry) {nm : Bytes} {b : Nat} (hm : (nm, b) ∈ c.snl) :
    (nm = nameSdp ∧ b = 1) ∨
      (2 ≤ b ∧ (upd c.sap a (some e) b).isSome ∧ validName nm = true ∧ (wks nm = some b ∨ (wks nm = none ∧ 16 ≤ b ∧ b ≤ 31))) := by
  rcases hi.names nm b hm with h | ⟨h1, h3, h4⟩
  · exact .inl h
  · exact .inr ⟨h1, upd_cases (P := fun v : Option SapEntry => v.isSome = true) (fun _ => rfl) (fun _ => h3), h4⟩

theorem Inv.setSap {c : Llc} (hi : Inv c) {a : Nat} {e' : SapEntry} (h2 : 2 ≤ a) (ha : a < 64)
    (hne : e'.socks ≠ []) (hnd : e'.socks.Nodup) (hm : ∀ j ∈ e'.socks, (c.sock j).addr = some a ∧ j < c.n) :
    Inv { c with sap := upd c.sap a (some e') } := by
  constructor
  · intro b e h
    rcases upd_some h with ⟨rfl, _⟩ | ⟨_, h'⟩
    · exact ha
    · exact hi.dom b e h'
  · intro b e j h hj
    rcases upd_some h with ⟨rfl, he⟩ | ⟨_, h'⟩
    · cases he; exact hm j hj
    · exact hi.addrOf b e j h' hj
  · intro b e h
    rcases upd_some h with ⟨_, he⟩ | ⟨_, h'⟩
    · cases he; exact hnd
    · exact hi.nodup b e h'
  · intro b e h hb
    rcases upd_some h with ⟨_, he⟩ | ⟨_, h'⟩
    · cases he; exact hne
    · exact hi.nonempty b e h' hb
  · exact (hi.upd_reserved h2 _).1
  · exact (hi.upd_reserved h2 _).2
  · exact hi.noRes
  · exact hi.sdp
  · exact fun nm b hm => hi.upd_names _ hm
  · exact hi.nameKeys
  · exact hi.nameVals
  · exact hi.fresh

theorem inv_bindAt {c : Llc} (hi : Inv c) {id a : Nat} (hfree : c.sap a = none)
    (hu : (c.sock id).addr = none) (hid : id < c.n) (ha : a < 64) : Inv (bindAt c id a) := by
  have h2 := free_ge_two hi hfree
  have hi1 : Inv { c with sock := upd c.sock id { c.sock id with addr := some a } } := by
    refine hi.socks (Nat.le_refl _) (fun _ => rfl) rfl (fun j b h => ?_) (fun j b h => ?_) (fun j hj => ?_)
    · refine upd_cases (P := fun s : Sock => s.addr = some b) (fun hj => ?_) (fun _ => h)
      rw [hj, hu] at h; cases h
    · revert h
      refine upd_cases (P := fun s : Sock => s.addr = some b → _) (fun _ h => ?_) (fun _ h => .inl h)
      exact .inr (Option.some.inj h ▸ h2)
    · have hj : c.n ≤ j := hj
      show (upd c.sock id _ j).addr = none
      rw [upd_ne (by omega)]; exact hi.fresh j hj
  refine hi1.setSap h2 ha (by simp) (by simp) (fun j hj => ?_)
  cases List.mem_singleton.mp hj
  exact ⟨congrArg Sock.addr (upd_eq ..), hid⟩

theorem inv_bindName {c : Llc} (hi : Inv c) {id a : Nat} {nm : Bytes} (hfree : c.sap a = none)
    (hu : (c.sock id).addr = none) (hid : id < c.n) (ha : a < 64)
    (hv : validName nm = true) (hl : c.snl.lookup nm = none)
    (hw : wks nm = some a ∨ (wks nm = none ∧ 16 ≤ a ∧ a ≤ 31)) :
    Inv { bindAt c id a with snl := c.snl ++ [(nm, a)] } := by
  have h2 := free_ge_two hi hfree
  have hb := inv_bindAt hi hfree hu hid ha
  have fresh : ∀ {β : Type} (f : Bytes × Nat → β) (l : List β), l.Nodup → f (nm, a) ∉ l → (l ++ [f (nm, a)]).Nodup := by
    intro β f l hl hn
    rw [List.nodup_append]
    exact ⟨hl, by simp, fun x hx y hy he => by simp at hy; subst hy; subst he; exact hn hx⟩
  constructor
  · exact hb.dom
  · exact hb.addrOf
  · exact hb.nodup
  · exact hb.nonempty
  · exact hb.res0
  · exact hb.res1
  · exact hb.noRes
  · exact lookup_append_some hi.sdp
  · intro nm' b hm
    simp only [List.mem_append, List.mem_singleton, Prod.mk.injEq] at hm
    rcases hm with hm | ⟨rfl, rfl⟩
    · exact hb.names nm' b hm
    · exact .inr ⟨h2, congrArg Option.isSome (upd_eq c.sap _ _), hv, hw⟩
  · simp only [List.map_append, List.map_cons, List.map_nil]
    exact fresh Prod.fst _ hi.nameKeys (lookup_none_not_mem hl)
  · simp only [List.map_append, List.map_cons, List.map_nil]
    refine fresh Prod.snd _ hi.nameVals fun hx => ?_
    -- an address that a name points to is in use
    obtain ⟨⟨n0, a0⟩, hm, he⟩ := List.mem_map.mp hx
    simp only at he
    subst he
    rcases hi.names n0 a0 hm with ⟨_, h1⟩ | ⟨_, h3, _⟩
    · omega
    · simp [hfree] at h3
  · exact hb.fresh

theorem inv_bind {c c' : Llc} (hi : Inv c) {id : Nat} {arg : BindArg} (hid : id < c.n)
    (h : bind c id arg = .ok c') : Inv c' := by
  obtain ⟨hu, a, hok, rfl⟩ := bind_ok h
  have ha := hok.free.2
  have hs := free_abs.mp hok.free.1
  cases hok with
  | anon => exact inv_bindAt hi hs hu hid ha
  | addr => exact inv_bindAt hi hs hu hid ha
  | wks _ _ hv hl hw => exact inv_bindName hi hs hu hid ha hv hl (.inl hw)
  | named _ _ hv hl hw h16 h31 => exact inv_bindName hi hs hu hid ha hv hl (.inr ⟨hw, h16, h31⟩)

theorem inv_removeSocket {c : Llc} (hi : Inv c) {id a : Nat} {e : SapEntry} (hs : c.sap a = some e)
    (ha : (c.sock id).addr = some a) {s' : Sock} (hs' : s'.addr = (c.sock id).addr) :
    Inv (removeSocket c id a e s') := by
  have h2 : 2 ≤ a := hi.noRes id a ha
  have hi1 := inv_setSock hi hs'
  have hs1 : (setSock c id s').sap a = some e := hs
  unfold removeSocket
  simp only
  split
  · -- last socket: the address and its names are freed
    have hsap : ∀ {b e'}, upd (setSock c id s').sap a none b = some e' → b ≠ a ∧ (setSock c id s').sap b = some e' :=
      fun h => (upd_some h).resolve_left (fun h => by cases h.2)
    constructor
    · intro b e' h; exact hi1.dom b e' (hsap h).2
    · intro b e' j h hm; exact hi1.addrOf b e' j (hsap h).2 hm
    · intro b e' h; exact hi1.nodup b e' (hsap h).2
    · intro b e' h hb; exact hi1.nonempty b e' (hsap h).2 hb
    · exact (hi1.upd_reserved h2 _).1
    · exact (hi1.upd_reserved h2 _).2
    · exact hi1.noRes
    · exact lookup_filter hi1.sdp (by simp; omega)
    · intro nm b hm
      simp only [List.mem_filter, bne_iff_ne, ne_eq] at hm
      rcases hi1.names nm b hm.1 with h | ⟨h1, h3, h4⟩
      · exact .inl h
      · exact .inr ⟨h1, (congrArg Option.isSome (upd_ne hm.2)).trans h3, h4⟩
    · exact (List.filter_sublist.map _).nodup hi1.nameKeys
    · exact (List.filter_sublist.map _).nodup hi1.nameVals
    · exact hi1.fresh
  · rename_i hrest
    exact hi1.setSap h2 (hi.dom a e hs) hrest (List.erase_sublist.nodup (hi.nodup a e hs))
      (fun j hj => hi1.addrOf a e j hs1 (List.mem_of_mem_erase hj))

/-- `accept`: the listener `id` is replaced by `s'`, the new socket `child` gets the next id; both
carry the listener's address `a` -/
theorem accept_addr {c : Llc} {id a : Nat} {s' child : Sock} (hs' : s'.addr = (c.sock id).addr)
    (hc : child.addr = some a) (j : Nat) :
    (upd (upd c.sock id s') c.n child j).addr = if j = c.n then some a else (c.sock j).addr := by
  refine upd_cases (P := fun s : Sock => s.addr = _) (fun hj => ?_) (fun hj => ?_)
  · rw [if_pos hj]; exact hc
  · rw [if_neg hj]
    refine upd_cases (P := fun s : Sock => s.addr = _) (fun hj => ?_) (fun _ => rfl)
    rw [hj]; exact hs'

/-- a new socket that carries an address but is in no SAP (only on the `AttributeError` path of `accept`) -/
theorem inv_orphan {c : Llc} (hi : Inv c) {id a : Nat} {s' child : Sock}
    (hs' : s'.addr = (c.sock id).addr) (hc : child.addr = some a) (h2 : 2 ≤ a) :
    Inv { c with n := c.n + 1, sock := upd (upd c.sock id s') c.n child } := by
  have hsock := accept_addr hs' hc
  have hn : (c.sock c.n).addr = none := hi.fresh c.n (Nat.le_refl _)
  refine hi.socks (Nat.le_succ _) (fun _ => rfl) rfl (fun j b h => ?_) (fun j b h => ?_) (fun j hj => ?_)
  · show (upd (upd c.sock id s') c.n child j).addr = some b
    rw [hsock j, if_neg (by intro he; rw [he, hn] at h; cases h)]; exact h
  · have h : (upd (upd c.sock id s') c.n child j).addr = some b := h
    rw [hsock j] at h; split at h
    · exact .inr (Option.some.inj h ▸ h2)
    · exact .inl h
  · have hj : c.n + 1 ≤ j := hj
    show (upd (upd c.sock id s') c.n child j).addr = none
    rw [hsock j, if_neg (by omega)]; exact hi.fresh j (by omega)

theorem inv_accept {c : Llc} (hi : Inv c) {id a : Nat} {e : SapEntry} {s' child : Sock}
    (hs : c.sap a = some e) (ha : (c.sock id).addr = some a)
    (hs' : s'.addr = (c.sock id).addr) (hc : child.addr = some a) :
    Inv { c with n := c.n + 1, sock := upd (upd c.sock id s') c.n child,
                 sap := upd c.sap a (some { e with socks := c.n :: e.socks }) } := by
  have h2 : 2 ≤ a := hi.noRes id a ha
  have ho := inv_orphan hi hs' hc h2
  refine ho.setSap h2 (hi.dom a e hs) (by simp) ?_ (fun j hj => ?_)
  · exact List.nodup_cons.mpr ⟨fun hm => Nat.lt_irrefl _ (hi.addrOf a e _ hs hm).2, hi.nodup a e hs⟩
  · rcases List.mem_cons.mp hj with rfl | hj
    · exact ⟨by show (upd (upd c.sock id s') c.n child c.n).addr = _; rw [accept_addr hs' hc, if_pos rfl],
        Nat.lt_succ_self _⟩
    · exact ho.addrOf a e j hs hj

def PInv (p : Pair) : Prop := Inv p.a ∧ Inv p.b

theorem PInv.get {p : Pair} (h : PInv p) (x : Side) : Inv (p.get x) := by
  cases x
  · exact h.1
  · exact h.2

theorem target_mem {c : Llc} {e : SapEntry} {p : Pdu} {j : Nat} (h : target c e p = some j) : j ∈ e.socks := by
  unfold target at h
  split at h <;> exact List.mem_of_find?_eq_some h

theorem target_conn {c : Llc} {e : SapEntry} {d ss j : Nat} {sn : Option Bytes}
    (h : target c e (.conn d ss sn) = some j) : (c.sock j).st = .listen := by
  simpa [target, Pdu.isConn] using List.find?_some h

/-- `ServiceAccessPoint.enqueue` filters datagrams by peer -/
theorem target_ui {c : Llc} {e : SapEntry} {d s j : Nat} {m : Bytes} (h : target c e (.ui d s m) = some j) :
    (c.sock j).peer = some s ∨ (c.sock j).peer = none := by
  simp only [target, Pdu.isConn, Bool.false_eq_true, ↓reduceIte, Pdu.ssap] at h
  have := List.find?_some h
  exact of_decide_eq_true this

/-- `ServiceAccessPoint.enqueue` changes at most the socket it selects -/
theorem sapEnqueue_touch {c c' : Llc} {a : Nat} {e : SapEntry} {p : Pdu}
    (h : sapEnqueue c a e p = .ok c') {j : Nat} (hj : c'.sock j ≠ c.sock j) :
    target c e p = some j ∧ sockEnqueue (c.sock j) p = some (c'.sock j) := by
  unfold sapEnqueue at h
  split at h
  · rename_i id ht
    split at h
    · rename_i s' hq
      cases h
      by_cases hji : j = id
      · subst hji; exact ⟨ht, hq.trans (congrArg some (upd_eq c.sock j s').symm)⟩
      · exact absurd (upd_ne hji) hj
    · cases h
  · repeat' split at h
    all_goals (cases h; exact absurd rfl hj)

/-- `dispatch` changes at most one socket: the one selected at the destination SAP
(for connect-by-name: at the SAP registered under the service name) -/
theorem dispatch_touch {c c' : Llc} {p : Pdu} (h : dispatch c p = .ok c') {j : Nat} (hj : c'.sock j ≠ c.sock j) :
    ∃ a e, c.sap a = some e ∧
      ((a = p.dsap ∧ target c e p = some j ∧ sockEnqueue (c.sock j) p = some (c'.sock j)) ∨
       (∃ ss nm, p = .conn 1 ss (some nm) ∧ c.snl.lookup nm = some a ∧ target c e (.conn a ss none) = some j)) := by
  unfold dispatch at h
  split at h
  · cases h; exact absurd rfl hj
  · rename_i ss sn
    split at h
    · cases h; exact absurd rfl hj
    · rename_i addr hl
      split at h
      · cases h; exact absurd rfl hj
      · rename_i e hs
        split at hs
        · cases hs
        · split at h
          · cases h; exact absurd rfl hj
          · obtain ⟨ht, _⟩ := sapEnqueue_touch h hj
            cases sn with
            | none => simp at hl
            | some nm =>
              exact ⟨addr, e, hs, .inr ⟨ss, nm, rfl, hl, ht⟩⟩
  · split at h
    · cases h; exact absurd rfl hj
    · split at h
      · cases h; exact absurd rfl hj
      · rename_i e hs
        obtain ⟨ht, hq⟩ := sapEnqueue_touch h hj
        exact ⟨_, e, hs, .inl ⟨rfl, ht, hq⟩⟩

/-- a UI PDU is delivered only to a socket bound at its destination address;
a raw or logical-data-link socket that takes it gets exactly that PDU appended -/
theorem ui_delivery {c c' : Llc} (hi : Inv c) {d s : Nat} {m : Bytes} (h : dispatch c (.ui d s m) = .ok c')
    {j : Nat} (hj : c'.sock j ≠ c.sock j) :
    (c.sock j).addr = some d ∧
    ((c.sock j).kind ≠ .dlc → c'.sock j = { c.sock j with recvq := (c.sock j).recvq ++ [.ui d s m] }) := by
  -- `appendRecv` either appends the PDU or (queue full) leaves the socket as it was
  have app : some (appendRecv (c.sock j) (.ui d s m)) = some (c'.sock j) →
      c'.sock j = { c.sock j with recvq := (c.sock j).recvq ++ [.ui d s m] } := by
    intro hq
    simp only [appendRecv] at hq
    split at hq
    · exact (Option.some.inj hq).symm
    · exact absurd (Option.some.inj hq).symm hj
  obtain ⟨a, e, hs, h1 | ⟨_, _, h1, _⟩⟩ := dispatch_touch h hj
  · obtain ⟨rfl, ht, hq⟩ := h1
    refine ⟨(hi.addrOf _ e j hs (target_mem ht)).1, fun hk => ?_⟩
    unfold sockEnqueue at hq
    split at hq
    · exact app hq
    · simp only at hq
      split at hq
      · exact absurd (Option.some.inj hq).symm hj
      · exact app hq
    · rename_i hk'; exact absurd hk' hk
  · cases h1

/-- connect-by-name: only a listening socket bound at the address registered under
the name can receive the request -/
theorem by_name_exact {c c' : Llc} (hi : Inv c) {ss : Nat} {nm : Bytes}
    (h : dispatch c (.conn 1 ss (some nm)) = .ok c') {j : Nat} (hj : c'.sock j ≠ c.sock j) :
    ∃ a, c.snl.lookup nm = some a ∧ (c.sock j).addr = some a ∧ (c.sock j).st = .listen := by
  obtain ⟨a, e, hs, h1 | ⟨ss', nm', h1, h2, h3⟩⟩ := dispatch_touch h hj
  · -- the direct branch is impossible: SAP 1 has no sockets
    obtain ⟨rfl, ht, _⟩ := h1
    have hm := target_mem ht
    obtain ⟨e1, h4, h5⟩ := hi.res1
    simp only [Pdu.dsap] at hs
    rw [h4] at hs; cases hs
    rw [h5] at hm; cases hm
  · cases h1
    exact ⟨a, h2, (hi.addrOf a e j hs (target_mem h3)).1, target_conn h3⟩

theorem Inv.unique {c : Llc} (hi : Inv c) {a b id : Nat} {e e' : SapEntry} (h1 : c.sap a = some e)
    (h2 : c.sap b = some e') (m1 : id ∈ e.socks) (m2 : id ∈ e'.socks) :
    a = b ∧ e.socks.Nodup ∧ (c.sock id).addr = some a ∧ id < c.n := by
  have q1 := hi.addrOf a e id h1 m1
  exact ⟨Option.some.inj (q1.1.symm.trans (hi.addrOf b e' id h2 m2).1), hi.nodup a e h1, q1⟩

/-- a registered name always points to a live SAP (no stale names) -/
theorem name_live {c : Llc} (hi : Inv c) {nm : Bytes} {a : Nat} (h : c.snl.lookup nm = some a) :
    (nm = nameSdp ∧ a = 1) ∨ (2 ≤ a ∧ ∃ e, c.sap a = some e ∧ e.socks ≠ [] ∧ ∀ j ∈ e.socks, (c.sock j).addr = some a) := by
  rcases hi.names nm a (lookup_mem h) with h1 | ⟨h1, h2, _⟩
  · exact .inl h1
  · cases hs : c.sap a with
    | none => simp [hs] at h2
    | some e => exact .inr ⟨h1, e, rfl, hi.nonempty a e hs h1, fun j hj => (hi.addrOf a e j hs hj).1⟩
end NfcVerif.Sap
