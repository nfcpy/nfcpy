import NfcVerif.Lemmas.ConnectPrompt
/-!
The loops that poll `terminate()` (C18): the presence loop, the card loop and the scripted `llc.run` are instances
of one relation `Polls`; that an open activation stays open, that the stream only gets shorter and the prompt bound
are proved of the relation.
-/
namespace NfcVerif.Clf

/-- `Polls ts s s' ts'`: a loop `while not terminate(): <driver calls>` takes the stream `ts` and the state `s` to
`ts'` and `s'`.  `stop`: the body broke out or the bound is reached; `nil`: the exhausted stream answers true -/
inductive Polls : List Bool → St → St → List Bool → Prop
  | stop (ts s) : Polls ts s s ts
  | nil (s) : Polls [] s (s.emit (.term true)) []
  | yes (r s) : Polls (true :: r) s (s.emit (.term true)) r
  | no {r s s1 s' r'} : NExt (s.emit (.term false)) s1 → Polls r s1 s' r' → Polls (false :: r) s s' r'

theorem Polls.mon {ts ts' : List Bool} {s s' : St} (h : Polls ts s s' ts') {r : Role}
    (hm : mon s.log = some (.conn r)) : mon s'.log = some (.conn r) := by
  induction h with
  | stop => exact hm
  | nil | yes => exact mon_term_conn hm true
  | no hn _ ih => exact ih (by rw [hn.mon]; exact mon_term_conn hm false)

theorem Polls.length_le {ts ts' : List Bool} {s s' : St} (h : Polls ts s s' ts') : ts'.length ≤ ts.length := by
  induction h with
  | stop | nil => exact Nat.le_refl _
  | yes => exact Nat.le_succ _
  | no _ _ ih => exact Nat.le_succ_of_le ih

theorem Polls.pspec {ts ts' : List Bool} {s s' : St} (h : Polls ts s s' ts') : PSpec 1 s ts s' ts' := by
  induction h with
  | stop ts s => exact PSpec.refl 1 s ts
  | nil s => exact PSpec.termNil s
  | yes r s => exact PSpec.termTrue s r
  | no hn _ ih => exact ⟨fun hp => ih.1 (hn.keeps hp.termFalse), postVacuous _ _ _ _ _⟩

theorem dev_of_exchange {e : Exc} (h : e = .io 5 ∨ e = .keyboardInterrupt ∨ isCommErr e = true)
    (hc : ¬ isCommErr e = true) : e = .io 5 ∨ e = .keyboardInterrupt :=
  h.elim Or.inl fun h => h.elim Or.inr fun h => absurd h hc

theorem presenceLoop_polls (ts : List Bool) (s : St) :
    Polls ts s (presenceLoop ts s).2.1 (presenceLoop ts s).2.2 ∧
    ∀ e, (presenceLoop ts s).1 = .error e → e = .io 5 ∨ e = .keyboardInterrupt := by
  induction ts generalizing s with
  | nil => exact ⟨.nil s, by simp [presenceLoop]⟩
  | cons b rest ih =>
    cases b with
    | true => exact ⟨.yes rest s, by simp [presenceLoop]⟩
    | false =>
      unfold presenceLoop
      have hx := NExt.exchange (s.emit (.term false))
      have he := exchange_err (s.emit (.term false))
      rcases hr : exchange (s.emit (.term false)) with ⟨r1, s1⟩
      rw [hr] at hx he
      have quit : Polls (false :: rest) s s1 rest := .no hx (.stop rest s1)
      cases r1 with
      | error e1 =>
        simp only
        split
        · exact ⟨quit, by simp⟩
        · rename_i hc
          exact ⟨quit, fun e h => by cases h; exact dev_of_exchange (he _ rfl) hc⟩
      | ok o =>
        cases o with
        | none => exact ⟨quit, by simp⟩
        | some x =>
          obtain ⟨hp, hpe⟩ := ih (s1.emit .sleep)
          exact ⟨.no (hx.trans (NExt.emit_sleep s1)) hp, hpe⟩

theorem cardLoop_polls (ts : List Bool) (s : St) :
    Polls ts s (cardLoop ts s).2.1 (cardLoop ts s).2.2 ∧
    ∀ e, (cardLoop ts s).1 = .error e → e = .io 5 ∨ e = .keyboardInterrupt := by
  induction ts generalizing s with
  | nil => exact ⟨.nil s, by simp [cardLoop]⟩
  | cons b rest ih =>
    cases b with
    | true => exact ⟨.yes rest s, by simp [cardLoop]⟩
    | false =>
      unfold cardLoop
      have hx := NExt.exchange (s.emit (.term false))
      have he := exchange_err (s.emit (.term false))
      rcases hr : exchange (s.emit (.term false)) with ⟨r1, s1⟩
      rw [hr] at hx he
      have quit : Polls (false :: rest) s s1 rest := .no hx (.stop rest s1)
      have again : Polls (false :: rest) s (cardLoop rest s1).2.1 (cardLoop rest s1).2.2 := .no hx (ih s1).1
      cases r1 with
      | error e1 =>
        simp only
        split
        · exact ⟨quit, by simp⟩
        · split
          · exact ⟨again, (ih s1).2⟩
          · rename_i hc
            exact ⟨quit, fun e h => by cases h; exact dev_of_exchange (he _ rfl) hc⟩
      | ok o => exact ⟨again, (ih s1).2⟩

theorem runPolls_polls (n : Nat) (ts : List Bool) (s : St) : Polls ts s (runPolls n ts s).1 (runPolls n ts s).2 := by
  induction n generalizing ts s with
  | zero => exact .stop ts s
  | succ k ih =>
    match ts with
    | [] => exact .nil s
    | true :: rest => exact .yes rest s
    | false :: rest => exact .no (NExt.refl _) (ih rest _)

end NfcVerif.Clf
