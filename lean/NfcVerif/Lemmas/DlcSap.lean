import NfcVerif.Model.DlcSap
/-!
# Routing of inbound PDUs among several sockets of one service access point

`Disc` is the discipline of an inbound PDU stream, `SInv` the invariant of one `sock_list` relative to the
highest connection numbers seen so far; `SInv.route` is the routing lemma.  The invariant only speaks about the
*tags* of the sockets (who created it, peer, connection number, backlog), which most transitions leave alone.
-/
namespace NfcVerif.DlcSap
open NfcVerif NfcVerif.Dlc

/-- highest connection number of a CONNECT from source address `p` in a log -/
def hiOf : List WPdu → Nat → Nat
  | [], _ => 0
  | w :: rest, p => if w.isConn = true ∧ w.ssap = p then max w.cid (hiOf rest p) else hiOf rest p

/-- what a well-behaved peer guarantees for the next PDU `w` after the log `l`: a CONNECT carries a
connection number above all earlier ones from its source address, a numbered PDU (I, RR, RNR) a number
not below them -/
def StepOk (l : List WPdu) (w : WPdu) : Prop :=
  (w.isConn = true → hiOf l w.ssap < w.cid) ∧ (w.isData = true → hiOf l w.ssap ≤ w.cid)

/-- the discipline of a whole stream: every PDU is fine after everything before it -/
def Disc (l : List WPdu) : Prop := ∀ pre w post, l = pre ++ w :: post → StepOk pre w

theorem Disc.prefix {l ext : List WPdu} (h : Disc (l ++ ext)) : Disc l := by
  intro pre w post hl
  exact h pre w (post ++ ext) (by rw [hl]; simp)

theorem Disc.last {l : List WPdu} {w : WPdu} {ext : List WPdu} (h : Disc (l ++ w :: ext)) : StepOk l w :=
  h l w ext rfl

theorem Disc.nil : Disc [] := fun pre _ _ h => by cases pre <;> cases h

theorem Disc.snoc {l : List WPdu} {w : WPdu} (h : Disc l) (hw : StepOk l w) : Disc (l ++ [w]) := by
  intro pre x post hl
  rcases List.eq_nil_or_concat post with rfl | ⟨post', y, rfl⟩
  · have := List.append_inj' hl rfl
    obtain ⟨h1, h2⟩ := this
    cases h2
    rw [← h1]; exact hw
  · have : l ++ [w] = (pre ++ x :: post') ++ [y] := by rw [hl]; simp
    have := List.append_inj' this rfl
    exact h pre x post' this.1

theorem hiOf_append (l : List WPdu) (w : WPdu) (p : Nat) :
    hiOf (l ++ [w]) p = if w.isConn = true ∧ w.ssap = p then max w.cid (hiOf l p) else hiOf l p := by
  induction l with
  | nil => simp [hiOf]
  | cons v l ih =>
    simp only [List.cons_append, hiOf, ih]
    split <;> split <;> simp only [Nat.max_def] <;> (repeat' split) <;> omega

theorem hiOf_le_append (l : List WPdu) (w : WPdu) (p : Nat) : hiOf l p ≤ hiOf (l ++ [w]) p := by
  rw [hiOf_append]; split
  · exact Nat.le_max_right _ _
  · exact Nat.le_refl _

theorem hiOf_mono_cons (w : WPdu) (l : List WPdu) (p : Nat) : hiOf l p ≤ hiOf (w :: l) p := by
  simp only [hiOf]; split <;> omega

/-- what the invariant reads of a socket -/
structure Tag where
  acc : Bool                  -- created by `accept()`
  peer : Option Nat
  cid : Nat
  lst : Bool                  -- state LISTEN
  alone : Bool                -- state CLOSED or CONNECT
  cq : List (Nat × Nat)       -- (ssap, connection number) of the CONNECT PDUs in the backlog
  addr : Option Nat
  deriving DecidableEq, Repr

def Sock.tag (s : Sock) : Tag :=
  { acc := s.acc, peer := s.peer, cid := s.cid, lst := s.cs == .listen,
    alone := s.cs == .closed || s.cs == .connect, cq := s.cq.map fun w => (w.ssap, w.cid), addr := s.addr }

def tags (l : List Sock) : List Tag := l.map Sock.tag

/-- backlog entries of one source address carry increasing numbers -/
def CqOrd (q : List (Nat × Nat)) : Prop := q.Pairwise fun e1 e2 => e1.1 = e2.1 → e1.2 < e2.2

/-- accepted sockets of one peer: the newer one stands further left -/
def AccOrd (l : List Tag) : Prop := l.Pairwise fun x y => x.peer = y.peer → x.cid > y.cid

/-- invariant of the `sock_list` of the access point with address `A`; `hi` = highest connection number
seen so far per source address -/
structure SInv (hi : Nat → Nat) (A : Nat) (t : List Tag) : Prop where
  shape : ∃ accs : List Tag, ∃ o : Option Tag, t = accs ++ o.toList ∧
    (∀ x ∈ accs, x.acc = true ∧ x.lst = false ∧ x.alone = false ∧ x.cq = [] ∧ ∃ p, x.peer = some p ∧ x.cid ≤ hi p) ∧
    AccOrd accs ∧
    (∀ x ∈ o, x.acc = false ∧ (x.lst = true ∨ x.alone = true → x.peer = none) ∧ (x.lst = false → x.cq = []) ∧
       ((x.alone = true ∨ x.peer ≠ none) → accs = []) ∧ CqOrd x.cq ∧
       ∀ e ∈ x.cq, e.2 ≤ hi e.1 ∧ ∀ y ∈ accs, y.peer = some e.1 → y.cid < e.2)
  addr : ∀ x ∈ t, x.addr = some A

theorem SInv.mono {hi hi' : Nat → Nat} {A : Nat} {t : List Tag} (h : SInv hi A t) (hle : ∀ p, hi p ≤ hi' p) :
    SInv hi' A t := by
  obtain ⟨⟨accs, o, ht, ha, hord, ho⟩, haddr⟩ := h
  refine ⟨⟨accs, o, ht, ?_, hord, ?_⟩, haddr⟩
  · intro x hx
    obtain ⟨h1, h2, h3, h4, p, h5, h6⟩ := ha x hx
    exact ⟨h1, h2, h3, h4, p, h5, Nat.le_trans h6 (hle p)⟩
  · intro x hx
    obtain ⟨h1, h2, h3, h4, h5, h6⟩ := ho x hx
    refine ⟨h1, h2, h3, h4, h5, ?_⟩
    intro e he
    exact ⟨Nat.le_trans (h6 e he).1 (hle e.1), (h6 e he).2⟩

theorem SInv.single (hi : Nat → Nat) (A : Nat) (x : Tag) (h1 : x.acc = false) (h2 : x.cq = [])
    (h3 : x.lst = true ∨ x.alone = true → x.peer = none) (h4 : x.addr = some A) : SInv hi A [x] := by
  refine ⟨⟨[], some x, rfl, ?_, List.Pairwise.nil, ?_⟩, ?_⟩
  · intro y hy; cases hy
  · intro y hy
    have : y = x := by simpa using hy.symm
    subst this
    refine ⟨h1, h3, fun _ => h2, fun _ => rfl, ?_, ?_⟩
    · rw [h2]; exact List.Pairwise.nil
    · intro e he; rw [h2] at he; cases he
  · intro y hy
    have : y = x := by simpa using hy
    subst this; exact h4

theorem SInv.sublist {hi : Nat → Nat} {A : Nat} {t t' : List Tag} (h : SInv hi A t) (hs : t'.Sublist t) :
    SInv hi A t' := by
  obtain ⟨⟨accs, o, ht, ha, hord, ho⟩, haddr⟩ := h
  subst ht
  obtain ⟨a', o', rfl, hsa, hso⟩ := List.sublist_append_iff.1 hs
  refine ⟨⟨a', ?_⟩, fun x hx => haddr x (hs.subset hx)⟩
  cases o with
  | none =>
    have : o' = [] := by simpa using hso
    subst this
    exact ⟨none, rfl, fun x hx => ha x (hsa.subset hx), hord.sublist hsa, fun x hx => by cases hx⟩
  | some z =>
    have hz : o' = [] ∨ o' = [z] := by
      simp only [Option.toList] at hso
      cases o' with
      | nil => exact Or.inl rfl
      | cons y r =>
        right
        cases hso with
        | cons _ h => cases h
        | cons_cons _ h => have := List.sublist_nil.1 h; subst this; rfl
    rcases hz with rfl | rfl
    · exact ⟨none, rfl, fun x hx => ha x (hsa.subset hx), hord.sublist hsa, fun x hx => by cases hx⟩
    · refine ⟨some z, rfl, fun x hx => ha x (hsa.subset hx), hord.sublist hsa, ?_⟩
      intro x hx
      obtain ⟨h1, h2, h3, h4, h5, h6⟩ := ho x hx
      refine ⟨h1, h2, h3, ?_, h5, ?_⟩
      · intro hc
        have := h4 hc
        subst this
        exact List.sublist_nil.1 hsa
      · intro e he
        exact ⟨(h6 e he).1, fun y hy => (h6 e he).2 y (hsa.subset hy)⟩

theorem shape_cases {accs : List Tag} {o : Option Tag} {t1 t2 : List Tag} {x : Tag}
    (h : accs ++ o.toList = t1 ++ x :: t2) :
    (∃ a2, accs = t1 ++ x :: a2 ∧ t2 = a2 ++ o.toList) ∨ (o = some x ∧ accs = t1 ∧ t2 = []) := by
  rcases List.append_eq_append_iff.1 h with ⟨a', h1, h2⟩ | ⟨c', h1, h2⟩
  · -- t1 = accs ++ a', o.toList = a' ++ x :: t2
    cases o with
    | none => simp at h2
    | some z =>
      simp only [Option.toList] at h2
      cases a' with
      | nil =>
        simp only [List.nil_append, List.cons.injEq] at h2
        right
        exact ⟨by rw [h2.1], by simpa using h1.symm, h2.2.symm⟩
      | cons y r =>
        simp only [List.cons_append, List.cons.injEq] at h2
        have := h2.2
        cases r <;> simp at this
  · -- accs = t1 ++ c', x :: t2 = c' ++ o.toList
    cases c' with
    | nil =>
      simp only [List.nil_append] at h2
      cases o with
      | none => simp at h2
      | some z =>
        simp only [Option.toList, List.cons.injEq] at h2
        right
        exact ⟨by rw [h2.1], by simpa using h1, h2.2⟩
    | cons y r =>
      simp only [List.cons_append, List.cons.injEq] at h2
      left
      exact ⟨r, by rw [h1, h2.1], h2.2⟩

theorem tags_append (l1 l2 : List Sock) : tags (l1 ++ l2) = tags l1 ++ tags l2 := List.map_append

theorem tags_cons (s : Sock) (l : List Sock) : tags (s :: l) = s.tag :: tags l := rfl

/-- **Routing.**  In a `sock_list` that satisfies the invariant, a socket `σ` of peer `p` whose connection number
is not below anything seen from `p` is the FIRST socket that `ServiceAccessPoint.enqueue` considers for a PDU
from `p`: no socket to its left has peer `p` or no peer. -/
theorem SInv.route {hi : Nat → Nat} {A : Nat} {l : List Sock} (h : SInv hi A (tags l)) (σ : Sock) (hσ : σ ∈ l)
    (p : Nat) (hp : σ.peer = some p) (hk : hi p ≤ σ.cid) :
    ∃ pre post, l = pre ++ σ :: post ∧ ∀ τ ∈ pre, matchPeer p τ = false := by
  obtain ⟨pre, post, rfl⟩ := List.append_of_mem hσ
  refine ⟨pre, post, rfl, ?_⟩
  obtain ⟨⟨accs, o, ht, ha, hord, ho⟩, _⟩ := h
  rw [tags_append, tags_cons] at ht
  intro τ hτ
  have hτt : τ.tag ∈ tags pre := List.mem_map_of_mem hτ
  rcases shape_cases ht.symm with ⟨a2, h1, _⟩ | ⟨h1, h2, _⟩
  · -- σ is an accepted socket
    have hτa : τ.tag ∈ accs := by rw [h1]; exact List.mem_append_left _ hτt
    obtain ⟨_, _, _, _, q, hq, hle⟩ := ha τ.tag hτa
    have hq' : τ.peer = some q := hq
    by_cases hqp : q = p
    · subst hqp
      exfalso
      rw [h1] at hord
      have hp1 := List.pairwise_append.1 hord
      have := hp1.2.2 τ.tag hτt σ.tag (List.mem_cons_self ..)
      have h3 : τ.tag.cid > σ.tag.cid := this (by show τ.peer = σ.peer; rw [hq', hp])
      have h4 : τ.tag.cid = τ.cid := rfl
      have h5 : σ.tag.cid = σ.cid := rfl
      omega
    · simp only [matchPeer, hq']
      simp [hqp]
  · -- σ is the original socket of the access point and has a peer: it is alone
    have hso : σ.tag ∈ o := by rw [h1]; rfl
    obtain ⟨_, _, _, h4, _, _⟩ := ho σ.tag hso
    have : accs = [] := h4 (Or.inr (by show σ.peer ≠ none; rw [hp]; simp))
    rw [this] at h2
    have : pre = [] := by
      cases pre with
      | nil => rfl
      | cons y r => simp [tags] at h2
    subst this
    cases hτ

/-- the consequence for `updFirst`: the PDU is handed to `σ` -/
theorem updFirst_of_route (p : Sock → Bool) (f : Sock → Sock) (pre post : List Sock) (σ : Sock)
    (hpre : ∀ τ ∈ pre, p τ = false) (hσ : p σ = true) :
    updFirst p f (pre ++ σ :: post) = some (pre ++ f σ :: post) := by
  induction pre with
  | nil => simp [updFirst, hσ]
  | cons y r ih =>
    have hy := hpre y (List.mem_cons_self ..)
    simp only [List.cons_append, updFirst, hy]
    rw [ih (fun τ hτ => hpre τ (List.mem_cons_of_mem _ hτ))]
    rfl

theorem updFirst_cases (p : Sock → Bool) (f : Sock → Sock) (l : List Sock) :
    (∃ pre s post, l = pre ++ s :: post ∧ (∀ t ∈ pre, p t = false) ∧ p s = true ∧
      updFirst p f l = some (pre ++ f s :: post)) ∨
    ((∀ t ∈ l, p t = false) ∧ updFirst p f l = none) := by
  induction l with
  | nil => exact Or.inr ⟨fun t ht => (by cases ht), rfl⟩
  | cons y r ih =>
    cases hy : p y with
    | true => exact Or.inl ⟨[], y, r, rfl, fun t ht => (by cases ht), hy, (by simp [updFirst, hy])⟩
    | false =>
      rcases ih with ⟨pre, s, post, h1, h2, h3, h4⟩ | ⟨h1, h2⟩
      · refine Or.inl ⟨y :: pre, s, post, by rw [h1]; rfl, ?_, h3, by simp [updFirst, hy, h4]⟩
        intro t ht
        rcases List.mem_cons.1 ht with rfl | ht
        · exact hy
        · exact h2 t ht
      · refine Or.inr ⟨?_, by simp [updFirst, hy, h2]⟩
        intro t ht
        rcases List.mem_cons.1 ht with rfl | ht
        · exact hy
        · exact h1 t ht

theorem updFirst_single (p : Sock → Bool) (f : Sock → Sock) (s : Sock) :
    updFirst p f [s] = if p s = true then some [f s] else none := by
  simp only [updFirst]
  split <;> rfl

theorem deqFirst_single (b : Int) (s : Sock) : deqFirst b [s] = ([(s.dequeue b).1], (s.dequeue b).2) := by
  simp only [deqFirst]
  cases (s.dequeue b).2 <;> rfl

theorem ackFirst_single (s : Sock) : ackFirst [s] = ([s.sendack.1], s.sendack.2) := by
  simp only [ackFirst]
  cases s.sendack.2 <;> rfl

theorem enqueue_tag (s : Sock) (w : WPdu) (h : w.isConn = false) : (s.enqueue w).tag = s.tag := by
  unfold Sock.enqueue
  cases hcs : s.cs <;> simp only [h]
  · simp [Sock.tag, hcs]
  · rfl
  · split
    · split <;> simp [Sock.tag, hcs]
    · split <;> simp [Sock.tag, hcs]
    · rfl
  · split <;> simp [Sock.tag, hcs]

theorem dequeue_tag (s : Sock) (b : Int) : (s.dequeue b).1.tag = s.tag := by
  unfold Sock.dequeue
  cases hcs : s.cs <;> dsimp only
  all_goals (repeat' split)
  all_goals simp [Sock.tag, hcs]

theorem sendack_tag (s : Sock) : s.sendack.1.tag = s.tag := by
  unfold Sock.sendack
  cases hcs : s.cs <;> simp [Sock.tag, hcs]

theorem deqFirst_tags (b : Int) (l : List Sock) : tags (deqFirst b l).1 = tags l := by
  induction l with
  | nil => rfl
  | cons s r ih =>
    simp only [deqFirst]
    split
    · simp [tags, dequeue_tag]
    · simp only [tags, List.map_cons, dequeue_tag] at ih ⊢
      rw [ih]

theorem ackFirst_tags (l : List Sock) : tags (ackFirst l).1 = tags l := by
  induction l with
  | nil => rfl
  | cons s r ih =>
    simp only [ackFirst]
    split
    · simp [tags, sendack_tag]
    · simp only [tags, List.map_cons, sendack_tag] at ih ⊢
      rw [ih]

theorem updFirst_tags (p : Sock → Bool) (f : Sock → Sock) (hf : ∀ s, (f s).tag = s.tag) (l l' : List Sock)
    (h : updFirst p f l = some l') : tags l' = tags l := by
  rcases updFirst_cases p f l with ⟨pre, s, post, h1, _, _, h4⟩ | ⟨_, h2⟩
  · rw [h4] at h; cases h
    rw [h1, tags_append, tags_append, tags_cons, tags_cons, hf]
  · rw [h2] at h; cases h

/-- what the invariant of a controller reads -/
def skel (saps : List Sap) : List (Nat × List Tag) := saps.map fun a => (a.addr, tags a.socks)

theorem updSap_skel (addr : Nat) (f : Sap → Sap) (hf : ∀ a, (f a).addr = a.addr ∧ tags (f a).socks = tags a.socks)
    (saps : List Sap) : skel (updSap addr f saps) = skel saps := by
  induction saps with
  | nil => rfl
  | cons a r ih =>
    simp only [updSap, skel, List.map_cons] at ih ⊢
    rw [ih]
    split
    · rw [(hf a).1, (hf a).2]
    · rfl

theorem dequeue_sap (a : Sap) (b : Int) : (a.dequeue b).1.addr = a.addr ∧ tags (a.dequeue b).1.socks = tags a.socks := by
  unfold Sap.dequeue
  dsimp only
  split
  · exact ⟨rfl, deqFirst_tags b a.socks⟩
  · split <;> exact ⟨rfl, deqFirst_tags b a.socks⟩

theorem sendack_sap (a : Sap) : a.sendack.1.addr = a.addr ∧ tags a.sendack.1.socks = tags a.socks :=
  ⟨rfl, ackFirst_tags a.socks⟩

theorem enqueue_sap (a : Sap) (w : WPdu) (h : w.isConn = false) :
    (a.enqueue w).addr = a.addr ∧ tags (a.enqueue w).socks = tags a.socks := by
  unfold Sap.enqueue
  rw [if_neg (by simp [h])]
  split
  · rename_i l hl
    exact ⟨rfl, updFirst_tags _ _ (fun s => enqueue_tag s w h) _ _ hl⟩
  · exact ⟨rfl, rfl⟩

end NfcVerif.DlcSap
