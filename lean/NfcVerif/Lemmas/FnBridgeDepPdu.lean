import NfcVerif.Gen.FnDepPdu
import NfcVerif.Model.NfcDep
import NfcVerif.Model.Activate
import NfcVerif.Lemmas.FnBridgeBase
/-!
For `Props/FnBridgeDepPdu.lean` (PDU classes and activation arithmetic of `nfc/dep.py`): the length reduction table,
masks of arbitrary ints, the RTOX range check shared by both roles, and the dispatch `genTail` over the regenerated
PDU decoders.
-/
namespace NfcVerif.FnBridge.DepPdu
open NfcVerif NfcVerif.PyFn

/-- `(64, 128, 192, 254)[k]` for an index below 4 (in the form `py_nat` leaves it) -/
theorem idx_lr (k : Nat) (h : k < 4) :
    idx [((64 : Nat) : Int), ((128 : Nat) : Int), ((192 : Nat) : Int), ((254 : Nat) : Int)] (k : Int)
      = .ok ((NfcDep.lrTable k : Nat) : Int) := by
  match k, h with
  | 0, _ => rfl
  | 1, _ => rfl
  | 2, _ => rfl
  | 3, _ => rfl

theorem lrTable_mod (i : Nat) : NfcDep.lrTable (i % 4) = NfcDep.lrTable i := by
  unfold NfcDep.lrTable; rw [Nat.mod_mod]

/-- both NFC-DEP models use the same table -/
theorem lrTable_eq (i : Nat) : Activate.lrTable i = NfcDep.lrTable i := rfl

theorem lrTable_ge (i : Nat) : 64 ≤ NfcDep.lrTable i := by
  unfold NfcDep.lrTable; split <;> omega

theorem lrTable_le (i : Nat) : NfcDep.lrTable i ≤ 254 := by
  unfold NfcDep.lrTable; split <;> omega

/-- `x & (2^k - 1)` is a natural below `2^k` for every Python int `x` (negative ones included) -/
theorem band_mask_nat (x : Int) (k : Nat) :
    ∃ r : Nat, r < 2 ^ k ∧ band x ((2 ^ k - 1 : Nat) : Int) = (r : Int) := by
  have hp : 0 < 2 ^ k := Nat.two_pow_pos k
  have := Int.emod_nonneg x (show ((2 ^ k : Nat) : Int) ≠ 0 by omega)
  have := Int.emod_lt_of_pos x (show 0 < ((2 ^ k : Nat) : Int) by omega)
  exact ⟨(x % ((2 ^ k : Nat) : Int)).toNat, by omega, by rw [band_mask]; omega⟩

/-- the RTOX range check in front of `rtox = data[0]`, for any continuation `K`: an empty PDU or a value outside
1..59 is a `ProtocolError` before the octet is read -/
theorem rtox_guard {α} (data : Bytes) (K : Int → Py α) :
    ((if len data = 0 then Except.ok true else getB data 0 >>= fun t2 => Except.ok (decide (¬ (0 < t2 ∧ t2 < 60)))) >>= fun t3 =>
      if t3 = true then Except.error Exc.protocol else getB data 0 >>= K)
      = match data with
        | [] => .error .protocol
        | v :: _ => if 0 < v ∧ v < 60 then K v else .error .protocol := by
  cases data with
  | nil => rfl
  | cons v t =>
    have h0 : ¬ (len (v :: t) = 0) := by rw [len_eq, List.length_cons]; omega
    have e : (0 < (v : Int) ∧ (v : Int) < 60) ↔ (0 < v ∧ v < 60) := by omega
    simp only [h0, if_false, getB_zero, Py.bind_ok, e, decide_not, Bool.not_eq_true', decide_eq_false_iff_not, ite_not]

/-- the two code octets `PDU_CODE` of a PDU class: `D4 xx` for requests, `D5 xx` for responses -/
def code (req : Bool) (k : Nat) : Bytes := [if req then 0xD4 else 0xD5, if req then k else k + 1]

open NfcVerif.NfcDep in
/-- the tuple of constructor arguments returned by the regenerated `DEP_REQ_RES.decode` as the model's PDU (None:
`decode` did not recognise the code octets, the caller's first attribute access raises) -/
def depOfRec (r : Option ((Int × Bool × Bool × Int) × Option Int × Option Int × Bytes)) : Py Pdu :=
  match r with
  | none => .error .attr
  | some ((fmt, _, _, pni), did, nad, data) =>
    .ok (.dep fmt.toNat pni.toNat (did.map Int.toNat) (nad.map Int.toNat) data)

open NfcVerif.NfcDep in
/-- `return eval(name + "_REQ"|"_RES").decode(frame)` with the regenerated `decode` class methods; hand-written remain
the table lookup (`KeyError` for an unknown code) and `PSL_REQ_RES.decode` (`cls(*data[2:])`, not translatable).
`decode` returning None (code octets of another class) shows up as `AttributeError` at the first use. -/
def genTail (req : Bool) (f2 : Bytes) : Py Pdu :=
  match f2 with
  | _ :: c1 :: d =>
    if req then
      if c1 = 0 then Gen.Fn.dep_atr_req_decode f2 >>= fun r => match r with | none => .error .attr | some _ => .ok (.atr d)
      else if c1 = 4 then (if d.length ≠ 3 then .error .protocol else .ok (.psl d))
      else if c1 = 6 then Gen.Fn.dep_dep_req_decode f2 >>= depOfRec
      else if c1 = 8 then Gen.Fn.dep_dsl_req_decode f2 >>= fun r =>
        match r with | none => .error .attr | some did => .ok (.dsl (did.map Int.toNat))
      else if c1 = 10 then Gen.Fn.dep_rls_req_decode f2 >>= fun r =>
        match r with | none => .error .attr | some did => .ok (.rls (did.map Int.toNat))
      else .error .key
    else
      if c1 = 1 then Gen.Fn.dep_atr_res_decode f2 >>= fun r => match r with | none => .error .attr | some _ => .ok (.atr d)
      else if c1 = 5 then (if d.length ≠ 1 then .error .protocol else .ok (.psl d))
      else if c1 = 7 then Gen.Fn.dep_dep_res_decode f2 >>= depOfRec
      else if c1 = 9 then Gen.Fn.dep_dsl_res_decode f2 >>= fun r =>
        match r with | none => .error .attr | some did => .ok (.dsl (did.map Int.toNat))
      else if c1 = 11 then Gen.Fn.dep_rls_res_decode f2 >>= fun r =>
        match r with | none => .error .attr | some did => .ok (.rls (did.map Int.toNat))
      else .error .key
  | _ => .error .index

end NfcVerif.FnBridge.DepPdu
