import NfcVerif.Lemmas.RetryPrim
/-!
C16 above the primitives: command programs, the operation table, sessions. `Clean S P`: `P` calls
only primitives of the kinds `S`, each under its side conditions `PrimSide`, and raises nothing by
itself but TagCommandError. `run_gen` is the one walk over a clean program: a property `I` of the
state that every such call and every re-activation preserves holds at the end, and the exception
of the run, if any, is a TagCommandError or one that a primitive raised past its handler.
`run_inv` (through `prim_safe`: `Benign` script or `Robust` primitives, `Sound` tag object),
`run_log` and `run_t4_sticky` are instances; `session_gen` carries any such pair of invariant and
guarantee from single runs to sessions. `Quiet b P` follows error continuations only and says that
a `clf.sense` written in the program is not reached unless `b`; `run_dead` needs it because it
shows the state unchanged, and a re-activation changes the state. `Tidy` is `Clean` and `Quiet`
together: every entry of `prog` is built from `chain`, `Prog.sense` and `.ret` (`fin v` is `fun _ => .ret v`),
each of which keeps both, so `prog_tidy` is one pass over the table, for any `S` that holds of `kindOf fam op`.
-/
namespace NfcVerif.Retry

theorem fixF17_rep : Cfg.repaired.fixF17 = true := rfl

/-! ## command programs -/

/-- outcome allowed by the property: a value or a TagCommandError -/
def Documented : Outcome → Prop
  | .ok _ => True
  | .exc e => ∃ m, e = .tagCmd m

/-- primitives of the repaired code that cope with every CommunicationError class -/
def Robust (k : PrimKind) : Prop := k = .t3 ∨ k = .t4 ∨ k = .raw

/-- side conditions of a call: retry loops have a budget of 1..3 attempts, the bare exchange
(Type 4 presence check) sits in a `try ... except CommunicationError` -/
def PrimSide (p : Prim) (ct : Catch) : Prop :=
  (LoopKind p.kind → 0 < p.budget ∧ p.budget ≤ 3) ∧ (p.kind = .raw → ct = .commErr)

/-- a program over primitives of kinds `S` that raises nothing but TagCommandError by itself
(a re-activation by `clf.sense` belongs to the Type 2 programs) -/
def Clean (S : PrimKind → Prop) : Prog → Prop
  | .ret _ => True
  | .crash e => ∃ m, e = .tagCmd m
  | .reraise => True
  | .caseErr z n p => Clean S (z ()) ∧ Clean S (n ()) ∧ Clean S (p ())
  | .call p _ _ ct ok err => S p.kind ∧ PrimSide p ct ∧ Clean S (ok ()) ∧ Clean S (err ())
  | .sense f g => S .t12 ∧ Clean S (f ()) ∧ Clean S (g ())

/-- the continuation a handler policy names, if it names one, satisfies `X` -/
def Pol.All (X : Prog → Prop) : Pol → Prop
  | .goto p => X (p ())
  | _ => True

theorem Pol.All.imp {X Y : Prog → Prop} (h : ∀ P, X P → Y P) {pol : Pol} (hpol : pol.All X) : pol.All Y := by
  cases pol with
  | goto _ => exact h _ hpol
  | raise | ret _ | skip => trivial

/-- a handler goes on with `raise`, a `return`, the next step or the continuation its policy names -/
theorem polProg_all {X : Prog → Prop} (pol : Pol) (next : Unit → Prog) (hpol : pol.All X) (hn : X (next ()))
    (hre : X .reraise) (hret : ∀ v, X (.ret v)) : X (polProg pol next ()) := by
  cases pol with
  | raise => exact hre
  | ret v => exact hret v
  | skip => exact hn
  | goto _ => exact hpol

/-- repaired code: what a primitive can raise; the tag object stays sound -/
theorem prim_safe (p : Prim) (c : Cmd) (a : Ans) (w : World) (hl : LoopKind p.kind → 0 < p.budget)
    (hs : Robust p.kind ∨ Benign w) (hsd : Sound w) :
    (∀ e, (prim Cfg.repaired p c a w).1 = .error e →
        (∃ m, e = .tagCmd m) ∨ (p.kind = .raw ∧ ∃ n, Catch.commErr.catches e = some n))
    ∧ (Benign w → Benign (prim Cfg.repaired p c a w).2)
    ∧ Sound (prim Cfg.repaired p c a w).2 := by
  unfold prim
  cases hk : p.kind with
  | t12 =>
    simp only []
    have hb : Benign w := by
      rcases hs with h | h
      · rw [hk] at h; rcases h with h | h | h <;> cases h
      · exact h
    split
    · exact ⟨(by intro e he; cases he; exact Or.inl ⟨_, rfl⟩), fun h => h, hsd⟩
    · rename_i hg
      split
      · rename_i hlost; exact absurd (hsd hlost) hg
      · have := (loop_tries Cfg.repaired .t12 p.idm c a p.budget none [] w).safe
          (fun h0 => by have := hl (by rw [hk]; exact Or.inl rfl); omega) (Or.inr hb)
        exact ⟨fun e he => Or.inl (this.1 e he), this.2.1, this.2.2 hsd⟩
  | t3 =>
    simp only []
    have := (loop_tries Cfg.repaired .t3 p.idm c a p.budget none [] w).safe
      (fun h0 => by have := hl (by rw [hk]; exact Or.inr rfl); omega) (Or.inl rfl)
    exact ⟨fun e he => Or.inl (this.1 e he), this.2.1, this.2.2 hsd⟩
  | t4 =>
    simp only []
    split
    · exact ⟨(by intro e he; cases he; exact Or.inl ⟨_, rfl⟩), fun h => h, hsd⟩
    · obtain ⟨h1, h2, h3⟩ := (dep_frames Cfg.repaired p.budget c (a.eff false) (p.budget + 3) 1 false false [] w
        (by omega) (by intro h; cases h) (by omega)).safe
      refine ⟨fun e he => ?_, h2, h3 hsd⟩
      rcases h1 e he with h | ⟨h, _⟩
      · exact Or.inl h
      · cases h
  | raw =>
    simp only []
    obtain ⟨w2, atts, ha, h⟩ := rawx_air c (a.eff false) w
    rw [h]
    refine ⟨fun e he => ?_, fun hb => benign_push _ _ (ha.benign hb), sound_push _ _ (ha.sound hsd)⟩
    rcases rawx_err c (a.eff false) w e he with h | h
    · exact Or.inl h
    · exact Or.inr ⟨trivial, h⟩

theorem run_gen {cfg : Cfg} {S : PrimKind → Prop} {I : World → Prop} {E : Exc → Prop} (hE : ∀ m, E (.tagCmd m))
    (hp : ∀ (p : Prim) (c : Cmd) (a : Ans) (ct : Catch) (w : World), S p.kind → PrimSide p ct → I w →
      I (prim cfg p c a w).2 ∧ ∀ e, (prim cfg p c a w).1 = .error e → ct.catches e = none → E e)
    (hs : S .t12 → ∀ w, I w → I w.reactivate.2) :
    ∀ (P : Prog) (cur : Int) (w : World), Clean S P → I w →
      I (run cfg P cur w).2 ∧ ∀ e, (run cfg P cur w).1 = .exc e → E e := by
  intro P
  induction P with
  | ret v => intro cur w _ hi; exact ⟨hi, fun e he => by cases he⟩
  | crash e => intro cur w ⟨m, hm⟩ hi; exact ⟨hi, fun e he => by cases he; exact hm ▸ hE m⟩
  | reraise => intro cur w _ hi; exact ⟨hi, fun e he => by cases he; exact hE cur⟩
  | caseErr z n p ihz ihn ihp =>
    intro cur w ⟨hz, hn, hp⟩ hi
    unfold run
    split
    · exact ihz () cur w hz hi
    · split
      · exact ihn () cur w hn hi
      · exact ihp () cur w hp hi
  | call p c a ct ok err ihok iherr =>
    intro cur w ⟨hk, hside, hok, herr⟩ hi
    have h := hp p c a ct w hk hside hi
    unfold run
    generalize prim cfg p c a w = r at h
    obtain ⟨res, w'⟩ := r
    cases res with
    | ok u => exact ihok () cur w' hok h.1
    | error e =>
      simp only []
      split
      · rename_i n _; exact iherr () n w' herr h.1
      · rename_i hn; exact ⟨h.1, fun e' he' => by cases he'; exact h.2 e rfl hn⟩
  | sense f g ihf ihg =>
    intro cur w ⟨h12, hf, hg⟩ hi
    unfold run
    split
    · exact ihf () cur _ hf (hs h12 w hi)
    · exact ihg () cur _ hg (hs h12 w hi)

theorem documented_of {out : Outcome} (h : ∀ e, out = .exc e → ∃ m, e = .tagCmd m) : Documented out := by
  cases out with
  | ok v => trivial
  | exc e => exact h e rfl

/-- **a clean program ends with a value or a TagCommandError**: for every fault script when all
its primitives are robust ones (Type 3, ISO-DEP, presence check), otherwise for every script of
the three known classes; the script stays benign and the tag object sound (so the statement
carries over to the next operation on the same object) -/
theorem run_inv (S : PrimKind → Prop) (robust : Prop) (hR : robust → ∀ k, S k → Robust k)
    (P : Prog) (cur : Int) (w : World) (hc : Clean S P) (hw : robust ∨ Benign w) (hs : Sound w) :
    Documented (run Cfg.repaired P cur w).1 ∧ (robust ∨ Benign (run Cfg.repaired P cur w).2)
      ∧ Sound (run Cfg.repaired P cur w).2 := by
  have := run_gen (cfg := Cfg.repaired) (S := S) (I := fun w => (robust ∨ Benign w) ∧ Sound w)
    (E := fun e => ∃ m, e = .tagCmd m) (fun m => ⟨m, rfl⟩)
    (fun p c a ct w hk hside hi => by
      have hps := prim_safe p c a w (fun h => (hside.1 h).1) (hi.1.imp (fun h => hR h _ hk) id) hi.2
      refine ⟨⟨hi.1.imp id hps.2.1, hps.2.2⟩, fun e he hn => ?_⟩
      rcases hps.1 e he with h | ⟨hkr, n, hc⟩
      · exact h
      · rw [hside.2 hkr, hc] at hn; cases hn)
    (fun _ w hi => ⟨hi.1.imp id benign_reactivate, sound_reactivate w⟩) P cur w hc ⟨hw, hs⟩
  exact ⟨documented_of this.2, this.1⟩

theorem run_documented (S : PrimKind → Prop) (robust : Prop) (hR : robust → ∀ k, S k → Robust k)
    (P : Prog) (cur : Int) (w : World) (hc : Clean S P) (hw : robust ∨ Benign w) (hs : Sound w) :
    Documented (run Cfg.repaired P cur w).1 := (run_inv S robust hR P cur w hc hw hs).1

def Pol.isRaise : Pol → Bool
  | .raise => true
  | _ => false

/-- side conditions of the calls of a chain (`PrimSide`); a bare exchange is never left uncaught -/
def sideOk (p : Prim) (ct : Catch) (pol : Pol) : Bool :=
  match p.kind with
  | .raw => ct = .commErr && !pol.isRaise
  | .t4 => true
  | _ => 0 < p.budget && p.budget ≤ 3

theorem chain_clean (S : PrimKind → Prop) (p : Prim) (ct : Catch) (pol : Pol)
    (hp : S p.kind) (hs : sideOk p ct pol = true) (hpol : pol.All (Clean S)) :
    ∀ (ss : List Step) (fin : Unit → Prog), Clean S (fin ()) → Clean S (chain Cfg.repaired p ct pol ss fin) := by
  have hl : LoopKind p.kind → 0 < p.budget ∧ p.budget ≤ 3 := by
    intro hk
    rcases hk with hk | hk <;> simpa [sideOk, hk] using hs
  have hr : p.kind = .raw → ct = .commErr ∧ pol.isRaise = false := by
    intro hk
    simpa [sideOk, hk] using hs
  intro ss
  induction ss with
  | nil => intro fin h; simpa [chain] using h
  | cons s ss ih =>
    intro fin h
    have hn := ih fin h
    unfold chain
    simp only []
    split
    · rename_i hc
      have h12 : S .t12 := by rw [← hc.2]; exact hp
      refine ⟨h12, ⟨fun _ => ⟨by decide, by decide⟩, fun h => by cases h⟩, ?_, ?_⟩
      · cases pol with
        | raise => exact ⟨1, rfl⟩
        | ret _ | skip | goto _ => exact polProg_all _ _ hpol hn trivial fun _ => trivial
      · refine ⟨hn, ?_, ?_⟩ <;> simpa [Cfg.repaired] using polProg_all pol _ hpol hn trivial fun _ => trivial
    · refine ⟨hp, ⟨hl, fun h => ?_⟩, hn, polProg_all pol _ hpol hn trivial fun _ => trivial⟩
      obtain ⟨h1, h2⟩ := hr h
      cases pol with
      | raise => cases h2
      | ret _ | skip | goto _ => exact h1

/-! ## log invariant: answered attempts are last -/

/-- attempts of one primitive call: failures, then at most one further attempt -/
def InvOK (bound : Nat) (atts : List (Att × Bool)) : Prop :=
  ∃ fails tail, atts = fails ++ tail ∧ (∀ x ∈ fails, isAnswered x = false) ∧ tail.length ≤ 1
    ∧ fails.length + tail.length ≤ bound

def LogOK (log : List Inv) : Prop := ∀ inv ∈ log, InvOK 3 inv.atts

theorem prim_log (cfg : Cfg) (p : Prim) (c : Cmd) (a : Ans) (w : World) (hk : LoopKind p.kind) (hb3 : p.budget ≤ 3)
    (hw : LogOK w.log) : LogOK (prim cfg p c a w).2.log := by
  have key : ∀ k, LogOK (loop cfg k p.idm c a p.budget none [] w).2.log := by
    intro k
    obtain ⟨f, t, h1, h2, h3, h4⟩ := (loop_tries cfg k p.idm c a p.budget none [] w).log
    rw [h1]
    intro inv hm
    rcases List.mem_append.mp hm with h | h
    · exact hw inv h
    · simp at h; subst h
      exact ⟨f, t, by simp, h2, h3, by omega⟩
  unfold prim
  rcases hk with h | h <;> rw [h] <;> simp only []
  · split
    · exact hw
    · split
      · exact hw
      · exact key _
  · exact key _

theorem run_log (cfg : Cfg) (S : PrimKind → Prop) (hS : ∀ k, S k → LoopKind k)
    (P : Prog) (cur : Int) (w : World) (hc : Clean S P) (hw : LogOK w.log) : LogOK (run cfg P cur w).2.log :=
  (run_gen (cfg := cfg) (S := S) (I := fun w => LogOK w.log) (E := fun _ => True) (fun _ => trivial)
    (fun p c a ct w hk hside hi => ⟨prim_log cfg p c a w (hS _ hk) (hside.1 (hS _ hk)).2 hi, fun _ _ _ => trivial⟩)
    (fun _ w hi => by rw [reactivate_log]; exact hi) P cur w hc hw).1

/-! ## Type 3 `format` is clean -/

theorem side_t3p (b : Bool) (ct : Catch) : PrimSide (t3p b) ct :=
  ⟨fun _ => ⟨(by show 0 < 3; decide), (by show 3 ≤ 3; decide)⟩, fun h => by cases h⟩

section t3format
variable (S : PrimKind → Prop) (h3 : S .t3) (cfg : Cfg) (t : T3Tag)
include h3

theorem t3Wipe_clean : ∀ n, Clean S (t3Wipe cfg t n) := by
  intro n
  induction n with
  | zero => exact trivial
  | succ n ih => unfold t3Wipe; exact ⟨h3, side_t3p _ _, ih, trivial⟩

theorem t3Nbw_clean (wipe : Bool) (nmaxb : Nat) : ∀ fuel nbw, Clean S (t3Nbw cfg t wipe nmaxb fuel nbw) := by
  intro fuel
  induction fuel with
  | zero => intro _; exact trivial
  | succ fuel ih =>
    intro nbw
    have hattr : Clean S (.call (t3p true) (wrTok 0 1) .ok .nothing
        (fun _ => if wipe then t3Wipe cfg t nmaxb else .ret .true_) (fun _ => .reraise)) := by
      refine ⟨h3, side_t3p _ _, ?_, trivial⟩
      show Clean S (if wipe = true then _ else _)
      split
      · exact t3Wipe_clean S h3 cfg t nmaxb
      · exact trivial
    unfold t3Nbw
    simp only []
    split
    · exact hattr
    · exact ⟨h3, side_t3p _ _, ih _, hattr⟩

theorem t3Nbr_clean (wipe : Bool) (nmaxb : Nat) : ∀ fuel nbr, Clean S (t3Nbr cfg t wipe nmaxb fuel nbr) := by
  intro fuel
  induction fuel with
  | zero => intro _; exact trivial
  | succ fuel ih =>
    intro nbr
    have hafter : Clean S (.call (t3p true) (rdTok 0 1) .ok .nothing
        (fun _ => t3Nbw cfg t wipe nmaxb 14 1) (fun _ => .reraise)) :=
      ⟨h3, side_t3p _ _, t3Nbw_clean S h3 cfg t wipe nmaxb 14 1, trivial⟩
    unfold t3Nbr
    simp only []
    split
    · exact hafter
    · exact ⟨h3, side_t3p _ _, ih _, hafter⟩

theorem t3Search_clean (wipe : Bool) : ∀ fuel lo hi, Clean S (t3Search cfg t wipe fuel lo hi) := by
  intro fuel
  induction fuel with
  | zero => intro lo _; unfold t3Search; exact t3Nbr_clean S h3 cfg t wipe lo 16 1
  | succ fuel ih =>
    intro lo hi
    unfold t3Search
    split
    · exact ⟨h3, side_t3p _ _, ih _ _, ih _ _⟩
    · exact t3Nbr_clean S h3 cfg t wipe lo 16 1

theorem t3Format_clean (wipe : Bool) : Clean S (t3Format cfg t wipe) :=
  ⟨h3, side_t3p _ _, t3Search_clean S h3 cfg t wipe 17 0 0x10000, trivial⟩
end t3format

/-! ## programs that do not re-activate the tag by themselves -/

/-- a `clf.sense` written in the program itself is reached only after a command has succeeded, or `b` holds
(`b`: the operation may re-activate the tag whatever its commands did).  Only the error continuation of a
call is followed: the statement this serves (`run_dead`) is about a state in which no command succeeds. -/
def Quiet (b : Prop) : Prog → Prop
  | .ret _ => True
  | .crash _ => True
  | .reraise => True
  | .caseErr z n p => Quiet b (z ()) ∧ Quiet b (n ()) ∧ Quiet b (p ())
  | .call _ _ _ _ _ err => Quiet b (err ())
  | .sense _ _ => b

theorem chain_quiet {b : Prop} (cfg : Cfg) (p : Prim) (ct : Catch) (pol : Pol) (hpol : pol.All (Quiet b)) :
    ∀ (ss : List Step) (fin : Unit → Prog), Quiet b (fin ()) → Quiet b (chain cfg p ct pol ss fin) := by
  intro ss
  induction ss with
  | nil => intro fin h; simpa [chain] using h
  | cons s ss ih =>
    intro fin h
    have hn := ih fin h
    unfold chain
    simp only []
    split
    · refine ⟨hn, ?_, ?_⟩ <;> (split; exact polProg_all pol _ hpol hn trivial fun _ => trivial; trivial)
    · exact polProg_all pol _ hpol hn trivial fun _ => trivial

/-! ## the operation table -/

def Tidy (S : PrimKind → Prop) (b : Prop) (P : Prog) : Prop := Clean S P ∧ Quiet b P

theorem tidy_ret (S : PrimKind → Prop) (b : Prop) (v : Val) : Tidy S b (.ret v) := ⟨trivial, trivial⟩

theorem tidy_sense {S : PrimKind → Prop} {b : Prop} {f g : Unit → Prog} (h12 : S .t12) (hb : b)
    (hf : Tidy S b (f ())) (hg : Tidy S b (g ())) : Tidy S b (.sense f g) := ⟨⟨h12, hf.1, hg.1⟩, hb⟩

theorem tidy_chain {S : PrimKind → Prop} {b : Prop} {p : Prim} {ct : Catch} {pol : Pol} (hp : S p.kind)
    (hs : sideOk p ct pol = true) (hpol : pol.All (Tidy S b)) {ss : List Step} {fin : Unit → Prog}
    (h : Tidy S b (fin ())) : Tidy S b (chain Cfg.repaired p ct pol ss fin) :=
  ⟨chain_clean _ p ct pol hp hs (hpol.imp fun _ h => h.1) ss fin h.1,
    chain_quiet _ p ct pol (hpol.imp fun _ h => h.2) ss fin h.2⟩

/-- `tlvPol` of `prog` -/
theorem polTidy_tlv (S : PrimKind → Prop) (b : Prop) (tlv : Bool) (r : Val) :
    Pol.All (Tidy S b) (if tlv = true then .ret r else .raise) := by
  cases tlv <;> trivial

/-- the primitive an operation is made of: `transceive` (Type 1/2), `send_cmd_recv_rsp` (Type 3), the
ISO-DEP exchange or, for the Type 4 presence check, the bare exchange -/
def kindOf (fam op : String) : PrimKind :=
  if fam = "t4" then (if op = "present" then .raw else .t4)
  else if fam ∈ ["t3", "t3p", "t3std", "lite", "lites"] then .t3 else .t12

/-- `protect` with a password on Ultralight C and NTAG21x re-activates the tag itself after its writes (the `b`
of `Quiet`); every other operation reaches `clf.sense` only inside the primitive, through an answered READ -/
theorem prog_tidy {tlv : Bool} {fam op : String} {l : Phases} {v : Val} {nret : Nat} {P : Prog}
    (h : prog Cfg.repaired tlv fam op l v nret = some P) {S : PrimKind → Prop} (hS : S (kindOf fam op)) :
    Tidy S (op = "protectpw") P := by
  unfold prog at h
  dsimp only at h
  split at h
  rotate_right
  · cases h
  all_goals
    cases h
    -- `S p.kind` of `tidy_chain` is `hS`: `kindOf` of the arm's two literals evaluates to the kind of the arm's
    -- primitive; `sideOk .. = true` and, in the two arms with `Prog.sense`, `op = "protectpw"` hold by `rfl`
    apply_rules [tidy_chain, tidy_sense, tidy_ret, polTidy_tlv]

theorem prog_clean_of {tlv : Bool} {fam op : String} {l : Phases} {v : Val} {nret : Nat} {P : Prog}
    (h : prog Cfg.repaired tlv fam op l v nret = some P) {S : PrimKind → Prop} (hS : S (kindOf fam op)) :
    Clean S P := (prog_tidy h hS).1

theorem kindOf_loop {fam : String} (op : String) (h4 : fam ≠ "t4") : LoopKind (kindOf fam op) := by
  unfold kindOf
  rw [if_neg h4]
  split
  · exact Or.inr rfl
  · exact Or.inl rfl

theorem kindOf_t3 {fam : String} (op : String)
    (hf : fam = "t3" ∨ fam = "t3p" ∨ fam = "t3std" ∨ fam = "lite" ∨ fam = "lites") : kindOf fam op = .t3 := by
  rcases hf with rfl | rfl | rfl | rfl | rfl <;> rfl

theorem kindOf_t12 {fam : String} (op : String)
    (hf : fam = "t1" ∨ fam = "t2" ∨ fam = "t2nxp" ∨ fam = "t2ulc" ∨ fam = "t2ntag" ∨ fam = "t2i2c") :
    kindOf fam op = .t12 := by
  rcases hf with rfl | rfl | rfl | rfl | rfl | rfl <;> rfl

theorem kindOf_t4 {op : String} (hp : op ≠ "present") : kindOf "t4" op = .t4 := if_neg hp

theorem kindOf_robust {fam : String} (op : String)
    (hf : fam = "t3" ∨ fam = "t3p" ∨ fam = "t3std" ∨ fam = "lite" ∨ fam = "lites" ∨ fam = "t4") :
    Robust (kindOf fam op) := by
  have h : (fam = "t3" ∨ fam = "t3p" ∨ fam = "t3std" ∨ fam = "lite" ∨ fam = "lites") ∨ fam = "t4" := by
    simpa only [or_assoc] using hf
  rcases h with h3 | rfl
  · exact Or.inl (kindOf_t3 op h3)
  · show Robust (if op = "present" then .raw else .t4)
    split
    · exact Or.inr (Or.inr rfl)
    · exact Or.inr (Or.inl rfl)

/-! ## what the tag object remembers: nothing is sent after an unrecoverable error -/

/-- ISO-DEP: once a reason code is stored every command is refused with it, no frame is sent -/
theorem prim_t4_sticky (cfg : Cfg) (p : Prim) (c : Cmd) (a : Ans) (w : World) (e : Int)
    (hk : p.kind = .t4) (hs : w.sticky = some e) : prim cfg p c a w = (.error (.tagCmd e), w) := by
  unfold prim; rw [hk]; simp only [hs]

/-- Type 2: once the re-activation has failed every command ends with TIMEOUT_ERROR, nothing is sent -/
theorem prim_t12_gone (cfg : Cfg) (p : Prim) (c : Cmd) (a : Ans) (w : World)
    (hk : p.kind = .t12) (hg : w.gone = true) : prim cfg p c a w = (.error (.tagCmd 0), w) := by
  unfold prim; rw [hk]; simp only [hg, if_true]

/-- **silence**: when every primitive call of the kinds `S` fails in state `w` with a TagCommandError
and without changing `w`, a program over `S` that is quiet without exception (`¬b`) leaves `w` as it is - no
exchange, no log entry, nothing executed by the tag - and ends with a value or a TagCommandError.  The run only
ever takes error continuations, which is all `Quiet` speaks of. -/
theorem run_dead (cfg : Cfg) (S : PrimKind → Prop) (w : World) {b : Prop} (hb : ¬b)
    (hd : ∀ (p : Prim) (c : Cmd) (a : Ans), S p.kind → ∃ m, prim cfg p c a w = (.error (.tagCmd m), w)) :
    ∀ (P : Prog) (cur : Int), Clean S P → Quiet b P → (run cfg P cur w).2 = w ∧ Documented (run cfg P cur w).1 := by
  intro P
  induction P with
  | ret v => intro cur _ _; exact ⟨rfl, trivial⟩
  | crash e => intro cur hc _; exact ⟨rfl, hc⟩
  | reraise => intro cur _ _; exact ⟨rfl, _, rfl⟩
  | caseErr z n p ihz ihn ihp =>
    intro cur hc hq
    unfold run
    split
    · exact ihz () cur hc.1 hq.1
    · split
      · exact ihn () cur hc.2.1 hq.2.1
      · exact ihp () cur hc.2.2 hq.2.2
  | call p c a ct ok err ihok iherr =>
    intro cur hc hq
    obtain ⟨m, he⟩ := hd p c a hc.1
    unfold run
    rw [he]
    simp only []
    split
    · rename_i n _; exact iherr () n hc.2.2.2 hq
    · exact ⟨rfl, m, rfl⟩
  | sense f g ihf ihg => intro cur _ hq; exact absurd hq hb

/-- **ISO-DEP: no further frame after an unrecoverable error** (`Clean` asks `S .t12` of every `clf.sense`,
so a program over the ISO-DEP exchange alone has none) -/
theorem run_t4_sticky (cfg : Cfg) (P : Prog) (cur : Int) (w : World) (e : Int)
    (hc : Clean (fun k => k = .t4) P) (hs : w.sticky = some e) :
    (run cfg P cur w).2 = w ∧ Documented (run cfg P cur w).1 := by
  have := run_gen (cfg := cfg) (I := (· = w)) (E := fun e => ∃ m, e = .tagCmd m) (fun m => ⟨m, rfl⟩)
    (fun p c a ct w' hk _ hi => by
      subst hi; rw [prim_t4_sticky cfg p c a w' e hk hs]
      exact ⟨rfl, fun e' he' _ => by cases he'; exact ⟨e, rfl⟩⟩)
    (fun h => by cases h) P cur w hc rfl
  exact ⟨this.1, documented_of this.2⟩

/-- **Type 2: no exchange once the target is gone** -/
theorem run_t12_gone (cfg : Cfg) (P : Prog) (cur : Int) (w : World)
    {b : Prop} (hb : ¬b) (hc : Clean (fun k => k = .t12) P) (hq : Quiet b P) (hg : w.gone = true) :
    (run cfg P cur w).2 = w ∧ Documented (run cfg P cur w).1 :=
  run_dead cfg _ w hb (fun p c a hk => ⟨_, prim_t12_gone cfg p c a w hk hg⟩) P cur hc hq

/-! ## sessions -/

/-- what every run of a program of the class `C` preserves (`I`) and guarantees (`D`) holds of every
operation of a session over `C` -/
theorem session_gen {cfg : Cfg} {C : Prog → Prop} {I : World → Prop} {D : Outcome → Prop} (hD : ∀ v, D (.ok v))
    (hrun : ∀ P w, C P → I w → D (run cfg P 0 w).1 ∧ I (run cfg P 0 w).2) {read : Prog} (hr : C read) :
    ∀ (ops : List SOp) (cached : Bool) (w : World), (∀ o ∈ ops, C o.fresh ∧ C o.cached) → I w →
      (∀ out ∈ (session cfg read ops cached w).1, D out) ∧ I (session cfg read ops cached w).2 := by
  have step : ∀ (o : SOp) (cached : Bool) (w : World), C o.fresh → C o.cached → I w →
      D (stepOp cfg read o cached w).1 ∧ I (stepOp cfg read o cached w).2.2 := by
    intro o cached w hf hc hi
    unfold stepOp
    split
    · have h1 := hrun read w hr hi
      generalize run cfg read 0 w = r at h1
      obtain ⟨out, w1⟩ := r
      split
      · rename_i heq; cases heq; exact hrun o.cached w1 hc h1.2
      · rename_i heq; cases heq; exact ⟨hD _, h1.2⟩
      · rename_i heq; cases heq; exact h1
    · exact hrun _ w (by split; exact hc; exact hf) hi
  intro ops
  induction ops with
  | nil => intro cached w _ hi; exact ⟨fun out hm => by simp [session] at hm, hi⟩
  | cons o os ih =>
    intro cached w hops hi
    have ho := hops o List.mem_cons_self
    have h1 := step o cached w ho.1 ho.2 hi
    have h2 := ih (stepOp cfg read o cached w).2.1 _ (fun o' hm' => hops o' (List.mem_cons_of_mem _ hm')) h1.2
    unfold session
    refine ⟨fun out hm => ?_, h2.2⟩
    simp only [List.mem_cons] at hm
    rcases hm with hm | hm
    · rw [hm]; exact h1.1
    · exact h2.1 out hm

/-- **every operation of a session ends with a value or a TagCommandError** -/
theorem session_documented (S : PrimKind → Prop) (robust : Prop) (hR : robust → ∀ k, S k → Robust k)
    (read : Prog) (hr : Clean S read) (ops : List SOp) (cached : Bool) (w : World)
    (hops : ∀ o ∈ ops, Clean S o.fresh ∧ Clean S o.cached) (hw : robust ∨ Benign w) (hs : Sound w) :
    ∀ out ∈ (session Cfg.repaired read ops cached w).1, Documented out :=
  (session_gen (C := Clean S) (I := fun w => (robust ∨ Benign w) ∧ Sound w) (D := Documented) (fun _ => trivial)
    (fun P w hc hi => have h := run_inv S robust hR P 0 w hc hi.1 hi.2; ⟨h.1, h.2⟩) hr ops cached w hops ⟨hw, hs⟩).1

end NfcVerif.Retry
