import NfcVerif.Model.CtlC03
import NfcVerif.Lemmas.TlvSync
/-!
Control TLVs (`Model/CtlC03`).  The reader's range functions compute the range the specification declares (`ctlRange_eq`,
`range_mem`).  A TLV area that is a chain of control / NULL TLVs in front of the NDEF TLV (`chainParse`, taken apart by
`chainParse_succ`) is walked by `_read_ndef_data` to the layout `chainLayout`, well-formed when no declared range falls on the
chain itself (`chain_walk`, `chain_wf`, `chain_layout`); the bytes the TLVs declare are then outside `Area`
(`chain_not_area`).  Then the operations that are not NDEF writes, each with the bytes it can change: the vendor `_format` of
the NTAG classes (`formatNxp_present`, `formatNxp_blank`), `Type1Tag._protect` (`neCmds_mem`), `_protect_with_lockbits`
(`protectNxp_cmds`, `nxpApply_changed`) and `Type2Tag._protect` (`protectT2_spec`), whose own walk `protWalk` finds on a chain
the lock bytes the reader reserved (`chain_protWalk`, `protectT2_area`).
-/
namespace NfcVerif.Tlv
open NfcVerif

/-- `get_lock_byte_range` / `get_rsvd_byte_range` + `slice.indices(limit)` compute the specified range -/
theorem ctlRange_eq (lock : Bool) (limit d0 d1 d2 : Nat) (rest : Bytes) :
    ctlRange lock limit (d0 :: d1 :: d2 :: rest) = .ok (Ctl.range limit (lock, d0, d1, d2)) := by
  unfold ctlRange Ctl.range specFirst specCount specBits
  simp only [idxN_cons_zero, idxN_cons_succ, Py.bind_ok]
  by_cases h : d1 = 0
  · subst h; simp
  · have : d1 > 0 := by omega
    simp [h, this]

theorem range_mem (limit : Nat) (t : Ctl) (a : Nat) :
    inSkip [Ctl.range limit t] a = true ↔
      (specFirst t.2.1 t.2.2.2 ≤ a ∧ a < specFirst t.2.1 t.2.2.2 + specCount t.1 t.2.2.1 ∧ a < limit) := by
  rw [inSkip_single]; unfold Ctl.range; simp only; omega

theorem chainParse_succ {m : Bytes} {fuel o : Nat} {cs : List Ctl} {off : Nat}
    (h : chainParse m (fuel + 1) o = some (cs, off)) :
    (m[o]? = some 3 ∧ cs = [] ∧ off = o) ∨ (m[o]? = some 0 ∧ chainParse m fuel (o + 1) = some (cs, off)) ∨
    ∃ t d0 d1 d2 cs', (t = 1 ∨ t = 2) ∧ m[o]? = some t ∧ m[o + 1]? = some 3 ∧ m[o + 2]? = some d0 ∧
      m[o + 3]? = some d1 ∧ m[o + 4]? = some d2 ∧ chainParse m fuel (o + 5) = some (cs', off) ∧
      cs = (decide (t = 1), d0, d1, d2) :: cs' := by
  unfold chainParse at h
  cases ht : m[o]? with
  | none => rw [ht] at h; cases h
  | some t =>
    rw [ht] at h; dsimp only at h
    by_cases h3 : t = 3
    · rw [if_pos h3] at h; cases h; exact Or.inl ⟨by rw [h3], rfl, rfl⟩
    rw [if_neg h3] at h
    by_cases h0 : t = 0
    · rw [if_pos h0] at h; exact Or.inr (Or.inl ⟨by rw [h0], h⟩)
    rw [if_neg h0] at h
    by_cases h12 : t = 1 ∨ t = 2
    · rw [if_pos h12] at h
      split at h
      · rename_i l d0 d1 d2 hl hd0 hd1 hd2
        by_cases hl3 : l = 3
        · rw [if_pos hl3] at h
          cases hrec : chainParse m fuel (o + 5) with
          | none => rw [hrec] at h; cases h
          | some r =>
            obtain ⟨cs', off'⟩ := r
            rw [hrec] at h; cases h
            exact Or.inr (Or.inr ⟨t, d0, d1, d2, cs', h12, rfl, by rw [hl, hl3], hd0, hd1, hd2, rfl, rfl⟩)
        · rw [if_neg hl3] at h; cases h
      · cases h
    · rw [if_neg h12] at h; cases h

theorem chain_le (m : Bytes) : ∀ (fuel o : Nat) (cs : List Ctl) (off : Nat),
    chainParse m fuel o = some (cs, off) → o ≤ off := by
  intro fuel
  induction fuel with
  | zero => intro o cs off h; cases h
  | succ fuel ih =>
    intro o cs off h
    rcases chainParse_succ h with ⟨_, _, rfl⟩ | ⟨_, hrec⟩ | ⟨t, d0, d1, d2, cs', _, _, _, _, _, _, hrec, _⟩
    · exact Nat.le_refl _
    · have := ih _ _ _ hrec; omega
    · have := ih _ _ _ hrec; omega

theorem rdB_of (c : Cfg) (B : Nat) (m : Bytes) (a v : Nat) (hB : a < B) (h : m[a]? = some v) :
    rdB c B m a = .ok v := by
  unfold rdB; rw [if_pos hB]; exact (rd_ok_iff c m a v).2 h

/-- the walk of `_read_ndef_data` over a chain of control / NULL TLVs that no declared range touches:
it arrives at the NDEF TLV with exactly the specified ranges in the skip set, reading only bytes in
front of the NDEF TLV's length byte -/
theorem chain_reads (c : Cfg) (m : Bytes) (e B : Nat) :
    ∀ (fuel o : Nat) (skip : Skip) (cs : List Ctl) (off : Nat),
      chainParse m fuel o = some (cs, off) → off < e → off < B →
      (∀ a, o ≤ a → a < off + 2 → inSkip (skip ++ cs.map (Ctl.range c.limit)) a = false) →
      ∀ fuel', e - o < fuel' →
        walkPre c (rdB c B m) e fuel' o skip = .ok (.found off (skip ++ cs.map (Ctl.range c.limit))) := by
  intro fuel
  induction fuel with
  | zero => intro o skip cs off h; cases h
  | succ fuel ih =>
    intro o skip cs off h he hB hfree fuel' hfuel
    have hle := chain_le m _ _ _ _ h
    cases fuel' with
    | zero => omega
    | succ fuel' =>
    have hso : inSkip skip o = false := (inSkip_append_false _ _ _ (hfree o (Nat.le_refl _) (by omega))).1
    have hoo : (if c.t1 = true then o else nextFree skip o) = o := by
      split
      · rfl
      · exact nextFree_eq_self _ _ hso
    simp only [walkPre]
    rw [if_neg (by omega), hso, Bool.and_false, if_neg (by simp), hoo]
    rcases chainParse_succ h with ⟨ht, rfl, rfl⟩ | ⟨ht, hrec⟩
      | ⟨t, d0, d1, d2, cs', h12, ht, hl, hd0, hd1, hd2, hrec, rfl⟩
    · rw [rdB_of c B m _ 3 (by omega) ht]
      simp
    · have hle' := chain_le m _ _ _ _ hrec
      rw [rdB_of c B m o 0 (by omega) ht]
      simp only [if_true]
      exact ih _ _ _ _ hrec he hB (fun a ha1 ha2 => hfree a (by omega) ha2) fuel' (by omega)
    · have hle' := chain_le m _ _ _ _ hrec
      rw [rdB_of c B m o t (by omega) ht]
      simp only
      rw [if_neg (by omega), if_neg (by omega), if_neg (by omega)]
      have hlen : readLen (rdB c B m) (o + 1) = .ok (3, o + 2) := by
        unfold readLen; rw [rdB_of c B m _ _ (by omega) hl, Py.bind_ok, if_neg (by decide)]
      have hs : ∀ a, o ≤ a → a < off + 2 → inSkip skip a = false :=
        fun a h1 h2 => (inSkip_append_false _ _ _ (hfree a h1 h2)).1
      have hfetch : fetch (rdB c B m) skip 3 (o + 2) = .ok [d0, d1, d2] := by
        simp only [fetch]
        rw [nextFree_eq_self _ _ (hs (o + 2) (by omega) (by omega)),
          rdB_of c B m _ _ (by omega) hd0, Py.bind_ok,
          nextFree_eq_self _ _ (hs (o + 2 + 1) (by omega) (by omega)),
          rdB_of c B m (o + 2 + 1) d1 (by omega) hd1, Py.bind_ok,
          nextFree_eq_self _ _ (hs (o + 2 + 1 + 1) (by omega) (by omega)),
          rdB_of c B m (o + 2 + 1 + 1) d2 (by omega) hd2, Py.bind_ok]
        rfl
      rw [hlen, Py.bind_ok, hfetch, Py.bind_ok]
      simp only
      rw [if_pos h12, if_pos (Or.inr trivial), ctlRange_eq, Py.bind_ok]
      have hnext : o + 3 + 1 + (if 3 < 255 then 1 else 3) = o + 5 := by simp
      rw [hnext]
      have := ih (o + 5) (skip ++ [Ctl.range c.limit (decide (t = 1), d0, d1, d2)]) cs' off hrec he hB
        (fun a ha1 ha2 => by
          have := hfree a (by omega) ha2
          simpa [List.append_assoc] using this)
        fuel' (by omega)
      rw [this]
      simp [List.append_assoc]

theorem inSkip_of_mem (s : Skip) (r : Nat × Nat) (a : Nat) (hr : r ∈ s) (ha : inSkip [r] a = true) :
    inSkip s a = true := by
  rw [inSkip_single] at ha
  unfold inSkip
  rw [List.any_eq_true]
  exact ⟨r, hr, by simp [ha.1, ha.2]⟩

theorem chainOk_spec (c : Cfg) (m : Bytes) (e : Nat) (cs : List Ctl) (off : Nat)
    (hchain : chainParse m (e + 1) c.dataStart = some (cs, off)) (hok : chainOk c m e = true) :
    off + 1 < e ∧ ∀ a, c.dataStart ≤ a → a < off + 2 →
      inSkip (c.initSkip e ++ cs.map (Ctl.range c.limit)) a = false := by
  unfold chainOk at hok
  rw [hchain] at hok
  simp only [Bool.and_eq_true, decide_eq_true_eq, List.all_eq_true, List.mem_range, Bool.not_eq_true'] at hok
  refine ⟨hok.1, fun a h1 h2 => ?_⟩
  have := hok.2 (a - c.dataStart) (by omega)
  rwa [show c.dataStart + (a - c.dataStart) = a by omega] at this

/-- `chain_reads` from the start of the data area, in the form `WF` asks for -/
theorem chain_walk (c : Cfg) (m : Bytes) (e : Nat) (cs : List Ctl) (off : Nat)
    (hchain : chainParse m (e + 1) c.dataStart = some (cs, off)) (hok : chainOk c m e = true) :
    off + 1 < e ∧ c.dataStart ≤ off ∧ inSkip (c.initSkip e ++ cs.map (Ctl.range c.limit)) (off + 1) = false ∧
    walkPre c (rdB c (off + 1) m) e (e + 1) c.dataStart (c.initSkip e)
      = .ok (.found off (c.initSkip e ++ cs.map (Ctl.range c.limit))) := by
  obtain ⟨hoff, hfree⟩ := chainOk_spec c m _ cs off hchain hok
  have hle := chain_le m _ _ _ _ hchain
  exact ⟨hoff, hle, hfree (off + 1) (by omega) (by omega),
    chain_reads c m e (off + 1) _ _ (c.initSkip e) cs off hchain (by omega) (by omega) hfree (e + 1) (by omega)⟩

/-- a tag image whose TLV area is a chain of control / NULL TLVs that no declared range touches is
well-formed, and the layout the reader computes has exactly the specified ranges in its skip set -/
theorem chain_wf (c : Cfg) (m : Bytes) (L : Layout) (cs : List Ctl) (off : Nat)
    (hc : c.ccBase + 4 ≤ c.dataStart ∧ 0 < c.unit)
    (hread : readNdef c m = .ok (some L)) (hlen : L.areaEnd ≤ m.length)
    (hchain : chainParse m (L.areaEnd + 1) c.dataStart = some (cs, off))
    (hok : chainOk c m L.areaEnd = true) :
    L.off = off ∧ L.skip = c.initSkip L.areaEnd ++ cs.map (Ctl.range c.limit) ∧ WF c m L := by
  obtain ⟨_, hle, hfree, hw⟩ := chain_walk c m _ cs off hchain hok
  have hw' := (walkPre_found c (rdB_le c (off + 1) m) hw).1
  rw [((readNdef_some c m L).1 hread).pre] at hw'
  injection hw' with hw'; injection hw' with h1 h2
  exact ⟨h1, h2, hc.1, hc.2, by omega, hlen, by rw [h1, h2]; exact hw, by rw [h1, h2]; exact hfree⟩

/-- the layout `_read_ndef_data` computes on an image with capability container `E1 v sz acc` whose TLV area is the
chain `cs` in front of an NDEF TLV at `off` with message `nd` -/
def chainLayout (c : Cfg) (sz acc : Nat) (cs : List Ctl) (off : Nat) (nd : Bytes) : Layout :=
  { off := off, skip := c.initSkip (c.areaEnd sz) ++ cs.map (Ctl.range c.limit), areaEnd := c.areaEnd sz,
    cap := capacity (c.initSkip (c.areaEnd sz) ++ cs.map (Ctl.range c.limit)) off (c.areaEnd sz),
    readable := acc / 16 = 0, writeable := acc % 16 = 0, ndef := nd }

theorem chain_layout (c : Cfg) (m : Bytes) (v sz acc : Nat) (cs : List Ctl) (off : Nat) (lv : Nat × Nat) (nd : Bytes)
    (hc : c.ccBase + 4 ≤ c.dataStart ∧ 0 < c.unit)
    (h0 : m[c.ccBase]? = some 0xE1) (h1 : m[c.ccBase + 1]? = some v) (hv : v / 16 = 1)
    (h2 : m[c.ccBase + 2]? = some sz) (h3 : m[c.ccBase + 3]? = some acc) (hlen : c.areaEnd sz ≤ m.length)
    (hchain : chainParse m (c.areaEnd sz + 1) c.dataStart = some (cs, off)) (hok : chainOk c m (c.areaEnd sz) = true)
    (hlv : readLen (rd c m) (off + 1) = .ok lv)
    (hnd : fetch (rd c m) (c.initSkip (c.areaEnd sz) ++ cs.map (Ctl.range c.limit)) lv.1 lv.2 = .ok nd) :
    ReadsAs c m (chainLayout c sz acc cs off nd) ∧ WF c m (chainLayout c sz acc cs off nd) := by
  obtain ⟨_, hle, hfree, hw⟩ := chain_walk c m _ cs off hchain hok
  exact ⟨⟨(rd_ok_iff _ _ _ _).2 h0, ⟨v, (rd_ok_iff _ _ _ _).2 h1, hv⟩, ⟨acc, (rd_ok_iff _ _ _ _).2 h3, rfl, rfl⟩,
      ⟨sz, (rd_ok_iff _ _ _ _).2 h2, rfl⟩, (walkPre_found c (rdB_le c (off + 1) m) hw).1, ⟨lv, hlv, hnd⟩, rfl⟩,
    hc.1, hc.2, hle, hlen, hw, hfree⟩

theorem chainParse_ndef (m : Bytes) (fuel o : Nat) (h : m[o]? = some 3) :
    chainParse m (fuel + 1) o = some ([], o) := by
  simp only [chainParse, h]; simp

theorem chainParse_null (m : Bytes) (fuel o : Nat) (h : m[o]? = some 0) :
    chainParse m (fuel + 1) o = chainParse m fuel (o + 1) := by
  simp [chainParse, h]

theorem chainParse_ctl (m : Bytes) (fuel o t d0 d1 d2 : Nat) (cs : List Ctl) (off : Nat) (h12 : t = 1 ∨ t = 2)
    (ht : m[o]? = some t) (hl : m[o + 1]? = some 3) (h0 : m[o + 2]? = some d0)
    (h1 : m[o + 3]? = some d1) (h2 : m[o + 4]? = some d2) (hrec : chainParse m fuel (o + 5) = some (cs, off)) :
    chainParse m (fuel + 1) o = some ((decide (t = 1), d0, d1, d2) :: cs, off) := by
  simp only [chainParse, ht, hl, h0, h1, h2, hrec]
  rcases h12 with rfl | rfl <;> simp

theorem chainParse_congr {m m' : Bytes} : ∀ (fuel o : Nat) (cs : List Ctl) (off : Nat),
    chainParse m fuel o = some (cs, off) → (∀ x, o ≤ x → x ≤ off → m'[x]? = m[x]?) →
    chainParse m' fuel o = some (cs, off) := by
  intro fuel
  induction fuel with
  | zero => intro o cs off h; cases h
  | succ fuel ih =>
    intro o cs off h hm
    have hle := chain_le m _ _ _ _ h
    rcases chainParse_succ h with ⟨ht, rfl, rfl⟩ | ⟨ht, hrec⟩ | ⟨t, d0, d1, d2, cs', h12, ht, hl, hd0, hd1, hd2, hrec, rfl⟩
    · exact chainParse_ndef m' fuel _ (by rw [hm _ hle hle]; exact ht)
    · have hle' := chain_le m _ _ _ _ hrec
      rw [chainParse_null m' fuel o (by rw [hm o (Nat.le_refl _) hle]; exact ht)]
      exact ih _ _ _ hrec fun x h1 h2 => hm x (by omega) h2
    · have hle' := chain_le m _ _ _ _ hrec
      have hx : ∀ i, i < 5 → m'[o + i]? = m[o + i]? := fun i hi => hm _ (by omega) (by omega)
      exact chainParse_ctl m' fuel o t d0 d1 d2 cs' off h12 (by rw [← ht]; exact hx 0 (by omega))
        (by rw [hx 1 (by omega)]; exact hl) (by rw [hx 2 (by omega)]; exact hd0) (by rw [hx 3 (by omega)]; exact hd1)
        (by rw [hx 4 (by omega)]; exact hd2) (ih _ _ _ hrec fun x h1 h2 => hm x (by omega) h2)

/-- every byte a control TLV of the chain declares (below the reader's clipping limit) is in the skip
set of the layout, hence outside the NDEF area -/
theorem chain_not_area (c : Cfg) (L : Layout) (cs : List Ctl)
    (hskip : L.skip = c.initSkip L.areaEnd ++ cs.map (Ctl.range c.limit)) (t : Ctl) (ht : t ∈ cs) (x : Nat)
    (h1 : specFirst t.2.1 t.2.2.2 ≤ x) (h2 : x < specFirst t.2.1 t.2.2.2 + specCount t.1 t.2.2.1)
    (h3 : x < c.limit) : ¬ Area L x := by
  intro ⟨_, _, hs⟩
  have : inSkip L.skip x = true := by
    rw [hskip]
    exact inSkip_of_mem _ (Ctl.range c.limit t) x
      (List.mem_append_right _ (List.mem_map_of_mem ht)) ((range_mem c.limit t x).2 ⟨h1, h2, h3⟩)
  rw [this] at hs; cases hs

theorem writePage_inv (m m' : Bytes) (p : Nat) (d : Bytes) (h : writePage m p d = .ok m') :
    p * 4 < m.length ∧ m' = writeAt m (p * 4) d := by
  unfold writePage at h; split at h
  · rename_i hl; cases h; exact ⟨hl, rfl⟩
  · cases h

/-- with NDEF management data present the vendor `_format` is `Type2Tag._format` -/
theorem formatNxp_present (f m : Bytes) (wipe : Option Nat) (L : Layout)
    (h : readNdefT2 m = .ok (some L)) : formatNxp f m wipe = formatT2Out m wipe := by
  unfold formatNxp; rw [h]

theorem formatT2Out_ok (m : Bytes) (wipe : Option Nat) (L : Layout) (m' : Bytes)
    (hr : readNdefT2 m = .ok (some L)) (hw : L.writeable = true) (hf : formatT2 m L wipe = .ok m') :
    formatT2Out m wipe = ⟨diffUnits 4 m m', .ok true⟩ := by
  unfold formatT2Out; rw [hr]; simp only [hw]; rw [hf]; simp

/-- without NDEF: two WRITE commands for pages 4 and 5 (bytes 16..23), then `Type2Tag._format` on
the result -/
theorem formatNxp_blank (f m : Bytes) (wipe : Option Nat) (m4 m5 : Bytes)
    (hn : readNdefT2 m = .ok none)
    (h4 : writePage m 4 (f.take 4) = .ok m4) (h5 : writePage m4 5 ((f.drop 4).take 4) = .ok m5) :
    formatNxp f m wipe = ⟨[(16, f.take 4), (20, (f.drop 4).take 4)] ++ (formatT2Out m5 wipe).cmds, (formatT2Out m5 wipe).res⟩
    ∧ apply m [(16, f.take 4), (20, (f.drop 4).take 4)] = m5 ∧ Chg m m5 fun x => 16 ≤ x ∧ x < 24 := by
  obtain ⟨_, e4⟩ := writePage_inv _ _ _ _ h4
  obtain ⟨_, e5⟩ := writePage_inv _ _ _ _ h5
  refine ⟨by unfold formatNxp; rw [hn]; simp only; rw [h4]; simp only; rw [h5], by subst e4; subst e5; rfl, ?_⟩
  subst e4; subst e5
  have h4l : (f.take 4).length ≤ 4 := by simp; omega
  have h5l : ((f.drop 4).take 4).length ≤ 4 := by simp; omega
  exact ((Chg.writeAt m 16 _).mono fun x hx => by omega).trans ((Chg.writeAt _ 20 _).mono fun x hx => by omega)

theorem neCmds_mem (m : Bytes) (addrs : List (Nat × Nat)) (cmd : Cmd) (h : cmd ∈ (neCmds m addrs).1) :
    ∃ a v b, (a, v) ∈ addrs ∧ m[a]? = some b ∧ cmd = (a, [b ||| v]) := by
  induction addrs with
  | nil => simp [neCmds] at h
  | cons av rest ih =>
    obtain ⟨a, v⟩ := av
    simp only [neCmds] at h
    split at h
    · simp at h
    · rename_i b hb
      simp only [List.mem_cons] at h
      rcases h with h | h
      · exact ⟨a, v, b, List.mem_cons_self, hb, h⟩
      · obtain ⟨a', v', b', hm, hb', e⟩ := ih h
        exact ⟨a', v', b', List.mem_cons_of_mem _ hm, hb', e⟩

theorem keepByte_length (m m' : Bytes) (a : Nat) : (keepByte m m' a).length = m'.length := by
  unfold keepByte; split <;> simp

theorem keepByte_get (m m' : Bytes) (a x : Nat) (hl : m'.length = m.length) :
    (keepByte m m' a)[x]? = if x = a then m[x]? else m'[x]? := by
  unfold keepByte
  split
  · rename_i v hv
    by_cases hx : x = a
    · subst hx
      have hlt : x < m.length := by
        apply Classical.byContradiction; intro hge
        have : m[x]? = none := List.getElem?_eq_none (by omega)
        rw [this] at hv; cases hv
      rw [if_pos rfl, get_set_eq _ _ _ (by omega), hv]
    · rw [if_neg hx, get_set_ne _ _ _ _ (fun e => hx e.symm)]
  · rename_i hn
    by_cases hx : x = a
    · subst hx
      rw [if_pos rfl, hn]
      have hge : m.length ≤ x := by
        apply Classical.byContradiction; intro hlt
        have : m[x]? = some (m[x]'(by omega)) := List.getElem?_eq_getElem (by omega)
        rw [this] at hn; cases hn
      exact List.getElem?_eq_none (by omega)
    · rw [if_neg hx]

theorem nxpStore_length (m : Bytes) (c : Cmd) : (nxpStore m c).length = m.length := by
  unfold nxpStore
  split
  · rw [keepByte_length, keepByte_length, writeAt_length]
  · exact writeAt_length _ _ _

theorem nxpStore_changed (m : Bytes) (c : Cmd) (x : Nat) (h : (nxpStore m c)[x]? ≠ m[x]?) :
    c.1 ≤ x ∧ x < c.1 + c.2.length ∧ ¬ (c.1 = 8 ∧ (x = 8 ∨ x = 9)) := by
  unfold nxpStore at h
  split at h
  · rw [keepByte_get _ _ _ _ (by rw [keepByte_length, writeAt_length])] at h
    split at h
    · exact absurd rfl h
    · rename_i h9
      rw [keepByte_get _ _ _ _ (writeAt_length _ _ _)] at h
      split at h
      · exact absurd rfl h
      · rename_i h8
        obtain ⟨p, q⟩ := (Chg.writeAt _ _ _).of_ne h
        exact ⟨p, q, fun hh => by omega⟩
  · rename_i hne
    obtain ⟨p, q⟩ := (Chg.writeAt _ _ _).of_ne h
    exact ⟨p, q, fun hh => hne hh.1⟩

theorem nxpApply_changed (cmds : List Cmd) (m : Bytes) (x : Nat) (h : (nxpApply m cmds)[x]? ≠ m[x]?) :
    ∃ c ∈ cmds, c.1 ≤ x ∧ x < c.1 + c.2.length ∧ ¬ (c.1 = 8 ∧ (x = 8 ∨ x = 9)) := by
  induction cmds generalizing m with
  | nil => exact absurd rfl h
  | cons c cs ih =>
    simp only [nxpApply, List.foldl_cons] at h
    by_cases e : (List.foldl nxpStore (nxpStore m c) cs)[x]? = (nxpStore m c)[x]?
    · rw [e] at h
      exact ⟨c, List.mem_cons_self, nxpStore_changed m c x h⟩
    · obtain ⟨c', hc', hh⟩ := ih (nxpStore m c) e
      exact ⟨c', List.mem_cons_of_mem _ hc', hh⟩

theorem sendPages_mem (m : Bytes) (a b : List Cmd) (cmd : Cmd) (h : cmd ∈ (sendPages m (a ++ b)).1) :
    cmd ∈ a ∨ cmd ∈ b :=
  List.mem_append.1 ((List.takeWhile_sublist _).subset h)

/-- the WRITE commands of `_protect_with_lockbits`: page 3 (capability container with access byte
`0F`, the other three bytes as read), page 2 (static lock bytes), the dynamic lock page (40 resp.
`cfgpage - 1`) and the ACCESS page `cfgpage + 1` - nothing else -/
theorem protectNxp_cmds (k : NxpKind) (m : Bytes) :
    ∀ cmd ∈ (protectNxp k m).cmds, cmd.2.length = 4 ∧
      ((cmd.1 = 12 ∧ ∃ c0 c1 c2, m[12]? = some c0 ∧ m[13]? = some c1 ∧ m[14]? = some c2 ∧ cmd.2 = [c0, c1, c2, 0x0F])
       ∨ cmd = (8, [0, 0, 0xFF, 0xFF])
       ∨ match k with
         | .ulc => cmd.1 = 160
         | .n203 => cmd.1 = 160
         | .n21x p => (16 < p ∧ cmd.1 = (p - 1) * 4) ∨ cmd.1 = (p + 1) * 4) := by
  intro cmd hc
  unfold protectNxp at hc
  split at hc
  · rename_i c0 c1 c2 c3 h12 h13 h14 h15
    have hst : ∀ cmd, cmd ∈ ((if c0 = 0xE1 ∧ c1 / 16 = 1 then [((12 : Nat), [c0, c1, c2, 0x0F])] else []) ++ [((8 : Nat), [0, 0, 0xFF, 0xFF])] : List Cmd) →
        cmd.2.length = 4 ∧ ((cmd.1 = 12 ∧ ∃ c0 c1 c2, m[12]? = some c0 ∧ m[13]? = some c1 ∧ m[14]? = some c2 ∧ cmd.2 = [c0, c1, c2, 0x0F])
          ∨ cmd = (8, [0, 0, 0xFF, 0xFF])) := by
      intro cmd h
      simp only [List.mem_append, List.mem_cons, List.mem_nil_iff, or_false] at h
      rcases h with h | h
      · split at h
        · simp only [List.mem_cons, List.mem_nil_iff, or_false] at h; subst h
          exact ⟨rfl, Or.inl ⟨rfl, c0, c1, c2, h12, h13, h14, rfl⟩⟩
        · simp at h
      · subst h; exact ⟨rfl, Or.inr rfl⟩
    dsimp only at hc
    generalize hL : ((if c0 = 0xE1 ∧ c1 / 16 = 1 then [((12 : Nat), [c0, c1, c2, 0x0F])] else []) ++ [((8 : Nat), [0, 0, 0xFF, 0xFF])] : List Cmd) = st at hc hst
    cases k with
    | ulc | n203 =>
      rcases sendPages_mem _ _ _ _ hc with h | h
      · obtain ⟨a, b⟩ := hst cmd h
        exact ⟨a, b.elim Or.inl (fun e => Or.inr (Or.inl e))⟩
      · simp only [List.mem_cons, List.mem_nil_iff, or_false] at h; subst h
        exact ⟨rfl, Or.inr (Or.inr rfl)⟩
    | n21x p =>
      simp only at hc
      have hdl : ∀ cmd, cmd ∈ (if p > 16 then [((p - 1) * 4, [0xFF, 0xFF, 0xFF, 0])] else [] : List Cmd) →
          cmd.2.length = 4 ∧ 16 < p ∧ cmd.1 = (p - 1) * 4 := by
        intro cmd h
        split at h
        · rename_i hp
          simp only [List.mem_cons, List.mem_nil_iff, or_false] at h; subst h
          exact ⟨rfl, hp, rfl⟩
        · simp at h
      generalize hD : (if p > 16 then [((p - 1) * 4, [0xFF, 0xFF, 0xFF, 0])] else [] : List Cmd) = dl at hc hdl
      have hmem : cmd ∈ (sendPages m (st ++ dl)).1 ∨ (cmd.2.length = 4 ∧ cmd.1 = (p + 1) * 4) := by
        generalize sendPages m (st ++ dl) = sp at hc
        split at hc
        · exact Or.inl hc
        · split at hc
          · split at hc
            · rw [List.mem_append] at hc
              rcases hc with h | h
              · exact Or.inl h
              · simp only [List.mem_cons, List.mem_nil_iff, or_false] at h; subst h
                exact Or.inr ⟨rfl, rfl⟩
            · exact Or.inl hc
          · exact Or.inl hc
      rcases hmem with h | ⟨h1, h2⟩
      · rcases sendPages_mem _ _ _ _ h with h | h
        · obtain ⟨a, b⟩ := hst cmd h
          exact ⟨a, b.elim Or.inl (fun e => Or.inr (Or.inl e))⟩
        · obtain ⟨a, b, c⟩ := hdl cmd h
          exact ⟨a, Or.inr (Or.inr (Or.inl ⟨b, c⟩))⟩
      · exact ⟨h1, Or.inr (Or.inr (Or.inr h2))⟩
  · simp at hc

theorem setLocks_spec (addr bits : Nat) : ∀ (n j : Nat) (m m' : Bytes),
    setLocks m addr bits n j = .ok m' → Chg m m' fun x => addr + j ≤ x ∧ x < addr + j + n := by
  intro n
  induction n with
  | zero => intro j m m' h; simp only [setLocks] at h; cases h; exact Chg.refl _ _
  | succ n ih =>
    intro j m m' h
    simp only [setLocks] at h
    obtain ⟨m1, h1, h⟩ := Py.bind_eq_ok.1 h
    obtain ⟨_, rfl⟩ := wr_inv _ _ _ _ _ h1
    exact ((Chg.set _ _ _).mono fun x e => by omega).trans ((ih _ _ _ h).mono fun x hx => by omega)

theorem setAllLocks_spec : ∀ (locks : List (Nat × Nat)) (m m' : Bytes),
    setAllLocks m locks = .ok m' →
    Chg m m' fun x => ∃ l ∈ locks, l.1 ≤ x ∧ x < l.1 + (l.2 + 7) / 8 := by
  intro locks
  induction locks with
  | nil => intro m m' h; simp only [setAllLocks] at h; cases h; exact Chg.refl _ _
  | cons l rest ih =>
    intro m m' h
    obtain ⟨a, b⟩ := l
    simp only [setAllLocks] at h
    obtain ⟨m1, h1, h⟩ := Py.bind_eq_ok.1 h
    exact ((setLocks_spec _ _ _ _ _ _ h1).mono fun x hx =>
        ⟨(a, b), List.mem_cons_self, by simp only; omega, by simp only; omega⟩).trans
      ((ih _ _ h).mono fun x ⟨l, hl, hh⟩ => ⟨l, List.mem_cons_of_mem _ hl, hh⟩)

theorem readLen_congr_ge {r r' : Rd} (lo : Nat) (h : ∀ a, lo ≤ a → r a = r' a) (a : Nat) (ha : lo ≤ a) :
    readLen r a = readLen r' a := by
  unfold readLen
  rw [h a ha, h (a + 1) (by omega), h (a + 2) (by omega)]

theorem fetch_congr_ge {r r' : Rd} (lo : Nat) (h : ∀ a, lo ≤ a → r a = r' a) (s : Skip) (n a : Nat) (ha : lo ≤ a) :
    fetch r s n a = fetch r' s n a := by
  induction n generalizing a with
  | zero => rfl
  | succ n ih =>
    simp only [fetch]
    have := nextFree_ge s a
    rw [h _ (by omega), ih _ (by omega)]

theorem readLen_next_ge {r : Rd} (a : Nat) (lv : Nat × Nat) (h : readLen r a = .ok lv) : a < lv.2 := by
  unfold readLen at h
  obtain ⟨l, _, h⟩ := Py.bind_eq_ok.1 h
  split at h
  · obtain ⟨hi, _, h⟩ := Py.bind_eq_ok.1 h
    obtain ⟨lo, _, h⟩ := Py.bind_eq_ok.1 h
    cases h; simp
  · cases h; simp

/-- The two walks are the same expression in `r` resp. `r'`, and every read is at or behind `off`.  Proved branch by
branch with congruence lemmas: an `rfl` across a `bind` would have the kernel compare `protWalk r e fuel` with
`protWalk r' e fuel` by unfolding the recursion. -/
theorem protWalk_congr {r r' : Rd} (lo : Nat) (h : ∀ a, lo ≤ a → r a = r' a) (e : Nat) :
    ∀ (fuel off : Nat) (acc : List (Nat × Nat)), lo ≤ off → protWalk r e fuel off acc = protWalk r' e fuel off acc := by
  intro fuel
  induction fuel with
  | zero => intros; rfl
  | succ fuel ih =>
    intro off acc hoff
    unfold protWalk
    refine ite_congr rfl (fun _ => rfl) fun _ => ?_
    rw [h off hoff]
    refine bind_congr fun t => ite_congr rfl (fun _ => ih _ _ (by omega)) fun _ => ite_congr rfl (fun _ => rfl) fun _ => ?_
    rw [readLen_congr_ge lo h (off + 1) (by omega)]
    refine Py.bind_congr_ok fun lv hlv => ?_
    have := readLen_next_ge _ _ hlv
    rw [fetch_congr_ge lo h [] lv.1 lv.2 (by omega)]
    exact bind_congr fun v => ite_congr rfl (fun _ => rfl) fun _ => ite_congr rfl
      (fun _ => bind_congr fun d0 => bind_congr fun d2 => bind_congr fun d1 => ih _ _ (by omega)) fun _ => ih _ _ (by omega)

/-- `Type2Tag._protect` that returns `True`: the two `synchronize()` calls turn the tag image into one
that differs from the old image only in the access byte of the capability container (15), the static
lock bytes (10, 11) and the lock bytes of the Lock Control TLVs the walk finds (or, without any, the
default dynamic lock bytes right behind the data area) -/
theorem protectT2_spec (m : Bytes) (cmds : List Cmd) (h : protectT2 m = ⟨cmds, .ok true⟩) :
    ∃ sz walked, m[14]? = some sz ∧
      protWalk (rd t2Cfg m) (sz * 8 + 16) (sz * 8 + 17) 16 [] = .ok walked ∧
      (apply m cmds).length = m.length ∧
      ∀ x, (apply m cmds)[x]? ≠ m[x]? → x = 15 ∨ x = 10 ∨ x = 11 ∨
        ∃ l ∈ defaultLocks sz walked, l.1 ≤ x ∧ x < l.1 + (l.2 + 7) / 8 := by
  unfold protectT2 at h
  split at h
  · cases h
  · cases h
  · split at h
    · cases h
    · rename_i m1 hm1
      split at h
      · cases h
      · rename_i m2 hm2
        injection h with hcm _
        obtain ⟨acc, hacc, hm1⟩ := Py.bind_eq_ok.1 hm1
        obtain ⟨_, e1⟩ := wr_inv _ _ _ _ _ hm1
        obtain ⟨a, ha, hm2⟩ := Py.bind_eq_ok.1 hm2
        obtain ⟨_, ea⟩ := wr_inv _ _ _ _ _ ha
        obtain ⟨b, hb, hm2⟩ := Py.bind_eq_ok.1 hm2
        obtain ⟨_, eb⟩ := wr_inv _ _ _ _ _ hb
        obtain ⟨sz, hsz, hm2⟩ := Py.bind_eq_ok.1 hm2
        obtain ⟨walked, hwalk, hm2⟩ := Py.bind_eq_ok.1 hm2
        have hc2 := setAllLocks_spec _ _ _ hm2
        have hb : Chg m b fun x => x = 15 ∨ x = 10 ∨ x = 11 := by
          rw [eb, ea, e1]
          exact (((Chg.set m 15 _).mono fun x e => Or.inl e).trans
            ((Chg.set _ 10 _).mono fun x e => Or.inr (Or.inl e))).trans
            ((Chg.set _ 11 _).mono fun x e => Or.inr (Or.inr e))
        have hbm : ∀ x, 12 ≤ x → x ≠ 15 → b[x]? = m[x]? := fun x h12 h15 => hb.outside x (by omega)
        have hfin : apply m cmds = m2 := by
          rw [← hcm, apply_append, apply_diff 4 (by omega) m m1 (by rw [e1]; simp),
            apply_diff 4 (by omega) m1 m2 (by rw [hc2.length, hb.length, e1]; simp)]
        rw [hfin]
        have hall := (hb.mono fun x h => (by omega : x = 15 ∨ x = 10 ∨ x = 11 ∨ _)).trans
          (hc2.mono fun x h => Or.inr (Or.inr (Or.inr h)))
        refine ⟨sz, walked, ?_, ?_, hall⟩
        · rw [← hbm 14 (by omega) (by omega)]; exact (rd_ok_iff _ _ _ _).1 hsz
        · rw [← protWalk_congr 16 (fun a ha => rd_congr _ _ _ _ (hbm a (by omega) (by omega))) _ _ _ _ (Nat.le_refl _)]
          exact hwalk

/-- (first lock byte, lock bits) of the Lock Control TLVs of a chain -/
def lockList : List Ctl → List (Nat × Nat)
  | [] => []
  | t :: cs => if t.1 then (specFirst t.2.1 t.2.2.2, specBits t.2.2.1) :: lockList cs else lockList cs

theorem lockList_mem (cs : List Ctl) (l : Nat × Nat) (h : l ∈ lockList cs) :
    ∃ t ∈ cs, t.1 = true ∧ l = (specFirst t.2.1 t.2.2.2, specBits t.2.2.1) := by
  induction cs with
  | nil => simp [lockList] at h
  | cons t cs ih =>
    simp only [lockList] at h
    split at h
    · rename_i ht
      simp only [List.mem_cons] at h
      rcases h with h | h
      · exact ⟨t, List.mem_cons_self, ht, h⟩
      · obtain ⟨t', a, b⟩ := ih h; exact ⟨t', List.mem_cons_of_mem _ a, b⟩
    · obtain ⟨t', a, b⟩ := ih h; exact ⟨t', List.mem_cons_of_mem _ a, b⟩

/-- Partial correctness: that the walk returns (the NDEF TLV can be read without skip set) is what the caller has from
`protectT2_spec`. -/
theorem chain_protWalk (m : Bytes) (e : Nat) :
    ∀ (fuel o : Nat) (cs : List Ctl) (off : Nat),
      chainParse m fuel o = some (cs, off) → off < e →
      ∀ (fuel' : Nat) (acc walked : List (Nat × Nat)),
        protWalk (rd t2Cfg m) e fuel' o acc = .ok walked → walked = acc ++ lockList cs := by
  intro fuel
  induction fuel with
  | zero => intro o cs off h; cases h
  | succ fuel ih =>
    intro o cs off h he fuel' acc walked hw
    have hle := chain_le m _ _ _ _ h
    cases fuel' with
    | zero => cases hw
    | succ fuel' =>
    simp only [protWalk] at hw
    rw [if_neg (by omega)] at hw
    rcases chainParse_succ h with ⟨ht, rfl, rfl⟩ | ⟨ht, hrec⟩
      | ⟨t, d0, d1, d2, cs', h12, ht, hl, hd0, hd1, hd2, hrec, rfl⟩
    · rw [(rd_ok_iff t2Cfg m _ 3).2 ht, Py.bind_ok, if_neg (by decide), if_neg (by decide)] at hw
      obtain ⟨lv, _, hw⟩ := Py.bind_eq_ok.1 hw
      obtain ⟨v, _, hw⟩ := Py.bind_eq_ok.1 hw
      rw [if_pos rfl] at hw; cases hw
      simp [lockList]
    · rw [(rd_ok_iff t2Cfg m o 0).2 ht, Py.bind_ok, if_pos rfl] at hw
      exact ih _ _ _ hrec he fuel' acc walked hw
    · have hle' := chain_le m _ _ _ _ hrec
      have hlen : readLen (rd t2Cfg m) (o + 1) = .ok (3, o + 2) := by
        unfold readLen; rw [(rd_ok_iff t2Cfg m _ _).2 hl, Py.bind_ok, if_neg (by decide)]
      have hfetch : fetch (rd t2Cfg m) [] 3 (o + 2) = .ok [d0, d1, d2] := by
        simp only [fetch, nextFree_nil]
        rw [(rd_ok_iff t2Cfg m _ _).2 hd0, Py.bind_ok,
          (rd_ok_iff t2Cfg m (o + 2 + 1) d1).2 hd1, Py.bind_ok,
          (rd_ok_iff t2Cfg m (o + 2 + 1 + 1) d2).2 hd2, Py.bind_ok]
        rfl
      rw [(rd_ok_iff t2Cfg m o t).2 ht, Py.bind_ok, if_neg (by omega), if_neg (by omega), hlen, Py.bind_ok, hfetch,
        Py.bind_ok, if_neg (by omega)] at hw
      simp only [idxN_cons_zero, idxN_cons_succ, Py.bind_ok] at hw
      have hnext : o + 3 + 1 + (if 3 < 255 then 1 else 3) = o + 5 := by simp
      rw [hnext] at hw
      by_cases h1 : t = 1
      · rw [if_pos h1] at hw
        rw [ih _ _ _ hrec he fuel' _ walked hw]
        simp [lockList, h1, List.append_assoc]
      · rw [if_neg h1] at hw
        rw [ih _ _ _ hrec he fuel' _ walked hw]
        simp [lockList, h1]

theorem readNdefT2_some (m : Bytes) (L : Layout) (h : readNdefT2 m = .ok (some L)) :
    readNdef t2Cfg m = .ok (some L) ∧
    L.off + (if m[L.off + 1]? = some 0xFF then 4 else 2) ≤ L.areaEnd ∧
    L.ndef.length ≤ countFree L.skip (L.off + (if m[L.off + 1]? = some 0xFF then 4 else 2)) L.areaEnd := by
  unfold readNdefT2 at h
  split at h
  · rename_i L' hr
    dsimp only at h
    by_cases hc : (L'.off + (if m[L'.off + 1]? = some 0xFF then 4 else 2) > L'.areaEnd ∨
        L'.ndef.length > countFree L'.skip (L'.off + (if m[L'.off + 1]? = some 0xFF then 4 else 2)) L'.areaEnd)
    · rw [if_pos hc] at h; cases h
    · rw [if_neg hc] at h
      injection h with h; injection h with h; subst h
      exact ⟨hr, by omega, by omega⟩
  · rename_i x hx
    rw [h] at hx
    exact absurd rfl (hx L)

/-- on a well-formed chain layout `_protect` leaves every byte of the NDEF area alone: the lock bytes
it sets are the ones the reader put into the skip set, or lie behind the data area -/
theorem protectT2_area (m : Bytes) (cmds : List Cmd) (h : protectT2 m = ⟨cmds, .ok true⟩)
    (L : Layout) (cs : List Ctl) (off : Nat)
    (hr : readNdefT2 m = .ok (some L)) (hlen : L.areaEnd ≤ m.length) (hlim : L.areaEnd ≤ t2Cfg.limit)
    (hchain : chainParse m (L.areaEnd + 1) t2Cfg.dataStart = some (cs, off))
    (hok : chainOk t2Cfg m L.areaEnd = true) :
    ∀ x, Area L x → (apply m cmds)[x]? = m[x]? := by
  obtain ⟨sz, walked, hsz, hwalk, _, hch⟩ := protectT2_spec m cmds h
  obtain ⟨hrd, _, _⟩ := readNdefT2_some m L hr
  obtain ⟨hoffeq, hskip, hwf⟩ := chain_wf t2Cfg m L cs off ⟨by decide, by decide⟩ hrd hlen hchain hok
  have hR := (readNdef_some _ _ _).1 hrd
  obtain ⟨sz', hsz', hae⟩ := hR.size
  have hszeq : sz' = sz := by
    have := (rd_ok_iff _ _ _ _).1 hsz'
    have e : t2Cfg.ccBase + 2 = 14 := rfl
    rw [e, hsz] at this; injection this with this; exact this.symm
  subst hszeq
  have hae' : L.areaEnd = sz' * 8 + 16 := by rw [hae]; rfl
  obtain ⟨hoff1, _⟩ := chainOk_spec t2Cfg m _ cs off hchain hok
  have e16 : t2Cfg.dataStart = 16 := rfl
  rw [← hae'] at hwalk
  have hwalk := chain_protWalk m L.areaEnd _ _ _ _ hchain (by omega) _ _ _ hwalk
  simp only [List.nil_append] at hwalk
  intro x hA
  apply Classical.byContradiction; intro hne
  have hds : 16 ≤ L.off := by have := hwf.2.2.1; rw [e16] at this; exact this
  rcases hch x hne with e | e | e | ⟨l, hl, h1, h2⟩
  · have := hA.1; omega
  · have := hA.1; omega
  · have := hA.1; omega
  · unfold defaultLocks at hl
    split at hl
    · simp only [List.mem_cons, List.mem_nil_iff, or_false] at hl
      subst hl
      have := hA.2.1; simp only at h1; omega
    · rw [hwalk] at hl
      obtain ⟨t, ht, htl, rfl⟩ := lockList_mem cs l hl
      refine chain_not_area t2Cfg L cs hskip t ht x h1 ?_ (by have := hA.2.1; omega) hA
      simp only at h2
      unfold specCount; rw [htl]; simpa using h2

end NfcVerif.Tlv
