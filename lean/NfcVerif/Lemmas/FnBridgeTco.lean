import NfcVerif.Gen.FnTco
import NfcVerif.Lemmas.FnBridgeBase
import NfcVerif.Model.Dlc
import NfcVerif.Model.Collect
import NfcVerif.Model.Sap
import NfcVerif.Model.FnTcoRef
/-!
For `Props/FnBridgeTco.lean` (and the `tco.py` part of `Props/FnBridgeLlcCore.lean`): the encoding `encOpt` of socket
option values, the class constant `name` of the collection model's PDU kinds (`kindName`), and `Collect.tcoDequeue` with
the size computed as the source computes it (on ints, from `pdu.name`).
-/
namespace NfcVerif.FnBridge.Tco
open NfcVerif NfcVerif.PyFn

/-- a socket option value as the dynamically typed result of the regenerated `getsockopt` -/
def encOpt : FnTcoRef.OptVal → Val
  | .int n => .int n
  | .bool b => .bool b
  | .none => .none

/-- `SockOpt.ofCode` reads the constant of each of the six options back as that option -/
theorem ofCode_code (o : FnTcoRef.SockOpt) : FnTcoRef.SockOpt.ofCode o.code = some o := by
  cases o <;> rfl

/-- window arithmetic: the code's `(rw - v + va) % 16` on naturals -/
theorem slots_nat (rw v va : Nat) :
    (((rw : Int) - v + va) % 16) = (((rw + 16 - v % 16 + va) % 16 : Nat) : Int) := by omega

/-- `pdu.name` of the PDU kinds of the collection model (only UI and I matter to `dequeue`) -/
def kindName : Collect.Kind → String
  | .symm => "SYMM" | .pax => "PAX" | .agf => "AGF" | .ui => "UI" | .connect => "CONNECT" | .disc => "DISC"
  | .cc => "CC" | .dm => "DM" | .frmr => "FRMR" | .snl => "SNL" | .dps => "DPS" | .i => "I" | .rr => "RR"
  | .rnr => "RNR" | .other => "UNKNOWN"

theorem kindName_ui_i (k : Collect.Kind) :
    (kindName k = "UI" ∨ kindName k = "I") ↔ (k = .ui ∨ k = .i) := by
  cases k <;> simp [kindName]

theorem tcoDequeue_some (p : Collect.QPdu) (rest : List Collect.QPdu) (m : Int) (icv : Nat) :
    Collect.tcoDequeue (p :: rest) (some m) icv =
      if (if kindName p.kind = "UI" ∨ kindName p.kind = "I" then (p.len : Int) + (icv : Int) else (p.len : Int)) - (p.hdr : Int) > m
      then (none, p :: rest) else (some p, rest) := by
  simp only [Collect.tcoDequeue, Collect.QPdu.size, kindName_ui_i]
  by_cases hui : p.kind = .ui ∨ p.kind = .i <;> simp only [hui, if_true, if_false, Int.natCast_add]

end NfcVerif.FnBridge.Tco
