import NfcVerif.Gen.FnTlv
import NfcVerif.Model.Tlv
import NfcVerif.Lemmas.FnBridgeBase
/-!
The two encodings in which `Props/FnBridgeTlv.lean` states `get_lock_byte_range`, `get_rsvd_byte_range` and
`get_capacity` of tt1.py / tt2.py against `Model/Tlv.lean` (`clip`, `SameSkip`), and the lemmas under those theorems.
-/
namespace NfcVerif.FnBridge.Tlv
open NfcVerif NfcVerif.PyFn NfcVerif.Tlv

/-- how the callers use the `slice` object returned by the source: `range(*x.indices(limit))` -/
def clip (limit : Nat) (r : Int × Int) : Nat × Nat := (min r.1.toNat limit, min r.2.toNat limit)

/-- the Python set `skip_bytes` and the model's list of ranges have the same members -/
def SameSkip (s : Skip) (sk : List Int) : Prop := ∀ a : Nat, ((a : Int) ∈ sk) ↔ inSkip s a = true

theorem count_free (s : Skip) (sk : List Int) (h : SameSkip s sk) :
    ∀ (n a : Nat), (PyFn.setDiff ((List.range n).map (fun (i : Nat) => (a : Int) + (i : Int))) sk).length = cfree s a n := by
  intro n
  induction n with
  | zero => intro a; rfl
  | succ n ih =>
    intro a
    rw [List.range_succ_eq_map, List.map_cons, List.map_map]
    have e : ((fun (i : Nat) => (a : Int) + (i : Int)) ∘ Nat.succ) = (fun (i : Nat) => ((a + 1 : Nat) : Int) + (i : Int)) := by
      funext i; simp; omega
    rw [e]
    unfold PyFn.setDiff at ih ⊢
    rw [List.filter_cons, cfree]
    have hm := h a
    by_cases hs : inSkip s a = true
    · have : sk.contains ((a : Int) + ((0 : Nat) : Int)) = true := by simpa using hm.mpr hs
      simp only [this, Bool.not_true, hs, if_true, Bool.false_eq_true, if_false]
      rw [ih (a + 1)]; simp
    · have : sk.contains ((a : Int) + ((0 : Nat) : Int)) = false := by
        have := mt hm.mp hs; simpa using this
      simp only [this, Bool.not_false, if_true, hs]
      rw [List.length_cons, ih (a + 1)]; simp; omega

/-- `len(set(range(a, b)) - skip_bytes)` of `get_capacity` (tt1.py:125, tt2.py:122) -/
theorem room_len (s : Skip) (sk : List Int) (h : SameSkip s sk) (a b : Nat) :
    len (setDiff (range (a : Int) (b : Int)) sk) = ((countFree s a b : Nat) : Int) := by
  rw [range_ofNat, len_eq, count_free s sk h]; rfl

/-- arithmetic core of the two range functions on the three value octets -/
theorem range_arith (limit a c : Nat) (sz : Int) (n : Nat) (hsz : sz = (n : Int)) :
    clip limit (shr (a : Int) 4 * PyFn.pow 2 (band (c : Int) 15) + band (a : Int) 15,
      shr (a : Int) 4 * PyFn.pow 2 (band (c : Int) 15) + band (a : Int) 15 + sz)
    = (min (a / 16 * 2 ^ (c % 16) + a % 16) limit, min (a / 16 * 2 ^ (c % 16) + a % 16 + n) limit) := by
  have e4 : (4 : Int) = ((4 : Nat) : Int) := rfl
  have e15 : (15 : Int) = ((15 : Nat) : Int) := rfl
  have e2 : (2 : Int) = ((2 : Nat) : Int) := rfl
  have h15 : (15 : Nat) = 2 ^ 4 - 1 := rfl
  simp only [e4, e15, e2, shr_ofNat, band_ofNat, pow_ofNat, Nat.shiftRight_eq_div_pow]
  rw [h15, Nat.and_two_pow_sub_one_eq_mod, Nat.and_two_pow_sub_one_eq_mod, ← Int.natCast_mul]
  simp only [show (2:Nat) ^ 4 = 16 from rfl]
  generalize a / 16 * 2 ^ (c % 16) = P
  subst hsz
  unfold clip
  congr 1 <;> omega

/-- both range functions; `g` makes the size in octets of the second value octet (lock bits to bytes, reserved
bytes as they are) -/
theorem ctl_range (limit : Nat) (v : Bytes) (g : Int → Int) (gN : Nat → Nat) (hg : ∀ n : Nat, g n = gN n) :
    (getB v 0 >>= fun t1 => getB v 0 >>= fun t2 => getB v 1 >>= fun t3 =>
      (if t3 > 0 then getB v 1 else .ok 256) >>= fun t5 => getB v 2 >>= fun t6 =>
      .ok (clip limit (shr t1 4 * PyFn.pow 2 (band t6 15) + band t2 15, shr t1 4 * PyFn.pow 2 (band t6 15) + band t2 15 + g t5)))
    = (idxN v 0 >>= fun d0 => idxN v 1 >>= fun d1 => idxN v 2 >>= fun d2 =>
        .ok (min (d0 / 16 * 2 ^ (d2 % 16) + d0 % 16) limit,
             min (d0 / 16 * 2 ^ (d2 % 16) + d0 % 16 + gN (if d1 > 0 then d1 else 256)) limit)) := by
  match v with
  | [] => rfl
  | [a] => rfl
  | [a, b] => simp only [getB_zero, getB_one, getB_two, getB_nil, Py.bind_ok]; split <;> rfl
  | a :: b :: c :: rest =>
    simp only [getB_zero, getB_one, getB_two, Py.bind_ok, idxN_cons_zero, idxN_cons_succ]
    by_cases hb : b > 0
    · rw [if_pos (by omega : (b : Int) > 0), if_pos hb, Py.bind_ok, range_arith limit a c _ _ (hg b)]
    · rw [if_neg (by omega : ¬ (b : Int) > 0), if_neg hb, Py.bind_ok, range_arith limit a c (g 256) _ (hg 256)]

end NfcVerif.FnBridge.Tlv
