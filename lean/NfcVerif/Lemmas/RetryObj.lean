import NfcVerif.Lemmas.Retry
import NfcVerif.Model.RetryObj
/-!
# C16 - histories on one FeliCa Lite / Lite-S tag object: proofs

Invariant of the tag object (`Obj.Inv`: an accessor with MAC is installed only together with a
session key) + soundness of the world are preserved by every operation for every fault script, and
under the invariant every operation ends with a value or a TagCommandError.
-/
namespace NfcVerif.RetryObj
open NfcVerif NfcVerif.Retry

/-- only the Type 3 retry loop: a robust primitive and a retry loop at the same time -/
def T3 (k : PrimKind) : Prop := k = .t3

/-- what a world carries through a history: the tag object knows when the frontend has dropped its target,
and in the exchange log every primitive call is unanswered attempts followed by at most one more (three at most) -/
def WOK (w : World) : Prop := Sound w ∧ LogOK w.log

theorem c3_clean (pol : Pol) (hpol : pol.All (Clean T3)) (ss : List Step) (k : Unit → Prog)
    (h : Clean T3 (k ())) : Clean T3 (c3 Cfg.repaired pol ss k) :=
  chain_clean T3 (t3p true) .tagErr pol rfl rfl hpol ss k h

theorem c3p_clean (pol : Pol) (hpol : pol.All (Clean T3)) (ss : List Step) (k : Unit → Prog)
    (h : Clean T3 (k ())) : Clean T3 (c3p Cfg.repaired pol ss k) :=
  chain_clean T3 (t3p false) .tagErr pol rfl rfl hpol ss k h

theorem c3_raise (ss : List Step) (k : Unit → Prog) (h : Clean T3 (k ())) :
    Clean T3 (c3 Cfg.repaired .raise ss k) := c3_clean .raise trivial ss k h
theorem c3_none (ss : List Step) (k : Unit → Prog) (h : Clean T3 (k ())) :
    Clean T3 (c3 Cfg.repaired (.ret .none) ss k) := c3_clean (.ret .none) trivial ss k h

/-- a clean Type 3 program: documented outcome for EVERY fault script, the world stays sound -/
theorem run_ok (P : Prog) (cur : Int) (w : World) (hc : Clean T3 P) (hs : WOK w) :
    Documented (run Cfg.repaired P cur w).1 ∧ WOK (run Cfg.repaired P cur w).2 :=
  have h := run_inv T3 True (fun _ _ hk => Or.inl hk) P cur w hc (Or.inl trivial) hs.1
  ⟨h.1, h.2.2, run_log Cfg.repaired T3 (fun _ hk => Or.inr hk) P cur w hc hs.2⟩

theorem viaRd_clean (o : Obj) (k : Bool → Prog) (hI : o.Inv) (hk : ∀ m, Clean T3 (k m)) :
    Clean T3 (viaRd o k) := by
  unfold viaRd
  split
  · rename_i h; rw [hI.1 h]; exact hk true
  · exact hk false

theorem viaWr_clean (o : Obj) (k : Bool → Prog) (hI : o.Inv) (hk : ∀ m, Clean T3 (k m)) :
    Clean T3 (viaWr o k) := by
  unfold viaWr
  split
  · rename_i h; rw [hI.2 h]; exact hk true
  · exact hk false

theorem readBody_clean (L : Cmds) (o : Obj) (hI : o.Inv) : Clean T3 (readBody Cfg.repaired L o) :=
  viaRd_clean o _ hI fun _ =>
    c3_none _ _ (c3_raise _ _ (c3_none _ _ trivial))

theorem writeBody_clean (L : Cmds) (o : Obj) (hI : o.Inv) : Clean T3 (writeBody Cfg.repaired L o) :=
  viaRd_clean o _ hI fun _ =>
    (by simp only [fixF17_rep, if_true]
        exact c3_raise _ _ (c3_raise _ _ (viaWr_clean o _ hI fun _ => c3_raise _ _ trivial)))

/-- what every operation guarantees -/
def Good (r : Outcome × Obj × World) : Prop := Documented r.1 ∧ r.2.1.Inv ∧ WOK r.2.2

theorem readNdef_good (L : Cmds) (o : Obj) (w : World) (hI : o.Inv) (hs : WOK w) :
    Good (readNdef Cfg.repaired L o w) := by
  unfold readNdef
  have h1 : Documented (if o.polled then (Outcome.ok .unit, w)
      else run Cfg.repaired (c3p Cfg.repaired (.ret .none) L.poll (fin .unit)) 0 w).1
      ∧ WOK (if o.polled then (Outcome.ok .unit, w)
      else run Cfg.repaired (c3p Cfg.repaired (.ret .none) L.poll (fin .unit)) 0 w).2 := by
    split
    · exact ⟨trivial, hs⟩
    · exact run_ok _ 0 w (c3p_clean (.ret .none) trivial _ _ trivial) hs
  generalize (if o.polled then (Outcome.ok Val.unit, w)
      else run Cfg.repaired (c3p Cfg.repaired (.ret .none) L.poll (fin .unit)) 0 w) = r1 at h1
  obtain ⟨out, w1⟩ := r1
  simp only []
  split
  · rename_i heq
    cases heq
    have hI' : ({ o with polled := true } : Obj).Inv := hI
    have h2 := run_ok _ 0 w1 (readBody_clean L _ hI') h1.2
    exact ⟨h2.1, hI', h2.2⟩
  · rename_i heq
    cases heq
    exact ⟨h1.1, hI, h1.2⟩

theorem tagNdef_good (L : Cmds) (o : Obj) (w : World) (hI : o.Inv) (hs : WOK w) :
    Good (tagNdef Cfg.repaired L o w) := by
  unfold tagNdef
  split
  · exact ⟨trivial, hI, hs⟩
  · have h := readNdef_good L o w hI hs
    generalize readNdef Cfg.repaired L o w = r at h
    split
    · exact ⟨trivial, h.2.1, h.2.2⟩
    · exact h

theorem opChanged_good (L : Cmds) (o : Obj) (w : World) (hI : o.Inv) (hs : WOK w) :
    Good (opChanged Cfg.repaired L o w) := by
  unfold opChanged
  have h := tagNdef_good L o w hI hs
  generalize tagNdef Cfg.repaired L o w = r at h
  split
  · rename_i o1 w1
    have h2 := readNdef_good L o1 w1 h.2.1 h.2.2
    generalize readNdef Cfg.repaired L o1 w1 = r2 at h2
    split
    · exact ⟨trivial, h2.2.1, h2.2.2⟩
    · exact ⟨trivial, h2.2.1, h2.2.2⟩
    · exact h2
  · exact h

theorem opWrite_good (L : Cmds) (o : Obj) (w : World) (hI : o.Inv) (hs : WOK w) :
    Good (opWrite Cfg.repaired L o w) := by
  unfold opWrite
  have h := tagNdef_good L o w hI hs
  generalize tagNdef Cfg.repaired L o w = r at h
  split
  · rename_i o1 w1
    have h2 := run_ok _ 0 w1 (writeBody_clean L o1 h.2.1) h.2.2
    exact ⟨h2.1, h.2.1, h2.2⟩
  · exact h

theorem opProtect_good (L : Cmds) (o : Obj) (w : World) (hI : o.Inv) (hs : WOK w) :
    Good (opProtect Cfg.repaired L o w) := by
  unfold opProtect
  have h1 := run_ok _ 0 w (c3_raise L.protMc (fin .unit) trivial) hs
  generalize run Cfg.repaired (c3 Cfg.repaired .raise L.protMc (fin .unit)) 0 w = r1 at h1
  obtain ⟨out1, w1⟩ := r1
  cases out1 with
  | exc e => exact ⟨h1.1, hI, h1.2⟩
  | ok v1 =>
    simp only []
    have h2 := tagNdef_good L o w1 hI h1.2
    generalize tagNdef Cfg.repaired L o w1 = r2 at h2
    obtain ⟨out2, o1, w2⟩ := r2
    cases out2 with
    | exc e => exact h2
    | ok v =>
      simp only []
      have h3 := run_ok _ 0 w2
        (c3_raise ((if v == .ndef then L.protAttr else []) ++ L.protWr) (fin .true_) trivial) h2.2.2
      generalize run Cfg.repaired (c3 Cfg.repaired .raise ((if v == .ndef then L.protAttr else []) ++ L.protWr)
        (fin .true_)) 0 w2 = r3 at h3
      obtain ⟨out3, w3⟩ := r3
      cases out3 with
      | ok v3 => exact ⟨trivial, h2.2.1, h3.2⟩
      | exc e => exact ⟨h3.1, h2.2.1, h3.2⟩

theorem opSvc_good (L : Cmds) (wr : Bool) (o : Obj) (w : World) (hI : o.Inv) (hs : WOK w) :
    Good (opSvc Cfg.repaired L wr o w) := by
  unfold opSvc
  have hc : Clean T3 (if wr then viaWr o fun m => c3 Cfg.repaired .raise (L.svcWr m) (fin .data)
           else viaRd o fun m => c3 Cfg.repaired .raise (L.svcRd m) (fin .data)) := by
    split
    · exact viaWr_clean o _ hI fun _ => c3_raise _ _ trivial
    · exact viaRd_clean o _ hI fun _ => c3_raise _ _ trivial
  have h2 := run_ok _ 0 w hc hs
  exact ⟨h2.1, hI, h2.2⟩

/-- the internal authentication of the code as it is: whatever it was given, it leaves an object
that satisfies the invariant - and with the result True a session key -/
theorem liteAuth_good (L : Cmds) (macOk : Bool) (o : Obj) (w : World) (hs : WOK w) :
    Good (liteAuth Cfg.repaired Variant.code L macOk o w)
    ∧ ((liteAuth Cfg.repaired Variant.code L macOk o w).1 = .ok .true_ →
        (liteAuth Cfg.repaired Variant.code L macOk o w).2.1.sk = true) := by
  unfold liteAuth
  have h := run_ok _ 0 w (c3_raise L.auth1 (fin .unit) trivial) hs
  generalize run Cfg.repaired (c3 Cfg.repaired .raise L.auth1 (fin .unit)) 0 w = r at h
  obtain ⟨out, w1⟩ := r
  cases out with
  | ok v =>
    cases macOk <;> simp [Good, Obj.Inv, Variant.code, Documented] <;> exact h.2
  | exc e =>
    refine ⟨⟨h.1, ?_, h.2⟩, ?_⟩
    · simp [Obj.Inv, Variant.code]
    · intro h'; cases h'

theorem litesAuth_good (L : Cmds) (macOk extOk : Bool) (o : Obj) (w : World) (hs : WOK w) :
    Good (litesAuth Cfg.repaired Variant.code L macOk extOk o w) := by
  unfold litesAuth
  have h := liteAuth_good L macOk o w hs
  generalize liteAuth Cfg.repaired Variant.code L macOk o w = r at h
  split
  · rename_i o1 w1
    have hsk : o1.sk = true := h.2 rfl
    simp only [hsk, if_true]
    have h2 := run_ok _ 0 w1 (c3_raise L.auth2 (fin .unit) trivial) h.1.2.2
    generalize run Cfg.repaired (c3 Cfg.repaired .raise L.auth2 (fin .unit)) 0 w1 = r2 at h2
    obtain ⟨out2, w2⟩ := r2
    cases out2 with
    | ok v2 =>
      cases extOk <;> simp [Good, Obj.Inv, Documented] <;> exact h2.2
    | exc e =>
      refine ⟨h2.1, ?_, h2.2⟩
      simp [Obj.Inv]
  · exact h.1

/-- side condition of an operation of a history: a session-free operation is a clean program -/
def OOp.Ok : OOp → Prop
  | .plain P _ => Clean T3 P
  | _ => True

theorem ostep_good (L : Cmds) (op : OOp) (o : Obj) (w : World) (hop : op.Ok) (hI : o.Inv) (hs : WOK w) :
    Good (ostep Cfg.repaired Variant.code L op o w) := by
  cases op with
  | ndef => exact tagNdef_good L o w hI hs
  | changed => exact opChanged_good L o w hI hs
  | write => exact opWrite_good L o w hI hs
  | protect => exact opProtect_good L o w hI hs
  | svc wr => exact opSvc_good L wr o w hI hs
  | auth lites macOk extOk =>
    simp only [ostep]
    split
    · exact litesAuth_good L macOk extOk o w hs
    · exact (liteAuth_good L macOk o w hs).1
  | plain P clears =>
    simp only [ostep]
    have h := run_ok P 0 w hop hs
    refine ⟨h.1, ?_, h.2⟩
    split <;> exact hI

theorem history_good (L : Cmds) : ∀ (ops : List OOp) (o : Obj) (w : World),
    (∀ op ∈ ops, op.Ok) → o.Inv → WOK w →
    (∀ out ∈ (history Cfg.repaired Variant.code L ops o w).1, Documented out)
    ∧ (history Cfg.repaired Variant.code L ops o w).2.1.Inv
    ∧ WOK (history Cfg.repaired Variant.code L ops o w).2.2 := by
  intro ops
  induction ops with
  | nil => intro o w _ hI hs; exact ⟨by simp [history], hI, hs⟩
  | cons op ops ih =>
    intro o w hops hI hs
    have h1 := ostep_good L op o w (hops op List.mem_cons_self) hI hs
    have h2 := ih _ _ (fun op' hm => hops op' (List.mem_cons_of_mem _ hm)) h1.2.1 h1.2.2
    unfold history
    refine ⟨?_, h2.2.1, h2.2.2⟩
    intro out hm
    simp only [List.mem_cons] at hm
    rcases hm with hm | hm
    · rw [hm]; exact h1.1
    · exact h2.1 out hm

end NfcVerif.RetryObj
