import NfcVerif.Model.T3Vendor
import NfcVerif.Lemmas.T34Base
/-!
Lemmas for the Type 3 Tag theorems (C01T34, C02T34, C03T34): the attribute block codec; the read loop specified once
over any reader (`readLoopV_spec`: `T3.readLoop`, `T3Link.readLoop` and the vendor loop are `T3V.readLoopV` with the
plain memory, the emulation, a vendor card as reader); `T3Link.Valid c N`, what `sendW` accepts on a memory of `N`
octets (the emulation accepts the same), so that a list of valid commands is the pure fold `applyW` (`runW_ok`); the
data block writes as one splice.
-/
namespace NfcVerif.T3
open NfcVerif.T34

structure AttrRange (a : Attr) : Prop where
  ver : a.ver < 256
  nbr : a.nbr < 256
  nbw : a.nbw < 256
  nmaxb : a.nmaxb < 65536
  writef : a.writef < 256
  rwflag : a.rwflag < 256
  ln : a.ln < 16777216

theorem decode_encode (a : Attr) (h : AttrRange a) : decodeAttr (encodeAttr a) = .ok (some a) := by
  obtain ⟨h1, h2, h3, h4, h5, h6, h7⟩ := h
  obtain ⟨ver, nbr, nbw, nmaxb, writef, rwflag, ln⟩ := a
  simp only [encodeAttr, decodeAttr] at *
  rw [if_neg]
  · congr 3 <;> omega
  · omega

theorem encodeAttr_length (a : Attr) : (encodeAttr a).length = 16 := by simp [encodeAttr]

theorem elemSum_le (first n : Nat) : elemSum first n ≤ 3 * n := by
  induction n generalizing first with
  | zero => simp [elemSum]
  | succ n ih => have := ih (first + 1); simp only [elemSum, elemSize]; split <;> omega

theorem elemSum_small (first n : Nat) (h : first + n ≤ 256) : elemSum first n = 2 * n := by
  induction n generalizing first with
  | zero => simp [elemSum]
  | succ n ih => have := ih (first + 1) (by omega); simp only [elemSum, elemSize]; rw [if_pos (by omega)]; omega

theorem cmdCheck_read (first n : Nat) (hn : n ≤ 80) (h : first + n ≤ 65536) : cmdCheck first n 0 = .ok () := by
  have := elemSum_le first n
  unfold cmdCheck
  rw [if_neg (by omega), if_neg (by omega), if_neg (by omega)]

/-- a write command of `n ≤ nbw` blocks fits the 255 octet frame -/
def WriteFits (nbw nmaxb : Nat) : Prop := 14 + nbw * (if nmaxb < 256 then 18 else 19) ≤ 255

theorem frame_fits (first n nbw nmaxb : Nat) (hn : n ≤ nbw) (hf : WriteFits nbw nmaxb) (h : first + n ≤ nmaxb + 1) :
    14 + elemSum first n + 16 * n ≤ 255 := by
  unfold WriteFits at hf
  split at hf
  · have := elemSum_small first n (by omega)
    have : n * 18 ≤ nbw * 18 := Nat.mul_le_mul_right _ hn
    omega
  · have := elemSum_le first n
    have : n * 19 ≤ nbw * 19 := Nat.mul_le_mul_right _ hn
    omega

theorem readBlocks_ok (m : Bytes) (first n : Nat) (hn : 1 ≤ n ∧ n ≤ 80) (h : 16 * (first + n) ≤ m.length)
    (h65 : first + n ≤ 65536) : readBlocks m first n = .ok (sliceN m (16 * first) (16 * (first + n))) := by
  unfold readBlocks
  rw [cmdCheck_read first n hn.2 h65]
  simp only [Py.bind_ok]
  rw [if_neg (by omega)]

theorem readLoopV_spec (rd : Nat → Nat → Py Bytes) (m : Bytes) (nbr last : Nat) (hnbr : 1 ≤ nbr)
    (hrd : ∀ i n, 1 ≤ i → 1 ≤ n → n ≤ nbr → i + n ≤ last → rd i n = .ok (sliceN m (16 * i) (16 * (i + n)))) :
    ∀ fuel i acc, 1 ≤ i → 0 < fuel → last < fuel + i →
    T3V.readLoopV rd nbr last fuel i acc = .ok (some (acc ++ sliceN m (16 * i) (16 * last))) := by
  intro fuel
  induction fuel with
  | zero => intro i acc _ h; omega
  | succ fuel ih =>
    intro i acc hi _ hf
    unfold T3V.readLoopV
    split
    · rw [sliceN_empty _ _ _ (by omega)]; simp
    · have hlt : i < last := by omega
      rw [hrd i (min (i + nbr) last - i) hi (by omega) (by omega) (by omega)]
      simp only []
      rw [ih (i + nbr) _ (by omega) (by omega) (by omega)]
      congr 2
      rw [List.append_assoc]; congr 1
      have e : i + (min (i + nbr) last - i) = min (i + nbr) last := by omega
      rw [e]
      by_cases hc : i + nbr ≤ last
      · rw [Nat.min_eq_left hc]; exact sliceN_append m _ _ _ (by omega) (by omega)
      · rw [Nat.min_eq_right (by omega), sliceN_empty m (16 * (i + nbr)) _ (by omega)]; simp

theorem readLoop_eqV (m : Bytes) (nbr last : Nat) : ∀ fuel i acc,
    readLoop m nbr last fuel i acc = T3V.readLoopV (readBlocks m) nbr last fuel i acc := by
  intro fuel
  induction fuel with
  | zero => intro i acc; rfl
  | succ fuel ih => intro i acc; simp only [readLoop, T3V.readLoopV, ih]; rfl

theorem readLoop_spec (m : Bytes) (nbr last : Nat) (hnbr : 1 ≤ nbr ∧ nbr ≤ 80) (hlast : 16 * last ≤ m.length)
    (h65 : last ≤ 65536) (fuel i : Nat) (acc : Bytes) (hi : 1 ≤ i) (h0 : 0 < fuel) (hf : last < fuel + i) :
    readLoop m nbr last fuel i acc = .ok (some (acc ++ sliceN m (16 * i) (16 * last))) := by
  rw [readLoop_eqV]
  exact readLoopV_spec _ m nbr last hnbr.1
    (fun i n _ h2 h3 h4 => readBlocks_ok m i n ⟨h2, by omega⟩ (by omega) (by omega)) fuel i acc hi h0 hf

theorem runW_cons_ok {m m' : Bytes} {c : WCmd} (cs : List WCmd) (h : sendW m c = .ok m') :
    runW m (c :: cs) = ⟨c :: (runW m' cs).sent, (runW m' cs).mem, (runW m' cs).res⟩ := by
  simp [runW, h]

theorem sendW_splice {m m' : Bytes} {c : WCmd} (h : sendW m c = .ok m') : m' = splice m (16 * c.blk) c.data := by
  unfold sendW at h
  cases hc : cmdCheck c.blk c.n c.data.length with
  | error e => simp [hc] at h
  | ok u => simp [hc] at h; split at h <;> simp at h; exact h.symm

@[simp] theorem applyW_nil (m : Bytes) : applyW m [] = m := rfl

@[simp] theorem applyW_cons (m : Bytes) (c : WCmd) (cs : List WCmd) :
    applyW m (c :: cs) = applyW (splice m (16 * c.blk) c.data) cs := rfl

theorem applyW_append (m : Bytes) (xs ys : List WCmd) : applyW m (xs ++ ys) = applyW (applyW m xs) ys :=
  List.foldl_append

end NfcVerif.T3

/-- a write command the tag accepts on a memory (the emulation: a block store) of `N` octets -/
structure NfcVerif.T3Link.Valid (c : NfcVerif.T3.WCmd) (N : Nat) : Prop where
  n : 1 ≤ c.n
  inside : 16 * (c.blk + c.n) ≤ N
  b65 : c.blk + c.n ≤ 65536
  data : c.data.length = 16 * c.n
  fit : 14 + NfcVerif.T3.elemSum c.blk c.n + c.data.length ≤ 255

namespace NfcVerif.T3
open NfcVerif.T34

theorem sendW_ok (m : Bytes) (c : WCmd) (v : T3Link.Valid c m.length) : sendW m c = .ok (splice m (16 * c.blk) c.data) := by
  obtain ⟨h1, h2, h3, h4, h5⟩ := v
  unfold sendW cmdCheck
  rw [if_neg (by omega), if_neg (by omega), if_neg (by omega)]
  simp only [Py.bind_ok]
  rw [if_neg (by omega)]

theorem runW_ok (cs : List WCmd) : ∀ m : Bytes, (∀ c ∈ cs, T3Link.Valid c m.length) →
    runW m cs = ⟨cs, applyW m cs, .ok ()⟩ := by
  induction cs with
  | nil => intro m _; rfl
  | cons c cs ih =>
    intro m h
    have v := h c List.mem_cons_self
    rw [runW_cons_ok cs (sendW_ok m c v), ih _ (fun c' hc' => by
      rw [splice_length _ _ _ (by rw [v.data]; have := v.inside; omega)]; exact h c' (List.mem_cons_of_mem _ hc'))]
    rfl

theorem dataCmds_mem (pd : Bytes) (nbw last : Nat) (hnbw : 1 ≤ nbw) (hpd : pd.length = 16 * (last - 1)) :
    ∀ fuel i, 1 ≤ i → ∀ c ∈ dataCmds pd nbw last fuel i,
      1 ≤ c.blk ∧ 1 ≤ c.n ∧ c.n ≤ nbw ∧ c.blk + c.n ≤ last ∧ c.data.length = 16 * c.n := by
  intro fuel
  induction fuel with
  | zero => intro i _ c hc; simp [dataCmds] at hc
  | succ fuel ih =>
    intro i hi c hc
    unfold dataCmds at hc
    split at hc
    · simp at hc
    · rcases List.mem_cons.mp hc with rfl | hc
      · dsimp only
        refine ⟨hi, by omega, by omega, by omega, ?_⟩
        rw [sliceN_length _ _ _ (by omega)]; omega
      · exact ih (i + nbw) (by omega) c hc

theorem applyW_dataCmds (pd : Bytes) (nbw last : Nat) (hnbw : 1 ≤ nbw) (hpd : pd.length = 16 * (last - 1)) :
    ∀ fuel i m, 1 ≤ i → last < fuel + i → 16 * last ≤ m.length →
      applyW m (dataCmds pd nbw last fuel i) = splice m (16 * i) (pd.drop ((i - 1) * 16)) := by
  have hend : ∀ i m, last ≤ i → m = splice m (16 * i) (pd.drop ((i - 1) * 16)) := fun i m h => by
    rw [List.drop_of_length_le (by omega), splice_nil]
  intro fuel
  induction fuel with
  | zero => intro i m _ h _; exact hend i m (by omega)
  | succ fuel ih =>
    intro i m hi hf hm
    unfold dataCmds
    split
    · exact hend i m (by omega)
    · have hl : (splice m (16 * i) (sliceN pd ((i - 1) * 16) ((min (i + nbw) last - 1) * 16))).length = m.length :=
        splice_length _ _ _ (by rw [sliceN_length _ _ _ (by omega)]; omega)
      rw [applyW_cons, ih (i + nbw) _ (by omega) (by omega) (by rw [hl]; exact hm)]
      dsimp only
      by_cases hc : i + nbw ≤ last
      · rw [Nat.min_eq_left hc, show (i + nbw - 1) * 16 = (i - 1) * 16 + 16 * nbw by omega,
          show 16 * (i + nbw) = 16 * i + 16 * nbw by omega]
        exact splice_chunk m pd _ _ _ (by omega) (by omega)
      · rw [← hend _ _ (by omega), Nat.min_eq_right (by omega), sliceN_to_end pd _ _ (by omega)]

theorem padded_length (data : Bytes) : (padded data).length = 16 * ((data.length + 15) / 16) := by
  simp [padded, zeros_length]; omega

end NfcVerif.T3
