import NfcVerif.Lemmas.FnBridgePn53xCommon
/-!
Helper lemmas for `Props/FnBridgeAcr122.lean` (`acr122.Chipset.ccid_xfr_block` / `command` against
`Model/HostFrame.lean`).
-/
namespace NfcVerif.FnBridge.Acr122
open NfcVerif NfcVerif.PyFn NfcVerif.HostFrame NfcVerif.FnBridge.HostLink

/-- the CCID header in front of `data`: `struct.pack("<BI5B", 0x6F, len(data), 0, 0, 0, 0, 0)` -/
theorem ccid_header (n : Nat) :
    pack [.B, .Ile, .B, .B, .B, .B, .B] [((111 : Nat) : Int), (n : Int), ((0 : Nat) : Int), ((0 : Nat) : Int),
      ((0 : Nat) : Int), ((0 : Nat) : Int), ((0 : Nat) : Int)]
      = if n < 4294967296 then .ok ([0x6F] ++ le32 n ++ [0, 0, 0, 0, 0]) else .error .struct := by
  simp only [pack_cons, pack_nil, packField_B_nat, packField_Ile]
  by_cases h : n < 4294967296 <;> simp [h]

end NfcVerif.FnBridge.Acr122
