import NfcVerif.Gen.FnPdu
import NfcVerif.Model.Pdu
import NfcVerif.Lemmas.FnBridgeBase
/-!
Helper lemmas for `Props/FnBridgePdu.lean` (`nfc/llcp/pdu.py` against `Model/Pdu.lean`): the `struct`
primitives of the prelude and of `Py.lean` as guarded reads, packing of small formats, reserved-bit masks.
-/
namespace NfcVerif.FnBridge.Pdu
open NfcVerif NfcVerif.PyFn NfcVerif.Pdu NfcVerif.Pdu.Impl

/-- results of the model (naturals) as the Python ints of the regenerated functions -/
def i2 (p : Nat × Nat) : Int × Int := ((p.1 : Int), (p.2 : Int))

def i4 (p : Nat × Nat × Nat × Nat) : Int × Int × Int × Int := ((p.1 : Int), (p.2.1 : Int), (p.2.2.1 : Int), (p.2.2.2 : Int))

theorem unpackBBB_eq (d : Bytes) (off : Nat) :
    unpackBBB d off = if off + 3 ≤ d.length then .ok (at0 d off, at0 d (off + 1), at0 d (off + 2)) else .error .struct := by
  unfold unpackBBB at0
  by_cases h : off + 2 < d.length
  · have h0 : off < d.length := by omega
    have h1 : off + 1 < d.length := by omega
    simp [List.getElem?_eq_getElem h, List.getElem?_eq_getElem h0, List.getElem?_eq_getElem h1, show off + 3 ≤ d.length from h]
  · have : ¬ off + 3 ≤ d.length := by omega
    simp only [this, if_false]
    rw [List.getElem?_eq_none (by omega : d.length ≤ off + 2)]
    split <;> simp_all

theorem unpackBBBB_eq (d : Bytes) (off : Nat) :
    unpackBBBB d off = if off + 4 ≤ d.length then .ok (at0 d off, at0 d (off + 1), at0 d (off + 2), at0 d (off + 3))
      else .error .struct := by
  unfold unpackBBBB at0
  by_cases h : off + 3 < d.length
  · have h0 : off < d.length := by omega
    have h1 : off + 1 < d.length := by omega
    have h2 : off + 2 < d.length := by omega
    simp [List.getElem?_eq_getElem h, List.getElem?_eq_getElem h0, List.getElem?_eq_getElem h1, List.getElem?_eq_getElem h2,
      show off + 4 ≤ d.length from h]
  · have : ¬ off + 4 ≤ d.length := by omega
    simp only [this, if_false]
    rw [List.getElem?_eq_none (by omega : d.length ≤ off + 3)]
    split <;> simp_all

theorem packField_B (n : Nat) : packField .B (n : Int) = if n > 255 then .error .struct else .ok [n] :=
  (PyFn.packField_B n).trans (ite_cond_congr (by omega) _ _)

theorem packField_Hbe (n : Nat) : packField .Hbe (n : Int) = if n > 65535 then .error .struct else .ok [n / 256, n % 256] :=
  (PyFn.packField_Hbe n).trans (ite_cond_congr (by omega) _ _)

theorem pack_Hbe (n : Nat) : PyFn.pack [.Hbe] [(n : Int)] = if n > 65535 then .error .struct else .ok [n / 256, n % 256] :=
  PyFn.pack_Hbe n

theorem slice_nat {α} (l : List α) (a b : Nat) : slice l (a : Int) (b : Int) = sliceN l a b := slice_ofNat l a b

/-- the value of a decoded TLV as the dynamically typed Python value -/
def encV : TlvV → Val
  | .num v => .int v
  | .raw v => .bytes v
  | .sdreq tid sn => .tuple [.int tid, .bytes sn]
  | .sdres tid sap => .tuple [.int tid, .int sap]

theorem miux_mask (x : Nat) (h : x < 65536) : (if ¬ x &&& 63488 = 0 then x &&& 2047 else x) = x % 2048 := mask_reserved x 11 5 h

theorem rw_mask (x : Nat) (h : x < 256) : (if ¬ x &&& 240 = 0 then x &&& 15 else x) = x % 16 := mask_reserved x 4 4 h

theorem opt_mask (x : Nat) (h : x < 256) : (if ¬ x &&& 248 = 0 then x &&& 7 else x) = x % 8 := mask_reserved x 3 5 h

/-- two programs whose first steps agree up to the reading `e` of the first result: compare what follows -/
theorem bind_bridge {α α' β : Type} {x : Py α} {y : Py α'} {e : α' → α} {k : α → Py β} {k' : α' → Py β}
    (hxy : x = y >>= fun p => .ok (e p)) (h : ∀ p, y = .ok p → k (e p) = k' p) : (x >>= k) = (y >>= k') := by
  subst hxy
  cases hy : y with
  | error e => rfl
  | ok p => exact h p hy

theorem len_two {α} {v : List α} (h : v.length = 2) : ∃ a b, v = [a, b] := by
  match v, h with
  | [a, b], _ => exact ⟨a, b, rfl⟩

end NfcVerif.FnBridge.Pdu
