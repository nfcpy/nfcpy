import NfcVerif.Model.HistC01
import NfcVerif.Lemmas.T3Write
import NfcVerif.Lemmas.T4Ndef
/-!
C01: histories of assignments with faults on Type 3 and Type 4 Tags.  A faulted run leaves the memory of a prefix of its
commands (`runWF_prefix`, `runUF_prefix`); on Type 3 every such state is well formed again with the static attribute
values of the activation (`prefix_wf`, `T3Inv`), on Type 4 the file keeps its size, which is all the round trip needs.
-/
namespace NfcVerif.Hist
open NfcVerif NfcVerif.T34

theorem runWF_none (cs : List T3.WCmd) : ∀ m, runWF m cs none = T3.runW m cs := by
  induction cs with
  | nil => intro m; rfl
  | cons c cs ih =>
    intro m
    simp only [runWF, T3.runW]
    cases T3.sendW m c with
    | error e => rfl
    | ok m' => simp only [Option.map_none, ih m']

theorem t3Write_eq (m data : Bytes) (a : T3.Attr) (wf : T3.WF m a) (f : Option Fault) :
    t3Write m data f = runWF m (T3.planWrite a data) f := by
  unfold t3Write
  rw [T3.readBlocks_ok m 0 1 (by omega) (by have := wf.mem; omega) (by omega)]
  simp only [Nat.mul_zero, Nat.zero_add, Nat.mul_one, sliceN_zero_take, wf.dec, Py.bind_ok]
  rw [if_neg (by have := wf.nbw; omega)]

/-- the attributes that no write changes.  `_read_attribute_data` sets `_capacity` (from `Nmaxb`) and `_writeable` (from
`RWFlag`, `Nbw`) again at every attempt; as these stay, the setter's checks are those of the activation, which is how
`t3Attempt` makes them. -/
def SameStatic (a b : T3.Attr) : Prop :=
  b.ver = a.ver ∧ b.nbr = a.nbr ∧ b.nbw = a.nbw ∧ b.nmaxb = a.nmaxb ∧ b.rwflag = a.rwflag

theorem runWF_prefix (cs : List T3.WCmd) : ∀ (m : Bytes) (f : Option Fault),
    ∃ j, j ≤ cs.length ∧ (runWF m cs f).mem = T3.applyW m (cs.take j) ∧ ((runWF m cs f).res = .ok () → j = cs.length) := by
  induction cs with
  | nil => intro m f; exact ⟨0, Nat.le_refl _, rfl, fun _ => rfl⟩
  | cons c cs ih =>
    intro m f
    cases hs : T3.sendW m c with
    | error e => exact ⟨0, Nat.zero_le _, by simp [runWF, hs], by simp [runWF, hs]⟩
    | ok m1 =>
      have hm1 := T3.sendW_splice hs
      have step : ∀ f', ∃ j, j ≤ (c :: cs).length ∧ (runWF m1 cs f').mem = T3.applyW m ((c :: cs).take j) ∧
          ((runWF m1 cs f').res = .ok () → j = (c :: cs).length) := by
        intro f'
        obtain ⟨j, hj, hm, hr⟩ := ih m1 f'
        refine ⟨j + 1, by simp; omega, ?_, fun h => by simp [hr h]⟩
        rw [List.take_succ_cons, T3.applyW_cons, ← hm1]; exact hm
      rcases f with _ | ⟨_ | k, late⟩
      · simp only [runWF, hs, Option.map_none]; exact step none
      · cases late with
        | false => exact ⟨0, Nat.zero_le _, by simp [runWF, hs], by simp [runWF, hs, faultErr]⟩
        | true => exact ⟨1, by simp, by simp [runWF, hs, hm1], by simp [runWF, hs, faultErr]⟩
      · simp only [runWF, hs, Option.map_some, Nat.add_sub_cancel]; exact step _

theorem prefix_wf (m data : Bytes) (a : T3.Attr) (wf : T3.WF m a) (hlen : data.length ≤ 16 * a.nmaxb) (k : Nat)
    (hk : k ≤ (T3.planWrite a data).length) :
    ∃ a', T3.WF (T3.applyW m ((T3.planWrite a data).take k)) a' ∧ SameStatic a a' := by
  rcases T3.prefix_cases m data a wf hlen k hk with h | h | h
  · rw [h]; exact ⟨a, wf, rfl, rfl, rfl, rfl, rfl⟩
  · exact ⟨_, h, rfl, rfl, rfl, rfl, rfl⟩
  · rw [h]; exact ⟨_, T3.wf_final m data a wf hlen, rfl, rfl, rfl, rfl, rfl⟩

/-- the state of a Type 3 history: some well-formed attributes with the static values found at activation -/
def T3Inv (a : T3.Attr) (m : Bytes) : Prop := ∃ a', T3.WF m a' ∧ SameStatic a a'

theorem T3Inv.init {m : Bytes} {a : T3.Attr} (wf : T3.WF m a) : T3Inv a m := ⟨a, wf, rfl, rfl, rfl, rfl, rfl⟩

theorem t3_seen {m : Bytes} {a : T3.Attr} {seen : Seen} (wf : T3.WF m a) (hseen : T3.see m = .ok (some seen)) :
    seen.capacity = (a.nmaxb * 16 : Nat) ∧ seen.writeable = true := by
  unfold T3.see at hseen
  rw [T3.readNdef_old m a wf] at hseen
  simp only [Py.bind_ok, Option.map, Except.ok.injEq, Option.some.injEq] at hseen
  subst hseen; exact ⟨rfl, rfl⟩

theorem t3Write_spec (m data : Bytes) (a : T3.Attr) (f : Option Fault) (wf : T3.WF m a) (hlen : data.length ≤ 16 * a.nmaxb) :
    T3Inv a (t3Write m data f).mem ∧
    ((t3Write m data f).res = .ok () → (t3Write m data f).mem = T3.finalMem m a data) ∧
    (f = none → (t3Write m data f).res = .ok ()) := by
  rw [t3Write_eq m data a wf]
  obtain ⟨j, hj, hm, hr⟩ := runWF_prefix (T3.planWrite a data) m f
  have hmem := wf.mem
  refine ⟨by rw [hm]; exact prefix_wf m data a wf hlen j hj, fun hres => ?_, fun hn => ?_⟩
  · rw [hm, hr hres, List.take_length, T3.applyW_planWrite m data a wf.nbw (by omega)]
  · rw [hn, runWF_none, T3.runW_plan m data a wf hlen]

theorem t3Attempt_inv (seen : Seen) (a : T3.Attr) (hcap : seen.capacity = (a.nmaxb * 16 : Nat)) (m data : Bytes)
    (f : Option Fault) (hi : T3Inv a m) : T3Inv a (t3Attempt seen m data f).mem := by
  unfold t3Attempt
  split
  · exact hi
  · split
    · exact hi
    · rename_i hc
      obtain ⟨a', wf', hs⟩ := hi
      obtain ⟨a'', wf'', hs''⟩ := (t3Write_spec m data a' f wf' (by rw [hs.2.2.2.1]; omega)).1
      exact ⟨a'', wf'', by unfold SameStatic at *; omega⟩

theorem t3History_inv (seen : Seen) (a : T3.Attr) (hcap : seen.capacity = (a.nmaxb * 16 : Nat))
    (hs : List (Bytes × Option Fault)) : ∀ m, T3Inv a m → T3Inv a (t3History seen m hs).1 := by
  induction hs with
  | nil => intro m hi; exact hi
  | cons x rest ih =>
    intro m hi
    obtain ⟨d, f⟩ := x
    simp only [t3History]
    exact ih _ (t3Attempt_inv seen a hcap m d f hi)

/-- **Type 3: a completed assignment is read back, whatever failed before it** (faults of both kinds, any number of
failed attempts, any messages) -/
theorem t3_history_roundtrip (m : Bytes) (a : T3.Attr) (wf : T3.WF m a) (seen : Seen)
    (hseen : T3.see m = .ok (some seen)) (hs : List (Bytes × Option Fault)) (data : Bytes)
    (hlen : data.length ≤ 16 * a.nmaxb) :
    (t3Attempt seen (t3History seen m hs).1 data none).res = .ok () ∧
    T3.see (t3Attempt seen (t3History seen m hs).1 data none).mem = .ok (some ⟨(a.nmaxb * 16 : Nat), true, true, data⟩) := by
  have hs0 := t3_seen wf hseen
  obtain ⟨a', wf', hsame⟩ := t3History_inv seen a hs0.1 hs m (T3Inv.init wf)
  have hlen' : data.length ≤ 16 * a'.nmaxb := by rw [hsame.2.2.2.1]; exact hlen
  obtain ⟨_, hfin, hok⟩ := t3Write_spec _ data a' none wf' hlen'
  unfold t3Attempt
  rw [if_neg (by simp [hs0.2]), if_neg (by rw [hs0.1]; omega)]
  refine ⟨hok rfl, ?_⟩
  rw [hfin (hok rfl), T3.see_final _ data a' wf' hlen', hsame.2.2.2.1]

theorem runUF_none (c : T4.Card) (us : List T4.UCmd) : ∀ file, runUF c file us none = T4.runU c file us := by
  induction us with
  | nil => intro f; rfl
  | cons u us ih =>
    intro f
    simp only [runUF, T4.runU]
    cases T4.sendU c f u with
    | error e => rfl
    | ok f' => simp only [Option.map_none, ih f']

/-- an UPDATE BINARY the card accepts lies inside the file: guard by guard along `sendU`, only the last branch returns -/
theorem sendU_length {c : T4.Card} {f f' : Bytes} {u : T4.UCmd} (h : T4.sendU c f u = .ok f') : f'.length = f.length := by
  have walk : Yields (fun f' : Bytes => f'.length = f.length) (T4.sendU c f u) := by
    unfold T4.sendU
    exact .ite (.error _) (.ite (.error _) (.ite (.error _) (.ite (.error _)
      (.ite' (fun _ => .error _) fun hfit => .ok (splice_length _ _ _ (by omega))))))
  exact walk f' h

theorem runUF_prefix (c : T4.Card) (cs : List T4.UCmd) : ∀ (g : Bytes) (f : Option Fault),
    ∃ j, j ≤ cs.length ∧ (runUF c g cs f).file = T4.applyU g (cs.take j) ∧ (runUF c g cs f).file.length = g.length := by
  induction cs with
  | nil => intro g f; exact ⟨0, Nat.le_refl _, rfl, rfl⟩
  | cons u us ih =>
    intro g f
    cases hs : T4.sendU c g u with
    | error e => exact ⟨0, Nat.zero_le _, by simp [runUF, hs, T4.applyU], by simp [runUF, hs]⟩
    | ok g1 =>
      have hg1 := T4.sendU_splice hs
      have hl := sendU_length hs
      have step : ∀ f', ∃ j, j ≤ (u :: us).length ∧ (runUF c g1 us f').file = T4.applyU g ((u :: us).take j) ∧
          (runUF c g1 us f').file.length = g.length := by
        intro f'
        obtain ⟨j, hj, hm, hlen⟩ := ih g1 f'
        refine ⟨j + 1, by simp; omega, ?_, hlen.trans hl⟩
        simp only [List.take_succ_cons, T4.applyU, List.foldl_cons]
        rw [← hg1]; exact hm
      rcases f with _ | ⟨_ | k, late⟩
      · simp only [runUF, hs, Option.map_none]; exact step none
      · cases late with
        | false => exact ⟨0, Nat.zero_le _, by simp [runUF, hs, T4.applyU], by simp [runUF, hs]⟩
        | true => exact ⟨1, by simp, by simp [runUF, hs, T4.applyU, hg1], by simp [runUF, hs, hl]⟩
      · simp only [runUF, hs, Option.map_some, Nat.add_sub_cancel]; exact step _

theorem runU_card (c : T4.Card) (g : Bytes) (us : List T4.UCmd) : ∀ file,
    T4.runU { c with file := g } file us = T4.runU c file us := by
  induction us with
  | nil => intro f; rfl
  | cons u us ih =>
    intro f
    simp only [T4.runU]
    have : T4.sendU { c with file := g } f u = T4.sendU c f u := rfl
    rw [this]
    cases T4.sendU c f u with
    | error e => rfl
    | ok f' => simp only [ih f']

theorem t4Write_length (v : T4.Variant) (c : T4.Card) (i : T4.Info) (file data : Bytes) (f : Option Fault) :
    (t4Write v c i file data f).file.length = file.length := by
  unfold t4Write
  split
  · rfl
  · obtain ⟨_, _, _, h⟩ := runUF_prefix c (T4.planWrite v i data) file f
    exact h

theorem t4History_length (v : T4.Variant) (c : T4.Card) (nd : T4.Ndef) (hs : List (Bytes × Option Fault)) :
    ∀ file, (t4History v c nd file hs).1.length = file.length := by
  induction hs with
  | nil => intro f; rfl
  | cons x rest ih =>
    intro file
    obtain ⟨d, f⟩ := x
    simp only [t4History]
    rw [ih]
    unfold t4Attempt
    split
    · rfl
    · split
      · rfl
      · exact t4Write_length _ _ _ _ _ _

theorem t4_nd {v : T4.Variant} {c : T4.Card} {i : T4.Info} {nd : T4.Ndef} (wf : T4.WF v c i)
    (hnd : T4.readNdef v c = .ok (some nd)) :
    nd = ⟨i, ⟨i.capacity, i.readable, i.writeable,
      sliceN c.file i.nlenSize (i.nlenSize + beNat (c.file.take i.nlenSize))⟩⟩ := by
  rw [T4.readNdef_old v c i wf] at hnd
  cases hnd; rw [wf.rw]

/-- **Type 4: a completed assignment is read back, whatever failed before it** -/
theorem t4_history_roundtrip (v : T4.Variant) (c : T4.Card) (i : T4.Info) (wf : T4.WF v c i) (nd : T4.Ndef)
    (hnd : T4.readNdef v c = .ok (some nd)) (hs : List (Bytes × Option Fault)) (data : Bytes)
    (hlen : (data.length : Int) ≤ i.capacity) (hv : v.nlenLoop = true ∨ i.nlenSize ≤ i.maxLc) :
    (t4Attempt v c nd (t4History v c nd c.file hs).1 data none).res = .ok () ∧
    T4.see v { c with file := (t4Attempt v c nd (t4History v c nd c.file hs).1 data none).file }
      = .ok (some ⟨i.capacity, i.readable, true, data⟩) := by
  have hnd' := t4_nd wf hnd
  have hgl := t4History_length v c nd hs c.file
  generalize (t4History v c nd c.file hs).1 = g at hgl
  have hcap := wf.cap; have hsz := wf.lim.size
  have hw := T4.writeNdef_spec v { c with file := g } i data
    ⟨wf.lim.nl, wf.lim.le, wf.lim.lc, hgl ▸ hsz⟩ (by simp only [hgl]; omega) (by omega) hv
  unfold T4.writeNdef at hw
  have hnl := wf.lim.nl
  rw [if_neg (by rcases hnl with h | h <;> rw [h] <;> omega)] at hw
  simp only at hw
  rw [runU_card] at hw
  subst hnd'
  unfold t4Attempt t4Write
  simp only
  rw [if_neg (by simp [wf.rw]), if_neg (by omega), if_neg (by rcases hnl with h | h <;> rw [h] <;> omega), runUF_none, hw]
  exact ⟨rfl, T4.see_final' v c i g data wf hgl hlen⟩

end NfcVerif.Hist
