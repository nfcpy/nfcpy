import NfcVerif.Model.FnT34OpsRef
import NfcVerif.Lemmas.FnBridgeBase
/-!
# Facts about the reference definitions of group T34Ops (`Model/FnT34OpsRef.lean`)

These are the property-relevant statements; `Props/FnBridgeT34Ops.lean` restates them for the regenerated definitions.
-/
namespace NfcVerif.T34OpsRef
open NfcVerif NfcVerif.PyFn

/-- a polling response to request code 0 that is accepted has exactly IDm and PMm: `polling` returns a pair (C08) -/
theorem pollingRefused_rc0 {n : Nat} (h : pollingRefused 0 n = false) : n = 16 := by
  simpa [pollingRefused, pollingLen] using h

theorem pollingRefused_len {rc : Int} {n : Nat} (h : pollingRefused rc n = false) : n = 16 ∨ (n = 18 ∧ rc ≠ 0) := by
  unfold pollingRefused pollingLen at h
  by_cases h0 : rc = 0 <;> simp [h0] at h <;> omega

/-- `readCmd` succeeds only with the answer of the ONE command, which then has the count octet and 16 octets per block -/
theorem readCmd_ok {xchg : Int → Bytes → Int → Py Bytes} {n : Nat} {d r : Bytes} {t : Int}
    (h : readCmd xchg n d t = .ok r) : ∃ a, xchg 6 d t = .ok a ∧ a.length = 1 + 16 * n ∧ r = a.drop 1 := by
  unfold readCmd at h
  cases hx : xchg 6 d t with
  | error e => simp [hx] at h
  | ok a =>
    simp only [hx] at h
    by_cases hl : a.length = 1 + 16 * n
    · simp only [hl, if_true, Except.ok.injEq] at h
      exact ⟨a, rfl, hl, h.symm⟩
    · simp [hl] at h

/-- an accepted Read Without Encryption response carries exactly the requested number of blocks (C20, C08) -/
theorem readCmd_blocks {xchg : Int → Bytes → Int → Py Bytes} {n : Nat} {d r : Bytes} {t : Int}
    (h : readCmd xchg n d t = .ok r) : r.length = 16 * n := by
  obtain ⟨a, -, hl, rfl⟩ := readCmd_ok h
  rw [List.length_drop]; omega

/-- what is returned is the answer of the ONE command without its count octet -/
theorem readCmd_answer {xchg : Int → Bytes → Int → Py Bytes} {n : Nat} {d r : Bytes} {t : Int}
    (h : readCmd xchg n d t = .ok r) : ∃ a, xchg 6 d t = .ok a ∧ r = a.drop 1 := by
  obtain ⟨a, hx, -, hr⟩ := readCmd_ok h
  exact ⟨a, hx, hr⟩

/-- an answer without data (12 octet frame) is refused with DATA_SIZE_ERROR, not an internal error (C08) -/
theorem readCmd_empty {xchg : Int → Bytes → Int → Py Bytes} {n : Nat} {d : Bytes} {t : Int}
    (h : xchg 6 d t = .ok []) : readCmd xchg n d t = .error (.tagCmd DATA_SIZE_ERROR) := by
  unfold readCmd; simp [h]; omega

theorem blocksFor_ceil (n : Nat) : n ≤ 16 * blocksFor n ∧ 16 * blocksFor n < n + 16 := by
  unfold blocksFor; omega

/-- the number of data blocks written is ceil(len/16) and stays inside the Nmaxb data blocks (C03, C01) -/
theorem blocksFor_le {n nmaxb : Nat} (h : n ≤ 16 * nmaxb) : blocksFor n ≤ nmaxb := by
  unfold blocksFor; omega

theorem padded_length (d : Bytes) : (padded d).length = 16 * blocksFor d.length := by
  have := blocksFor_ceil d.length
  simp [padded]; omega

/-- no extra block when the length is a multiple of 16 (seed C03-r5m3) -/
theorem padded_exact {d : Bytes} (h : d.length % 16 = 0) : padded d = d := by
  have : 16 * blocksFor d.length - d.length = 0 := by unfold blocksFor; omega
  simp [padded, this]

theorem padded_prefix (d : Bytes) : (padded d).take d.length = d := by simp [padded]

/-- the last block written is block `blocksFor len`: with block 0 the attribute block, inside `0..Nmaxb` -/
theorem writePlan_last {d : Bytes} {nmaxb : Nat} (h : d.length ≤ 16 * nmaxb) : (writePlan d).1 ≤ nmaxb + 1 := by
  have := blocksFor_le h
  simp [writePlan]; omega

theorem mem_starts {last step s : Nat} : s ∈ starts last step ↔ ∃ i, i < (last + step - 2) / step ∧ s = 1 + i * step := by
  simp [starts, eq_comm]

/-- every command starts at a data block in front of `last` -/
theorem starts_bounds {last step s : Nat} (hs : 0 < step) (h : s ∈ starts last step) : 1 ≤ s ∧ s < last := by
  obtain ⟨i, hi, rfl⟩ := mem_starts.mp h
  refine ⟨by omega, ?_⟩
  have h1 : (i + 1) * step ≤ last + step - 2 := by
    have := (Nat.le_div_iff_mul_le hs).mp (Nat.succ_le_of_lt hi)
    simpa using this
  have : (i + 1) * step = i * step + step := by rw [Nat.add_mul, Nat.one_mul]
  omega

/-- every data block in front of `last` lies in the batch of exactly one start: no block is skipped (C01) -/
theorem starts_cover {last step b : Nat} (hs : 0 < step) (h1 : 1 ≤ b) (h2 : b < last) :
    ∃ s ∈ starts last step, s ≤ b ∧ b < s + step := by
  refine ⟨1 + (b - 1) / step * step, mem_starts.mpr ⟨(b - 1) / step, ?_, rfl⟩, ?_, ?_⟩
  · have h3 : (b - 1) / step ≤ (last - 2) / step := Nat.div_le_div_right (by omega)
    have h4 : (last + step - 2) / step = (last - 2) / step + 1 := by
      have : last + step - 2 = (last - 2) + step := by omega
      rw [this, Nat.add_div_right _ hs]
    omega
  · have := Nat.div_mul_le_self (b - 1) step; omega
  · have := Nat.lt_div_mul_add (a := b - 1) hs
    omega

/-- the reader asks for at most min(Nbr, 15) blocks per command: the emulation never refuses such a command for its
block count (seed C01-r5m3) -/
theorem reader_batch_not_refused (nbr : Nat) : emuRefuses (min nbr 15) = false := by
  unfold emuRefuses; simp; omega

theorem emuRefuses_15 : emuRefuses 15 = false := by decide

/-- status flag 1 is one bit of an octet, whatever the position in the block list (seed C07-r5m2: no ValueError) -/
theorem statusFlag_byte (i : Nat) : 0 < statusFlag i ∧ statusFlag i < 256 := by
  unfold statusFlag
  have h : i % 8 < 8 := Nat.mod_lt _ (by omega)
  refine ⟨Nat.pow_pos (by omega), ?_⟩
  calc 2 ^ (i % 8) < 2 ^ 8 := Nat.pow_lt_pow_right (by omega) h
    _ = 256 := by decide

/-- capacity and length field together never exceed the file nor what a 16 bit offset addresses (seed C01-r5m2) -/
theorem capacity_sound (mfs tag : Int) : capacity mfs tag + nlenSize tag ≤ mfs ∧ capacity mfs tag + nlenSize tag ≤ 65536 := by
  unfold capacity; split <;> omega

theorem firstBuf_length (nlen data : Bytes) (m : Nat) : (firstBuf nlen data m).length = nlen.length + data.length := by
  unfold firstBuf; split <;> simp

/-- a single UPDATE BINARY with the final length field is chosen only when NLEN and data fit MLc (seed C02-r5m1);
otherwise the first loop writes a zero length field -/
theorem firstBuf_zero {nlen data : Bytes} {m : Nat} (h : ¬ nlen.length + data.length ≤ m) :
    (firstBuf nlen data m).take nlen.length = List.replicate nlen.length 0 := by
  simp [firstBuf, singleUpdate, h]

theorem firstBuf_single {nlen data : Bytes} {m : Nat} (h : nlen.length + data.length ≤ m) :
    firstBuf nlen data m = nlen ++ data ∧ (firstBuf nlen data m).length ≤ m := by
  simp [firstBuf, singleUpdate, h]

/-- the chunk sent by one UPDATE BINARY is never longer than MLc and the result is its length -/
theorem updateBinaryVia_le {apdu : Int → Int → Int → Int → Bytes → Py Bytes} {maxLc off : Nat} {data : Bytes} {n : Int}
    (h : updateBinaryVia apdu maxLc off data = .ok n) : 0 ≤ n ∧ n ≤ maxLc ∧ n ≤ data.length := by
  unfold updateBinaryVia at h
  by_cases ho : off > 65535
  · simp [ho] at h
  · simp only [ho, if_false] at h
    split at h
    · cases h
    · cases h; omega

/-- an accepted READ BINARY answer is never longer than what was asked for -/
theorem readBinaryVia_le {apdu : Int → Int → Int → Int → Int → Py Bytes} {maxLe : Int} {off : Nat} {size : Int} {d : Bytes}
    (h : readBinaryVia apdu maxLe off size = .ok d) : (d.length : Int) ≤ max size 0 ∧ (d.length : Int) ≤ max maxLe 0 := by
  unfold readBinaryVia at h
  by_cases ho : off > 65535
  · simp [ho] at h
  · simp only [ho, if_false] at h
    obtain ⟨le, hle⟩ : ∃ le, le = (if size < maxLe then size else maxLe) := ⟨_, rfl⟩
    rw [← hle] at h
    split at h
    · cases h
    · split at h
      · cases h
      · cases h
        rename_i hl
        subst hle
        constructor <;> (split at hl <;> omega)

/-- the latch holds after TIMEOUT_ERROR (errno 0) as after any other error (seed C12-r5m1); a presence check passes -/
theorem latched_any (c : Bytes) (e : Int) : latched (some c) (some e) = true := rfl
theorem latched_presence (e : Option Int) : latched none e = false := rfl
theorem latched_clean (c : Option Bytes) : latched c none = false := by cases c <;> rfl

/-- an ATS of TL and T0 only yields FSCI from T0 (seed C12-r5m2) -/
theorem atsFsciFwi_t0_only (tl t0 : Nat) (h : t0 &&& 0x20 = 0) : atsFsciFwi [tl, t0] = (t0 % 16, 4) := by
  simp [atsFsciFwi, h]

/-- the INF field of a chunk lies inside the command and has at most MIU octets -/
theorem infField_length (c : Bytes) (o m : Nat) : (infField c o m).length ≤ m := by
  simp [infField]; omega

end NfcVerif.T34OpsRef
