import NfcVerif.Model.Collect
/-! Lemmas for C10: every dequeue path respects the size it is called with; the aggregation loops keep the
information field of the aggregate within the MIU - also when the dequeued UI / I PDUs grow by the ICV of
secure data transfer after the size check.  The walks through `dequeue` / `sendack` of an entry and through the
loops of `collect()` are stated for any invariant (`EntWith`, `Loops`, `collect_keeps`); the size bound is one
instance, `Lemmas/CollectAll.lean` holds the other. -/
namespace NfcVerif.Collect

def QPdu.isData (p : QPdu) : Prop := p.kind = .ui ∨ p.kind = .i
instance (p : QPdu) : Decidable p.isData := inferInstanceAs (Decidable (p.kind = .ui ∨ p.kind = .i))

/-- a PDU (as it is appended to the aggregate) fits the size it was dequeued under -/
def Fit (p : QPdu) (m : Int) : Prop := p.hdr ≤ 3 ∧ (((p.len : Int) - p.hdr ≤ m) ∨ p.len ≤ 3)

def POk (p : QPdu) : Prop := p.hdr ≤ 3
/-- acknowledgements and DM PDUs: 3 octets, never encrypted -/
def Small (p : QPdu) : Prop := p.hdr ≤ 3 ∧ p.len ≤ 3 ∧ ¬ p.isData

/-- the dequeued PDU fits the size it was dequeued under, counting `icv` octets on top of a UI / I PDU -/
def FitE (p : QPdu) (m : Int) (icv : Nat) : Prop := p.hdr ≤ 3 ∧ (((p.size icv : Int) - p.hdr ≤ m) ∨ Small p)

def SockOk : Sock → Prop
  | .raw _ => False
  | .ldl _ q => ∀ p ∈ q, POk p
  | .dlc _ q => ∀ p ∈ q, POk p

def EntOk : Ent → Prop
  | .sap s => (∀ k ∈ s.socks, SockOk k) ∧ (∀ p ∈ s.sendList, Small p)
  | .sd s => ∀ p ∈ s.dmpdu, Small p

theorem size_ge (p : QPdu) (icv : Nat) : p.len ≤ p.size icv := by
  unfold QPdu.size; split <;> omega

/-- `encrypt()` appends the ICV to a UI / I PDU and leaves every other PDU alone -/
theorem encrypt_eq (sec : Option Nat) (p : QPdu) :
    p.encrypt sec = if p.isData then { p with len := p.len + icvOf sec, icv := p.icv + icvOf sec } else p := by
  cases sec with
  | none => split <;> rfl
  | some n => rfl

theorem encrypt_not_data (sec : Option Nat) (p : QPdu) (h : ¬ p.isData) : p.encrypt sec = p := by
  rw [encrypt_eq, if_neg h]

theorem encrypt_hdr (sec : Option Nat) (p : QPdu) : (p.encrypt sec).hdr = p.hdr := by
  rw [encrypt_eq]; split <;> rfl

theorem encrypt_kind (sec : Option Nat) (p : QPdu) : (p.encrypt sec).kind = p.kind := by
  rw [encrypt_eq]; split <;> rfl

theorem encrypt_lim (sec : Option Nat) (p : QPdu) : (p.encrypt sec).lim = p.lim := by
  rw [encrypt_eq]; split <;> rfl

/-- `encrypt()` makes a UI / I PDU exactly `icv_size` octets longer and leaves every other PDU alone -/
theorem encrypt_len (sec : Option Nat) (p : QPdu) : (p.encrypt sec).len = p.size (icvOf sec) := by
  rw [encrypt_eq]
  by_cases h : p.isData
  · rw [if_pos h]; exact (if_pos h).symm
  · rw [if_neg h]; exact (if_neg h).symm

/-- the payload (service data unit) is not changed by `encrypt()` -/
theorem encrypt_payload (sec : Option Nat) (p : QPdu) : (p.encrypt sec).payload = p.payload := by
  rw [encrypt_eq]
  split
  · simp only [QPdu.payload]; omega
  · rfl

theorem small_fitE {p : QPdu} (h : Small p) (m : Int) (icv : Nat) : FitE p m icv := ⟨h.1, Or.inr h⟩

/-- what was dequeued with `icv_size` still fits after `encrypt()` -/
theorem fitE_encrypt {p : QPdu} {m : Int} {sec : Option Nat} (h : FitE p m (icvOf sec)) : Fit (p.encrypt sec) m := by
  refine ⟨by rw [encrypt_hdr]; exact h.1, ?_⟩
  rcases h.2 with h2 | h2
  · left; rw [encrypt_len, encrypt_hdr]; exact h2
  · right; rw [encrypt_not_data sec p h2.2.2]; exact h2.2.1

theorem tco_spec (q : List QPdu) (mo : Option Int) (icv : Nat) :
    (∀ x ∈ (tcoDequeue q mo icv).2, x ∈ q) ∧ ∀ p, (tcoDequeue q mo icv).1 = some p →
      p ∈ q ∧ ∀ m, mo = some m → (p.size icv : Int) - p.hdr ≤ m := by
  cases q with
  | nil => simp [tcoDequeue]
  | cons p0 rest =>
    have hsub : ∀ x ∈ rest, x ∈ p0 :: rest := fun x hx => List.mem_cons_of_mem _ hx
    cases mo with
    | none => exact ⟨hsub, by intro p hp; cases hp; exact ⟨List.mem_cons_self, by simp⟩⟩
    | some m =>
      simp only [tcoDequeue]
      split
      · simp
      · exact ⟨hsub, by intro p hp; cases hp; exact ⟨List.mem_cons_self, by intro m' hm'; cases hm'; omega⟩⟩

theorem ack_small (b : Bool) (n : Nat) : Small (ackPdu b n) := by
  cases b <;> simp [Small, ackPdu, QPdu.isData]

theorem sock_dequeue {s s' : Sock} {m : Int} {icv : Nat} {r : Option QPdu}
    (hs : SockOk s) (h : s.dequeue m icv = (r, s')) :
    SockOk s' ∧ ∀ p, r = some p → FitE p m icv := by
  cases s with
  | raw q => exact absurd hs (by simp [SockOk])
  | ldl sm q =>
    simp only [Sock.dequeue] at h
    obtain ⟨hsub, hp⟩ := tco_spec q (some m) icv
    cases h
    exact ⟨fun x hx => hs x (hsub x hx), fun p hr => ⟨hs p (hp p hr).1, Or.inl ((hp p hr).2 m rfl)⟩⟩
  | dlc d q =>
    simp only [Sock.dequeue] at h
    split at h
    · cases h
      exact ⟨hs, by intro p hp; cases hp; exact small_fitE (ack_small _ _) _ _⟩
    · obtain ⟨hsub, hp⟩ := tco_spec q (some m) icv
      generalize tcoDequeue q (some m) icv = t at h hsub hp
      obtain ⟨a, b⟩ := t
      have hb : ∀ x ∈ b, POk x := fun x hx => hs x (hsub x hx)
      cases a with
      | none =>
        simp only at h
        split at h
        · cases h
          exact ⟨hb, by intro p hp; cases hp; exact small_fitE (ack_small _ _) _ _⟩
        · cases h; exact ⟨hb, by simp⟩
      | some p =>
        simp only at h
        have hfit : FitE p m icv := ⟨hs p (hp p rfl).1, Or.inl ((hp p rfl).2 m rfl)⟩
        split at h
        · cases h; exact ⟨by simp [SockOk], by intro p' hp'; cases hp'; exact hfit⟩
        · split at h <;> (cases h; exact ⟨hb, by intro p' hp'; cases hp'; exact hfit⟩)

theorem sock_sendack {s s' : Sock} {r : Option QPdu} (hs : SockOk s) (h : s.sendack = (r, s')) :
    SockOk s' ∧ ∀ p, r = some p → Small p := by
  cases s with
  | raw q => exact absurd hs (by simp [SockOk])
  | ldl sm q => simp only [Sock.sendack] at h; cases h; exact ⟨hs, by simp⟩
  | dlc d q =>
    simp only [Sock.sendack] at h
    split at h
    · cases h; exact ⟨hs, by intro p hp; cases hp; exact ack_small _ _⟩
    · cases h; exact ⟨hs, by simp⟩

/-- a first-success loop `loop` with the call `f` on each element: `hnil` and `hcons` are its defining equations; they hold
by `rfl` for `socksDequeue` and `socksSendack`, after a case split for `firstSendack` -/
theorem firstSome_lift {α : Type} {S : α → Prop} {D : QPdu → Prop} {f : α → Option QPdu × α}
    {loop : List α → Option QPdu × List α} (hnil : loop [] = (none, []))
    (hcons : ∀ s rest, loop (s :: rest) =
      match (f s).1 with
      | some p => (some p, (f s).2 :: rest)
      | none => ((loop rest).1, (f s).2 :: (loop rest).2))
    (hstep : ∀ s, S s → S (f s).2 ∧ ∀ p, (f s).1 = some p → D p)
    (l : List α) (hl : ∀ k ∈ l, S k) : (∀ k ∈ (loop l).2, S k) ∧ ∀ p, (loop l).1 = some p → D p := by
  induction l with
  | nil => simp [hnil]
  | cons s rest ih =>
    rw [hcons]
    obtain ⟨hb, hfit⟩ := hstep s (hl s (by simp))
    have ihr := ih (fun k hk => hl k (by simp [hk]))
    cases hr : (f s).1 with
    | some p =>
      refine ⟨?_, by intro p' hp'; exact hfit p' (hr.trans hp')⟩
      intro k hk; simp at hk
      rcases hk with rfl | hk
      · exact hb
      · exact hl k (by simp [hk])
    | none =>
      refine ⟨?_, ihr.2⟩
      intro k hk; simp at hk
      rcases hk with rfl | hk
      · exact hb
      · exact ihr.1 k hk

theorem small_fit {p : QPdu} (h : Small p) (m : Int) : Fit p m := ⟨h.1, Or.inr h.2.1⟩

theorem takeSdres_spec (l : List Nat) (m : Int) (n : Nat) (hm : 0 ≤ m) :
    0 ≤ (takeSdres l m n).2.2 ∧ (4 * (takeSdres l m n).1 : Int) + (takeSdres l m n).2.2 = 4 * n + m := by
  induction l generalizing m n with
  | nil => simp [takeSdres, hm]
  | cons x rest ih =>
    simp only [takeSdres]
    split
    · rename_i h4
      have := ih (m - 4) (n + 1) (by omega)
      constructor
      · exact this.1
      · rw [this.2]; push_cast; omega
    · simp [hm]

theorem takeSdreq_spec (k : Nat) (q : List (Nat × Nat)) (m : Int) (acc : Nat) (hm : 0 ≤ m) :
    ((takeSdreq k q m acc).1 : Int) ≤ acc + m := by
  induction k generalizing q m acc with
  | zero => simp only [takeSdreq]; omega
  | succ k ih =>
    cases q with
    | nil => simp only [takeSdreq]; omega
    | cons x rest =>
      obtain ⟨tid, nl⟩ := x
      simp only [takeSdreq]
      split
      · exact ih _ m acc hm
      · rename_i hfit
        have := ih rest (m - (3 + nl)) (acc + (3 + nl)) (by omega)
        push_cast at this ⊢
        omega

theorem snl_size (l icv : Nat) : (snlPdu l).size icv = l := by simp [snlPdu, QPdu.size]

def EntWith (S : Sock → Prop) (L : List QPdu → Prop) : Ent → Prop
  | .sap s => (∀ k ∈ s.socks, S k) ∧ L s.sendList
  | .sd s => L s.dmpdu

section entries
variable {S : Sock → Prop} {P0 D : QPdu → Prop} {m : Int} {icv : Nat}

/-- `ServiceDiscovery.dequeue`: an SNL PDU batching answers and requests, or the head of the DM list -/
theorem sd_dequeue_with (h0 : ∀ p, P0 p → D p)
    (hsnl : ∀ s : Sd, D (snlPdu (2 + 4 * (takeSdres s.sdres m 0).1 +
      (takeSdreq s.sdreq.length s.sdreq (takeSdres s.sdres m 0).2.2 0).1)))
    {s s' : Sd} {r : Option QPdu} (hs : ∀ p ∈ s.dmpdu, P0 p) (h : s.dequeue m = (r, s')) :
    (∀ p ∈ s'.dmpdu, P0 p) ∧ ∀ p, r = some p → D p := by
  unfold Sd.dequeue at h
  split at h
  · simp only at h
    cases h
    exact ⟨hs, by intro p hp; cases hp; exact hsnl s⟩
  · split at h
    · rename_i p rest hd
      split at h
      · cases h
        refine ⟨fun x hx => hs x (by rw [hd]; simp [hx]), ?_⟩
        intro p' hp'; cases hp'
        exact h0 p (hs p (by rw [hd]; simp))
      · cases h; exact ⟨hs, by simp⟩
    · cases h; exact ⟨hs, by simp⟩

theorem ent_dequeue_with (hS : ∀ s s' r, S s → s.dequeue m icv = (r, s') → S s' ∧ ∀ p, r = some p → D p)
    (h0 : ∀ p, P0 p → D p)
    (hsnl : ∀ s : Sd, D (snlPdu (2 + 4 * (takeSdres s.sdres m 0).1 +
      (takeSdreq s.sdreq.length s.sdreq (takeSdres s.sdres m 0).2.2 0).1)))
    {e e' : Ent} {r : Option QPdu} (he : EntWith S (fun l => ∀ p ∈ l, P0 p) e) (h : e.dequeue m icv = (r, e')) :
    EntWith S (fun l => ∀ p ∈ l, P0 p) e' ∧ ∀ p, r = some p → D p := by
  cases e with
  | sd s =>
    simp only [Ent.dequeue] at h
    cases hr : s.dequeue m with
    | mk a b =>
      rw [hr] at h; cases h
      exact sd_dequeue_with h0 hsnl he hr
  | sap s =>
    simp only [Ent.dequeue, Sap.dequeue] at h
    have hsd := firstSome_lift (loop := fun l => socksDequeue l m icv) rfl (fun _ _ => rfl)
      (fun k hk => hS k _ _ hk rfl) s.socks he.1
    cases hr : socksDequeue s.socks m icv with
    | mk a b =>
      rw [hr] at h hsd
      cases a with
      | some p =>
        simp only at h; cases h
        exact ⟨⟨hsd.1, he.2⟩, hsd.2⟩
      | none =>
        simp only at h
        split at h
        · cases h; exact ⟨⟨hsd.1, he.2⟩, by simp⟩
        · rename_i p rest hsl
          cases h
          refine ⟨⟨hsd.1, fun x hx => he.2 x (by rw [hsl]; simp [hx])⟩, ?_⟩
          intro p' hp'; cases hp'
          exact h0 p (he.2 p (by rw [hsl]; simp))

theorem ent_sendack_with {L : List QPdu → Prop} (hS : ∀ s s' r, S s → s.sendack = (r, s') → S s' ∧ ∀ p, r = some p → D p)
    {e e' : Ent} {r : Option QPdu} (he : EntWith S L e) (h : e.sendack = (r, e')) :
    EntWith S L e' ∧ ∀ p, r = some p → D p := by
  cases e with
  | sd s => simp only [Ent.sendack] at h; cases h; exact ⟨he, by simp⟩
  | sap s =>
    simp only [Ent.sendack, Sap.sendack] at h
    cases h
    have := firstSome_lift (loop := socksSendack) rfl (fun _ _ => rfl) (fun k hk => hS k _ _ hk rfl) s.socks he.1
    exact ⟨⟨this.1, he.2⟩, this.2⟩

end entries

theorem entOk_with (e : Ent) : EntOk e ↔ EntWith SockOk (fun l => ∀ p ∈ l, Small p) e := by
  cases e <;> exact Iff.rfl

theorem snl_fitE (s : Sd) (m : Int) (icv : Nat) (hm : 0 ≤ m) :
    FitE (snlPdu (2 + 4 * (takeSdres s.sdres m 0).1 +
      (takeSdreq s.sdreq.length s.sdreq (takeSdres s.sdres m 0).2.2 0).1)) m icv := by
  have h1 := takeSdres_spec s.sdres m 0 hm
  have h2 := takeSdreq_spec s.sdreq.length s.sdreq (takeSdres s.sdres m 0).2.2 0 h1.1
  refine ⟨by simp [snlPdu], Or.inl ?_⟩
  rw [snl_size]
  simp only [snlPdu]
  push_cast
  omega

theorem sd_dequeue {s s' : Sd} {m : Int} {r : Option QPdu} (icv : Nat) (hs : ∀ p ∈ s.dmpdu, Small p) (hm : 0 ≤ m)
    (h : s.dequeue m = (r, s')) :
    (∀ p ∈ s'.dmpdu, Small p) ∧ ∀ p, r = some p → FitE p m icv :=
  sd_dequeue_with (fun _ hp => small_fitE hp m icv) (fun s => snl_fitE s m icv hm) hs h

theorem ent_dequeue {e e' : Ent} {m : Int} {icv : Nat} {r : Option QPdu} (he : EntOk e) (hm : 0 ≤ m)
    (h : e.dequeue m icv = (r, e')) : EntOk e' ∧ ∀ p, r = some p → FitE p m icv := by
  rw [entOk_with] at he ⊢
  exact ent_dequeue_with (fun _ _ _ hs h => sock_dequeue hs h) (fun _ hp => small_fitE hp m icv)
    (fun s => snl_fitE s m icv hm) he h

theorem ent_sendack {e e' : Ent} {r : Option QPdu} (he : EntOk e) (h : e.sendack = (r, e')) :
    EntOk e' ∧ ∀ p, r = some p → Small p := by
  rw [entOk_with] at he ⊢
  exact ent_sendack_with (fun _ _ _ hs h => sock_sendack hs h) he h

def EntsOk (es : List Ent) : Prop := ∀ e ∈ es, EntOk e
/-- the information field of the aggregate `subs` (its length without the 2 octets of the AGF header) is within `M` -/
def AgfOk (M : Nat) (subs : List QPdu) : Prop := (agfLen subs : Int) - 2 ≤ M

theorem agfLen_append (subs : List QPdu) (p : QPdu) : agfLen (subs ++ [p]) = agfLen subs + 2 + p.len := by
  simp [agfLen, List.sum_append]; omega

theorem agfOk_append {M : Nat} {subs : List QPdu} {p : QPdu} (hb : 0 ≤ budget M subs)
    (hf : Fit p (budget M subs)) : AgfOk M (subs ++ [p]) := by
  unfold AgfOk; rw [agfLen_append]
  unfold budget at hb hf
  obtain ⟨h3, hf⟩ := hf
  push_cast
  rcases hf with hf | hf <;> omega

/-! The loops of `collect()`, for any invariant: `E` is what every entry keeps; a `dequeue` under a non-negative size
returns a `D` PDU, a `sendack` an `A` PDU; `L p0` is what holds of the aggregate under construction that began with `p0`.
The size handed to `dequeue` is never negative: the loops stop as soon as the budget is. -/

structure Loops (E : Ent → Prop) (D : Int → Nat → QPdu → Prop) (A : QPdu → Prop) (L : QPdu → List QPdu → Prop)
    (M : Nat) (sec : Option Nat) : Prop where
  deq : ∀ {e e' m icv r}, E e → 0 ≤ m → e.dequeue m icv = (r, e') → E e' ∧ ∀ p, r = some p → D m icv p
  ack : ∀ {e e' r}, E e → e.sendack = (r, e') → E e' ∧ ∀ p, r = some p → A p
  appD : ∀ {p0 subs p}, L p0 subs → 0 ≤ budget M subs → D (budget M subs) (icvOf sec) p → L p0 (subs ++ [p.encrypt sec])
  appA : ∀ {p0 subs p}, L p0 subs → 0 ≤ budget M subs → A p → L p0 (subs ++ [p])

section loops
variable {E : Ent → Prop} {D : Int → Nat → QPdu → Prop} {A : QPdu → Prop} {L : QPdu → List QPdu → Prop} {M : Nat}
  {sec : Option Nat} {p0 : QPdu}

theorem forall_mem_set {α : Type} {P : α → Prop} {l : List α} {i : Nat} {a : α} (h : ∀ x ∈ l, P x) (ha : P a) :
    ∀ x ∈ l.set i a, P x := by
  intro x hx
  rcases List.mem_or_eq_of_mem_set hx with h1 | h1
  · exact h x h1
  · rw [h1]; exact ha

theorem aggPass_keeps (g : Loops E D A L M sec) (es : List Ent) : ∀ (subs : List QPdu) (nf : Bool), (∀ e ∈ es, E e) →
    L p0 subs → 0 ≤ budget M subs →
    (∀ e ∈ (aggPass M sec es subs nf).1, E e) ∧ L p0 (aggPass M sec es subs nf).2.1 := by
  induction es with
  | nil => intro subs nf _ hs _; simpa [aggPass] using hs
  | cons e rest ih =>
    intro subs nf hes hs hb
    rw [List.forall_mem_cons] at hes
    simp only [aggPass]
    cases hr : e.dequeue (budget M subs) (icvOf sec) with
    | mk a e' =>
      obtain ⟨he', hp⟩ := g.deq hes.1 hb hr
      cases a with
      | some p =>
        simp only
        have hs' := g.appD hs hb (hp p rfl)
        split
        · exact ⟨List.forall_mem_cons.2 ⟨he', hes.2⟩, hs'⟩
        · have := ih (subs ++ [p.encrypt sec]) false hes.2 hs' (by omega)
          exact ⟨List.forall_mem_cons.2 ⟨he', this.1⟩, this.2⟩
      | none =>
        simp only
        have := ih subs nf hes.2 hs hb
        exact ⟨List.forall_mem_cons.2 ⟨he', this.1⟩, this.2⟩

theorem aggLoop_keeps (g : Loops E D A L M sec) (fuel : Nat) : ∀ (es : List Ent) (subs : List QPdu), (∀ e ∈ es, E e) →
    L p0 subs → (∀ e ∈ (aggLoop M sec fuel es subs).1, E e) ∧ L p0 (aggLoop M sec fuel es subs).2 := by
  induction fuel with
  | zero => intro es subs h hs; exact ⟨h, hs⟩
  | succ fuel ih =>
    intro es subs hes hs
    simp only [aggLoop]
    split
    · exact ⟨hes, hs⟩
    · have hp := aggPass_keeps g es subs true hes hs (by omega)
      split
      · exact hp
      · exact ih _ _ hp.1 hp.2

theorem aggAcks_keeps (g : Loops E D A L M sec) (es : List Ent) : ∀ (subs : List QPdu), (∀ e ∈ es, E e) → L p0 subs →
    0 ≤ budget M subs → (∀ e ∈ (aggAcks M es subs).1, E e) ∧ L p0 (aggAcks M es subs).2 := by
  induction es with
  | nil => intro subs _ hs _; simpa [aggAcks] using hs
  | cons e rest ih =>
    intro subs hes hs hb
    rw [List.forall_mem_cons] at hes
    simp only [aggAcks]
    split
    · cases hr : e.sendack with
      | mk a e' =>
        obtain ⟨he', hp⟩ := g.ack hes.1 hr
        cases a with
        | some p =>
          simp only
          have hs' := g.appA hs hb (hp p rfl)
          split
          · exact ⟨List.forall_mem_cons.2 ⟨he', hes.2⟩, hs'⟩
          · have := ih (subs ++ [p]) hes.2 hs' (by omega)
            exact ⟨List.forall_mem_cons.2 ⟨he', this.1⟩, this.2⟩
        | none =>
          simp only
          have := ih subs hes.2 hs hb
          exact ⟨List.forall_mem_cons.2 ⟨he', this.1⟩, this.2⟩
    · have := ih subs hes.2 hs hb
      exact ⟨List.forall_mem_cons.2 ⟨hes.1, this.1⟩, this.2⟩

theorem firstDequeue_keeps (g : Loops E D A L M sec) (m : Int) (hm : 0 ≤ m) (order : List Nat) : ∀ (es : List Ent),
    (∀ e ∈ es, E e) →
    (∀ e ∈ (firstDequeue m order es).2, E e) ∧ ∀ p, (firstDequeue m order es).1 = some p → D m 0 p := by
  induction order with
  | nil => intro es h; exact ⟨h, fun p hp => by cases hp⟩
  | cons i rest ih =>
    intro es hes
    simp only [firstDequeue]
    split
    · exact ih es hes
    · rename_i e hget
      cases hr : e.dequeue m 0 with
      | mk a e' =>
        obtain ⟨he', hfit⟩ := g.deq (hes e (List.mem_of_getElem? hget)) hm hr
        cases a with
        | some p => simp only; exact ⟨forall_mem_set hes he', hfit⟩
        | none => simp only; exact ih _ (forall_mem_set hes he')

theorem aggregate_keeps (g : Loops E D A L M sec) (es : List Ent) (p : QPdu) (hes : ∀ e ∈ es, E e) (hp : L p [p])
    (f : Frame) (es' : List Ent) (h : aggregate es M sec p = (some f, es')) :
    (∀ e ∈ es', E e) ∧ (f = .single p ∨ ∃ subs, f = .agf subs ∧ 1 < subs.length ∧ L p subs) := by
  unfold aggregate at h
  simp only at h
  have hl := aggLoop_keeps g (M + 1) es [p] hes hp
  generalize aggLoop M sec (M + 1) es [p] = l at h hl
  have ha : (∀ e ∈ (if budget M l.2 ≥ 0 then aggAcks M l.1 l.2 else l).1, E e) ∧
      L p (if budget M l.2 ≥ 0 then aggAcks M l.1 l.2 else l).2 := by
    split
    · rename_i hb; exact aggAcks_keeps g l.1 l.2 hl.1 hl.2 hb
    · exact hl
  generalize (if budget M l.2 ≥ 0 then aggAcks M l.1 l.2 else l) = a at h ha
  cases h
  refine ⟨ha.1, ?_⟩
  split
  · rename_i hlen; exact Or.inr ⟨a.2, rfl, hlen, ha.2⟩
  · exact Or.inl rfl

/-- the first PDU `p` of a frame is a dequeued one after `encrypt()`, or a voluntary acknowledgement -/
theorem collect_keeps (g : Loops E D A L M sec) (hD : ∀ p, D M 0 p → L (p.encrypt sec) [p.encrypt sec])
    (hA : ∀ p, A p → L p [p]) (es : List Ent) (agf : Bool) (hes : ∀ e ∈ es, E e) (fo : Option Frame) (es' : List Ent)
    (h : collect es M sec agf = (fo, es')) :
    (∀ e ∈ es', E e) ∧ ∀ f, fo = some f → ∃ p, ((∃ q, D M 0 q ∧ p = q.encrypt sec) ∨ A p) ∧
      (f = .single p ∨ ∃ subs, f = .agf subs ∧ 1 < subs.length ∧ L p subs) := by
  have hagg : ∀ es1 p, (∀ e ∈ es1, E e) → L p [p] → aggregate es1 M sec p = (fo, es') →
      (∀ e ∈ es', E e) ∧ ∀ f, fo = some f → f = .single p ∨ ∃ subs, f = .agf subs ∧ 1 < subs.length ∧ L p subs := by
    intro es1 p h1 h2 h3
    cases fo with
    | none => simp [aggregate] at h3
    | some f =>
      have := aggregate_keeps g es1 p h1 h2 f es' h3
      exact ⟨this.1, fun f' hf' => by cases hf'; exact this.2⟩
  unfold collect at h
  simp only at h
  have hf := firstDequeue_keeps g (M : Int) (Int.natCast_nonneg _) (rawFirst es) es hes
  generalize firstDequeue (M : Int) (rawFirst es) es = first at h hf
  obtain ⟨fo1, fes⟩ := first
  cases fo1 with
  | some q =>
    have hq := hf.2 q rfl
    simp only at h
    split at h
    · cases h; exact ⟨hf.1, fun f hf' => by cases hf'; exact ⟨_, Or.inl ⟨q, hq, rfl⟩, Or.inl rfl⟩⟩
    · split at h
      · cases h; exact ⟨hf.1, fun f hf' => by cases hf'; exact ⟨_, Or.inl ⟨q, hq, rfl⟩, Or.inl rfl⟩⟩
      · have := hagg _ _ hf.1 (hD q hq) h
        exact ⟨this.1, fun f hf' => ⟨_, Or.inl ⟨q, hq, rfl⟩, this.2 f hf'⟩⟩
  | none =>
    simp only at h
    have hk : (∀ e ∈ (firstSendack fes).2, E e) ∧ ∀ p, (firstSendack fes).1 = some p → A p :=
      firstSome_lift (loop := firstSendack) (f := fun e => if e.mode = .dlc then e.sendack else (none, e)) rfl
        (fun e rest => by simp only [firstSendack]; split <;> rfl)
        (fun e he => by
          split
          · exact g.ack he rfl
          · exact ⟨he, by simp⟩) fes hf.1
    generalize firstSendack fes = k at h hk
    obtain ⟨ko, kes⟩ := k
    cases ko with
    | none => simp only at h; cases h; exact ⟨hk.1, fun f hf' => by cases hf'⟩
    | some p =>
      have hp := hk.2 p rfl
      simp only at h
      split at h
      · cases h; exact ⟨hk.1, fun f hf' => by cases hf'; exact ⟨_, Or.inr hp, Or.inl rfl⟩⟩
      · have := hagg _ _ hk.1 (hA p hp) h
        exact ⟨this.1, fun f hf' => ⟨_, Or.inr hp, this.2 f hf'⟩⟩

end loops

/-- the size invariants: the aggregate is still the first PDU alone, or its information field is within the MIU -/
theorem loops_ok (M : Nat) (sec : Option Nat) :
    Loops EntOk (fun m icv p => FitE p m icv) Small (fun p0 subs => subs = [p0] ∨ AgfOk M subs) M sec where
  deq := ent_dequeue
  ack := ent_sendack
  appD := fun _ hb hf => Or.inr (agfOk_append hb (fitE_encrypt hf))
  appA := fun _ hb hs => Or.inr (agfOk_append hb (small_fit hs _))

theorem entsOk_set {es : List Ent} {i : Nat} {e : Ent} (h : EntsOk es) (he : EntOk e) : EntsOk (es.set i e) :=
  forall_mem_set h he

/-- the octets by which the information field of a frame may exceed the Link MIU: the ICV of a single
(not aggregated) encrypted UI / I PDU - `collect()` asks for the first PDU with `icv_size=0` "because for
encrypted but not aggregated UI and I PDUs the receiver must accept them with complete MIU plus ICV size"
(llc.py) - and nothing for every other frame, in particular nothing for an aggregate -/
def Frame.slack (sec : Option Nat) : Frame → Nat
  | .single p => if p.isData then icvOf sec else 0
  | .agf _ => 0

/-- the first PDU: dequeued with `icv_size=0`, then encrypted -/
theorem first_info {p : QPdu} {M : Nat} (sec : Option Nat) (h : FitE p M 0) (hM : 3 ≤ M) :
    (p.encrypt sec).info ≤ M + (Frame.single (p.encrypt sec)).slack sec := by
  -- before `encrypt()`: the size test of `dequeue` with `icv_size=0`, or a PDU of at most 3 octets
  have hlen : p.len ≤ M + p.hdr := by
    rcases h.2 with h2 | h2
    · have := size_ge p 0; omega
    · have := h2.2.1; omega
  unfold QPdu.info
  rw [encrypt_len, encrypt_hdr]
  simp only [Frame.slack, QPdu.isData, encrypt_kind]
  unfold QPdu.size
  -- a UI / I PDU grew by the ICV, which is the slack; any other PDU did not grow
  by_cases hd : p.kind = .ui ∨ p.kind = .i
  · rw [if_pos hd, if_pos hd]; omega
  · rw [if_neg hd, if_neg hd]; omega

/-- main bound: the information field of the frame is within the Link MIU; only a single encrypted
UI / I PDU carries its ICV on top -/
theorem collect_bound (es : List Ent) (M : Nat) (sec : Option Nat) (agf : Bool) (hes : EntsOk es) (hM : 3 ≤ M)
    (fo : Option Frame) (es' : List Ent) (h : collect es M sec agf = (fo, es')) :
    EntsOk es' ∧ ∀ f, fo = some f → f.info ≤ M + f.slack sec := by
  obtain ⟨h1, h2⟩ := collect_keeps (loops_ok M sec) (fun _ _ => Or.inl rfl) (fun _ _ => Or.inl rfl) es agf hes fo es' h
  refine ⟨h1, fun f hf => ?_⟩
  obtain ⟨p, hp, hshape⟩ := h2 f hf
  rcases hshape with rfl | ⟨subs, rfl, hlen, hs⟩
  · rcases hp with ⟨q, hq, rfl⟩ | hsm
    · exact first_info sec hq hM
    · simp only [Frame.info]; unfold QPdu.info; have := hsm.2.1; omega
  · rcases hs with hs | hs
    · rw [hs] at hlen; simp at hlen
    · unfold AgfOk at hs; simp only [Frame.info, Frame.slack]; omega

/-! ## the `while miu_size >= 0` loop terminates: the fuel of the model is never exhausted -/

theorem agfLen_le_append (subs : List QPdu) (p : QPdu) : agfLen subs + 2 ≤ agfLen (subs ++ [p]) := by
  rw [agfLen_append]; omega

/-- a pass that dequeued something made the aggregate at least 2 octets longer -/
theorem aggPass_grows (M : Nat) (sec : Option Nat) (es : List Ent) : ∀ (subs : List QPdu) (nf : Bool),
    agfLen subs ≤ agfLen (aggPass M sec es subs nf).2.1 ∧
    ((aggPass M sec es subs nf).2.2 = false → nf = false ∨ agfLen subs + 2 ≤ agfLen (aggPass M sec es subs nf).2.1) := by
  induction es with
  | nil => intro subs nf; cases nf <;> simp [aggPass]
  | cons e rest ih =>
    intro subs nf
    simp only [aggPass]
    cases hr : e.dequeue (budget M subs) (icvOf sec) with
    | mk a e' =>
      cases a with
      | some p =>
        simp only
        have hg := agfLen_le_append subs (p.encrypt sec)
        split
        · dsimp only
          exact ⟨by omega, fun _ => Or.inr hg⟩
        · have := (ih (subs ++ [p.encrypt sec]) false).1
          dsimp only
          exact ⟨by omega, fun _ => Or.inr (by omega)⟩
      | none =>
        simp only
        exact ih subs nf

theorem aggLoop_fuel (M : Nat) (sec : Option Nat) (fuel : Nat) : ∀ (es : List Ent) (subs : List QPdu),
    budget M subs < fuel → aggLoop M sec (fuel + 1) es subs = aggLoop M sec fuel es subs := by
  induction fuel with
  | zero =>
    intro es subs hb
    simp only [aggLoop]
    rw [if_pos (by omega)]
  | succ fuel ih =>
    intro es subs hb
    rw [aggLoop, aggLoop]
    split
    · rfl
    · simp only
      split
      · rfl
      · rename_i hnb hcont
        have hg := (aggPass_grows M sec es subs true).2
        have hflag : (aggPass M sec es subs true).2.2 = false := by
          cases hx : (aggPass M sec es subs true).2.2 with
          | false => rfl
          | true => exact absurd (Or.inr hx) hcont
        have := hg hflag
        apply ih
        rcases this with h | h
        · cases h
        · unfold budget at hb ⊢; omega

end NfcVerif.Collect
