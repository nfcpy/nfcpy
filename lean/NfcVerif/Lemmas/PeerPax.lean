import NfcVerif.Model.PeerPax
import NfcVerif.Model.PeerT3Gen
import NfcVerif.Lemmas.PduSafe
/-!
# C07: general bytes, Type 3 Tag emulation, exception flow

`llc.activate` on any general bytes (`pax_total`): the octets `00 40` put before the parameters make
`pdu.decode` take its PAX branch, which yields a PAX PDU or `DecodeError`.  The exceptions of the repaired
decoders (`PeerExc`) are among those the link loop catches (`runLoop_peer`).

The two parsing loops of the emulation are treated here for both of its models (`Model/T3Emu`,
`Model/PeerT3Gen`), each in one induction that gives what the loop may raise and the shape of what it
hands on (`parseServices_tri`, `parseBlocks_tri`); `process_command` itself is in `Lemmas/PeerT3.lean`
and `Lemmas/PeerT3Gen.lean`.
-/
namespace NfcVerif.Peer
open NfcVerif.Pdu

theorem decPax_shape {d : Bytes} {off size : Nat} {p : SPdu} (h : Impl.decPax d off size = .ok p) :
    ∃ a b v m w l o, p = .pax a b v m w l o := by
  unfold Impl.decPax at h
  obtain ⟨⟨dsap, ssap⟩, _, h⟩ := Py.bind_eq_ok.mp h
  simp only at h
  split at h
  · cases h
  · obtain ⟨st, _, h⟩ := Py.bind_eq_ok.mp h
    cases h
    exact ⟨_, _, _, _, _, _, _, rfl⟩

theorem decodePre_pax (t : Bytes) :
    Impl.decodePre (0 :: 0x40 :: t) 0 (0 :: 0x40 :: t).length = .ok (0 :: 0x40 :: t, 1) := by
  unfold Impl.decodePre
  have h1 : ¬ (0 + (0 :: 0x40 :: t).length > (0 :: 0x40 :: t).length) := by omega
  have h2 : ¬ ((0 :: 0x40 :: t).length < 2) := by simp
  rw [if_neg h1, if_neg h2]
  have hs : sliceN (0 :: 0x40 :: t) 0 (0 + (0 :: 0x40 :: t).length) = 0 :: 0x40 :: t := by
    simp [sliceN]
  simp only [hs]
  rfl

theorem decode_pax_shape (t : Bytes) {p : Pdu} (h : Impl.decode (0 :: 0x40 :: t) = .ok p) :
    ∃ a b v m w l o, p = .simple (.pax a b v m w l o) := by
  unfold Impl.decode Impl.decodeAt at h
  rw [decodePre_pax t] at h
  simp only [Py.bind_ok] at h
  change (Impl.decPax (0 :: 0x40 :: t) 0 (0 :: 0x40 :: t).length >>= fun p => pure (Pdu.simple p)) = .ok p at h
  obtain ⟨q, hq, h⟩ := Py.bind_eq_ok.mp h
  cases h
  obtain ⟨a, b, v, m, w, l, o, rfl⟩ := decPax_shape hq
  exact ⟨_, _, _, _, _, _, _, rfl⟩

theorem pax_total (gb : Option Bytes) : ∃ r, activateGb true gb = .ok r := by
  unfold activateGb
  match gb with
  | none => exact ⟨_, rfl⟩
  | some gb =>
    simp only
    split
    · exact ⟨_, rfl⟩
    · have hd := Impl.decodeAt_safe ([0x00, 0x40] ++ gb.drop 3) 0 ([0x00, 0x40] ++ gb.drop 3).length
      change Safe OnlyDecodeError (Impl.decode ([0x00, 0x40] ++ gb.drop 3)) at hd
      generalize hx : Impl.decode ([0x00, 0x40] ++ gb.drop 3) = x at hd
      match x, hx, hd with
      | .error e, _, hd =>
        have : e = .decodeError := hd e rfl
        subst this
        exact ⟨none, by simp⟩
      | .ok p, hx, _ =>
        obtain ⟨a, b, v, m, w, l, o, rfl⟩ := decode_pax_shape (gb.drop 3) hx
        exact ⟨_, rfl⟩

end NfcVerif.Peer

/-! The service list loop of `Model/PeerT3Gen` (any services), of which `Model/T3Emu`'s is the
instance for tagtool's services; the block list loop of `Model/PeerT3Gen` is `Model/T3Emu`'s. -/
namespace NfcVerif.PeerT3
open NfcVerif.T3Emu (Step)

theorem flag1_lt (i : Nat) : flag1 i < 256 := by
  unfold flag1
  have h : i % 8 < 8 := Nat.mod_lt _ (by decide)
  calc 2 ^ (i % 8) < 2 ^ 8 := Nat.pow_lt_pow_right (by decide) h
    _ = 256 := by decide

theorem mkBytes_ok {l : List Nat} (h : ∀ b ∈ l, b < 256) : mkBytes l = .ok l := by
  unfold mkBytes
  rw [if_pos]
  rw [List.all_eq_true]
  intro b hb
  exact decide_eq_true (h b hb)

theorem mkBytes_flag (i c : Nat) (hc : c < 256) : mkBytes [flag1 i, c] = .ok [flag1 i, c] := by
  apply mkBytes_ok
  intro b hb
  simp only [List.mem_cons, List.not_mem_nil, or_false] at hb
  rcases hb with rfl | rfl
  · exact flag1_lt i
  · exact hc

theorem parseServices_tri {S : Exc → Prop} (hS : S .index) (has : Nat → Bool) (n : Nat) (d : Bytes) (acc : List Nat) :
    Tri S (fun p => ∀ r, p = .done r → r.length = 2) (parseServices has n d acc) := by
  induction n generalizing d acc with
  | zero => unfold parseServices; exact Tri.ok nofun
  | succ n ih =>
    unfold parseServices
    exact (idxN_ix hS _ _).bind fun hi _ => (idxN_ix hS _ _).bind fun lo _ =>
      Tri.ite (fun _ => Tri.ok fun _ h => by cases h; rfl) fun _ => ih _ _

theorem parseBlocks_eq (nsvc n i : Nat) (d : Bytes) (acc : List (Nat × Nat)) :
    parseBlocks nsvc n i d acc = T3Emu.parseBlocks nsvc n i d acc := by
  induction n generalizing i d acc with
  | zero => rfl
  | succ n ih =>
    unfold parseBlocks T3Emu.parseBlocks
    -- the loops differ only in that this one asks `mkBytes` for the two status octets, and they are octets
    simp only [mkBytes_flag i 0xA3 (by decide), Py.bind_ok, ih]
    rfl

end NfcVerif.PeerT3

namespace NfcVerif.Peer
open NfcVerif.Pdu NfcVerif.T3Emu

theorem parseServices_eq (n : Nat) (d : Bytes) (acc : List Nat) :
    parseServices n d acc = PeerT3.parseServices hasService n d acc := by
  induction n generalizing d acc with
  | zero => rfl
  | succ n ih => simp only [parseServices, PeerT3.parseServices, ih]

theorem parseBlocks_tri {S : Exc → Prop} (hS : S .index) (nsvc n i : Nat) (d : Bytes) (acc : List (Nat × Nat)) :
    Tri S (fun p => (∀ r, p = .done r → r.length = 2) ∧
      ∀ bl rest, p = .cont (bl, rest) → bl.length = acc.length + n) (parseBlocks nsvc n i d acc) := by
  induction n generalizing i d acc with
  | zero =>
    unfold parseBlocks
    exact Tri.ok ⟨nofun, fun _ _ h => by cases h; rfl⟩
  | succ n ih =>
    have next : ∀ d' x, Tri S (fun p => (∀ r, p = .done r → r.length = 2) ∧
        ∀ bl rest, p = .cont (bl, rest) → bl.length = acc.length + (n + 1))
        (parseBlocks nsvc n (i + 1) d' (acc ++ [x])) := fun d' x =>
      (ih _ d' (acc ++ [x])).mono (fun _ h => h) fun p hp => ⟨hp.1, fun bl rest h => by
        have := hp.2 bl rest h
        simp only [List.length_append, List.length_cons, List.length_nil] at this
        omega⟩
    unfold parseBlocks
    match d with
    | [] => exact Tri.ok ⟨fun _ h => by cases h; rfl, nofun⟩
    | b0 :: r =>
      refine Tri.ite (fun _ => ?_) fun _ => Tri.ite (fun _ => ?_) fun _ => ?_
      · -- the service list has no such position: `xx A3`
        exact Tri.ok ⟨fun _ h => by cases h; rfl, nofun⟩
      · -- element of two octets
        exact (idxN_ix hS _ _).bind fun bn _ => next _ _
      · -- element of three octets
        exact (idxN_ix hS _ _).bind fun hi _ => (idxN_ix hS _ _).bind fun lo _ => next _ _

/-- what the repaired decoders (frames, PDUs) and the driver can raise at the link loop -/
def PeerExc (e : Exc) : Prop :=
  e = .protocol ∨ e = .transmission ∨ e = .timeout ∨ e = .brokenLink ∨ e = .decodeError

theorem peerExc_caught {e : Exc} (h : PeerExc e) : (isComm e || isPduError e) = true := by
  rcases h with h | h | h | h | h <;> subst h <;> rfl

theorem runLoop_peer {α : Type} (e : Exc) (h : PeerExc e) (d : α → Py Unit) :
    runLoop (.error e : Py α) d = some ⟨.returned, true⟩ := by
  have hc := peerExc_caught h
  unfold runLoop runTurn llcExchange
  simp only [hc, if_true]
  rfl

end NfcVerif.Peer
