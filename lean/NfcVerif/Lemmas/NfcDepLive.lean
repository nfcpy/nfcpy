import NfcVerif.Lemmas.NfcDepTarget
/-!
# NFC-DEP: a transaction under a sparse fault script succeeds

`sparse K n s`: faults are `l`/`c` only and after a fault the next `K` frames are delivered.  With
`K ≥ 4` one `send_dep_req_recv_dep_res` recovers from the (at most one) fault it meets:
lost/corrupted request or lost response -> ATN exchange, then the request again (four frames, hence
`K ≥ 4`); corrupted response -> NAK.
Generic over the peer (`LiveHyp`: `TXHyp` and every delivered frame answered, with an answer the Initiator
accepts, `Accepts`).
Then, for the Target: the outcome of one transaction in phase terms (`TTx`: accepted at most once, and from a
`Calm` air, one whose script is sparse for some `K ≥ 4`, successful and `Calm` again), from `transact_tx` and
`transact_live` together (`transact_ttx`), for each of the three transactions the Initiator makes
(`transact_more`, `transact_inf`, `transact_ack`).
-/
namespace NfcVerif.NfcDep
open NfcVerif
variable {σ : Type}

/-- `sparse K n s`: the next `n` frames are delivered, a fault is `l` or `c` only, and after a fault
the next `K` frames are delivered -/
def sparse (K : Nat) : Nat → List Fault → Bool
  | _, [] => true
  | n, .d :: s => sparse K (n - 1) s
  | 0, .l :: s => sparse K K s
  | 0, .c :: s => sparse K K s
  | _, _ => false

/-- outcome of one transfer that the peer answers with `res`, under a sparse script: it went through, or it met
the one fault there may be; a timeout leaves open whether the request arrived, a transmission error does not -/
def XLive (K : Nat) (a : Air σ) (res : Pdu) (s' : σ) (n : Nat) (r : Air σ × Py Pdu) : Prop :=
  r.1.expired = false ∧
  ( (r.2 = .ok res ∧ r.1.peer = s' ∧ sparse K (n - 2) r.1.script = true)
  ∨ (n ≤ 1 ∧ sparse K K r.1.script = true ∧
      ((r.2 = .error .timeout ∧ (r.1.peer = a.peer ∨ r.1.peer = s')) ∨ (r.2 = .error .transmission ∧ r.1.peer = s'))) )

theorem xfer_live (K : Nat) (P : Peer σ) (hcor : ∀ s, (P.rx s .corrupt).1 = s) (a : Air σ) (q res : Pdu) (s' : σ) (n : Nat)
    (hs : sparse K n a.script = true) (he : a.expired = false) (hl : ¬ q.tlen + 1 > 255)
    (ho : P.rx a.peer (.frame q) = (s', some res)) (hk : res.kind = q.kind) :
    XLive K a res s' n (xfer P a q) := by
  obtain ⟨script, peer, expired, wire⟩ := a
  simp only at hs he ho
  subst he
  unfold XLive xfer
  simp only [hl, if_false]
  rcases script with _ | ⟨f1, s1⟩
  · simp [Air.next, ho, hk, sparse]
  · cases f1 with
    | d =>
      -- request delivered
      rcases s1 with _ | ⟨f2, s2⟩
      · simp [Air.next, ho, hk, sparse]
      · cases f2 with
        | d =>
          simp [Air.next, ho, hk]
          have : sparse K (n - 1 - 1) s2 = true := by simpa [sparse] using hs
          rw [show n - 2 = n - 1 - 1 by omega]; exact this
        | l | c =>
          -- response lost or corrupted: the peer has moved on
          simp [Air.next, ho]
          cases n with
          | zero => exact ⟨by omega, by simpa [sparse] using hs⟩
          | succ m =>
            cases m with
            | zero => simpa [sparse] using hs
            | succ k => simp [sparse] at hs
        | x =>
          cases n with
          | zero => simp [sparse] at hs
          | succ m => cases m <;> simp [sparse] at hs
    | l | c =>
      -- request lost or corrupted: the peer is where it was
      cases n with
      | zero => simp [Air.next, hcor]; simpa [sparse] using hs
      | succ m => simp [sparse] at hs
    | x => cases n <;> simp [sparse] at hs

/-- `res` is an answer that `send_dep_req_recv_dep_res` returns for a request of format `rf`, whether it arrives at
once or after a NAK: no NAK, no timeout extension, and what `request_retransmission` lets through (INF, MORE, and an
ACK when the request was chained, as repaired F27) -/
def Accepts (c : Cfg) (rf : Option Nat) (res : Pdu) : Prop :=
  ∃ fmt rp did nad data, res = .dep fmt rp did nad data ∧ fmt ≠ fNAK ∧ fmt ≠ fTOX ∧
    (fmt = fINF ∨ fmt = fMORE ∨ (c.v.f27 = true ∧ rf = some fMORE ∧ fmt = fACK))

section live
variable (P : Peer σ) (c : Cfg) (A B : σ → Prop) (res1 : Pdu) (pni : Nat) (req : Pdu)

/-- what makes a transaction SUCCEED, beyond `TXHyp` for the answer `res1`: every delivered frame is answered,
the frames fit the length byte, and the Initiator accepts `res1` -/
structure LiveHyp : Prop extends TXHyp P c A B (some res1) pni req where
  reqLen : ¬ req.tlen + 1 > 255
  atnLen : ¬ (atnPdu c).tlen + 1 > 255
  nakLen : ¬ (Pdu.dep fNAK pni c.idid c.inad []).tlen + 1 > 255
  reqAns : ∀ s, B s → (P.rx s (.frame req)).2 = some res1
  nakAns : ∀ s, B s → (P.rx s (.frame (.dep fNAK pni c.idid c.inad []))).2 = some res1
  atnAns : ∀ s, A s ∨ B s → ∃ p d n, (P.rx s (.frame (atnPdu c))).2 = some (.dep fATN p d n [])
  reqKind : req.kind = .dep
  resOk : Accepts c req.fmt? res1

variable {P c A B res1 pni req}

/-- the call returned `res1` and the script is sparse from there on -/
def LPost (K : Nat) (res1 : Pdu) (r : Air σ × Py Pdu) : Prop :=
  r.2 = .ok res1 ∧ ∃ n', sparse K n' r.1.script = true

theorem reqAttention_live (K : Nat) (X : σ → Prop) (hcor : ∀ s, (P.rx s .corrupt).1 = s)
    (hlen : ¬ (atnPdu c).tlen + 1 > 255)
    (hX : ∀ s, X s → X (P.rx s (.frame (atnPdu c))).1 ∧ ∃ p d n, (P.rx s (.frame (atnPdu c))).2 = some (.dep fATN p d n []))
    (m n : Nat) (a : Air σ) (hn : 2 ≤ n) (hs : sparse K n a.script = true) (he : a.expired = false) (hx : X a.peer) :
    (reqAttention P c (m + 1) a).2 = .ok () ∧ X (reqAttention P c (m + 1) a).1.peer
    ∧ (reqAttention P c (m + 1) a).1.expired = false ∧ sparse K (n - 2) (reqAttention P c (m + 1) a).1.script = true := by
  unfold reqAttention
  simp only [he, Bool.false_eq_true, if_false]
  obtain ⟨hx1, p, d, nn, ho⟩ := hX a.peer hx
  have hk : (Pdu.dep fATN p d nn []).kind = (atnPdu c).kind := by rw [atn_kind]; rfl
  have hl := xfer_live K P hcor a (atnPdu c) (.dep fATN p d nn []) _ n hs he hlen (Prod.ext rfl ho) hk
  generalize xfer P a (atnPdu c) = r at hl ⊢
  obtain ⟨a', u⟩ := r
  obtain ⟨he', hc⟩ := hl
  rcases hc with ⟨h1, h2, h3⟩ | ⟨h0, _⟩
  · simp only at h1 h2 h3 he'
    subst h1
    have h8 : fATN ≠ fTOX := by decide
    simp only [h8, if_false, ne_eq, not_true_eq_false]
    exact ⟨trivial, by rw [h2]; exact hx1, he', h3⟩
  · omega

theorem reqRetrans_live (H : LiveHyp P c A B res1 pni req) (K m n : Nat) (a : Air σ) (hn : 2 ≤ n)
    (hs : sparse K n a.script = true) (he : a.expired = false) (hb : B a.peer) :
    LPost K res1 (reqRetrans P c pni (decide (req.fmt? = some fMORE)) (m + 1) a) := by
  unfold reqRetrans
  simp only [he, Bool.false_eq_true, if_false]
  have ho := H.nakAns a.peer hb
  obtain ⟨fmt, rp, did, nad, data, hres, hnak, htox, hacc⟩ := H.resOk
  have hk : res1.kind = (Pdu.dep fNAK pni c.idid c.inad []).kind := by rw [hres]; rfl
  have hl := xfer_live K P H.cor a _ res1 _ n hs he H.nakLen (Prod.ext rfl ho) hk
  generalize xfer P a (.dep fNAK pni c.idid c.inad []) = r at hl ⊢
  obtain ⟨a', u⟩ := r
  obtain ⟨he', hc⟩ := hl
  rcases hc with ⟨h1, h2, h3⟩ | ⟨h0, _⟩
  · simp only at h1 h3
    subst h1
    subst hres
    have hcond : fmt = fINF ∨ fmt = fMORE ∨ (c.v.f27 = true ∧ decide (req.fmt? = some fMORE) = true ∧ fmt = fACK) := by
      rcases hacc with h | h | ⟨h1, h2, h3⟩
      · exact Or.inl h
      · exact Or.inr (Or.inl h)
      · exact Or.inr (Or.inr ⟨h1, by simpa using h2, h3⟩)
    simp only [htox, if_false, hcond, if_true]
    exact ⟨rfl, _, h3⟩
  · omega

theorem nakCheck_live (H : LiveHyp P c A B res1 pni req) (a : Air σ) : nakCheck a res1 = (a, .ok res1) := by
  obtain ⟨fmt, rp, did, nad, data, hres, hnak, _⟩ := H.resOk
  subst hres
  simp [nakCheck, hnak]

/-- `2 ≤ n ∨ 1 ≤ fuel`: the request goes through at once when two deliveries are guaranteed; else the one fault the
spacing allows is met and repaired (ATN and the request again, or NAK), and the request again is a second turn of
the loop, with `K - 2 ≥ 2` deliveries guaranteed -/
theorem sendDepLoop_live (H : LiveHyp P c A B res1 pni req) (K : Nat) (hK : 4 ≤ K) : ∀ (fuel n : Nat) (a : Air σ),
    2 ≤ n ∨ 1 ≤ fuel → sparse K n a.script = true → a.expired = false → A a.peer ∨ B a.peer →
    LPost K res1 (sendDepLoop P c pni req (fuel + 1) a)
  | fuel, n, a, hf, hs, he, hab => by
    unfold sendDepLoop
    simp only [he, Bool.false_eq_true, if_false]
    have hob : B (P.rx a.peer (.frame req)).1 ∧ (P.rx a.peer (.frame req)).2 = some res1 :=
      hab.elim (H.aReq _) (fun h => ⟨(H.bReq _ h).1, H.reqAns _ h⟩)
    obtain ⟨fmt, rp, did, nad, data, hres, _⟩ := H.resOk
    have hk : res1.kind = req.kind := by rw [hres, H.reqKind]; rfl
    have hl := xfer_live K P H.cor a req res1 _ n hs he H.reqLen (Prod.ext rfl hob.2) hk
    generalize xfer P a req = r at hl ⊢
    obtain ⟨a', u⟩ := r
    obtain ⟨he', hc⟩ := hl
    rcases hc with ⟨h1, h2, h3⟩ | ⟨h0, h3, ⟨h1, h2⟩ | ⟨h1, h2⟩⟩
    · simp only at h1 h3
      subst h1
      dsimp only
      rw [nakCheck_live H]
      exact ⟨rfl, _, h3⟩
    · -- request or response lost, request corrupted: ATN, then the request again, accepted or not
      simp only at h1 h2 h3 he'
      subst h1
      dsimp only
      have hab' : A a'.peer ∨ B a'.peer := h2.elim (fun h => h ▸ hab) (fun h => Or.inr (h ▸ hob.1))
      have hat := reqAttention_live (c := c) K (fun s => A s ∨ B s) H.cor H.atnLen
        (fun s h => ⟨h.imp (H.aAtn s) (H.bAtn s), H.atnAns s h⟩) 1 K a' (by omega) h3 he' hab'
      generalize reqAttention P c 2 a' = r2 at hat ⊢
      obtain ⟨a2, u2⟩ := r2
      obtain ⟨hu, hab2, he2, hs2⟩ := hat
      simp only at hu hab2 he2 hs2
      subst hu
      match fuel, hf with
      | fuel' + 1, _ => exact sendDepLoop_live H K hK fuel' (K - 2) a2 (Or.inl (by omega)) hs2 he2 hab2
      | 0, hf => omega
    · -- response corrupted: the Target has accepted, NAK
      simp only at h1 h2 h3 he'
      subst h1
      dsimp only
      have hr := reqRetrans_live H K 1 K a' (by omega) h3 he' (h2 ▸ hob.1)
      generalize reqRetrans P c pni (decide (req.fmt? = some fMORE)) 2 a' = r2 at hr ⊢
      obtain ⟨a2, u2⟩ := r2
      obtain ⟨hu, hs2⟩ := hr
      simp only at hu hs2
      subst hu
      dsimp only
      rw [nakCheck_live H]
      exact ⟨rfl, hs2⟩

theorem transact_live (H : LiveHyp P c A B res1 pni req) (K fuel n : Nat) (hK : 4 ≤ K) (a : Air σ)
    (hs : sparse K n a.script = true) (ha : A a.peer) :
    LPost K res1 (transact P c (fuel + 2) pni a req) := by
  unfold transact sendDep
  have hl := sendDepLoop_live H K hK (fuel + 1) n { a with expired := false } (Or.inr (by omega)) hs rfl (Or.inl ha)
  generalize sendDepLoop P c pni req (fuel + 2) { a with expired := false } = r at hl ⊢
  obtain ⟨a', u⟩ := r
  obtain ⟨hu, hrest⟩ := hl
  simp only at hu
  subst hu
  obtain ⟨fmt, rp, did, nad, data, hres, _, htox, _⟩ := H.resOk
  subst hres
  have : (Pdu.dep fmt rp did nad data).fmt? ≠ some fTOX := by simp [Pdu.fmt?, htox]
  simp only [this, if_false]
  exact ⟨rfl, hrest⟩
end live

theorem tRx_atn_answer (c : Cfg) (hdid : c.tdid = c.idid) (h26 : c.v.f26 = true) (t : TState)
    (hr : t.status = .running) :
    (tRx c t (.frame (atnPdu c))).2 = some (.dep fATN 0 c.tdid none []) := by
  obtain ⟨pni, loc, depRes, tosend, got, status⟩ := t
  simp only at hr
  subst hr
  cases loc <;> simp [atnPdu, h26, tRx, tRx.tRxActive, Pdu.didAttr, hdid]

theorem chunk_fits (c : Cfg) (ht : c.tmiu + 3 + flag c.tdid 1 ≤ 254) (pni : Nat) (d : Bytes) :
    ¬ (chunkPdu c pni d).tlen + 1 > 255 := by
  have := chunkPdu_tlen c 254 ht pni d
  omega

/-- configurations for which recovery is claimed: same DID on both sides, ATN with DID (F26) and ACK
accepted after NAK (F27) as repaired, frames fit the length byte, non-zero information units -/
structure LiveCfg (c : Cfg) : Prop where
  did : c.tdid = c.idid
  f26 : c.v.f26 = true
  f27 : c.v.f27 = true
  isz : c.imiu + 3 + flag c.idid 1 + flag c.inad 1 ≤ 254
  tsz : c.tmiu + 3 + flag c.tdid 1 ≤ 254
  ipos : 0 < c.imiu
  tpos : 0 < c.tmiu

theorem chunk_accepts (c : Cfg) (pni : Nat) (d : Bytes) (rf : Option Nat) : Accepts c rf (chunkPdu c pni d) := by
  refine ⟨_, _, _, _, _, rfl, ?_, ?_, ?_⟩
  · split <;> decide
  · split <;> decide
  · split
    · exact Or.inr (Or.inl rfl)
    · exact Or.inl rfl

/-- the ACK of a chained request, should it have to be asked for again by NAK -/
theorem ack_accepts (c : Cfg) (pni : Nat) (h27 : c.v.f27 = true) : Accepts c (some fMORE) (ackPdu c pni) :=
  ⟨fACK, pni, c.tdid, none, [], rfl, by decide, by decide, Or.inr (Or.inr ⟨h27, rfl, rfl⟩)⟩

/-- the script of `a` is sparse for some spacing from which a transaction recovers -/
def Calm (a : Air σ) : Prop := ∃ K m, 4 ≤ K ∧ sparse K m a.script = true

/-- outcome of one transaction from air `a` with the Target in phase `A`: the request is accepted at most once (`A` to
`B`), and under `live` and a sparse script the transaction succeeds and leaves the script sparse -/
def TTx (A B : TState → Prop) (r1 : Option Pdu) (live : Prop) (a : Air TState) (r : Air TState × Py Pdu) : Prop :=
  ((∃ e, r.2 = .error e) ∧ (A r.1.peer ∨ B r.1.peer) ∧ ¬ (live ∧ Calm a))
  ∨ (∃ res, r.2 = .ok res ∧ r1 = some res ∧ B r.1.peer ∧ (live → Calm a → Calm r.1))

section
variable (c : Cfg) (hdid : c.tdid = c.idid) (fuel : Nat)
include hdid

theorem transact_ttx (A B : TState → Prop) (r1 : Option Pdu) (pniI fmt : Nat) (data : Bytes) (live : Prop)
    (hf : fmt ≠ fATN ∧ fmt ≠ fTOX)
    (hAatn : ∀ t, A t → A (tRx c t (.frame (atnPdu c))).1)
    (hAreq : ∀ t, A t → B (tRx c t (.frame (.dep fmt pniI c.idid c.inad data))).1 ∧
      (tRx c t (.frame (.dep fmt pniI c.idid c.inad data))).2 = r1)
    (hB : ∀ t, B t → PB pniI r1 t)
    (hnt : ∀ res, r1 = some res → res.fmt? ≠ some fTOX)
    (hlive : live → LiveCfg c ∧ 2 ≤ fuel ∧ data.length ≤ c.imiu ∧ (∀ t, A t → t.status = .running) ∧
      ∃ res1, r1 = some res1 ∧ Accepts c (some fmt) res1)
    (a : Air TState) (hA : A a.peer) :
    TTx A B r1 live a (transact (targetPeer c) c fuel pniI a (.dep fmt pniI c.idid c.inad data)) := by
  have hagain : ∀ t, B t → ∀ f, f ≠ fATN ∧ f ≠ fTOX → ∀ d, tRx c t (.frame (.dep f pniI c.idid c.inad d)) = (t, r1) :=
    fun t h f hf d => PB_dep c hdid (hB t h) f hf c.inad d
  have hBatn : ∀ t, B t → B (tRx c t (.frame (atnPdu c))).1 := fun t h => by rw [PB_atn c (hB t h)]; exact h
  have H : TXHyp (targetPeer c) c A B r1 pniI (.dep fmt pniI c.idid c.inad data) :=
    { cor := fun _ => rfl, aAtn := hAatn, aReq := hAreq, bAtn := hBatn
      bReq := fun t h => by
        show B (tRx c t _).1 ∧ ((tRx c t _).2 = r1 ∨ (tRx c t _).2 = none)
        rw [hagain t h fmt hf data]; exact ⟨h, Or.inl rfl⟩
      bNak := fun t h => by
        show B (tRx c t _).1 ∧ ((tRx c t _).2 = r1 ∨ (tRx c t _).2 = none)
        rw [hagain t h fNAK (by decide) []]; exact ⟨h, Or.inl rfl⟩ }
  have hx := transact_tx H hnt fuel a hA
  have hl : live → Calm a → ∃ res1 K, 4 ≤ K ∧
      LPost K res1 (transact (targetPeer c) c fuel pniI a (.dep fmt pniI c.idid c.inad data)) := by
    intro h ⟨K, m, hK, hs⟩
    obtain ⟨L, hfu, hlen, hrun, res1, rfl, hacc⟩ := hlive h
    obtain ⟨F, rfl⟩ : ∃ F, fuel = F + 2 := ⟨fuel - 2, by omega⟩
    have hrunB : ∀ t, B t → t.status = .running := fun t h => (hB t h).elim (fun h => h.1) (fun h => nomatch h.2)
    have fi := flag_le c.idid
    have fn := flag_le c.inad
    have isz := L.isz
    refine ⟨res1, K, hK, transact_live (A := A) (B := B)
      { toTXHyp := H, reqKind := rfl
        reqLen := by rw [tlen_dep]; omega
        atnLen := by unfold atnPdu; split <;> rw [tlen_dep] <;> simp [flag] <;> simp [flag] at fi <;> omega
        nakLen := by rw [tlen_dep]; simp; omega
        reqAns := fun t h => by
          show (tRx c t _).2 = some res1
          rw [hagain t h fmt hf data]
        nakAns := fun t h => by
          show (tRx c t _).2 = some res1
          rw [hagain t h fNAK (by decide) []]
        atnAns := fun t h => ⟨0, c.tdid, none, tRx_atn_answer c hdid L.f26 t (h.elim (hrun t) (hrunB t))⟩
        resOk := hacc } K F m hK a hs hA⟩
  generalize transact (targetPeer c) c fuel pniI a (.dep fmt pniI c.idid c.inad data) = r at hx hl ⊢
  obtain ⟨a', u⟩ := r
  cases u with
  | error e =>
    refine Or.inl ⟨⟨e, rfl⟩, hx.imp (fun h => h.1) (fun h => h.1), fun ⟨h, hC⟩ => ?_⟩
    obtain ⟨_, _, _, hp⟩ := hl h hC
    exact nomatch hp.1
  | ok res =>
    rcases hx with h | h
    · exact absurd rfl (h.2 res)
    · refine Or.inr ⟨res, rfl, h.2 res rfl, h.1, fun hh hC => ?_⟩
      obtain ⟨_, K, hK, _, n', hs'⟩ := hl hh hC
      exact ⟨K, n', hK, hs'⟩

theorem transact_more {pniI : Nat} {acc : Bytes} {g ts : List Bytes} (a : Air TState) (data : Bytes)
    (hA : PData c pniI acc g ts a.peer) :
    TTx (PData c pniI acc g ts) (PPost pniI (.receiving (acc ++ data)) (ackPdu c pniI) g ts)
      (some (ackPdu c pniI)) (LiveCfg c ∧ 2 ≤ fuel ∧ data.length ≤ c.imiu) a
      (transact (targetPeer c) c fuel pniI a (.dep fMORE pniI c.idid c.inad data)) := by
  refine transact_ttx c hdid fuel _ _ _ pniI fMORE data _ (by decide) (fun t h => PData_atn c h)
    (fun t ht => tRx_more c hdid ht c.inad data) (fun t h => h.toPB (by simp)) ?_ ?_ a hA
  · intro res hr; cases hr; simp [ackPdu, Pdu.fmt?]; decide
  · intro ⟨L, hf, hd⟩
    exact ⟨L, hf, hd, fun _ => PData.running, _, rfl, ack_accepts c pniI L.f27⟩

theorem transact_inf {pniI : Nat} {acc : Bytes} {g ts : List Bytes} (a : Air TState) (sd p : Bytes) (hp : p = acc ++ sd)
    (hA : PData c pniI acc g ts a.peer) :
    TTx (PData c pniI acc g ts) (PDone pniI (.sending (ts.headD [])) (infResp c pniI ts) (g ++ [p]) ts.tail)
      (infResp c pniI ts) (LiveCfg c ∧ 2 ≤ fuel ∧ sd.length ≤ c.imiu ∧ ∃ p' ts', ts = p' :: ts' ∧ p' ≠ []) a
      (transact (targetPeer c) c fuel pniI a (.dep fINF pniI c.idid c.inad sd)) := by
  refine transact_ttx c hdid fuel _ _ _ pniI fINF sd _ (by decide) (fun t h => PData_atn c h)
    (fun t ht => ⟨hp ▸ (tRx_inf c hdid ht c.inad sd).2, (tRx_inf c hdid ht c.inad sd).1⟩)
    (fun t h => h.toPB (by simp)) ?_ ?_ a hA
  · intro res hr
    obtain ⟨p', ts', _, rfl⟩ := infResp_some hr
    exact chunk_not_tox c pniI p'
  · intro ⟨L, hf, hd, p', ts', hts, hp'⟩
    refine ⟨L, hf, hd, fun _ => PData.running, _, ?_, chunk_accepts c pniI p' _⟩
    simp [hts, infResp, ackResp, hp', chunk_fits c L.tsz pniI p']

theorem transact_ack {pniI : Nat} {d : Bytes} {g ts : List Bytes} (a : Air TState) (hS : PSend c pniI d g ts a.peer) :
    TTx (PSend c pniI d g ts) (PDone pniI (.sending (d.drop c.tmiu)) (ackResp c pniI (d.drop c.tmiu)) g ts)
      (ackResp c pniI (d.drop c.tmiu)) (LiveCfg c ∧ 2 ≤ fuel) a
      (transact (targetPeer c) c fuel pniI a (.dep fACK pniI c.idid c.inad [])) := by
  refine transact_ttx c hdid fuel _ _ _ pniI fACK [] _ (by decide) (fun t h => PSend_atn c h)
    (fun t ht => ⟨(tRx_ack c hdid ht c.inad).2, (tRx_ack c hdid ht c.inad).1⟩) (fun t h => h.toPB (by simp)) ?_ ?_ a hS
  · intro res hr
    rw [ackResp_some hr]
    exact chunk_not_tox c pniI _
  · intro ⟨L, hf⟩
    refine ⟨L, hf, Nat.zero_le _, fun _ => PSend.running, _, ?_, chunk_accepts c pniI (d.drop c.tmiu) _⟩
    simp [ackResp, chunk_fits c L.tsz pniI (d.drop c.tmiu)]
end

end NfcVerif.NfcDep
