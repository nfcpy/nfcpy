import NfcVerif.Gen.FnTagCmd
import NfcVerif.Lemmas.FnBridgeTagCmdPrelude
import NfcVerif.Lemmas.FnBridgeTlv
import NfcVerif.Lemmas.Tlv
/-!
The loops of the NDEF writer / reader of `tt1.py`, `tt2.py` on the cached image against `Model/Tlv.lean`: the `while`
that steps over reserved bytes is `Tlv.nextFree`, the copy loop `Tlv.place`, the terminator loop the second half of
`Tlv.phase2`, the value loop of `read_tlv` `Tlv.fetch`, its length field `Tlv.readLen`; with the encodings `wrState`,
`okOnly`, `readTlvRef` in which `Props/FnBridgeTagCmd.lean` states the bridges.
-/
namespace NfcVerif.FnBridge.TagCmd
open NfcVerif NfcVerif.PyFn

section placement
open NfcVerif.Tlv NfcVerif.FnBridge.Tlv

/-- `while offset + i in skip_bytes: offset += 1` ends at the next free address (enough fuel: one more
than the distance to the end of the last reserved range) -/
theorem while_skip (s : Skip) (sk : List Int) (h : SameSkip s sk) (i : Int) :
    ∀ (fuel a : Nat), skipMax s - a < fuel →
      whileM fuel ((a : Int) - i) (fun (o : Int) => Except.ok (decide ((o + i) ∈ sk)))
        (fun (o : Int) => Except.ok (let o' := o + 1; o')) = .ok ((nextFree s a : Int) - i)
  | 0, a, hf => by omega
  | f + 1, a, hf => by
    unfold whileM
    have e : (a : Int) - i + i = (a : Int) := by omega
    simp only [e]
    by_cases hs : inSkip s a = true
    · have hm : ((a : Int) ∈ sk) := (h a).mpr hs
      have hlt := inSkip_lt_skipMax s a hs
      simp only [hm, decide_true]
      have ih := while_skip s sk h i f (a + 1) (by omega)
      have e2 : (a : Int) - i + 1 = ((a + 1 : Nat) : Int) - i := by omega
      rw [e2, nextFree_skip s a hs]
      exact ih
    · have hm : ¬ ((a : Int) ∈ sk) := fun hm => hs ((h a).mp hm)
      simp only [hm, decide_false]
      rw [nextFree_eq_self s a (by simpa using hs)]

/-- the outcome of the model's `wr` as that of `tag_memory[a] = v` on the cached image: a write beyond the image is
`IndexError` there, whatever the model's error -/
def wrState (r : Py Bytes) : Py Bytes :=
  match r with
  | .ok m => .ok m
  | .error _ => .error .index

theorem setB_wr (c : Cfg) (mem : Bytes) (p v : Nat) (hv : v < 256) :
    PyFn.setB mem (p : Int) (v : Int) = wrState (Tlv.wr c mem p v) := by
  unfold Tlv.wr
  by_cases hp : p < mem.length
  · rw [setB_nat mem p v hp hv]; simp [hp, wrState]
  · unfold PyFn.setB
    have h1 : ¬ ((p : Int) < 0) := by omega
    have h2 : ((p : Int) ≥ (mem.length : Int)) := by omega
    simp only [h1, if_false, h2, or_true, if_true, hp, wrState]

/-- the result of the model's `place` as the loop state of the source: the Python `offset` lags behind the
address by the number of octets copied; a write beyond the image is `IndexError` there and the command
error of the fetch in the model -/
def placeState (k : Nat) (r : Py (Bytes × Nat)) : Py (Int × Bytes) :=
  match r with
  | .ok (m', a') => .ok ((a' : Int) - (k : Int), m')
  | .error _ => .error .index

/-- `body` is a variable: the two writers differ in where they read `data[k]` -/
theorem place_forM (c : Cfg) (s : Skip) (sk : List Int) (h : SameSkip s sk) (fuel : Nat) (hf : skipMax s < fuel)
    (data : Bytes) (hb : IsBytes data) {body : Int × Bytes → Int → Py (Int × Bytes)} :
    ∀ (ds : Bytes) (k a : Nat) (o : Int) (mem : Bytes), data.drop k = ds → o = (a : Int) - (k : Int) →
      (∀ (o : Int) (m : Bytes) (k : Nat), k < data.length → body (o, m) (k : Int) =
        (PyFn.whileM fuel o (fun (o : Int) => Except.ok (decide ((o + (k : Int)) ∈ sk)))
            (fun (o : Int) => Except.ok (let o' := o + 1; o')) >>= fun o' =>
          PyFn.setB m (o' + (k : Int)) ((at0 data k : Nat) : Int) >>= fun m' => Except.ok (o', m'))) →
      PyFn.forM ((List.range' k ds.length).map fun (n : Nat) => (n : Int)) (o, mem) body
        = placeState (k + ds.length) (Tlv.place c s mem a ds)
  | [], k, a, o, mem, _, ho, _ => by
    simp [PyFn.forM, Tlv.place, placeState, ho]
  | d :: ds, k, a, o, mem, hd, ho, hbody => by
    have hk : k < data.length := by
      have : (data.drop k).length = (d :: ds).length := by rw [hd]
      simp at this; omega
    have hdk : at0 data k = d := by
      have := congrArg (fun l => l[0]?) hd
      simp only [List.getElem?_drop, Nat.add_zero, List.getElem?_cons_zero] at this
      simp [at0, this]
    have hd' : data.drop (k + 1) = ds := by
      have := congrArg List.tail hd
      simpa [List.tail_drop] using this
    have hdb : d < 256 := hdk ▸ at0_lt_256 hb k
    simp only [List.length_cons, List.range'_succ, List.map_cons, PyFn.forM, Tlv.place]
    -- one round of the body: skip to the next free address, write there
    rw [hbody o mem k hk, ho, while_skip s sk h (k : Int) fuel a (by omega), hdk]
    simp only [Py.bind_ok, Int.sub_add_cancel]
    rw [setB_wr c mem _ d hdb]
    cases Tlv.wr c mem (nextFree s a) d with
    | error e => rfl
    | ok m2 =>
      simp only [wrState, Py.bind_ok]
      rw [show k + (ds.length + 1) = k + 1 + ds.length by omega,
        place_forM c s sk h fuel hf data hb ds (k + 1) (nextFree s a + 1) _ m2 hd' (by omega) hbody]

-- the loop is written with the binders of the generated text, two of which are not used
set_option linter.unusedVariables false in
/-- the `while offset < size: if offset not in skip: mem[offset] = 0xFE; break; offset += 1` loop -/
theorem term_loop (s : Skip) (sk : List Int) (h : SameSkip s sk) (size : Nat) (mem : Bytes) :
    ∀ (fuel a : Nat), size - a < fuel →
      (PyFn.whileC (ρ := Empty) fuel (mem, (a : Int))
        (fun (st : (Bytes × Int)) =>
          match st with
          | (tag_memory_1, offset_2) => Except.ok (decide (offset_2 < (size : Int))))
        (fun (st : (Bytes × Int)) =>
          match st with
          | (tag_memory_2, offset_3) =>
            if (¬ (offset_3 ∈ sk)) then
              (PyFn.setB tag_memory_2 offset_3 254 >>= fun tag_memory_3 =>
               Except.ok ((PyFn.Ctl.brk (tag_memory_3, offset_3))))
            else
            Except.ok (let offset_4 := (offset_3 + 1)
             (PyFn.Ctl.next (tag_memory_2, offset_4)))) >>= fun c =>
      match c with
      | .inr r => nomatch r
      | .inl (tag_memory_4, offset_5) => Except.ok tag_memory_4)
      = if nextFree s a < size then PyFn.setB mem ((nextFree s a : Nat) : Int) 254 else .ok mem
  | 0, a, hf => by omega
  | f + 1, a, hf => by
    unfold PyFn.whileC
    simp only []
    by_cases hlt : a < size
    · have hlt' : ((a : Int) < (size : Int)) := by omega
      simp only [hlt', decide_true]
      by_cases hs : inSkip s a = true
      · have hm : ((a : Int) ∈ sk) := (h a).mpr hs
        simp only [hm, not_true_eq_false, if_false]
        have ih := term_loop s sk h size mem f (a + 1) (by omega)
        rw [show ((a : Int) + 1) = ((a + 1 : Nat) : Int) from by omega]
        rw [ih, nextFree_skip s a hs]
      · have hm : ¬ ((a : Int) ∈ sk) := fun hm => hs ((h a).mp hm)
        have hnf : nextFree s a = a := nextFree_eq_self s a (by simpa using hs)
        simp only [hm, not_false_eq_true, if_true, hnf, hlt]
        cases PyFn.setB mem (a : Int) 254 <;> rfl
    · have hlt' : ¬ ((a : Int) < (size : Int)) := by omega
      have hge := nextFree_ge s a
      have : ¬ nextFree s a < size := by omega
      simp only [hlt', decide_false, this, if_false]
      rfl

/-- a `Tlv.place` of at least one octet that succeeded stayed inside the image: the converse of the hypothesis of
`Tlv.place_chg` -/
theorem place_fits (c : Cfg) (s : Skip) : ∀ (d : Nat) (ds m : Bytes) (a : Nat) (r : Bytes × Nat),
    Tlv.place c s m a (d :: ds) = .ok r → endAddr s (d :: ds).length a ≤ m.length
  | d, ds, m, a, r, h => by
    simp only [Tlv.place] at h
    obtain ⟨m1, hw, hp⟩ := Py.bind_eq_ok.mp h
    obtain ⟨hlt, rfl⟩ := wr_inv c m m1 _ d hw
    simp only [List.length_cons, endAddr]
    cases ds with
    | nil => simp only [List.length_nil, endAddr]; omega
    | cons d' ds' =>
      have := place_fits c s d' ds' _ _ r hp
      rwa [List.length_set] at this

/-- `Tlv.place` writes only at addresses from `a` on -/
theorem place_below (c : Cfg) (s : Skip) (ds : Bytes) (m : Bytes) (a : Nat) (m' : Bytes) (a' : Nat) (j : Nat)
    (h : Tlv.place c s m a ds = .ok (m', a')) (hj : j < a) : m'.length = m.length ∧ at0 m' j = at0 m j := by
  cases ds with
  | nil => simp only [Tlv.place] at h; cases h; exact ⟨rfl, rfl⟩
  | cons d ds =>
    obtain ⟨m2, hp, hc, _⟩ := place_chg c s (d :: ds) m a (place_fits c s d ds m a _ h)
    rw [h] at hp
    cases hp
    exact ⟨hc.1, by unfold at0; rw [hc.outside j fun hx => absurd hx.1 (by omega)]⟩

/-- the result of a computation when it succeeds (which exception a failed read of the cached image raises differs
between a bytearray and the memory reader of the model) -/
def okOnly {α} (x : Py α) : Option α :=
  match x with
  | .ok a => some a
  | .error _ => none

@[simp] theorem okOnly_ok {α} (a : α) : okOnly (.ok a : Py α) = some a := rfl
@[simp] theorem okOnly_error {α} (e : Exc) : okOnly (.error e : Py α) = none := rfl

theorem okOnly_map {α β} (y : Py α) (r : α → β) : okOnly (y >>= fun a => .ok (r a)) = (okOnly y).map r := by
  cases y <;> rfl

theorem okOnly_bind_congr {α β γ} {x : Py α} {y : Py β} {f : α → Py γ} {g : β → Py γ} (r : β → α)
    (hx : okOnly x = (okOnly y).map r) (hf : ∀ b, y = .ok b → okOnly (f (r b)) = okOnly (g b)) :
    okOnly (x >>= f) = okOnly (y >>= g) := by
  cases y with
  | error e => cases x with
    | error _ => rfl
    | ok a => cases hx
  | ok b => cases x with
    | error _ => cases hx
    | ok a => cases hx; exact hf b rfl

/-- body of the value loop of `read_tlv` (as generated) -/
def fetchBody (fuel : Nat) (sk : List Int) (memory : Bytes) (st : Int × Bytes) (i : Int) : Py (Int × Bytes) :=
  match st with
  | (offset_5, tlv_v_1) =>
    PyFn.whileM fuel offset_5
      (fun (offset_6 : Int) => Except.ok (decide ((offset_6 + i) ∈ sk)))
      (fun (offset_7 : Int) => Except.ok (let offset_8 := (offset_7 + 1)
       offset_8)) >>= fun offset_9 =>
    PyFn.getB memory (offset_9 + i) >>= fun t4 =>
    PyFn.setB tlv_v_1 i t4 >>= fun tlv_v_2 =>
    Except.ok (offset_9, tlv_v_2)

theorem rd_nat (c : Cfg) (m : Bytes) (p : Nat) : rd c m p = if p < m.length then .ok (at0 m p) else .error c.rdErr := by
  unfold rd at0
  by_cases h : p < m.length <;> simp [h]

theorem getB_rd (c : Cfg) (m : Bytes) (p : Nat) :
    okOnly (getB m (p : Int)) = (okOnly (rd c m p)).map fun t => ((t : Nat) : Int) := by
  rw [getB_nat, rd_nat]; split <;> rfl

/-- the value loop collects what `Tlv.fetch` collects -/
theorem fetch_forM (c : Cfg) (s : Skip) (sk : List Int) (h : SameSkip s sk) (fuel : Nat) (hf : skipMax s < fuel)
    (m : Bytes) (hm : IsBytes m) :
    ∀ (n k a : Nat) (v : Bytes), v.length = k + n →
      okOnly (PyFn.forM ((List.range' k n).map fun (j : Nat) => (j : Int)) ((a : Int) - (k : Int), v) (fetchBody fuel sk m)
        >>= fun st => Except.ok st.2)
        = (okOnly (Tlv.fetch (rd c m) s n a)).map fun xs => v.take k ++ xs
  | 0, k, a, v, hv => by
    simp [PyFn.forM, Tlv.fetch, List.take_of_length_le (by omega : v.length ≤ k)]
  | n + 1, k, a, v, hv => by
    simp only [List.range'_succ, List.map_cons, PyFn.forM, Tlv.fetch, fetchBody]
    -- one round of the body: skip to the next free address, read there
    rw [while_skip s sk h (k : Int) fuel a (by omega)]
    simp only [Py.bind_ok, Int.sub_add_cancel]
    rw [getB_nat, rd_nat]
    by_cases hp : nextFree s a < m.length
    · have hx : at0 m (nextFree s a) < 256 := at0_lt_256 hm _
      simp only [hp, if_true, Py.bind_ok]
      rw [setB_nat v k _ (by omega) hx]
      simp only [Py.bind_ok]
      have e : ((nextFree s a : Nat) : Int) - (k : Int) = ((nextFree s a + 1 : Nat) : Int) - ((k + 1 : Nat) : Int) := by omega
      rw [e]
      have ih := fetch_forM c s sk h fuel hf m hm n (k + 1) (nextFree s a + 1) (v.set k (at0 m (nextFree s a))) (by simp; omega)
      rw [ih]
      have ht : (v.set k (at0 m (nextFree s a))).take (k + 1) = v.take k ++ [at0 m (nextFree s a)] := by
        rw [List.take_add_one, List.take_set_of_le (by omega)]
        simp [List.getElem?_set_self (by omega : k < v.length)]
      cases hfe : Tlv.fetch (rd c m) s n (nextFree s a + 1) with
      | error e => simp
      | ok xs => simp [ht]
    · simp only [hp, if_false, Py.bind_error, okOnly_error, Option.map_none]

/-- `read_tlv` of the Type 2 reader in terms of the model functions that `Tlv.walkPre` / `Tlv.readNdefRaw` apply to a
TLV: tag octet, `readLen`, `fetch` -/
def readTlvRef (c : Cfg) (m : Bytes) (s : Skip) (off : Nat) : Py (Int × Int × Option Bytes) :=
  rd c m off >>= fun t =>
  if t = 0 ∨ t = 0xFE then .ok ((t : Int), -1, none) else
  readLen (rd c m) (off + 1) >>= fun lv =>
  fetch (rd c m) s lv.1 lv.2 >>= fun v => .ok ((t : Int), (lv.1 : Int), some v)

/-- the length field: one octet, or `FF` and two octets big-endian -/
theorem readLen_gen (c : Cfg) (m : Bytes) (a : Nat) :
    okOnly (getB m (a : Int) >>= fun l => ((if l = 255 then
        (PyFn.needExact (slice m ((a : Int) + 1) ((a : Int) + 1 + 2)) (2) >>= fun _ =>
          Except.ok ((PyFn.ube (slice m ((a : Int) + 1) ((a : Int) + 1 + 2)) 0 2), ((a : Int) + 1 + 2)))
      else Except.ok (l, ((a : Int) + 1))) : Py (Int × Int)))
      = (okOnly (readLen (rd c m) a)).map fun lv => ((lv.1 : Int), (lv.2 : Int)) := by
  rw [← okOnly_map]
  unfold readLen
  rw [bind_assoc]
  refine okOnly_bind_congr _ (getB_rd c m a) fun l _ => ?_
  by_cases h255 : l = 255
  · -- the bounds of the two octet slice as cast naturals
    have e1 : ((a : Int) + 1) = ((a + 1 : Nat) : Int) := by omega
    have e2 : ((a + 1 : Nat) : Int) + 2 = ((a + 1 + 2 : Nat) : Int) := by omega
    rw [if_pos (by omega), if_pos h255, e1, e2, rd_nat, rd_nat]
    by_cases hlen : a + 1 + 2 ≤ m.length
    · rw [slice2_at m (a + 1) hlen, needExact_pair', ube_pair', if_pos (by omega), if_pos (by omega)]
      simp only [Py.bind_ok, okOnly_ok]
    · -- a short slice is `struct.error` here, a failed read of the second or third octet in the model
      have hne : needExact (slice m ((a + 1 : Nat) : Int) ((a + 1 + 2 : Nat) : Int)) 2 = .error .struct := by
        rw [slice_ofNat, show (2 : Int) = ((2 : Nat) : Int) from rfl, needExact_nat, if_neg (by simp [sliceN]; omega)]
      rw [hne]
      by_cases h1 : a + 1 < m.length
      · rw [if_pos h1, if_neg (by omega)]; rfl
      · rw [if_neg h1]; rfl
  · rw [if_neg (by omega), if_neg h255]; rfl

end placement

end NfcVerif.FnBridge.TagCmd
