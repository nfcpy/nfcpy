import NfcVerif.Model.SectC03
/-! proofs for `Model/SectC03`: the believed sector equals the real one at every executed page command, for
every history and every fault script, up to the first ambiguous event -/
namespace NfcVerif.SectC03
open NfcVerif

/-- one executed command is consistent: belief = reality (or unknown) while nothing ambiguous happened, and a page command
of the memory reader was sent while the object believed the sector of its linear page -/
def EvOk (e : Ev) : Prop :=
  (e.clean = true → e.bel = none ∨ e.bel = some e.real) ∧
  (e.mr = true → e.kind ≠ .select → e.bel = some (e.page / 256))

def TraceOk (w : W) : Prop := ∀ e ∈ w.trace, EvOk e
def Bel (w : W) : Prop := w.amb = false → w.cur = none ∨ w.cur = some w.tag.sector
def Inv (w : W) : Prop := Bel w ∧ TraceOk w

def Frame.isSs2 : Frame → Bool
  | .ss2 _ => true | _ => false

/-- what the caller guarantees when it sends a page frame on behalf of the memory reader -/
def Pre (w : W) (mr : Bool) (f : Frame) : Prop :=
  mr = true → match f with
    | .read p => w.cur = some (p / 256)
    | .write p _ => w.cur = some (p / 256)
    | _ => True

theorem tagExec_kind (t : Tag) (f : Frame) (k : Kind) (h : (tagExec t f).2.2 = some k) :
    (k = .select ↔ f.isSs2 = true) ∧ (f = .ss1 → False) := by
  unfold tagExec at h
  cases f with
  | ss1 =>
    -- packet 1 is never recorded: while pending it is answered NAK, otherwise ACK or NAK by `mem.length > 1024`
    by_cases hp : t.pend = true
    · rw [if_pos hp] at h; cases h
    · rw [if_neg hp] at h; dsimp only at h
      split at h <;> cases h
  | ss2 s =>
    -- recorded, as `.select`, only while packet 1 is pending and the sector exists (`s * 1024 < mem.length`)
    by_cases hp : t.pend = true
    · rw [if_pos hp] at h; dsimp only at h
      split at h
      · cases h; exact ⟨⟨fun _ => rfl, fun _ => rfl⟩, nofun⟩
      · cases h
    · rw [if_neg hp] at h; cases h
  | read p =>
    -- recorded, as `.read`, only when nothing is pending and the page exists
    by_cases hp : t.pend = true
    · rw [if_pos hp] at h; cases h
    · rw [if_neg hp] at h; dsimp only at h
      split at h
      · cases h
      · cases h; exact ⟨⟨nofun, nofun⟩, nofun⟩
  | write p d =>
    -- recorded, as `.write`, only when nothing is pending and the page exists
    by_cases hp : t.pend = true
    · rw [if_pos hp] at h; cases h
    · rw [if_neg hp] at h; dsimp only at h
      split at h
      · cases h
      · cases h; exact ⟨⟨nofun, nofun⟩, nofun⟩

theorem tagExec_sector (t : Tag) (f : Frame) (h : f.isSs2 = false) : (tagExec t f).1.sector = t.sector := by
  unfold tagExec
  -- `sector` is assigned in one place: the arm for packet 2 while packet 1 is pending
  by_cases hp : t.pend = true
  · rw [if_pos hp]
    cases f with
    | ss2 s => cases h
    | ss1 => rfl
    | read p => rfl
    | write p d => rfl
  · rw [if_neg hp]
    -- nothing pending: each arm is an `if` (memory above 1 KiB, page exists) between two states with `t`'s sector
    cases f with
    | ss2 s => cases h
    | ss1 => dsimp only; split <;> rfl
    | read p => dsimp only; split <;> rfl
    | write p d => dsimp only; split <;> rfl

theorem execute_spec (w : W) (mr : Bool) (f : Frame) (rest : List Air) (hb : Bel w) (ht : TraceOk w)
    (hp : Pre w mr f) :
    TraceOk (execute w mr f rest).1 ∧ (execute w mr f rest).1.cur = w.cur ∧
    (execute w mr f rest).1.amb = w.amb ∧
    (f.isSs2 = false → (execute w mr f rest).1.tag.sector = w.tag.sector) := by
  refine ⟨?_, rfl, rfl, fun h => by simpa [execute] using tagExec_sector w.tag f h⟩
  intro e he
  simp only [execute] at he
  split at he
  · next k hk =>
    rcases List.mem_cons.mp he with rfl | he
    · have hkk := tagExec_kind w.tag f k hk
      refine ⟨fun hc => hb (by simpa using hc), fun hm hsel => ?_⟩
      have hns : f.isSs2 = false := by
        cases hf : f.isSs2
        · rfl
        · exact absurd (hkk.1.mpr hf) hsel
      have := hp hm
      cases f <;> simp_all [Frame.isSs2, framePage]
    · exact ht e he
  · exact ht e he

theorem exchange_spec (w : W) (mr : Bool) (f : Frame) (hb : Bel w) (ht : TraceOk w) (hp : Pre w mr f) :
    TraceOk (exchange w mr f).1 ∧ (exchange w mr f).1.cur = w.cur ∧ (exchange w mr f).1.amb = w.amb ∧
    (f.isSs2 = false → (exchange w mr f).1.tag.sector = w.tag.sector) := by
  unfold exchange
  split
  · exact execute_spec w mr f [] hb ht hp
  · next rest _ => exact execute_spec w mr f rest hb ht hp
  · exact ⟨ht, rfl, rfl, fun _ => rfl⟩
  · exact ⟨ht, rfl, rfl, fun _ => rfl⟩
  · next e rest _ => exact execute_spec w mr f rest hb ht hp

theorem Pre_of_cur {w w' : W} {mr : Bool} {f : Frame} (h : w'.cur = w.cur) (hp : Pre w mr f) : Pre w' mr f := by
  intro hm
  have := hp hm
  cases f <;> simp_all

/-- `transceive` of a frame other than packet 2 keeps the invariant, the belief and the real sector -/
theorem transceive_spec (n : Nat) (w : W) (mr : Bool) (f : Frame) (last : RErr) (hf : f.isSs2 = false)
    (hi : Inv w) (hp : Pre w mr f) :
    Inv (transceive n w mr f last).1 ∧ (transceive n w mr f last).1.cur = w.cur ∧
    (transceive n w mr f last).1.amb = w.amb ∧ (transceive n w mr f last).1.tag.sector = w.tag.sector := by
  induction n generalizing w last with
  | zero => exact ⟨hi, rfl, rfl, rfl⟩
  | succ n ih =>
    have hx := exchange_spec w mr f hi.1 hi.2 hp
    have hinv : Inv (exchange w mr f).1 := by
      refine ⟨fun ha => ?_, hx.1⟩
      rw [hx.2.1, hx.2.2.2 hf]
      exact hi.1 (by rw [← hx.2.2.1]; exact ha)
    unfold transceive
    generalize exchange w mr f = x at hx hinv ⊢
    obtain ⟨w', r⟩ := x
    cases r with
    | ok d => exact ⟨hinv, hx.2.1, hx.2.2.1, hx.2.2.2 hf⟩
    | error e =>
      have := ih w' e hinv (Pre_of_cur hx.2.1 hp)
      exact ⟨this.1, by rw [this.2.1, hx.2.1], by rw [this.2.2.1, hx.2.2.1], by rw [this.2.2.2, hx.2.2.2 hf]⟩

theorem tagExec_ss1 (t : Tag) (h : (tagExec t .ss1).2.1 = some [0x0A]) : (tagExec t .ss1).1.pend = true := by
  unfold tagExec at h ⊢
  by_cases hp : t.pend = true <;> by_cases hl : t.mem.length > 1024 <;> simp_all

theorem execute_ss1 (w : W) (mr : Bool) (rest : List Air) (h : (execute w mr .ss1 rest).2 = some [0x0A]) :
    (execute w mr .ss1 rest).1.tag.pend = true := by
  simp only [execute] at h ⊢
  exact tagExec_ss1 w.tag h

theorem exchange_ss1_ack (w w' : W) (mr : Bool) (h : exchange w mr .ss1 = (w', .ok [0x0A])) : w'.tag.pend = true := by
  unfold exchange at h
  split at h
  · simp only [Prod.mk.injEq] at h
    obtain ⟨rfl, h2⟩ := h
    apply execute_ss1
    cases hr : (execute w mr .ss1 []).2 <;> simp_all
  · next rest _ =>
    simp only [Prod.mk.injEq] at h
    obtain ⟨rfl, h2⟩ := h
    apply execute_ss1
    cases hr : (execute w mr .ss1 rest).2 <;> simp_all
  · simp at h
  · next e rest _ =>
    simp only [Prod.mk.injEq] at h
    obtain ⟨_, h2⟩ := h
    split at h2 <;> simp_all
  · next e rest _ =>
    simp only [Prod.mk.injEq] at h
    obtain ⟨_, h2⟩ := h
    split at h2 <;> simp_all

/-- packet 1 was acknowledged: the tag now waits for packet 2 -/
theorem ss1_ack_pend (n : Nat) (w : W) (mr : Bool) (last : RErr) (w1 : W)
    (h : transceive n w mr .ss1 last = (w1, .ok [0x0A])) : w1.tag.pend = true := by
  induction n generalizing w last with
  | zero => simp [transceive] at h
  | succ n ih =>
    unfold transceive at h
    split at h
    · next w' d heq =>
      simp only [Prod.mk.injEq, Except.ok.injEq] at h
      obtain ⟨rfl, rfl⟩ := h
      exact exchange_ss1_ack w w' mr heq
    · next w' e heq => exact ih w' e h

theorem selectP2_trace (w1 : W) (mr : Bool) (s : Nat) :
    (selectP2 w1 mr s).1.trace = (exchange w1 mr (.ss2 s)).1.trace := by
  unfold selectP2
  split
  · next w2 e heq => rw [heq]; split <;> rfl
  · next w2 d heq => rw [heq]

/-- packet 2: afterwards the belief is right or unknown unless the passive acknowledgement was not faithful -/
theorem selectP2_bel (w1 : W) (mr : Bool) (s : Nat) (hb : Bel w1) (hpend : w1.tag.pend = true) :
    Bel (selectP2 w1 mr s).1 ∧ (∀ v, (selectP2 w1 mr s).2 = .ok v → (selectP2 w1 mr s).1.cur = some s) := by
  unfold Bel at *
  unfold selectP2 exchange
  cases hs : w1.script with
  | nil =>
    by_cases hv : s * 1024 < w1.tag.mem.length <;>
      simp [execute, tagExec, hpend, hv, ss2Faithful] <;> intro h <;> simp_all
  | cons a rest =>
    cases a with
    | ok =>
      by_cases hv : s * 1024 < w1.tag.mem.length <;>
        simp [execute, tagExec, hpend, hv, ss2Faithful] <;> intro h <;> simp_all
    | drop => simp [ss2Faithful]
    | corrupt e => cases e <;> simp [ss2Faithful, errOf] <;> intro h <;> simp_all
    | lost e =>
      by_cases hv : s * 1024 < w1.tag.mem.length <;> cases e <;>
        simp [execute, tagExec, hpend, hv, ss2Faithful, errOf] <;> (try (intro h; simp_all))

theorem selectP2_spec (w1 : W) (mr : Bool) (s : Nat) (hi : Inv w1) (hpend : w1.tag.pend = true) :
    Inv (selectP2 w1 mr s).1 ∧ (∀ v, (selectP2 w1 mr s).2 = .ok v → (selectP2 w1 mr s).1.cur = some s) := by
  have hx := exchange_spec w1 mr (.ss2 s) hi.1 hi.2 (by intro _; trivial)
  have hb := selectP2_bel w1 mr s hi.1 hpend
  refine ⟨⟨hb.1, ?_⟩, hb.2⟩
  intro e he
  rw [selectP2_trace] at he
  exact hx.1 e he

theorem sectorSelect_spec (w : W) (mr : Bool) (s : Nat) (hi : Inv w) :
    Inv (sectorSelect w mr s).1 ∧ (∀ v, (sectorSelect w mr s).2 = .ok v → (sectorSelect w mr s).1.cur = some s) := by
  unfold sectorSelect
  split
  · next h => exact ⟨hi, fun _ _ => h⟩
  · have ht := (transceive_spec 3 w mr .ss1 .timeout rfl hi (by intro _; trivial)).1
    have hp := ss1_ack_pend 3 w mr .timeout
    generalize transceive 3 w mr .ss1 .timeout = x at ht hp ⊢
    obtain ⟨w1, r⟩ := x
    cases r with
    | error e => exact ⟨ht, fun v hv => by simp at hv⟩
    | ok rsp =>
      dsimp only
      split
      · next hr => subst hr; exact selectP2_spec w1 mr s ht (hp w1 rfl)
      · exact ⟨ht, fun v hv => by simp at hv⟩

theorem read_spec (w : W) (mr : Bool) (p : Nat) (hi : Inv w) (hp : mr = true → w.cur = some (p / 256)) :
    Inv (read w mr p).1 := by
  have ht := (transceive_spec 3 w mr (.read p) .timeout rfl hi (by intro hm; exact hp hm)).1
  unfold read
  generalize transceive 3 w mr (.read p) .timeout = x at ht ⊢
  obtain ⟨w1, r⟩ := x
  cases r with
  | error e => exact ht
  | ok d =>
    dsimp only
    split
    · exact ⟨fun _ => Or.inr rfl, ht.2⟩
    · split <;> exact ht

theorem write_spec (w : W) (mr : Bool) (p : Nat) (d : Bytes) (hi : Inv w) (hp : mr = true → w.cur = some (p / 256)) :
    Inv (write w mr p d).1 ∧ (write w mr p d).1.cur = w.cur := by
  unfold write
  split
  · exact ⟨hi, rfl⟩
  · have ht := transceive_spec 3 w mr (.write p d) .timeout rfl hi (by intro hm; exact hp hm)
    generalize transceive 3 w mr (.write p d) .timeout = x at ht ⊢
    obtain ⟨w1, r⟩ := x
    cases r with
    | error e => exact ⟨ht.1, ht.2.1⟩
    | ok rsp =>
      dsimp only
      split
      · exact ⟨ht.1, ht.2.1⟩
      · split <;> exact ⟨ht.1, ht.2.1⟩

theorem readFrom_inv (fuel : Nat) (w : W) (m : MR) (index stop : Nat) (hi : Inv w) :
    Inv (readFrom fuel w m index stop).1.1 := by
  induction fuel generalizing w m index with
  | zero => exact hi
  | succ fuel ih =>
    unfold readFrom
    split
    · have hs := sectorSelect_spec w true (index / 1024) hi
      generalize sectorSelect w true (index / 1024) = x at hs ⊢
      obtain ⟨w1, r⟩ := x
      cases r with
      | error e => exact hs.1
      | ok v =>
        have hr := read_spec w1 true (index / 4) hs.1 (fun _ => by rw [hs.2 v rfl]; congr 1; omega)
        dsimp only
        generalize read w1 true (index / 4) = y at hr ⊢
        obtain ⟨w2, r2⟩ := y
        cases r2 with
        | error e => exact hr
        | ok d => exact ih _ _ _ hr
    · exact hi

theorem writeUnits_inv (is : List Nat) (w : W) (m : MR) (hi : Inv w) : Inv (writeUnits is w m).1.1 := by
  induction is generalizing w m with
  | nil => exact hi
  | cons i is ih =>
    unfold writeUnits
    split
    · have hs := sectorSelect_spec w true (i / 1024) hi
      generalize sectorSelect w true (i / 1024) = x at hs ⊢
      obtain ⟨w1, r⟩ := x
      cases r with
      | error e => exact hs.1
      | ok v =>
        have hr := (write_spec w1 true (i / 4) (sliceN m.cache i (i + 4)) hs.1
          (fun _ => by rw [hs.2 v rfl]; congr 1; omega)).1
        dsimp only
        generalize write w1 true (i / 4) (sliceN m.cache i (i + 4)) = y at hr ⊢
        obtain ⟨w2, r2⟩ := y
        cases r2 with
        | error e => exact hr
        | ok u => exact ih _ _ hr
    · exact ih w m hi

theorem getItem_inv (w : W) (m : MR) (a : Nat) (hi : Inv w) : Inv (getItem w m a).1.1 := by
  unfold getItem
  split
  · have := readFrom_inv (((a + 1) / 16) + 1) w m (m.fromTag.length / 16 * 16) (a + 1) hi
    unfold readFromTag
    split
    · next s e heq => rw [heq] at this; exact this
    · next w1 m1 u heq => rw [heq] at this; exact this
  · exact hi

theorem setItem_inv (w : W) (m : MR) (a v : Nat) (hi : Inv w) : Inv (setItem w m a v).1.1 := by
  have := getItem_inv w m a hi
  unfold setItem
  split
  · next s e heq => rw [heq] at this; exact this
  · next w1 m1 u heq => rw [heq] at this; exact this

theorem step_inv (s : W × MR) (o : Op) (hi : Inv s.1) : Inv (step s o).1.1 := by
  cases o with
  | get a => have := getItem_inv s.1 s.2 a hi; simp only [step]; split <;> simp_all
  | set a v => have := setItem_inv s.1 s.2 a v hi; simp only [step]; split <;> simp_all
  | sync =>
    have := writeUnits_inv ((List.range ((s.2.fromTag.length + 3) / 4)).map (· * 4)) s.1 s.2 hi
    simp only [step, synchronize]; split <;> simp_all
  | sel n => have := (sectorSelect_spec s.1 false n hi).1; simp only [step]; split <;> simp_all
  | rd p => have := read_spec s.1 false p hi (by simp); simp only [step]; split <;> simp_all
  | wr p d => have := (write_spec s.1 false p d hi (by simp)).1; simp only [step]; split <;> simp_all

theorem run_inv (ops : List Op) (s : W × MR) (hi : Inv s.1) : Inv (run s ops).1.1 := by
  induction ops generalizing s with
  | nil => exact hi
  | cons o os ih => exact ih _ (step_inv s o hi)

end NfcVerif.SectC03
