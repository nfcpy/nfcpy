import NfcVerif.Gen.FnTagBase
import NfcVerif.Lemmas.FnBridgeBase
import NfcVerif.Model.FnTagBaseRef
import NfcVerif.Model.AuthNdef
import NfcVerif.Model.AdvOps
import NfcVerif.Model.Retry
import NfcVerif.Model.Tlv
/-!
Helper lemmas of the bridge theorems of group TagBase (`Props/FnBridgeTagBase.lean`): facts about the reference
semantics `Model/FnTagBaseRef.lean`, its agreement with the existing models of the same code
(`TagCache.cstep`, `Adv.step`, `Retry.stepOp`, `Tlv.setOctets`), string and bit lemmas for the dispatch of
`nfc.tag.activate`.
-/
namespace NfcVerif.FnBridge.TagBase
open NfcVerif NfcVerif.PyFn NfcVerif.TagBaseRef

/-- C03 / C20: when the private method returned True the cache is empty afterwards, whatever it held ... -/
theorem wrapper_drops {α} (cache : Option α) : (wrapper cache (.ok (some true))).2 = none := by
  simp [wrapper]

/-- ... and in every other case (False, None, an exception) it is left alone -/
theorem wrapper_keeps {α} (cache : Option α) (priv : Py (Option Bool)) (h : priv ≠ .ok (some true)) :
    (wrapper cache priv).2 = cache := by
  simp [wrapper, h]

/-- the value of the private method is handed on unchanged -/
theorem wrapper_value {α} (cache : Option α) (priv : Py (Option Bool)) : (wrapper cache priv).1 = priv := rfl

/-- with an empty cache `tag.ndef` reads the tag and hands out exactly what that read gave -/
theorem ndefAccess_empty {α} (read : Py (Option α)) : ndefAccess none read = (read, true) := rfl

/-- with a cached object `tag.ndef` does not touch the tag -/
theorem ndefAccess_cached {α} (x : α) (read : Py (Option α)) : ndefAccess (some x) read = (.ok (some x), false) := rfl

/-- **cache_dropped_after_format**: after a successful `format` / `protect` / `authenticate` the next `tag.ndef`
reads the tag again and hands out what that read gives, whatever was cached before -/
theorem cache_dropped_after_format {α} (cache : Option α) (read : Py (Option α)) :
    ndefAccess (wrapper cache (.ok (some true))).2 read = (read, true) := by
  rw [wrapper_drops]; rfl

/-- **setter_rejects_before_command**: a write that can not succeed fails with the same exception whatever the
type specific write would do - it is not called -/
theorem setter_rejects_before_command (writeable : Bool) (capacity : Int) (data : Bytes) (write : Bytes → Py Unit)
    (h : writeable = false ∨ (data.length : Int) > capacity) :
    setOctets writeable capacity data write = .error (if writeable = false then .attr else .value) := by
  unfold setOctets
  rcases h with h | h
  · simp [h]
  · by_cases hw : writeable = false <;> simp [hw, h]

/-- **setter_always_writes**: a write that can succeed always performs the type specific write with exactly the
data given (there is no shortcut for data equal to what is cached) and fails when that write fails -/
theorem setter_always_writes (capacity : Int) (data : Bytes) (write : Bytes → Py Unit)
    (h : (data.length : Int) ≤ capacity) :
    setOctets true capacity data write = (write data >>= fun _ => .ok data) := by
  unfold setOctets
  have : ¬ (data.length : Int) > capacity := by omega
  simp [this]

theorem setter_fails_with_write (capacity : Int) (data : Bytes) (write : Bytes → Py Unit) (e : Exc)
    (h : (data.length : Int) ≤ capacity) (hw : write data = .error e) :
    setOctets true capacity data write = .error e := by
  rw [setter_always_writes capacity data write h, hw]; rfl

/-- the outcome of a private method as `Model/AuthNdef.lean` `TagCache` sees it (it has no `None` result) -/
def asBool (priv : Py (Option Bool)) : Py Bool := priv.map (· == some true)

theorem asBool_true (priv : Py (Option Bool)) : asBool priv = .ok true ↔ priv = .ok (some true) := by
  unfold asBool
  cases priv with
  | error e => simp [Except.map]
  | ok v => cases v with
    | none => simp [Except.map]
    | some b => cases b <;> simp [Except.map]

/-- `TagCache.cstep` (C20 `ndef_read_again_after_authenticate`) is the reference wrapper ... -/
theorem cstep_format (cache : Option Bytes) (priv : Py (Option Bool)) :
    (TagCache.cstep cache (.format (asBool priv))).2 = (wrapper cache priv).2 := by
  simp only [TagCache.cstep, wrapper, asBool_true]

theorem cstep_protect (cache : Option Bytes) (priv : Py (Option Bool)) :
    (TagCache.cstep cache (.protect (asBool priv))).2 = (wrapper cache priv).2 := by
  simp only [TagCache.cstep, wrapper, asBool_true]

theorem cstep_auth (cache : Option Bytes) (priv : Py (Option Bool)) :
    (TagCache.cstep cache (.auth (asBool priv))).2 = (wrapper cache priv).2 := by
  simp only [TagCache.cstep, wrapper, asBool_true]

/-- ... and the reference `tag.ndef` -/
theorem cstep_ndef (cache f : Option Bytes) :
    TagCache.cstep cache (.ndef f) = (⟨(ndefAccess cache (.ok f)).1, (ndefAccess cache (.ok f)).2⟩, ndefCache cache (.ok f)) := by
  cases cache <;> rfl

/-- `Adv.step` (C08 `runOps`): the cache of the tag object after `tag.ndef` -/
theorem adv_step_ndef {σ κ} (T : Adv.TagOps σ κ) (o : Adv.Obj σ κ) :
    (Adv.step T .ndef o).2.ndef = ndefCache o.ndef (T.read none o.st).1 := by
  obtain ⟨st, nd⟩ := o
  cases nd with
  | some x => obtain ⟨d, k⟩ := x; rfl
  | none =>
    simp only [Adv.step, Adv.readStep, ndefCache]
    cases hr : T.read none st with
    | mk r s => cases r <;> rfl

/-- `Adv.step`: `tag.ndef` reads the tag iff nothing is cached -/
theorem adv_step_ndef_cached {σ κ} (T : Adv.TagOps σ κ) (o : Adv.Obj σ κ) (x : Adv.Ndef × κ) (h : o.ndef = some x) :
    Adv.step T .ndef o = (.ok (.ndef (some x.1)), o) := by
  obtain ⟨st, nd⟩ := o
  obtain ⟨d, k⟩ := x
  simp only at h
  subst h; rfl

/-- `Adv.step`: the cache after `has_changed` is what the read gave -/
theorem adv_step_changed {σ κ} [DecidableEq (Adv.Ndef × κ)] (T : Adv.TagOps σ κ) (o : Adv.Obj σ κ) (x : Adv.Ndef × κ)
    (h : o.ndef = some x) :
    (Adv.step T .changed o).2.ndef = step o.ndef (.changed (T.read (some x.2) o.st).1) := by
  obtain ⟨st, nd⟩ := o
  obtain ⟨d, k⟩ := x
  simp only at h
  subst h
  simp only [Adv.step, Adv.readStep, step, hasChanged]
  cases hr : T.read (some k) st with
  | mk r s => cases r <;> rfl

/-- `Retry.stepOp` (C16 sessions): the `cached` flag after an operation that does not start with `tag.ndef` is the
reference wrapper's -/
theorem stepOp_cached (cfg : Retry.Cfg) (read : Retry.Prog) (o : Retry.SOp) (cached : Bool) (w : Retry.World)
    (h : o.usesNdef = false) :
    (Retry.stepOp cfg read o cached w).2.1 =
      (cached && !(o.clears && (Retry.stepOp cfg read o cached w).1 == .ok .true_)) := by
  simp [Retry.stepOp, h]

/-- ... which is the `isSome` of the reference cache for an operation that clears (`format`, `protect`,
`authenticate`) -/
theorem wrapper_isSome {α} (cache : Option α) (priv : Py (Option Bool)) :
    (wrapper cache priv).2.isSome = (cache.isSome && !(decide (priv = .ok (some true)))) := by
  unfold wrapper
  by_cases h : priv = .ok (some true) <;> simp [h]

/-- `Tlv.setOctets` (C01, Type 1 / Type 2): the result ... -/
theorem tlv_setOctets_res (c : Tlv.Cfg) (m : Bytes) (L : Tlv.Layout) (data : Bytes) :
    (Tlv.setOctets c m L data).res =
      (setOctets L.writeable L.cap data (fun d => (Tlv.writeCmds c m L d).res)).map (fun _ => ()) := by
  unfold Tlv.setOctets setOctets
  by_cases hw : L.writeable = true
  · by_cases hc : (data.length : Int) > L.cap
    · simp [hw, hc, Except.map]
    · simp only [hw, hc, not_true_eq_false, if_false, Bool.true_eq_false]
      cases (Tlv.writeCmds c m L data).res <;> rfl
  · have hw' : L.writeable = false := by simpa using hw
    simp [hw', Except.map]

/-- ... and the commands: none at all when the write is rejected -/
theorem tlv_setOctets_cmds (c : Tlv.Cfg) (m : Bytes) (L : Tlv.Layout) (data : Bytes) :
    (Tlv.setOctets c m L data).cmds =
      if L.writeable = false ∨ (data.length : Int) > L.cap then [] else (Tlv.writeCmds c m L data).cmds := by
  unfold Tlv.setOctets
  by_cases hw : L.writeable = true
  · by_cases hc : (data.length : Int) > L.cap <;> simp [hw, hc]
  · have hw' : L.writeable = false := by simpa using hw
    simp [hw']

theorem isSuffixOf_singleton (c : Char) (l : List Char) : [c].isSuffixOf l = (l.getLast? == some c) := by
  rw [List.getLast?_eq_head?_reverse]
  unfold List.isSuffixOf
  cases l.reverse with
  | nil => simp
  | cons x xs =>
    simp only [List.reverse_cons, List.reverse_nil, List.nil_append, List.isPrefixOf, Bool.and_true, List.head?_cons]
    rw [Bool.eq_iff_iff, beq_iff_eq, beq_iff_eq, Option.some.injEq]; exact eq_comm

/-- last character of `target.brty` -/
def techOf (brty : String) : Char := (brty.toList.getLast?).getD ' '

/-- `brty.endswith(s)` for a string `s` of the one letter `c` -/
theorem endsWith_char (brty s : String) (c : Char) (hs : s.toList = [c]) (hc : c ≠ ' ') :
    (strEndsWith brty s = true) ↔ techOf brty = c := by
  unfold strEndsWith techOf
  rw [hs, isSuffixOf_singleton]
  cases brty.toList.getLast? with
  | none => simpa using hc.symm
  | some x => simp

theorem getB_nat_idxN (l : Bytes) (i : Nat) : getB l (i : Int) = (idxN l i).map (fun (b : Nat) => (b : Int)) := by
  rw [getB_idxN]; cases idxN l i <;> rfl

theorem band15 (b : Nat) : (band (b : Int) 15 = 12) ↔ b % 16 = 12 := by
  have : (15 : Int) = ((15 : Nat) : Int) := rfl
  rw [this, band_ofNat]
  have h : b &&& 15 = b % 16 := Nat.and_two_pow_sub_one_eq_mod b 4
  rw [h]; omega

theorem shr5_band3 (b : Nat) : (band (shr (b : Int) 5) 3 = 0) ↔ b / 32 % 4 = 0 := by
  have h5 : (5 : Int) = ((5 : Nat) : Int) := rfl
  have h3 : (3 : Int) = ((3 : Nat) : Int) := rfl
  rw [h5, shr_ofNat, h3, band_ofNat]
  have h : (b >>> 5) &&& 3 = (b >>> 5) % 4 := Nat.and_two_pow_sub_one_eq_mod _ 2
  rw [h, Nat.shiftRight_eq_div_pow]; omega

theorem shr5_band1 (b : Nat) : (band (shr (b : Int) 5) 1 = 1) ↔ b / 32 % 2 = 1 := by
  have h5 : (5 : Int) = ((5 : Nat) : Int) := rfl
  have h1 : (1 : Int) = ((1 : Nat) : Int) := rfl
  rw [h5, shr_ofNat, h1, band_ofNat]
  have h : (b >>> 5) &&& 1 = (b >>> 5) % 2 := Nat.and_two_pow_sub_one_eq_mod _ 1
  rw [h, Nat.shiftRight_eq_div_pow]; omega

end NfcVerif.FnBridge.TagBase
