import NfcVerif.Lemmas.ConnectPolls
import NfcVerif.Lemmas.ConnectStartup
/-!
# The steps of `connect()` and its main loop (C18)

Each `_xxx_connect` step is walked once (`rdwrStep_all`, `llcpRole_all` / `llcpStep_all`, `cardStep_all`), from a
state whose monitor state `q` is idle-like: along the chain of states the step goes through, the walk carries
the monitor state (`m1`, `m2`, ..: the transition lemmas of `Lemmas/Connect.lean`) and the bound on the events
after a true `terminate()` answer (`p1`, `p2`, ..: `Lemmas/ConnectPrompt.lean`), and closes every exit with
`StepEnd` (legal history, stream not longer, exceptions) and the bound.  `mainLoop_all` does the same for the
main loop by one induction on the fuel; `connect_all` puts it behind the option preparation.
-/
namespace NfcVerif.Clf

/-- exceptions that can leave a step; `V`: when a ValueError is possible -/
inductive ErrPost (V : Prop) : Exc → St → Prop
  | io (s' : St) : ErrPost V (.io 5) s'
  | kbd (s' : St) : ErrPost V .keyboardInterrupt s'
  | unsupported (s' : St) : ErrPost V .unsupportedTarget s'
  | value (s' : St) (v : V) : ErrPost V .value s'
  | sysExit {s' : St} (h : s'.log.getLast? = some (.call .llcRun .sysExit)) : ErrPost V .systemExit s'

theorem ErrPost.dev {V : Prop} {e : Exc} {s' : St} (h : e = .io 5 ∨ e = .keyboardInterrupt) : ErrPost V e s' := by
  rcases h with rfl | rfl
  · exact .io s'
  · exact .kbd s'

theorem ErrPost.ofDev {V : Prop} {e : Exc} {s' : St} (h : DevErr e) : ErrPost V e s' := by
  rcases h with rfl | rfl | rfl
  · exact .io s'
  · exact .kbd s'
  · exact .unsupported s'

theorem ErrPost.of4 {V : Prop} {e : Exc} {s' : St}
    (h : e = .io 5 ∨ e = .keyboardInterrupt ∨ e = .unsupportedTarget ∨ (e = .value ∧ V)) : ErrPost V e s' := by
  rcases h with rfl | rfl | rfl | ⟨rfl, v⟩
  · exact .io s'
  · exact .kbd s'
  · exact .unsupported s'
  · exact .value s' v

theorem ErrPost.mono {V V' : Prop} {e : Exc} {s : St} (hv : V → V') (h : ErrPost V e s) : ErrPost V' e s := by
  cases h with
  | io => exact .io s
  | kbd => exact .kbd s
  | unsupported => exact .unsupported s
  | value _ v => exact .value s (hv v)
  | sysExit h => exact .sysExit h

/-- the end of one connect step; the `terminate()` stream must not grow because its length is the fuel of the main loop -/
def StepEnd (V : Prop) (ts : List Bool) (out : StepOut) : Prop :=
  (∃ q', mon out.2.1.log = some q' ∧ StepPost out.1 q') ∧ out.2.2.length ≤ ts.length ∧
  ∀ e, out.1 = .error e → ErrPost V e out.2.1

theorem StepEnd.ok {V : Prop} {ts ts' : List Bool} {s' : St} {q' : Q} {v : RetVal} (hm : mon s'.log = some q')
    (hp : StepPost (.ok v) q') (hl : ts'.length ≤ ts.length) : StepEnd V ts (.ok v, s', ts') :=
  ⟨⟨q', hm, hp⟩, hl, fun e he => by cases he⟩

theorem StepEnd.error {V : Prop} {ts ts' : List Bool} {s' : St} {q' : Q} {e : Exc} (hm : mon s'.log = some q')
    (hl : ts'.length ≤ ts.length) (he : ErrPost V e s') : StepEnd V ts (.error e, s', ts') :=
  ⟨⟨q', hm, trivial⟩, hl, fun e' he' => by cases he'; exact he⟩

theorem StepEnd.mono {V V' : Prop} {ts : List Bool} {out : StepOut} (h : StepEnd V ts out) (hv : V → V') :
    StepEnd V' ts out :=
  ⟨h.1, h.2.1, fun e he => (h.2.2 e he).mono hv⟩

/-- a callback adds its one event and leaves `self.target` alone; `hm`: the monitor transition the event makes -/
theorem Cb.run_step (c : Cb) (d : Val) (r : Role) (k : CbKind) (s : St) {f : Val → Q}
    (hm : ∀ v b, mon (s.emit (.cb r k v.code b)).log = some (f v)) :
    ∃ v s', c.run d r k s = (v, s') ∧ Seg 1 s s' ∧ mon s'.log = some (f v) ∧ s'.target = s.target := by
  obtain ⟨v, b, h⟩ := Cb.run_eq c d r k s
  exact ⟨v, _, h, Seg.emit s _ (by simp), hm v b, rfl⟩

/-- A callback whose falsy answer ends the step with `res`: `q0`, `q1` are the monitor states after a falsy and
after a true answer, `R` is the bound on the events after a true `terminate()` answer that the step has to keep. -/
theorem cb_falsy_ends {V : Prop} {ts : List Bool} {R : St → List Bool → Prop} {v : Val} {s' : St} {q0 q1 : Q}
    {res : RetVal} {out : StepOut} (m : mon s'.log = some (if v.truthy then q1 else q0)) (hp : StepPost (.ok res) q0)
    (p : R s' ts) (hgo : mon s'.log = some q1 → StepEnd V ts out ∧ R out.2.1 out.2.2) :
    StepEnd V ts (if !v.truthy then (.ok res, s', ts) else out) ∧
    R (if !v.truthy then (.ok res, s', ts) else out).2.1 (if !v.truthy then (.ok res, s', ts) else out).2.2 := by
  cases hv : v.truthy with
  | false => rw [hv] at m; exact ⟨.ok m hp (Nat.le_refl _), p⟩
  | true => rw [hv] at m; exact hgo m

theorem rdwrStep_all (o : RdwrOpts) (ts : List Bool) (s : St) {q : Q} (hq : mon s.log = some q) (hi : q.idleLike = true) :
    StepEnd (o.targets.length = 1 ∨ o.targets.any (· == .notTarget) = true) ts (rdwrStep o ts s) ∧
    PreSpec 7 s ts (rdwrStep o ts s).2.1 (rdwrStep o ts s).2.2 := by
  unfold rdwrStep
  have hs := NExt.sense o.targets o.iters s
  have hse := sense_err o.targets o.iters s
  rcases hr : sense o.targets o.iters s with ⟨r1, s1⟩
  rw [hr] at hs hse
  have m1 := hs.mon.trans hq
  have k1 : Pre s ts → Pre s1 ts := hs.keeps
  cases r1 with
  | error e => exact ⟨.error m1 (Nat.le_refl _) (.of4 (hse e rfl)), fun hp => Or.inl (k1 hp)⟩
  | ok o1 =>
    cases o1 with
    | none => exact ⟨.ok m1 hi (Nat.le_refl _), fun hp => Or.inl (k1 hp)⟩
    | some x =>
      obtain ⟨id, f⟩ := x
      simp only
      obtain ⟨dv, s2, hd, g2, m2, ht2⟩ := Cb.run_step o.discover (defaultDiscover f) .rdwr .discover s1
        (mon_discover m1 hi .rdwr (by decide))
      rw [hd]
      simp only
      have k2 : Pre s ts → Pre s2 ts := fun hp => g2.keeps (k1 hp)
      have hT : HasT s2 := ⟨id, ht2.trans (sense_some_target _ _ _ _ _ hr)⟩
      refine cb_falsy_ends (R := PreSpec 7 s ts) m2 rfl (fun hp => Or.inl (k2 hp)) fun m2 => ?_
      -- nfc.tag.activate: driver calls only, terminate() is not asked
      obtain ⟨ha, hae⟩ := tagActivate_act f s2 hT
      rcases hact : tagActivate f s2 with ⟨a, s3⟩
      rw [hact] at ha hae
      have m3 := ha.mon.trans m2
      have p3 : PreSpec 0 s ts s3 ts := fun hp => Or.inl (ha.keeps (k2 hp))
      cases a with
      | error e => exact ⟨.error m3 (Nat.le_refl _) (.ofDev (hae e rfl)), p3.mono (by omega)⟩
      | ok ot =>
      cases ot with
      | none => exact ⟨.ok m3 rfl (Nat.le_refl _), p3.mono (by omega)⟩
      | some tt =>
        simp only
        obtain ⟨cv, s4, hc, g4, m4, _⟩ := Cb.run_step o.connect .true_ .rdwr .connect s3 (mon_connect m3 (Or.inl rfl))
        rw [hc]
        simp only
        have p4 := p3.trans (g4.pspec ts)
        refine cb_falsy_ends (R := PreSpec 7 s ts) m4 rfl (p4.mono (by omega)) fun m4 => ?_
        -- LED on (optional)
        have hled : NExt s4 (if o.beep then simpleCall .ledOn s4 else (.ok (), s4)).2 ∧
            Seg 1 s4 (if o.beep then simpleCall .ledOn s4 else (.ok (), s4)).2 ∧
            ∀ e, (if o.beep then simpleCall .ledOn s4 else (.ok (), s4)).1 = .error e →
              e = .io 5 ∨ e = .keyboardInterrupt := by
          split
          · exact ⟨NExt.simpleCall _ _, Seg.simpleCall _ _, simpleCall_err _ _⟩
          · exact ⟨NExt.refl _, (Seg.refl _).mono (by omega), fun e he => by cases he⟩
        rcases hl : (if o.beep then simpleCall .ledOn s4 else (.ok (), s4)) with ⟨r5, s5⟩
        rw [hl] at hled
        obtain ⟨n5, g5, e5⟩ := hled
        have m5 := n5.mon.trans m4
        have p5 := p4.trans (g5.pspec ts)
        cases r5 with
        | error e => exact ⟨.error m5 (Nat.le_refl _) (.dev (e5 e rfl)), p5.mono (by omega)⟩
        | ok u =>
          simp only
          obtain ⟨hpo, hpe⟩ := presenceLoop_polls ts s5
          rcases hpl : presenceLoop ts s5 with ⟨r6, s6, ts1⟩
          rw [hpl] at hpo hpe
          have m6 := hpo.mon m5
          have p6 := p5.trans hpo.pspec
          cases r6 with
          | error e => exact ⟨.error m6 hpo.length_le (.dev (hpe e rfl)), p6.mono (by omega)⟩
          | ok u2 =>
            simp only
            have n7 := NExt.simpleCall .ledOff s6
            have g7 := Seg.simpleCall .ledOff s6
            have e7 := simpleCall_err .ledOff s6
            rcases hlo : simpleCall .ledOff s6 with ⟨r7, s7⟩
            rw [hlo] at n7 g7 e7
            have m7 := n7.mon.trans m6
            have p7 := p6.trans (g7.pspec ts1)
            cases r7 with
            | error e => exact ⟨.error m7 hpo.length_le (.dev (e7 e rfl)), p7.mono (by omega)⟩
            | ok u3 =>
              simp only
              obtain ⟨rv, s8, hrel, g8, m8, _⟩ := Cb.run_step o.release .true_ .rdwr .release s7 (mon_release m7)
              rw [hrel]
              exact ⟨.ok m8 rfl hpo.length_le, (p7.trans (g8.pspec ts1)).mono (by omega)⟩

/-- what one role of `_llcp_connect` guarantees: not activated, it made a single call; activated, it ends as a
step does -/
def RoleAll (q : Q) (ts : List Bool) (s : St) (out : Option (Py RetVal) × St × List Bool) : Prop :=
  match out.1 with
  | none => mon out.2.1.log = some q ∧ Seg 1 s out.2.1 ∧ out.2.2 = ts
  | some r => StepEnd False ts (r, out.2) ∧ PSpec 5 s ts out.2.1 out.2.2

theorem llcpRole_all (o : LlcpOpts) (ini : Bool) (ts : List Bool) (s : St) {q : Q} (hq : mon s.log = some q)
    (hi : q.idleLike = true) : RoleAll q ts s (llcpRole o ini ts s) := by
  unfold llcpRole
  have hn := NExt.ask s (.llcActivate ini)
  have g1 := Seg.ask s (.llcActivate ini)
  rcases hask : s.ask (.llcActivate ini) with ⟨a, s1⟩
  rw [hask] at hn g1
  have m1 := hn.mon.trans hq
  have p1 := g1.pspec ts
  simp only
  cases a with
  | found f =>
    simp only
    obtain ⟨cv, s2, hc, g2, m2, _⟩ := Cb.run_step o.connect .true_ .llcp .connect s1 (mon_connect m1 (Or.inr ⟨rfl, hi⟩))
    rw [hc]
    simp only
    have p2 := p1.trans (g2.pspec ts)
    cases hcv : cv.truthy with
    | false =>
      simp only [hcv] at m2 ⊢
      exact ⟨.ok m2 rfl (Nat.le_refl _), p2.mono (by omega)⟩
    | true =>
      simp only [hcv] at m2 ⊢
      simp only [Bool.not_true, Bool.false_eq_true, if_false]
      have n3 := NExt.ask s2 .llcRun
      have g3 := Seg.ask s2 .llcRun
      obtain ⟨a2, hask2⟩ := ask_spec s2 .llcRun
      rw [hask2] at n3 g3 ⊢
      simp only at n3 g3 ⊢
      have hlast : ({ s2 with env := s2.env.tail, n := s2.n + 1, log := s2.log ++ [.call .llcRun a2] } : St).log.getLast?
          = some (.call .llcRun a2) := by simp [List.getLast?_append]
      generalize ({ s2 with env := s2.env.tail, n := s2.n + 1, log := s2.log ++ [.call .llcRun a2] } : St) = s3
        at n3 g3 hlast ⊢
      have m3 := n3.mon.trans m2
      have p3 := p2.trans (g3.pspec ts)
      -- `llc.run`: up to `n` polls of terminate(), then on-release
      have key : ∀ n, RoleAll q ts s (some (.ok (.val .llcp (o.release.run .true_ .llcp .release (runPolls n ts s3).1).1)),
          (o.release.run .true_ .llcp .release (runPolls n ts s3).1).2, (runPolls n ts s3).2) := by
        intro n
        have hpo := runPolls_polls n ts s3
        obtain ⟨rv, s5, hrel, g5, m5, _⟩ := Cb.run_step o.release .true_ .llcp .release (runPolls n ts s3).1
          (mon_release (hpo.mon m3))
        rw [hrel]
        exact ⟨.ok m5 rfl hpo.length_le, ((p3.trans hpo.pspec).trans (g5.pspec _)).mono (by omega)⟩
      have stop : ∀ e, ErrPost False e s3 → RoleAll q ts s (some (.error e), s3, ts) := fun e he =>
        ⟨.error m3 (Nat.le_refl _) he, p3.mono (by omega)⟩
      cases a2 with
      | ioError => exact stop _ (.io s3)
      | kbd => exact stop _ (.kbd s3)
      | sysExit => exact stop _ (.sysExit hlast)
      | polls n => exact key n
      | _ => exact key 0
  | ioError => exact ⟨.error m1 (Nat.le_refl _) (.io s1), p1.mono (by omega)⟩
  | kbd => exact ⟨.error m1 (Nat.le_refl _) (.kbd s1), p1.mono (by omega)⟩
  | _ => exact ⟨m1, g1, rfl⟩

theorem llcpStep_all (o : LlcpOpts) (ts : List Bool) (s : St) {q : Q} (hq : mon s.log = some q) (hi : q.idleLike = true) :
    StepEnd False ts (llcpStep o ts s) ∧ PSpec 6 s ts (llcpStep o ts s).2.1 (llcpStep o ts s).2.2 := by
  unfold llcpStep
  -- a role that is not configured does nothing
  have opt : ∀ (c : Prop) [Decidable c] (ini : Bool) ts s, mon s.log = some q →
      RoleAll q ts s (if c then llcpRole o ini ts s else (none, s, ts)) := by
    intro c _ ini ts s hq
    split
    · exact llcpRole_all o ini ts s hq hi
    · exact ⟨hq, (Seg.refl s).mono (by omega), rfl⟩
  have h1 := opt (o.role = .both ∨ o.role = .target) false ts s hq
  rcases e1 : (if o.role = .both ∨ o.role = .target then llcpRole o false ts s else (none, s, ts)) with ⟨r1, s1, ts1⟩
  rw [e1] at h1
  cases r1 with
  | some r => exact ⟨h1.1, h1.2.mono (by omega)⟩
  | none =>
    obtain ⟨hm1, g1, rfl⟩ := h1
    simp only
    have h2 := opt (o.role = .both ∨ o.role = .initiator) true ts1 s1 hm1
    rcases e2 : (if o.role = .both ∨ o.role = .initiator then llcpRole o true ts1 s1 else (none, s1, ts1)) with ⟨r2, s2, ts2⟩
    rw [e2] at h2
    cases r2 with
    | some r => exact ⟨h2.1, ((g1.pspec ts1).trans h2.2).mono (by omega)⟩
    | none =>
      obtain ⟨hm2, g2, rfl⟩ := h2
      exact ⟨.ok hm2 hi (Nat.le_refl _), ((g1.trans g2).pspec ts2).mono (by omega)⟩

theorem cardStep_all (o : CardOpts) (ts : List Bool) (s : St) {q : Q} (hq : mon s.log = some q) (hi : q.idleLike = true) :
    StepEnd (o.target = .other) ts (cardStep o ts s) ∧ PSpec 7 s ts (cardStep o ts s).2.1 (cardStep o ts s).2.2 := by
  unfold cardStep
  have hn := NExt.listen o.target s
  have hle := listen_err o.target s
  have p1 := (Seg.listen o.target s).pspec ts
  rcases hr : listen o.target s with ⟨r1, s1⟩
  rw [hr] at hn hle p1
  have m1 := hn.mon.trans hq
  cases r1 with
  | error e =>
    simp only
    by_cases hce : isCommErr e = true
    · rw [if_pos hce]
      exact ⟨.ok m1 hi (Nat.le_refl _), p1.mono (by omega)⟩
    · rw [if_neg hce]
      refine ⟨.error m1 (Nat.le_refl _) ?_, p1.mono (by omega)⟩
      -- BrokenLinkError is a CommunicationError
      rcases hle e rfl with rfl | rfl | rfl | rfl | ⟨rfl, v⟩
      · exact .io s1
      · exact .kbd s1
      · exact .unsupported s1
      · exact absurd rfl hce
      · exact .value s1 v
  | ok o1 =>
    cases o1 with
    | none => exact ⟨.ok m1 hi (Nat.le_refl _), p1.mono (by omega)⟩
    | some x =>
      obtain ⟨id, f⟩ := x
      simp only
      obtain ⟨dv, s2, hd, g2, m2, _⟩ := Cb.run_step o.discover .true_ .card .discover s1
        (mon_discover m1 hi .card (by decide))
      rw [hd]
      simp only
      have p2 := p1.trans (g2.pspec ts)
      refine cb_falsy_ends (R := PSpec 7 s ts) m2 rfl (p2.mono (by omega)) fun m2 => ?_
      -- the call of nfc.tag.emulate: an event, no answer consumed
      have m3 := (NExt.mon (s' := s2.emit (.call .emulate (.found f))) (.event rfl rfl)).trans m2
      have p3 := p2.trans ((Seg.emit s2 (.call .emulate (.found f)) (by simp)).pspec ts)
      generalize s2.emit (.call .emulate (.found f)) = s3 at m3 p3 ⊢
      cases hem : emulates o.target f with
      | false =>
        simp only [Bool.not_false, if_true]
        exact ⟨.ok m3 rfl (Nat.le_refl _), p3.mono (by omega)⟩
      | true =>
        simp only [Bool.not_true, Bool.false_eq_true, if_false]
        obtain ⟨cv, s4, hc, g4, m4, _⟩ := Cb.run_step o.connect .true_ .card .connect s3 (mon_connect m3 (Or.inl rfl))
        rw [hc]
        simp only
        have p4 := p3.trans (g4.pspec ts)
        refine cb_falsy_ends (R := PSpec 7 s ts) m4 rfl (p4.mono (by omega)) fun m4 => ?_
        obtain ⟨hpo, hpe⟩ := cardLoop_polls ts s4
        rcases hpl : cardLoop ts s4 with ⟨r6, s6, ts1⟩
        rw [hpl] at hpo hpe
        have m6 := hpo.mon m4
        have p6 := p4.trans hpo.pspec
        cases r6 with
        | error e => exact ⟨.error m6 hpo.length_le (.dev (hpe e rfl)), p6.mono (by omega)⟩
        | ok u2 =>
          simp only
          obtain ⟨rv, s7, hrel, g7, m7, _⟩ := Cb.run_step o.release .true_ .card .release s6 (mon_release m6)
          rw [hrel]
          exact ⟨.ok m7 rfl hpo.length_le, (p6.trans (g7.pspec ts1)).mono (by omega)⟩

theorem of_map_some {α β : Type} {P : β → Prop} {o : Option α} {f : α → β} (h : ∀ a, o = some a → P (f a)) :
    ∀ b, o.map f = some b → P b := by
  intro b hb
  cases o with
  | none => cases hb
  | some a => cases hb; exact h a rfl

/-- how connect() may end in a round of the main loop that started in `s0`, `ts0` -/
def EndPost (V : Prop) (n : Nat) (s0 : St) (ts0 : List Bool) (r : Py RetVal) (s' : St) : Prop :=
  (∃ q', mon s'.log = some q' ∧ MainPost r q') ∧ (∀ e, r = .error e → ErrPost V e s') ∧ (Pre s0 ts0 → Final n s')

/-- `A`: the prompt accounting of the round up to this step; the step has to extend it (`hf`) -/
theorem tryStep_all {V : Prop} {n n' : Nat} {s0 : St} {ts0 : List Bool} (f : Option (List Bool → St → StepOut))
    (ts : List Bool) (s : St) (A : PreSpec n s0 ts0 s ts) (hn : n ≤ n')
    (hf : ∀ g, f = some g → StepEnd V ts (g ts s) ∧ PreSpec n' s0 ts0 (g ts s).2.1 (g ts s).2.2)
    {q : Q} (hq : mon s.log = some q) (hidle : q.idleLike = true) :
    (tryStep f ts s).2.2.length ≤ ts.length ∧ PreSpec n' s0 ts0 (tryStep f ts s).2.1 (tryStep f ts s).2.2 ∧
    (match (tryStep f ts s).1 with
     | none => ∃ q', mon (tryStep f ts s).2.1.log = some q' ∧ q'.idleLike = true
     | some (r, s') => EndPost V n' s0 ts0 r s') := by
  cases f with
  | none => exact ⟨Nat.le_refl _, A.mono hn, q, hq, hidle⟩
  | some g =>
    obtain ⟨⟨⟨q', h1, h2⟩, h3, herr⟩, A'⟩ := hf g rfl
    simp only [tryStep]
    rcases hg : g ts s with ⟨r, s1, ts1⟩
    rw [hg] at h1 h2 h3 herr A'
    have fin : Pre s0 ts0 → Final n' s1 := Final.of_pre A'
    cases r with
    | error e => exact ⟨h3, A', ⟨q', h1, trivial⟩, herr, fin⟩
    | ok v =>
      simp only
      have hm := h2.main
      cases hv : v.truthy with
      | false => rw [hv] at hm; exact ⟨h3, A', q', h1, hm⟩
      | true => rw [hv] at hm; exact ⟨h3, A', ⟨q', h1, hm⟩, fun e he => (by cases he), fin⟩

/-- 21: after the first true answer at most 7 + 6 + 7 events follow in the three steps of that round, then the
`terminate()` call that ends the loop -/
theorem mainLoop_all (l : Live) (k : Nat) (ts : List Bool) (s : St) (q : Q) (hk : ts.length < k)
    (hq : mon s.log = some q) (hidle : q.idleLike = true) :
    ∃ r s', mainLoop l k ts s = some (r, s') ∧ EndPost (LiveV l) 21 s ts r s' ∧
      (∀ m, Post m s ts → after s'.log = some (m + 1)) := by
  induction k generalizing ts s q with
  | zero => omega
  | succ k ih =>
    unfold mainLoop
    have yes : ∀ r', EndPost (LiveV l) 21 s r' (.ok .none) (s.emit (.term true)) ∧
        ∀ m, Post m s r' → after (s.emit (.term true)).log = some (m + 1) := fun r' =>
      ⟨⟨⟨_, mon_term_idle hq hidle true, rfl⟩, fun e he => (by cases he),
        fun hp => Or.inr ⟨0, by omega, after_emit_term hp.1⟩⟩, fun m hp => after_emit_some hp.1 _⟩
    cases ts with
    | nil => exact ⟨_, _, rfl, yes []⟩
    | cons b rest =>
      cases b with
      | true => exact ⟨_, _, rfl, yes _⟩
      | false =>
        simp only [askTerm]
        have h0 := mon_term_idle hq hidle false
        have hlen : rest.length < k := by simp only [List.length_cons] at hk; omega
        -- a false answer keeps `Pre`, and `Post` (all answers true) is impossible here
        have post : ∀ (s' : St) m, Post m s (false :: rest) → after s'.log = some (m + 1) :=
          fun _ m hp => by have := hp.2 false (by simp); cases this
        have fin : ∀ {n r s'}, n ≤ 21 → EndPost (LiveV l) n (s.emit (.term false)) rest r s' →
            EndPost (LiveV l) 21 s (false :: rest) r s' := fun hn h =>
          ⟨h.1, h.2.1, fun hp => (h.2.2 hp.termFalse).imp id fun ⟨m, hm, e⟩ => ⟨m, by omega, e⟩⟩
        obtain ⟨hl1, A1, hp1⟩ := tryStep_all (V := LiveV l) (n' := 7) (l.rdwr.map rdwrStep) rest _
          (PreSpec.refl 0 _ _) (by omega)
          (of_map_some fun o hr => ⟨(rdwrStep_all o _ _ h0 rfl).1.mono fun v => Or.inl ⟨o, hr, v⟩,
            (rdwrStep_all o _ _ h0 rfl).2⟩) h0 rfl
        rcases h1 : tryStep (l.rdwr.map rdwrStep) rest (s.emit (.term false)) with ⟨r1, s1, ts1⟩
        rw [h1] at hl1 hp1 A1
        cases r1 with
        | some x => exact ⟨_, _, rfl, fin (by omega) hp1, post _⟩
        | none =>
          obtain ⟨q1, hm1, hi1⟩ := hp1
          simp only at hl1 A1 ⊢
          obtain ⟨hl2, A2, hp2⟩ := tryStep_all (V := LiveV l) (n' := 13) (l.llcp.map llcpStep) ts1 s1 A1 (by omega)
            (of_map_some fun o _ => ⟨(llcpStep_all o _ _ hm1 hi1).1.mono fun v => v.elim,
              A1.trans (llcpStep_all o _ _ hm1 hi1).2⟩) hm1 hi1
          rcases h2 : tryStep (l.llcp.map llcpStep) ts1 s1 with ⟨r2, s2, ts2⟩
          rw [h2] at hl2 hp2 A2
          cases r2 with
          | some x => exact ⟨_, _, rfl, fin (by omega) hp2, post _⟩
          | none =>
            obtain ⟨q2, hm2, hi2⟩ := hp2
            simp only at hl2 A2 ⊢
            obtain ⟨hl3, A3, hp3⟩ := tryStep_all (V := LiveV l) (n' := 20) (l.card.map cardStep) ts2 s2 A2 (by omega)
              (of_map_some fun o hr => ⟨(cardStep_all o _ _ hm2 hi2).1.mono fun v => Or.inr ⟨o, hr, v⟩,
                A2.trans (cardStep_all o _ _ hm2 hi2).2⟩) hm2 hi2
            rcases h3 : tryStep (l.card.map cardStep) ts2 s2 with ⟨r3, s3, ts3⟩
            rw [h3] at hl3 hp3 A3
            cases r3 with
            | some x => exact ⟨_, _, rfl, fin (by omega) hp3, post _⟩
            | none =>
              obtain ⟨q3, hm3, hi3⟩ := hp3
              simp only at hl3 A3 ⊢
              obtain ⟨r, s', hml, ⟨hmon, herr, hA⟩, hB⟩ := ih ts3 s3 q3 (by omega) hm3 hi3
              refine ⟨r, s', hml, ⟨hmon, herr, fun hp => ?_⟩, post _⟩
              rcases A3 hp.termFalse with hp3' | ⟨n, hn, hp3'⟩
              · exact hA hp3'
              · exact Or.inr ⟨n + 1, by omega, hB n hp3'⟩

/-- the master statement about `connect`; its first part is the statement of `C18.connect_return_table_partial` -/
theorem connect_all (o : Opts) (env : List Ans) (ts : List Bool) :
    (∃ q, mon (connect o env ts).2.log = some q ∧
      (match (connect o env ts).1 with
       | .ret .none => q = .idle true ∨ ∃ k, q = .su k
       | .ret (.obj r) => q = .finObj r
       | .ret (.val r v) => v.truthy = true ∧ q = .finRel r v.code
       | .caught e => isCaught e = true
       | .raised e =>
         (e = .type_ ∧ NonIterableStartup o) ∨ (e = .value ∧ OptsV o) ∨
         (e = .systemExit ∧ (connect o env ts).2.log.getLast? = some (.call .llcRun .sysExit)))) ∧
    (Mono ts → Final 21 (connect o env ts).2) := by
  obtain ⟨⟨k, hk⟩, hseg, hres⟩ := startupPhase_all o (St.init env) rfl
  have hs0 : Mono ts → Pre (startupPhase o (St.init env)).2 ts := fun hm => hseg.keeps ⟨rfl, hm⟩
  unfold connect
  rcases hs : startupPhase o (St.init env) with ⟨r0, s0⟩
  rw [hs] at hk hres hs0
  simp only at hk hres hs0
  cases r0 with
  | error e => exact ⟨⟨_, hk, Or.inl hres⟩, fun hm => Or.inl (hs0 hm).1⟩
  | ok l =>
    simp only
    split
    · exact ⟨⟨_, hk, Or.inr ⟨k, rfl⟩⟩, fun hm => Or.inl (hs0 hm).1⟩
    · obtain ⟨r, s', hm, ⟨⟨q', hq', hp⟩, herr, hfin⟩, _⟩ :=
        mainLoop_all l (ts.length + 1) ts s0 (.su k) (by omega) hk rfl
      rw [hm]
      cases r with
      | ok v =>
        refine ⟨⟨q', hq', ?_⟩, fun hm => hfin (hs0 hm)⟩
        cases v with
        | none => exact Or.inl hp
        | obj r => exact hp
        | val r v => exact hp
      | error e =>
        simp only
        cases hc : isCaught e with
        | true => exact ⟨⟨q', hq', hc⟩, fun hm => hfin (hs0 hm)⟩
        | false =>
          refine ⟨⟨q', hq', ?_⟩, fun hm => hfin (hs0 hm)⟩
          cases herr e rfl with
          | io | kbd | unsupported => cases hc
          | value _ v => exact Or.inr (Or.inl ⟨rfl, hres.optsV v⟩)
          | sysExit h => exact Or.inr (Or.inr ⟨rfl, h⟩)

end NfcVerif.Clf
