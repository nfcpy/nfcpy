import NfcVerif.Model.IsoDepV2
import NfcVerif.Model.IsoDepC08
/-!
# `Model/IsoDepV2.lean` (C12) and `Model/IsoDepC08.lean` with all repairs switched on (C08) are the same initiator

`IsoDepR.*` (one switch per repair, used by the adversarial-card sessions of C08 and as the target of the function
bridge of group IsoSm, which regenerates the decision logic of `IsoDepInitiator` from the source) with `Fix.all` is,
function by function, `IsoDep2.*`: what C12 proves about `IsoDep2.exchange` holds for the function the source
translation is proved equal to, and what C08 proves about `IsoDepR.exchange` holds for the model of C12.
-/
namespace NfcVerif.IsoDep2
open NfcVerif NfcVerif.IsoDep

def RxW.ofR : IsoDepR.RxW → RxW
  | .data b => .data b | .timeout => .timeout | .transmission => .transmission
  | .protocol => .protocol | .fuel => .fuel | .waited => .waited

theorem wtxmOf_eq (d : Bytes) : IsoDepR.wtxmOf d = wtxmOf d := rfl

theorem xchgW_c08 {σ} (P : Peer σ) (L : Nat) : ∀ (f sum : Nat) (w : World σ) (out : Bytes),
    ((IsoDepR.xchgW P (some L) f sum w out).1, RxW.ofR (IsoDepR.xchgW P (some L) f sum w out).2) = xchgW P L f sum w out := by
  intro f
  induction f with
  | zero => intro sum w out; rfl
  | succ f ih =>
    intro sum w out
    unfold IsoDepR.xchgW xchgW
    rcases hx : w.xchg P out with ⟨w', r⟩
    cases r with
    | data d =>
      simp only [wtxmOf_eq]
      cases hm : wtxmOf d with
      | none => rfl
      | some m =>
        simp only
        split
        · rfl
        · split
          · rfl
          · exact ih _ _ _
    | timeout | transmission | protocol | fuel => rfl

/-- the configuration of `Model/IsoDepC08.lean` that belongs to a reader state: all repairs on -/
def c08Cfg (L F : Nat) : IsoDepR.Cfg := { fx := IsoDepR.Fix.all, lim := L, F := F }

theorem blockLoop_c08 {σ} (P : Peer σ) (F L n : Nat) (resend : Option Nat) (req rty : Bytes) :
    ∀ (f i : Nat) (out : Bytes) (w : World σ),
      IsoDepR.blockLoop P (c08Cfg L F) n resend req rty f i out w = blockLoop P F L n resend req rty f i out w := by
  intro f
  induction f with
  | zero => intro i out w; rfl
  | succ f ih =>
    intro i out w
    unfold IsoDepR.blockLoop blockLoop
    have hx := xchgW_c08 P L F 0 w out
    have hl : (c08Cfg L F).wlim = some L := rfl
    simp only [hl, show (c08Cfg L F).F = F from rfl, show (c08Cfg L F).fx.ack = true from rfl, true_and]
    rw [← hx]
    rcases IsoDepR.xchgW P (some L) F 0 w out with ⟨w', r⟩
    cases r with
    | data d =>
      cases d with
      | nil => simp only [RxW.ofR]; split <;> simp [ih]
      | cons a t =>
        simp only [RxW.ofR, resendMax]
        by_cases hr : resend = some a
        · subst hr
          simp only [if_true]
          by_cases hi : i > n + 1
          · simp only [hi, if_true]
          · simp only [hi, if_false, ih]
        · simp only [hr, if_false]
    | timeout | transmission => simp only [RxW.ofR]; split <;> simp [ih]
    | protocol | waited | fuel => rfl

theorem sendChunks_c08 {σ} (P : Peer σ) (F L nNak : Nat) :
    ∀ (cs : List Bytes) (pni : Nat) (w : World σ),
      IsoDepR.sendChunks P (c08Cfg L F) nNak cs pni w = sendChunks P F L nNak cs pni w := by
  intro cs
  induction cs with
  | nil => intro pni w; rfl
  | cons ch rest ih =>
    intro pni w
    unfold IsoDepR.sendChunks sendChunks
    simp only [blockLoop_c08, show (c08Cfg L F).F = F from rfl]
    rcases blockLoop P F L nNak (some (0xA2 ||| ((pni + 1) % 2)))
      (((if (!rest.isEmpty) = true then 0x12 else 0x02) ||| pni) :: ch) [0xB2 ||| pni] F 1
      (((if (!rest.isEmpty) = true then 0x12 else 0x02) ||| pni) :: ch) w with ⟨w', r⟩
    cases r with
    | error e => rfl
    | ok d =>
      cases d with
      | nil => rfl
      | cons a t => simp only [ih]

theorem recvChain_c08 {σ} (P : Peer σ) (F L nAck : Nat) :
    ∀ (f pni : Nat) (data resp : Bytes) (w : World σ),
      IsoDepR.recvChain P (c08Cfg L F) nAck f pni data resp w = recvChain P F L nAck f pni data resp w := by
  intro f
  induction f with
  | zero => intro pni data resp w; rfl
  | succ f ih =>
    intro pni data resp w
    unfold IsoDepR.recvChain recvChain
    cases data with
    | nil => rfl
    | cons a inf =>
      simp only [show (c08Cfg L F).fx.chain = true from rfl, true_and, blockLoop_c08, show (c08Cfg L F).F = F from rfl]
      split
      · rfl
      · split
        · rfl
        · rcases blockLoop P F L nAck none [0xA2 ||| pni] [0xA2 ||| pni] F 1 [0xA2 ||| pni] w with ⟨w', r⟩
          cases r with
          | error e => rfl
          | ok d =>
            cases d with
            | nil => rfl
            | cons b t => simp only [ih]

/-- the reader state without the S(WTX) limit (`Model/IsoDepC08.lean` keeps the limit in its configuration) -/
def Pcd.toBase (p : Pcd) : IsoDep.Pcd := { pni := p.pni, miu := p.miu, nNak := p.nNak, nAck := p.nAck, failed := p.failed }

def Pcd.withBase (b : IsoDep.Pcd) (wlim : Nat) : Pcd :=
  { pni := b.pni, miu := b.miu, nNak := b.nNak, nAck := b.nAck, wlim := wlim, failed := b.failed }

theorem Pcd.withBase_toBase (p : Pcd) : Pcd.withBase p.toBase p.wlim = p := by cases p; rfl

theorem exchangeCmd_c08 {σ} (P : Peer σ) (F : Nat) (pcd : Pcd) (cmd : Bytes) (w : World σ) :
    ((IsoDepR.exchangeCmd P (c08Cfg pcd.wlim F) pcd.toBase cmd w).1,
     Pcd.withBase (IsoDepR.exchangeCmd P (c08Cfg pcd.wlim F) pcd.toBase cmd w).2.1 pcd.wlim,
     (IsoDepR.exchangeCmd P (c08Cfg pcd.wlim F) pcd.toBase cmd w).2.2) = exchangeCmd P F pcd cmd w := by
  unfold IsoDepR.exchangeCmd exchangeCmd
  have hm : pcd.toBase.miu = pcd.miu := rfl
  simp only [hm]
  by_cases h0 : pcd.miu = 0
  · simp only [h0, if_true, Pcd.withBase_toBase]
  · simp only [h0, if_false]
    by_cases h1 : pcd.miu < 0 ∨ cmd = []
    · simp only [h1, if_true, Pcd.withBase_toBase]
    · simp only [h1, if_false, sendChunks_c08, recvChain_c08, show (c08Cfg pcd.wlim F).F = F from rfl,
        show pcd.toBase.nNak = pcd.nNak from rfl, show pcd.toBase.nAck = pcd.nAck from rfl, show pcd.toBase.pni = pcd.pni from rfl]
      rcases sendChunks P F pcd.wlim pcd.nNak (chunks pcd.miu.toNat cmd) pcd.pni w with ⟨w1, pni1, r⟩
      cases r with
      | error e => cases pcd; rfl
      | ok d => cases pcd; rfl

/-- **One initiator.**  `IsoDepR.exchange` with the three repairs switched on (the model the C08 session theorems and
the function bridge of group IsoSm are about) is `IsoDep2.exchange` (the model of C12), for every card, fuel, state,
command and world. -/
theorem exchange_c08 {σ} (P : Peer σ) (F : Nat) (pcd : Pcd) (cmd : Bytes) (w : World σ) :
    ((IsoDepR.exchange P (c08Cfg pcd.wlim F) pcd.toBase cmd w).1,
     Pcd.withBase (IsoDepR.exchange P (c08Cfg pcd.wlim F) pcd.toBase cmd w).2.1 pcd.wlim,
     (IsoDepR.exchange P (c08Cfg pcd.wlim F) pcd.toBase cmd w).2.2) = exchange P F pcd cmd w := by
  have hcmd := exchangeCmd_c08 P F pcd cmd w
  unfold IsoDepR.exchange exchange
  cases hf : pcd.failed with
  | some e =>
    simp only [show pcd.toBase.failed = some e from hf, Pcd.withBase_toBase]
  | none =>
    simp only [show pcd.toBase.failed = none from hf]
    rw [← hcmd]
    rcases IsoDepR.exchangeCmd P (c08Cfg pcd.wlim F) pcd.toBase cmd w with ⟨w', pcd', r⟩
    cases r with
    | ok d => rfl
    | error e => cases e <;> rfl

end NfcVerif.IsoDep2
