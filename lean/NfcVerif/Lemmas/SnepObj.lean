import NfcVerif.Lemmas.Snep
import NfcVerif.Lemmas.Handover
import NfcVerif.Model.SnepObj
/-!
Histories of one `SnepClient` / `HandoverClient` object (`Model/SnepObj.lean`): whatever the mix of
temporary connections, `connect`, requests and `close`, every message is delivered once to the
service the object is connected to at that time, a temporary connection is released after its
request and an explicit one is kept.  Property C06.
Every statement says that a run comes to rest: with any fuel from some `N` on it gives the same `r`.
`Inv w o cur` is what the object carries between two calls: its connection, if any, is to `cur` and
idle with empty queues, and the connections closed plus the current one are those opened (`bal`:
"released", "kept"). `net_req` brings one request on such a connection to rest, idle again, so
`close_inv`, `connect_inv`, `request_inv` keep `Inv` and `history_run` follows `specCur`, `specDl`,
`specOpened` by induction. `Good` makes a request acceptable to every service, so the outcome does
not depend on which it reaches; the 6 of `GoodWorld` is the SNEP header, which the first fragment
must hold. `hh_history_run` is the same induction for the handover client (`HInv`, `req_run`).
-/
namespace NfcVerif.SnepObj
open NfcVerif NfcVerif.Chan NfcVerif.Snep

/-- what the object carries between two calls -/
structure Inv (w : World) (o : Obj) (cur : Option Nat) : Prop where
  cur_eq : o.sock.map (·.svc) = cur
  ok : ∀ c, o.sock = some c → c.net.sst = .idle ∧ c.net.c2s = [] ∧ c.net.s2c = [] ∧ c.net.dl = [] ∧
    ∃ s, w[c.svc]? = some s ∧ o.sendMiu = s.cmiu
  bal : o.closed ++ cur.toList = o.opened

theorem close_inv (w : World) (o : Obj) (cur : Option Nat) (h : Inv w o cur) :
    Inv w (close w o) none ∧ (close w o).dl = o.dl ∧ (close w o).opened = o.opened ∧
    (close w o).acc = o.acc ∧ (close w o).sendMiu = o.sendMiu ∧ (close w o).sock = none := by
  obtain ⟨h1, h2, h3⟩ := h
  unfold close
  cases hs : o.sock with
  | none =>
    simp only [hs, Option.map_none] at h1
    subst h1
    exact ⟨⟨by simp [hs], by simp [hs], h3⟩, rfl, rfl, rfl, rfl, hs⟩
  | some c =>
    obtain ⟨a1, a2, a3, a4, s, a5, a6⟩ := h2 c hs
    simp only [hs, Option.map_some] at h1
    subst h1
    -- an idle server has nothing to process at close
    simp only [a5, a1, srvOnClose, List.map_nil, List.append_nil, and_true]
    exact ⟨rfl, by simp, by simpa using h3⟩

theorem connect_inv (w : World) (o : Obj) (cur : Option Nat) (svc : Nat) (hsvc : svc < w.length) (h : Inv w o cur) :
    Inv w (connect w o svc).1 (some svc) ∧ (connect w o svc).1.dl = o.dl ∧
    (connect w o svc).1.opened = o.opened ++ [svc] ∧ (connect w o svc).1.acc = o.acc ∧ (connect w o svc).2 = .unit := by
  obtain ⟨⟨c1, c2, c3⟩, d1, d2, d3, d4, d5⟩ := close_inv w o cur h
  obtain ⟨s, hs⟩ : ∃ s, w[svc]? = some s := ⟨w[svc], List.getElem?_eq_getElem hsvc⟩
  let o1 := close w o
  have hc : connect w o svc =
      (({ o1 with opened := o1.opened ++ [svc], sock := some { svc := svc, net := Snep.init }, sendMiu := s.cmiu } : Obj),
        HRes.unit) := by
    unfold connect; simp only [hs, o1]
  rw [hc]
  refine ⟨⟨rfl, ?_, ?_⟩, d1, by simp [o1, d2], d3, rfl⟩
  · intro c hc
    simp only [Option.some.injEq] at hc
    subst hc
    exact ⟨rfl, rfl, rfl, rfl, s, hs, rfl⟩
  · simp only [Option.toList_some]
    simp only [Option.toList_none, List.append_nil] at c3
    show (close w o).closed ++ [svc] = (close w o).opened ++ [svc]
    rw [c3]

/-- the requests of a history are acceptable to every service of the peer (so that it does not
matter for the *outcome* which one they reach) and `connect` names an existing service -/
def Good (w : World) (acc : Nat) : HOp → Prop
  | .connect s => s < w.length
  | .close => True
  | .req .put m => ∀ s ∈ w, m.length < 2 ^ 32 ∧ m.length ≤ s.cfg.maxAcc ∧ s.cfg.h.valid m = true
  | .req .get m => acc < 2 ^ 32 ∧ ∀ s ∈ w, 4 + m.length < 2 ^ 32 ∧ 4 + m.length ≤ s.cfg.maxAcc ∧
      s.cfg.h.valid m = true ∧ ∃ rd, s.cfg.h.get m = .inr rd ∧ rd.length < 2 ^ 32

def GoodWorld (w : World) : Prop := 0 < w.length ∧ ∀ s ∈ w, 6 ≤ s.cmiu ∧ 6 ≤ s.cfg.smiu

/-- one request on an idle connection comes to rest: delivered once, connection idle again -/
theorem net_req (w : World) (s : Svc) (hmem : s ∈ w) (acc : Nat) (hs : 6 ≤ s.cmiu ∧ 6 ≤ s.cfg.smiu) (op : Op) (m : Bytes)
    (hg : Good w acc (.req op m)) (n : SNet) (h1 : n.sst = .idle) (h2 : n.c2s = []) (h3 : n.s2c = []) (h4 : n.dl = []) :
    ∃ n', (n'.sst = .idle ∧ n'.c2s = [] ∧ n'.s2c = [] ∧ n'.dl = [(op, m)]) ∧
      ∃ N, ∀ fuel, N ≤ fuel → runOp s.cfg { miu := s.cmiu, acc := acc } fuel n op m = n' := by
  cases op with
  | put =>
    obtain ⟨a, b, c⟩ := hg s hmem
    exact ⟨_, ⟨rfl, rfl, rfl, by rw [h4]; rfl⟩, put_run s.cfg { miu := s.cmiu, acc := acc } m n ⟨h1, h2, h3⟩ hs.1 hs.2 a b c⟩
  | get =>
    obtain ⟨a, b, c, rd, d, -⟩ := hg.2 s hmem
    exact ⟨_, ⟨rfl, rfl, rfl, by rw [h4]; rfl⟩, get_run s.cfg { miu := s.cmiu, acc := acc } m rd n ⟨h1, h2, h3⟩ hs.1 hs.2 a hg.1 b c d⟩

/-- the request itself on an object that has a connection: the message goes, once, to the service
of that connection; the connection is idle again (and closed when it was a temporary one) -/
theorem exchange_inv (w : World) (hw : GoodWorld w) (o : Obj) (c : Conn) (hsock : o.sock = some c)
    (h : Inv w o (some c.svc)) (rel : Bool) (op : Op) (m : Bytes) (hg : Good w o.acc (.req op m)) :
    ∃ r : Obj × HRes, (Inv w r.1 (if rel then none else some c.svc) ∧ r.1.dl = o.dl ++ [(c.svc, op, m)] ∧
        r.1.opened = o.opened ∧ r.1.acc = o.acc) ∧
      ∃ N, ∀ fuel, N ≤ fuel → exchange w fuel o rel op m = r := by
  obtain ⟨a1, a2, a3, a4, s, a5, a6⟩ := h.ok c hsock
  have hmem : s ∈ w := List.mem_of_getElem? a5
  obtain ⟨n1, ⟨b1, b2, b3, b4⟩, N, hN⟩ :=
    net_req w s hmem o.acc (hw.2 s hmem) op m hg c.net a1 a2 a3 a4
  rw [← a6] at hN
  have hset : Inv w (settle o c n1 rel (decide (quiet (proto s.cfg) n1))) (some c.svc) := by
    refine ⟨rfl, ?_, h.bal⟩
    intro c' hc'
    simp only [settle, Option.some.injEq] at hc'
    subst hc'
    exact ⟨b1, b2, b3, rfl, s, a5, a6⟩
  have hdl : (settle o c n1 rel (decide (quiet (proto s.cfg) n1))).dl = o.dl ++ [(c.svc, op, m)] := by
    simp [settle, b4]
  refine ⟨(if rel then close w (settle o c n1 rel (decide (quiet (proto s.cfg) n1)))
      else settle o c n1 rel (decide (quiet (proto s.cfg) n1)), .res (Snep.result n1)), ?_,
    N, fun fuel hf => by simp only [exchange, hsock, a5, hN fuel hf]⟩
  cases rel with
  | false => exact ⟨by simpa using hset, by simpa using hdl, rfl, rfl⟩
  | true =>
    obtain ⟨e1, e2, e3, e4, _, _⟩ := close_inv w _ _ hset
    simp only [if_true]
    exact ⟨e1, by rw [e2, hdl], by rw [e3]; rfl, by rw [e4]; rfl⟩

/-- `put_octets` / `get_octets` of the code as it is -/
theorem request_inv (w : World) (hw : GoodWorld w) (o : Obj) (cur : Option Nat) (h : Inv w o cur)
    (op : Op) (m : Bytes) (hg : Good w o.acc (.req op m)) :
    ∃ r : Obj × HRes, (Inv w r.1 cur ∧ r.1.dl = o.dl ++ [(cur.getD 0, op, m)] ∧
        r.1.opened = o.opened ++ (if cur.isSome then [] else [0]) ∧ r.1.acc = o.acc) ∧
      ∃ N, ∀ fuel, N ≤ fuel → request w fuel false o op m = r := by
  cases hs : o.sock with
  | some c =>
    have hcur : cur = some c.svc := by rw [← h.cur_eq, hs]; rfl
    subst hcur
    obtain ⟨r, ⟨x1, x2, x3, x4⟩, N, hN⟩ := exchange_inv w hw o c hs h false op m hg
    exact ⟨r, ⟨by simpa using x1, by simpa using x2, by simpa using x3, x4⟩, N, fun fuel hf => by
      simp only [request, hs, Bool.false_eq_true, if_false]; exact hN fuel hf⟩
  | none =>
    have hcur : cur = none := by rw [← h.cur_eq, hs]; rfl
    subst hcur
    obtain ⟨i1, i2, i3, i4, i5⟩ := connect_inv w o none 0 hw.1 h
    obtain ⟨c, hc⟩ : ∃ c, (connect w o 0).1.sock = some c ∧ c.svc = 0 := by
      have := i1.cur_eq
      cases hx : (connect w o 0).1.sock with
      | none => simp [hx] at this
      | some c => exact ⟨c, rfl, by simpa [hx] using this⟩
    have i1' : Inv w (connect w o 0).1 (some c.svc) := by rw [hc.2]; exact i1
    obtain ⟨r, ⟨x1, x2, x3, x4⟩, N, hN⟩ :=
      exchange_inv w hw (connect w o 0).1 c hc.1 i1' true op m (by rw [i4]; exact hg)
    refine ⟨r, ⟨by simpa using x1, by rw [x2, i2, hc.2]; rfl, by rw [x3, i3]; rfl, by rw [x4, i4]⟩, N, fun fuel hf => ?_⟩
    have hp : connect w o 0 = ((connect w o 0).1, HRes.unit) := by rw [← i5]
    simp only [request, hs]
    rw [hp]
    exact hN fuel hf

/-- **histories of one SnepClient object** (any length, any mix of temporary connections,
`connect`, requests and `close`) -/
theorem history_run (w : World) (hw : GoodWorld w) : ∀ (h : List HOp) (o : Obj) (cur : Option Nat), Inv w o cur →
    (∀ x ∈ h, Good w o.acc x) →
    ∃ r : Obj × List HRes, (Inv w r.1 (specCur cur h) ∧ r.1.dl = o.dl ++ specDl cur h ∧
        r.1.opened = o.opened ++ specOpened cur h) ∧
      ∃ N, ∀ fuel, N ≤ fuel → hrun w fuel false o h = r := by
  intro h
  induction h with
  | nil => intro o cur hi _; exact ⟨(o, []), ⟨hi, by simp [specDl], by simp [specOpened]⟩, 0, fun _ _ => rfl⟩
  | cons x rest ih =>
    intro o cur hi hg
    have hgx := hg x (by simp)
    -- the step comes to rest at `r1`, from there the remaining history at `r2`
    have key : ∀ r1 : Obj × HRes, r1.1.acc = o.acc → ∀ cur', Inv w r1.1 cur' →
        (∃ N, ∀ fuel, N ≤ fuel → hstep w fuel false o x = r1) →
        ∃ r2 : Obj × List HRes, (Inv w r2.1 (specCur cur' rest) ∧ r2.1.dl = r1.1.dl ++ specDl cur' rest ∧
          r2.1.opened = r1.1.opened ++ specOpened cur' rest) ∧
          ∃ N, ∀ fuel, N ≤ fuel → hrun w fuel false o (x :: rest) = r2 := by
      intro r1 hacc cur' hi1 ⟨N1, hN1⟩
      obtain ⟨r2, hr2, N2, hN2⟩ := ih r1.1 cur' hi1 (fun y hy => by rw [hacc]; exact hg y (List.mem_cons_of_mem _ hy))
      exact ⟨(r2.1, r1.2 :: r2.2), hr2, max N1 N2, fun fuel hf => by
        simp only [hrun, hN1 fuel (by omega), hN2 fuel (by omega)]⟩
    cases x with
    | connect svc =>
      obtain ⟨i1, i2, i3, i4, _⟩ := connect_inv w o cur svc hgx hi
      obtain ⟨r2, ⟨y1, y2, y3⟩, hr⟩ := key (connect w o svc) i4 _ i1 ⟨0, fun _ _ => rfl⟩
      exact ⟨r2, ⟨y1, by rw [y2, i2]; rfl, by rw [y3, i3]; simp [specOpened]⟩, hr⟩
    | close =>
      obtain ⟨i1, i2, i3, i4, _, _⟩ := close_inv w o cur hi
      obtain ⟨r2, ⟨y1, y2, y3⟩, hr⟩ := key (close w o, .unit) i4 _ i1 ⟨0, fun _ _ => rfl⟩
      exact ⟨r2, ⟨y1, by rw [y2, i2]; rfl, by rw [y3, i3]; rfl⟩, hr⟩
    | req op m =>
      obtain ⟨r1, ⟨z1, z2, z3, z4⟩, hr1⟩ := request_inv w hw o cur hi op m hgx
      obtain ⟨r2, ⟨y1, y2, y3⟩, hr⟩ := key r1 z4 _ z1 hr1
      refine ⟨r2, ⟨by simpa [specCur] using y1, by rw [y2, z2]; simp [specDl], ?_⟩, hr⟩
      rw [y3, z3]
      cases cur <;> simp [specOpened]

open NfcVerif.Handover in
/-- what a HandoverClient object carries between two calls -/
def HInv (o : HObj) (connected : Bool) : Prop :=
  o.sock.isSome = connected ∧
  ∀ n, o.sock = some n → n.sst = Handover.HS.collecting [] ∧ n.c2s = [] ∧ n.s2c = [] ∧ n.dl = []

theorem filterMap_answer_unit (l : List HHRes) :
    List.filterMap HHRes.answer (HHRes.unit :: l) = List.filterMap HHRes.answer l := rfl

open NfcVerif.Handover in
theorem hh_history_run (cfg : HCfg) (cmiu : Nat) (hc : 0 < cmiu) (hs : 0 < cfg.smiu) (hreset : cfg.reset = true) :
    ∀ (h : List HHOp) (o : HObj) (conn : Bool) (msgs : List Bytes), HInv o conn → hhSpec conn h = some msgs →
    (∀ m ∈ msgs, PrefixFree cfg.complete m ∧ PrefixFree cfg.complete (cfg.handler m)) →
    ∃ N, ∀ fuel, N ≤ fuel →
      (hhrun cfg cmiu fuel o h).1.dl = o.dl ++ msgs ∧
      (hhrun cfg cmiu fuel o h).2.filterMap HHRes.answer =
        msgs.map (fun m => some (cfg.handler m)) := by
  intro h
  induction h with
  | nil =>
    intro o conn msgs _ hsp _
    simp only [hhSpec, Option.some.injEq] at hsp
    subst hsp
    exact ⟨0, fun _ _ => by simp [hhrun]⟩
  | cons x rest ih =>
    intro o conn msgs hi hsp hpf
    cases x with
    | connect =>
      simp only [hhSpec] at hsp
      obtain ⟨N, hN⟩ := ih (hhstep cfg cmiu 0 o .connect).1 true msgs
        ⟨rfl, fun n hn => by simp only [hhstep, Option.some.injEq] at hn; subst hn; exact ⟨rfl, rfl, rfl, rfl⟩⟩ hsp hpf
      exact ⟨N, fun fuel hf => by simpa [hhrun, hhstep, filterMap_answer_unit] using hN fuel hf⟩
    | close =>
      simp only [hhSpec] at hsp
      obtain ⟨N, hN⟩ := ih (hhstep cfg cmiu 0 o .close).1 false msgs
        ⟨rfl, fun n hn => by simp [hhstep] at hn⟩ hsp hpf
      exact ⟨N, fun fuel hf => by simpa [hhrun, hhstep, filterMap_answer_unit] using hN fuel hf⟩
    | req m =>
      cases conn with
      | false => simp [hhSpec] at hsp
      | true =>
        simp only [hhSpec, Option.map_eq_some_iff] at hsp
        obtain ⟨tl, htl, rfl⟩ := hsp
        obtain ⟨n, hn⟩ : ∃ n, o.sock = some n := Option.isSome_iff_exists.mp hi.1
        obtain ⟨a1, a2, a3, a4⟩ := hi.2 n hn
        obtain ⟨hm, hr⟩ := hpf m (by simp)
        obtain ⟨N1, hN1⟩ := req_run cfg cmiu m n ⟨a1, a2, a3⟩ hc hs hreset hm hr
        have hstep1 : ∀ fuel, N1 ≤ fuel → hhstep cfg cmiu fuel o (.req m) = hhstep cfg cmiu N1 o (.req m) := by
          intro fuel hf
          simp only [hhstep, hn, hN1 fuel hf, hN1 N1 (Nat.le_refl _)]
        have hval : (hhstep cfg cmiu N1 o (.req m)).1.dl = o.dl ++ [m] ∧
            (hhstep cfg cmiu N1 o (.req m)).2 = .res (some (cfg.handler m)) ∧ HInv (hhstep cfg cmiu N1 o (.req m)).1 true := by
          simp only [hhstep, hn, hN1 N1 (Nat.le_refl _), Handover.result, a4, List.nil_append]
          exact ⟨trivial, trivial, rfl, fun n hn' => by
            simp only [Option.some.injEq] at hn'; subst hn'; exact ⟨rfl, rfl, rfl, rfl⟩⟩
        obtain ⟨N2, hN2⟩ := ih (hhstep cfg cmiu N1 o (.req m)).1 true tl hval.2.2 htl
          (fun x hx => hpf x (List.mem_cons_of_mem _ hx))
        refine ⟨max N1 N2, fun fuel hf => ?_⟩
        obtain ⟨y1, y2⟩ := hN2 fuel (by omega)
        simp only [hhrun, hstep1 fuel (by omega)]
        refine ⟨by rw [y1, hval.1]; simp, ?_⟩
        simp only [List.filterMap_cons, hval.2.1, HHRes.answer, List.map_cons]
        rw [y2]

end NfcVerif.SnepObj
