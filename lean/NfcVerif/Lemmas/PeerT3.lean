import NfcVerif.Lemmas.PeerPax
/-!
# C07: `process_command` of the emulated Type 3 Tag with tagtool's services

As found it raises nothing but `IndexError` (a truncated command; the repair catches it) and the
`TypeError` of tagtool's write callback: every key looked up in the two block-count dictionaries
is there (`HasKey`), and no response is longer than 255 octets unless the ids are longer than a
SENSF_RES can make them (`processCommand_safe`).
-/
namespace NfcVerif.Peer
open NfcVerif.T3Emu

def HasKey (d : Dict) (k : Nat) : Prop := d.any (fun p => decide (p.1 = k)) = true

theorem dictGet_of_hasKey {d : Dict} {k : Nat} (h : HasKey d k) : ∃ v, dictGet d k = .ok v := by
  unfold dictGet
  unfold HasKey at h
  cases hf : d.find? (fun p => decide (p.1 = k)) with
  | some p => exact ⟨p.2, rfl⟩
  | none =>
    rw [List.find?_eq_none] at hf
    rw [List.any_eq_true] at h
    obtain ⟨p, hp, hq⟩ := h
    exact absurd hq (hf p hp)

theorem hasKey_dictSet (d : Dict) (k : Nat) (v : Int) (k' : Nat) (h : HasKey d k' ∨ k = k') :
    HasKey (dictSet d k v) k' := by
  unfold dictSet HasKey at *
  split
  · rename_i hany
    rw [List.any_map]
    rcases h with h | h
    · rw [List.any_eq_true] at h ⊢
      obtain ⟨p, hp, hq⟩ := h
      refine ⟨p, hp, ?_⟩
      simp only [Function.comp]
      split
      · rename_i hpk; simp at hq; simp [← hq, hpk]
      · exact hq
    · subst h
      rw [List.any_eq_true] at hany ⊢
      obtain ⟨p, hp, hq⟩ := hany
      refine ⟨p, hp, ?_⟩
      simp only [Function.comp]
      simp at hq
      simp [hq]
  · rw [List.any_append]
    rcases h with h | h <;> simp [h]

theorem foldl_keys (g : Nat × Nat → Int) (l : List (Nat × Nat)) (init : Dict) :
    (∀ k, HasKey init k → HasKey (l.foldl (fun d p => dictSet d p.1 (g p)) init) k) ∧
    (∀ p ∈ l, HasKey (l.foldl (fun d p => dictSet d p.1 (g p)) init) p.1) := by
  induction l generalizing init with
  | nil => exact ⟨fun k h => h, fun p hp => by cases hp⟩
  | cons q l ih =>
    simp only [List.foldl_cons]
    obtain ⟨ih1, ih2⟩ := ih (dictSet init q.1 (g q))
    refine ⟨fun k h => ih1 k (hasKey_dictSet _ _ _ _ (Or.inl h)), ?_⟩
    intro p hp
    rcases List.mem_cons.mp hp with rfl | hp
    · exact ih1 _ (hasKey_dictSet _ _ _ _ (Or.inr rfl))
    · exact ih2 p hp

theorem countDict_keys (svcs : List Nat) (blocks : List (Nat × Nat)) (sc : Nat) (h : sc ∈ svcs) :
    HasKey (countDict svcs blocks) sc := by
  obtain ⟨i, hi, rfl⟩ := List.mem_iff_getElem.mp h
  -- the counting function is left to unification: written out, its cast elaborates to another term than
  -- the one in `countDict` and the two are only found equal by unfolding both
  exact (foldl_keys _ svcs.zipIdx []).2 (svcs[i], i) (List.mem_zipIdx_iff_getElem?.mpr (List.getElem?_eq_getElem hi))

variable {S : Exc → Prop}

/-- the head of one turn of the four block loops (read / write, both models): the service code is in the
service list, so both block counters have it; the counter that is written back keeps every key -/
theorem loop_head {β : Type} {P : β → Prop} (hi : S .index) {svcs : List Nat} {d0 d : Dict}
    (hk : ∀ sc ∈ svcs, HasKey d0 sc ∧ HasKey d sc) (si : Nat) {k : Nat → Int → Int → Py β}
    (h : ∀ sc v0 v, (∀ sc' ∈ svcs, HasKey d0 sc' ∧ HasKey (dictSet d sc (v - 1)) sc') → Tri S P (k sc v0 v)) :
    Tri S P (idxN svcs si >>= fun sc => dictGet d0 sc >>= fun bc => dictGet d sc >>= fun cur => k sc bc cur) := by
  refine (idxN_ix hi _ _).bind fun sc hs => ?_
  have hsc := List.mem_of_getElem? hs
  obtain ⟨v0, hv0⟩ := dictGet_of_hasKey (hk sc hsc).1
  obtain ⟨v, hv⟩ := dictGet_of_hasKey (hk sc hsc).2
  simp only [Py.bind_ok, hv0, hv]
  exact h sc v0 v fun sc' hsc' => ⟨(hk sc' hsc').1, hasKey_dictSet _ _ _ _ (Or.inl (hk sc' hsc').2)⟩

theorem storeRead_len {store : Bytes} {bn : Nat} {blk : Bytes} (h : storeRead store bn = some blk) : blk.length ≤ 16 := by
  unfold storeRead at h
  split at h
  · cases h; simp [sliceN, List.length_take]; omega
  · cases h

theorem readLoop_ok (hi : S .index) (store : Bytes) (svcs : List Nat) (d0 : Dict) (bl : List (Nat × Nat)) (i : Nat) (d : Dict)
    (acc : Bytes) (log : List Call) (hk : ∀ sc ∈ svcs, HasKey d0 sc ∧ HasKey d sc) :
    Tri S (fun x => x.1.length ≤ 3 + acc.length + 16 * bl.length) (readLoop store svcs d0 bl i d acc log) := by
  induction bl generalizing i d acc log with
  | nil =>
    unfold readLoop
    exact Tri.ok (by simp; omega)
  | cons b rest ih =>
    obtain ⟨si, bn⟩ := b
    unfold readLoop
    refine loop_head hi hk si fun sc v0 v hk' => ?_
    cases hr : storeRead store bn with
    | none => exact Tri.ok (by simp only [List.length_cons, List.length_nil]; omega)
    | some blk =>
      have hb := storeRead_len hr
      refine (ih (i + 1) (dictSet d sc (v - 1)) (acc ++ blk) _ hk').mono (fun _ h => h) fun x h => ?_
      simp only [List.length_append, List.length_cons] at h ⊢
      omega

theorem writeLoop_ok (hi : S .index) (ht : S .type_) (svcs : List Nat) (d0 : Dict) (data : Bytes) (bl : List (Nat × Nat)) (i : Nat) (d : Dict)
    (store : Bytes) (log : List Call) (hk : ∀ sc ∈ svcs, HasKey d0 sc ∧ HasKey d sc) :
    Tri S (fun x => x.1.length = 2) (writeLoop svcs d0 data bl i d store log) := by
  induction bl generalizing i d store log with
  | nil =>
    unfold writeLoop
    exact Tri.ok rfl
  | cons b rest ih =>
    obtain ⟨si, bn⟩ := b
    unfold writeLoop
    refine loop_head hi hk si fun sc v0 v hk' => Tri.ite (fun _ => Tri.throw ht) fun _ => ?_
    cases hw : storeWrite store bn (sliceN data (i * 16) ((i + 1) * 16)) with
    | none => exact Tri.ok rfl
    | some s' => exact ih (i + 1) (dictSet d sc (v - 1)) s' _ hk'

theorem emuRead_ok (hi : S .index) (e : Emu) (d : Bytes) : Tri S (fun x => x.1.length ≤ 243) (emuRead e d) := by
  unfold emuRead
  simp only [parseServices_eq]
  refine (idxN_ix hi _ _).bind fun nsvc _ => (PeerT3.parseServices_tri hi _ _ _ _).bind fun p h1 => ?_
  match p, h1 with
  | .done r, h1 => exact Tri.ok (by have := h1 r rfl; simp only; omega)
  | .cont (svcs, d1), _ =>
    refine (idxN_ix hi _ _).bind fun nblk _ => Tri.ite (fun _ => Tri.ok (by simp)) fun hn =>
      (parseBlocks_tri hi _ _ _ _ _).bind fun b h3 => ?_
    match b, h3 with
    | .done r, h3 => exact Tri.ok (by have := h3.1 r rfl; simp only; omega)
    | .cont (blocks, rest), h3 =>
      have hl := h3.2 _ _ rfl
      refine (readLoop_ok hi e.store svcs (countDict svcs blocks) blocks 0 (countDict svcs blocks) [] []
        fun sc hsc => ⟨countDict_keys _ _ _ hsc, countDict_keys _ _ _ hsc⟩).mono (fun _ h => h) fun x h => ?_
      simp only [List.length_nil] at h hl
      omega

theorem emuWrite_ok (hi : S .index) (ht : S .type_) (e : Emu) (d : Bytes) :
    Tri S (fun x => x.1.length = 2) (emuWrite e d) := by
  unfold emuWrite
  simp only [parseServices_eq]
  refine (idxN_ix hi _ _).bind fun nsvc _ => (PeerT3.parseServices_tri hi _ _ _ _).bind fun p h1 => ?_
  match p, h1 with
  | .done r, h1 => exact Tri.ok (h1 r rfl)
  | .cont (svcs, d1), _ =>
    refine (idxN_ix hi _ _).bind fun nblk _ => (parseBlocks_tri hi _ _ _ _ _).bind fun b h3 => ?_
    match b, h3 with
    | .done r, h3 => exact Tri.ok (h3.1 r rfl)
    | .cont (blocks, data), _ =>
      exact Tri.ite (fun _ => Tri.ok rfl) fun _ =>
        writeLoop_ok hi ht svcs (countDict svcs blocks) data blocks 0 (countDict svcs blocks) e.store []
          fun sc hsc => ⟨countDict_keys _ _ _ hsc, countDict_keys _ _ _ hsc⟩

theorem respond_ok (e : Emu) (c : Nat) (r : Bytes) (h : r.length ≤ 245) : ∃ x, respond e c r = .ok x := by
  unfold respond
  rw [if_neg (by omega)]
  exact ⟨_, rfl⟩

theorem respond_safe (e : Emu) (c : Nat) (r : Bytes) (h : r.length ≤ 245) (st : Bytes) (lg : List Call) :
    Safe S (respond e c r >>= fun x => .ok (some x, st, lg) : Py (Option Bytes × Bytes × List Call)) := by
  obtain ⟨x, hx⟩ := respond_ok e c r h
  rw [hx]
  exact Safe.ok _

/-- `process_command` as found raises `IndexError` (a truncated command), the `TypeError` of tagtool's
write callback, and `ValueError` only when the ids are too long for the length octet of the polling or
system code response; no key is ever missing in the block-count dictionaries -/
theorem processCommand_safe (hi : S .index) (ht : S .type_) (e : Emu)
    (hv : 253 < e.idm.length + e.pmm.length + e.sys.length ∨ 244 < e.sys.length → S .value) (cmd : Bytes) :
    Safe S (processCommand e cmd) := by
  unfold processCommand
  refine Safe.bind' (idxN_safe hi _ _) fun l0 => ?_
  refine Safe.ite ?_ (Safe.ite ?_ (Safe.ite ?_ ?_))
  · -- the length octet is not the length: ignored
    exact Safe.ok _
  · -- polling: the response carries the ids
    refine Safe.bind' (idxN_safe hi _ _) fun rc => Safe.ite' (fun h => Safe.throw (hv ?_)) fun _ => Safe.ok _
    split at h <;> simp only [List.length_append] at h <;> omega
  · -- addressed to this IDm: by command code
    refine Safe.bind' (idxN_safe hi _ _) fun code => ?_
    refine Safe.ite ?_ (Safe.ite ?_ (Safe.ite ?_ (Safe.ite' ?_ ?_)))
    · -- 0x04 request response
      exact respond_safe e _ _ (by decide) _ _
    · -- 0x06 read
      have g := emuRead_ok hi e (cmd.drop 10)
      refine Safe.bind g.safe fun (rsp, lg) hx => respond_safe e _ _ ?_ _ _
      have : rsp.length ≤ 243 := g.yields _ hx
      omega
    · -- 0x08 write
      have g := emuWrite_ok hi ht e (cmd.drop 10)
      refine Safe.bind g.safe fun (rsp, st, lg) hx => respond_safe e _ _ ?_ _ _
      have : rsp.length = 2 := g.yields _ hx
      omega
    · -- 0x0C request system code: the response carries the system code
      intro _
      unfold respond
      refine Safe.bind' (Safe.ite' (fun h => Safe.throw (hv ?_)) fun _ => Safe.ok _) fun _ => Safe.ok _
      simp only [List.length_append, List.length_cons, List.length_nil] at h
      omega
    · -- any other command code: ignored
      exact fun _ => Safe.ok _
  · -- another IDm: ignored
    exact Safe.ok _

theorem processCommandR_safe (e : Emu) (cmd : Bytes) :
    Safe (fun x => x = .type_ ∨ x = .key ∨ x = .value) (processCommandR e cmd) := by
  intro x h
  unfold processCommandR at h
  split at h
  · cases h
  · rename_i hne
    rcases processCommand_safe (S := fun x => x = .index ∨ x = .type_ ∨ x = .value) (Or.inl rfl) (Or.inr (Or.inl rfl)) e
      (fun _ => Or.inr (Or.inr rfl)) cmd x h with h1 | h1 | h1
    · subst h1; exact absurd h hne
    · exact Or.inl h1
    · exact Or.inr (Or.inr h1)

end NfcVerif.Peer
