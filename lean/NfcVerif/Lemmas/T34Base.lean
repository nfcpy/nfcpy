import NfcVerif.Model.T34Base
import NfcVerif.Lemmas.PyPrims
/-! Lemmas about `splice` / `sliceN` shared by the Type 3 and Type 4 proofs. -/
namespace NfcVerif.T34

theorem splice_length (m : Bytes) (off : Nat) (d : Bytes) (h : off + d.length ≤ m.length) :
    (splice m off d).length = m.length := by
  simp only [splice, List.length_append, List.length_take, List.length_drop]; omega

@[simp] theorem splice_nil (m : Bytes) (off : Nat) : splice m off [] = m := by
  simp [splice]

theorem getElem?_splice (m : Bytes) (off : Nat) (d : Bytes) (h : off + d.length ≤ m.length) (i : Nat) :
    (splice m off d)[i]? = if i < off then m[i]? else if i < off + d.length then d[i - off]? else m[i]? := by
  unfold splice
  rw [List.append_assoc, List.getElem?_append]
  simp only [List.length_take, Nat.min_eq_left (show off ≤ m.length by omega)]
  split
  · simp [*]
  · rw [List.getElem?_append]
    split
    · rw [if_pos (by omega)]
    · rw [if_neg (by omega), List.getElem?_drop]; congr 1; omega

theorem splice_take_before (m : Bytes) (off : Nat) (d : Bytes) (n : Nat) (hn : n ≤ off) (h : off + d.length ≤ m.length) :
    (splice m off d).take n = m.take n := by
  apply List.ext_getElem?; intro i
  simp only [List.getElem?_take, getElem?_splice m off d h]
  split
  · rw [if_pos (by omega)]
  · rfl

theorem splice_drop_after (m : Bytes) (off : Nat) (d : Bytes) (n : Nat) (hn : off + d.length ≤ n)
    (h : off + d.length ≤ m.length) : (splice m off d).drop n = m.drop n := by
  apply List.ext_getElem?; intro i
  simp only [List.getElem?_drop, getElem?_splice m off d h]
  rw [if_neg (by omega), if_neg (by omega)]

theorem splice_zero (m d : Bytes) : splice m 0 d = d ++ m.drop d.length := by
  simp [splice]

theorem splice_append_left (a r d : Bytes) : splice (a ++ r) a.length d = a ++ splice r 0 d := by
  simp [splice]

theorem sliceN_splice_same (m : Bytes) (off : Nat) (d : Bytes) (h : off + d.length ≤ m.length) :
    sliceN (splice m off d) off (off + d.length) = d := by
  have hl : (m.take off).length = off := by rw [List.length_take, Nat.min_eq_left (by omega)]
  rw [sliceN, splice, List.append_assoc, List.drop_left' hl, Nat.add_sub_cancel_left, List.take_left]

theorem sliceN_splice_disjoint (m : Bytes) (off : Nat) (d : Bytes) (a b : Nat) (h : off + d.length ≤ m.length)
    (hd : off + d.length ≤ a ∨ b ≤ off) : sliceN (splice m off d) a b = sliceN m a b := by
  apply List.ext_getElem?; intro j
  simp only [sliceN, List.getElem?_take, List.getElem?_drop, getElem?_splice m off d h]
  split
  · rcases hd with hd | hd
    · rw [if_neg (by omega), if_neg (by omega)]
    · rw [if_pos (by omega)]
  · rfl

theorem splice_adj (m : Bytes) (off : Nat) (a b : Bytes) (h : off + a.length + b.length ≤ m.length) :
    splice (splice m off a) (off + a.length) b = splice m off (a ++ b) := by
  have hl : (m.take off ++ a).length = off + a.length := by
    rw [List.length_append, List.length_take, Nat.min_eq_left (by omega)]
  rw [← hl, show splice m off a = (m.take off ++ a) ++ m.drop (off + a.length) from rfl, splice_append_left,
    splice_zero, List.drop_drop]
  simp only [splice, List.length_append, List.append_assoc, Nat.add_assoc]

theorem foldl_splice_pres {κ : Type} (off : κ → Nat) (dat : κ → Bytes) (nl : Nat) : ∀ (cs : List κ) (m : Bytes),
    (∀ c ∈ cs, nl ≤ off c ∧ off c + (dat c).length ≤ m.length) →
    (cs.foldl (fun m c => splice m (off c) (dat c)) m).take nl = m.take nl ∧
      (cs.foldl (fun m c => splice m (off c) (dat c)) m).length = m.length := by
  intro cs
  induction cs with
  | nil => intro m _; exact ⟨rfl, rfl⟩
  | cons c cs ih =>
    intro m h
    have hc := h c List.mem_cons_self
    have hl : (splice m (off c) (dat c)).length = m.length := splice_length _ _ _ hc.2
    have := ih (splice m (off c) (dat c)) (fun c' hc' => by rw [hl]; exact h c' (List.mem_cons_of_mem _ hc'))
    rw [List.foldl_cons, this.1, this.2, hl, splice_take_before _ _ _ nl hc.1 hc.2]
    exact ⟨rfl, rfl⟩

/-- the shape of both NDEF writers (`T3.planWrite`, `T4.planWrite`): the first command invalidates the header at
offset 0, the last one sets it, and nothing in between touches the first `nl` octets -/
theorem foldl_splice_mid {κ : Type} (off : κ → Nat) (dat : κ → Bytes) (nl : Nat) (c0 cl : κ) (mid : List κ) (m : Bytes)
    (h0 : off c0 = 0 ∧ nl ≤ (dat c0).length ∧ (dat c0).length ≤ m.length)
    (hmid : ∀ c ∈ mid, nl ≤ off c ∧ off c + (dat c).length ≤ m.length) (k : Nat) (hk0 : 0 < k)
    (hkn : k < (c0 :: (mid ++ [cl])).length) :
    (((c0 :: (mid ++ [cl])).take k).foldl (fun m c => splice m (off c) (dat c)) m).take nl = (dat c0).take nl ∧
    (((c0 :: (mid ++ [cl])).take k).foldl (fun m c => splice m (off c) (dat c)) m).length = m.length := by
  obtain ⟨k', rfl⟩ : ∃ k', k = k' + 1 := ⟨k - 1, by omega⟩
  rw [List.length_cons, List.length_append, List.length_singleton] at hkn
  have hl0 : (splice m (off c0) (dat c0)).length = m.length := splice_length _ _ _ (by omega)
  obtain ⟨ht, hl⟩ := foldl_splice_pres off dat nl (mid.take k') (splice m (off c0) (dat c0)) fun c hc => by
    rw [hl0]; exact hmid c (List.mem_of_mem_take hc)
  rw [List.take_succ_cons, List.take_append_of_le_length (by omega), List.foldl_cons, ht, hl, hl0, h0.1, splice_zero,
    List.take_append_of_le_length h0.2.1]
  exact ⟨rfl, rfl⟩

theorem sliceN_append (m : Bytes) (a b c : Nat) (hab : a ≤ b) (hbc : b ≤ c) :
    sliceN m a b ++ sliceN m b c = sliceN m a c := by
  unfold sliceN
  have : c - a = (b - a) + (c - b) := by omega
  rw [this, List.take_add, List.drop_drop]
  congr 3; omega

theorem sliceN_length (m : Bytes) (a b : Nat) (h : b ≤ m.length) : (sliceN m a b).length = b - a := by
  rw [length_sliceN]; omega

theorem sliceN_append_drop (l : Bytes) (a b : Nat) (h : a ≤ b) : sliceN l a b ++ l.drop b = l.drop a := by
  have : l.drop b = (l.drop a).drop (b - a) := by rw [List.drop_drop]; congr 1; omega
  rw [this, sliceN, List.take_append_drop]

theorem sliceN_to_end (l : Bytes) (a b : Nat) (h : l.length ≤ b) : sliceN l a b = l.drop a :=
  List.take_of_length_le (by rw [List.length_drop]; omega)

theorem sliceN_min (l : Bytes) (a n : Nat) : sliceN l a (a + min n (l.length - a)) = sliceN l a (a + n) := by
  simp [sliceN, List.take_eq_take_iff]

theorem splice_chunk (f buf : Bytes) (off a n : Nat) (hn : a + n ≤ buf.length) (h : off + (buf.length - a) ≤ f.length) :
    splice (splice f off (sliceN buf a (a + n))) (off + n) (buf.drop (a + n)) = splice f off (buf.drop a) := by
  have hl : (sliceN buf a (a + n)).length = n := by rw [sliceN_length _ _ _ hn]; omega
  have := splice_adj f off (sliceN buf a (a + n)) (buf.drop (a + n)) (by rw [hl, List.length_drop]; omega)
  rw [hl] at this
  rw [this, sliceN_append_drop _ _ _ (by omega)]

theorem sliceN_empty (m : Bytes) (a b : Nat) (h : b ≤ a) : sliceN m a b = [] := by
  simp [sliceN, show b - a = 0 by omega]

theorem sliceN_zero_take (m : Bytes) (b : Nat) : sliceN m 0 b = m.take b := by simp [sliceN]

theorem zeros_length (n : Nat) : (zeros n).length = n := by simp [zeros]

end NfcVerif.T34
