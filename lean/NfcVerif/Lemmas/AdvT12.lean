import NfcVerif.Model.AdvT12
import NfcVerif.Lemmas.Tlv
import NfcVerif.Lemmas.PyPrims
/-!
# C08 lemmas: the TLV walker of Type 1 and Type 2 over an abstract lazily filled memory (`MemOK`), and the Type 1
memory reader as an instance (amortised command bound `F1`)

`read_tlv` of tt2.py is not confined to the data area: it reads wherever lengths and reserved ranges lead.  The bound
on the addresses (and with it: no sector number above 255, the command bound) rests on a counting argument: among any
`k` consecutive addresses at most `tot skip` are reserved (`cfree_tot`), and `tot skip` grows by at most 256 for every
5 octets of TLV area consumed (`walk_spec`).
-/
namespace NfcVerif.Adv
open NfcVerif.Tlv (Skip inSkip nextFree ctlRange cfree endAddr endAddr_mono endAddr_add endAddr_succ_gt
  endAddr_le_add)

theorem IsBytes.append {l m : Bytes} (h : IsBytes l) (h' : IsBytes m) : IsBytes (l ++ m) :=
  isBytes_append h h'

/-- outcome of one reading step started in a `J` state -/
def Step {σ α} (J Jf : σ → Prop) (x : Py α × σ) (P : α → Prop) : Prop :=
  (∃ v, x.1 = .ok v ∧ J x.2 ∧ P v) ∨ (∃ e, x.1 = .error e ∧ isTagCmd e = true ∧ Jf x.2)

/-- the form in which a `Step` is used: rewrite the call with the equation, the surrounding `match` reduces -/
theorem Step.cases {σ α} {J Jf : σ → Prop} {x : Py α × σ} {P : α → Prop} (h : Step J Jf x P) :
    (∃ v s, x = (.ok v, s) ∧ J s ∧ P v) ∨ (∃ e s, x = (.error e, s) ∧ isTagCmd e = true ∧ Jf s) := by
  obtain ⟨r, s⟩ := x
  rcases h with ⟨v, h1, h2, h3⟩ | ⟨e, h1, h2, h3⟩
  · exact Or.inl ⟨v, s, by rw [← h1], h2, h3⟩
  · exact Or.inr ⟨e, s, by rw [← h1], h2, h3⟩

theorem Step.ok {σ α} {J Jf : σ → Prop} {P : α → Prop} {v : α} {s : σ} (hJ : J s) (hp : P v) :
    Step J Jf (.ok v, s) P :=
  Or.inl ⟨v, rfl, hJ, hp⟩

theorem Step.err {σ α} {J Jf : σ → Prop} {P : α → Prop} {e : Exc} {s : σ} (he : isTagCmd e = true) (hf : Jf s) :
    Step J Jf ((.error e, s) : Py α × σ) P :=
  Or.inr ⟨e, rfl, he, hf⟩

/-- the same outcome under weaker descriptions of the state -/
theorem Step.weaken {σ α} {J J' Jf Jf' : σ → Prop} {x : Py α × σ} {P : α → Prop} (h : Step J Jf x P)
    (hJ : ∀ s, J s → J' s) (hf : ∀ s, Jf s → Jf' s) : Step J' Jf' x P := by
  rcases h with ⟨v, h1, h2, h3⟩ | ⟨e, h1, h2, h3⟩
  · exact Or.inl ⟨v, h1, hJ _ h2, h3⟩
  · exact Or.inr ⟨e, h1, h2, hf _ h3⟩

theorem step_mono {σ α} {J Jf : σ → Prop} {x : Py α × σ} {P Q : α → Prop} (h : Step J Jf x P)
    (hpq : ∀ v, P v → Q v) : Step J Jf x Q := by
  rcases h with ⟨v, h1, h2, h3⟩ | h
  · exact Or.inl ⟨v, h1, h2, hpq v h3⟩
  · exact Or.inr h

/-- what the walker needs from a memory reader: `J` holds while everything went well, `Jf` after the
first failure (no further command is sent then); requests stay below `LIM` -/
structure MemOK {σ} (M : Mem σ) (J Jf : σ → Prop) (LIM : Nat) : Prop where
  weaken : ∀ s, J s → Jf s
  bytes : ∀ s, J s → IsBytes (M.cache s)
  ens : ∀ stop s, J s → stop ≤ LIM → (M.cache s).length < stop →
    Step (fun s' => J s' ∧ stop ≤ (M.cache s').length) Jf (M.ensure stop s) (fun _ => True)

section mem
variable {σ : Type} {M : Mem σ} {J Jf : σ → Prop} {LIM : Nat}

/-- `memory[..]`: what is computed from the cache once it holds `stop` octets (after `_read_from_tag(stop)`
if it does not yet) -/
theorem cached_step {α} (hM : MemOK M J Jf LIM) (f : Bytes → Py α) {P : α → Prop} (stop : Nat)
    (hf : ∀ c, IsBytes c → stop ≤ c.length → ∃ v, f c = .ok v ∧ P v) (s : σ) (hJ : J s) (hs : stop ≤ LIM) :
    Step (fun s' => J s' ∧ stop ≤ (M.cache s').length) Jf (if stop ≤ (M.cache s).length then (f (M.cache s), s)
      else match M.ensure stop s with
        | (.ok _, s') => (f (M.cache s'), s')
        | (.error e, s') => (.error e, s')) P := by
  split
  · rename_i h
    obtain ⟨v, hv, hp⟩ := hf _ (hM.bytes s hJ) h
    exact Or.inl ⟨v, hv, ⟨hJ, h⟩, hp⟩
  · rcases (hM.ens stop s hJ hs (by omega)).cases with ⟨u, s', hg, hJ', -⟩ | ⟨e, s', hg, ht, hf'⟩
    · rw [hg]
      obtain ⟨v, hv, hp⟩ := hf _ (hM.bytes s' hJ'.1) hJ'.2
      exact Or.inl ⟨v, hv, hJ', hp⟩
    · rw [hg]; exact Step.err ht hf'

theorem getB_step (hM : MemOK M J Jf LIM) (a : Nat) (s : σ) (hJ : J s) (ha : a < LIM) :
    Step (fun s' => J s' ∧ a < (M.cache s').length) Jf (getB M a s) (fun b => b < 256) :=
  cached_step hM (idxN · a) (a + 1) (fun c hc h => let ⟨b, hb, hm⟩ := idxN_lt c a h; ⟨b, hb, hc b (List.mem_of_getElem? hm)⟩) s hJ ha

theorem unpackH_slice (c : Bytes) (o : Nat) (h : o + 2 ≤ c.length) :
    ∃ v, unpackH (sliceN c o (o + 2)) 0 = .ok v ∧ (IsBytes c → v < 65536) := by
  have hl : (sliceN c o (o + 2)).length = 2 := by simp [sliceN]; omega
  have hm : ∀ x ∈ sliceN c o (o + 2), x ∈ c := fun x hx => List.mem_of_mem_drop (List.mem_of_mem_take hx)
  match hs : sliceN c o (o + 2), hl, hm with
  | [a, b], _, hm =>
    refine ⟨a * 256 + b, by simp [unpackH], fun hb => ?_⟩
    have ha := hb a (hm a (by simp))
    have hb' := hb b (hm b (by simp))
    omega

theorem getH_step (hM : MemOK M J Jf LIM) (o : Nat) (s : σ) (hJ : J s) (ha : o + 2 ≤ LIM) :
    Step (fun s' => J s' ∧ o + 2 ≤ (M.cache s').length) Jf (getH M o s) (fun v => v < 65536) :=
  cached_step hM (fun c => unpackH (sliceN c o (o + 2)) 0) (o + 2)
    (fun c hc h => let ⟨v, hv, hlt⟩ := unpackH_slice c o h; ⟨v, hv, hlt hc⟩) s hJ ha

end mem

def tot : Skip → Nat
  | [] => 0
  | r :: rs => (r.2 - r.1) + tot rs

theorem tot_append (s : Skip) (r : Nat × Nat) : tot (s ++ [r]) = tot s + (r.2 - r.1) := by
  induction s with
  | nil => simp [tot]
  | cons x xs ih => simp only [List.cons_append, tot, ih]; omega

/-- how many addresses of `[a, a+k)` lie in the range `r` -/
def cntR (r : Nat × Nat) : Nat → Nat → Nat
  | _, 0 => 0
  | a, k+1 => (if r.1 ≤ a ∧ a < r.2 then 1 else 0) + cntR r (a+1) k

theorem cntR_le (r : Nat × Nat) (k : Nat) : ∀ a, cntR r a k ≤ r.2 - max a r.1 := by
  induction k with
  | zero => intro a; simp [cntR]
  | succ k ih =>
    intro a
    simp only [cntR]
    have := ih (a+1)
    split <;> omega

theorem inSkip_cons (r : Nat × Nat) (rs : Skip) (a : Nat) :
    inSkip (r :: rs) a = ((decide (r.1 ≤ a) && decide (a < r.2)) || inSkip rs a) := by
  simp [inSkip]

theorem cfree_tot (s : Skip) : ∀ (k a : Nat), k ≤ cfree s a k + tot s := by
  induction s with
  | nil =>
    intro k
    induction k with
    | zero => intro a; simp [cfree]
    | succ k ih => intro a; have := ih (a+1); simp [cfree, inSkip, tot] at this ⊢; omega
  | cons r rs ihs =>
    have key : ∀ (k a : Nat), cfree rs a k ≤ cfree (r :: rs) a k + cntR r a k := by
      intro k
      induction k with
      | zero => intro a; simp [cfree]
      | succ k ih =>
        intro a
        have := ih (a+1)
        simp only [cfree, cntR, inSkip_cons]
        by_cases h1 : r.1 ≤ a ∧ a < r.2
        · simp only [if_true, h1, and_self]
          split <;> omega
        · have : (decide (r.1 ≤ a) && decide (a < r.2)) = false := by
            simp only [Bool.and_eq_false_imp, decide_eq_true_eq, decide_eq_false_iff_not]
            intro h; exact fun h' => h1 ⟨h, h'⟩
          simp only [this, Bool.false_or, if_neg h1]
          split <;> omega
    intro k a
    have h1 := ihs k a
    have h2 := key k a
    have h3 := cntR_le r k a
    simp only [tot]
    omega

theorem endAddr_tot (s : Skip) (n a : Nat) : endAddr s n a ≤ a + n + tot s := by
  have h := cfree_tot s (n + tot s) a
  have := Tlv.endAddr_le_of_cfree s n a (n + tot s) (by omega)
  omega

section mem
variable {σ : Type} {M : Mem σ} {J Jf : σ → Prop} {LIM : Nat}

/-- a value read by the value loop, `E` = the address behind it -/
def ValOK (confine : Bool) (lo E end_ n : Nat) (r : Option (Bytes × List Nat)) : Prop :=
  (r = none ∧ confine = true) ∨ ∃ v as, r = some (v, as) ∧ v.length = n ∧ as.length = n ∧ IsBytes v ∧
    ∀ a ∈ as, lo ≤ a ∧ a < E ∧ (confine = true → a < end_)

theorem readVal_spec (hM : MemOK M J Jf LIM) (confine : Bool) (skip : Skip) (end_ lo E : Nat)
    (hL : ∀ a, a < E → (confine = true → a < end_) → a < LIM) :
    ∀ (k pos : Nat) (v : Bytes) (as : List Nat) (s : σ), J s → v.length = as.length → IsBytes v →
      endAddr skip k pos = E → (∀ a ∈ as, lo ≤ a ∧ a < E ∧ (confine = true → a < end_)) → lo ≤ pos →
      Step J Jf (readVal M confine skip end_ k pos v as s) (ValOK confine lo E end_ (v.length + k)) := by
  intro k
  induction k with
  | zero =>
    intro pos v as s hJ hl hb _ ha _
    unfold readVal
    exact Step.ok hJ (Or.inr ⟨_, _, rfl, List.length_reverse, by rw [List.length_reverse, hl]; rfl,
      fun b h => hb b (List.mem_reverse.mp h), fun a h => ha a (List.mem_reverse.mp h)⟩)
  | succ k ih =>
    intro pos v as s hJ hl hb hE ha hp
    unfold readVal
    have hge := Tlv.nextFree_ge skip pos
    have hlt : nextFree skip pos < E := by rw [← hE]; exact endAddr_succ_gt skip k pos
    simp only
    split
    · rename_i hc
      exact Step.ok hJ (Or.inl ⟨rfl, hc.1⟩)
    · rename_i hc
      have hce : confine = true → nextFree skip pos < end_ := fun h => Nat.lt_of_not_le fun h' => hc ⟨h, h'⟩
      rcases (getB_step hM (nextFree skip pos) s hJ (hL _ hlt hce)).cases with
        ⟨b, s', hg, ⟨hJ', -⟩, hb'⟩ | ⟨e, s', hg, ht, hf⟩
      · rw [hg]
        have := ih (nextFree skip pos + 1) (b :: v) (nextFree skip pos :: as) s' hJ'
          (by rw [List.length_cons, List.length_cons, hl])
          (fun x hx => by
            rcases List.mem_cons.mp hx with rfl | h
            · exact hb'
            · exact hb x h)
          hE
          (fun a h => by
            rcases List.mem_cons.mp h with rfl | h
            · exact ⟨by omega, hlt, hce⟩
            · exact ha a h)
          (by omega)
        rw [show (b :: v).length + k = v.length + (k + 1) by rw [List.length_cons]; omega] at this
        exact this
      · rw [hg]; exact Step.err ht hf

/-- what `readTlvBody` returns at `off` -/
def TlvOK (confine : Bool) (skip : Skip) (end_ off : Nat) : TlvR → Prop
  | .beyond => confine = true
  | .nul _ => True
  | .val _ l v as hdr => v.length = l ∧ as.length = l ∧ IsBytes v ∧ (hdr = 2 ∨ hdr = 4) ∧ l ≤ 65535 ∧
      ∀ a ∈ as, off + hdr ≤ a ∧ a < endAddr skip l (off + hdr) ∧ (confine = true → a < end_)

/-- 65539 in `hL`: 4 octets of header and 65535 of value, all that a TLV at `off` can reach -/
theorem readTlvBody_spec (hM : MemOK M J Jf LIM) (confine : Bool) (skip : Skip) (end_ off : Nat)
    (hL : ∀ a, a < endAddr skip 65539 off → (confine = true → a < end_) → a < LIM) (s : σ) (hJ : J s) :
    Step J Jf (readTlvBody M confine skip end_ off s) (TlvOK confine skip end_ off) := by
  have hge := Tlv.endAddr_ge skip 65539 off
  have hval : ∀ hd l, hd + l ≤ 65539 → endAddr skip l (off + hd) ≤ endAddr skip 65539 off := by
    intro hd l h
    have h1 := endAddr_mono skip l (off + hd) (endAddr skip hd off) (Tlv.endAddr_ge skip hd off)
    rw [← endAddr_add] at h1
    have h2 := endAddr_le_add skip (hd + l) (65539 - (hd + l)) off
    rw [show hd + l + (65539 - (hd + l)) = 65539 by omega] at h2
    omega
  have hres : ∀ t hd l s', (hd = 2 ∨ hd = 4) → l ≤ 65535 → J s' →
      Step J Jf (match readVal M confine skip end_ l (off + hd) [] [] s' with
        | (.error e, s4) => (.error e, s4)
        | (.ok none, s4) => (.ok .beyond, s4)
        | (.ok (some va), s4) => (.ok (.val t l va.1 va.2 hd), s4)) (TlvOK confine skip end_ off) := by
    intro t hd l s' hhd hl hJ'
    have hv := readVal_spec hM confine skip end_ (off + hd) _
      (fun a ha => hL a (Nat.lt_of_lt_of_le ha (hval hd l (by omega)))) l (off + hd) [] [] s' hJ' rfl isBytes_nil rfl
      (fun a h => by cases h) (Nat.le_refl _)
    rw [List.length_nil, Nat.zero_add] at hv
    rcases hv.cases with ⟨r, s4, hg4, hJ4, hr⟩ | ⟨e, s4, hg4, ht, hf⟩
    · rw [hg4]
      rcases hr with ⟨rfl, hc⟩ | ⟨v, as, rfl, hr⟩
      · exact Step.ok hJ4 hc
      · exact Step.ok hJ4 ⟨hr.1, hr.2.1, hr.2.2.1, hhd, hl, hr.2.2.2⟩
    · rw [hg4]; exact Step.err ht hf
  unfold readTlvBody
  split
  · rename_i hc; exact Step.ok hJ hc.1
  · rename_i h0
    rcases (getB_step hM off s hJ (hL _ (by omega) fun h => Nat.lt_of_not_le fun h' => h0 ⟨h, h'⟩)).cases with
      ⟨t, s1, hg, ⟨hJ1, -⟩, -⟩ | ⟨e, s1, hg, ht, hf⟩
    · rw [hg]; simp only
      split
      · exact Step.ok hJ1 trivial
      · split
        · rename_i hc; exact Step.ok hJ1 hc.1
        · rename_i h1
          rcases (getB_step hM (off + 1) s1 hJ1
              (hL _ (by omega) fun h => Nat.lt_of_not_le fun h' => h1 ⟨h, h'⟩)).cases with
            ⟨l0, s2, hg2, ⟨hJ2, -⟩, hl0⟩ | ⟨e, s2, hg2, ht, hf⟩
          · rw [hg2]; simp only
            split
            · split
              · rename_i hc; exact Step.ok hJ2 hc.1
              · rename_i h4
                have h3 := hL (off + 3) (by omega) fun h => Nat.lt_of_not_le fun h' => h4 ⟨h, Nat.lt_succ_of_le h'⟩
                rcases (getH_step hM (off + 2) s2 hJ2 h3).cases with ⟨l, s3, hg3, ⟨hJ3, -⟩, hl⟩ | ⟨e, s3, hg3, ht, hf⟩
                · rw [hg3]; exact hres t 4 l s3 (Or.inr rfl) (by omega) hJ3
                · rw [hg3]; exact Step.err ht hf
            · exact hres t 2 l0 s2 (Or.inl rfl) (by omega) hJ2
          · rw [hg2]; exact Step.err ht hf
    · rw [hg]; exact Step.err ht hf

theorem readTlv_spec (hM : MemOK M J Jf LIM) (t1 : Bool) (skip : Skip) (end_ off : Nat)
    (hL : ∀ a, a < endAddr skip 65539 off → (t1 = true → a < end_) → a < LIM) (s : σ) (hJ : J s) :
    (∃ r s', readTlv M t1 skip end_ off s = (.ok r, s') ∧ ((J s' ∧ TlvOK t1 skip end_ off r) ∨ (r = .beyond ∧ Jf s'))) ∨
    (∃ e s', readTlv M t1 skip end_ off s = (.error e, s') ∧ t1 = false ∧ isTagCmd e = true ∧ Jf s') := by
  unfold readTlv
  rcases (readTlvBody_spec hM t1 skip end_ off hL s hJ).cases with ⟨r, s', hg, h2, h3⟩ | ⟨e, s', hg, ht, hf⟩
  · rw [hg]; exact Or.inl ⟨r, s', rfl, Or.inl ⟨h2, h3⟩⟩
  · rw [hg]
    cases t1 with
    | true => simp only [ht, and_self, if_true]; exact Or.inl ⟨.beyond, s', rfl, Or.inr ⟨rfl, hf⟩⟩
    | false => exact Or.inr ⟨e, s', if_neg fun h => Bool.false_ne_true h.1, rfl, ht, hf⟩

theorem ctlRange_size (lock : Bool) (lim : Nat) (v : Bytes) (h : v.length = 3) (hb : IsBytes v) :
    ∃ rg, ctlRange lock lim v = .ok rg ∧ rg.2 - rg.1 ≤ 256 := by
  match v, h, hb with
  | [a, b, c], _, hb =>
    have hb' : b < 256 := hb b (by simp)
    simp only [ctlRange, idxN_cons_zero, idxN_cons_succ, Py.bind_ok]
    refine ⟨_, rfl, ?_⟩
    simp only
    cases lock <;> simp <;> split <;> omega

/-- what the walk hands to `finish` -/
def FoundS (t1 : Bool) (lo end_ : Nat) (fd : Found) : Prop :=
  lo ≤ fd.off ∧ ∀ v as hdr, fd.ndef = some (v, as, hdr) → v.length = as.length ∧
    ∀ a ∈ as, fd.off + hdr ≤ a ∧ a < endAddr fd.skip v.length (fd.off + hdr) ∧ (t1 = true → a < end_)

/-- The `while offset < end` loop of both tag types over any lazily filled memory.  Type 1 reads nothing at or
behind `end_`, so `end_ ≤ LIM` is all the memory reader must accept (`hC`).  Type 2 reads wherever lengths and
reserved ranges lead: a TLV at `off` ends below `off + 65540 + tot skip`, and `tot skip` grows by at most 256 for
every control TLV, i.e. for every 5 octets of `off` (`htot`); `hU` says the reader accepts that much. -/
theorem walk_spec (hM : MemOK M J Jf LIM) (t1 : Bool) (lo end_ : Nat) (hC : t1 = true → end_ ≤ LIM)
    (hU : t1 = false → 5 * (end_ + 65540) + 256 * (end_ - lo) ≤ 5 * LIM) :
    ∀ (fuel off : Nat) (skip : Skip) (s : σ), J s → end_ < off + fuel → 0 < fuel → lo ≤ off →
      (t1 = false → 5 * tot skip ≤ 256 * (off - lo)) →
      ∃ r s', walk M t1 end_ fuel off skip s = (.ok r, s') ∧ Jf s' ∧ ∀ fd, r = some fd → FoundS t1 lo end_ fd := by
  intro fuel
  induction fuel with
  | zero => intro off skip s _ _ h; omega
  | succ f ih =>
    intro off skip s hJ hf _ hs htot
    have hnone : ∀ o sk, lo ≤ o → FoundS t1 lo end_ ⟨o, sk, none⟩ := fun _ _ ho => ⟨ho, fun _ _ _ h => by cases h⟩
    unfold walk
    by_cases hge : off ≥ end_
    · rw [if_pos hge]
      exact ⟨_, _, rfl, hM.weaken s hJ, fun fd h => by cases h; exact hnone _ _ hs⟩
    · rw [if_neg hge]
      by_cases hin : t1 = true ∧ inSkip skip off = true
      · rw [if_pos hin]
        exact ih (off + 1) skip s hJ (by omega) (by omega) (by omega) fun h => by rw [hin.1] at h; cases h
      · rw [if_neg hin]
        dsimp only
        generalize ho : (if t1 = true then off else nextFree skip off) = o
        have hoff : off ≤ o := by
          subst ho; split
          · exact Nat.le_refl _
          · exact Tlv.nextFree_ge skip off
        have hreach : ∀ a, a < endAddr skip 65539 o → (t1 = true → a < end_) → a < LIM := by
          intro a ha hc
          cases t1 with
          | true => exact Nat.lt_of_lt_of_le (hc rfl) (hC rfl)
          | false =>
            subst ho
            have h1 := endAddr_mono skip 65539 (nextFree skip off) (nextFree skip off + 1) (Nat.le_succ _)
            have h2 : endAddr skip 65539 (nextFree skip off + 1) = endAddr skip (1 + 65539) off := by
              rw [endAddr_add]; rfl
            have h3 := endAddr_tot skip (1 + 65539) off
            have := htot rfl
            have := hU rfl
            simp only [Bool.false_eq_true, if_false] at ha
            omega
        rcases readTlv_spec hM t1 skip end_ o hreach s hJ with ⟨r, s', hg, hcase⟩ | ⟨e, s', hg, hf1, ht, hfin⟩
        · rw [hg]
          cases r with
          | beyond =>
            refine ⟨none, s', rfl, ?_, fun fd h => by cases h⟩
            rcases hcase with ⟨h, -⟩ | ⟨-, h⟩
            · exact hM.weaken _ h
            · exact h
          | nul t =>
            rcases hcase with ⟨hJ', -⟩ | ⟨h, -⟩
            · simp only
              split
              · exact ih (o + 1) skip s' hJ' (by omega) (by omega) (by omega) fun h => by have := htot h; omega
              · exact ⟨_, _, rfl, hM.weaken _ hJ', fun fd h => by cases h; exact hnone _ _ (by omega)⟩
            · cases h
          | val t l v as hdr =>
            rcases hcase with ⟨hJ', hv1, hv2, hv3, hv4, hv5, hv6⟩ | ⟨h, -⟩
            · simp only
              split
              · refine ⟨_, _, rfl, hM.weaken _ hJ', fun fd h => ?_⟩
                cases h
                refine ⟨by simp only; omega, fun v' as' hdr' h => ?_⟩
                cases h
                exact ⟨by rw [hv1, hv2], fun a ha => ⟨(hv6 a ha).1, by rw [hv1]; exact (hv6 a ha).2.1, (hv6 a ha).2.2⟩⟩
              · split
                · rename_i hc
                  obtain ⟨rg, hrg, hsz⟩ := ctlRange_size (decide (t = 1)) (if t1 = true then 0x800 else 0x100000) v
                    (by rw [hv1]; exact hc.2) hv3
                  simp only [hrg]
                  obtain rfl : l = 3 := hc.2
                  refine ih _ _ s' hJ' (by omega) (by omega) (by omega) fun h => ?_
                  have := htot h
                  rw [tot_append, if_pos (by decide)]
                  omega
                · exact ih _ _ s' hJ' (by split <;> omega) (by omega) (by split <;> omega)
                    fun h => by have := htot h; split <;> omega
            · cases h
        · rw [hg]
          simp only [hf1, ht, Bool.false_eq_true, not_false_eq_true, and_self, if_true]
          exact ⟨none, s', rfl, hfin, fun fd h => by cases h⟩

/-- the octets of a returned object come from inside the data area -/
def SafeA (d : Ndef) : Prop :=
  d.octets.length = d.length ∧ d.addrs.length = d.length ∧ ∀ a ∈ d.addrs, d.lo ≤ a ∧ a < d.hi

theorem finish_spec (hM : MemOK M J Jf LIM) (t1 : Bool) (lo end_ : Nat) (hC : t1 = true → end_ ≤ LIM)
    (hU : t1 = false → 5 * (end_ + 65540) + 256 * (end_ - lo) ≤ 5 * LIM) (skip0 : Skip)
    (h0 : t1 = false → tot skip0 = 0) (rw : Nat) (s : σ) (hJ : J s) :
    Jf (finish M t1 lo end_ skip0 rw s).2 ∧
    ((finish M t1 lo end_ skip0 rw s).1 = .ok none ∨
     ∃ d, (finish M t1 lo end_ skip0 rw s).1 = .ok (some d) ∧ SafeA d ∧ d.lo = lo ∧ d.hi = end_) := by
  unfold finish
  obtain ⟨r, s', hg, h2, h3⟩ := walk_spec hM t1 lo end_ hC hU (end_ + 1) lo skip0 s hJ (by omega) (by omega)
    (Nat.le_refl _) fun h => by rw [h0 h]; omega
  rw [hg]
  cases r with
  | none => exact ⟨h2, Or.inl rfl⟩
  | some fd =>
    simp only
    cases hn : fd.ndef with
    | none => exact ⟨h2, Or.inl rfl⟩
    | some x =>
      obtain ⟨v, as, hdr⟩ := x
      obtain ⟨hlo, hf⟩ := h3 fd rfl
      have hf := hf v as hdr hn
      simp only
      by_cases hfit : fits t1 fd.skip fd.off hdr end_ v.length = true
      · rw [if_neg (not_not_intro hfit)]
        refine ⟨h2, Or.inr ⟨_, rfl, ⟨rfl, hf.1.symm, fun a ha => ?_⟩, rfl, rfl⟩⟩
        have := hf.2 a ha
        refine ⟨by simp only; omega, ?_⟩
        cases t1 with
        | true => exact this.2.2 rfl
        | false =>
          -- the placement check: the value ends inside the data area
          simp only [fits, Bool.false_or, Bool.and_eq_true, decide_eq_true_eq] at hfit
          have hend := Tlv.endAddr_le_of_cfree fd.skip v.length (fd.off + hdr) (end_ - (fd.off + hdr)) hfit.2
          simp only
          omega
      · rw [if_pos hfit]
        exact ⟨h2, Or.inl rfl⟩

end mem

/-- the tag answers with octets -/
def TagBytes (t : Tag) : Prop := ∀ n b, t n = some b → IsBytes b

theorem trx_cases (t : Tag) (k : Nat) (cmd : Bytes) : ∀ w : W,
    ∃ r w', trx t k w cmd = (r, w') ∧ w.n ≤ w'.n ∧ w'.n ≤ w.n + k ∧ ∀ b, r = some b → TagBytes t → IsBytes b := by
  induction k with
  | zero => exact fun w => ⟨none, w, rfl, Nat.le_refl _, Nat.le_refl _, fun b h => by cases h⟩
  | succ k ih =>
    intro w
    unfold trx xchg
    cases hq : t w.n with
    | some q =>
      exact ⟨some q, _, rfl, Nat.le_succ _, Nat.succ_le_succ (Nat.le_add_right _ _), fun b h hT => by cases h; exact hT _ _ hq⟩
    | none =>
      obtain ⟨r, w', h, h1, h2, h3⟩ := ih ⟨w.n + 1, cmd :: w.log⟩
      exact ⟨r, w', h, by simp only at h1; omega, by simp only at h2; omega, h3⟩

theorem trans1_eq (t : Tag) (cmd : Bytes) (s : S1) :
    ∃ r w', trans1 t cmd s = (r, { s with w := w' }) ∧ w'.n ≤ s.w.n + 3 ∧
      ((∃ rsp, r = .ok rsp ∧ (TagBytes t → IsBytes rsp)) ∨ r = .error (.tagCmd 0)) := by
  unfold trans1
  obtain ⟨r, w', h, -, hn, hb⟩ := trx_cases t 3 cmd s.w
  rw [h]
  cases r with
  | some r => exact ⟨_, w', rfl, hn, Or.inl ⟨r, rfl, hb r rfl⟩⟩
  | none => exact ⟨_, w', rfl, hn, Or.inr rfl⟩

theorem segLoop_step {t : Tag} (hT : TagBytes t) (uid : Bytes) (stop : Nat) (hs : stop ≤ 2048) :
    ∀ (fuel : Nat) (s : S1), stop + 128 ≤ s.cache.length + 128 * fuel → 0 < fuel → IsBytes s.cache →
      Step (fun s' => IsBytes s'.cache ∧ s'.hdr = s.hdr ∧ ∃ k, s'.cache.length = s.cache.length + 128 * k ∧
          s'.w.n ≤ s.w.n + 3 * k ∧ stop ≤ s'.cache.length ∧ (k = 0 ∨ s.cache.length + 128 * (k - 1) < stop))
        (fun s' => ∃ k, s'.w.n ≤ s.w.n + 3 * (k + 1) ∧ s.cache.length + 128 * k < stop)
        (segLoop t uid stop fuel s) (fun _ => True) := by
  intro fuel
  induction fuel with
  | zero => intro s _ h; omega
  | succ f ih =>
    intro s hf _ hb
    unfold segLoop
    split
    · exact Step.ok ⟨hb, rfl, 0, rfl, Nat.le_refl _, by assumption, Or.inl rfl⟩ trivial
    · rename_i hlt
      simp only
      split
      · omega
      · obtain ⟨r, w1, hg, hn, hr⟩ := trans1_eq t ([0x10, s.cache.length / 128 * 16] ++ zeros8 ++ uid) s
        rw [hg]
        rcases hr with ⟨rsp, rfl, hbytes⟩ | rfl
        · simp only
          split
          · exact Step.err rfl ⟨0, by simp only; omega, by omega⟩
          · rename_i hl
            have hlen : ((rsp.drop 1).take 128).length = 128 := by
              rw [List.length_take, List.length_drop]; omega
            have := ih { w := w1, cache := s.cache ++ (rsp.drop 1).take 128, hdr := s.hdr }
              (by simp only [List.length_append, hlen]; omega)
              (by omega) (IsBytes.append hb (isBytes_take (isBytes_drop (hbytes hT) 1) 128))
            simp only [List.length_append, hlen] at this
            -- one segment more than the rest of the loop reads
            refine this.weaken (fun s' ⟨hb', hh, k, h2, h3, h4, h5⟩ => ?_) fun s' ⟨k, h3, h4⟩ => ⟨k + 1, by omega, by omega⟩
            exact ⟨hb', hh, k + 1, by omega, by omega, h4, Or.inr (by rcases h5 with rfl | h <;> simp <;> omega)⟩
        · exact Step.err rfl ⟨0, by simp only; omega, by omega⟩

theorem stageA_step {t : Tag} (hT : TagBytes t) (uid : Bytes) (s : S1) :
    Step (fun s' => s'.w.n ≤ s.w.n + (if s.cache.length < 120 then 3 else 0) ∧
        (120 ≤ s.cache.length → s'.cache = s.cache ∧ s'.hdr = s.hdr) ∧
        (IsBytes s.cache → IsBytes s'.cache) ∧ (s.cache.length < 120 → s'.hdr.length = 2))
      (fun s' => s'.w.n ≤ s.w.n + 3) (stageA t uid s) (fun _ => True) := by
  unfold stageA
  by_cases h : s.cache.length < 120
  · rw [if_pos h, if_pos h]
    have h' : ¬ 120 ≤ s.cache.length := Nat.not_le_of_lt h
    obtain ⟨r, w1, hg, hn, hr⟩ := trans1_eq t ([0, 0, 0] ++ uid) s
    rw [hg]
    rcases hr with ⟨rsp, rfl, hbytes⟩ | rfl
    · simp only
      split
      · exact Step.err rfl hn
      · exact Step.ok ⟨hn, fun h0 => absurd h0 h', fun _ => isBytes_drop (hbytes hT) 2,
          fun _ => by simp only [List.length_take]; omega⟩ trivial
    · exact Step.err rfl hn
  · rw [if_neg h, if_neg h]
    exact Step.ok ⟨Nat.le_refl _, fun _ => ⟨rfl, rfl⟩, id, fun h0 => absurd h0 h⟩ trivial

theorem stageB_step {t : Tag} (hT : TagBytes t) (uid : Bytes) (stop : Nat) (s : S1) :
    Step (fun s' => s'.w.n ≤ s.w.n + 3 ∧
        ((stop > 120 ∧ s.cache.length < 128 ∧ s'.cache.length = min s.cache.length 120 + 8) ∨
          (s'.cache.length = s.cache.length ∧ s'.w.n = s.w.n)) ∧
        (IsBytes s.cache → IsBytes s'.cache) ∧ s'.hdr = s.hdr)
      (fun s' => s'.w.n ≤ s.w.n + 3) (stageB t uid stop s) (fun _ => True) := by
  unfold stageB
  by_cases h : stop > 120 ∧ s.cache.length < 128
  · rw [if_pos h]
    obtain ⟨r, w1, hg, hn, hr⟩ := trans1_eq t ([0x02, 15] ++ zeros8 ++ uid) s
    rw [hg]
    rcases hr with ⟨rsp, rfl, hbytes⟩ | rfl
    · simp only
      split
      · exact Step.err rfl hn
      · rename_i hl
        refine Step.ok ⟨hn, Or.inl ⟨h.1, h.2, ?_⟩, fun hb => ?_, rfl⟩ trivial
        · simp only [List.length_append, List.length_take, List.length_drop]
          omega
        · exact IsBytes.append (IsBytes.append (isBytes_take hb 120) (isBytes_take (isBytes_drop (hbytes hT) 1) 8))
            (isBytes_drop hb 128)
    · exact Step.err rfl hn
  · rw [if_neg h]
    exact Step.ok ⟨Nat.le_add_right _ _, Or.inr ⟨rfl, rfl⟩, id, rfl⟩ trivial

/-- what a cache of `len` octets may have cost: `J1` keeps the interactions since `n0` below it (`F1_covers`) -/
def F1 (len : Nat) : Nat := 9 * min len 120 + 9 * min (len / 128) 17
def J1 (n0 : Nat) (s : S1) : Prop := s.w.n ≤ n0 + F1 s.cache.length ∧ IsBytes s.cache
/-- `F1 ≤ 1233`, and 3 + 3 + 3 * 16 for the call that failed, rounded up -/
def Jf1 (n0 : Nat) (s : S1) : Prop := s.w.n ≤ n0 + 1300

theorem F1_le (l : Nat) : F1 l ≤ 1233 := by unfold F1; omega

theorem F1_lt {l : Nat} (h : l < 120) : F1 l = 9 * l := by unfold F1; omega
theorem F1_ub {l : Nat} (h : 120 ≤ l) : F1 l ≤ 1080 + 9 * (l / 128) := by unfold F1; omega
theorem F1_lb {l k : Nat} (h : 120 ≤ l) (hk : 128 * k ≤ l) (h17 : k ≤ 17) : 1080 + 9 * k ≤ F1 l := by
  unfold F1; omega

/-- the amortisation behind `F1`: what a successful `_read_from_tag(stop)` spends - 3 interactions for RALL while
the cache is shorter than 120, 3 for READ8 of block 15, 3 for each of the `k` segments read - is covered by what
the cache grows -/
theorem F1_covers {L lA lB lC stop k n nA nB nC n0 : Nat} (hn : n ≤ n0 + F1 L) (hstop : stop ≤ 2048) (hL : L < stop)
    (hA : nA ≤ n + (if L < 120 then 3 else 0)) (hA' : 120 ≤ L → lA = L) (hB : nB ≤ nA + 3)
    (hB' : (stop > 120 ∧ lA < 128 ∧ lB = min lA 120 + 8) ∨ (lB = lA ∧ nB = nA))
    (hC1 : lC = lB + 128 * k) (hC2 : nC ≤ nB + 3 * k) (hC3 : stop ≤ lC) (hC4 : k = 0 ∨ lB + 128 * (k - 1) < stop) :
    nC ≤ n0 + F1 lC := by
  have hk : k ≤ 16 := by omega
  by_cases hL' : L < 120
  · rw [F1_lt hL'] at hn
    rw [if_pos hL'] at hA
    by_cases hC' : lC < 120
    · rw [F1_lt hC']; omega
    · have := F1_lb (Nat.le_of_not_lt hC') (k := k) (by omega) (by omega)
      omega
  · have hn' := F1_ub (Nat.le_of_not_lt hL')
    rw [if_neg hL'] at hA
    have hA' := hA' (Nat.le_of_not_lt hL')
    rcases hB' with ⟨-, h128, hB'⟩ | hB'
    · rw [Nat.min_eq_right (by omega)] at hB'
      have := F1_lb (l := lC) (k := k + 1) (by omega) (by omega) (by omega)
      omega
    · have := F1_lb (l := lC) (k := L / 128 + k) (by omega) (by omega) (by omega)
      omega

theorem fill1_spec {t : Tag} (hT : TagBytes t) (uid : Bytes) (n0 stop : Nat) (s : S1) (hJ : J1 n0 s)
    (hstop : stop ≤ 2048) (hlen : s.cache.length < stop) :
    Step (fun s' => J1 n0 s' ∧ stop ≤ s'.cache.length ∧ (s.cache.length < 120 → s'.hdr.length = 2)) (Jf1 n0)
      (fill1 t uid stop s) (fun _ => True) := by
  obtain ⟨hJn, hJb⟩ := hJ
  have hF := F1_le s.cache.length
  unfold fill1
  rcases (stageA_step hT uid s).cases with ⟨u, sA, hgA, ⟨hA1, hA2, hA3, hA4⟩, -⟩ | ⟨e, sA, hgA, ht, hn⟩
  · rw [hgA]
    simp only
    rcases (stageB_step hT uid stop sA).cases with ⟨u2, sB, hgB, ⟨hB1, hB2, hB3, hB4⟩, -⟩ | ⟨e, sB, hgB, ht, hn⟩
    · rw [hgB]
      simp only
      refine (segLoop_step hT uid stop hstop (stop + 1) sB (by omega) (by omega) (hB3 (hA3 hJb))).weaken
        (fun sC ⟨hbC, hhdC, k, hk1, hk2, hk3, hk4⟩ => ⟨⟨?_, hbC⟩, hk3, fun hl => ?_⟩) fun sC ⟨k, hk1, hk2⟩ => ?_
      · exact F1_covers hJn hstop hlen hA1 (fun h => congrArg List.length (hA2 h).1) hB1 hB2 hk1 hk2 hk3 hk4
      · rw [hhdC, hB4]
        exact hA4 hl
      · unfold Jf1
        split at hA1 <;> omega
    · rw [hgB]
      exact Step.err ht (show sB.w.n ≤ _ by split at hA1 <;> omega)
  · rw [hgA]
    exact Step.err ht (show sA.w.n ≤ _ by omega)

theorem mem1_ok {t : Tag} (hT : TagBytes t) (uid : Bytes) (n0 : Nat) : MemOK (mem1 t uid) (J1 n0) (Jf1 n0) 2048 where
  weaken s h := Nat.le_trans h.1 (Nat.add_le_add_left (Nat.le_trans (F1_le _) (by decide)) _)
  bytes s h := h.2
  ens stop s hJ hstop hlen :=
    (fill1_spec hT uid n0 stop s hJ hstop hlen).weaken (fun _ h => ⟨h.1, h.2.1⟩) fun _ h => h

/-- Type 1: for every tag, `_read_ndef_data` needs at most 1300 interactions, never raises, and returns
`None` or an object whose octets were read from inside the data area `[12, end)` -/
theorem readNdef1_safe {t : Tag} (hT : TagBytes t) (uid : Bytes) (w : W) :
    (readNdef1 t uid w).2.w.n ≤ w.n + 1300 ∧
    ((readNdef1 t uid w).1 = .ok none ∨ ∃ d, (readNdef1 t uid w).1 = .ok (some d) ∧ SafeA d ∧ d.lo = 12) := by
  have hM := mem1_ok hT uid w.n
  have hJ0 : J1 w.n { w := w, cache := [], hdr := [] } := ⟨Nat.le_add_right _ _, isBytes_nil⟩
  unfold readNdef1
  simp only
  rcases (fill1_spec hT uid w.n 1 { w := w, cache := [], hdr := [] } hJ0 (by omega) Nat.zero_lt_one).cases with
    ⟨u, s1, hg, ⟨hJ1, -, hh⟩, -⟩ | ⟨e, s1, hg, ht, hf⟩
  · rw [hg]
    have hh : s1.hdr.length = 2 := hh (Nat.zero_lt_succ 119)
    obtain ⟨h0, hh0, -⟩ := idxN_lt s1.hdr 0 (by omega)
    simp only
    rw [hh0]
    simp only
    let Good : Py (Option Ndef) × S1 → Prop := fun x =>
      x.2.w.n ≤ w.n + 1300 ∧ (x.1 = .ok none ∨ ∃ d, x.1 = .ok (some d) ∧ SafeA d ∧ d.lo = 12)
    have step : ∀ (a : Nat) (s : S1) (k : Nat → S1 → Py (Option Ndef) × S1), J1 w.n s → a < 2048 →
        (∀ c s', J1 w.n s' → c < 256 → Good (k c s')) →
        Good (match getB (mem1 t uid) a s with
          | (.error e, s') => if isTagCmd e = true then (.ok none, s') else (.error e, s')
          | (.ok c, s') => k c s') := by
      intro a s k hJ ha hk
      rcases (getB_step hM a s hJ ha).cases with ⟨c, s', hg, ⟨hJ', -⟩, hc⟩ | ⟨e, s', hg, ht, hf⟩
      · rw [hg]; exact hk c s' hJ' hc
      · rw [hg]; simp only; rw [if_pos ht]; exact ⟨hf, Or.inl rfl⟩
    by_cases hv : h0 / 16 ≠ 1
    · rw [if_pos hv]; exact ⟨hM.weaken _ hJ1, Or.inl rfl⟩
    · rw [if_neg hv]
      refine step 8 s1 _ hJ1 (by omega) fun c0 s2 hJ2 _ => ?_
      by_cases h0 : c0 ≠ 0xE1
      · rw [if_pos h0]; exact ⟨hM.weaken _ hJ2, Or.inl rfl⟩
      · rw [if_neg h0]
        refine step 9 s2 _ hJ2 (by omega) fun c1 s3 hJ3 _ => ?_
        by_cases h1 : c1 / 16 ≠ 1
        · rw [if_pos h1]; exact ⟨hM.weaken _ hJ3, Or.inl rfl⟩
        · rw [if_neg h1]
          refine step 11 s3 _ hJ3 (by omega) fun c3 s4 hJ4 _ => step 10 s4 _ hJ4 (by omega) fun c2 s5 hJ5 hc2 => ?_
          have := finish_spec hM true 12 ((c2 + 1) * 8) (fun _ => by omega) (fun h => by cases h)
            [(104, if (c2 + 1) * 8 = 120 then 120 else 128)] (fun h => by cases h) c3 s5 hJ5
          exact ⟨this.1, this.2.imp_right fun ⟨d, h1, h2, h3, _⟩ => ⟨d, h1, h2, h3⟩⟩
  · rw [hg]
    simp only
    rw [if_pos ht]
    exact ⟨hf, Or.inl rfl⟩
end NfcVerif.Adv
