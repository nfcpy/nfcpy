import NfcVerif.Lemmas.Collect
/-! Lemmas for C10: `collect()` neither invents nor alters PDUs.  For every pair of predicates `P` (queued
PDUs) and `Q` (transmitted PDUs) such that `P` holds for all queued PDUs and for the RR / RNR and SNL PDUs
that the dequeue paths generate, `Q` holds for RR / RNR, and `encrypt()` turns a `P` PDU into a `Q` PDU:
`Q` holds for every PDU of the returned frame and `P` for everything left in the queues.
(Raw access point sockets included.)  A predicate `R` on the state variables of a data link connection that
survives the updates of `dequeue` / `sendack` is carried along. -/
namespace NfcVerif.Collect

section
variable (P Q : QPdu → Prop) (R : Dlc → Prop)

def SockAll : Sock → Prop
  | .raw q => ∀ p ∈ q, P p
  | .ldl _ q => ∀ p ∈ q, P p
  | .dlc d q => R d ∧ ∀ p ∈ q, P p

def EntAll : Ent → Prop
  | .sap s => (∀ k ∈ s.socks, SockAll P R k) ∧ (∀ p ∈ s.sendList, P p)
  | .sd s => ∀ p ∈ s.dmpdu, P p

def EntsAll (es : List Ent) : Prop := ∀ e ∈ es, EntAll P R e

/-- `P` holds for what the dequeue paths generate, `Q` for acknowledgements and for what `encrypt()`
makes of a `P` PDU (every dequeued PDU passes through `encrypt()`, which changes UI / I PDUs only) -/
structure Gen (sec : Option Nat) : Prop where
  ack : ∀ b n, P (ackPdu b n)
  ackQ : ∀ b n, Q (ackPdu b n)
  snl : ∀ l, P (snlPdu l)
  enc : ∀ p, P p → Q (p.encrypt sec)
  /-- the socket predicate `R` survives what `dequeue` / `sendack` do to a data link connection -/
  rBusy : ∀ d : Dlc, R d → R { d with busySent := d.busy }
  rAck : ∀ d : Dlc, R d → R { d with ack := (d.ack + d.confs) % 16, confs := 0 }
  rShut : ∀ d : Dlc, R d → R { d with state := .shutdown }
end

variable {P Q : QPdu → Prop} {R : Dlc → Prop}

theorem sock_dequeue_all {sec : Option Nat} (g : Gen P Q R sec) {s s' : Sock} {m : Int} {icv : Nat} {r : Option QPdu}
    (hs : SockAll P R s) (h : s.dequeue m icv = (r, s')) : SockAll P R s' ∧ ∀ p, r = some p → P p := by
  cases s with
  | raw q =>
    simp only [Sock.dequeue] at h
    obtain ⟨h1, h2⟩ := tco_spec q none 0
    cases h
    exact ⟨fun x hx => hs x (h1 x hx), fun p hp => hs p (h2 p hp).1⟩
  | ldl sm q =>
    simp only [Sock.dequeue] at h
    obtain ⟨h1, h2⟩ := tco_spec q (some m) icv
    cases h
    exact ⟨fun x hx => hs x (h1 x hx), fun p hp => hs p (h2 p hp).1⟩
  | dlc d q =>
    simp only [Sock.dequeue] at h
    split at h
    · cases h
      exact ⟨⟨g.rBusy d hs.1, hs.2⟩, by intro p hp; cases hp; exact g.ack _ _⟩
    · obtain ⟨h1, h2⟩ := tco_spec q (some m) icv
      generalize tcoDequeue q (some m) icv = t at h h1 h2
      obtain ⟨a, b⟩ := t
      have hb : ∀ x ∈ b, P x := fun x hx => hs.2 x (h1 x hx)
      cases a with
      | none =>
        simp only at h
        split at h
        · cases h; exact ⟨⟨g.rAck d hs.1, hb⟩, by intro p hp; cases hp; exact g.ack _ _⟩
        · cases h; exact ⟨⟨hs.1, hb⟩, by simp⟩
      | some p =>
        simp only at h
        have hp : P p := hs.2 p (h2 p rfl).1
        split at h
        · cases h; exact ⟨⟨g.rShut d hs.1, by simp⟩, by intro p' hp'; cases hp'; exact hp⟩
        · split at h
          · cases h; exact ⟨⟨g.rAck d hs.1, hb⟩, by intro p' hp'; cases hp'; exact hp⟩
          · cases h; exact ⟨⟨hs.1, hb⟩, by intro p' hp'; cases hp'; exact hp⟩

theorem sock_sendack_all {sec : Option Nat} (g : Gen P Q R sec) {s s' : Sock} {r : Option QPdu}
    (hs : SockAll P R s) (h : s.sendack = (r, s')) : SockAll P R s' ∧ ∀ p, r = some p → Q p := by
  cases s with
  | raw q => simp only [Sock.sendack] at h; cases h; exact ⟨hs, by simp⟩
  | ldl sm q => simp only [Sock.sendack] at h; cases h; exact ⟨hs, by simp⟩
  | dlc d q =>
    simp only [Sock.sendack] at h
    split at h
    · cases h; exact ⟨⟨g.rAck d hs.1, hs.2⟩, by intro p hp; cases hp; exact g.ackQ _ _⟩
    · cases h; exact ⟨hs, by simp⟩

theorem entAll_with (e : Ent) : EntAll P R e ↔ EntWith (SockAll P R) (fun l => ∀ p ∈ l, P p) e := by
  cases e <;> exact Iff.rfl

theorem ent_dequeue_all {sec : Option Nat} (g : Gen P Q R sec) {e e' : Ent} {m : Int} {icv : Nat} {r : Option QPdu}
    (he : EntAll P R e) (h : e.dequeue m icv = (r, e')) : EntAll P R e' ∧ ∀ p, r = some p → P p := by
  rw [entAll_with] at he ⊢
  exact ent_dequeue_with (fun _ _ _ hs h => sock_dequeue_all g hs h) (fun _ hp => hp) (fun _ => g.snl _) he h

theorem ent_sendack_all {sec : Option Nat} (g : Gen P Q R sec) {e e' : Ent} {r : Option QPdu}
    (he : EntAll P R e) (h : e.sendack = (r, e')) : EntAll P R e' ∧ ∀ p, r = some p → Q p := by
  rw [entAll_with] at he ⊢
  exact ent_sendack_with (fun _ _ _ hs h => sock_sendack_all g hs h) he h

theorem entsAll_set {es : List Ent} {i : Nat} {e : Ent} (h : EntsAll P R es) (he : EntAll P R e) :
    EntsAll P R (es.set i e) :=
  forall_mem_set h he

def ListAll (P : QPdu → Prop) (l : List QPdu) : Prop := ∀ p ∈ l, P p

theorem listAll_append {P : QPdu → Prop} {l : List QPdu} {p : QPdu} (h : ListAll P l) (hp : P p) :
    ListAll P (l ++ [p]) := by
  intro x hx; simp at hx
  rcases hx with hx | rfl
  · exact h x hx
  · exact hp

theorem loops_all {sec : Option Nat} (g : Gen P Q R sec) (M : Nat) :
    Loops (EntAll P R) (fun _ _ => P) Q (fun _ => ListAll Q) M sec where
  deq := fun he _ h => ent_dequeue_all g he h
  ack := fun he h => ent_sendack_all g he h
  appD := fun hs _ hp => listAll_append hs (g.enc _ hp)
  appA := fun hs _ hp => listAll_append hs hp

/-- `collect()` returns only PDUs that satisfy `Q`, and leaves only `P` PDUs in the queues -/
theorem collect_all {sec : Option Nat} (g : Gen P Q R sec) (es : List Ent) (M : Nat) (agf : Bool)
    (hes : EntsAll P R es) (fo : Option Frame) (es' : List Ent) (h : collect es M sec agf = (fo, es')) :
    EntsAll P R es' ∧ ∀ f, fo = some f → ListAll Q f.pdus := by
  have hone : ∀ p, Q p → ListAll Q [p] := fun p hp x hx => by rw [List.mem_singleton.1 hx]; exact hp
  obtain ⟨h1, h2⟩ := collect_keeps (loops_all g M) (fun p hp => hone _ (g.enc p hp)) hone es agf hes fo es' h
  refine ⟨h1, fun f hf => ?_⟩
  obtain ⟨p, hp, hshape⟩ := h2 f hf
  rcases hshape with rfl | ⟨subs, rfl, _, hs⟩
  · rcases hp with ⟨q, hq, rfl⟩ | hp
    · exact hone _ (g.enc q hq)
    · exact hone _ hp
  · exact hs

end NfcVerif.Collect
