import NfcVerif.Lemmas.FnBridgeBase
import NfcVerif.Gen.FnLlcCore
import NfcVerif.Model.FnLlcCoreRef
/-!
# Lemmas for the bridge of group LlcCore

* facts about the reference definitions `Model/FnLlcCoreRef.lean`: the SNL PDU built from a budget stays inside
  it (`buildSnl_within`), the aggregation never asks a service access point with negative room
  (`aggPass_room`, `aggLoop_room`);
* the loop simulations that connect the regenerated `Gen.Fn.lc_collect_agg` (`whileC` around `forC`) with
  `FnLlcCoreRef.aggLoop` / `aggPass`.
-/
namespace NfcVerif.FnBridge.LlcCore
open NfcVerif NfcVerif.PyFn NfcVerif.FnLlcCoreRef

/-! ## service discovery -/

def reqSum (l : List (Int × Bytes)) : Int := (l.map fun x => sdreqSize x.2).sum

theorem reqSum_append (a b : List (Int × Bytes)) : reqSum (a ++ b) = reqSum a + reqSum b := by
  simp [reqSum, List.sum_append]

theorem sdreqSize_pos (n : Bytes) : 3 ≤ sdreqSize n := by unfold sdreqSize; omega

/-- responses: 4 octets each are paid, the budget never becomes negative and never grows -/
theorem takeRes_inv : ∀ (q : List (Int × Int)) (m : Int) (out : List (Int × Int)),
    4 * ((takeRes q m out).2.1.length : Int) + (takeRes q m out).1 = 4 * (out.length : Int) + m ∧
    (0 ≤ m → 0 ≤ (takeRes q m out).1) ∧ (takeRes q m out).1 ≤ m := by
  intro q
  induction q with
  | nil => intro m out; simp [takeRes]
  | cons x q ih =>
    intro m out
    simp only [takeRes, sdresSize]
    by_cases h : m ≥ 4
    · simp only [h, if_true]
      have := ih (m - 4) (out ++ [x])
      simp only [List.length_append, List.length_cons, List.length_nil] at this
      refine ⟨by omega, fun _ => this.2.1 (by omega), by omega⟩
    · simp only [h, if_false]
      simp

/-- below the size of one response nothing is taken -/
theorem takeRes_small (q : List (Int × Int)) (m : Int) (out : List (Int × Int)) (h : m < 4) :
    (takeRes q m out).1 = m ∧ (takeRes q m out).2.1 = out := by
  cases q with
  | nil => simp [takeRes]
  | cons x q =>
    have : ¬ m ≥ 4 := by omega
    simp [takeRes, sdresSize, this]

/-- requests: a request taken is paid with `3 + len(name)` octets of the budget left at that moment -/
theorem takeReq_inv : ∀ (k : Nat) (q : List (Int × Bytes)) (m : Int) (out : List (Int × Bytes)),
    reqSum (takeReq k q m out).2.1 + (takeReq k q m out).1 = reqSum out + m ∧
    (0 ≤ m → 0 ≤ (takeReq k q m out).1) ∧ (takeReq k q m out).1 ≤ m := by
  intro k
  induction k with
  | zero => intro q m out; simp [takeReq]
  | succ k ih =>
    intro q m out
    cases q with
    | nil => simp [takeReq]
    | cons x q =>
      simp only [takeReq]
      by_cases h : sdreqSize x.2 > m
      · simp only [h, if_true]; exact ih _ _ _
      · simp only [h, if_false]
        have := ih q (m - sdreqSize x.2) (out ++ [x])
        rw [reqSum_append] at this
        have e : reqSum [x] = sdreqSize x.2 := by simp [reqSum]
        have p := sdreqSize_pos x.2
        refine ⟨by omega, fun _ => this.2.1 (by omega), by omega⟩

/-- below the size of the smallest request nothing is taken -/
theorem takeReq_small : ∀ (k : Nat) (q : List (Int × Bytes)) (m : Int) (out : List (Int × Bytes)), m < 3 →
    (takeReq k q m out).1 = m ∧ (takeReq k q m out).2.1 = out := by
  intro k
  induction k with
  | zero => intro q m out _; simp [takeReq]
  | succ k ih =>
    intro q m out h
    cases q with
    | nil => simp [takeReq]
    | cons x q =>
      have p := sdreqSize_pos x.2
      have : sdreqSize x.2 > m := by omega
      simp only [takeReq, this, if_true]
      exact ih _ _ _ h

/-- **C10, service discovery**: the information field of the SNL PDU that `ServiceDiscovery.dequeue` builds from a
non-negative budget never exceeds that budget - however many responses and requests are pending -/
theorem buildSnl_within (sdres : List (Int × Int)) (sdreq : List (Int × Bytes)) (miu : Int) (h : 0 ≤ miu) :
    snlInfo (buildSnl sdres sdreq miu).1 (buildSnl sdres sdreq miu).2 ≤ miu := by
  unfold buildSnl snlInfo
  have a := takeRes_inv sdres miu []
  have b := takeReq_inv sdreq.length sdreq (takeRes sdres miu []).1 []
  simp only [List.length_nil, reqSum] at a b
  simp only [sdresSize]
  have := b.2.1 (a.2.1 h)
  simp only [List.map_nil, List.sum_nil] at b
  omega

/-- with a negative budget nothing is put into the SNL PDU (but the - empty - PDU is still built: the reason why
`collect` must not ask with negative room) -/
theorem buildSnl_negative (sdres : List (Int × Int)) (sdreq : List (Int × Bytes)) (miu : Int) (h : miu < 0) :
    snlInfo (buildSnl sdres sdreq miu).1 (buildSnl sdres sdreq miu).2 = 0 := by
  unfold buildSnl snlInfo
  have a := takeRes_small sdres miu [] (by omega)
  have b := takeReq_small sdreq.length sdreq (takeRes sdres miu []).1 [] (by rw [a.1]; omega)
  simp only [a.2, b.2]
  simp

/-! ## aggregation -/

/-- the same environment with another `dequeue` -/
def withDeq (E : AggEnv) (d : Int → Int → Option Int) : AggEnv := { E with deq := d }

@[simp] theorem withDeq_deq (E : AggEnv) (d) : (withDeq E d).deq = d := rfl
@[simp] theorem withDeq_icv (E : AggEnv) (d) : (withDeq E d).icv = E.icv := rfl
@[simp] theorem withDeq_doEnc (E : AggEnv) (d) : (withDeq E d).doEnc = E.doEnc := rfl
@[simp] theorem withDeq_enc (E : AggEnv) (d) : (withDeq E d).enc = E.enc := rfl
@[simp] theorem withDeq_room (E : AggEnv) (d) (a : List Int) : (withDeq E d).room a = E.room a := rfl

/-- **C10, aggregation**: a pass that starts with room `m ≥ 0` never asks a service access point with negative
room: the outcome is the same for every `dequeue` that agrees on non-negative budgets.  (The inner `break`:
without it the rest of the pass would go on with the negative room and append whatever is handed out.) -/
theorem aggPass_room (E : AggEnv) (d : Int → Int → Option Int) (h : ∀ m i, 0 ≤ m → E.deq m i = d m i) :
    ∀ (saps : List Int) (dn : Bool) (m : Int) (agg : List Int), 0 ≤ m →
      aggPass E saps (dn, m, agg) = aggPass (withDeq E d) saps (dn, m, agg) := by
  obtain ⟨sm, icv, de, enc, al, dq⟩ := E
  intro saps
  induction saps with
  | nil => intro dn m agg _; simp [aggPass]
  | cons s rest ih =>
    intro dn m agg hm
    simp only [withDeq] at ih ⊢
    simp only [aggPass, AggEnv.room]
    have e : dq m icv = d m icv := h m icv hm
    rw [e]
    cases d m icv with
    | none => exact ih dn m agg hm
    | some p =>
      by_cases hp : p = 0
      · simp only [hp, if_true]; exact ih dn m agg hm
      · simp only [hp, if_false]
        by_cases hr : sm - al (agg ++ [if de = true then enc p else p]) - 3 < 0
        · simp only [hr, if_true]
        · simp only [hr, if_false]
          exact ih false _ _ (by omega)

/-- the same for the whole loop: the `while miu_size >= 0` condition lets a pass start only with room `m ≥ 0` -/
theorem aggLoop_room (E : AggEnv) (d : Int → Int → Option Int) (h : ∀ m i, 0 ≤ m → E.deq m i = d m i)
    (saps : List Int) : ∀ (fuel : Nat) (m : Int) (agg : List Int),
      aggLoop E saps fuel (m, agg) = aggLoop (withDeq E d) saps fuel (m, agg) := by
  intro fuel
  induction fuel with
  | zero => intro m agg; rfl
  | succ fuel ih =>
    intro m agg
    simp only [aggLoop]
    by_cases hm : m ≥ 0
    · simp only [hm, if_true]
      rw [← aggPass_room E d h saps true m agg hm]
      by_cases hb : (aggPass E saps (true, m, agg)).2.1 < 0 ∨ (aggPass E saps (true, m, agg)).1 = true
      · simp only [hb, if_true]
      · simp only [hb, if_false]; exact ih _ _
    · simp only [hm, if_false]

/-- body of the inner `for sap in filter(None, self.sap)` loop as `Gen.Fn.lc_collect_agg` has it -/
def passBody (E : AggEnv) (st : Bool × Int × List Int) (_sap : Int) : Py (Ctl (Bool × Int × List Int) Empty) :=
  match st with
  | (dn, m, agg) =>
    Except.ok (match E.deq m E.icv with
      | none => Ctl.next (dn, m, agg)
      | some p =>
        if p ≠ 0 then
          (if E.sendMiu - E.agfLen (agg ++ [if E.doEnc = true then E.enc p else p]) - 3 < 0 then
            Ctl.brk (false, E.sendMiu - E.agfLen (agg ++ [if E.doEnc = true then E.enc p else p]) - 3,
                     agg ++ [if E.doEnc = true then E.enc p else p])
           else Ctl.next (false, E.sendMiu - E.agfLen (agg ++ [if E.doEnc = true then E.enc p else p]) - 3,
                          agg ++ [if E.doEnc = true then E.enc p else p]))
        else Ctl.next (dn, m, agg))

theorem forC_pass (E : AggEnv) : ∀ (saps : List Int) (dn : Bool) (m : Int) (agg : List Int),
    forC (ρ := Empty) saps (dn, m, agg) (passBody E) = .ok (.inl (aggPass E saps (dn, m, agg))) := by
  intro saps
  induction saps with
  | nil => intro dn m agg; rfl
  | cons s rest ih =>
    intro dn m agg
    simp only [forC, passBody, aggPass]
    cases E.deq m E.icv with
    | none => exact ih dn m agg
    | some p =>
      by_cases hp : p = 0
      · simp only [hp, ne_eq, not_true_eq_false, if_false, if_true]; exact ih dn m agg
      · simp only [hp, ne_eq, not_false_eq_true, if_true, if_false, AggEnv.room]
        by_cases hr : E.sendMiu - E.agfLen (agg ++ [if E.doEnc = true then E.enc p else p]) - 3 < 0
        · simp only [hr, if_true]
        · simp only [hr, if_false]; exact ih false _ _

/-- condition and body of the outer `while miu_size >= 0` loop as `Gen.Fn.lc_collect_agg` has them -/
def loopCond (st : Int × List Int) : Py Bool := match st with | (m, _) => Except.ok (decide (m ≥ 0))

def loopBody (E : AggEnv) (saps : List Int) (st : Int × List Int) : Py (Ctl (Int × List Int) Empty) :=
  match st with
  | (m, agg) =>
    forC (ρ := Empty) saps (true, m, agg) (passBody E) >>= fun c =>
    match c with
    | .inr r => nomatch r
    | .inl (dn, m', agg') => Except.ok (if (m' < 0) ∨ (dn = true) then Ctl.brk (m', agg') else Ctl.next (m', agg'))

theorem whileC_loop (E : AggEnv) (saps : List Int) : ∀ (fuel : Nat) (m : Int) (agg : List Int),
    whileC (ρ := Empty) fuel (m, agg) loopCond (loopBody E saps) =
      (aggLoop E saps fuel (m, agg)).map Sum.inl := by
  intro fuel
  induction fuel with
  | zero => intro m agg; rfl
  | succ fuel ih =>
    intro m agg
    simp only [whileC, loopCond, aggLoop]
    by_cases hm : m ≥ 0
    · simp only [hm, decide_true, if_true, loopBody, forC_pass, Py.bind_ok]
      by_cases hb : (aggPass E saps (true, m, agg)).2.1 < 0 ∨ (aggPass E saps (true, m, agg)).1 = true
      · simp only [hb, if_true]; rfl
      · simp only [hb, if_false]; exact ih _ _
    · simp only [hm, decide_false, if_false]; rfl

end NfcVerif.FnBridge.LlcCore
