import NfcVerif.Model.SnepChannel
/-! Fragmentation (`chunks`, `fragments`) and the message pump of Model/SnepChannel.lean (C06).  A receiver that
collects fragments is treated once, by the induction `collect_ind`; `pump_srv_collect` and `pump_cli_collect` are its
two uses, and `frag_split` supplies their hypotheses for a message with a length header. -/
namespace NfcVerif.Chan
open NfcVerif

theorem toBE4 (n : Nat) : toBE 4 n = [n / 16777216 % 256, n / 65536 % 256, n / 256 % 256, n % 256] := by
  simp [toBE, Nat.div_div_eq_div_mul]

theorem beNat4 (n : Nat) (h : n < 2 ^ 32) :
    beNat [n / 16777216 % 256, n / 65536 % 256, n / 256 % 256, n % 256] = n := by
  simp [beNat]; omega

theorem chunksF_flatten (miu : Nat) (hm : 0 < miu) :
    ∀ n (d : Bytes), d.length ≤ n → (chunksF miu n d).flatten = d := by
  intro n
  induction n with
  | zero => intro d h; have : d = [] := List.eq_nil_of_length_eq_zero (by omega); subst this; simp [chunksF]
  | succ n ih =>
    intro d h
    unfold chunksF
    split
    · next h0 => simp [h0]
    · rw [List.flatten_cons, ih _ (by simp; omega), List.take_append_drop]

theorem take_bound {miu : Nat} (hm : 0 < miu) {d : Bytes} (hd : d ≠ []) :
    (d.take miu).length ≤ miu ∧ d.take miu ≠ [] :=
  ⟨List.length_take_le _ _, fun h => (List.take_eq_nil_iff.mp h).elim (by omega) hd⟩

theorem chunksF_bound (miu : Nat) (hm : 0 < miu) :
    ∀ n (d : Bytes), ∀ f ∈ chunksF miu n d, f.length ≤ miu ∧ f ≠ [] := by
  intro n
  induction n with
  | zero => intro d f hf; simp [chunksF] at hf
  | succ n ih =>
    intro d f hf
    unfold chunksF at hf
    split at hf
    · simp at hf
    · next h0 =>
      rcases List.mem_cons.mp hf with h | h
      · exact h ▸ take_bound hm h0
      · exact ih _ f h

theorem chunks_flatten (miu : Nat) (hm : 0 < miu) (d : Bytes) : (chunks miu d).flatten = d :=
  chunksF_flatten miu hm _ d (Nat.le_refl _)

theorem chunks_bound (miu : Nat) (hm : 0 < miu) (d : Bytes) :
    ∀ f ∈ chunks miu d, f.length ≤ miu ∧ f ≠ [] := chunksF_bound miu hm _ d

theorem chunks_nil (miu : Nat) : chunks miu [] = [] := by simp [chunks, chunksF]

theorem chunks_ne_nil (miu : Nat) (d : Bytes) (h : d ≠ []) : chunks miu d ≠ [] := by
  cases d with
  | nil => exact absurd rfl h
  | cons a t => simp [chunks, chunksF]

/-- Induction for a receiver that appends fragments to a buffer until a test on the buffer fires:
`more` holds of every proper prefix of the whole that is longer than the buffer and fails for the
whole, so every fragment but the last is appended (`next`) and the last ends the collection (`last`). -/
theorem collect_ind (more : Bytes → Bool) (P : Bytes → List Bytes → Prop)
    (last : ∀ buf f, more (buf ++ f) = false → P buf [f])
    (next : ∀ buf f fs, more (buf ++ f) = true → P (buf ++ f) fs → P buf (f :: fs)) :
    ∀ (fs : List Bytes) (buf : Bytes), fs ≠ [] → (∀ f ∈ fs, f ≠ []) →
      (∀ k, buf.length < k → k < (buf ++ fs.flatten).length → more ((buf ++ fs.flatten).take k) = true) →
      more (buf ++ fs.flatten) = false → P buf fs
  | [], _, h, _, _, _ => absurd rfl h
  | [f], buf, _, _, _, hfin => last buf f (by simpa using hfin)
  | f :: g :: rest, buf, _, hne, hmore, hfin => by
    have hf := List.length_pos_iff.mpr (hne f List.mem_cons_self)
    have hg := List.length_pos_iff.mpr (hne g (List.mem_cons_of_mem _ List.mem_cons_self))
    have hw : buf ++ (f :: g :: rest).flatten = (buf ++ f) ++ (g :: rest).flatten := by
      rw [List.flatten_cons, List.append_assoc]
    rw [hw] at hmore hfin
    refine next buf f _ ?_ (collect_ind more P last next (g :: rest) (buf ++ f) (List.cons_ne_nil _ _)
      (fun x hx => hne x (List.mem_cons_of_mem _ hx)) (fun k hk => hmore k (by rw [List.length_append] at hk; omega)) hfin)
    have := hmore (buf ++ f).length (by rw [List.length_append]; omega)
      (by simp only [List.length_append, List.flatten_cons]; omega)
    rwa [List.take_left' rfl] at this

theorem fragments_single {miu : Nat} {d : Bytes} (h : d.length ≤ miu) : fragments miu d = [d] := by
  simp [fragments, List.take_of_length_le h, List.drop_of_length_le h, chunks_nil]

/-- A message `d` of a header of `h` octets and `n` more that needs more than one fragment
(`h ≤ miu < len`), seen by a receiver that has the first fragment and loops while
`len(data) - h < n`: what `pump_srv_collect` / `pump_cli_collect` ask of the remaining fragments. -/
theorem frag_split {h n miu : Nat} {d : Bytes} (hd : d.length = h + n) (hh : 0 < h) (hm : h ≤ miu)
    (hgt : miu < d.length) :
    chunks miu (d.drop miu) ≠ [] ∧ (∀ f ∈ chunks miu (d.drop miu), f ≠ []) ∧
    d.take miu ++ (chunks miu (d.drop miu)).flatten = d ∧
    (∀ k, (d.take miu).length < k → k < d.length → decide ((d.take k).length - h < n) = true) ∧
    decide (d.length - h < n) = false := by
  refine ⟨chunks_ne_nil _ _ fun h0 => ?_, fun f hf => (chunks_bound _ (by omega) _ f hf).2,
    by rw [chunks_flatten _ (by omega), List.take_append_drop], fun k hk hk' => decide_eq_true ?_,
    decide_eq_false (by omega)⟩
  · have := congrArg List.length h0
    rw [List.length_drop, List.length_nil] at this
    omega
  · rw [List.length_take] at hk ⊢; omega

variable {C S D : Type}

theorem pump_add (p : Proto C S D) (a b : Nat) (n : Net C S D) :
    pump p (a + b) n = pump p b (pump p a n) := by
  induction a generalizing n with
  | zero => simp [pump]
  | succ a ih => rw [Nat.succ_add]; simp only [pump]; exact ih _

theorem step_quiet (p : Proto C S D) (n : Net C S D) (h : quiet p n) : step p n = n := by
  obtain ⟨h1, h2⟩ := h
  unfold step
  rw [h1]
  rcases h2 with h2 | h2
  · rw [h2]
  · cases hs : n.s2c with
    | nil => rfl
    | cons m q => simp [h2]

theorem pump_quiet (p : Proto C S D) (k : Nat) (n : Net C S D) (h : quiet p n) : pump p k n = n := by
  induction k with
  | zero => rfl
  | succ k ih => simp only [pump]; rw [step_quiet p n h]; exact ih

theorem pump_stable (p : Proto C S D) (N : Nat) (n m : Net C S D) (h : pump p N n = m) (hq : quiet p m) :
    ∀ fuel, N ≤ fuel → pump p fuel n = m := by
  intro fuel hf
  obtain ⟨k, rfl⟩ : ∃ k, fuel = N + k := ⟨fuel - N, by omega⟩
  rw [pump_add, h, pump_quiet p k m hq]

/-- `coll buf`: the server state that collects into `buf` while `more` holds of it; `fin`: what it does with the whole -/
theorem pump_srv_collect (p : Proto C S D) (coll : Bytes → S) (more : Bytes → Bool)
    (fin : Bytes → S × List Bytes × List D) (hw : ∀ b, p.swait (coll b) = true)
    (hs : ∀ b m, p.srv (coll b) m = if more (b ++ m) then (coll (b ++ m), [], []) else fin (b ++ m))
    (fs : List Bytes) (buf : Bytes) (h0 : fs ≠ []) (hne : ∀ f ∈ fs, f ≠ [])
    (hmore : ∀ k, buf.length < k → k < (buf ++ fs.flatten).length → more ((buf ++ fs.flatten).take k) = true)
    (hfin : more (buf ++ fs.flatten) = false) (c : C) (q lc ls : List Bytes) (dl : List D) :
    pump p fs.length ⟨c, coll buf, fs, q, lc, ls, dl⟩ =
      ⟨c, (fin (buf ++ fs.flatten)).1, [], q ++ (fin (buf ++ fs.flatten)).2.1, lc,
        ls ++ (fin (buf ++ fs.flatten)).2.1, dl ++ (fin (buf ++ fs.flatten)).2.2⟩ := by
  revert c q lc ls dl
  refine collect_ind more (fun buf fs => ∀ c q lc ls dl, pump p fs.length ⟨c, coll buf, fs, q, lc, ls, dl⟩ =
    ⟨c, (fin (buf ++ fs.flatten)).1, [], q ++ (fin (buf ++ fs.flatten)).2.1, lc,
      ls ++ (fin (buf ++ fs.flatten)).2.1, dl ++ (fin (buf ++ fs.flatten)).2.2⟩) ?_ ?_ fs buf h0 hne hmore hfin
  · intro buf f hm c q lc ls dl
    simp [pump, step, hw, hs, hm]
  · intro buf f fs hm ih c q lc ls dl
    simp only [List.length_cons, pump]
    simpa [step, hw, hs, hm, List.append_assoc] using ih c q lc ls dl

/-- the same for a client that answers nothing while it collects, nor when it is done -/
theorem pump_cli_collect (p : Proto C S D) (coll : Bytes → C) (more : Bytes → Bool) (fin : Bytes → C)
    (hw : ∀ b, p.cwait (coll b) = true)
    (hs : ∀ b m, p.cli (coll b) m = (if more (b ++ m) then coll (b ++ m) else fin (b ++ m), []))
    (fs : List Bytes) (buf : Bytes) (h0 : fs ≠ []) (hne : ∀ f ∈ fs, f ≠ [])
    (hmore : ∀ k, buf.length < k → k < (buf ++ fs.flatten).length → more ((buf ++ fs.flatten).take k) = true)
    (hfin : more (buf ++ fs.flatten) = false) (s : S) (lc ls : List Bytes) (dl : List D) :
    pump p fs.length ⟨coll buf, s, [], fs, lc, ls, dl⟩ = ⟨fin (buf ++ fs.flatten), s, [], [], lc, ls, dl⟩ := by
  refine collect_ind more (fun buf fs => pump p fs.length ⟨coll buf, s, [], fs, lc, ls, dl⟩ =
    ⟨fin (buf ++ fs.flatten), s, [], [], lc, ls, dl⟩) ?_ ?_ fs buf h0 hne hmore hfin
  · intro buf f hm
    simp [pump, step, hw, hs, hm]
  · intro buf f fs hm ih
    simp only [List.length_cons, pump]
    simpa [step, hw, hs, hm, List.append_assoc] using ih

end NfcVerif.Chan
