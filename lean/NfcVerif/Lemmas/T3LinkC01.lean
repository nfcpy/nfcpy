import NfcVerif.Model.T3LinkC01
import NfcVerif.Lemmas.T3Write
import NfcVerif.Lemmas.T3EmuRound
/-!
C01: the Type 3 reader over the Type 3 emulation behaves like the reader over a plain memory (the block store): one
command (`wrBlocks_ok`, `rdBlocks_ok`), a list of `Valid` commands (`runWL_sim`; `Valid`, declared in `Lemmas/T3.lean`, and `T3.plan_valid` are those
of the plain memory), the read loop (`T3.readLoopV_spec` with `rdBlocks` as reader), a fresh reader (`see_eq`).
-/
namespace NfcVerif.T3Link
open NfcVerif NfcVerif.T34 NfcVerif.T3Emu

/-- the emulated tag of the theorems: IDm and PMm of 8 octets, system code 12FCh -/
structure Ident (e : Emu) : Prop where
  idm : e.idm.length = 8
  pmm : e.pmm.length = 8
  sys : e.sys = [0x12, 0xFC]

theorem nodup_range' (first n : Nat) : (List.range' first n).Nodup := List.nodup_range'

theorem writeAll_range (d : Bytes) : ∀ (n first i : Nat) (s : Bytes), 16 * (first + n) ≤ s.length →
    (i + n) * 16 ≤ d.length →
    writeAll d (List.range' first n) i s = splice s (16 * first) (sliceN d (i * 16) ((i + n) * 16)) := by
  intro n
  induction n with
  | zero => intro first i s _ _; simp [writeAll, sliceN]
  | succ n ih =>
    intro first i s hs hd
    rw [List.range'_succ]
    simp only [writeAll]
    have hl := blkSlice_length d i (by omega)
    have hsl : (splice s (first * 16) (blkSlice d i)).length = s.length := splice_length _ _ _ (by rw [hl]; omega)
    rw [ih (first + 1) (i + 1) _ (by rw [hsl]; omega) (by omega)]
    have e1 : 16 * (first + 1) = first * 16 + (blkSlice d i).length := by rw [hl]; omega
    rw [e1, splice_adj _ _ _ _ (by
      rw [hl, sliceN_length _ _ _ (by omega)]; omega)]
    congr 1
    · omega
    · unfold blkSlice
      rw [show i + 1 + n = i + (n + 1) by omega]
      exact sliceN_append d _ _ _ (by omega) (by omega)

theorem readAll_range (s : Bytes) : ∀ (n first : Nat), 16 * (first + n) ≤ s.length →
    readAll s (List.range' first n) = sliceN s (16 * first) (16 * (first + n)) := by
  intro n
  induction n with
  | zero => intro first _; simp [readAll, sliceN]
  | succ n ih =>
    intro first hs
    rw [List.range'_succ]
    simp only [readAll, List.flatMap_cons] at ih ⊢
    rw [ih (first + 1) (by omega)]
    rw [show first * 16 = 16 * first by omega, show (first + 1) * 16 = 16 * (first + 1) by omega,
      show first + 1 + n = first + (n + 1) by omega]
    exact sliceN_append s _ _ _ (by omega) (by omega)

/-- block list octets of a consecutive range: the reader-side frame bound of `T3.cmdCheck` -/
theorem codes_range (n first : Nat) : ((List.range' first n).flatMap codeOf).length = T3.elemSum first n := by
  induction n generalizing first with
  | zero => rfl
  | succ n ih =>
    rw [List.range'_succ]
    simp only [List.flatMap_cons, List.length_append, codeOf_length, ih (first + 1), T3.elemSum, T3.elemSize]

theorem exchange3_ok (e : Emu) (cmd r : Bytes) (st : Bytes) (log : List Call)
    (h : processCommand e cmd = .ok (some r, st, log)) :
    exchange3 e cmd = (.ok r, { e with store := st }, 1) := by
  simp [exchange3, deliver, processCommandR, h]

theorem checkRsp_ok (idm : Bytes) (hidm : idm.length = 8) (code : Nat) (body : Bytes) :
    checkRsp idm code ([12 + body.length, code + 1] ++ idm ++ [0, 0] ++ body) = .ok body := by
  obtain ⟨a, b, c, d, f, g, h, i, rfl⟩ := len8 idm hidm
  simp [checkRsp, sliceN]
  omega

/-- `write_to_ndef_service` on the emulation = the plain-memory write of `T3.sendW`; the hypotheses are the fields of
`Valid` but `n`, written out because `C01Emu.t3emu_write_is_plain_memory` states them so -/
theorem wrBlocks_ok (e : Emu) (id : Ident e) (c : T3.WCmd) (hs : 16 * (c.blk + c.n) ≤ e.store.length)
    (h65 : c.blk + c.n ≤ 65536) (hd : c.data.length = 16 * c.n) (hfit : 14 + T3.elemSum c.blk c.n + c.data.length ≤ 255) :
    wrBlocks e e.idm c = (.ok (), { e with store := splice e.store (16 * c.blk) c.data }, 1) := by
  have hlen : (List.range' c.blk c.n).length = c.n := List.length_range'
  obtain ⟨w, log, hw1, hw2⟩ := write_frame e (List.range' c.blk c.n) c.data id.idm
    (fun b hb => by have := List.mem_range'_1.mp hb; omega) (fun b hb => by have := List.mem_range'_1.mp hb; omega)
    (by rw [hlen]; exact hd) (by rw [codes_range]; exact hfit)
  have hc : checkRsp e.idm 8 ([12, 9] ++ e.idm ++ [0, 0]) = .ok [] := by
    simpa using checkRsp_ok e.idm id.idm 8 []
  rw [writeAll_range c.data c.n c.blk 0 e.store hs (by omega), Nat.zero_mul, Nat.zero_add, sliceN_zero_take,
    List.take_of_length_le (by omega)] at hw2
  unfold wrBlocks
  rw [hw1]
  dsimp only
  rw [exchange3_ok e _ _ _ _ hw2]
  dsimp only
  rw [hc]
  rfl

/-- `read_from_ndef_service` on the emulation = reading the plain memory -/
theorem rdBlocks_ok (e : Emu) (id : Ident e) (first n : Nat) (hn : 1 ≤ n ∧ n ≤ 15) (hs : 16 * (first + n) ≤ e.store.length)
    (h65 : first + n ≤ 65536) : rdBlocks e e.idm first n = .ok (sliceN e.store (16 * first) (16 * (first + n))) := by
  have hlen : (List.range' first n).length = n := List.length_range'
  have hes := T3.elemSum_le first n
  obtain ⟨r, log, hr1, hr2⟩ := read_frame e (List.range' first n) id.idm
    (fun b hb => by have := List.mem_range'_1.mp hb; omega) (fun b hb => by have := List.mem_range'_1.mp hb; omega)
    (by omega) (by rw [codes_range]; omega)
  rw [readAll_range e.store n first hs, hlen] at hr2
  have hsl := sliceN_length e.store (16 * first) (16 * (first + n)) hs
  have hc : checkRsp e.idm 6 ([13 + 16 * n, 7] ++ e.idm ++ [0, 0, n] ++ sliceN e.store (16 * first) (16 * (first + n)))
      = .ok ([n] ++ sliceN e.store (16 * first) (16 * (first + n))) := by
    have := checkRsp_ok e.idm id.idm 6 ([n] ++ sliceN e.store (16 * first) (16 * (first + n)))
    rw [List.length_append, hsl, List.length_singleton,
      show 12 + (1 + (16 * (first + n) - 16 * first)) = 13 + 16 * n by omega] at this
    simpa [List.append_assoc] using this
  unfold rdBlocks
  rw [hr1]
  dsimp only
  rw [exchange3_ok e _ _ _ _ hr2]
  dsimp only
  rw [hc]
  simp only [Py.bind_ok, List.length_append, List.length_singleton, hsl]
  rw [if_neg (by omega)]
  rfl

theorem polling_ok (e : Emu) (id : Ident e) : polling e = .ok (e.idm, e.pmm) := by
  obtain ⟨a, b, c, d, f, g, h, i, hi⟩ := len8 e.idm id.idm
  obtain ⟨a', b', c', d', f', g', h', i', hp⟩ := len8 e.pmm id.pmm
  have hpc : processCommand e [6, 0, 0x12, 0xFC, 0, 0] = .ok (some ([18, 1] ++ e.idm ++ e.pmm), e.store, []) := by
    simp [processCommand, id.sys, hi, hp]
  unfold polling
  rw [exchange3_ok e _ _ _ _ hpc]
  simp [hi, hp, sliceN]

theorem readLoop_eqV (e : Emu) (idm : Bytes) (nbr last : Nat) : ∀ fuel i acc,
    readLoop e idm nbr last fuel i acc = T3V.readLoopV (rdBlocks e idm) nbr last fuel i acc := by
  intro fuel
  induction fuel with
  | zero => intro i acc; rfl
  | succ fuel ih => intro i acc; simp only [readLoop, T3V.readLoopV, ih]; rfl

theorem readNdef_spec (e : Emu) (id : Ident e) (a : T3.Attr) (hdec : T3.decodeAttr (e.store.take 16) = .ok (some a))
    (hver : a.ver / 16 = 1) (hnbr : 1 ≤ a.nbr) (hln : a.ln ≤ 16 * a.nmaxb) (h65 : a.nmaxb < 65536)
    (hmem : 16 * (a.nmaxb + 1) ≤ e.store.length) :
    readNdef e = .ok (some ⟨e.idm, a, ⟨(a.nmaxb * 16 : Nat), decide (a.writef = 0 ∧ a.nbr > 0),
      decide (a.rwflag ≠ 0 ∧ a.nbw > 0), (sliceN e.store 16 (16 * (1 + (a.ln + 15) / 16))).take a.ln⟩⟩) := by
  unfold readNdef
  rw [polling_ok e id]
  simp only [readAttr]
  rw [rdBlocks_ok e id 0 1 (by omega) (by omega) (by omega)]
  simp only [Nat.mul_zero, Nat.zero_add, Nat.mul_one, sliceN_zero_take, hdec, Py.bind_ok]
  rw [if_neg (by omega), if_neg (by omega), if_neg (by omega), readLoop_eqV,
    T3.readLoopV_spec _ e.store (min a.nbr 15) _ (by omega)
      (fun i n _ h2 h3 h4 => rdBlocks_ok e id i n ⟨h2, by omega⟩ (by omega) (by omega)) _ 1 [] (by omega) (by omega) (by omega)]
  simp

theorem see_eq (e : Emu) (id : Ident e) (a : T3.Attr) (wf : T3.WF e.store a) : see e = T3.see e.store := by
  unfold see T3.see
  rw [readNdef_spec e id a wf.dec wf.ver wf.nbr.1 wf.ln wf.range.nmaxb wf.mem,
    T3.readNdef_spec e.store a wf.dec wf.ver wf.nbr (by have := wf.mem; have := wf.ln; omega)
      (by have := wf.ln; have := wf.range.nmaxb; omega)]
  rfl

theorem runWL_sim (cs : List T3.WCmd) : ∀ (e : Emu), Ident e → (∀ c ∈ cs, Valid c e.store.length) →
    runWL e.idm e cs = ⟨{ e with store := T3.applyW e.store cs }, cs.length, .ok ()⟩ := by
  induction cs with
  | nil => intro e _ _; simp [runWL, T3.applyW]
  | cons c cs ih =>
    intro e id hv
    have v := hv c List.mem_cons_self
    have hl : (splice e.store (16 * c.blk) c.data).length = e.store.length :=
      splice_length _ _ _ (by rw [v.data]; have := v.inside; omega)
    simp only [runWL]
    rw [wrBlocks_ok e id c v.inside v.b65 v.data v.fit]
    simp only
    have id' : Ident { e with store := splice e.store (16 * c.blk) c.data } := ⟨id.idm, id.pmm, id.sys⟩
    have := ih { e with store := splice e.store (16 * c.blk) c.data } id'
      (by intro c' hc'; simp only [hl]; exact hv c' (List.mem_cons_of_mem _ hc'))
    simp only at this
    rw [this]
    simp [T3.applyW]
    omega

end NfcVerif.T3Link
