import NfcVerif.Model.HistC01
import NfcVerif.Lemmas.TlvSync
/-! C01: histories on Type 1 / Type 2 Tags with the repaired memory reader (`syncUnitsR`): what a history keeps true
under faults of both kinds, the cache images of an assignment, an assignment as a list of `synchronize()` calls.

The last conjunct of `syncUnitsR_inv`, `syncR_step`, `syncsR_spec`, `writeFromR_spec` and `attemptR_spec` - as long as the
tag executes no command whose failure the reader sees (`NoLate`), a picture that equals the tag still does - serves the
reader as found: `attempt_lift` in `Lemmas/HistC01.lean` makes an attempt of that reader an attempt of this one started
with no unit marked, and dropping the marks keeps `InvR` exactly when picture and tag agree.  The conjunct holds of this
reader too, so it is proved here, in the walks that are made anyway. -/
namespace NfcVerif.Hist
open NfcVerif NfcVerif.Tlv

structure LenR (st : RSR) (n : Nat) : Prop where
  tag : st.tag.length = n
  belief : st.belief.length = n
  cache : st.cache.length = n

/-- outside the set of unconfirmed units the picture equals the tag -/
def UnitSync (u : Nat) (st : RSR) : Prop :=
  ∀ i, i ∉ st.dirty → sliceN st.tag (i * u) (i * u + u) = sliceN st.belief (i * u) (i * u + u)

theorem slice_writeAt_other (b c : Bytes) (u i j : Nat) (hij : i ≠ j) (hl : b.length = c.length) :
    sliceN (writeAt b (j * u) (sliceN c (j * u) (j * u + u))) (i * u) (i * u + u) = sliceN b (i * u) (i * u + u) := by
  apply sliceN_eq_of
  intro k hk
  rw [writeAt_slice_get _ _ _ _ _ hl]
  rw [if_neg]
  intro ⟨h1, h2⟩
  rcases Nat.lt_or_gt_of_ne hij with h | h
  · have : (i + 1) * u ≤ j * u := Nat.mul_le_mul_right u h
    rw [Nat.add_mul] at this; omega
  · have : (j + 1) * u ≤ i * u := Nat.mul_le_mul_right u h
    rw [Nat.add_mul] at this; omega

theorem slice_writeAt_same (b c : Bytes) (u i : Nat) (hl : b.length = c.length) :
    sliceN (writeAt b (i * u) (sliceN c (i * u) (i * u + u))) (i * u) (i * u + u) = sliceN c (i * u) (i * u + u) := by
  apply sliceN_eq_of
  intro k hk
  rw [writeAt_slice_get _ _ _ _ _ hl, if_pos (by omega)]

theorem syncUnitsR_none (u : Nat) (is : List Nat) (st : RSR) :
    (syncUnitsR u is st none).failed = false ∧ (syncUnitsR u is st none).fault = none := by
  induction is generalizing st with
  | nil => exact ⟨rfl, rfl⟩
  | cons i is ih =>
    simp only [syncUnitsR]
    split
    · exact ih _
    · exact ih st

theorem syncR_none (u : Nat) (st : RSR) : (syncR u st none).failed = false ∧ (syncR u st none).fault = none :=
  syncUnitsR_none u _ st

theorem mem_filter_ne {l : List Nat} {i j : Nat} : j ∈ l.filter (· ≠ i) ↔ j ∈ l ∧ j ≠ i := by
  simp [List.mem_filter]

/-- the state after unit `i` was sent and acknowledged -/
theorem unitSync_step (u : Nat) (st : RSR) (i n : Nat) (hl : LenR st n) (h : UnitSync u st) :
    UnitSync u { tag := writeAt st.tag (i * u) (sliceN st.cache (i * u) (i * u + u)),
                 belief := writeAt st.belief (i * u) (sliceN st.cache (i * u) (i * u + u)),
                 cache := st.cache, dirty := st.dirty.filter (· ≠ i) } := by
  intro j hj
  simp only at hj ⊢
  by_cases hji : j = i
  · subst hji
    rw [slice_writeAt_same _ _ _ _ (by rw [hl.tag, hl.cache]), slice_writeAt_same _ _ _ _ (by rw [hl.belief, hl.cache])]
  · have hjd : j ∉ st.dirty := fun hm => hj (mem_filter_ne.2 ⟨hm, hji⟩)
    rw [slice_writeAt_other _ _ _ _ _ hji (by rw [hl.tag, hl.cache]),
      slice_writeAt_other _ _ _ _ _ hji (by rw [hl.belief, hl.cache])]
    exact h j hjd

/-- what a history keeps true, relative to the image `m` found at activation -/
structure InvR (u : Nat) (m : Bytes) (B : Nat) (st : RSR) : Prop where
  len : LenR st m.length
  sync : UnitSync u st
  tag : ∀ x, x < B → st.tag[x]? = m[x]?
  cache : ∀ x, x < B → st.cache[x]? = m[x]?

theorem InvR.withCache {u : Nat} {m : Bytes} {B : Nat} {st : RSR} (hi : InvR u m B st) (C : Bytes) (hl : C.length = m.length)
    (hb : ∀ x, x < B → C[x]? = m[x]?) : InvR u m B { st with cache := C } :=
  ⟨⟨hi.len.tag, hi.len.belief, hl⟩, hi.sync, hi.tag, hb⟩

theorem InvR.fresh (u : Nat) (m : Bytes) (B : Nat) : InvR u m B (freshR m) :=
  ⟨⟨rfl, rfl, rfl⟩, fun _ _ => rfl, fun _ _ => rfl, fun _ _ => rfl⟩

theorem InvR.tag_written {u : Nat} {m : Bytes} {B : Nat} {st : RSR} (hi : InvR u m B st) (i x : Nat) (hx : x < B) :
    (writeAt st.tag (i * u) (sliceN st.cache (i * u) (i * u + u)))[x]? = m[x]? := by
  rw [writeAt_slice_get _ _ _ _ _ (by rw [hi.len.tag, hi.len.cache])]
  split
  · exact hi.cache x hx
  · exact hi.tag x hx

theorem InvR.acked {u : Nat} {m : Bytes} {B : Nat} {st : RSR} (hi : InvR u m B st) (i : Nat) :
    InvR u m B { tag := writeAt st.tag (i * u) (sliceN st.cache (i * u) (i * u + u)),
                 belief := writeAt st.belief (i * u) (sliceN st.cache (i * u) (i * u + u)),
                 cache := st.cache, dirty := st.dirty.filter (· ≠ i) } :=
  ⟨⟨by simp only [writeAt_length]; exact hi.len.tag, by simp only [writeAt_length]; exact hi.len.belief, hi.len.cache⟩,
    unitSync_step u st i _ hi.len hi.sync, hi.tag_written i, hi.cache⟩

/-- the command for unit `i` did not return, executed by the tag or not: the unit is marked -/
theorem InvR.unacked {u : Nat} {m : Bytes} {B : Nat} {st : RSR} (hi : InvR u m B st) (i : Nat) (t : Bytes)
    (ht : t = st.tag ∨ t = writeAt st.tag (i * u) (sliceN st.cache (i * u) (i * u + u))) :
    InvR u m B { st with tag := t, dirty := i :: st.dirty.filter (· ≠ i) } := by
  refine ⟨⟨?_, hi.len.belief, hi.len.cache⟩, fun j hj => ?_, ?_, hi.cache⟩
  · rcases ht with rfl | rfl
    · exact hi.len.tag
    · rw [writeAt_length]; exact hi.len.tag
  · simp only [List.mem_cons, not_or] at hj
    have hjd : j ∉ st.dirty := fun hm => hj.2 (mem_filter_ne.2 ⟨hm, hj.1⟩)
    rcases ht with rfl | rfl
    · exact hi.sync j hjd
    · simp only
      rw [slice_writeAt_other _ _ _ _ _ hj.1 (by rw [hi.len.tag, hi.len.cache])]; exact hi.sync j hjd
  · rcases ht with rfl | rfl
    · exact hi.tag
    · exact hi.tag_written i

/-- no fault of the `late` kind (the tag never executes a command whose failure the reader sees) -/
def NoLate (f : Option Fault) : Prop := ∀ x, f = some x → x.late = false

theorem NoLate.none : NoLate none := by intro x h; cases h

theorem NoLate.pred {f : Option Fault} (h : NoLate f) : NoLate (f.map fun x => ⟨x.k - 1, x.late⟩) := by
  intro x hx
  cases f with
  | none => cases hx
  | some y => simp only [Option.map_some, Option.some.injEq] at hx; subst hx; exact h y rfl

theorem syncUnitsR_inv (u : Nat) (m : Bytes) (B : Nat) (is : List Nat) : ∀ (st : RSR) (f : Option Fault),
    InvR u m B st → InvR u m B (syncUnitsR u is st f).st ∧ (syncUnitsR u is st f).st.cache = st.cache ∧
      (NoLate f → st.tag = st.belief →
        (syncUnitsR u is st f).st.tag = (syncUnitsR u is st f).st.belief ∧ NoLate (syncUnitsR u is st f).fault) := by
  induction is with
  | nil => exact fun st f hi => ⟨hi, rfl, fun hf hc => ⟨hc, hf⟩⟩
  | cons i is ih =>
    intro st f hi
    simp only [syncUnitsR]
    split
    · split
      · split
        · rename_i late hl
          exact ⟨hi.unacked i _ (Or.inr rfl), rfl, fun hf => by have := hf _ rfl; simp only [hl] at this; cases this⟩
        · exact ⟨hi.unacked i _ (Or.inl rfl), rfl, fun _ hc => ⟨hc, NoLate.none⟩⟩
      · obtain ⟨h1, h2, h3⟩ := ih _ (f.map fun x => ⟨x.k - 1, x.late⟩) (hi.acked i)
        exact ⟨h1, h2, fun hf hc => h3 hf.pred (by simp only [hc])⟩
    · exact ih st f hi

theorem window_cons {T t1 t c : Bytes} {u a j : Nat} (hj : a + 1 ≤ j)
    (h1 : ∀ x, t1[x]? = if a * u ≤ x ∧ x < a * u + u then c[x]? else t[x]?)
    (h2 : ∀ x, T[x]? = if (a + 1) * u ≤ x ∧ x < j * u then c[x]? else t1[x]?) (x : Nat) :
    T[x]? = if a * u ≤ x ∧ x < j * u then c[x]? else t[x]? := by
  have hau : (a + 1) * u = a * u + u := by rw [Nat.succ_mul]
  have hju : a * u + u ≤ j * u := by rw [← hau]; exact Nat.mul_le_mul_right u hj
  rw [h2 x, h1 x, hau]
  by_cases h : a * u + u ≤ x ∧ x < j * u
  · rw [if_pos h, if_pos ⟨by omega, h.2⟩]
  · rw [if_neg h]
    by_cases h' : a * u ≤ x ∧ x < a * u + u
    · rw [if_pos h', if_pos ⟨h'.1, by omega⟩]
    · rw [if_neg h', if_neg (by omega)]

/-- the tag holds the cache content from unit `a` up to a unit boundary `j`: units that are not sent hold it already -/
theorem syncUnitsR_threshold (u : Nat) (n : Nat) : ∀ (len a : Nat) (st : RSR) (f : Option Fault), LenR st n →
    UnitSync u st →
    ∃ j, a ≤ j ∧ j ≤ a + len ∧ ((syncUnitsR u (List.range' a len) st f).failed = false → j = a + len) ∧
      ∀ x, (syncUnitsR u (List.range' a len) st f).st.tag[x]? =
        if a * u ≤ x ∧ x < j * u then st.cache[x]? else st.tag[x]? := by
  intro len
  induction len with
  | zero =>
    intro a st f _ _
    exact ⟨a, Nat.le_refl _, Nat.le_refl _, fun _ => rfl, fun x => by simp [syncUnitsR]; intro h1 h2; omega⟩
  | succ len ih =>
    intro a st f hl hs
    have hw := fun x => writeAt_slice_get st.tag st.cache (a * u) u x (by rw [hl.tag, hl.cache])
    -- the unit is sent and acknowledged, the loop goes on: the window of the rest grows by this unit
    have step : ∀ r : SyncR, (∃ j, a + 1 ≤ j ∧ j ≤ a + 1 + len ∧ (r.failed = false → j = a + 1 + len) ∧
          ∀ x, r.st.tag[x]? = if (a + 1) * u ≤ x ∧ x < j * u then st.cache[x]?
            else (writeAt st.tag (a * u) (sliceN st.cache (a * u) (a * u + u)))[x]?) →
        ∃ j, a ≤ j ∧ j ≤ a + (len + 1) ∧ (r.failed = false → j = a + (len + 1)) ∧
          ∀ x, r.st.tag[x]? = if a * u ≤ x ∧ x < j * u then st.cache[x]? else st.tag[x]? :=
      fun r ⟨j, hj1, hj2, hj3, hj⟩ =>
        ⟨j, by omega, by omega, fun h => (by have := hj3 h; omega), window_cons hj1 hw hj⟩
    have hrest := fun f' => ih (a + 1)
      { tag := writeAt st.tag (a * u) (sliceN st.cache (a * u) (a * u + u)),
        belief := writeAt st.belief (a * u) (sliceN st.cache (a * u) (a * u + u)),
        cache := st.cache, dirty := st.dirty.filter (· ≠ a) } f'
      ⟨by simp only [writeAt_length]; exact hl.tag, by simp only [writeAt_length]; exact hl.belief, hl.cache⟩
      (unitSync_step u st a n hl hs)
    by_cases hne : sliceN st.cache (a * u) (a * u + u) ≠ sliceN st.belief (a * u) (a * u + u) ∨ a ∈ st.dirty
    · rcases f with _ | ⟨_ | k, late⟩
      · simp only [List.range'_succ, syncUnitsR, if_pos hne, Option.map_none]
        exact step _ (hrest none)
      · simp only [List.range'_succ, syncUnitsR, if_pos hne]
        cases late with
        | true =>
          refine ⟨a + 1, by omega, by omega, fun h => (by cases h), fun x => ?_⟩
          rw [Nat.succ_mul]; exact hw x
        | false =>
          refine ⟨a, by omega, by omega, fun h => (by cases h), fun x => ?_⟩
          simp only [Bool.false_eq_true, if_false]
          rw [if_neg (by omega)]
      · simp only [List.range'_succ, syncUnitsR, if_pos hne, Option.map_some]
        exact step _ (hrest _)
    · -- the unit is not sent: the tag holds the cache content already
      have hns : ∀ x, st.tag[x]? = if a * u ≤ x ∧ x < a * u + u then st.cache[x]? else st.tag[x]? := by
        intro x
        by_cases h2 : a * u ≤ x ∧ x < a * u + u
        · have heq : sliceN st.tag (a * u) (a * u + u) = sliceN st.cache (a * u) (a * u + u) := by
            rw [hs a (fun hc => hne (Or.inr hc))]
            exact (Classical.byContradiction fun hc => hne (Or.inl hc)).symm
          have := congrArg (fun l => l[x - a * u]?) heq
          simp only [sliceN_get, if_pos (show x - a * u < u by omega)] at this
          rw [show a * u + (x - a * u) = x by omega] at this
          rw [if_pos h2]; exact this
        · rw [if_neg h2]
      simp only [List.range'_succ, syncUnitsR, if_neg hne]
      obtain ⟨j, hj1, hj2, hj3, hj⟩ := ih (a + 1) st f hl hs
      exact ⟨j, by omega, by omega, fun h => (by have := hj3 h; omega), window_cons hj1 hns hj⟩

theorem syncR_threshold (u : Nat) (hu : 0 < u) (st : RSR) (f : Option Fault) (n : Nat) (hl : LenR st n)
    (hs : UnitSync u st) :
    ∃ j, j ≤ (n + u - 1) / u ∧ ((syncR u st f).failed = false → (syncR u st f).st.tag = st.cache) ∧
      ∀ x, (syncR u st f).st.tag[x]? = if x < j * u then st.cache[x]? else st.tag[x]? := by
  unfold syncR
  rw [List.range_eq_range', hl.belief]
  obtain ⟨j, _, hj2, hj3, hj⟩ := syncUnitsR_threshold u n ((n + u - 1) / u) 0 st f hl hs
  simp only [Nat.zero_add, Nat.zero_mul, Nat.zero_le, true_and] at hj2 hj3 hj
  refine ⟨j, hj2, fun hok => ?_, hj⟩
  apply List.ext_getElem?
  intro x
  rw [hj x, hj3 hok]
  have := div_bounds (n + u - 1) u hu
  split
  · rfl
  · rw [List.getElem?_eq_none (l := st.cache) (by rw [hl.cache]; omega),
      List.getElem?_eq_none (l := st.tag) (by rw [hl.tag]; omega)]

theorem syncR_step (u : Nat) (hu : 0 < u) (m : Bytes) (B : Nat) (s : RSR) (f : Option Fault) (hi : InvR u m B s) :
    InvR u m B (syncR u s f).st ∧ (syncR u s f).st.cache = s.cache ∧
    ((syncR u s f).failed = false → (syncR u s f).st.tag = s.cache) ∧
    (f = none → (syncR u s f).failed = false ∧ (syncR u s f).fault = none) ∧
    (NoLate f → s.tag = s.belief → (syncR u s f).st.tag = (syncR u s f).st.belief ∧ NoLate (syncR u s f).fault) := by
  obtain ⟨-, -, hd, -⟩ := syncR_threshold u hu s f m.length hi.len hi.sync
  obtain ⟨h1, h2, h3⟩ := syncUnitsR_inv u m B (List.range ((s.belief.length + u - 1) / u)) s f hi
  exact ⟨h1, h2, hd, fun hn => by subst hn; exact syncR_none u s, h3⟩

/-- the four cache images of an assignment exist and keep the head of `m`, whenever the cache `C` has it - which is
all that earlier attempts, failed or not, leave intact of the cache -/
theorem images (c : Cfg) (m : Bytes) (L : Layout) (data C : Bytes) (hr : ReadsAs c m L) (hwf : WF c m L)
    (hcap : (data.length : Int) ≤ L.cap) (hC : Head m L C) :
    ∃ m1 m2 m3a m3, WriteSpec c C L data m1 m2 m3a m3 ∧ ∀ M ∈ [m1, m2, m3a, m3], Head m L M := by
  obtain ⟨m1, m2, m3a, m3, w⟩ := write_spec c C L data hr.cap (by rw [hC.1]; exact hwf.2.2.2.1) hcap
  obtain ⟨H1, H2, H3a, H3⟩ := w.heads hC
  refine ⟨m1, m2, m3a, m3, w, fun M hM => ?_⟩
  simp only [List.mem_cons, List.not_mem_nil, or_false] at hM
  rcases hM with rfl | rfl | rfl | rfl
  · exact H1
  · exact H2
  · exact H3a
  · exact H3

theorem readBack_written {c : Cfg} {C : Bytes} {L : Layout} {data m1 m2 m3a m3 : Bytes}
    (w : WriteSpec c C L data m1 m2 m3a m3) (hcap : (data.length : Int) ≤ capacity L.skip L.off L.areaEnd)
    (hra : ReadsAs c m3 { L with ndef := data }) : readBack c m3 = .ok (some { L with ndef := data }) := by
  unfold readBack
  rw [(readNdef_some c _ _).2 hra]
  simp only
  rw [w.head_eq, if_pos (w.inside hcap)]

/-- the `synchronize()` calls of one assignment, the cache taking the images `Cs` in turn; the first failure ends it -/
def syncsR (u : Nat) : List Bytes → RSR → Option Fault → AttR
  | [], st, _ => ⟨st, [], .ok ()⟩
  | C :: Cs, st, f =>
    let s := syncR u { st with cache := C } f
    if s.failed then ⟨s.st, s.cmds, .error faultErr⟩
    else ⟨(syncsR u Cs s.st s.fault).st, s.cmds ++ (syncsR u Cs s.st s.fault).cmds, (syncsR u Cs s.st s.fault).res⟩

theorem writeFromR_eq {c : Cfg} {L : Layout} {data m1 m2 m3a m3 : Bytes} {st : RSR}
    (w : WriteSpec c st.cache L data m1 m2 m3a m3) (f : Option Fault) :
    writeFromR c L st data f = syncsR c.unit [m1, m2, m3a, m3] st f := by
  unfold writeFromR
  rw [w.p1]; simp only
  rw [w.p2]; simp only
  rw [w.p3a]; simp only
  rw [w.p3]; simp only [syncsR]
  split
  · rfl
  split
  · rfl
  split
  · simp only [List.append_assoc]
  split <;> simp only [List.append_assoc, List.append_nil]

theorem syncsR_spec (u : Nat) (hu : 0 < u) (m : Bytes) (B : Nat) : ∀ (Cs : List Bytes) (st : RSR) (f : Option Fault),
    (∀ C ∈ Cs, C.length = m.length ∧ ∀ x, x < B → C[x]? = m[x]?) → InvR u m B st →
    InvR u m B (syncsR u Cs st f).st ∧
    ((syncsR u Cs st f).res = .ok () → (syncsR u Cs st f).st.tag = Cs.getLast?.getD st.tag) ∧
    (f = none → (syncsR u Cs st f).res = .ok ()) ∧
    (NoLate f → st.tag = st.belief → (syncsR u Cs st f).st.tag = (syncsR u Cs st f).st.belief)
  | [], st, f, _, hi => ⟨hi, fun _ => rfl, fun _ => rfl, fun _ hc => hc⟩
  | C :: Cs, st, f, hC, hi => by
    obtain ⟨i1, -, d1, e1, c1⟩ := syncR_step u hu m B { st with cache := C } f
      (hi.withCache C (hC C List.mem_cons_self).1 (hC C List.mem_cons_self).2)
    obtain ⟨i2, d2, e2, c2⟩ := syncsR_spec u hu m B Cs (syncR u { st with cache := C } f).st
      (syncR u { st with cache := C } f).fault (fun C' h => hC C' (List.mem_cons_of_mem _ h)) i1
    simp only [syncsR]
    split
    · rename_i hfail
      refine ⟨i1, fun h => (by cases h), fun hn => ?_, fun hf hc => (c1 hf hc).1⟩
      rw [(e1 hn).1] at hfail; cases hfail
    · rename_i hok
      refine ⟨i2, fun h => ?_, fun hn => e2 (e1 hn).2, fun hf hc => c2 (c1 hf hc).2 (c1 hf hc).1⟩
      rw [d2 h, d1 (by simpa using hok), List.getLast?_cons]
      rfl

theorem writeFromR_spec (c : Cfg) (m : Bytes) (L : Layout) (data : Bytes) (st : RSR) (f : Option Fault)
    (hr : ReadsAs c m L) (hwf : WF c m L) (hcap : (data.length : Int) ≤ L.cap)
    (hi : InvR c.unit m (L.off + 1) st) :
    InvR c.unit m (L.off + 1) (writeFromR c L st data f).st ∧
    ((writeFromR c L st data f).res = .ok () →
      ReadsAs c (writeFromR c L st data f).st.tag { L with ndef := data } ∧
      readBack c (writeFromR c L st data f).st.tag = .ok (some { L with ndef := data })) ∧
    (f = none → (writeFromR c L st data f).res = .ok ()) ∧
    (NoLate f → st.tag = st.belief → (writeFromR c L st data f).st.tag = (writeFromR c L st data f).st.belief) := by
  have hC : Head m L st.cache := ⟨hi.len.cache, hi.cache⟩
  obtain ⟨m1, m2, m3a, m3, w, hM⟩ := images c m L data st.cache hr hwf hcap hC
  rw [writeFromR_eq w]
  obtain ⟨i, d, e⟩ := syncsR_spec c.unit hwf.2.1 m (L.off + 1) _ st f hM hi
  have hnew := w.reads_new hr hwf hC
  exact ⟨i, fun hres => by rw [d hres]; exact ⟨hnew, readBack_written w (by rw [← hr.cap]; exact hcap) hnew⟩, e⟩

theorem attemptR_spec (c : Cfg) (m : Bytes) (L : Layout) (data : Bytes) (st : RSR) (f : Option Fault)
    (hr : ReadsAs c m L) (hwf : WF c m L) (hi : InvR c.unit m (L.off + 1) st) :
    InvR c.unit m (L.off + 1) (attemptR c L st data f).st ∧
    ((attemptR c L st data f).res = .ok () →
      ReadsAs c (attemptR c L st data f).st.tag { L with ndef := data } ∧
      readBack c (attemptR c L st data f).st.tag = .ok (some { L with ndef := data })) ∧
    (L.writeable = true → (data.length : Int) ≤ L.cap → f = none → (attemptR c L st data f).res = .ok ()) ∧
    (NoLate f → st.tag = st.belief → (attemptR c L st data f).st.tag = (attemptR c L st data f).st.belief) := by
  unfold attemptR
  split
  · rename_i hw
    exact ⟨hi, fun h => (by cases h), fun h => absurd h hw, fun _ hc => hc⟩
  · split
    · exact ⟨hi, fun h => (by cases h), fun _ h => (by omega), fun _ hc => hc⟩
    · obtain ⟨i, d, e, k⟩ := writeFromR_spec c m L data st f hr hwf (by omega) hi
      exact ⟨i, d, fun _ _ => e, k⟩

theorem historyR_inv (c : Cfg) (m : Bytes) (L : Layout) (hr : ReadsAs c m L) (hwf : WF c m L)
    (hs : List (Bytes × Option Fault)) (st : RSR) (hi : InvR c.unit m (L.off + 1) st) :
    InvR c.unit m (L.off + 1) (historyR c L st hs).1 := by
  induction hs generalizing st with
  | nil => exact hi
  | cons a rest ih =>
    obtain ⟨d, f⟩ := a
    simp only [historyR]
    exact ih _ (attemptR_spec c m L d st f hr hwf hi).1

end NfcVerif.Hist
