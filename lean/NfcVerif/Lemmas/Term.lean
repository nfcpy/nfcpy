import NfcVerif.Model.Term
/-!
The predicates in which C09 is stated over `Model/Term`, and the case analyses over call, scheduling point and the
features of the world a call reads.
-/
namespace NfcVerif.Term

/-- a call ends well: it returns a value or raises nfc.llcp.Error (ConnectRefused is a subclass) -/
def good : Py Val → Bool
  | .ok _ => true
  | .error (.llcp _) => true
  | .error .connectRefused => true
  | _ => false

def finishesGood : Outcome → Bool
  | .finished r _ => good r
  | _ => false

/-- the waiting points of each call -/
def validWait : Call → Pt → Bool
  | .recv, .wTcoRecv | .accept, .wTcoRecv | .connect, .wTcoRecv | .close, .wTcoRecv => true
  | .send _ _, .wTcoSend | .send false _, .wWindow => true
  | .poll .recv _, .wPollRecv | .poll .send _, .wPollSend | .poll .acks _, .wPollAcks => true
  | .resolve, .wResolve => true
  | _, _ => false

/-- the lock acquisition points of each call -/
def validAcq : Call → Pt → Bool
  | .send _ _, .bindAcq | .connect, .bindAcq | .listen, .bindAcq | .bind, .bindAcq => true
  | .bind, .sockAcq | .resolve, .sockAcq => false
  | _, .sockAcq => true
  | .resolve, .llcAcq | .accept, .llcAcq | .close, .llcAcq => true
  | _, _ => false

def validPt (c : Call) (p : Pt) : Bool := validWait c p || validAcq c p

/-- only a data link connection has send_token / acks_ready waiters -/
def kindOK (w : World) (p : Pt) : Bool :=
  w.s.kind == .dlc || !(p == .wWindow || p == .wPollAcks)

/-- the world a thread that waits at `p` lives in: its socket is in a service access point
    (resp. the service discovery SAP exists) -/
def waiter (w : World) (p : Pt) : Bool :=
  if p == .wResolve then w.sdAlive else w.registered

def quiet : Act → Bool
  | .none | .term | .spurious => true
  | _ => false

/-- the socket of a terminated link (shut down by terminate(), closed, or created afterwards) -/
def After (w : World) : Prop :=
  w.terminated = true ∧ w.registered = false ∧ w.sapAlive = false ∧ w.sdAlive = false ∧
  ((w.s.st = .shutdown ∧ w.s.recvQ = []) ∨
   (w.s.bound = false ∧ (if w.s.kind = .dlc then w.s.st = .closed else w.s.st = .established)))

/-- sockets as the API leaves them: registered and bound, or never bound and fresh / shut down,
    or closed by the application (keeps its address) -/
def WF (w : World) : Prop :=
  (w.registered = true ∧ w.s.bound = true ∧ w.sapAlive = true) ∨
  (w.registered = false ∧
    ((w.s.st = .shutdown ∧ w.s.recvQ = []) ∨
     (w.s.bound = false ∧ (if w.s.kind = .dlc then w.s.st = .closed else w.s.st = .established))))

def allowed (c : Call) (w : World) : Bool := !(c == .connect && w.s.kind == .raw)

theorem terminate_notifies (w : World) (p : Pt) (hw : p.isWait = true) (hreg : waiter w p = true)
    (hk : kindOK w p = true) : (terminate w).2.contains p.cv = true := by
  cases p <;> simp [Pt.isWait] at hw <;> simp [waiter] at hreg <;>
    cases hkind : w.s.kind <;> simp_all [terminate, closeNotifies, Pt.cv, kindOK]

theorem validWait_isWait (c : Call) (p : Pt) (h : validWait c p = true) : p.isWait = true := by
  cases p <;> simp_all [validWait, Pt.isWait]

theorem validAcq_isAcq (c : Call) (p : Pt) (h : validAcq c p = true) : p.isWait = false := by
  cases p with
  | bindAcq | sockAcq | llcAcq => rfl
  | _ => cases c <;> cases h

theorem wf_terminate_after (w : World) (h : WF w) : After (terminate w).1 := by
  rcases h with ⟨h1, h2, h3⟩ | ⟨h1, h2⟩
  · simp [After, terminate, h1, tcoClose]
  · simp [After, terminate, h1]; exact h2

/-- what the thread has established when it stands at a lock acquisition point: connect, listen and
    the datagram sends bind the socket first -/
def acqInv (c : Call) (p : Pt) (w : World) : Bool :=
  if p == .sockAcq then
    (match c with
     | .connect | .listen | .recv | .poll _ _ => w.s.bound
     | .send _ _ => w.s.kind == .dlc || w.s.bound
     | _ => true)
  else true

/-- `D` holds of the result and world a step ends the call with, resp. `P` of the scheduling point it stands at -/
def Step.sat (D : Py Val → World → Prop) (P : Pt → World → Prop) : Step → Prop
  | .done r w => D r w
  | .at p w => P p w

theorem Step.sat_done (D : Py Val → World → Prop) (P : Pt → World → Prop) (r : Py Val) (w : World) :
    (Step.done r w).sat D P = D r w := rfl
theorem Step.sat_at (D : Py Val → World → Prop) (P : Pt → World → Prop) (p : Pt) (w : World) :
    (Step.at p w).sat D P = P p w := rfl

/-- `P` holds of the scheduling point a step stands at; of a step that ends the call (`raise`, `ret`, `.done`) it
    holds trivially (`sat_done`), which is what `trivial` sees below -/
def Step.pt (P : Pt → World → Prop) (s : Step) : Prop := s.sat (fun _ _ => True) P

/-- every call starts at a lock acquisition point of its own (or ends at once) -/
theorem start_spec (c : Call) (w : World) :
    (start c w).sat (fun r w' => w' = w ∧ (allowed c w = true → good r = true))
      (fun p w' => validAcq c p = true ∧ acqInv c p w' = true ∧
        ∃ m v, w' = { w with s := { w.s with sendMiu := m }, viaSap := v }) := by
  -- A call that ends at once leaves the world as it is, and its result is good by evaluation (`fun _ => rfl`); at a
  -- lock acquisition the world is `w` up to `sendMiu` / `viaSap`, and `acqInv` is the test that has just been passed.
  cases c with
  | recv | poll =>
    simp only [start]; split
    · exact ⟨rfl, fun _ => rfl⟩                              -- EBADF
    · exact ⟨rfl, by simp_all [acqInv], _, _, rfl⟩            -- socket lock: bound
  | send dw len =>
    simp only [start]; (repeat' split)
    · exact ⟨rfl, by simp_all [acqInv], _, _, rfl⟩            -- a connection: socket lock
    · exact ⟨rfl, by simp_all [acqInv, withS], _, _, rfl⟩     -- bound: socket lock, with the MIU of the link
    · exact ⟨rfl, rfl, _, _, rfl⟩                             -- the implicit bind
  | accept =>
    simp only [start]; split
    · exact ⟨rfl, fun _ => rfl⟩                              -- EOPNOTSUPP
    · exact ⟨rfl, rfl, _, _, rfl⟩                             -- socket lock
  | connect =>
    simp only [start]; (repeat' split)
    · exact ⟨rfl, fun h => by simp_all [allowed]⟩            -- a raw access point has no `connect`: not `allowed`
    · exact ⟨rfl, fun _ => rfl⟩                              -- ESHUTDOWN
    · exact ⟨rfl, by simp_all [acqInv], _, _, rfl⟩            -- socket lock: bound
    · exact ⟨rfl, rfl, _, _, rfl⟩                             -- the implicit bind
  | listen =>
    simp only [start]; (repeat' split)
    · exact ⟨rfl, fun _ => rfl⟩                              -- EOPNOTSUPP
    · exact ⟨rfl, by simp_all [acqInv], _, _, rfl⟩            -- socket lock: bound
    · exact ⟨rfl, rfl, _, _, rfl⟩                             -- the implicit bind
  | close => exact ⟨rfl, rfl, _, _, rfl⟩                      -- socket lock, `viaSap` set
  | bind =>
    simp only [start]; split
    · exact ⟨rfl, fun _ => rfl⟩                              -- EINVAL
    · exact ⟨rfl, rfl, _, _, rfl⟩                             -- llc lock for the bind
  | resolve =>
    simp only [start]; split
    · exact ⟨rfl, rfl, _, _, rfl⟩                             -- llc lock
    · exact ⟨rfl, fun _ => rfl⟩                              -- no service discovery: None

def okPt (c : Call) (p : Pt) (w : World) : Prop := validPt c p = true ∧ kindOK w p = true

theorem okPt_of {c : Call} {p : Pt} (w : World) (hv : validPt c p = true)
    (hp : (p == .wWindow || p == .wPollAcks) = false) : okPt c p w := ⟨hv, by simp [kindOK, hp]⟩

theorem okPt_dlc {c : Call} {p : Pt} {w : World} (hv : validPt c p = true) (hk : w.s.kind = .dlc) : okPt c p w :=
  ⟨hv, by simp [kindOK, hk]⟩

theorem dlcSendLoop_false_pt {P : Pt → World → Prop} {w : World} (hW : P .wWindow w)
    (hS : ∀ s, P .wTcoSend (withS w s)) : (dlcSendLoop false w).pt P := by
  simp only [dlcSendLoop, dlcSendTail, Bool.false_eq_true, if_false]; (repeat' split) <;>
    first | trivial | exact hW | exact hS _

/-! The bodies one by one: after `split` the goals come in the order of the branches in `Model/Term`, and the bullets
say for each whether the call ends there (`trivial`) or at which point it stands. -/

theorem takeRecv_pt {c : Call} {w : World} {got : World → PduK → List PduK → Step}
    (hv : validPt c .wTcoRecv = true) (hg : ∀ k r, (got w k r).pt (okPt c)) : (takeRecv w got).pt (okPt c) := by
  simp only [takeRecv]; split
  -- a PDU is there; the queue is empty: recv_ready.wait()
  · exact hg _ _
  · exact okPt_of w hv rfl

/-- whatever `recv` and `connect` take from the queue ends the call -/
theorem recvGot_pt (P : Pt → World → Prop) (w : World) (k : PduK) (r : List PduK) : (recvGot w k r).pt P := by
  simp only [recvGot]; (repeat' split) <;> trivial

theorem connectGot_pt (P : Pt → World → Prop) (w : World) (k : PduK) (r : List PduK) : (connectGot w k r).pt P := by
  simp only [connectGot]; (repeat' split) <;> trivial

theorem acceptGot_pt (w : World) (k : PduK) (r : List PduK) : (acceptGot w k r).pt (okPt .accept) := by
  simp only [acceptGot]; split
  -- a CONNECT: on to the llc lock to insert the new socket; anything else: RuntimeError
  · exact okPt_of _ rfl rfl
  · trivial

theorem closeFinish_pt (w : World) : (closeFinish w).pt (okPt .close) := by
  simp only [closeFinish]; split
  -- through the service access point: the llc lock; else done
  · exact okPt_of _ rfl rfl
  · trivial

theorem bodyRecv_pts (w : World) : (bodyRecv w).pt (okPt .recv) := by
  have T := takeRecv_pt (c := .recv) (w := w) rfl (recvGot_pt _ w)
  simp only [bodyRecv]; split <;> split
  -- a connection: ENOTCONN, else the queue; the other kinds: ESHUTDOWN, else the queue
  · trivial
  · exact T
  · trivial
  · exact T

theorem bodyAccept_pts (w : World) : (bodyAccept w).pt (okPt .accept) := by
  simp only [bodyAccept]; (repeat' split)
  -- ESHUTDOWN; EINVAL; listening: the queue
  · trivial
  · trivial
  · exact takeRecv_pt rfl (acceptGot_pt _)

theorem bodyConnect_pts (w : World) : (bodyConnect w).pt (okPt .connect) := by
  simp only [bodyConnect]; (repeat' split)
  -- raw; datagram socket; not CLOSED: EISCONN, EALREADY, EPIPE; CLOSED: the CONNECT is queued, then the queue
  · trivial
  · trivial
  · trivial
  · trivial
  · trivial
  · exact takeRecv_pt rfl (connectGot_pt _ _)

/-- `listen` never waits -/
theorem bodyListen_pts (P : Pt → World → Prop) (w : World) : (bodyListen w).pt P := by
  simp only [bodyListen]; (repeat' split) <;> trivial

theorem bodyClose_pts (w : World) : (bodyClose w).pt (okPt .close) := by
  simp only [bodyClose]; split
  -- an established, bound connection waits for the DM to its DISC; every other socket is closed at once
  · exact takeRecv_pt rfl fun _ _ => closeFinish_pt _
  · exact closeFinish_pt w

theorem pollRecvNow_pt (t : Bool) (w : World) : (pollRecvNow w).pt (okPt (.poll .recv t)) := by
  simp only [pollRecvNow]; split
  · trivial
  · exact okPt_of w rfl rfl

theorem bodyPoll_pts (ev : Ev) (t : Bool) (w : World) : (bodyPoll ev w).pt (okPt (.poll ev t)) := by
  cases ev <;> simp only [bodyPoll] <;> (repeat' split)
  -- recv: ESHUTDOWN; a connection looks at the queue while it is connected, else None; the other kinds look at it
  · trivial
  · exact pollRecvNow_pt t w
  · trivial
  · exact pollRecvNow_pt t w
  -- send: ESHUTDOWN; a connection waits while the send queue is full, else True, None when not connected; the others alike
  · trivial
  · exact okPt_of w rfl rfl
  · trivial
  · trivial
  · exact okPt_of w rfl rfl
  · trivial
  -- acks: ESHUTDOWN; a connection: True, or it waits for an acknowledgement; the other kinds: EINVAL
  · trivial
  · trivial
  · exact okPt_dlc rfl (by assumption)
  · trivial
  -- an unknown event: ESHUTDOWN, EINVAL, EINVAL
  · trivial
  · trivial
  · trivial

theorem dlcSendLoop_pt (dw : Bool) (len : Nat) {w : World} (hk : w.s.kind = .dlc) :
    (dlcSendLoop dw w).pt (okPt (.send dw len)) := by
  cases dw
  · exact dlcSendLoop_false_pt (okPt_dlc rfl hk) fun _ => okPt_of _ rfl rfl
  · -- MSG_DONTWAIT: EAGAIN instead of the window wait, no wait for the PDU to be sent
    simp only [dlcSendLoop, dlcSendTail]; (repeat' split) <;> trivial

theorem bodySend_pts (dw : Bool) (len : Nat) (w : World) : (bodySend dw len w).pt (okPt (.send dw len)) := by
  simp only [bodySend]; split
  · -- a connection: EPIPE, ENOTCONN, EMSGSIZE, else the window loop
    rename_i hk; (repeat' split)
    · trivial
    · trivial
    · trivial
    · exact dlcSendLoop_pt dw len hk
  · -- the other kinds: ESHUTDOWN, EMSGSIZE; the PDU is queued: MSG_DONTWAIT returns, else send_ready.wait()
    (repeat' split)
    · trivial
    · trivial
    · trivial
    · exact okPt_of _ rfl rfl

theorem body_pts (c : Call) (w : World) : (body c w).pt (okPt c) := by
  cases c with
  | recv => exact bodyRecv_pts w
  | send dw len => exact bodySend_pts dw len w
  | accept => exact bodyAccept_pts w
  | connect => exact bodyConnect_pts w
  | listen => exact bodyListen_pts _ w
  | close => exact bodyClose_pts w
  | poll ev t => exact bodyPoll_pts ev t w
  | bind | resolve => trivial

/-- a resumed or continued call stands again at a point of its own.  Every branch of `exec` either ends the call
    or names the point it stands at, so the point is read off; the window and acknowledgement waits are reached
    only under the test `kind = dlc` -/
theorem exec_pts (c : Call) (p : Pt) (w : World) (hv : validPt c p = true) (hk : kindOK w p = true) :
    (exec c p w).pt (okPt c) := by
  cases p with
  | wTcoSend | wPollRecv | wPollSend | wPollAcks => simp only [exec]; (repeat' split) <;> trivial
  | wResolve =>
    simp only [exec, resolveLoop]; (repeat' split) <;> first | trivial | exact okPt_of w hv rfl
  | wWindow =>
    have hS : validPt c .wTcoSend = true := by cases c <;> simp_all [validPt, validWait, validAcq]
    exact dlcSendLoop_false_pt (okPt_dlc hv (by simpa [kindOK] using hk)) fun _ => okPt_of _ hS rfl
  | sockAcq => exact body_pts c w
  | bindAcq =>
    -- with the llc lock: ESHUTDOWN once the link has ended; else the socket is bound, `bind` is done and the
    -- other calls go on to the socket lock (`connect` after its unlocked tests)
    cases c with
    | send | connect | listen | bind =>
      simp only [exec]; (repeat' split) <;> first | trivial | exact okPt_of _ rfl rfl
    | _ => simp [validPt, validWait, validAcq] at hv
  | llcAcq =>
    cases c with
    | resolve =>
      -- the one wait behind the llc lock: the name has not been resolved yet
      simp only [exec, resolveLoop]; (repeat' split) <;> first | trivial | exact okPt_of w rfl rfl
    | _ => simp only [exec]; (repeat' split) <;> trivial
  | wTcoRecv =>
    -- woken at recv_ready: a PDU is handled as in the body; without one the call ends, `close` as after its DM
    cases c with
    | recv =>
      simp only [exec]; (repeat' split)
      · exact recvGot_pt _ _ _ _
      · trivial
      · trivial
    | accept =>
      simp only [exec]; split
      · exact acceptGot_pt _ _ _
      · trivial
    | connect =>
      simp only [exec]; split
      · exact connectGot_pt _ _ _ _
      · trivial
    | close =>
      simp only [exec]; split
      · exact closeFinish_pt _
      · exact closeFinish_pt w
    | _ => trivial

/-- on a socket of a terminated link the calls of the service loops raise nfc.llcp.Error, `close()` returns -/
theorem resultAfter_dead (w : World) (hw : After w) :
    (∃ n, resultAfter .accept w = some (.error (.llcp n))) ∧
    (∃ n, resultAfter (.poll .recv false) w = some (.error (.llcp n))) ∧
    (∃ n, resultAfter .recv w = some (.error (.llcp n))) ∧
    (∃ n, resultAfter (.send false 6) w = some (.error (.llcp n))) ∧
    resultAfter .close w = some (.ok .none) := by
  obtain ⟨ht, _, hs, _, hst⟩ := hw
  refine ⟨?_, ?_, ?_, ?_, ?_⟩
  · cases hk : w.s.kind <;> rcases hst with ⟨h2, _⟩ | ⟨_, h3⟩ <;> (try simp only [hk, if_true] at h3) <;>
      simp [resultAfter, start, run, applyAct, Pt.isWait, exec, body, bodyAccept, raise, *]
  · simp [resultAfter, start, run, raise, hs]
  · simp [resultAfter, start, run, raise, hs]
  · cases hk : w.s.kind <;> cases hb : w.s.bound <;> rcases hst with ⟨h2, _⟩ | ⟨h2, h3⟩ <;>
      (try simp only [hk, if_true] at h3) <;>
      simp_all [resultAfter, start, run, applyAct, Pt.isWait, exec, body, bodySend, doBind, withS, Sock.isEst, raise]
  · have : ¬ (w.s.kind = .dlc ∧ w.s.isEst = true ∧ w.s.bound = true) := by
      rcases hst with ⟨h2, _⟩ | ⟨h2, _⟩ <;> simp [Sock.isEst, h2]
    simp [resultAfter, start, run, applyAct, Pt.isWait, exec, body, bodyClose, closeFinish, ret, hs, this]

theorem connect_returns (r : Role) (pt : LoopPt) (c : Cause)
    (h : c ≠ .ioError ∧ c ≠ .keyAgreementError ∧ c ≠ .decryptionError ∧ c ≠ .encryptionError) :
    connectEnd r pt c = .returns ∨ (c = .otherException ∧ connectEnd r pt c = .reraises) := by
  cases c <;> simp_all [connectEnd, loopEnd, leaveOf]

theorem connect_systemexit : connectEnd .initiator .established .ioError = .raisesSystemExit ∧
    connectEnd .target .dps .decryptionError = .raisesSystemExit := by decide

end NfcVerif.Term
