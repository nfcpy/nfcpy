import NfcVerif.Lemmas.FnBridgeBase
import NfcVerif.Lemmas.HostFrame
import NfcVerif.Lemmas.PyYields
import NfcVerif.Model.FnTransportRef
/-!
# Lemmas for the bridge theorems of group Transport (`nfc/clf/transport.py`)

The interpretations of `RdProg` under `if`, the length `hi << 8 | lo` of an extended frame on naturals, the written-out
form `ttyReadFlat` of `TTY.read` on a serial line (transcribed in `harness/props/c13_tty.py`), its outcomes
(`ttyRead_tri`) and the shape of the frames `Spec.parse` accepts (`parse_shape`: no accepted frame is a proper prefix of
another, none is shorter than 9 octets), from which `Props/FnBridgeTransport.lean` derives the property theorems.
-/
namespace NfcVerif.FnBridge.Transport
open NfcVerif NfcVerif.PyFn NfcVerif.HostFrame NfcVerif.FnTransportRef

theorem runWith_ite (rd : Int → Py Bytes) (c : Prop) [Decidable c] (a b : RdProg) :
    RdProg.runWith rd (if c then a else b) = if c then a.runWith rd else b.runWith rd := apply_ite _ c a b

theorem runScript_ite (cs : List Bytes) (c : Prop) [Decidable c] (a b : RdProg) :
    RdProg.runScript (if c then a else b) cs = if c then a.runScript cs else b.runScript cs :=
  apply_ite (RdProg.runScript · cs) c a b

theorem runLine_read (n : Int) (k : Bytes → RdProg) (s : Bytes) :
    (RdProg.read n k).runLine s = (k (s.take n.toNat)).runLine (s.drop n.toNat) := rfl

theorem bor_shl8 (hi lo : Nat) : bor (shl (hi : Int) 8) (lo : Int) = ((hi <<< 8 ||| lo : Nat) : Int) := by
  have h : shl (hi : Int) 8 = ((hi <<< 8 : Nat) : Int) := shl_ofNat hi 8
  rw [h, bor_ofNat]

theorem shl8_or (hi lo : Nat) (h : lo < 256) : hi <<< 8 ||| lo = hi * 256 + lo := by
  rw [Nat.shiftLeft_eq]
  have : hi * 2 ^ 8 ||| lo = hi * 2 ^ 8 + lo := by
    rw [Nat.mul_comm]
    exact (Nat.two_pow_add_eq_or_of_lt (i := 8) (by simpa using h) hi).symm
  simpa using this

/-- `TTY.read` on a line, written out -/
def ttyReadFlat (s : Bytes) : Py (Bytes × Bytes) :=
  if (s.take 6).length = 0 then .error etimedout else
  if ack.isPrefixOf (s.take 6) = true then .ok (s.take 6, s.drop 6) else
  if (s.take 6).length < 6 then .error eio else
  match (s.take 6)[3]? with
  | none => .error .index
  | some len =>
    if len = 255 then
      if (s.take 6 ++ (s.drop 6).take 3).length < 9 then .error eio else
      match (s.take 6 ++ (s.drop 6).take 3)[5]?, (s.take 6 ++ (s.drop 6).take 3)[6]? with
      | some hi, some lo =>
        .ok (s.take 6 ++ (s.drop 6).take 3 ++ ((s.drop 6).drop 3).take ((hi <<< 8 ||| lo) + 1),
             ((s.drop 6).drop 3).drop ((hi <<< 8 ||| lo) + 1))
      | _, _ => .error .index
    else .ok (s.take 6 ++ (s.drop 6).take (len + 1), (s.drop 6).drop (len + 1))

theorem ttyRead_flat (s : Bytes) : ttyRead s = ttyReadFlat s := by
  unfold ttyRead ttyReadProg ttyReadFlat
  rw [runLine_read, show (6 : Int).toNat = 6 from rfl]
  -- `rw [if_pos ..]` on each side instead of `split`: the conditions are the same, the terms are large
  by_cases h0 : (s.take 6).length = 0
  · rw [if_pos h0, if_pos h0]; rfl
  · rw [if_neg h0, if_neg h0]
    by_cases ha : ack.isPrefixOf (s.take 6) = true
    · rw [if_pos ha, if_pos ha]; rfl
    · rw [if_neg ha, if_neg ha]
      by_cases h6 : (s.take 6).length < 6
      · rw [if_pos h6, if_pos h6]; rfl
      · rw [if_neg h6, if_neg h6]
        cases (s.take 6)[3]? with
        | none => rfl
        | some len =>
          dsimp only
          by_cases hl : len = 255
          · rw [if_pos hl, if_pos hl, runLine_read, show (3 : Int).toNat = 3 from rfl]
            by_cases h9 : (s.take 6 ++ (s.drop 6).take 3).length < 9
            · rw [if_pos h9, if_pos h9]; rfl
            · rw [if_neg h9, if_neg h9]
              cases (List.take 6 s ++ List.take 3 (List.drop 6 s))[5]? with
              | none => rfl
              | some hi =>
                cases (List.take 6 s ++ List.take 3 (List.drop 6 s))[6]? with
                | none => rfl
                | some lo => rfl
          · rw [if_neg hl, if_neg hl]; rfl

/-- one walk through `ttyReadFlat`; the index expressions sit behind the length tests and cannot fail (the `none` cases) -/
theorem ttyRead_tri (s : Bytes) :
    Tri (fun e => e = if s = [] then etimedout else eio) (fun p => s ≠ [] ∧ ∃ n, p = (s.take n, s.drop n)) (ttyRead s) := by
  rw [ttyRead_flat]
  unfold ttyReadFlat
  refine Tri.ite (fun h0 => ?_) fun h0 => ?_
  · exact Tri.throw (if_pos (List.eq_nil_of_length_eq_zero (by simpa using h0))).symm
  have hs : s ≠ [] := fun h => h0 (by rw [h]; rfl)
  refine Tri.ite (fun _ => Tri.ok ⟨hs, 6, rfl⟩) fun _ => Tri.ite (fun _ => Tri.throw (if_neg hs).symm) fun h6 => ?_
  cases h3 : (s.take 6)[3]? with
  | none => rw [List.getElem?_eq_none_iff] at h3; omega
  | some len =>
    refine Tri.ite (fun _ => Tri.ite (fun _ => Tri.throw (if_neg hs).symm) fun h9 => ?_) fun _ =>
      Tri.ok ⟨hs, 6 + (len + 1), by simp [List.take_add, List.drop_drop]⟩
    cases h5 : (s.take 6 ++ (s.drop 6).take 3)[5]? with
    | none => rw [List.getElem?_eq_none_iff] at h5; omega
    | some hi =>
      cases h6' : (s.take 6 ++ (s.drop 6).take 3)[6]? with
      | none => rw [List.getElem?_eq_none_iff] at h6'; omega
      | some lo =>
        exact Tri.ok ⟨hs, 6 + (3 + ((hi <<< 8 ||| lo) + 1)), by simp [List.take_add, List.drop_drop]; omega⟩

/-- what `Spec.parse` accepts: an extended or a normal information frame whose total length is fixed by its header -/
theorem parse_shape {f : Bytes} {x : Nat × Nat × Bytes} (h : Spec.parse f = some x) :
    (∃ lm ll lcs rest, f = 0 :: 0 :: 255 :: 255 :: 255 :: lm :: ll :: lcs :: rest ∧ rest.length = lm * 256 + ll + 2) ∨
    (∃ len lcs rest, f = 0 :: 0 :: 255 :: len :: lcs :: rest ∧ rest.length = len + 2 ∧ (len + lcs) % 256 = 0 ∧ 2 ≤ len) := by
  unfold Spec.parse at h
  split at h
  · rename_i lm ll lcs rest
    split at h
    · rename_i hc
      exact Or.inl ⟨lm, ll, lcs, rest, rfl, hc.2⟩
    · cases h
  · rename_i len lcs rest hne
    split at h
    · rename_i hc
      obtain ⟨t, c, d⟩ := x
      obtain ⟨dcs, hr, _⟩ := body_some h
      have hl := hc.2
      rw [hr] at hl
      simp at hl
      exact Or.inr ⟨len, lcs, rest, rfl, hc.2, hc.1, by omega⟩
    · cases h
  · cases h

theorem take_drop_append_left (rest r : Bytes) (n : Nat) (h : rest.length = n) : (rest ++ r).take n = rest ∧ (rest ++ r).drop n = r := by
  subst h
  simp

theorem parse_prefix_none {f g u : Bytes} {x : Nat × Nat × Bytes} (h : Spec.parse f = some x) (hfg : f = g ++ u) (hu : u ≠ []) :
    Spec.parse g = none := by
  cases hg : Spec.parse g with
  | none => rfl
  | some y =>
    exfalso
    have hul : 0 < u.length := by
      cases u with
      | nil => exact absurd rfl hu
      | cons a t => simp
    rcases parse_shape h with ⟨lm, ll, lcs, rest, rfl, hlen⟩ | ⟨len, lcs, rest, rfl, hlen, hsum, h2⟩ <;>
    rcases parse_shape hg with ⟨lm', ll', lcs', rest', rfl, hlen'⟩ | ⟨len', lcs', rest', rfl, hlen', hsum', h2'⟩
    · simp at hfg
      obtain ⟨rfl, rfl, rfl, rfl⟩ := hfg
      simp at hlen; omega
    · simp at hfg
      obtain ⟨rfl, rfl, _⟩ := hfg
      simp at hsum'
    · simp at hfg
      obtain ⟨rfl, rfl, _⟩ := hfg
      simp at hsum
    · simp at hfg
      obtain ⟨rfl, rfl, rfl⟩ := hfg
      simp at hlen; omega

theorem parse_min_length {g : Bytes} {x : Nat × Nat × Bytes} (h : Spec.parse g = some x) : 9 ≤ g.length := by
  rcases parse_shape h with ⟨lm, ll, lcs, rest, rfl, hlen⟩ | ⟨len, lcs, rest, rfl, hlen, hsum, h2⟩ <;> simp <;> omega

/-- a valid normal frame with LEN = 0xFF: TFI D5, code 01, 253 zero octets -/
def frame255 : Bytes := [0, 0, 255, 255, 1, 0xD5, 1] ++ List.replicate 253 0 ++ [42, 0]

end NfcVerif.FnBridge.Transport
