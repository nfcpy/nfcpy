import NfcVerif.Lemmas.SapSpec
/-!
# C17: a datagram from `sendto` to `recvfrom`

Every UI PDU waiting in the send queue of a logical-data-link socket carries that socket's own
address as SSAP (`SrcOk`, kept by every operation: `OpOk.src`).  Together with `collect` taking PDUs
unchanged from a queue and `dispatch` appending the very PDU it is given, this makes the source
address intact from `sendto` to `recvfrom`.
-/
namespace NfcVerif.Sap
open NfcVerif

theorem run_src : ∀ (ops : List Op) {p : Pair}, (∀ z j, SrcOk ((p.get z).sock j)) →
    ∀ z j, SrcOk (((run p ops).get z).sock j)
  | [], _, hp => hp
  | op :: t, p, hp => by
    unfold run
    split
    · rename_i p1 r h
      exact run_src t fun z j => (opOk_applyOp (r := (p1, r)) (apply_wf h).1).src z j (hp z j)
    · exact hp

theorem reach_src (ops : List Op) (x : Side) (j : Nat) : SrcOk (((run Pair.init ops).get x).sock j) :=
  run_src ops (fun z j _ d sa m hm => by cases z <;> cases hm) x j

theorem sockDequeue_head {s s' : Sock} {q : Pdu} (h : sockDequeue s = some (q, s')) :
    ∃ rest, s.sendq = q :: rest := by
  unfold sockDequeue at h
  split at h
  · cases h
  · rename_i q' rest hq
    refine ⟨rest, ?_⟩
    repeat' split at h
    all_goals (cases h; exact hq)

/-- `collect` takes the PDU unchanged from the head of a socket's send queue, or
(SAP send list, service discovery) leaves all sockets alone -/
theorem collectFrom_origin {c c' : Llc} {q : Pdu} {l : List Nat} (h : collectFrom c l = some (q, c')) :
    (∃ j rest, (c.sock j).sendq = q :: rest) ∨ c'.sock = c.sock := by
  rcases collectFrom_cases h with ⟨j, s', hq, rfl⟩ | ⟨a, e, e', _, _, rfl⟩ | ⟨sd, rfl⟩
  · exact .inl ⟨j, sockDequeue_head hq⟩
  · exact .inr rfl
  · exact .inr rfl

theorem xfer_parts {p p' : Pair} {x : Side} (h : xfer p x = .ok (p', true)) :
    ∃ q cx, collect (p.get x) = some (q, cx) ∧ dispatch (p.get (!x)) q = .ok (p'.get (!x)) ∧
      p'.get x = cx ∧ p'.wire = (x, q) :: p.wire := by
  unfold xfer at h
  split at h
  · cases h
  · rename_i q cx hc
    simp only [Py.bind_eq_ok] at h
    obtain ⟨cy, hd, h⟩ := h
    cases h
    rw [get_set_other] at hd
    refine ⟨q, cx, hc, ?_, ?_, rfl⟩
    · cases x <;> simpa [Pair.get, Pair.set] using hd
    · cases x <;> simp [Pair.get, Pair.set]

theorem xfer_ui {p p' : Pair} {x : Side} {d s : Nat} {m : Bytes} (hi : Inv (p.get (!x)))
    (hsrc : ∀ j, SrcOk ((p.get x).sock j)) (h : xfer p x = .ok (p', true))
    (hw : p'.wire.head? = some (x, .ui d s m)) :
    ((∃ j rest, ((p.get x).sock j).sendq = .ui d s m :: rest ∧
        (((p.get x).sock j).kind = .ldl → ((p.get x).sock j).addr = some s)) ∨
      (p'.get x).sock = (p.get x).sock) ∧
    (∀ k, (p'.get (!x)).sock k ≠ (p.get (!x)).sock k →
      ((p.get (!x)).sock k).addr = some d ∧
      (((p.get (!x)).sock k).kind ≠ .dlc →
        (p'.get (!x)).sock k = { (p.get (!x)).sock k with recvq := ((p.get (!x)).sock k).recvq ++ [.ui d s m] })) := by
  obtain ⟨q, cx, hc, hd, hx, hwire⟩ := xfer_parts h
  rw [hwire] at hw
  simp only [List.head?_cons, Option.some.injEq, Prod.mk.injEq, true_and] at hw
  subst hw
  constructor
  · rcases collectFrom_origin hc with ⟨j, rest, hj⟩ | hs
    · exact .inl ⟨j, rest, hj, fun hl => hsrc j hl d s m (by rw [hj]; simp)⟩
    · exact .inr (by rw [hx]; exact hs)
  · exact fun k hk => ui_delivery hi hd hk

/-- End to end: a UI PDU that crosses the link was taken unchanged from a send queue
of the sender; when that socket is a logical-data-link socket the source address in
the PDU is the address the socket is bound to; at the receiver only a socket bound at
the destination address changes, and a raw/logical-data-link socket gets exactly this
PDU (same payload, same length, same source) appended to its receive queue. -/
theorem datagram_end_to_end (ops : List Op) (x : Side) (p' : Pair) (d s : Nat) (m : Bytes)
    (h : xfer (run Pair.init ops) x = .ok (p', true))
    (hw : p'.wire.head? = some (x, .ui d s m)) :
    ((∃ j rest, (((run Pair.init ops).get x).sock j).sendq = .ui d s m :: rest ∧
        ((((run Pair.init ops).get x).sock j).kind = .ldl →
          (((run Pair.init ops).get x).sock j).addr = some s)) ∨
      (p'.get x).sock = ((run Pair.init ops).get x).sock) ∧
    (∀ k, (p'.get (!x)).sock k ≠ ((run Pair.init ops).get (!x)).sock k →
      (((run Pair.init ops).get (!x)).sock k).addr = some d ∧
      ((((run Pair.init ops).get (!x)).sock k).kind ≠ .dlc →
        (p'.get (!x)).sock k = { ((run Pair.init ops).get (!x)).sock k with
          recvq := (((run Pair.init ops).get (!x)).sock k).recvq ++ [.ui d s m] })) :=
  xfer_ui ((reach_inv ops).get (!x)) (reach_src ops x) h hw

/-- `recvfrom` hands the application the payload and the source of the PDU at the
head of the queue -/
theorem recvfrom_returns (p : Pair) (x : Side) (id a d s : Nat) (m : Bytes) (rest : List Pdu) (e : SapEntry)
    (hk : ((p.get x).sock id).kind = .ldl) (ha : ((p.get x).sock id).addr = some a) (ha0 : a ≠ 0)
    (hs : (p.get x).sap a = some e) (hst : ((p.get x).sock id).st ≠ .shutdown)
    (hq : ((p.get x).sock id).recvq = .ui d s m :: rest) :
    ∃ p', apiRecvfrom p x id = .ok (p', .ok (.data (some m) (some s))) := by
  unfold apiRecvfrom
  simp only [ha, badFd, hs, hk, hst, popOrPump, hq]
  simp [ha0, done]
end NfcVerif.Sap
