import NfcVerif.Model.AuthHist
import NfcVerif.Lemmas.Auth
/-!
# Histories: every call is decided by what arrives during that call

Step lemmas for the methods of `Model/AuthHist.lean`, for EVERY air interface (any card, any
attacker, any state) and EVERY state of the tag object, hence for every point of every history.
A method body that returned is taken apart link by link (`lift_bind_ok`, `sendRecv_bind_ok`); a
history is a `scan` of `step`, so call number `k` is `step` in the state the first `k` calls left (`run_at`).
-/
namespace NfcVerif.AuthHist
open NfcVerif NfcVerif.Mac NfcVerif.Auth NfcVerif.AuthCard RW

variable {σ α β : Type}

/-- `run`, `AuthNdef.nrun` and `TagCache.crun` are this recursion over a list of calls -/
def scan {ο ς ρ : Type} (f : ο → ς → ρ × ς) : List ο → ς → List ρ × ς
  | [], s => ([], s)
  | o :: os, s => ((f o s).1 :: (scan f os (f o s).2).1, (scan f os (f o s).2).2)

section scan
variable {ο ς ρ : Type} (f : ο → ς → ρ × ς)

theorem scan_append (os1 os2 : List ο) (s : ς) :
    scan f (os1 ++ os2) s = ((scan f os1 s).1 ++ (scan f os2 (scan f os1 s).2).1, (scan f os2 (scan f os1 s).2).2) := by
  induction os1 generalizing s with
  | nil => rfl
  | cons o os ih => simp only [List.cons_append, scan, ih]

theorem scan_length (os : List ο) (s : ς) : (scan f os s).1.length = os.length := by
  induction os generalizing s with
  | nil => rfl
  | cons o os ih => simp [scan, ih]

theorem scan_result_at (pre post : List ο) (o : ο) (s : ς) :
    (scan f (pre ++ o :: post) s).1[pre.length]? = some (f o (scan f pre s).2).1 := by
  rw [scan_append, scan]
  simp only
  rw [List.getElem?_append_right (by rw [scan_length]; exact Nat.le_refl _), scan_length, Nat.sub_self]
  rfl

theorem scan_append_state (os1 os2 : List ο) (s : ς) : (scan f (os1 ++ os2) s).2 = (scan f os2 (scan f os1 s).2).2 := by
  rw [scan_append]

theorem scan_state_snoc (pre : List ο) (o : ο) (s : ς) : (scan f (pre ++ [o]) s).2 = (f o (scan f pre s).2).2 := by
  rw [scan_append]
  rfl

variable {f}

theorem scan_at {pre post : List ο} {o : ο} {s : ς} {r : ρ} (h : (scan f (pre ++ o :: post) s).1[pre.length]? = some r) :
    f o (scan f pre s).2 = (r, (scan f (pre ++ [o]) s).2) := by
  rw [scan_result_at] at h
  rw [scan_state_snoc, ← Option.some.inj h]

end scan

theorem bind_apply (m : RW σ α) (f : α → RW σ β) (s : St σ) :
    (m >>= f) s = match m s with
      | (.ok a, s') => f a s'
      | (.error e, s') => (.error e, s') := rfl

theorem pure_apply (a : α) (s : St σ) : (pure a : RW σ α) s = (.ok a, s) := rfl

theorem bind_ok {m : RW σ α} {f : α → RW σ β} {s s'' : St σ} {b : β} :
    (m >>= f) s = (.ok b, s'') ↔ ∃ a s', m s = (.ok a, s') ∧ f a s' = (.ok b, s'') := by
  rw [bind_apply]
  rcases h : m s with ⟨r, s'⟩
  cases r with
  | error e => simp
  | ok a =>
    constructor
    · intro h2; exact ⟨a, s', rfl, h2⟩
    · rintro ⟨a', s1, h1, h2⟩
      injection h1 with h1 h3
      injection h1 with h1
      subst h1 h3
      exact h2

theorem bind_of_ok {m : RW σ α} {f : α → RW σ β} {s s' : St σ} {a : α} (h : m s = (.ok a, s')) :
    (m >>= f) s = f a s' := by
  rw [bind_apply, h]

theorem bind_of_error {m : RW σ α} {f : α → RW σ β} {s s' : St σ} {e : Exc} (h : m s = (.error e, s')) :
    (m >>= f) s = (.error e, s') := by
  rw [bind_apply, h]

theorem lift_apply (x : Py α) (s : St σ) : (lift x : RW σ α) s = (x, s) := rfl

theorem lift_ok {x : Py α} {s s' : St σ} {a : α} : (lift x : RW σ α) s = (.ok a, s') ↔ x = .ok a ∧ s = s' := by
  unfold lift
  constructor
  · intro h; injection h with h1 h2; exact ⟨h1, h2⟩
  · rintro ⟨rfl, rfl⟩; rfl

theorem pure_ok {a b : α} {s s' : St σ} : (pure a : RW σ α) s = (.ok b, s') ↔ a = b ∧ s = s' := by
  rw [pure_apply]
  constructor
  · intro h; injection h with h1 h2; injection h1 with h1; exact ⟨h1, h2⟩
  · rintro ⟨rfl, rfl⟩; rfl

theorem bind_pure_ok {m : RW σ α} {g : α → β} {s s' : St σ} {r : β}
    (h : (m >>= fun a => pure (g a)) s = (.ok r, s')) : ∃ a, m s = (.ok a, s') ∧ g a = r := by
  obtain ⟨a, s1, h1, k1⟩ := bind_ok.mp h
  obtain ⟨hg, rfl⟩ := pure_ok.mp k1
  exact ⟨a, h1, hg⟩

/-- transcript entries of unanswered attempts of one command -/
def Lost (cmd : Bytes) (l : List (Bytes × Option Bytes)) : Prop := ∀ e ∈ l, e = (cmd, none)

theorem exch_eq (x : Air σ) (cmd : Bytes) (s : St σ) :
    exch x cmd s = (.ok (x s.w cmd).1, { s with w := (x s.w cmd).2, tr := s.tr ++ [(cmd, (x s.w cmd).1)] }) := rfl

/-- one attempt of the retry loop of `send_cmd_recv_rsp`: the answer, or `rest` when nothing arrives;
`sendRecv` is three of them around the timeout error, and what holds of it is shown attempt by attempt -/
def attempt (x : Air σ) (cmd : Bytes) (rest : RW σ Bytes) : RW σ Bytes :=
  exch x cmd >>= fun r =>
  match r with
  | some r => pure r
  | none => rest

theorem sendRecv_eq (x : Air σ) (cmd : Bytes) :
    sendRecv x cmd = attempt x cmd (attempt x cmd (attempt x cmd (lift (.error (.tagCmd 0))))) := rfl

/-- `m` answers only after fewer than `k` unanswered attempts, and leaves the tag object alone -/
def AnswersWithin (k : Nat) (cmd : Bytes) (m : RW σ Bytes) : Prop :=
  ∀ s r s', m s = (.ok r, s') →
    s'.rd = s.rd ∧ ∃ pre, s'.tr = s.tr ++ pre ++ [(cmd, some r)] ∧ Lost cmd pre ∧ pre.length + 1 ≤ k

theorem AnswersWithin.attempt {x : Air σ} {cmd : Bytes} {rest : RW σ Bytes} {k : Nat} (h : AnswersWithin k cmd rest) :
    AnswersWithin (k + 1) cmd (attempt x cmd rest) := by
  intro s r s' hs
  obtain ⟨r1, s1, h1, hs⟩ := bind_ok.mp hs
  rw [exch_eq] at h1
  injection h1 with h1 hs1
  injection h1 with h1
  subst hs1
  cases r1 with
  | some a =>
    obtain ⟨rfl, rfl⟩ := pure_ok.mp hs
    refine ⟨rfl, [], ?_, ?_, Nat.le_add_left 1 k⟩
    · simp [h1]
    · intro e he; cases he
  | none =>
    obtain ⟨hrd, pre, htr, hlost, hlen⟩ := h _ r s' hs
    refine ⟨hrd, (cmd, none) :: pre, ?_, ?_, Nat.succ_le_succ hlen⟩
    · simp [htr, h1]
    · intro e he
      rcases List.mem_cons.mp he with rfl | he
      · rfl
      · exact hlost e he

/-- the exchanges of one answered command appended to a transcript -/
def Answered (cmd rsp : Bytes) (t t' : List (Bytes × Option Bytes)) : Prop :=
  ∃ pre, t' = t ++ pre ++ [(cmd, some rsp)] ∧ Lost cmd pre ∧ pre.length ≤ 2

/-- commands answered one after the other -/
def Answers : List (Bytes × Bytes) → List (Bytes × Option Bytes) → List (Bytes × Option Bytes) → Prop
  | [], t, t' => t' = t
  | (c, r) :: rest, t, t' => ∃ t1, Answered c r t t1 ∧ Answers rest t1 t'

/-- a command that got an answer: at most two unanswered attempts, then the answered one; the
attributes of the tag object are untouched -/
theorem sendRecv_ok {x : Air σ} {cmd r : Bytes} {s s' : St σ} (h : sendRecv x cmd s = (.ok r, s')) :
    s'.rd = s.rd ∧ Answered cmd r s.tr s'.tr := by
  have h0 : AnswersWithin 0 cmd (lift (.error (.tagCmd 0)) : RW σ Bytes) := by
    intro s r s' hs
    cases (lift_ok.mp hs).1
  rw [sendRecv_eq] at h
  obtain ⟨hrd, pre, htr, hlost, hlen⟩ := h0.attempt.attempt.attempt s r s' h
  exact ⟨hrd, pre, htr, hlost, by omega⟩

theorem setAuthed_apply (b : Bool) (s : St σ) :
    (setAuthed b : RW σ Unit) s = (.ok (), { s with rd := { s.rd with authed := b } }) := rfl

theorem setSess_apply (v : Option Session) (s : St σ) :
    (setSess v : RW σ Unit) s = (.ok (), { s with rd := { s.rd with sess := v } }) := rfl

theorem getRd_apply (s : St σ) : (getRd : RW σ Reader) s = (.ok s.rd, s) := rfl

theorem lift_bind_ok {v : Py α} {f : α → RW σ β} {s s' : St σ} {b : β} (h : (lift v >>= f) s = (.ok b, s')) :
    ∃ a, v = .ok a ∧ f a s = (.ok b, s') := by
  obtain ⟨a, s1, h1, k⟩ := bind_ok.mp h
  obtain ⟨hv, rfl⟩ := lift_ok.mp h1
  exact ⟨a, hv, k⟩

theorem sendRecv_bind_ok {x : Air σ} {cmd : Bytes} {f : Bytes → RW σ β} {s s' : St σ} {b : β}
    (h : (sendRecv x cmd >>= f) s = (.ok b, s')) :
    ∃ r s1, s1.rd = s.rd ∧ Answered cmd r s.tr s1.tr ∧ f r s1 = (.ok b, s') := by
  obtain ⟨r, s1, h1, k⟩ := bind_ok.mp h
  exact ⟨r, s1, (sendRecv_ok h1).1, (sendRecv_ok h1).2, k⟩

section
variable (C : Cipher) (forget : Bool) (x : Air σ) (idm : Bytes)

/-- `authenticate(pw)` (FeliCa Lite) returned True, in whatever state the tag object and the world
were: the challenge of THIS call went to the card, the two answers that arrived in THIS call
satisfy the pure verdict function for THIS challenge, and the session stored is the one derived
from this challenge - nothing of an earlier call enters. -/
theorem authLite_true {pw rc : Bytes} {s s' : St σ}
    (h : authLite C forget x idm pw rc s = (.ok true, s')) :
    ∃ c1 c2 rsp1 rsp2 sess t1,
      liteChallengeCmd idm rc = .ok c1 ∧ readCmd idm [0x82, 0x81] = .ok c2 ∧
      Answered c1 rsp1 s.tr t1 ∧ Answered c2 rsp2 t1 s'.tr ∧
      liteAuthenticate C idm pw rc rsp1 rsp2 = .ok (true, sess) ∧ s'.rd = ⟨sess, true⟩ := by
  unfold authLite at h
  obtain ⟨key, hkey, h⟩ := lift_bind_ok h
  rw [bind_of_ok (setAuthed_apply false s)] at h
  obtain ⟨_, s3, h3, h⟩ := bind_ok.mp h
  have hs3 : s3.tr = s.tr := by
    cases forget
    · obtain ⟨_, rfl⟩ := pure_ok.mp h3; rfl
    · simp only [if_true] at h3; rw [setSess_apply] at h3; injection h3 with _ h3; rw [← h3]
  obtain ⟨c1, hc1, h⟩ := lift_bind_ok h
  obtain ⟨rsp1, s5, _, ha1, h⟩ := sendRecv_bind_ok h
  obtain ⟨_, _, h⟩ := lift_bind_ok h
  obtain ⟨_, _, h⟩ := lift_bind_ok h
  obtain ⟨c2, hc2, h⟩ := lift_bind_ok h
  obtain ⟨rsp2, s9, _, ha2, h⟩ := sendRecv_bind_ok h
  obtain ⟨r, hr, h⟩ := lift_bind_ok h
  rw [hs3] at ha1
  cases hr1 : r.1 with
  | false =>
    simp only [hr1, Bool.false_eq_true, if_false] at h
    cases (pure_ok.mp h).1
  | true =>
    rw [hr1, if_pos rfl, bind_of_ok (setSess_apply _ _), bind_of_ok (setAuthed_apply _ _)] at h
    obtain ⟨_, rfl⟩ := pure_ok.mp h
    exact ⟨c1, c2, rsp1, rsp2, r.2, s5.tr, hc1, hc2, ha1, ha2, by rw [hr, ← hr1], rfl⟩

/-- `read_with_mac(*blocks)` returned data: ONE command (repeated at most twice when nothing
arrived) asked for all the blocks and the MAC block, and the pure verification function accepted
the frame that arrived under the session stored in the tag object. -/
theorem readMac_some {blocks : List Nat} {d : Bytes} {s s' : St σ}
    (h : readMac C x idm blocks s = (.ok (some d), s')) :
    ∃ sess c rsp, s.rd.sess = some sess ∧ readCmd idm (blocks ++ [0x81]) = .ok c ∧ Answered c rsp s.tr s'.tr
      ∧ readWithMac C idm (some sess) blocks rsp = .ok (some d) ∧ s'.rd = s.rd := by
  unfold readMac at h
  rw [bind_of_ok (getRd_apply s)] at h
  cases hsess : s.rd.sess with
  | none =>
    rw [hsess] at h
    cases (lift_ok.mp h).1
  | some sess =>
    rw [hsess] at h
    obtain ⟨c, hc, h⟩ := lift_bind_ok h
    obtain ⟨rsp, s3, hrd, ha, h⟩ := sendRecv_bind_ok h
    obtain ⟨hv, rfl⟩ := lift_ok.mp h
    exact ⟨sess, c, rsp, rfl, hc, ha, hv, hrd⟩

/-- without a session (`_sk`/`_iv` are `None`) `read_with_mac` raises RuntimeError and sends nothing -/
theorem readMac_no_session {blocks : List Nat} {s : St σ} (h : s.rd.sess = none) :
    readMac C x idm blocks s = (.error .runtime, s) := by
  unfold readMac
  rw [bind_apply, getRd_apply]
  simp only [h]
  rfl

/-- `write_with_mac(data, block)` completed: WCNT was read from the card IN THIS CALL (`rspW` is
the answer to the read of block 90h that precedes the write) and the write command is the pure
function of that answer - no counter kept in the tag object enters MAC_A. -/
theorem writeMac_ok {data : Bytes} {block : Nat} {s s' : St σ}
    (h : writeMac C x idm data block s = (.ok (), s')) :
    ∃ sess c0 rspW c rsp t1, s.rd.sess = some sess ∧ readCmd idm [0x90] = .ok c0 ∧ Answered c0 rspW s.tr t1
      ∧ writeWithMacCmd C idm (some sess) data block rspW = .ok c ∧ Answered c rsp t1 s'.tr
      ∧ writeRsp idm rsp = .ok () ∧ s'.rd = s.rd := by
  unfold writeMac at h
  by_cases hd : data.length ≠ 16
  · rw [if_pos hd] at h
    cases (lift_ok.mp h).1
  · rw [if_neg hd, bind_of_ok (getRd_apply s)] at h
    cases hsess : s.rd.sess with
    | none =>
      rw [hsess] at h
      cases (lift_ok.mp h).1
    | some sess =>
      rw [hsess] at h
      obtain ⟨c0, hc0, h⟩ := lift_bind_ok h
      obtain ⟨rspW, s3, hrd3, ha3, h⟩ := sendRecv_bind_ok h
      obtain ⟨c, hc, h⟩ := lift_bind_ok h
      obtain ⟨rsp, s5, hrd5, ha5, h⟩ := sendRecv_bind_ok h
      obtain ⟨hw, rfl⟩ := lift_ok.mp h
      exact ⟨sess, c0, rspW, c, rsp, s3.tr, rfl, hc0, ha3, hc, ha5, hw, by rw [hrd5, hrd3]⟩

/-- the external half of `FelicaLiteS.authenticate` returned True; block 90h is WCNT, 92h STATE, 81h the MAC -/
theorem extAuthS_true {s s' : St σ} (h : extAuthS C x idm s = (.ok true, s')) :
    ∃ sess c3 c4 c5 rsp3 rsp4 rsp5 d, s.rd.sess = some sess ∧ readCmd idm [0x90] = .ok c3
      ∧ writeWithMacCmd C idm (some sess) ([1] ++ zeros 15) 0x92 rsp3 = .ok c4 ∧ readCmd idm [0x92, 0x81] = .ok c5
      ∧ Answers [(c3, rsp3), (c4, rsp4), (c5, rsp5)] s.tr s'.tr ∧ writeRsp idm rsp4 = .ok ()
      ∧ readWithMac C idm (some sess) [0x92] rsp5 = .ok (some d) ∧ idx d 0 = .ok 1 ∧ s'.rd = ⟨s.rd.sess, true⟩ := by
  unfold extAuthS at h
  rw [bind_of_ok (setAuthed_apply false s)] at h
  obtain ⟨_, s3, h3, h⟩ := bind_ok.mp h
  obtain ⟨sess, c3, rsp3, c4, rsp4, t3, hsess, hc3, ha3, hc4, ha4, hw4, hrd3⟩ := writeMac_ok C x idm h3
  obtain ⟨st, s4, h4, h⟩ := bind_ok.mp h
  cases st with
  | none => cases (pure_ok.mp h).1
  | some d =>
    obtain ⟨sess', c5, rsp5, hsess5, hc5, ha5, hv5, hrd4⟩ := readMac_some C x idm h4
    rw [hrd3] at hsess5
    cases hsess.symm.trans hsess5
    obtain ⟨b, hb, h⟩ := lift_bind_ok h
    by_cases hb1 : b = 1
    · rw [if_pos hb1, bind_of_ok (setAuthed_apply _ _)] at h
      obtain ⟨_, rfl⟩ := pure_ok.mp h
      subst hb1
      exact ⟨sess, c3, c4, c5, rsp3, rsp4, rsp5, d, hsess, hc3, hc4, hc5, ⟨t3, ha3, _, ha4, _, ha5, rfl⟩, hw4, hv5, hb,
        by simp only [hrd4, hrd3]⟩
    · rw [if_neg hb1] at h
      cases (pure_ok.mp h).1

/-- `FelicaLiteS.authenticate(pw)` returned True, whatever happened before: five commands were
answered in this call - the challenge of THIS call, the ID read, the WCNT read, the MAC'ed STATE
write whose MAC_A is computed from the WCNT answer of this call, the MAC'ed STATE read - and the
pure verdict function of these five answers is True. -/
theorem authLiteS_true {pw rc : Bytes} {s s' : St σ}
    (h : authLiteS C forget x idm pw rc s = (.ok true, s')) :
    ∃ c1 c2 c3 c4 c5 rsp1 rsp2 rsp3 rsp4 rsp5 sess,
      liteChallengeCmd idm rc = .ok c1 ∧ readCmd idm [0x82, 0x81] = .ok c2 ∧ readCmd idm [0x90] = .ok c3
      ∧ writeWithMacCmd C idm sess ([1] ++ zeros 15) 0x92 rsp3 = .ok c4 ∧ readCmd idm [0x92, 0x81] = .ok c5
      ∧ Answers [(c1, rsp1), (c2, rsp2), (c3, rsp3), (c4, rsp4), (c5, rsp5)] s.tr s'.tr
      ∧ liteAuthenticate C idm pw rc rsp1 rsp2 = .ok (true, sess)
      ∧ liteSAuthenticate C idm pw rc rsp1 rsp2 rsp3 rsp4 rsp5 = .ok true
      ∧ s'.rd = ⟨sess, true⟩ := by
  unfold authLiteS at h
  obtain ⟨ok, s1, h1, h⟩ := bind_ok.mp h
  cases ok with
  | false =>
    simp only [Bool.not_false, if_true] at h
    cases (pure_ok.mp h).1
  | true =>
    simp only [Bool.not_true, Bool.false_eq_true, if_false] at h
    obtain ⟨c1, c2, rsp1, rsp2, sess, t1, hc1, hc2, ha1, ha2, hla, hrd1⟩ := authLite_true C forget x idm h1
    obtain ⟨sess', c3, c4, c5, rsp3, rsp4, rsp5, d, hsess, hc3, hc4, hc5, hans, hw4, hv5, hb, hrd⟩ := extAuthS_true C x idm h
    rw [hrd1] at hsess hrd
    have hsess : sess = some sess' := hsess
    subst hsess
    refine ⟨c1, c2, c3, c4, c5, rsp1, rsp2, rsp3, rsp4, rsp5, some sess', hc1, hc2, hc3, hc4, hc5, ⟨t1, ha1, _, ha2, hans⟩,
      hla, ?_, hrd⟩
    simp only [liteSAuthenticate, hla, Py.bind_ok, Bool.true_eq_false, if_false, hc4, hw4, hv5, hb]
    rfl

theorem run_nil (liteS : Bool) (s : St σ) : run C forget x idm liteS [] s = ([], s) := rfl

theorem run_cons (liteS : Bool) (op : Op σ) (ops : List (Op σ)) (s : St σ) :
    run C forget x idm liteS (op :: ops) s =
      ((step C forget x idm liteS op s).1 :: (run C forget x idm liteS ops (step C forget x idm liteS op s).2).1,
       (run C forget x idm liteS ops (step C forget x idm liteS op s).2).2) := rfl

theorem run_eq_scan (liteS : Bool) (ops : List (Op σ)) (s : St σ) :
    run C forget x idm liteS ops s = scan (step C forget x idm liteS) ops s := by
  induction ops generalizing s with
  | nil => rfl
  | cons op ops ih => rw [run_cons, ih]; rfl

theorem run_at {liteS : Bool} {pre post : List (Op σ)} {op : Op σ} {s : St σ} {r : Py Res}
    (h : (run C forget x idm liteS (pre ++ op :: post) s).1[pre.length]? = some r) :
    step C forget x idm liteS op (run C forget x idm liteS pre s).2 = (r, (run C forget x idm liteS (pre ++ [op]) s).2) := by
  simp only [run_eq_scan] at h ⊢
  exact scan_at h

/-! ## nothing of the tag object's past enters an authentication -/

/-- same world and transcript, possibly different attributes of the tag object -/
def SameW (s1 s2 : St σ) : Prop := s1.w = s2.w ∧ s1.tr = s2.tr

/-- a method body that never looks at the attributes of the tag object -/
def Blind (m : RW σ α) : Prop := ∀ s1 s2, SameW s1 s2 → (m s1).1 = (m s2).1 ∧ SameW (m s1).2 (m s2).2

theorem Blind.bind {m : RW σ α} {f : α → RW σ β} (hm : Blind m) (hf : ∀ a, Blind (f a)) : Blind (m >>= f) := by
  intro s1 s2 h
  obtain ⟨h1, h2⟩ := hm s1 s2 h
  rw [bind_apply, bind_apply]
  rcases e1 : m s1 with ⟨r1, t1⟩
  rcases e2 : m s2 with ⟨r2, t2⟩
  rw [e1, e2] at h1 h2
  simp only at h1 h2
  subst h1
  cases r1 with
  | error e => exact ⟨rfl, h2⟩
  | ok a => exact hf a t1 t2 h2

theorem Blind.lift (v : Py α) : Blind (lift v : RW σ α) := fun _ _ h => ⟨rfl, h⟩
theorem Blind.pure (a : α) : Blind (pure a : RW σ α) := fun _ _ h => ⟨rfl, h⟩
theorem Blind.setAuthed (b : Bool) : Blind (setAuthed b : RW σ Unit) := fun _ _ h => ⟨rfl, h⟩
theorem Blind.setSess (v : Option Session) : Blind (setSess v : RW σ Unit) := fun _ _ h => ⟨rfl, h⟩
theorem Blind.ite {c : Prop} [Decidable c] {m1 m2 : RW σ α} (h1 : Blind m1) (h2 : Blind m2) :
    Blind (if c then m1 else m2) := by split <;> assumption

theorem Blind.exch (cmd : Bytes) : Blind (exch x cmd) := by
  intro s1 s2 h
  simp only [exch_eq, SameW]
  rw [h.1, h.2]
  exact ⟨rfl, rfl, rfl⟩

theorem Blind.attempt (cmd : Bytes) {rest : RW σ Bytes} (h : Blind rest) : Blind (attempt x cmd rest) :=
  Blind.bind (Blind.exch x cmd) (fun r => by
    cases r with
    | some r => exact Blind.pure r
    | none => exact h)

theorem Blind.sendRecv (cmd : Bytes) : Blind (sendRecv x cmd) := by
  rw [sendRecv_eq]
  exact Blind.attempt x cmd (Blind.attempt x cmd (Blind.attempt x cmd (Blind.lift _)))

/-- `FelicaLite.authenticate` never reads `_sk`, `_iv` or `_authenticated`: verdict, exchanges
and the effect on the world are the same in every state of the tag object -/
theorem authLite_blind (pw rc : Bytes) : Blind (authLite C forget x idm pw rc) := by
  unfold authLite
  refine Blind.bind (Blind.lift _) (fun key => ?_)
  refine Blind.bind (Blind.setAuthed _) (fun _ => ?_)
  refine Blind.bind (Blind.ite (Blind.setSess _) (Blind.pure _)) (fun _ => ?_)
  refine Blind.bind (Blind.lift _) (fun c1 => ?_)
  refine Blind.bind (Blind.sendRecv x c1) (fun rsp1 => ?_)
  refine Blind.bind (Blind.lift _) (fun _ => ?_)
  refine Blind.bind (Blind.lift _) (fun _ => ?_)
  refine Blind.bind (Blind.lift _) (fun c2 => ?_)
  refine Blind.bind (Blind.sendRecv x c2) (fun rsp2 => ?_)
  refine Blind.bind (Blind.lift _) (fun r => ?_)
  exact Blind.ite (Blind.bind (Blind.setSess _) (fun _ => Blind.bind (Blind.setAuthed _) (fun _ => Blind.pure _))) (Blind.pure _)

/-! ## what a failed authentication leaves behind -/

/-- either the call returned True or the attributes of the tag object are as before -/
def Tail (m : RW σ Bool) : Prop := ∀ s, (m s).1 = .ok true ∨ (m s).2.rd = s.rd

def KeepsRd (m : RW σ α) : Prop := ∀ s, (m s).2.rd = s.rd

theorem KeepsRd.lift (v : Py α) : KeepsRd (lift v : RW σ α) := fun _ => rfl

theorem KeepsRd.exch (cmd : Bytes) : KeepsRd (exch x cmd) := fun _ => rfl

theorem KeepsRd.pure (a : α) : KeepsRd (pure a : RW σ α) := fun _ => rfl

theorem KeepsRd.bind {m : RW σ α} {f : α → RW σ β} (hm : KeepsRd m) (hf : ∀ a, KeepsRd (f a)) : KeepsRd (m >>= f) := by
  intro s
  rw [bind_apply]
  have h1 := hm s
  rcases e1 : m s with ⟨r1, t1⟩
  rw [e1] at h1
  cases r1 with
  | error e => exact h1
  | ok a => exact (hf a t1).trans h1

theorem KeepsRd.attempt (cmd : Bytes) {rest : RW σ Bytes} (h : KeepsRd rest) : KeepsRd (attempt x cmd rest) :=
  KeepsRd.bind (KeepsRd.exch x cmd) (fun r => by
    cases r with
    | some r => exact KeepsRd.pure r
    | none => exact h)

theorem KeepsRd.sendRecv (cmd : Bytes) : KeepsRd (sendRecv x cmd) := by
  rw [sendRecv_eq]
  exact KeepsRd.attempt x cmd (KeepsRd.attempt x cmd (KeepsRd.attempt x cmd (KeepsRd.lift _)))

theorem KeepsRd.getRd : KeepsRd (getRd : RW σ Reader) := fun _ => rfl

theorem KeepsRd.readPlain (blocks : List Nat) : KeepsRd (readPlain x idm blocks) := by
  unfold AuthHist.readPlain
  exact KeepsRd.bind (KeepsRd.lift _) (fun c => KeepsRd.bind (KeepsRd.sendRecv x c) (fun _ => KeepsRd.lift _))

theorem KeepsRd.writePlain (data : Bytes) (b : Nat) : KeepsRd (writePlain x idm data b) := by
  unfold AuthHist.writePlain writeBlocks
  split
  · exact KeepsRd.lift _
  · exact KeepsRd.bind (KeepsRd.lift _) (fun c => KeepsRd.bind (KeepsRd.sendRecv x c) (fun _ => KeepsRd.lift _))

theorem KeepsRd.readMac (blocks : List Nat) : KeepsRd (readMac C x idm blocks) := by
  unfold AuthHist.readMac
  refine KeepsRd.bind KeepsRd.getRd (fun r => ?_)
  cases r.sess with
  | none => exact KeepsRd.lift _
  | some s => exact KeepsRd.bind (KeepsRd.lift _) (fun c => KeepsRd.bind (KeepsRd.sendRecv x c) (fun _ => KeepsRd.lift _))

theorem KeepsRd.writeMac (data : Bytes) (b : Nat) : KeepsRd (writeMac C x idm data b) := by
  unfold AuthHist.writeMac
  split
  · exact KeepsRd.lift _
  · refine KeepsRd.bind KeepsRd.getRd (fun r => ?_)
    cases r.sess with
    | none => exact KeepsRd.lift _
    | some s =>
      exact KeepsRd.bind (KeepsRd.lift _) (fun c0 => KeepsRd.bind (KeepsRd.sendRecv x c0) (fun _ =>
        KeepsRd.bind (KeepsRd.lift _) (fun c => KeepsRd.bind (KeepsRd.sendRecv x c) (fun _ => KeepsRd.lift _))))

theorem Tail.bind {m : RW σ α} {f : α → RW σ Bool} (hm : KeepsRd m) (hf : ∀ a, Tail (f a)) : Tail (m >>= f) := by
  intro s
  rw [bind_apply]
  have h1 := hm s
  rcases e1 : m s with ⟨r1, t1⟩
  rw [e1] at h1
  cases r1 with
  | error e => exact Or.inr h1
  | ok a =>
    rcases hf a t1 with h | h
    · exact Or.inl h
    · exact Or.inr (h.trans h1)

/-- the repaired code (`forget = true`): an authentication that does not return True - refused,
or ended by a `TagCommandError` - leaves NO session behind, whatever session an earlier
authentication had established; `read_with_mac` then raises RuntimeError. -/
theorem failed_auth_forgets {pw rc key : Bytes} {s : St σ} (hk : liteKey pw = .ok key)
    (h : (authLite C true x idm pw rc s).1 ≠ .ok true) :
    (authLite C true x idm pw rc s).2.rd = ⟨none, false⟩ := by
  unfold authLite at h ⊢
  rw [bind_of_ok (lift_ok.mpr ⟨hk, rfl⟩)] at h ⊢
  rw [bind_of_ok (setAuthed_apply false s)] at h ⊢
  simp only [if_true] at h ⊢
  rw [bind_of_ok (setSess_apply none _)] at h ⊢
  -- what is left of the method body keeps the tag object as it is now, or returns True
  generalize hm : (lift (liteChallengeCmd idm rc) >>= _ : RW σ Bool) = m at h ⊢
  have hT : Tail m := by
    rw [← hm]
    refine Tail.bind (KeepsRd.lift _) (fun c1 => ?_)
    refine Tail.bind (KeepsRd.sendRecv x c1) (fun rsp1 => ?_)
    refine Tail.bind (KeepsRd.lift _) (fun _ => ?_)
    refine Tail.bind (KeepsRd.lift _) (fun _ => ?_)
    refine Tail.bind (KeepsRd.lift _) (fun c2 => ?_)
    refine Tail.bind (KeepsRd.sendRecv x c2) (fun rsp2 => ?_)
    refine Tail.bind (KeepsRd.lift _) (fun r => ?_)
    intro t
    cases hr : r.1 with
    | false => exact Or.inr rfl
    | true => exact Or.inl rfl
  rcases hT _ with h1 | h1
  · exact absurd h1 h
  · rw [h1]

end

end NfcVerif.AuthHist
