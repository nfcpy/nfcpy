import NfcVerif.Lemmas.AdvT12
/-!
# C08 lemmas: the Type 2 memory reader as an instance of `MemOK` (at most 8 interactions for 16 octets, addresses
below 172100), and the Type 2 reader against every tag
-/
namespace NfcVerif.Adv

/-- the tag object `s0` at most `k` interactions later, nothing new in the cache -/
def Later2 (s0 : S2) (k : Nat) (s : S2) : Prop := s.cache = s0.cache ∧ s.w.n ≤ s0.w.n + k

theorem Later2.refl (s : S2) : Later2 s 0 s := ⟨rfl, Nat.le_refl _⟩
theorem Later2.mono {s0 s : S2} {k k' : Nat} (h : Later2 s0 k s) (hk : k ≤ k') : Later2 s0 k' s :=
  ⟨h.1, Nat.le_trans h.2 (Nat.add_le_add_left hk _)⟩

section
variable {t : Tag} {s0 s : S2} {k : Nat}

theorem trans2_step (t : Tag) (tries : Nat) (cmd : Bytes) (hJ : Later2 s0 k s) :
    Step (Later2 s0 (k + tries)) (Later2 s0 (k + tries)) (trans2 t tries cmd s) (fun r => TagBytes t → IsBytes r) := by
  unfold trans2
  split
  · exact Or.inr ⟨_, rfl, rfl, hJ.mono (Nat.le_add_right _ _)⟩
  · obtain ⟨r, w', h, -, hn, hb⟩ := trx_cases t tries cmd s.w
    have hJ' : Later2 s0 (k + tries) { s with w := w' } := ⟨hJ.1, by have := hJ.2; simp only; omega⟩
    rw [h]
    cases r with
    | some r => exact Or.inl ⟨r, rfl, hJ', hb r rfl⟩
    | none => exact Or.inr ⟨_, rfl, rfl, hJ'⟩

theorem read2_step (hT : TagBytes t) (page : Nat) (hJ : Later2 s0 k s) :
    Step (Later2 s0 (k + 4)) (Later2 s0 (k + 4)) (read2 t page s) (fun d => d.length = 16 ∧ IsBytes d) := by
  unfold read2
  rcases (trans2_step t 3 [0x30, page % 256] hJ).cases with ⟨d, s', hg, hJ', hd⟩ | ⟨e, s', hg, ht, hf⟩
  · rw [hg]
    have h4 : Later2 s0 (k + 4) s' := hJ'.mono (Nat.le_succ _)
    match d with
    | [b] =>
      simp only
      split
      · simp only [xchg]
        cases t s'.w.n <;> exact Or.inr ⟨_, rfl, rfl, hJ'.1, Nat.succ_le_succ hJ'.2⟩
      · exact Or.inr ⟨_, rfl, rfl, h4⟩
    | [] => exact Or.inr ⟨_, rfl, rfl, h4⟩
    | a :: b :: rest =>
      simp only
      split
      · exact Or.inr ⟨_, rfl, rfl, h4⟩
      · rename_i hl
        exact Or.inl ⟨_, rfl, h4, by simpa using hl, hd hT⟩
  · rw [hg]; exact Or.inr ⟨e, rfl, ht, hf.mono (Nat.le_succ _)⟩

theorem sectorSelect_step (t : Tag) (sector : Nat) (hs : sector < 256) (hJ : Later2 s0 k s) :
    Step (Later2 s0 (k + 4)) (Later2 s0 (k + 4)) (sectorSelect t sector s) (fun _ => True) := by
  unfold sectorSelect
  split
  · exact Or.inl ⟨(), rfl, hJ.mono (Nat.le_add_right _ _), trivial⟩
  · rw [if_neg (by omega)]
    rcases (trans2_step t 3 [0xC2, 0xFF] hJ).cases with ⟨rsp, s1, hg, hJ1, -⟩ | ⟨e, s1, hg, ht, hf⟩
    · rw [hg]
      simp only
      split
      · rcases (trans2_step t 1 [sector, 0, 0, 0] hJ1).cases with ⟨x, s2, hg2, hJ2, -⟩ | ⟨e, s2, hg2, ht, hf⟩
        · rw [hg2]; exact Or.inr ⟨_, rfl, rfl, hJ2⟩
        · rw [hg2]
          simp only
          split
          · exact Or.inl ⟨(), rfl, hf, trivial⟩
          · exact Or.inr ⟨e, rfl, ht, hf⟩
      · exact Or.inr ⟨_, rfl, rfl, hJ1.mono (Nat.le_succ _)⟩
    · rw [hg]; exact Or.inr ⟨e, rfl, ht, hf.mono (Nat.le_succ _)⟩

/-- the cache grows by reads of 16 octets, each paid with at most 8 interactions (SECTOR SELECT 4, READ 4).
172100 is what `walk_spec` asks of the reader (`hU` with `lo = 16` and `end_ ≤ 255 * 8 + 16`:
`5 * (2056 + 65540) + 256 * 2040 ≤ 5 * 172100`) -/
def J2 (n0 : Nat) (s : S2) : Prop :=
  s.cache.length % 16 = 0 ∧ s.w.n ≤ n0 + 8 * (s.cache.length / 16) ∧ s.cache.length ≤ 172100 + 16 ∧ IsBytes s.cache
/-- `8 * (172116 / 16)` for the cache and 8 for the read that failed, rounded up -/
def Jf2 (n0 : Nat) (s : S2) : Prop := s.w.n ≤ n0 + 86066

theorem fill2_step (hT : TagBytes t) (n0 stop : Nat) (hstop : stop ≤ 172100) :
    ∀ (fuel index : Nat) (s : S2), J2 n0 s → index = s.cache.length → stop + 16 ≤ index + 16 * fuel → 0 < fuel →
      Step (fun s' => J2 n0 s' ∧ stop ≤ s'.cache.length) (Jf2 n0) (fill2 t stop fuel index s) (fun _ => True) := by
  intro fuel
  induction fuel with
  | zero => intro index s _ _ _ h; omega
  | succ f ih =>
    intro index s hJ hi hf _
    obtain ⟨hJ1, hJ2, hJ3, hJ4⟩ := hJ
    unfold fill2
    split
    · rename_i hge
      exact Or.inl ⟨(), rfl, ⟨⟨hJ1, hJ2, hJ3, hJ4⟩, hi ▸ hge⟩, trivial⟩
    · rcases (sectorSelect_step t (index / 1024) (by omega) (Later2.refl s)).cases with ⟨u, s1, hg, hL1, -⟩ | ⟨e, s1, hg, ht, hL⟩
      · rw [hg]
        simp only
        rcases (read2_step hT (index / 4) hL1).cases with ⟨d, s2, hg2, hL2, hd⟩ | ⟨e, s2, hg2, ht, hL⟩
        · rw [hg2]
          have htake : s2.cache.take index = s.cache := by rw [hL2.1, hi]; exact List.take_length
          have hn := hL2.2
          refine ih (index + 16) { s2 with cache := s2.cache.take index ++ d }
            ⟨?_, ?_, ?_, by simp only [htake]; exact IsBytes.append hJ4 hd.2⟩ ?_ (by omega) (by omega) <;>
            simp only [htake, List.length_append, hd.1] <;> omega
        · rw [hg2]; exact Or.inr ⟨e, rfl, ht, show s2.w.n ≤ _ by have := hL.2; omega⟩
      · rw [hg]; exact Or.inr ⟨e, rfl, ht, show s1.w.n ≤ _ by have := hL.2; omega⟩
end

theorem mem2_ok {t : Tag} (hT : TagBytes t) (n0 : Nat) : MemOK (mem2 t) (J2 n0) (Jf2 n0) 172100 where
  weaken s h := by obtain ⟨h1, h2, h3, -⟩ := h; unfold Jf2; omega
  bytes s h := h.2.2.2
  ens stop s hJ hstop hlen :=
    fill2_step hT n0 stop hstop (stop + 1) (s.cache.length / 16 * 16) s hJ
      (by have := hJ.1; omega) (by have := hJ.1; simp only [mem2] at hlen; omega) (by omega)

/-- Type 2: for every tag, `_read_ndef_data` needs at most 86066 interactions, never raises (in particular
no sector number above 255 is ever packed), and returns `None` or an object whose octets were read from
inside the data area `[16, end)` -/
theorem readNdef2_safe {t : Tag} (hT : TagBytes t) (w : W) (sector : Nat) (alive : Bool) :
    (readNdef2 t w sector alive).2.w.n ≤ w.n + 86066 ∧
    ((readNdef2 t w sector alive).1 = .ok none ∨
     ∃ d, (readNdef2 t w sector alive).1 = .ok (some d) ∧ SafeA d ∧ d.lo = 16) := by
  have hM := mem2_ok hT w.n
  have hJ0 : J2 w.n { w := w, cache := [], sector := sector, alive := alive } :=
    ⟨by simp, by simp, by simp, isBytes_nil⟩
  unfold readNdef2
  simp only
  rcases (getB_step hM 12 _ hJ0 (by omega)).cases with ⟨b, s1, hg, ⟨hJ1, h13⟩, -⟩ | ⟨e, s1, hg, ht, hf⟩
  · rw [hg]
    simp only
    -- reading address 12 filled the cache to a multiple of 16 above 12
    have hlen : 16 ≤ s1.cache.length := by
      have := hJ1.1
      simp only [mem2] at h13
      omega
    obtain ⟨c0, hc0, -⟩ := idxN_lt s1.cache 12 (by omega)
    obtain ⟨c1, hc1, -⟩ := idxN_lt s1.cache 13 (by omega)
    obtain ⟨c2, hc2, hm2⟩ := idxN_lt s1.cache 14 (by omega)
    obtain ⟨c3, hc3, -⟩ := idxN_lt s1.cache 15 (by omega)
    rw [hc0, hc1, hc2, hc3]
    simp only
    split
    · exact ⟨hM.weaken _ hJ1, Or.inl rfl⟩
    · split
      · exact ⟨hM.weaken _ hJ1, Or.inl rfl⟩
      · have hc2lt : c2 < 256 := hJ1.2.2.2 c2 (List.mem_of_getElem? hm2)
        have := finish_spec hM false 16 (c2 * 8 + 16) (fun h => by cases h) (fun _ => by omega) [] (fun _ => rfl) c3 s1 hJ1
        refine ⟨this.1, ?_⟩
        rcases this.2 with h | ⟨d, h1, h2, h3, -⟩
        · exact Or.inl h
        · exact Or.inr ⟨d, h1, h2, h3⟩
  · rw [hg]
    simp only
    rw [if_pos ht]
    exact ⟨hf, Or.inl rfl⟩
end NfcVerif.Adv
