import NfcVerif.Lemmas.HistC01T34
import NfcVerif.Lemmas.HistC02
/-!
# C02: cut safety over histories of assignments with faults, Type 3 and Type 4 Tags

The writers keep no picture of the tag: every attempt reads the attribute block (Type 3) / uses the capability
values found at activation (Type 4) and sends the whole message again (`Hist.t3Attempt`, `Hist.t4Attempt` of
`Model/HistC01.lean`).  An attempt aborted by a fault of either kind leaves the memory of a PREFIX of its commands;
the state in between is marked on the tag itself (`WriteF = 0Fh`, resp. `NLEN = 0`): `T3.prefix_cases`, `T4.prefix_cases`.
The invariant of a history is that the layout stays well formed: `T3Inv` (some attributes with the static values of the
activation), resp. `T4.WF v { c with file := g } i` for the current file `g` under the values `i` of the activation.
-/
namespace NfcVerif.Hist
open NfcVerif NfcVerif.T34

/-! ## Type 3 -/

/-- **one Type 3 attempt, any fault**: the memory is unchanged, or the area is flagged not readable, or it holds
the complete new message -/
theorem t3Write_view (m data : Bytes) (a : T3.Attr) (f : Option Fault) (wf : T3.WF m a) (hlen : data.length ≤ 16 * a.nmaxb) :
    (t3Write m data f).mem = m
    ∨ (∃ s, T3.see (t3Write m data f).mem = .ok (some s) ∧ s.readable = false)
    ∨ T3.see (t3Write m data f).mem = .ok (some ⟨(a.nmaxb * 16 : Nat), true, true, data⟩) := by
  rw [t3Write_eq m data a wf]
  obtain ⟨j, hj, hm, _⟩ := runWF_prefix (T3.planWrite a data) m f
  rw [hm]
  rcases T3.prefix_cases m data a wf hlen j hj with h | h | h
  · exact Or.inl h
  · -- block 0 carries `WriteF = 0Fh`: the area is flagged not readable
    unfold T3.see
    rw [T3.readNdef_old _ _ h]
    exact Or.inr (Or.inl ⟨_, rfl, by simp⟩)
  · rw [h]; exact Or.inr (Or.inr (T3.see_final m data a wf hlen))

theorem t3Attempt_view (seen : Seen) (a : T3.Attr) (hcap : seen.capacity = (a.nmaxb * 16 : Nat)) (m data : Bytes)
    (f : Option Fault) (hi : T3Inv a m) :
    (t3Attempt seen m data f).mem = m
    ∨ (∃ s, T3.see (t3Attempt seen m data f).mem = .ok (some s) ∧ s.readable = false)
    ∨ ((data.length : Int) ≤ seen.capacity ∧
        T3.see (t3Attempt seen m data f).mem = .ok (some ⟨(a.nmaxb * 16 : Nat), true, true, data⟩)) := by
  unfold t3Attempt
  split
  · exact Or.inl rfl
  · split
    · exact Or.inl rfl
    · rename_i hc
      obtain ⟨a', wf', hs⟩ := hi
      rcases t3Write_view m data a' f wf' (by rw [hs.2.2.2.1]; omega) with h | h | h
      · exact Or.inl h
      · exact Or.inr (Or.inl h)
      · refine Or.inr (Or.inr ⟨by omega, ?_⟩)
        rw [h, hs.2.2.2.1]

/-- **Type 3: cut safety over histories** -/
theorem t3History_view (seen : Seen) (a : T3.Attr) (hcap : seen.capacity = (a.nmaxb * 16 : Nat))
    (hs : List (Bytes × Option Fault)) : ∀ m, T3Inv a m →
    (t3History seen m hs).1 = m
    ∨ ∃ s, T3.see (t3History seen m hs).1 = .ok (some s) ∧
        (s.readable = false ∨ (s.data ∈ sentMsgs34 seen.capacity hs ∧ s.readable = true ∧ s.capacity = seen.capacity)) := by
  induction hs with
  | nil => intro m _; exact Or.inl rfl
  | cons x rest ih =>
    intro m hi
    obtain ⟨d, f⟩ := x
    simp only [t3History]
    rcases ih _ (t3Attempt_inv seen a hcap m d f hi) with h | ⟨s, hs1, hs2⟩
    · rw [h]
      rcases t3Attempt_view seen a hcap m d f hi with e | ⟨s, e1, e2⟩ | ⟨hc, e⟩
      · exact Or.inl e
      · exact Or.inr ⟨s, e1, Or.inl e2⟩
      · exact Or.inr ⟨_, e, Or.inr ⟨sentMsgs34_head _ d f rest hc, rfl, hcap.symm⟩⟩
    · refine Or.inr ⟨s, hs1, ?_⟩
      rcases hs2 with h | ⟨h1, h2⟩
      · exact Or.inl h
      · exact Or.inr ⟨sentMsgs34_cons_sub _ _ _ _ h1, h2⟩

/-! ## Type 4 -/

/-- **one Type 4 attempt, any fault** (`NLEN size ≤ MLc`) on a card whose file `g` is well formed under the values `i`
of the activation: the file is unchanged, or shows an empty message, or the complete new message; it stays well
formed in every case -/
theorem t4Write_view (v : T4.Variant) (c : T4.Card) (i : T4.Info) (hmlc : i.nlenSize ≤ i.maxLc)
    (g data : Bytes) (f : Option Fault) (wg : T4.WF v { c with file := g } i) (hlen : (data.length : Int) ≤ i.capacity) :
    (t4Write v c i g data f).file = g
    ∨ (T4.WF v { c with file := (t4Write v c i g data f).file } i ∧
        T4.see v { c with file := (t4Write v c i g data f).file } = .ok (some ⟨i.capacity, i.readable, true, []⟩))
    ∨ (T4.WF v { c with file := (t4Write v c i g data f).file } i ∧
        T4.see v { c with file := (t4Write v c i g data f).file } = .ok (some ⟨i.capacity, i.readable, true, data⟩)) := by
  unfold t4Write
  split
  · exact Or.inl rfl
  obtain ⟨j, hj, hm, -⟩ := runUF_prefix c (T4.planWrite v i data) g f
  rw [hm]
  rcases T4.prefix_cases v { c with file := g } i data wg hlen hmlc j hj with h | ⟨hz, hl⟩ | h
  · exact Or.inl h
  · exact Or.inr (Or.inl (T4.see_zero v { c with file := g } i wg _ hl hz))
  · rw [h]
    exact Or.inr (Or.inr ⟨T4.wf_final v { c with file := g } i g data wg rfl hlen,
      T4.see_final' v { c with file := g } i g data wg rfl hlen⟩)

theorem t4Attempt_view (v : T4.Variant) (c : T4.Card) (i : T4.Info) (wf : T4.WF v c i) (hmlc : i.nlenSize ≤ i.maxLc)
    (nd : T4.Ndef) (hnd : T4.readNdef v c = .ok (some nd)) (g data : Bytes) (f : Option Fault)
    (wg : T4.WF v { c with file := g } i) :
    T4.WF v { c with file := (t4Attempt v c nd g data f).file } i ∧
    ((t4Attempt v c nd g data f).file = g
    ∨ T4.see v { c with file := (t4Attempt v c nd g data f).file } = .ok (some ⟨i.capacity, i.readable, true, []⟩)
    ∨ ((data.length : Int) ≤ i.capacity ∧
        T4.see v { c with file := (t4Attempt v c nd g data f).file } = .ok (some ⟨i.capacity, i.readable, true, data⟩))) := by
  rw [t4_nd wf hnd]
  unfold t4Attempt
  split
  · exact ⟨wg, Or.inl rfl⟩
  · split
    · exact ⟨wg, Or.inl rfl⟩
    · rename_i hc
      have hlen : (data.length : Int) ≤ i.capacity := by simp only at hc; omega
      rcases t4Write_view v c i hmlc g data f wg hlen with h | ⟨h1, h2⟩ | ⟨h1, h2⟩
      · exact ⟨by rw [h]; exact wg, Or.inl h⟩
      · exact ⟨h1, Or.inr (Or.inl h2)⟩
      · exact ⟨h1, Or.inr (Or.inr ⟨hlen, h2⟩)⟩

theorem t4History_inv (v : T4.Variant) (c : T4.Card) (i : T4.Info) (wf : T4.WF v c i) (hmlc : i.nlenSize ≤ i.maxLc)
    (nd : T4.Ndef) (hnd : T4.readNdef v c = .ok (some nd)) (hs : List (Bytes × Option Fault)) :
    ∀ g, T4.WF v { c with file := g } i → T4.WF v { c with file := (t4History v c nd g hs).1 } i := by
  induction hs with
  | nil => exact fun g hg => hg
  | cons x rest ih => exact fun g hg => ih _ (t4Attempt_view v c i wf hmlc nd hnd g x.1 x.2 hg).1

/-- **Type 4: cut safety over histories** -/
theorem t4History_view (v : T4.Variant) (c : T4.Card) (i : T4.Info) (wf : T4.WF v c i) (hmlc : i.nlenSize ≤ i.maxLc)
    (nd : T4.Ndef) (hnd : T4.readNdef v c = .ok (some nd)) (hs : List (Bytes × Option Fault)) :
    ∀ g, T4.WF v { c with file := g } i →
    (t4History v c nd g hs).1 = g
    ∨ ∃ x, (x = [] ∨ x ∈ sentMsgs34 i.capacity hs) ∧
        T4.see v { c with file := (t4History v c nd g hs).1 } = .ok (some ⟨i.capacity, i.readable, true, x⟩) := by
  induction hs with
  | nil => intro g _; exact Or.inl rfl
  | cons a rest ih =>
    intro g hi
    obtain ⟨d, f⟩ := a
    simp only [t4History]
    obtain ⟨hi', hv⟩ := t4Attempt_view v c i wf hmlc nd hnd g d f hi
    rcases ih _ hi' with h | ⟨x, hx, h⟩
    · rw [h]
      rcases hv with e | e | ⟨hc, e⟩
      · exact Or.inl e
      · exact Or.inr ⟨[], Or.inl rfl, e⟩
      · exact Or.inr ⟨d, Or.inr (sentMsgs34_head _ d f rest hc), e⟩
    · rcases hx with hx | hx
      · exact Or.inr ⟨x, Or.inl hx, h⟩
      · exact Or.inr ⟨x, Or.inr (sentMsgs34_cons_sub _ _ _ _ hx), h⟩

end NfcVerif.Hist
