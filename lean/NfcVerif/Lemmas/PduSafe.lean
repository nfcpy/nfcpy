import NfcVerif.Lemmas.PduParam
/-!
# Decoding raises nothing but `DecodeError`; locality of `decodeAt`/`decodeNested`

`paramDecode_safe` is read off `paramDecode_param` (`Lemmas/PduParam.lean`: the parameter decoder is the format reading
with `DecodeError` where that rejects); everything above it is put together with the `Safe.*` rules of `Py.lean` and
`Lemmas/PyYields.lean`, one line per class decoder (`kind_safe`).
-/
namespace NfcVerif.Pdu
open NfcVerif

/-- the only exception a decoder may raise -/
abbrev OnlyDecodeError : Exc → Prop := fun e => e = .decodeError

theorem ofOpt_safe {α : Type} (o : Option α) : Safe OnlyDecodeError (ofOpt o) := by
  cases o
  · exact Safe.throw rfl
  · exact Safe.ok _

/-- a program that raises nothing but `DecodeError` is determined by its result with the exception forgotten -/
theorem toOpt_iff {α : Type} {x : Py α} {o : Option α} (h : toOpt x = o) (ht : Safe OnlyDecodeError x) :
    (∀ p, x = .ok p ↔ o = some p) ∧ (x = .error .decodeError ↔ o = none) := by
  subst h
  cases x with
  | ok q => simp
  | error e => cases ht e rfl; simp

namespace Impl

theorem safe_of_eq_ok {α : Type} {S : Exc → Prop} {x : Py α} {a : α} (h : x = .ok a) : Safe S x := by
  subst h; exact Safe.ok a

theorem structToDecode_safe {α : Type} (x : Py α) (hx : ∀ e, x = .error e → e = .struct ∨ e = .decodeError) :
    Safe OnlyDecodeError (structToDecode x) := by
  unfold structToDecode
  apply Safe.wrap (S := OnlyDecodeError) (show OnlyDecodeError .decodeError from rfl)
  intro e he hc
  rcases hx e he with h | h
  · subst h; simp at hc
  · exact h

theorem paramRaw_safe (d : Bytes) (off : Nat) : Safe OnlyDecodeError (paramRaw d off) := by
  apply structToDecode_safe
  intro e he
  left
  unfold unpackBB at he
  split at he
  · simp only [Py.bind_ok] at he
    unfold unpackS at he
    split at he
    · cases he
    · cases he; rfl
  · cases he; rfl

theorem paramDecode_safe (d : Bytes) (off : Nat) : Safe OnlyDecodeError (paramDecode d off) := by
  rw [paramDecode_param]
  exact Safe.bind' (paramRaw_safe d off) fun ⟨_, _, _⟩ => ofOpt_safe _

theorem tlvLoop_safe {σ : Type} (app : σ → Nat → TlvV → σ) (fuel : Nat) (d : Bytes) (off size : Nat) (st : σ)
    (hf : size ≤ fuel) : Safe OnlyDecodeError (tlvLoop app fuel d off size st) := by
  induction fuel generalizing off size st with
  | zero =>
    unfold tlvLoop
    have : size < 2 := by omega
    simp only [this, if_true]
    exact Safe.pure _
  | succ n ih =>
    unfold tlvLoop
    apply Safe.ite' <;> intro hs
    · exact Safe.pure _
    · apply Safe.bind' (paramDecode_safe d off)
      rintro ⟨t, l, v⟩
      exact ih _ _ _ (by omega)

theorem dErr {α : Type} : Safe OnlyDecodeError (throw Exc.decodeError : Py α) := Safe.throw' rfl
theorem dErr' {α : Type} : Safe OnlyDecodeError (Except.error Exc.decodeError : Py α) := Safe.throw rfl

/-- after a header read inside the buffer only the rest of a class decoder matters -/
theorem hdr_safe {α : Type} {d : Bytes} {off size : Nat} (h : off + size ≤ d.length) {f : Nat × Nat → Py α}
    (hf : 2 ≤ size → ∀ x, Safe OnlyDecodeError (f x)) : Safe OnlyDecodeError (decodeHeader d off size >>= f) := by
  unfold decodeHeader
  by_cases hs : size < 2
  · rw [if_pos hs]; exact dErr'
  · obtain ⟨a, b, hab⟩ := unpackBB_ok (d := d) (off := off) (by omega)
    rw [if_neg hs, hab]
    exact hf (by omega) _

theorem hdrN_safe {α : Type} {d : Bytes} {off size : Nat} (h : off + size ≤ d.length) {f : Nat × Nat × Nat × Nat → Py α}
    (hf : ∀ x, Safe OnlyDecodeError (f x)) : Safe OnlyDecodeError (decodeHeaderN d off size >>= f) := by
  unfold decodeHeaderN
  by_cases hs : size < 3
  · rw [if_pos hs]; exact dErr'
  · obtain ⟨a, b, c, hab⟩ := unpackBBB_ok (d := d) (off := off) (by omega)
    rw [if_neg hs, hab]
    exact hf _

theorem kind_safe (ptype : Nat) (dec : Bytes → Nat → Nat → Py SPdu) (hk : kindOf ptype = .simple dec)
    (d : Bytes) (off size : Nat) (h : off + size ≤ d.length) : Safe OnlyDecodeError (dec d off size) := by
  have tlv : ∀ {σ : Type} (app : σ → Nat → TlvV → σ) (st : σ) (mk : σ → SPdu),
      Safe OnlyDecodeError (tlvLoop app (size - 2) d (off + 2) (size - 2) st >>= fun st => pure (mk st)) :=
    fun app st mk => Safe.bind' (tlvLoop_safe app _ d _ _ st (Nat.le_refl _)) fun _ => Safe.pure _
  unfold kindOf at hk
  -- in the order of `kindOf`: SYMM PAX UI CONNECT DISC CC DM FRMR SNL DPS I RR RNR, then the unknown types
  split at hk <;> cases hk
  · exact hdr_safe h fun _ ⟨_, _⟩ => Safe.ite' (fun _ => dErr) fun _ => Safe.ite' (fun _ => dErr) fun _ => Safe.pure _
  · exact hdr_safe h fun _ ⟨_, _⟩ => Safe.ite' (fun _ => dErr) fun _ => tlv paxApp _ _
  · exact hdr_safe h fun _ ⟨_, _⟩ => Safe.pure _
  · exact hdr_safe h fun _ ⟨_, _⟩ => tlv connApp _ _
  · exact hdr_safe h fun _ ⟨_, _⟩ => Safe.pure _
  · exact hdr_safe h fun _ ⟨_, _⟩ => tlv ccApp _ _
  · refine Safe.ite' (fun _ => dErr) fun hs => hdr_safe h fun _ ⟨_, _⟩ => ?_
    obtain ⟨x, hx⟩ := unpackB_ok (d := d) (off := off + 2) (by omega)
    rw [hx]; exact Safe.pure _
  · refine Safe.ite' (fun _ => dErr) fun hs => hdr_safe h fun _ ⟨_, _⟩ => ?_
    obtain ⟨x0, x1, x2, x3, hx⟩ := unpackBBBB_ok (d := d) (off := off + 2) (by omega)
    rw [hx]; exact Safe.pure _
  · exact hdr_safe h fun _ ⟨_, _⟩ => Safe.ite' (fun _ => dErr) fun _ => tlv snlApp _ _
  · exact hdr_safe h fun _ ⟨_, _⟩ => Safe.ite' (fun _ => dErr) fun _ => tlv dpsApp _ _
  · exact hdrN_safe h fun ⟨_, _, _, _⟩ => Safe.pure _
  · exact hdrN_safe h fun ⟨_, _, _, _⟩ => Safe.pure _
  · exact hdrN_safe h fun ⟨_, _, _, _⟩ => Safe.pure _
  · refine hdr_safe h fun hs ⟨_, _⟩ => ?_
    obtain ⟨x, hx, -⟩ := idxN_lt d off (by omega)
    obtain ⟨y, hy, -⟩ := idxN_lt d (off + 1) (by omega)
    simp only [hx, hy, Py.bind_ok]
    exact Safe.pure _

theorem decodePre_safe (data : Bytes) (off size : Nat) : Safe OnlyDecodeError (decodePre data off size) := by
  unfold decodePre
  apply Safe.ite' <;> intro h1
  · exact dErr
  · apply Safe.ite' <;> intro h2
    · exact dErr
    · have hl := sliceN_length data off size (by omega)
      obtain ⟨x, hx⟩ := unpackH_ok (d := sliceN data off (off + size)) (off := 0) (by omega)
      simp only [hx, Py.bind_ok]
      exact Safe.pure _

theorem decodePre_ok {data : Bytes} {off size : Nat} {d : Bytes} {t : Nat}
    (h : decodePre data off size = .ok (d, t)) :
    d = sliceN data off (off + size) ∧ d.length = size ∧ 2 ≤ size ∧ off + size ≤ data.length := by
  unfold decodePre at h
  split at h
  · cases h
  · split at h
    · cases h
    · obtain ⟨x, _, e⟩ := Py.bind_eq_ok.mp h
      cases e
      exact ⟨rfl, sliceN_length data off size (by omega), by omega, by omega⟩

theorem decodeNested_safe (data : Bytes) (off size : Nat) : Safe OnlyDecodeError (decodeNested data off size) := by
  unfold decodeNested
  apply Safe.bind (decodePre_safe data off size)
  rintro ⟨d, t⟩ hpre
  obtain ⟨_, hl, _, _⟩ := decodePre_ok hpre
  dsimp only
  split
  · exact dErr
  · rename_i dec hk
    exact kind_safe t dec hk d 0 size (by omega)

theorem agfLoop_safe (fuel : Nat) (d : Bytes) (off size : Nat) (acc : List SPdu) (hf : size ≤ fuel) :
    Safe OnlyDecodeError (agfLoop fuel d off size acc) := by
  induction fuel generalizing off size acc with
  | zero =>
    unfold agfLoop
    have : size = 0 := by omega
    simp only [this, if_true]
    exact Safe.pure _
  | succ n ih =>
    unfold agfLoop
    apply Safe.ite' <;> intro hs
    · exact Safe.pure _
    · apply Safe.bind'
      · apply structToDecode_safe
        intro e he
        left
        unfold unpackH at he
        split at he <;> cases he
        rfl
      · intro k
        apply Safe.bind' (decodeNested_safe _ _ _)
        intro p
        exact ih _ _ _ (by omega)

theorem decAgf_safe (d : Bytes) (off size : Nat) (h : off + size ≤ d.length) :
    Safe OnlyDecodeError (decAgf d off size) :=
  hdr_safe h fun _ ⟨_, _⟩ => Safe.ite' (fun _ => dErr) fun _ =>
    Safe.bind' (agfLoop_safe _ _ _ _ _ (Nat.le_refl _)) fun _ => Safe.pure _

/-- `decode(data, offset, size)` raises nothing but `DecodeError`, for every buffer, offset and size -/
theorem decodeAt_safe (data : Bytes) (off size : Nat) : Safe OnlyDecodeError (decodeAt data off size) := by
  unfold decodeAt
  apply Safe.bind (decodePre_safe data off size)
  rintro ⟨d, t⟩ hpre
  obtain ⟨_, hl, _, _⟩ := decodePre_ok hpre
  dsimp only
  split
  · exact decAgf_safe d 0 size (by omega)
  · rename_i dec hk
    exact Safe.bind' (kind_safe t dec hk d 0 size (by omega)) (fun _ => Safe.pure _)

theorem decodePre_local (pre e post : Bytes) :
    decodePre (pre ++ e ++ post) pre.length e.length = decodePre e 0 e.length := by
  unfold decodePre
  have h1 : ¬ (pre.length + e.length > (pre ++ e ++ post).length) := by simp
  have h2 : ¬ (0 + e.length > e.length) := by omega
  simp only [h1, h2, if_false, sliceN_append_mid, sliceN_all]

/-- an aggregated PDU is decoded from its own octets only -/
theorem decodeNested_local (pre e post : Bytes) :
    decodeNested (pre ++ e ++ post) pre.length e.length = decodeNested e 0 e.length := by
  unfold decodeNested
  rw [decodePre_local]

theorem decodeAt_of_nested {data : Bytes} {off size : Nat} {p : SPdu}
    (h : decodeNested data off size = .ok p) : decodeAt data off size = .ok (.simple p) := by
  unfold decodeNested at h
  unfold decodeAt
  obtain ⟨⟨d, t⟩, hpre, h⟩ := Py.bind_eq_ok.mp h
  rw [hpre]
  simp only [Py.bind_ok] at h ⊢
  split at h
  · cases h
  · rename_i dec hk
    simp only [h, Py.bind_ok, Py.pure_eq]

end Impl
end NfcVerif.Pdu
