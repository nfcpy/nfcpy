import NfcVerif.Lemmas.T3
/-!
Type 3 Tag: specification of `writeNdef` / `setOctets` on a well-formed layout (`WF`; every command of the plan is
`T3Link.Valid`: `plan_valid`), normal form of the memory after the write, round trip, confinement, and cut safety from
`prefix_cases`: after any number of commands of the plan the memory is untouched, flagged `WriteF = 0Fh` on a layout
that is still well formed, or complete.
-/
namespace NfcVerif.T3
open NfcVerif.T34

/-- well-formed Type 3 layout: valid attribute block `a` in block 0 of memory `m` -/
structure WF (m : Bytes) (a : Attr) : Prop where
  dec : decodeAttr (m.take 16) = .ok (some a)
  range : AttrRange a
  ver : a.ver / 16 = 1
  nbr : 1 ≤ a.nbr ∧ a.nbr ≤ 80
  nbw : 1 ≤ a.nbw
  fits : WriteFits a.nbw a.nmaxb
  rw : a.rwflag ≠ 0
  mem : 16 * (a.nmaxb + 1) ≤ m.length
  ln : a.ln ≤ 16 * a.nmaxb

theorem readNdef_spec (m : Bytes) (a : Attr) (hdec : decodeAttr (m.take 16) = .ok (some a)) (hver : a.ver / 16 = 1)
    (hnbr : 1 ≤ a.nbr ∧ a.nbr ≤ 80) (hmem : 16 * (1 + (a.ln + 15) / 16) ≤ m.length) (h65 : (a.ln + 15) / 16 < 65536) :
    readNdef m = .ok (some { attr := a, seen := { capacity := (a.nmaxb * 16 : Nat),
                                                  readable := decide (a.writef = 0 ∧ a.nbr > 0),
                                                  writeable := decide (a.rwflag ≠ 0 ∧ a.nbw > 0),
                                                  data := (sliceN m 16 (16 * (1 + (a.ln + 15) / 16))).take a.ln } }) := by
  unfold readNdef
  rw [readBlocks_ok m 0 1 (by omega) (by omega) (by omega)]
  simp only [Nat.mul_zero, Nat.zero_add, Nat.mul_one, sliceN_zero_take, hdec, Py.bind_ok]
  rw [if_neg (by omega), if_neg (by omega)]
  rw [readLoop_spec m a.nbr _ hnbr hmem (by omega) _ 1 [] (by omega) (by omega) (by omega)]
  simp

theorem take_padded (data : Bytes) : (padded data).take data.length = data := by
  simp [padded]

theorem AttrRange.set {a : Attr} (h : AttrRange a) (w l : Nat) (hw : w < 256) (hl : l < 16777216) :
    AttrRange { a with writef := w, ln := l } :=
  ⟨h.ver, h.nbr, h.nbw, h.nmaxb, hw, h.rwflag, hl⟩

/-- memory after a complete write -/
def finalMem (m : Bytes) (a : Attr) (data : Bytes) : Bytes :=
  splice (splice (splice m 0 (encodeAttr { a with writef := 0x0F })) 16 (padded data)) 0
    (encodeAttr { a with writef := 0, ln := data.length })

theorem finalMem_eq (m data : Bytes) (a : Attr) :
    finalMem m a data = encodeAttr { a with writef := 0, ln := data.length }
      ++ (padded data ++ m.drop (16 + (padded data).length)) := by
  have e0 := encodeAttr_length { a with writef := 0x0F }
  have h := splice_append_left (encodeAttr { a with writef := 0x0F }) (m.drop 16) (padded data)
  rw [e0] at h
  rw [finalMem, splice_zero m, e0, h, splice_zero, splice_zero, encodeAttr_length, List.drop_left' e0, List.drop_drop]

theorem finalMem_length (m data : Bytes) (a : Attr) (hmem : 16 * (a.nmaxb + 1) ≤ m.length)
    (hlen : data.length ≤ 16 * a.nmaxb) : (finalMem m a data).length = m.length := by
  simp only [finalMem_eq, List.length_append, encodeAttr_length, List.length_drop, padded_length]; omega

theorem finalMem_attr (m data : Bytes) (a : Attr) :
    (finalMem m a data).take 16 = encodeAttr { a with writef := 0, ln := data.length } := by
  rw [finalMem_eq, List.take_left' (encodeAttr_length _)]

theorem finalMem_data (m data : Bytes) (a : Attr) :
    sliceN (finalMem m a data) 16 (16 * (1 + (data.length + 15) / 16)) = padded data := by
  rw [finalMem_eq, sliceN, List.drop_left' (encodeAttr_length _),
    show 16 * (1 + (data.length + 15) / 16) - 16 = (padded data).length by rw [padded_length]; omega, List.take_left]

theorem finalMem_beyond (m data : Bytes) (a : Attr) :
    (finalMem m a data).drop (16 * (1 + (data.length + 15) / 16)) = m.drop (16 * (1 + (data.length + 15) / 16)) := by
  have e : 16 * (1 + (data.length + 15) / 16) = 16 + (padded data).length := by rw [padded_length]; omega
  rw [finalMem_eq, e, ← List.append_assoc, List.drop_left' (by rw [List.length_append, encodeAttr_length])]

theorem padded_blocks (data : Bytes) : (padded data).length = 16 * (1 + (data.length + 15) / 16 - 1) := by
  rw [padded_length, Nat.add_sub_cancel_left]

theorem planWrite_mem (a : Attr) (data : Bytes) (hnbw : 1 ≤ a.nbw) : ∀ c ∈ planWrite a data,
    1 ≤ c.n ∧ c.n ≤ a.nbw ∧ c.blk + c.n ≤ 1 + (data.length + 15) / 16 ∧ c.data.length = 16 * c.n := by
  intro c hc
  simp only [planWrite, List.mem_append, List.mem_cons, List.not_mem_nil, or_false] at hc
  rcases hc with (rfl | hc) | rfl
  · exact ⟨Nat.le_refl _, hnbw, by dsimp only; omega, encodeAttr_length _⟩
  · have := dataCmds_mem (padded data) a.nbw _ hnbw (padded_blocks data) _ 1 (Nat.le_refl _) c hc
    omega
  · exact ⟨Nat.le_refl _, hnbw, by dsimp only; omega, encodeAttr_length _⟩

theorem applyW_planWrite (m data : Bytes) (a : Attr) (hnbw : 1 ≤ a.nbw)
    (hmem : 16 * (1 + (data.length + 15) / 16) ≤ m.length) : applyW m (planWrite a data) = finalMem m a data := by
  simp only [planWrite, applyW_append, applyW_cons, applyW_nil]
  rw [applyW_dataCmds (padded data) a.nbw _ hnbw (padded_blocks data) _ 1 _ (Nat.le_refl _) (by omega)
    (by rw [splice_length _ _ _ (by rw [encodeAttr_length]; omega)]; exact hmem)]
  rfl

theorem plan_valid (m data : Bytes) (a : Attr) (wf : WF m a) (hlen : data.length ≤ 16 * a.nmaxb) :
    ∀ c ∈ planWrite a data, T3Link.Valid c m.length := by
  intro c hc
  obtain ⟨h1, h2, h3, h4⟩ := planWrite_mem a data wf.nbw c hc
  have hmem := wf.mem
  have h65 := wf.range.nmaxb
  refine ⟨h1, by omega, by omega, h4, ?_⟩
  rw [h4]
  exact frame_fits c.blk c.n a.nbw a.nmaxb h2 wf.fits (by omega)

theorem runW_plan (m data : Bytes) (a : Attr) (wf : WF m a) (hlen : data.length ≤ 16 * a.nmaxb) :
    runW m (planWrite a data) = ⟨planWrite a data, finalMem m a data, .ok ()⟩ := by
  have hmem := wf.mem
  rw [runW_ok _ m (plan_valid m data a wf hlen), applyW_planWrite m data a wf.nbw (by omega)]

theorem writeNdef_spec (m data : Bytes) (a : Attr) (wf : WF m a) (hlen : data.length ≤ 16 * a.nmaxb) :
    writeNdef m data = ⟨planWrite a data, finalMem m a data, .ok ()⟩ := by
  unfold writeNdef
  rw [readBlocks_ok m 0 1 (by omega) (by have := wf.mem; omega) (by omega)]
  simp only [Nat.mul_zero, Nat.zero_add, Nat.mul_one, sliceN_zero_take, wf.dec, Py.bind_ok]
  rw [if_neg (by have := wf.nbw; omega), runW_plan m data a wf hlen]

theorem decode_final (m data : Bytes) (a : Attr) (wf : WF m a) (hlen : data.length ≤ 16 * a.nmaxb) :
    decodeAttr ((finalMem m a data).take 16) = .ok (some { a with writef := 0, ln := data.length }) := by
  rw [finalMem_attr]
  exact decode_encode _ (wf.range.set 0 _ (by omega) (by have := wf.range.nmaxb; omega))

theorem readNdef_old (m : Bytes) (a : Attr) (wf : WF m a) :
    readNdef m = .ok (some { attr := a, seen := { capacity := (a.nmaxb * 16 : Nat),
                                                  readable := decide (a.writef = 0 ∧ a.nbr > 0),
                                                  writeable := true,
                                                  data := (sliceN m 16 (16 * (1 + (a.ln + 15) / 16))).take a.ln } }) := by
  rw [readNdef_spec m a wf.dec wf.ver wf.nbr (by have := wf.mem; have := wf.ln; omega)
    (by have := wf.ln; have := wf.range.nmaxb; omega)]
  have h1 := wf.rw; have h2 := wf.nbw
  simp [h1]; omega

theorem wf_final (m data : Bytes) (a : Attr) (wf : WF m a) (hlen : data.length ≤ 16 * a.nmaxb) :
    WF (finalMem m a data) { a with writef := 0, ln := data.length } :=
  ⟨decode_final m data a wf hlen, wf.range.set 0 _ (by omega) (by have := wf.range.nmaxb; omega), wf.ver, wf.nbr,
    wf.nbw, wf.fits, wf.rw, by rw [finalMem_length m data a wf.mem hlen]; exact wf.mem, hlen⟩

theorem see_final (m data : Bytes) (a : Attr) (wf : WF m a) (hlen : data.length ≤ 16 * a.nmaxb) :
    see (finalMem m a data) = .ok (some ⟨(a.nmaxb * 16 : Nat), true, true, data⟩) := by
  unfold see
  rw [readNdef_old _ _ (wf_final m data a wf hlen)]
  simp only [Py.bind_ok, Option.map]
  rw [finalMem_data, take_padded]
  have := wf.nbr
  simp; omega

theorem setOctets_spec (m data : Bytes) (a : Attr) (wf : WF m a) (hlen : data.length ≤ 16 * a.nmaxb) :
    setOctets m data = .ok (some ⟨planWrite a data, finalMem m a data, .ok ()⟩) := by
  unfold setOctets
  rw [readNdef_old m a wf]
  simp only [Py.bind_ok]
  rw [if_neg (by simp), if_neg (by omega), writeNdef_spec m data a wf hlen]

theorem prefix_cases (m data : Bytes) (a : Attr) (wf : WF m a) (hlen : data.length ≤ 16 * a.nmaxb) (k : Nat)
    (hk : k ≤ (planWrite a data).length) :
    applyW m ((planWrite a data).take k) = m ∨ WF (applyW m ((planWrite a data).take k)) { a with writef := 0x0F } ∨
    applyW m ((planWrite a data).take k) = finalMem m a data := by
  have hmem := wf.mem
  by_cases h0 : k = 0
  · subst h0; exact Or.inl rfl
  by_cases hfull : k = (planWrite a data).length
  · subst hfull
    rw [List.take_length, applyW_planWrite m data a wf.nbw (by omega)]
    exact Or.inr (Or.inr rfl)
  have hr := wf.range.set 0x0F a.ln (by omega) wf.range.ln
  obtain ⟨ht, hl⟩ := foldl_splice_mid (fun c : WCmd => 16 * c.blk) (fun c => c.data) 16
    ⟨0, 1, encodeAttr { a with writef := 0x0F }⟩ ⟨0, 1, encodeAttr { a with writef := 0, ln := data.length }⟩
    (dataCmds (padded data) a.nbw (1 + (data.length + 15) / 16) (1 + (data.length + 15) / 16) 1) m
    ⟨rfl, Nat.le_of_eq (encodeAttr_length _).symm, by rw [encodeAttr_length]; omega⟩
    (fun c hc => by
      have := dataCmds_mem (padded data) a.nbw _ wf.nbw (padded_blocks data) _ 1 (Nat.le_refl _) c hc
      omega)
    k (by omega) (by change k < (planWrite a data).length; omega)
  rw [List.take_of_length_le (l := encodeAttr _) (Nat.le_of_eq (encodeAttr_length _))] at ht
  exact Or.inr (Or.inl ⟨ht ▸ decode_encode _ hr, hr, wf.ver, wf.nbr, wf.nbw, wf.fits, wf.rw, hl ▸ hmem, wf.ln⟩)

/-- C02 for Type 3: whatever prefix of the write commands the tag executed, a fresh reader sees the
old message, a not-readable area, or the new message -/
theorem cut_safe (m data : Bytes) (a : Attr) (wf : WF m a) (hlen : data.length ≤ 16 * a.nmaxb)
    (sOld : Seen) (hold : see m = .ok (some sOld)) (k : Nat) (hk : k ≤ (planWrite a data).length) :
    ∃ r, see (applyW m ((planWrite a data).take k)) = .ok r ∧ Outcome sOld.data data r := by
  rcases prefix_cases m data a wf hlen k hk with h | h | h
  · rw [h]; exact ⟨some sOld, hold, by simp [Outcome]⟩
  · unfold see
    rw [readNdef_old _ _ h]
    exact ⟨_, rfl, by simp [Outcome]⟩
  · rw [h, see_final m data a wf hlen]
    exact ⟨_, rfl, by simp [Outcome]⟩

/-- C03 for Type 3 -/
theorem write_confined (m data : Bytes) (a : Attr) (wf : WF m a) (hlen : data.length ≤ 16 * a.nmaxb) :
    (∀ c ∈ planWrite a data, c.blk + c.n ≤ 1 + (data.length + 15) / 16 ∧ c.blk + c.n ≤ a.nmaxb + 1
        ∧ c.data.length = 16 * c.n) ∧
    (finalMem m a data).drop (16 * (1 + (data.length + 15) / 16)) = m.drop (16 * (1 + (data.length + 15) / 16)) ∧
    (finalMem m a data).length = m.length ∧
    decodeAttr ((finalMem m a data).take 16) = .ok (some { a with writef := 0, ln := data.length }) := by
  refine ⟨fun c hc => ?_, finalMem_beyond m data a, finalMem_length m data a wf.mem hlen, decode_final m data a wf hlen⟩
  have := planWrite_mem a data wf.nbw c hc
  omega

end NfcVerif.T3
