import NfcVerif.Model.CollectOps
import NfcVerif.Lemmas.CollectAll
/-! Lemmas for C10: the invariant of the send queues under every history of socket operations, and what
it gives for every frame `collect()` returns during the history. -/
namespace NfcVerif.Collect

/-- a queued PDU: header of at most 3 octets, not encrypted, and a UI / I PDU carries a payload within
the MIU it was checked against (`lim`), which is within the Link MIU -/
def Plain (M : Nat) (p : QPdu) : Prop :=
  p.hdr ≤ 3 ∧ p.icv = 0 ∧ (p.isData → p.payload ≤ p.lim ∧ p.lim ≤ M)

/-- a transmitted PDU: a UI / I PDU carries exactly one ICV (none without secure data transfer) on top of
a payload within its MIU, every other PDU is not encrypted -/
def Sent (M : Nat) (sec : Option Nat) (p : QPdu) : Prop :=
  p.hdr ≤ 3 ∧ (p.isData → p.icv = icvOf sec ∧ p.payload ≤ p.lim ∧ p.lim ≤ M) ∧ (¬ p.isData → p.icv = 0)

theorem ack_not_data (b : Bool) (n : Nat) : ¬ (ackPdu b n).isData := by
  cases b <;> simp [ackPdu, QPdu.isData]

/-- the connection MIU of an established data link connection is within the Link MIU -/
def DlcOk (M : Nat) (d : Dlc) : Prop := d.state = .established → d.sendMiu ≤ M

theorem gen_plain_sent (M : Nat) (sec : Option Nat) : Gen (Plain M) (Sent M sec) (DlcOk M) sec where
  rBusy d h := h
  rAck d h := h
  rShut d _ := by intro h; cases h
  ack b n := ⟨by simp [ackPdu], by simp [ackPdu], fun h => absurd h (ack_not_data b n)⟩
  ackQ b n := ⟨by simp [ackPdu], fun h => absurd h (ack_not_data b n), fun _ => by simp [ackPdu]⟩
  snl l := ⟨by simp [snlPdu], by simp [snlPdu], fun h => by simp [snlPdu, QPdu.isData] at h⟩
  enc p hp := by
    obtain ⟨h3, hi, hd⟩ := hp
    refine ⟨by rw [encrypt_hdr]; exact h3, ?_, ?_⟩
    · intro hdat
      have hdat' : p.isData := by unfold QPdu.isData at hdat ⊢; rw [encrypt_kind] at hdat; exact hdat
      rw [encrypt_payload, encrypt_lim]
      refine ⟨?_, hd hdat'⟩
      unfold QPdu.isData at hdat'
      unfold QPdu.encrypt icvOf
      cases sec with
      | none => exact hi
      | some n => simp only; rw [if_pos hdat']; simp only; omega
    · intro hnd
      have hnd' : ¬ p.isData := by unfold QPdu.isData at hnd ⊢; rw [encrypt_kind] at hnd; exact hnd
      rw [encrypt_not_data sec p hnd']; exact hi

/-- the invariant of a history: no raw access point socket, short headers, DM PDUs in the send lists,
every queued PDU is `Plain`, every established connection has a MIU within the Link MIU -/
def HistOk (M : Nat) (es : List Ent) : Prop := EntsOk es ∧ EntsAll (Plain M) (DlcOk M) es

/-- what the property asks of a transmitted frame -/
def FrameOk (M : Nat) (sec : Option Nat) (f : Frame) : Prop :=
  f.info ≤ M + f.slack sec ∧ ListAll (Sent M sec) f.pdus

theorem collect_ok (es : List Ent) (M : Nat) (sec : Option Nat) (agf : Bool) (hM : 3 ≤ M) (h : HistOk M es) :
    HistOk M (collect es M sec agf).2 ∧ ∀ f, (collect es M sec agf).1 = some f → FrameOk M sec f := by
  have hall := collect_all (gen_plain_sent M sec) es M agf h.2 _ _ rfl
  have hb := collect_bound es M sec agf h.1 hM _ _ rfl
  exact ⟨⟨hb.1, hall.1⟩, fun f hf => ⟨hb.2 f hf, hall.2 f hf⟩⟩

section setsock
variable {S : Sock → Prop} {L : List QPdu → Prop}

theorem entWith_sock {s : Sap} {j : Nat} {k : Sock} (hs : EntWith S L (.sap s)) (hj : s.socks[j]? = some k) : S k :=
  hs.1 k (List.mem_of_getElem? hj)

/-- socket `j` of the `sock_list` replaced -/
theorem entWith_set {s : Sap} {j : Nat} {k : Sock} (hs : EntWith S L (.sap s)) (hk : S k) :
    EntWith S L (.sap { s with socks := s.socks.set j k }) :=
  ⟨forall_mem_set hs.1 hk, hs.2⟩

/-- a socket put in front of the `sock_list` (`accept()`) -/
theorem entWith_cons {s : Sap} {k : Sock} (hs : EntWith S L (.sap s)) (hk : S k) :
    EntWith S L (.sap { s with socks := k :: s.socks }) :=
  ⟨List.forall_mem_cons.2 ⟨hk, hs.1⟩, hs.2⟩

/-- a new service access point: one socket, empty send list -/
theorem entWith_fresh {k : Sock} (hk : S k) (hL : L []) : EntWith S L (.sap ⟨[k], []⟩) :=
  ⟨fun k' hk' => by rw [List.mem_singleton.1 hk']; exact hk, hL⟩

theorem setSock_with {es : List Ent} {a j : Nat} {k : Sock} (h : ∀ e ∈ es, EntWith S L e) (hk : S k) :
    ∀ e ∈ setSock es a j k, EntWith S L e := by
  unfold setSock
  split
  · rename_i s hget
    exact forall_mem_set h (entWith_set (h _ (List.mem_of_getElem? hget)) hk)
  · exact h

theorem getSock_with {es : List Ent} {a j : Nat} {k : Sock} (h : ∀ e ∈ es, EntWith S L e)
    (hg : getSock es a j = some k) : S k := by
  unfold getSock at hg
  split at hg
  · rename_i s hget
    exact entWith_sock (h _ (List.mem_of_getElem? hget)) hg
  · cases hg
end setsock

theorem entsOk_with (es : List Ent) : EntsOk es ↔ ∀ e ∈ es, EntWith SockOk (fun l => ∀ p ∈ l, Small p) e :=
  forall₂_congr fun e _ => entOk_with e

theorem entsAll_with (P : QPdu → Prop) (R : Dlc → Prop) (es : List Ent) :
    EntsAll P R es ↔ ∀ e ∈ es, EntWith (SockAll P R) (fun l => ∀ p ∈ l, P p) e :=
  forall₂_congr fun e _ => entAll_with e

theorem histOk_setSock {M : Nat} {es : List Ent} {a j : Nat} {k : Sock} (h : HistOk M es)
    (h1 : SockOk k) (h2 : SockAll (Plain M) (DlcOk M) k) : HistOk M (setSock es a j k) :=
  ⟨(entsOk_with _).2 (setSock_with ((entsOk_with _).1 h.1) h1),
   (entsAll_with _ _ _).2 (setSock_with ((entsAll_with _ _ _).1 h.2) h2)⟩

theorem histOk_getSock {M : Nat} {es : List Ent} {a j : Nat} {k : Sock} (h : HistOk M es)
    (hg : getSock es a j = some k) : SockOk k ∧ SockAll (Plain M) (DlcOk M) k :=
  ⟨getSock_with ((entsOk_with _).1 h.1) hg, getSock_with ((entsAll_with _ _ _).1 h.2) hg⟩

theorem histOk_set {M : Nat} {es : List Ent} {a : Nat} {e : Ent} (h : HistOk M es)
    (h1 : EntOk e) (h2 : EntAll (Plain M) (DlcOk M) e) : HistOk M (es.set a e) :=
  ⟨entsOk_set h.1 h1, entsAll_set h.2 h2⟩

theorem histOk_getEnt {M : Nat} {es : List Ent} {a : Nat} {e : Ent} (h : HistOk M es) (hget : es[a]? = some e) :
    EntOk e ∧ EntAll (Plain M) (DlcOk M) e :=
  ⟨h.1 e (List.mem_of_getElem? hget), h.2 e (List.mem_of_getElem? hget)⟩

/-- the UI PDU `sendto()` queues after its test against the Link MIU -/
theorem plain_ui {n M : Nat} (id : Nat) (h : n ≤ M) : Plain M (uiPdu n id M) :=
  ⟨by simp [uiPdu], rfl, fun _ => ⟨by simp only [uiPdu, QPdu.payload]; omega, Nat.le_refl M⟩⟩

/-- the I PDU `send()` queues after its test against the connection MIU `lim` -/
theorem plain_i {n lim M : Nat} (id : Nat) (h : n ≤ lim) (hl : lim ≤ M) : Plain M (iPdu n id lim) :=
  ⟨by simp [iPdu], rfl, fun _ => ⟨by simp only [iPdu, QPdu.payload]; omega, hl⟩⟩

/-- a PDU with a 2 octet header that is neither UI nor I (CONNECT, CC, DM) -/
theorem plain_ctl {k : Kind} (M len id : Nat) (hu : k ≠ .ui) (hi : k ≠ .i) : Plain M ⟨k, 2, len, id, 0, 0⟩ :=
  ⟨by simp, rfl, fun hd => by rcases hd with hd | hd; exact absurd hd hu; exact absurd hd hi⟩

theorem dm_small (id : Nat) : Small (dmPdu id) := by simp [Small, dmPdu, QPdu.isData]
theorem dm_plain (M id : Nat) : Plain M (dmPdu id) := plain_ctl M 3 id (by decide) (by decide)

theorem clamp_le (peerMiu M : Nat) : clampSendMiu peerMiu M ≤ M := by
  unfold clampSendMiu; split <;> omega

theorem histOk_insertAt {M : Nat} {es : List Ent} {a : Nat} {e : Ent} (h : HistOk M es)
    (h1 : EntOk e) (h2 : EntAll (Plain M) (DlcOk M) e) : HistOk M (insertAt es a e) := by
  have hm : ∀ x ∈ insertAt es a e, x ∈ es ∨ x = e := by
    intro x hx
    simp only [insertAt, List.mem_append, List.mem_cons] at hx
    rcases hx with hx | rfl | hx
    · exact Or.inl (List.mem_of_mem_take hx)
    · exact Or.inr rfl
    · exact Or.inl (List.mem_of_mem_drop hx)
  constructor
  · intro x hx; rcases hm x hx with h3 | rfl
    · exact h.1 x h3
    · exact h1
  · intro x hx; rcases hm x hx with h3 | rfl
    · exact h.2 x h3
    · exact h2

/-- `bind()`: a new service access point with one socket and nothing queued -/
theorem histOk_bind {M : Nat} {es : List Ent} {a : Nat} {k : Sock} (h : HistOk M es) (h1 : SockOk k)
    (h2 : SockAll (Plain M) (DlcOk M) k) : HistOk M (insertAt es a (.sap ⟨[k], []⟩)) :=
  histOk_insertAt h ((entOk_with _).2 (entWith_fresh h1 (fun _ hp => nomatch hp)))
    ((entAll_with _).2 (entWith_fresh h2 (fun _ hp => nomatch hp)))

theorem step_ok (M : Nat) (sec : Option Nat) (agf : Bool) (hM : 3 ≤ M) (es : List Ent) (op : Op)
    (h : HistOk M es) :
    HistOk M (step M sec agf es op).1 ∧ ∀ f, (step M sec agf es op).2 = .frame (some f) → FrameOk M sec f := by
  cases op with
  | sendto a j n id =>
    simp only [step]
    split
    · rename_i sm q hg
      obtain ⟨h1, h2⟩ := histOk_getSock h hg
      split
      · exact ⟨histOk_setSock h h1 h2, by simp⟩
      · have hp := plain_ui (M := M) id (n := n) (by omega)
        exact ⟨histOk_setSock h (listAll_append h1 hp.1) (listAll_append h2 hp), by simp⟩
    · exact ⟨h, by simp⟩
  | send a j n id =>
    simp only [step]
    split
    · rename_i d q hg
      obtain ⟨h1, h2⟩ := histOk_getSock h hg
      split
      · exact ⟨h, by simp⟩
      · rename_i hest
        split
        · exact ⟨h, by simp⟩
        · split
          · exact ⟨h, by simp⟩
          · have hmiu := h2.1 (Decidable.of_not_not hest)
            have hp := plain_i (n := n) id (by omega) hmiu
            exact ⟨histOk_setSock h (listAll_append h1 hp.1) ⟨fun _ => hmiu, listAll_append h2.2 hp⟩, by simp⟩
    · exact ⟨h, by simp⟩
  | connected a j peerMiu sendWin cLen cId =>
    simp only [step]
    split
    · rename_i d q hg
      obtain ⟨h1, h2⟩ := histOk_getSock h hg
      split
      · have hp := plain_ctl (k := .connect) M cLen cId (by decide) (by decide)
        exact ⟨histOk_setSock h (listAll_append h1 hp.1) ⟨fun _ => clamp_le _ _, listAll_append h2.2 hp⟩, by simp⟩
      · split
        · exact ⟨h, by simp⟩
        · split <;> exact ⟨h, by simp⟩
    · exact ⟨h, by simp⟩
  | accepted a j peerMiu sendWin ccLen ccId =>
    simp only [step]
    split
    · rename_i s hget
      obtain ⟨e1, e2⟩ := histOk_getEnt h hget
      rw [entOk_with] at e1
      rw [entAll_with] at e2
      split
      · rename_i d q hj
        have hk1 : SockOk (.dlc d q) := entWith_sock e1 hj
        have hk2 : SockAll (Plain M) (DlcOk M) (.dlc d q) := entWith_sock e2 hj
        split
        · exact ⟨h, by simp⟩
        · split
          · exact ⟨h, by simp⟩
          · -- the CC PDU goes to the listening socket, the new connection (nothing queued) in front of it
            have hp := plain_ctl (k := .cc) M ccLen ccId (by decide) (by decide)
            have c1 : SockOk (.dlc d (q ++ [⟨.cc, 2, ccLen, ccId, 0, 0⟩])) := listAll_append hk1 hp.1
            have c2 : SockAll (Plain M) (DlcOk M) (.dlc d (q ++ [⟨.cc, 2, ccLen, ccId, 0, 0⟩])) :=
              ⟨hk2.1, listAll_append hk2.2 hp⟩
            have n1 : SockOk (.dlc (acceptedDlc d peerMiu sendWin M) []) := fun _ hx => nomatch hx
            have n2 : SockAll (Plain M) (DlcOk M) (.dlc (acceptedDlc d peerMiu sendWin M) []) :=
              ⟨fun _ => clamp_le _ _, fun _ hx => nomatch hx⟩
            exact ⟨histOk_set h ((entOk_with _).2 (entWith_cons (entWith_set e1 c1) n1))
              ((entAll_with _).2 (entWith_cons (entWith_set e2 c2) n2)), by simp⟩
      · exact ⟨h, by simp⟩
    · exact ⟨h, by simp⟩
  | setRecv a j rw cnt ack confs busy | setSend a j sendWin sendCnt sendAck =>
    simp only [step]
    split
    · rename_i d q hg
      obtain ⟨h1, h2⟩ := histOk_getSock h hg
      exact ⟨histOk_setSock h h1 ⟨h2.1, h2.2⟩, by simp⟩
    · exact ⟨h, by simp⟩
  | bindLdl a =>
    exact ⟨histOk_bind h (fun _ hp => nomatch hp) (fun _ hp => nomatch hp), by simp [step]⟩
  | bindDlc a rw =>
    exact ⟨histOk_bind h (fun _ hp => nomatch hp) ⟨by simp [DlcOk, newDlc], fun _ hp => nomatch hp⟩, by simp [step]⟩
  | listen a j =>
    simp only [step]
    split
    · rename_i d q hg
      obtain ⟨h1, h2⟩ := histOk_getSock h hg
      split
      · exact ⟨h, by simp⟩
      · split
        · exact ⟨h, by simp⟩
        · exact ⟨histOk_setSock h h1 ⟨by simp [DlcOk], h2.2⟩, by simp⟩
    · exact ⟨h, by simp⟩
  | sdres a v | sdreq a tid nl =>
    simp only [step]
    split
    · rename_i s hget
      obtain ⟨e1, e2⟩ := histOk_getEnt h hget
      exact ⟨histOk_set h e1 e2, by simp⟩
    · exact ⟨h, by simp⟩
  | sddm a id =>
    simp only [step]
    split
    · rename_i s hget
      obtain ⟨e1, e2⟩ := histOk_getEnt h hget
      exact ⟨histOk_set h (listAll_append e1 (dm_small id)) (listAll_append e2 (dm_plain M id)), by simp⟩
    · exact ⟨h, by simp⟩
  | dm a id =>
    simp only [step]
    split
    · rename_i s hget
      obtain ⟨e1, e2⟩ := histOk_getEnt h hget
      exact ⟨histOk_set h ⟨e1.1, listAll_append e1.2 (dm_small id)⟩ ⟨e2.1, listAll_append e2.2 (dm_plain M id)⟩,
        by simp⟩
    · exact ⟨h, by simp⟩
  | collect =>
    simp only [step]
    have := collect_ok es M sec agf hM h
    exact ⟨this.1, by intro f hf; injection hf with hf; exact this.2 f hf⟩

theorem mem_frames_cons {o : Outcome} {rest : List Outcome} {f : Frame} (h : f ∈ frames (o :: rest)) :
    o = .frame (some f) ∨ f ∈ frames rest := by
  cases o with
  | frame fo =>
    cases fo with
    | none => exact Or.inr h
    | some f' =>
      simp only [frames, List.mem_cons] at h
      rcases h with rfl | h
      · exact Or.inl rfl
      · exact Or.inr h
  | ok => exact Or.inr h
  | exc e => exact Or.inr h
  | bad => exact Or.inr h

end NfcVerif.Collect
