import NfcVerif.Model.NfcDep
/-!
# NFC-DEP: proofs (property C04)

* a Hoare-style specification `Spec` of one command/response transfer (`xfer`)
  and its propagation through every loop of the Initiator
  (`request_attention`, `request_retransmission`, `send_dep_req_recv_dep_res`,
  the RTOX loop, the two loops of `exchange`, the application, `deactivate`);
* what one step of the Target machine `tRx` keeps (`TKeeps`): stored and emitted responses fit the
  announced length and are never timeout extensions; only ProtocolError is raised;
* `run_spec`: both carried through the composed system `run` (frame bound, error kinds);
* the frame codec: `decodeFrame_code`, `decodeDep_encode`.
-/
namespace NfcVerif.NfcDep
open NfcVerif
variable {σ : Type}

@[simp] theorem next_peer (a : Air σ) : a.next.2.peer = a.peer := by unfold Air.next; split <;> rfl
@[simp] theorem next_wire (a : Air σ) : a.next.2.wire = a.wire := by unfold Air.next; split <;> rfl
@[simp] theorem next_expired (a : Air σ) : a.next.2.expired = a.expired := by unfold Air.next; split <;> rfl

def AirInv (Qp : σ → Prop) (Gp : Pdu → Prop) (Bi : Nat) (a : Air σ) : Prop :=
  Qp a.peer ∧ ∀ e ∈ a.wire, (e.req = true → e.pdu.tlen ≤ Bi) ∧ (e.req = false → Gp e.pdu)

theorem xfer_step (P : Peer σ) (Qp : σ → Prop) (Gp : Pdu → Prop) (Bi : Nat) (hB : Bi ≤ 254)
    (hrx : ∀ s rx, Qp s → Qp (P.rx s rx).1 ∧ ∀ p, (P.rx s rx).2 = some p → Gp p)
    (a : Air σ) (req : Pdu) (hq : AirInv Qp Gp Bi a) (hr : req.tlen ≤ Bi) :
    AirInv Qp Gp Bi (xfer P a req).1 ∧ (∀ e, (xfer P a req).2 = .error e → isComm e = true)
      ∧ (∀ res, (xfer P a req).2 = .ok res → Gp res ∧ res.kind = req.kind) := by
  obtain ⟨hp, hw⟩ := hq
  have hw1 : ∀ f, ∀ e ∈ (⟨true, req, f⟩ :: a.wire : List Wire),
      (e.req = true → e.pdu.tlen ≤ Bi) ∧ (e.req = false → Gp e.pdu) := by
    intro f e he
    rcases List.mem_cons.mp he with h | h
    · subst h; exact ⟨fun _ => hr, fun h => by cases h⟩
    · exact hw e h
  -- every error exit is a communication error: the two clauses about the result, once
  have err : ∀ e : Exc, isComm e = true →
      (∀ e', (.error e : Py Pdu) = .error e' → isComm e' = true)
      ∧ (∀ res, (.error e : Py Pdu) = .ok res → Gp res ∧ res.kind = req.kind) :=
    fun e he => ⟨fun e' h => by cases h; exact he, nofun⟩
  unfold xfer
  have hn : ¬ (req.tlen + 1 > 255) := by omega
  simp only [hn, if_false, next_peer]
  split
  · exact ⟨⟨hp, hw1 _⟩, err _ rfl⟩
  · exact ⟨⟨hp, hw1 _⟩, err _ rfl⟩
  · exact ⟨⟨(hrx a.peer .corrupt hp).1, hw1 _⟩, err _ rfl⟩
  · have hx := hrx a.peer (.frame req) hp
    generalize P.rx a.peer (.frame req) = r at hx ⊢
    obtain ⟨s', o⟩ := r
    cases o with
    | none =>
      dsimp only
      exact ⟨⟨hx.1, hw1 _⟩, err _ rfl⟩
    | some res =>
      have hg := hx.2 res rfl
      have hw2 : ∀ f f2, ∀ e ∈ (⟨false, res, f2⟩ :: ⟨true, req, f⟩ :: a.wire : List Wire),
          (e.req = true → e.pdu.tlen ≤ Bi) ∧ (e.req = false → Gp e.pdu) := by
        intro f f2 e he
        rcases List.mem_cons.mp he with h | h
        · subst h; exact ⟨nofun, (fun _ => hg)⟩
        · exact hw1 f e h
      dsimp only
      split
      · exact ⟨⟨hx.1, hw2 _ _⟩, err _ rfl⟩
      · exact ⟨⟨hx.1, hw2 _ _⟩, err _ rfl⟩
      · exact ⟨⟨hx.1, hw2 _ _⟩, err _ rfl⟩
      · split
        · exact ⟨⟨hx.1, hw2 _ _⟩, err _ rfl⟩
        · rename_i hk
          refine ⟨⟨hx.1, hw2 _ _⟩, nofun, (fun r h => ?_)⟩
          cases h
          exact ⟨hg, by simpa using hk⟩

def SErr (e : Exc) : Prop := isComm e = true ∨ e = .outOfFuel

structure Spec {σ : Type} (P : Peer σ) (c : Cfg) where
  Q : Air σ → Prop
  R : Pdu → Prop
  G : Pdu → Prop
  step : ∀ a req, Q a → R req → Q (xfer P a req).1 ∧ (∀ e, (xfer P a req).2 = .error e → isComm e = true)
    ∧ (∀ res, (xfer P a req).2 = .ok res → G res ∧ res.kind = req.kind)
  reset : ∀ a, Q a → Q { a with expired := false }
  atn : R (atnPdu c)
  nak : ∀ pni, R (.dep fNAK pni c.idid c.inad [])
  tox : ∀ r, R (.dep fTOX 0 c.idid c.inad [r])
  ack : ∀ pni, R (.dep fACK pni c.idid c.inad [])
  inf : ∀ fmt pni data, data.length ≤ c.imiu → R (.dep fmt pni c.idid c.inad data)

variable {P : Peer σ} {c : Cfg}

theorem atn_kind : (atnPdu c).kind = .dep := by unfold atnPdu; split <;> rfl

theorem reqAttention_spec (S : Spec P c) : ∀ n a, S.Q a →
    S.Q (reqAttention P c n a).1 ∧ Safe SErr (reqAttention P c n a).2
  | 0, a, h => by unfold reqAttention; exact ⟨h, Safe.throw (Or.inl rfl)⟩
  | n+1, a, h => by
    unfold reqAttention
    split
    · exact ⟨h, Safe.throw (Or.inl rfl)⟩
    · have hs := S.step a (atnPdu c) h S.atn
      generalize xfer P a (atnPdu c) = r at hs ⊢
      obtain ⟨a', res⟩ := r
      obtain ⟨hq, he, hk⟩ := hs
      cases res with
      | error e =>
        have := he e rfl
        simp only [this, if_true]
        exact reqAttention_spec S n _ hq
      | ok p =>
        have hkind := (hk p rfl).2
        rw [atn_kind] at hkind
        cases p with
        | dep fmt pni did nad data =>
          dsimp only
          split
          · exact ⟨hq, Safe.throw (Or.inl rfl)⟩
          · split
            · exact ⟨hq, Safe.throw (Or.inl rfl)⟩
            · exact ⟨hq, Safe.ok _⟩
        | _ => simp [Pdu.kind] at hkind

def Post (S : Spec P c) (r : Air σ × Py Pdu) : Prop :=
  S.Q r.1 ∧ Safe SErr r.2 ∧ ∀ res, r.2 = .ok res → S.G res ∧ res.kind = .dep

theorem Post.err (S : Spec P c) {a : Air σ} {e : Exc} (hq : S.Q a) (he : SErr e) : Post S (a, .error e) :=
  ⟨hq, Safe.throw he, nofun⟩

theorem Post.ok (S : Spec P c) {a : Air σ} {res : Pdu} (hq : S.Q a) (hg : S.G res) (hk : res.kind = .dep) :
    Post S (a, .ok res) :=
  ⟨hq, Safe.ok _, fun _ h => by cases h; exact ⟨hg, hk⟩⟩

theorem comm_protocol : SErr .protocol := Or.inl rfl
theorem comm_timeout : SErr .timeout := Or.inl rfl

theorem reqRetrans_spec (S : Spec P c) (pni : Nat) (ch : Bool) : ∀ n a, S.Q a → Post S (reqRetrans P c pni ch n a)
  | 0, a, h => by unfold reqRetrans; exact Post.err S h comm_protocol
  | n+1, a, h => by
    unfold reqRetrans
    split
    · exact Post.err S h comm_timeout
    · have hs := S.step a _ h (S.nak pni)
      generalize xfer P a (.dep fNAK pni c.idid c.inad []) = r at hs ⊢
      obtain ⟨a', res⟩ := r
      obtain ⟨hq, he, hk⟩ := hs
      cases res with
      | error e =>
        have := he e rfl
        simp only [this, if_true]
        exact reqRetrans_spec S pni ch n _ hq
      | ok p =>
        have hg := (hk p rfl).1
        have hkind := (hk p rfl).2
        cases p with
        | dep fmt rp did nad data =>
          dsimp only
          split
          · exact Post.err S hq comm_protocol
          · split
            · exact Post.ok S hq hg rfl
            · exact Post.err S hq comm_protocol
        | _ => simp [Pdu.kind] at hkind

theorem nakCheck_post (S : Spec P c) {a : Air σ} {res : Pdu} (hq : S.Q a) (hg : S.G res) (hk : res.kind = .dep) :
    Post S (nakCheck a res) := by
  cases res with
  | dep fmt rp did nad data =>
    unfold nakCheck; dsimp only
    split
    · exact Post.err S hq comm_protocol
    · exact Post.ok S hq hg rfl
  | _ => simp [Pdu.kind] at hk

theorem sendDepLoop_spec (S : Spec P c) (pni : Nat) (req : Pdu) (hR : S.R req) (hkr : req.kind = .dep) :
    ∀ fuel a, S.Q a → Post S (sendDepLoop P c pni req fuel a)
  | 0, a, h => by unfold sendDepLoop; exact Post.err S h (Or.inr rfl)
  | fuel+1, a, h => by
    unfold sendDepLoop
    split
    · exact Post.err S h comm_timeout
    · have hs := S.step a req h hR
      generalize xfer P a req = r at hs ⊢
      obtain ⟨a1, res⟩ := r
      obtain ⟨hq, he, hk⟩ := hs
      cases res with
      | ok p =>
        dsimp only
        exact nakCheck_post S hq (hk p rfl).1 ((hk p rfl).2.trans hkr)
      | error e =>
        have hc := he e rfl
        cases e with
        | timeout =>
          dsimp only
          have ha := reqAttention_spec S 2 a1 hq
          generalize reqAttention P c 2 a1 = r2 at ha ⊢
          obtain ⟨a2, u⟩ := r2
          cases u with
          | ok _ => exact sendDepLoop_spec S pni req hR hkr fuel a2 ha.1
          | error e2 => exact Post.err S ha.1 (ha.2 e2 rfl)
        | transmission =>
          dsimp only
          have ha := reqRetrans_spec S pni (decide (req.fmt? = some fMORE)) 2 a1 hq
          generalize reqRetrans P c pni (decide (req.fmt? = some fMORE)) 2 a1 = r2 at ha ⊢
          obtain ⟨a2, u⟩ := r2
          cases u with
          | ok res => exact nakCheck_post S ha.1 (ha.2.2 res rfl).1 (ha.2.2 res rfl).2
          | error e2 => exact Post.err S ha.1 (ha.2.1 e2 rfl)
        | _ => exact Post.err S hq (Or.inl hc)

theorem sendDep_spec (S : Spec P c) (fuel pni : Nat) (a : Air σ) (req : Pdu) (hq : S.Q a) (hR : S.R req)
    (hkr : req.kind = .dep) : Post S (sendDep P c fuel pni a req) :=
  sendDepLoop_spec S pni req hR hkr fuel _ (S.reset a hq)

theorem rtoxLoop_spec (S : Spec P c) (fuel pni : Nat) : ∀ i a res, S.Q a → S.G res → res.fmt? = some fTOX →
    Post S (rtoxLoop P c fuel pni i a res)
  | 0, a, res, h, _, _ => by unfold rtoxLoop; exact Post.err S h comm_timeout
  | i+1, a, res, h, hg, hf => by
    unfold rtoxLoop
    cases res with
    | dep fmt rp did nad data =>
      dsimp only
      simp only [Pdu.fmt?, Option.some.injEq] at hf
      subst hf
      cases data with
      | nil => exact Post.err S h comm_protocol
      | cons rtox rest =>
        dsimp only
        split
        · exact Post.err S h comm_protocol
        · have hs := sendDep_spec S fuel pni a (.dep fTOX 0 c.idid c.inad [rtox]) h (S.tox rtox) rfl
          generalize sendDep P c fuel pni a (.dep fTOX 0 c.idid c.inad [rtox]) = r at hs ⊢
          obtain ⟨a', u⟩ := r
          cases u with
          | error e => exact Post.err S hs.1 (hs.2.1 e rfl)
          | ok res' =>
            dsimp only
            split
            · exact Post.ok S hs.1 (hs.2.2 res' rfl).1 (hs.2.2 res' rfl).2
            · rename_i hne
              exact rtoxLoop_spec S fuel pni i a' res' hs.1 (hs.2.2 res' rfl).1 (by simpa using hne)
    | _ => simp [Pdu.fmt?] at hf

theorem transact_spec (S : Spec P c) (fuel pni : Nat) (a : Air σ) (req : Pdu) (hq : S.Q a) (hR : S.R req)
    (hkr : req.kind = .dep) : Post S (transact P c fuel pni a req) := by
  unfold transact
  have hs := sendDep_spec S fuel pni a req hq hR hkr
  generalize sendDep P c fuel pni a req = r at hs ⊢
  obtain ⟨a', u⟩ := r
  cases u with
  | error e => exact Post.err S hs.1 (hs.2.1 e rfl)
  | ok res =>
    dsimp only
    split
    · rename_i hf
      exact rtoxLoop_spec S fuel pni 3 a' res hs.1 (hs.2.2 res rfl).1 hf
    · exact Post.ok S hs.1 (hs.2.2 res rfl).1 (hs.2.2 res rfl).2

/-- result of the two loops of `exchange`: invariant kept, only communication errors -/
def Post3 {α : Type} (S : Spec P c) (r : Air σ × Nat × Py α) : Prop := S.Q r.1 ∧ Safe SErr r.2.2

theorem sendLoop_spec (S : Spec P c) (fuel : Nat) : ∀ n a pni sd, S.Q a →
    Post3 S (sendLoop P c fuel n a pni sd) ∧ ∀ res, (sendLoop P c fuel n a pni sd).2.2 = .ok res → res.kind = .dep
  | 0, a, pni, sd, h => by unfold sendLoop; exact ⟨⟨h, Safe.throw (Or.inr rfl)⟩, nofun⟩
  | n+1, a, pni, sd, h => by
    unfold sendLoop
    dsimp only
    have hs := transact_spec S fuel pni a
      (.dep (if sd.drop c.imiu ≠ [] then fMORE else fINF) pni c.idid c.inad (sd.take c.imiu)) h
      (S.inf _ _ _ (by simp [List.length_take]; omega)) rfl
    generalize transact P c fuel pni a _ = r at hs ⊢
    obtain ⟨a', u⟩ := r
    cases u with
    | error e => exact ⟨⟨hs.1, Safe.throw (hs.2.1 e rfl)⟩, nofun⟩
    | ok res =>
      have hk := (hs.2.2 res rfl).2
      cases res with
      | dep fmt rp did nad data =>
        dsimp only
        split
        · exact ⟨⟨hs.1, Safe.throw comm_protocol⟩, nofun⟩
        · split
          · exact ⟨⟨hs.1, Safe.throw comm_protocol⟩, nofun⟩
          · split
            · exact sendLoop_spec S fuel n a' _ _ hs.1
            · exact ⟨⟨hs.1, Safe.ok _⟩, fun _ h => by cases h; rfl⟩
      | _ => simp [Pdu.kind] at hk

theorem recvLoop_spec (S : Spec P c) (fuel : Nat) : ∀ n a pni acc fmt, S.Q a →
    Post3 S (recvLoop P c fuel n a pni acc fmt)
  | 0, a, pni, acc, fmt, h => by unfold recvLoop; exact ⟨h, Safe.throw (Or.inr rfl)⟩
  | n+1, a, pni, acc, fmt, h => by
    unfold recvLoop
    split
    · exact ⟨h, Safe.ok _⟩
    · have hs := transact_spec S fuel pni a (.dep fACK pni c.idid c.inad []) h (S.ack pni) rfl
      generalize transact P c fuel pni a _ = r at hs ⊢
      obtain ⟨a', u⟩ := r
      cases u with
      | error e => exact ⟨hs.1, Safe.throw (hs.2.1 e rfl)⟩
      | ok res =>
        have hk := (hs.2.2 res rfl).2
        cases res with
        | dep fmt' rp did nad data =>
          dsimp only
          split
          · exact ⟨hs.1, Safe.throw comm_protocol⟩
          · split
            · exact ⟨hs.1, Safe.throw comm_protocol⟩
            · exact recvLoop_spec S fuel n a' _ _ _ hs.1
        | _ => simp [Pdu.kind] at hk

theorem exchange_spec (S : Spec P c) (fuel : Nat) (a : Air σ) (pni : Nat) (p : Bytes) (hq : S.Q a) :
    S.Q (exchange P c fuel a pni p).1 ∧ (p ≠ [] → Safe SErr (exchange P c fuel a pni p).2.2) := by
  unfold exchange
  split
  · rename_i hp; exact ⟨hq, fun h => absurd hp h⟩
  refine (fun (h : Post3 S _) => ⟨h.1, fun _ => h.2⟩) ?_
  have hs := sendLoop_spec S fuel fuel a pni p hq
  generalize sendLoop P c fuel fuel a pni p = r at hs ⊢
  obtain ⟨a1, pni1, u⟩ := r
  cases u with
  | error e => exact ⟨hs.1.1, Safe.throw (hs.1.2 e rfl)⟩
  | ok res =>
    have hk := hs.2 res rfl
    cases res with
    | dep fmt rp did nad data =>
      dsimp only
      split
      · exact ⟨hs.1.1, Safe.throw comm_protocol⟩
      · exact recvLoop_spec S fuel fuel a1 pni1 data fmt hs.1.1
    | _ => simp [Pdu.kind] at hk

theorem iApp_spec (S : Spec P c) (fuel : Nat) : ∀ (pi : List Bytes) a pni got, S.Q a →
    S.Q (iApp P c fuel pi a pni got).1 ∧
      ((∀ p ∈ pi, p ≠ []) → ∀ e, (iApp P c fuel pi a pni got).2.2 = some e → SErr e)
  | [], a, pni, got, h => by unfold iApp; exact ⟨h, nofun⟩
  | p :: ps, a, pni, got, h => by
    unfold iApp
    have hs := exchange_spec S fuel a pni p h
    generalize exchange P c fuel a pni p = r at hs ⊢
    obtain ⟨a', pni', u⟩ := r
    cases u with
    | error e => exact ⟨hs.1, fun hp e' h => by cases h; exact hs.2 (hp p (by simp)) e rfl⟩
    | ok d =>
      have ih := iApp_spec S fuel ps a' pni' (got ++ [d]) hs.1
      exact ⟨ih.1, fun hp => ih.2 (fun q hq => hp q (by simp [hq]))⟩

theorem deactivate_spec (S : Spec P c) (rel : Bool) (a : Air σ) (hq : S.Q a)
    (hR : S.R (if rel then .rls c.idid else .dsl c.idid)) :
    S.Q (deactivate P c rel a).1 ∧ (deactivate P c rel a).2 = none := by
  unfold deactivate
  have hs := S.step a _ hq hR
  generalize xfer P a _ = r at hs ⊢
  obtain ⟨a', u⟩ := r
  cases u with
  | error e => simp only [hs.2.1 e rfl, if_true, and_true]; exact hs.1
  | ok res => exact ⟨hs.1, rfl⟩

theorem optByte_length (o : Option Nat) : (optByte o).length = flag o 1 := by
  cases o <;> rfl

theorem tlen_dep (fmt pni : Nat) (did nad : Option Nat) (data : Bytes) :
    (Pdu.dep fmt pni did nad data).tlen = 3 + flag did 1 + flag nad 1 + data.length := by
  simp [Pdu.tlen, encodePdu, optByte_length]; omega

theorem tlen_dsl (did : Option Nat) : (Pdu.dsl did).tlen = 2 + flag did 1 := by
  simp [Pdu.tlen, encodePdu, optByte_length]; omega

theorem tlen_rls (did : Option Nat) : (Pdu.rls did).tlen = 2 + flag did 1 := by
  simp [Pdu.tlen, encodePdu, optByte_length]; omega

theorem flag_le (o : Option Nat) : flag o 1 ≤ 1 := by unfold flag; split <;> omega

/-- what the Target guarantees about its stored response -/
def TInv (Bt : Nat) (t : TState) : Prop := ∀ p, t.depRes = some p → p.tlen ≤ Bt ∧ p.fmt? ≠ some fTOX

def TOut (Bt : Nat) (p : Pdu) : Prop := p.tlen ≤ Bt ∧ p.fmt? ≠ some fTOX

/-- the response `tSendChunk` builds for the payload `d` still to send -/
def chunkPdu (c : Cfg) (pni : Nat) (d : Bytes) : Pdu :=
  .dep (if d.length > c.tmiu then fMORE else fINF) pni c.tdid none (d.take c.tmiu)

theorem chunkPdu_tlen (c : Cfg) (Bt : Nat) (hm : c.tmiu + 3 + flag c.tdid 1 ≤ Bt) (pni : Nat) (d : Bytes) :
    (chunkPdu c pni d).tlen ≤ Bt := by
  rw [chunkPdu, tlen_dep, List.length_take]
  have : flag (none : Option Nat) 1 = 0 := rfl
  omega

theorem chunk_not_tox (c : Cfg) (pni : Nat) (d : Bytes) : (chunkPdu c pni d).fmt? ≠ some fTOX := by
  unfold chunkPdu; simp only [Pdu.fmt?]; split <;> decide

/-- the only exception `Target.exchange` raises is ProtocolError; the application has non-empty payloads -/
def TErrInv (t : TState) : Prop := (∀ e, t.status = .raised e → e = .protocol) ∧ (∀ p ∈ t.tosend, p ≠ [])

theorem TInv.keep {Bt : Nat} {t t' : TState} (ht : TInv Bt t) (h : t'.depRes = t.depRes) : TInv Bt t' :=
  fun p hp => ht p (h ▸ hp)

theorem TInv.store {Bt : Nat} {t' : TState} {r : Pdu} (hr : TOut Bt r) (h : t'.depRes = some r) : TInv Bt t' :=
  fun p hp => by cases h.symm.trans hp; exact hr

theorem TErrInv.keep {t t' : TState} (ht : TErrInv t) (hs : t'.status = t.status)
    (hq : ∀ p ∈ t'.tosend, p ∈ t.tosend) : TErrInv t' :=
  ⟨fun e h => ht.1 e (hs ▸ h), fun p h => ht.2 p (hq p h)⟩

theorem TErrInv.die {t t' : TState} (ht : TErrInv t) (hs : t'.status = .raised .protocol)
    (hq : t'.tosend = t.tosend) : TErrInv t' :=
  ⟨fun e h => by cases hs.symm.trans h; rfl, fun p h => ht.2 p (hq ▸ h)⟩

theorem TOut.ctl {c : Cfg} {Bt : Nat} (hm : c.tmiu + 3 + flag c.tdid 1 ≤ Bt) (fmt pni : Nat) (hf : fmt ≠ fTOX) :
    TOut Bt (.dep fmt pni c.tdid none []) := by
  refine ⟨?_, fun h => hf (Option.some.inj h)⟩
  rw [tlen_dep]
  have : flag (none : Option Nat) 1 = 0 := rfl
  simp only [List.length_nil]; omega

/-- what a step of the Target machine from `t` with outcome `r` keeps; the second part needs frames that fit the
length byte and the deselect during the first exchange handled as repaired (F40) -/
def TKeeps (c : Cfg) (Bt : Nat) (t : TState) (r : TState × Option Pdu) : Prop :=
  (TInv Bt t → TInv Bt r.1 ∧ ∀ p, r.2 = some p → TOut Bt p) ∧
  (Bt ≤ 254 → c.v.f40 = true → TErrInv t → TErrInv r.1)

theorem TKeeps.same {c : Cfg} {Bt : Nat} (t : TState) : TKeeps c Bt t (t, none) :=
  ⟨fun h => ⟨h, nofun⟩, fun _ _ h => h⟩

theorem TKeeps.resend {c : Cfg} {Bt : Nat} (t : TState) : TKeeps c Bt t (t, t.depRes) :=
  ⟨fun h => ⟨h, h⟩, fun _ _ h => h⟩

theorem TKeeps.die {c : Cfg} {Bt : Nat} {t t' : TState} (hd : t'.depRes = t.depRes) (hq : t'.tosend = t.tosend) :
    TKeeps c Bt t (t'.die .protocol) :=
  ⟨fun h => ⟨h.keep hd, nofun⟩, fun _ _ h => h.die rfl hq⟩

/-- `t0` is the state the step started from; `tSendChunk` overwrites the stored response -/
theorem tSendChunk_keeps (c : Cfg) (Bt : Nat) (hm : c.tmiu + 3 + flag c.tdid 1 ≤ Bt) (t t0 : TState) (pni : Nat)
    (data : Bytes) (hs : t.status = t0.status) (hq : ∀ p ∈ t.tosend, p ∈ t0.tosend) :
    TKeeps c Bt t0 (tSendChunk c t pni data) := by
  have hout : TOut Bt (chunkPdu c pni data) := ⟨chunkPdu_tlen c Bt hm pni data, chunk_not_tox c pni data⟩
  unfold tSendChunk
  dsimp only
  unfold chunkPdu at hout
  generalize Pdu.dep (if data.length > c.tmiu then fMORE else fINF) pni c.tdid none (data.take c.tmiu) = res at hout ⊢
  split
  · exact ⟨fun _ => ⟨.store hout rfl, nofun⟩, fun hB _ _ => absurd hout.1 (by omega)⟩
  · exact ⟨fun _ => ⟨.store hout rfl, fun p h => by cases h; exact hout⟩, fun _ _ h => h.keep hs hq⟩

theorem tRecv_keeps (c : Cfg) (Bt : Nat) (hm : c.tmiu + 3 + flag c.tdid 1 ≤ Bt) (t : TState) (pni : Nat) (acc : Bytes)
    (fmt : Nat) (data : Bytes) : TKeeps c Bt t (tRecv c t pni acc fmt data) := by
  have hack : TOut Bt (Pdu.dep fACK pni c.tdid none []) := .ctl hm _ _ (by decide)
  unfold tRecv
  split
  · exact ⟨fun _ => ⟨.store hack rfl, fun p h => by cases h; exact hack⟩, fun _ _ h => h.keep rfl (fun _ h => h)⟩
  · dsimp only
    split
    · exact ⟨fun h => ⟨h.keep rfl, nofun⟩, fun _ _ h => ⟨nofun, h.2⟩⟩
    · rename_i p ps hps
      split
      · rename_i hp
        exact ⟨fun h => ⟨h.keep rfl, nofun⟩,
          fun _ _ h => absurd hp (h.2 p (by rw [hps]; exact List.mem_cons_self ..))⟩
      · exact tSendChunk_keeps c Bt hm _ t _ _ rfl (fun q h => by rw [hps]; exact List.mem_cons_of_mem _ h)

theorem tAccept_keeps (c : Cfg) (Bt : Nat) (hm : c.tmiu + 3 + flag c.tdid 1 ≤ Bt) (t : TState) (fmt rpni : Nat)
    (data : Bytes) : TKeeps c Bt t (tAccept c t fmt rpni data) := by
  unfold tAccept
  split
  · exact .same t
  · exact tRecv_keeps c Bt hm t _ _ _ _
  · dsimp only
    split
    · exact .die rfl rfl
    · split
      · exact .die rfl rfl
      · split
        · exact tSendChunk_keeps c Bt hm t t _ _ rfl (fun _ h => h)
        · exact tRecv_keeps c Bt hm t _ _ _ _
  · dsimp only
    split
    · exact .die rfl rfl
    · exact tRecv_keeps c Bt hm t _ _ _ _

theorem tRxActive_keeps (c : Cfg) (Bt : Nat) (hm : c.tmiu + 3 + flag c.tdid 1 ≤ Bt) (t : TState) (req : Pdu) :
    TKeeps c Bt t (tRx.tRxActive c t req) := by
  have odsl : TOut Bt (.dsl c.tdid) := ⟨by rw [tlen_dsl]; omega, nofun⟩
  have orls : TOut Bt (.rls c.tdid) := ⟨by rw [tlen_rls]; omega, nofun⟩
  have oatn : TOut Bt (.dep fATN 0 c.tdid none []) := .ctl hm _ _ (by decide)
  -- DSL and RLS: answered in kind; raises AttributeError only as found (F40) during the first exchange
  have rel : ∀ p, TOut Bt p → TKeeps c Bt t (if t.loc = .first ∧ ¬ c.v.f40 then
      ({ t with status := .raised .attr }, some p) else ({ t with status := .retNone }, some p)) := by
    intro p hp
    split
    · rename_i h
      exact ⟨fun ht => ⟨ht.keep rfl, fun q hq => by cases hq; exact hp⟩, fun _ hf _ => absurd hf h.2⟩
    · exact ⟨fun ht => ⟨ht.keep rfl, fun q hq => by cases hq; exact hp⟩, fun _ _ h => ⟨nofun, h.2⟩⟩
  unfold tRx.tRxActive
  split
  · exact .same t
  · split
    · exact rel _ odsl
    · exact rel _ orls
    · split
      · exact ⟨fun ht => ⟨ht, fun p hp => by cases hp; exact oatn⟩, fun _ _ h => h⟩
      · split
        · exact .resend t
        · split
          · split
            · exact .resend t
            · exact tAccept_keeps c Bt hm t _ _ _
          · split
            · exact .resend t
            · exact tAccept_keeps c Bt hm t _ _ _
    · exact .same t

theorem tRx_keeps (c : Cfg) (Bt : Nat) (hm : c.tmiu + 3 + flag c.tdid 1 ≤ Bt) (t : TState) (rx : Rx) :
    TKeeps c Bt t (tRx c t rx) := by
  unfold tRx
  split
  · exact .same t
  · split
    · exact .same t
    · split
      · -- `clf.listen` has returned: the step starts from `first`, which keeps both invariants
        exact ⟨fun ht => (tRxActive_keeps c Bt hm _ _).1 (ht.keep rfl),
          fun hB hf h => (tRxActive_keeps c Bt hm _ _).2 hB hf (h.keep rfl (fun _ h => h))⟩
      · exact .same t
      · exact tRxActive_keeps c Bt hm _ _

theorem tRx_inv (c : Cfg) (Bt : Nat) (hm : c.tmiu + 3 + flag c.tdid 1 ≤ Bt) (t : TState) (rx : Rx) (ht : TInv Bt t) :
    TInv Bt (tRx c t rx).1 ∧ ∀ p, (tRx c t rx).2 = some p → TOut Bt p :=
  (tRx_keeps c Bt hm t rx).1 ht

theorem tRx_err (c : Cfg) (hm : c.tmiu + 3 + flag c.tdid 1 ≤ 254) (hf : c.v.f40 = true) (t : TState) (rx : Rx)
    (ht : TErrInv t) : TErrInv (tRx c t rx).1 :=
  (tRx_keeps c 254 hm t rx).2 (Nat.le_refl _) hf ht

theorem lrTable_bounds (i : Nat) : 64 ≤ lrTable i ∧ lrTable i ≤ 254 := by
  unfold lrTable; split <;> omega

/-- `Spec` from an invariant of the peer and a bound on the Initiator's frames -/
def mkSpec (P : Peer σ) (c : Cfg) (Qp : σ → Prop) (Gp : Pdu → Prop) (Bi : Nat) (hB : Bi ≤ 254) (h6 : 6 ≤ Bi)
    (hm : c.imiu + 3 + flag c.idid 1 + flag c.inad 1 ≤ Bi)
    (hrx : ∀ s rx, Qp s → Qp (P.rx s rx).1 ∧ ∀ p, (P.rx s rx).2 = some p → Gp p) : Spec P c where
  Q := AirInv Qp Gp Bi
  R := fun req => req.tlen ≤ Bi
  G := Gp
  step := fun a req hq hr => xfer_step P Qp Gp Bi hB hrx a req hq hr
  reset := fun _ h => h
  atn := by
    have := flag_le c.idid
    unfold atnPdu; split <;> rw [tlen_dep] <;> simp [flag] <;> simp [flag] at this <;> omega
  nak := fun pni => by
    have := flag_le c.idid; have := flag_le c.inad
    rw [tlen_dep]; simp; omega
  tox := fun r => by
    have := flag_le c.idid; have := flag_le c.inad
    rw [tlen_dep]; simp; omega
  ack := fun pni => by
    have := flag_le c.idid; have := flag_le c.inad
    rw [tlen_dep]; simp; omega
  inf := fun fmt pni data hd => by rw [tlen_dep]; omega

theorem tox_not_out (Bt pni : Nat) (did nad : Option Nat) : ¬ TOut Bt (.dep fTOX pni did nad []) := by
  intro h; exact h.2 rfl

/-- the composed system: Initiator against the Target machine -/
def targetSpec (c : Cfg) (Bi Bt : Nat) (hB : Bi ≤ 254) (h6 : 6 ≤ Bi)
    (hm : c.imiu + 3 + flag c.idid 1 + flag c.inad 1 ≤ Bi) (ht : c.tmiu + 3 + flag c.tdid 1 ≤ Bt) :
    Spec (targetPeer c) c :=
  mkSpec (targetPeer c) c (TInv Bt) (TOut Bt) Bi hB h6 hm (fun s rx h => tRx_inv c Bt ht s rx h)

theorem init_inv (c : Cfg) (Bi Bt : Nat) (hB : Bi ≤ 254) (h6 : 6 ≤ Bi)
    (hm : c.imiu + 3 + flag c.idid 1 + flag c.inad 1 ≤ Bi) (ht : c.tmiu + 3 + flag c.tdid 1 ≤ Bt)
    (script : List Fault) (pt : List Bytes) :
    (targetSpec c Bi Bt hB h6 hm ht).Q { script := script, peer := TState.init pt, expired := false, wire := [] } :=
  ⟨fun p h => by simp [TState.init] at h, nofun⟩

theorem run_spec (c : Cfg) (Qp : TState → Prop) (Gp : Pdu → Prop) (Bi : Nat) (hB : Bi ≤ 254) (h6 : 6 ≤ Bi)
    (hm : c.imiu + 3 + flag c.idid 1 + flag c.inad 1 ≤ Bi)
    (hrx : ∀ s rx, Qp s → Qp (tRx c s rx).1 ∧ ∀ p, (tRx c s rx).2 = some p → Gp p)
    (fuel : Nat) (script : List Fault) (rel : Nat) (pi pt : List Bytes) (h0 : Qp (TState.init pt)) :
    Qp (run c fuel script rel pi pt).t
    ∧ (∀ e ∈ (run c fuel script rel pi pt).wire, (e.req = true → e.pdu.tlen ≤ Bi) ∧ (e.req = false → Gp e.pdu))
    ∧ ((∀ p ∈ pi, p ≠ []) → ∀ e, (run c fuel script rel pi pt).errI = some e → SErr e)
    ∧ (run c fuel script rel pi pt).errD = none := by
  let S := mkSpec (targetPeer c) c Qp Gp Bi hB h6 hm hrx
  have h1 := iApp_spec S fuel pi ⟨script, TState.init pt, false, []⟩ 0 [] ⟨h0, nofun⟩
  unfold run
  dsimp only
  generalize iApp (targetPeer c) c fuel pi _ 0 [] = r at h1 ⊢
  obtain ⟨a1, got, err⟩ := r
  dsimp only at h1 ⊢
  split
  · exact ⟨h1.1.1, fun e he => h1.1.2 e (List.mem_reverse.mp he), h1.2, rfl⟩
  · have hd := deactivate_spec S (rel = 2) a1 h1.1 (by
      show Pdu.tlen _ ≤ Bi
      have := flag_le c.idid
      split <;> simp [tlen_rls, tlen_dsl] <;> omega)
    exact ⟨hd.1.1, fun e he => hd.1.2 e (List.mem_reverse.mp he), h1.2, hd.2⟩

theorem run_inv (c : Cfg) (Bi Bt : Nat) (hB : Bi ≤ 254) (h6 : 6 ≤ Bi)
    (hm : c.imiu + 3 + flag c.idid 1 + flag c.inad 1 ≤ Bi) (ht : c.tmiu + 3 + flag c.tdid 1 ≤ Bt)
    (fuel : Nat) (script : List Fault) (rel : Nat) (pi pt : List Bytes) :
    (∀ e ∈ (run c fuel script rel pi pt).wire, (e.req = true → e.pdu.tlen ≤ Bi) ∧ (e.req = false → e.pdu.tlen ≤ Bt))
    ∧ ((∀ p ∈ pi, p ≠ []) → ∀ e, (run c fuel script rel pi pt).errI = some e → SErr e)
    ∧ (run c fuel script rel pi pt).errD = none := by
  obtain ⟨-, hw, he, hd⟩ := run_spec c (TInv Bt) (TOut Bt) Bi hB h6 hm (tRx_inv c Bt ht) fuel script rel pi pt nofun
  exact ⟨fun e h => ⟨(hw e h).1, fun hr => ((hw e h).2 hr).1⟩, he, hd⟩

/-- PDUs of the data exchange phase with in-range header fields -/
def Pdu.WF : Pdu → Prop
  | .dep fmt pni _ _ _ => fmt < 16 ∧ pni < 4
  | .dsl _ => True
  | .rls _ => True
  | _ => False

theorem pfb_fields (fmt pni a b : Nat) (hp : pni < 4) (ha : a = 0 ∨ a = 8) (hb : b = 0 ∨ b = 4) :
    (fmt * 16 + a + b + pni) / 16 = fmt ∧ (fmt * 16 + a + b + pni) % 4 = pni ∧
    ((fmt * 16 + a + b + pni) / 8 % 2 = 1 ↔ a = 8) ∧ ((fmt * 16 + a + b + pni) / 4 % 2 = 1 ↔ b = 4) := by
  rcases ha with rfl | rfl <;> rcases hb with rfl | rfl <;> omega

/-- the argument is a frame as `encode_frame` builds it; `k` is the request code, the response code is one more -/
theorem decodeFrame_code (b106 req : Bool) (k : Nat) (d : Bytes) :
    decodeFrame b106 req ((if b106 then [0xF0] else []) ++ [d.length + 3] ++
      ((if req then 0xD4 else 0xD5) :: (if req then k else k + 1) :: d)) =
      if k = 6 then decodeDep d else if k = 8 then decodeDsl .dsl d else if k = 10 then decodeDsl .rls d
      else if k = 0 then (if d.length < (if req then 14 else 15) then .error .protocol else .ok (.atr d))
      else if k = 4 then (if d.length ≠ (if req then 3 else 1) then .error .protocol else .ok (.psl d))
      else .error .protocol := by
  have two : ∀ n : Nat, ¬ n + 1 + 1 < 2 := fun n => by omega
  cases b106 <;> cases req <;> simp [decodeFrame, decodeFrameAux, two]

theorem decodeDep_encode (fmt pni : Nat) (did nad : Option Nat) (data : Bytes) (hp : pni < 4) :
    decodeDep ((fmt * 16 + flag nad 8 + flag did 4 + pni) :: (optByte did ++ optByte nad ++ data))
      = .ok (.dep fmt pni did nad data) := by
  obtain ⟨h16, h4, hn, hd⟩ := pfb_fields fmt pni (flag nad 8) (flag did 4) hp
    (by unfold flag; split <;> simp) (by unfold flag; split <;> simp)
  simp only [decodeDep, h16, h4, hn, hd]
  cases did <;> cases nad <;> simp [optByte, flag]

end NfcVerif.NfcDep
