import NfcVerif.Lemmas.T4Write
/-!
Type 4 Tag: capability container discovery (`discover_cc`: the control TLVs T=4 and T=6 differ in the width `nl` of the
size field only), `setOctets` on a well-formed layout (`WF`, which depends on the file through its size and NLEN only:
`WF.file`, `wf_final`), round trip, confinement, and cut safety from `prefix_cases`: after any number of commands of the
plan the file is untouched, has a zero NLEN, or is complete.
-/
namespace NfcVerif.T4
open NfcVerif.T34

/-- capability container with an NDEF file control TLV (T=4, L=6) -/
def cc4 (ver e1 e0 c1 c0 f1 f0 s1 s0 rf wf : Nat) : Bytes :=
  [0, 15, ver, e1, e0, c1, c0, 4, 6, f1, f0, s1, s0, rf, wf]

/-- capability container with an extended NDEF file control TLV (T=6, L=8) -/
def cc6 (ver e1 e0 c1 c0 f1 f0 s3 s2 s1 s0 rf wf : Nat) : Bytes :=
  [0, 17, ver, e1, e0, c1, c0, 6, 8, f1, f0, s3, s2, s1, s0, rf, wf]

/-- `cc4` in the shape `discover_cc` speaks of, with a size field of `nl = 2` octets -/
theorem cc4_eq (ver e1 e0 c1 c0 f1 f0 s1 s0 rf wf : Nat) : cc4 ver e1 e0 c1 c0 f1 f0 s1 s0 rf wf
    = [0, 13 + 2, ver, e1, e0, c1, c0, 2 + 2, 2 + 4, f1, f0] ++ [s1, s0] ++ [rf, wf] := rfl

/-- `cc6` in the same shape, `nl = 4` -/
theorem cc6_eq (ver e1 e0 c1 c0 f1 f0 s3 s2 s1 s0 rf wf : Nat) : cc6 ver e1 e0 c1 c0 f1 f0 s3 s2 s1 s0 rf wf
    = [0, 13 + 4, ver, e1, e0, c1, c0, 4 + 2, 4 + 4, f1, f0] ++ [s3, s2, s1, s0] ++ [rf, wf] := rfl

/-- `nl` is the width of the size field: 2 in the NDEF file control TLV (T=4, `cc4`), 4 in the extended one (T=6,
`cc6`) -/
theorem discover_cc (v : Variant) (c : Card) (nl : Nat) (hnl : nl = 2 ∨ nl = 4) (ver e1 e0 c1 c0 f1 f0 : Nat) (sz : Bytes)
    (rf wf : Nat) (hcc : c.cc = [0, 13 + nl, ver, e1, e0, c1, c0, nl + 2, nl + 4, f1, f0] ++ sz ++ [rf, wf])
    (hsz : sz.length = nl) (hmle : 15 ≤ c.mle) (hver : ver / 16 = 1 ∨ ver / 16 = 2 ∨ ver / 16 = 3) :
    discover v c = .ok (some { maxLe := if v.shortApdu then min (e1 * 256 + e0) 256 else e1 * 256 + e0,
                               maxLc := if v.shortApdu then min (c1 * 256 + c0) 255 else c1 * 256 + c0,
                               capacity := ((if v.offsetClamp then min (beNat sz) 65536 else beNat sz : Nat) : Int) - nl,
                               readable := decide (rf = 0), writeable := decide (wf = 0),
                               nlenSize := nl, fid := [f1, f0] }) := by
  have hlen : c.cc.length = 13 + nl := by simp [hcc, hsz]; omega
  have rd : ∀ off size : Nat, 1 ≤ size → size ≤ 15 → off + size ≤ 13 + nl →
      readBinary c c.cc 15 off size = .ok (sliceN c.cc off (off + size)) := fun off size h1 h2 h3 => by
    have := readBinary_ok c c.cc 15 off size ⟨by omega, by omega, hmle⟩ h1 (by omega) (by omega)
    rwa [Nat.min_eq_right h2] at this
  have r1 : readBinary c c.cc 15 0 2 = .ok [0, 13 + nl] := by
    rw [show (2 : Int) = ((2 : Nat) : Int) from rfl, rd 0 2 (by omega) (by omega) (by omega), hcc]; rfl
  have r2 : readBinary c c.cc 15 2 ((11 + nl : Nat) : Int)
      = .ok ([ver, e1, e0, c1, c0, nl + 2, nl + 4, f1, f0] ++ sz ++ [rf, wf]) := by
    rw [rd 2 (11 + nl) (by omega) (by omega) (by omega), hcc]
    exact congrArg Except.ok (List.take_of_length_le (by
      simp only [List.cons_append, List.drop_succ_cons, List.drop_zero, List.length_append, List.length_cons,
        List.length_nil, hsz]; omega))
  have hm : min (((beNat [0, 13 + nl] : Nat) : Int) - 2) 15 = ((11 + nl : Nat) : Int) := by simp [beNat]; omega
  unfold discover
  simp only [r1, Py.bind_ok, hm, r2]
  rcases hnl with rfl | rfl
  · match sz, hsz with
    | [s1, s0], _ =>
      simp [zeros, hver, beNat]
      split <;> omega
  · match sz, hsz with
    | [s3, s2, s1, s0], _ =>
      simp [zeros, hver, beNat]
      split <;> omega

/-- well-formed Type 4 layout, as understood by the reader (`i` = result of `_discover_ndef`) -/
structure WF (v : Variant) (c : Card) (i : Info) : Prop where
  disc : discover v c = .ok (some i)
  fid : i.fid = c.fid
  lim : Lim c i c.file.length
  cap : i.capacity = ((min c.file.length 65536 : Nat) : Int) - i.nlenSize
  rw : i.writeable = true
  old : i.nlenSize + beNat (c.file.take i.nlenSize) ≤ min c.file.length 65536

theorem discover_file (v : Variant) (c : Card) (f : Bytes) : discover v { c with file := f } = discover v c := rfl

theorem beNat_toBE (nl n : Nat) (hnl : nl = 2 ∨ nl = 4) (h : n < 65536) : beNat (toBE nl n) = n := by
  rcases hnl with rfl | rfl
  · exact beNat_toBE2 n h
  · exact beNat_toBE4 n (by omega)

theorem readNdef_old (v : Variant) (c : Card) (i : Info) (wf : WF v c i) :
    readNdef v c = .ok (some ⟨i, ⟨i.capacity, i.readable, true,
      sliceN c.file i.nlenSize (i.nlenSize + beNat (c.file.take i.nlenSize))⟩⟩) := by
  rw [readNdef_spec v c i wf.disc wf.fid wf.lim (by have := wf.old; omega) (by have := wf.old; omega), wf.rw]

theorem see_old (v : Variant) (c : Card) (i : Info) (wf : WF v c i) :
    see v c = .ok (some ⟨i.capacity, i.readable, true,
      sliceN c.file i.nlenSize (i.nlenSize + beNat (c.file.take i.nlenSize))⟩) := by
  unfold see
  rw [readNdef_old v c i wf]
  rfl

theorem setOctets_spec (v : Variant) (c : Card) (i : Info) (data : Bytes) (wf : WF v c i)
    (hlen : (data.length : Int) ≤ i.capacity) (hv : v.nlenLoop = true ∨ i.nlenSize ≤ i.maxLc) :
    setOctets v c data = .ok (some ⟨planWrite v i data, finalFile c.file i.nlenSize data, .ok ()⟩) := by
  unfold setOctets
  rw [readNdef_old v c i wf]
  simp only [Py.bind_ok]
  rw [if_neg (by simp), if_neg (by omega)]
  have := wf.cap
  rw [writeNdef_spec v c i data wf.lim (by omega) (by omega) hv]

theorem WF.file {v : Variant} {c : Card} {i : Info} (wf : WF v c i) (F : Bytes) (hF : F.length = c.file.length)
    (hn : i.nlenSize + beNat (F.take i.nlenSize) ≤ min c.file.length 65536) : WF v { c with file := F } i :=
  ⟨wf.disc, wf.fid, ⟨wf.lim.nl, wf.lim.le, wf.lim.lc, by simp only [hF]; exact wf.lim.size⟩,
    by simp only [hF]; exact wf.cap, wf.rw, by simp only [hF]; exact hn⟩

theorem finalFile_nlenVal (g data : Bytes) (nl : Nat) (hnl : nl = 2 ∨ nl = 4) (h65 : data.length < 65536) :
    beNat ((finalFile g nl data).take nl) = data.length := by
  rw [finalFile_nlen]; exact beNat_toBE _ _ hnl h65

theorem wf_final (v : Variant) (c : Card) (i : Info) (g data : Bytes) (wf : WF v c i)
    (hg : g.length = c.file.length) (hlen : (data.length : Int) ≤ i.capacity) :
    WF v { c with file := finalFile g i.nlenSize data } i := by
  have hcap := wf.cap; have hnl := wf.lim.nl
  have hl : i.nlenSize + data.length ≤ g.length := by omega
  refine wf.file _ ((finalFile_length g _ data hl).trans hg) ?_
  rw [finalFile_nlenVal g data _ hnl (by omega)]; omega

theorem see_final' (v : Variant) (c : Card) (i : Info) (g data : Bytes) (wf : WF v c i)
    (hg : g.length = c.file.length) (hlen : (data.length : Int) ≤ i.capacity) :
    see v { c with file := finalFile g i.nlenSize data } = .ok (some ⟨i.capacity, i.readable, true, data⟩) := by
  have hcap := wf.cap; have hnl := wf.lim.nl
  rw [see_old v _ i (wf_final v c i g data wf hg hlen)]
  simp only [finalFile_nlenVal g data _ hnl (by omega), finalFile_data]

theorem see_final (v : Variant) (c : Card) (i : Info) (data : Bytes) (wf : WF v c i)
    (hlen : (data.length : Int) ≤ i.capacity) :
    see v { c with file := finalFile c.file i.nlenSize data } = .ok (some ⟨i.capacity, i.readable, true, data⟩) :=
  see_final' v c i c.file data wf rfl hlen

theorem planWrite_fit (v : Variant) (i : Info) (data : Bytes) (hnl : 1 ≤ i.nlenSize)
    (hfit : i.nlenSize + data.length ≤ i.maxLc) : planWrite v i data = [⟨0, toBE i.nlenSize data.length ++ data⟩] := by
  unfold planWrite
  simp only []
  rw [if_pos hfit]
  exact chunk_single _ _ (by simp [toBE_length]; omega) (by simp [toBE_length]; omega) _ (by omega)

theorem planWrite_chunked (v : Variant) (i : Info) (data : Bytes) (hnl : 1 ≤ i.nlenSize) (hmlc : i.nlenSize ≤ i.maxLc)
    (hnf : ¬ i.nlenSize + data.length ≤ i.maxLc) :
    planWrite v i data = chunkCmds i.maxLc (zeros i.nlenSize ++ data) (i.nlenSize + data.length + 1) 0
      ++ [⟨0, toBE i.nlenSize data.length⟩] := by
  unfold planWrite
  simp only []
  rw [if_neg hnf]
  congr 1
  split
  · exact chunk_single _ _ (by rw [toBE_length]; exact hmlc) (by rw [toBE_length]; omega) _ (by omega)
  · rw [List.take_of_length_le (by rw [toBE_length]; exact hmlc)]

/-- a cut strictly inside the sequence is only possible in the chunked case, whose first command writes the zero NLEN
placeholder -/
theorem prefix_cases (v : Variant) (c : Card) (i : Info) (data : Bytes) (wf : WF v c i)
    (hlen : (data.length : Int) ≤ i.capacity) (hmlc : i.nlenSize ≤ i.maxLc) (k : Nat)
    (hk : k ≤ (planWrite v i data).length) :
    applyU c.file ((planWrite v i data).take k) = c.file ∨
    ((applyU c.file ((planWrite v i data).take k)).take i.nlenSize = zeros i.nlenSize ∧
      (applyU c.file ((planWrite v i data).take k)).length = c.file.length) ∨
    applyU c.file ((planWrite v i data).take k) = finalFile c.file i.nlenSize data := by
  have hcap := wf.cap; have hnl := wf.lim.nl; have hlc := wf.lim.lc
  have hnl1 : 1 ≤ i.nlenSize := by omega
  by_cases h0 : k = 0
  · subst h0; exact Or.inl rfl
  by_cases hfull : k = (planWrite v i data).length
  · subst hfull
    rw [List.take_length, applyU_planWrite v i data c.file hlc.1 (by omega) (Or.inr hmlc)]
    exact Or.inr (Or.inr rfl)
  have hkn : k < (planWrite v i data).length := by omega
  refine Or.inr (Or.inl ?_)
  by_cases hfit : i.nlenSize + data.length ≤ i.maxLc
  · rw [planWrite_fit v i data hnl1 hfit] at hkn
    simp at hkn; omega
  rw [planWrite_chunked v i data hnl1 hmlc hfit] at hkn ⊢
  generalize hB : zeros i.nlenSize ++ data = buf at hkn ⊢
  have hbl : buf.length = i.nlenSize + data.length := by rw [← hB, List.length_append, zeros_length]
  rw [chunk_head _ _ (by omega)] at hkn ⊢
  obtain ⟨ht, hl⟩ := foldl_splice_mid (fun u : UCmd => u.off) (fun u => u.data) i.nlenSize ⟨0, buf.take i.maxLc⟩
    ⟨0, toBE i.nlenSize data.length⟩ (chunkCmds i.maxLc buf (i.nlenSize + data.length) (min i.maxLc buf.length)) c.file
    ⟨rfl, by rw [List.length_take]; omega, by rw [List.length_take]; omega⟩
    (fun u hu => by have := chunk_mem i.maxLc buf hlc.1 _ _ u hu; omega) k (by omega) hkn
  subst hB
  rw [List.take_take, Nat.min_eq_left hmlc, List.take_left' (zeros_length _)] at ht
  exact ⟨ht, hl⟩

theorem see_zero (v : Variant) (c : Card) (i : Info) (wf : WF v c i) (F : Bytes) (hF : F.length = c.file.length)
    (hz : F.take i.nlenSize = zeros i.nlenSize) :
    WF v { c with file := F } i ∧ see v { c with file := F } = .ok (some ⟨i.capacity, i.readable, true, []⟩) := by
  have wf' := wf.file F hF (by rw [hz, beNat_zeros]; have := wf.old; omega)
  refine ⟨wf', ?_⟩
  rw [see_old v _ i wf']
  simp [sliceN, hz, beNat_zeros]

/-- C02 for Type 4 (MLc at least the NLEN field size): every prefix of the UPDATE BINARY sequence
leaves the old message, an empty message, or the new message -/
theorem cut_safe (v : Variant) (c : Card) (i : Info) (data : Bytes) (wf : WF v c i)
    (hlen : (data.length : Int) ≤ i.capacity) (hmlc : i.nlenSize ≤ i.maxLc)
    (sOld : Seen) (hold : see v c = .ok (some sOld)) (k : Nat) (hk : k ≤ (planWrite v i data).length) :
    ∃ r, see v { c with file := applyU c.file ((planWrite v i data).take k) } = .ok r ∧ Outcome sOld.data data r := by
  rcases prefix_cases v c i data wf hlen hmlc k hk with h | ⟨hz, hF⟩ | h
  · rw [h]; exact ⟨some sOld, hold, by simp [Outcome]⟩
  · rw [(see_zero v c i wf _ hF hz).2]
    exact ⟨_, rfl, by simp [Outcome]⟩
  · rw [h, see_final v c i data wf hlen]
    exact ⟨_, rfl, by simp [Outcome]⟩

/-- C03 for Type 4 -/
theorem write_confined (v : Variant) (i : Info) (data : Bytes) (f : Bytes) (hlc : 1 ≤ i.maxLc) (hnl : 1 ≤ i.nlenSize)
    (hl : i.nlenSize + data.length ≤ f.length) :
    (∀ u ∈ planWrite v i data, 1 ≤ u.data.length ∧ u.data.length ≤ i.maxLc ∧
        u.off + u.data.length ≤ i.nlenSize + data.length) ∧
    (finalFile f i.nlenSize data).drop (i.nlenSize + data.length) = f.drop (i.nlenSize + data.length) ∧
    (finalFile f i.nlenSize data).length = f.length :=
  ⟨planWrite_mem v i data hlc hnl, finalFile_beyond f _ data hl, finalFile_length f _ data hl⟩

end NfcVerif.T4
