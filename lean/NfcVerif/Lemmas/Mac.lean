import NfcVerif.Model.Mac
/-!
# The FeliCa Lite MAC distinguishes messages that differ in one 8-byte group

For every cipher that maps blocks to blocks injectively (`BlockCipher`).
-/
namespace NfcVerif.Mac
open NfcVerif

/-- what the theorems need of the cipher: under every key, blocks go to blocks, injectively -/
def BlockCipher (C : Cipher) : Prop :=
  ∀ k, (∀ b, Block b → Block (C k b)) ∧ (∀ a b, Block a → Block b → C k a = C k b → a = b)

theorem nat_xor_cancel_right {a b c : Nat} (h : a ^^^ c = b ^^^ c) : a = b := by
  have := congrArg (· ^^^ c) h
  simpa [Nat.xor_assoc, Nat.xor_self, Nat.xor_zero] using this

theorem xorB_length (a b : Bytes) (h : a.length = b.length) : (xorB a b).length = a.length := by
  simp [xorB, h]

theorem xorB_isBytes (a b : Bytes) (ha : IsBytes a) (hb : IsBytes b) : IsBytes (xorB a b) := by
  induction a generalizing b with
  | nil => intro x hx; simp [xorB] at hx
  | cons x xs ih =>
    cases b with
    | nil => intro y hy; simp [xorB] at hy
    | cons y ys =>
      intro z hz
      simp only [xorB, List.zipWith_cons_cons, List.mem_cons] at hz
      rcases hz with rfl | hz
      · exact Nat.xor_lt_two_pow (n := 8) (ha x (by simp)) (hb y (by simp))
      · exact ih ys (fun w hw => ha w (by simp [hw])) (fun w hw => hb w (by simp [hw])) z hz

theorem xorB_block {a b : Bytes} (ha : Block a) (hb : Block b) : Block (xorB a b) :=
  ⟨by rw [xorB_length a b (by rw [ha.1, hb.1]), ha.1], xorB_isBytes a b ha.2 hb.2⟩

theorem xorB_cancel_right (a b x : Bytes) (ha : a.length = x.length) (hb : b.length = x.length)
    (h : xorB a x = xorB b x) : a = b := by
  induction x generalizing a b with
  | nil =>
    have : a = [] := List.length_eq_zero_iff.mp (by simpa using ha)
    have : b = [] := List.length_eq_zero_iff.mp (by simpa using hb)
    simp_all
  | cons y ys ih =>
    cases a with
    | nil => simp at ha
    | cons a0 as =>
      cases b with
      | nil => simp at hb
      | cons b0 bs =>
        simp only [xorB, List.zipWith_cons_cons, List.cons.injEq] at h
        have h0 := nat_xor_cancel_right h.1
        have := ih as bs (by simpa using ha) (by simpa using hb) h.2
        rw [h0, this]

theorem xorB_comm (a b : Bytes) : xorB a b = xorB b a := by
  induction a generalizing b with
  | nil => cases b <;> simp [xorB]
  | cons x xs ih =>
    cases b with
    | nil => simp [xorB]
    | cons y ys =>
      simp only [xorB, List.zipWith_cons_cons, List.cons.injEq]
      exact ⟨Nat.xor_comm x y, ih ys⟩

theorem xorB_cancel_left (a b x : Bytes) (ha : a.length = x.length) (hb : b.length = x.length)
    (h : xorB x a = xorB x b) : a = b := by
  rw [xorB_comm x a, xorB_comm x b] at h
  exact xorB_cancel_right a b x ha hb h

theorem xorB_zeros (b : Bytes) : xorB b (List.replicate b.length 0) = b := by
  induction b with
  | nil => rfl
  | cons x xs ih =>
    simp only [List.length_cons, List.replicate_succ, xorB, List.zipWith_cons_cons, Nat.xor_zero, List.cons.injEq, true_and]
    exact ih

theorem reverse_block {b : Bytes} (h : Block b) : Block b.reverse :=
  ⟨by simp [h.1], fun x hx => h.2 x (by simpa using hx)⟩

theorem cbcLast_append (E : Bytes → Bytes) (iv : Bytes) (p q : List Bytes) :
    cbcLast E iv (p ++ q) = cbcLast E (cbcLast E iv p) q := by
  induction p generalizing iv with
  | nil => rfl
  | cons b rest ih => simp [cbcLast, ih]

theorem cbcLast_block {E : Bytes → Bytes} (hE : ∀ b, Block b → Block (E b)) (iv : Bytes) (l : List Bytes)
    (hiv : Block iv) (hl : ∀ b ∈ l, Block b) : Block (cbcLast E iv l) := by
  induction l generalizing iv with
  | nil => exact hiv
  | cons b rest ih =>
    simp only [cbcLast]
    exact ih _ (hE _ (xorB_block (hl b (by simp)) hiv)) (fun c hc => hl c (by simp [hc]))

/-- two different chaining values stay different through any common tail -/
theorem cbcLast_ne {E : Bytes → Bytes} (hE : ∀ b, Block b → Block (E b))
    (hinj : ∀ a b, Block a → Block b → E a = E b → a = b) (x y : Bytes) (l : List Bytes)
    (hx : Block x) (hy : Block y) (hne : x ≠ y) (hl : ∀ b ∈ l, Block b) :
    cbcLast E x l ≠ cbcLast E y l := by
  induction l generalizing x y with
  | nil => exact hne
  | cons b rest ih =>
    simp only [cbcLast]
    have hb := hl b (by simp)
    apply ih _ _ (hE _ (xorB_block hb hx)) (hE _ (xorB_block hb hy)) _ (fun c hc => hl c (by simp [hc]))
    intro h
    have := hinj _ _ (xorB_block hb hx) (xorB_block hb hy) h
    exact hne (xorB_cancel_left x y b (by rw [hx.1, hb.1]) (by rw [hy.1, hb.1]) this)

theorem macBlocks_ne (C : Cipher) (hC : BlockCipher C) (key iv : Bytes) (pre post : List Bytes) (b b' : Bytes)
    (hiv : Block iv) (hpre : ∀ g ∈ pre, Block g) (hpost : ∀ g ∈ post, Block g)
    (hb : Block b) (hb' : Block b') (hne : b ≠ b') :
    macBlocks C key iv (pre ++ [b] ++ post) ≠ macBlocks C key iv (pre ++ [b'] ++ post) := by
  obtain ⟨hE, hinj⟩ := hC key
  have hne1 : pre ++ [b] ++ post ≠ [] := by simp
  have hne2 : pre ++ [b'] ++ post ≠ [] := by simp
  simp only [macBlocks, hne1, hne2, if_false]
  intro h
  have h := List.reverse_inj.mp h
  simp only [List.map_append, List.map_cons, List.map_nil, cbcLast_append, cbcLast] at h
  have hrev : ∀ l : List Bytes, (∀ g ∈ l, Block g) → ∀ g ∈ l.map List.reverse, Block g := by
    intro l hl g hg
    rw [List.mem_map] at hg
    obtain ⟨a, ha, rfl⟩ := hg
    exact reverse_block (hl a ha)
  have hx := cbcLast_block hE iv (pre.map List.reverse) hiv (hrev pre hpre)
  refine cbcLast_ne hE hinj _ _ _ (hE _ (xorB_block (reverse_block hb) hx)) (hE _ (xorB_block (reverse_block hb') hx)) ?_
    (hrev post hpost) h
  intro h2
  have := hinj _ _ (xorB_block (reverse_block hb) hx) (xorB_block (reverse_block hb') hx) h2
  have := xorB_cancel_right b.reverse b'.reverse _ (by simp [hb.1, hx.1]) (by simp [hb'.1, hx.1]) this
  exact hne (List.reverse_inj.mp this)

theorem chunksAux_append (m n : Nat) (a b : Bytes) (ha : a.length = 8 * m) :
    chunksAux (m + n) (a ++ b) = chunksAux m a ++ chunksAux n b := by
  induction m generalizing a with
  | zero =>
    have : a = [] := List.length_eq_zero_iff.mp (by simpa using ha)
    simp [this, chunksAux]
  | succ k ih =>
    have h8 : 8 ≤ a.length := by omega
    rw [show k + 1 + n = (k + n) + 1 by omega]
    simp only [chunksAux]
    rw [List.take_append_of_le_length h8, List.drop_append_of_le_length h8, ih (a.drop 8) (by simp; omega)]
    rfl

theorem chunks8_append (a b : Bytes) (ha : a.length % 8 = 0) : chunks8 (a ++ b) = chunks8 a ++ chunks8 b := by
  unfold chunks8
  have h1 : a.length = 8 * (a.length / 8) := by omega
  have h2 : (a ++ b).length / 8 = a.length / 8 + b.length / 8 := by simp; omega
  rw [h2, chunksAux_append _ _ a b h1]

theorem chunks8_block (b : Bytes) (h : b.length = 8) : chunks8 b = [b] := by
  simp [chunks8, h, chunksAux, List.take_of_length_le (Nat.le_of_eq h)]

theorem chunksAux_blocks (n : Nat) (d : Bytes) (hn : 8 * n ≤ d.length) (hd : IsBytes d) :
    ∀ g ∈ chunksAux n d, Block g := by
  induction n generalizing d with
  | zero => intro g hg; simp [chunksAux] at hg
  | succ k ih =>
    intro g hg
    simp only [chunksAux, List.mem_cons] at hg
    rcases hg with rfl | hg
    · exact ⟨by simp; omega, fun x hx => hd x (List.mem_of_mem_take hx)⟩
    · exact ih (d.drop 8) (by simp; omega) (fun x hx => hd x (List.mem_of_mem_drop hx)) g hg

theorem chunks8_blocks (d : Bytes) (hd : IsBytes d) : ∀ g ∈ chunks8 d, Block g :=
  chunksAux_blocks _ d (by omega) hd

theorem generateMac_ok (C : Cipher) (data key iv : Bytes) (flip : Bool)
    (hd : data.length % 8 = 0) (hk : key.length = 16) (hiv : iv.length = 8) :
    generateMac C data key iv flip
      = .ok (macBlocks C (if flip then key.drop 8 ++ key.take 8 else key) iv (chunks8 data)) := by
  simp [generateMac, hd, hk, hiv]

end NfcVerif.Mac
