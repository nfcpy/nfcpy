import NfcVerif.Model.T3Vendor
import NfcVerif.Lemmas.T3Write
/-!
# C02, vendor readers of the Type 3 commit protocol (`Model/T3Vendor.lean`)

Whatever the product class, the authentication state of the reader and the memory configuration of the card, a
vendor reader of a well-formed memory finds no NDEF or the view of the generic reader with (at most) another
`writeable` flag: the overrides of `_read_attribute_data` leave `readable = (WriteF = 0 ∧ Nbr > 0)` alone and read
the same octets in other portions (`seeV_view`, `seeV_vs_see`).  The cut theorem for the vendor readers,
`t3_vendor_cut_safe`, is in `Props/C02Vendor.lean`.
-/
namespace NfcVerif.T3V
open NfcVerif NfcVerif.T34 NfcVerif.T3

theorem cardRead_cases (p : Product) (auth : Bool) (c : Card) (first n : Nat) :
    cardRead p auth c first n = readBlocks c.mem first n ∨ cardRead p auth c first n = .error (.tagCmd 0x01A2) := by
  unfold cardRead
  by_cases h1 : p ≠ .generic ∧ n + (if auth then 1 else 0) > 4
  · right; rw [if_pos h1]; rfl
  · rw [if_neg h1]
    by_cases h2 : p = .liteS ∧ auth = false ∧ anyRestricted c.mcRd first n = true
    · right; rw [if_pos h2]; rfl
    · left; rw [if_neg h2]

/-- the reads are answered from the memory or refused by the card: the loop ends like the generic one or without
data -/
theorem readLoopV_cases (rd : Nat → Nat → Py Bytes) (m : Bytes) (nbr last : Nat)
    (hrd : ∀ i n, rd i n = readBlocks m i n ∨ rd i n = .error (.tagCmd 0x01A2)) :
    ∀ fuel i acc, readLoopV rd nbr last fuel i acc = readLoop m nbr last fuel i acc
      ∨ readLoopV rd nbr last fuel i acc = .ok none := by
  intro fuel
  induction fuel with
  | zero => intro i acc; left; rfl
  | succ fuel ih =>
    intro i acc
    unfold readLoopV readLoop
    split
    · left; rfl
    · rcases hrd i (min (i + nbr) last - i) with h | h
      · rw [h]
        cases hb : readBlocks m i (min (i + nbr) last - i) with
        | ok d => exact ih (i + nbr) (acc ++ d)
        | error e => left; cases e <;> rfl
      · rw [h]; right; rfl

theorem override_fields (p : Product) (auth : Bool) (rw : Nat) (a : Attr) (f : Flags) :
    (override p auth rw a f).1.ver = a.ver ∧ (override p auth rw a f).1.ln = a.ln ∧
    (override p auth rw a f).1.nmaxb = a.nmaxb ∧
    ((override p auth rw a f).1.nbr = a.nbr ∨ (override p auth rw a f).1.nbr = min a.nbr 3) ∧
    (override p auth rw a f).2.readable = f.readable := by
  cases p <;> cases auth <;> simp [override]

/-- **the vendor view of a well-formed memory**: no NDEF, or capacity, `readable` and octets of the generic reader -/
theorem seeV_view (p : Product) (auth : Bool) (c : Card) (a : Attr) (wf : WF c.mem a) :
    seeV p auth c = .ok none ∨
    ∃ w, seeV p auth c = .ok (some ⟨(a.nmaxb * 16 : Nat), decide (a.writef = 0 ∧ a.nbr > 0), w,
      (sliceN c.mem 16 (16 * (1 + (a.ln + 15) / 16))).take a.ln⟩) := by
  have hmem := wf.mem
  have hln := wf.ln
  have hnm := wf.range.nmaxb
  unfold seeV readNdefV
  rcases cardRead_cases p auth c 0 1 with h0 | h0
  · rw [h0, readBlocks_ok c.mem 0 1 (by omega) (by omega) (by omega)]
    simp only [Nat.mul_zero, Nat.zero_add, Nat.mul_one, sliceN_zero_take, wf.dec, Py.bind_ok]
    obtain ⟨hv, hl, hn, hb, hr⟩ := override_fields p auth c.mcRw a (baseFlags a)
    rw [hv, hl, hn]
    rw [if_neg (by have := wf.ver; omega), if_neg (by omega)]
    have hnbr : 1 ≤ min (override p auth c.mcRw a (baseFlags a)).1.nbr 15 ∧
        min (override p auth c.mcRw a (baseFlags a)).1.nbr 15 ≤ 80 := by
      have := wf.nbr
      rcases hb with hb | hb <;> rw [hb] <;> omega
    rw [if_neg (by omega)]
    rcases readLoopV_cases (cardRead p auth c) c.mem (min (override p auth c.mcRw a (baseFlags a)).1.nbr 15)
        (1 + (a.ln + 15) / 16) (cardRead_cases p auth c) (1 + (a.ln + 15) / 16) 1 [] with hl | hl
    · right
      rw [hl, readLoop_spec c.mem _ _ hnbr (by omega) (by omega) _ 1 [] (by omega) (by omega) (by omega)]
      refine ⟨(override p auth c.mcRw a (baseFlags a)).2.writeable, ?_⟩
      simp only [Py.bind_ok, Option.map, List.nil_append, hr, Nat.mul_one]
      rfl
    · left
      rw [hl]; rfl
  · left
    rw [h0]; rfl

/-- no NDEF, or the generic view with another `writeable` flag -/
theorem seeV_vs_see (p : Product) (auth : Bool) (c : Card) (a : Attr) (wf : WF c.mem a) :
    seeV p auth c = .ok none ∨
    ∃ s w, T3.see c.mem = .ok (some s) ∧ seeV p auth c = .ok (some { s with writeable := w }) := by
  rcases seeV_view p auth c a wf with h | ⟨w, h⟩
  · exact Or.inl h
  · refine Or.inr ⟨⟨(a.nmaxb * 16 : Nat), decide (a.writef = 0 ∧ a.nbr > 0), true,
      (sliceN c.mem 16 (16 * (1 + (a.ln + 15) / 16))).take a.ln⟩, w, ?_, h⟩
    unfold T3.see
    rw [readNdef_old c.mem a wf]
    rfl

end NfcVerif.T3V
