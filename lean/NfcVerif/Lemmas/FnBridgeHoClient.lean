import NfcVerif.Lemmas.FnBridgeSnep
import NfcVerif.Gen.FnHoClient
import NfcVerif.Model.Handover
import NfcVerif.Model.Term
/-!
# Group HoClient: `Handover.srvOnRecv`, `Handover.cliOnRecv` and the reassembly step of `Snep.cliOnRecv` restated with
the regenerated pieces of `Gen/FnHoClient.lean` (and, for the response fragment slice and the SNEP conditions, of
`Gen/FnSnep.lean`)

Hand written remain: the cut of the sequential programs at their blocking socket calls (`Model/SnepChannel.lean`), the
parameters `complete` / `handler` (ndeflib), the control skeleton.  `Props/FnBridgeHoClient.lean` proves the equalities.
-/
namespace NfcVerif.FnBridge.HoClient
open NfcVerif NfcVerif.Chan NfcVerif.Handover

/-- `for offset in range(0, len(response), send_miu): fragment = response[offset:offset + send_miu]`: the regenerated
offsets, the regenerated slice (`ho_srv_frag`, group Snep); a send MIU of 0 would be ValueError (no fragment) -/
def responseFragsGen (response : Bytes) (sendMiu : Nat) : List Bytes :=
  match Gen.Fn.hc_srv_offsets response (sendMiu : Int) with
  | .ok offs => offs.map (fun o => Gen.Fn.ho_srv_frag response o (sendMiu : Int))
  | .error _ => []

/-- `HandoverServer.serve` from one blocking `poll("recv")` to the next -/
def srvOnRecvGen (cfg : HCfg) : HS → Bytes → HS × List Bytes × List Bytes
  | .collecting request, m =>
    let r := Gen.Fn.hc_srv_append request m
    if Gen.Fn.hc_srv_need_data r = true then (.collecting r, [], [])
    else if cfg.complete r = false then (.collecting r, [], [])
    else (.collecting (if cfg.reset then Gen.Fn.hc_srv_new_request else r), responseFragsGen (cfg.handler r) cfg.smiu, [r])
  | .closed, _ => (.closed, [], [])

/-- `HandoverClient.recv_octets` from one blocking `poll("recv")` to the next -/
def cliOnRecvGen (complete : Bytes → Bool) : HC → Bytes → HC × List Bytes
  | .collecting octets, m =>
    let o := Gen.Fn.hc_cli_append octets m
    if complete o then (.done (some (Gen.Fn.hc_cli_result o)), [])
    else (.collecting o, [])
  | st, _ => (st, [])

/-- the reassembly loop of the SNEP client's `recv_response`: the regenerated `+=`, loop condition (`snep_cli_more_loop`,
group Snep) and result -/
def snepReasmGen (op : Snep.Op) (buf : Bytes) (length : Nat) (m : Bytes) : Snep.CState × List Bytes :=
  let b := Gen.Fn.hc_snep_append buf m
  if Gen.Fn.snep_cli_more_loop b (length : Int) = true then (.reasm op b length, [])
  else (.done (FnBridge.Snep.cliFinishGen op (Gen.Fn.hc_snep_result b)), [])

/-- the empty NDEF record; `encMsg [emptyRecord]` (`Model/Handover.lean`: record encoding) is the message a GET without
octets sends -/
def emptyRecord : Rec := { tnf := 0, sr := true, typ := [], id := none, payload := [] }

end NfcVerif.FnBridge.HoClient
