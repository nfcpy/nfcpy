import NfcVerif.Lemmas.FnBridgeSnep
import NfcVerif.Gen.FnSnepHo
import NfcVerif.Model.FnSnepHoRef
/-!
# Group SnepHo: loop lemmas and compositions

* `forM_sendEach`, `forC_sendWhile`, `whileC_reasm`: the regenerated `for` / `while` loops over oracle sockets are the
  structurally recursive reference functions of `Model/FnSnepHoRef.lean`;
* `putReleaseGen`, `getReleaseGen`, `requestGen`, `hoStepGen`: the hand-written control skeleton around the regenerated
  tests and assignments (the translator refuses the `try .. except ..: return` / `continue` statements they sit in).
-/
namespace NfcVerif.FnBridge.SnepHo
open NfcVerif NfcVerif.PyFn NfcVerif.Chan NfcVerif.Snep NfcVerif.FnSnepHoRef NfcVerif.FnBridge NfcVerif.FnBridge.Snep

/-- the regenerated `for offset in parts: send(f offset)` offers `parts.map f` in order -/
theorem forM_sendEach {α} (send : Bytes → Py Bool) (f : α → Bytes) : ∀ (l : List α),
    PyFn.forM l () (fun (() : Unit) (o : α) => send (f o) >>= fun _ => Except.ok ()) = sendEach send (l.map f) := by
  intro l
  induction l with
  | nil => rfl
  | cons a t ih =>
    simp only [PyFn.forM, List.map_cons, sendEach]
    cases send (f a) with
    | error e => rfl
    | ok b => simpa using ih

theorem forC_sendWhile {α} (send : Bytes → Py Bool) (f : α → Bytes) : ∀ (l : List α),
    PyFn.forC (ρ := Option Int) l () (fun (() : Unit) (o : α) =>
      send (f o) >>= fun t2 => Except.ok (if (¬ (t2 = true)) then (PyFn.Ctl.ret ((none : (Option Int)))) else (PyFn.Ctl.next ())))
    = match sendWhile send (l.map f) with
      | .error e => .error e
      | .ok true => .ok (.inl ())
      | .ok false => .ok (.inr none) := by
  intro l
  induction l with
  | nil => rfl
  | cons a t ih =>
    simp only [PyFn.forC, List.map_cons, sendWhile]
    cases send (f a) with
    | error e => rfl
    | ok b =>
      cases b with
      | false => rfl
      | true => simpa using ih

theorem whileC_reasm (poll : Py Bool) (recv : Py Bytes) (length : Nat) : ∀ (fuel : Nat) (buf : Bytes),
    (PyFn.whileC (ρ := (Option Bytes)) fuel buf
          (fun (s : Bytes) => Except.ok (decide (((PyFn.len s) - 6) < (length : Int))))
          (fun (s : Bytes) =>
            poll >>= fun t4 =>
            if (t4 = true) then
              (recv >>= fun t5 =>
               Except.ok (let s3 := (s ++ t5)
                (PyFn.Ctl.next s3)))
            else
            Except.ok ((PyFn.Ctl.ret ((none : (Option Bytes)))))) >>= fun c =>
        match c with
        | .inr r => Except.ok r
        | .inl s4 => Except.ok (some s4))
      = reasm poll recv length fuel buf := by
  intro fuel
  induction fuel with
  | zero => intro buf; rfl
  | succ n ih =>
    intro buf
    unfold reasm
    rw [← len_eq buf]
    simp only [PyFn.whileC]
    by_cases hc : PyFn.len buf - 6 < (length : Int)
    · simp only [hc, decide_true, if_true]
      cases poll with
      | error e => rfl
      | ok b =>
        cases b with
        | false => rfl
        | true =>
          cases recv with
          | error e => rfl
          | ok m => simpa using ih (buf ++ m)
    · simp [hc]


/-! ## compositions -/

/-- a socket object (truthy) / None as the marker the regenerated tests read -/
def sockTok {α} (s : Option α) : Option Int := s.map (fun _ => 1)

/-- `release_connection` after statement 0 of `put_octets`: the regenerated test and the two regenerated assignments -/
def putReleaseGen (sock : Option Int) : Bool :=
  if Gen.Fn.sh_put_need_connect sock = true then Gen.Fn.sh_put_release_opened else Gen.Fn.sh_put_release_kept

/-- the same for statement 1 of `get_octets` -/
def getReleaseGen (sock : Option Int) : Bool :=
  if Gen.Fn.sh_get_need_connect sock = true then Gen.Fn.sh_get_release_opened else Gen.Fn.sh_get_release_kept

/-- `put_octets` / `get_octets` of the C06 object model with the regenerated connection test and `release_connection`
values (hand written: `connect`, `exchange`) -/
def requestGen (w : SnepObj.World) (fuel : Nat) (o : SnepObj.Obj) (op : Op) (octets : Bytes) : SnepObj.Obj × SnepObj.HRes :=
  if Gen.Fn.sh_put_need_connect (sockTok o.sock) = true then
    match SnepObj.connect w o 0 with
    | (o1, .unit) => SnepObj.exchange w fuel o1 Gen.Fn.sh_put_release_opened op octets
    | (o1, _) => (o1, .res (sendFailed op))
  else SnepObj.exchange w fuel o Gen.Fn.sh_put_release_kept op octets

/-- `HandoverServer.serve` behind `request += socket.recv()`: the regenerated guard in front of the completeness test -/
def hoStepGen (complete : Bytes → Bool) (request : Bytes) : HoStep :=
  if Gen.Fn.sh_ho_guard request = true then .needData else if complete request then .process else .needMore

end NfcVerif.FnBridge.SnepHo
