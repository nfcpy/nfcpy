import NfcVerif.Lemmas.T4
/-! Type 4 Tag: READ BINARY loop, specification of `writeNdef`, the file after a write. -/
namespace NfcVerif.T4
open NfcVerif.T34

/-- the reader's limits `i` are usable against card `c` with an NDEF file of `flen` octets -/
structure Lim (c : Card) (i : Info) (flen : Nat) : Prop where
  nl : i.nlenSize = 2 ∨ i.nlenSize = 4
  le : i.nlenSize ≤ i.maxLe ∧ i.maxLe ≤ 256 ∧ i.maxLe ≤ c.mle
  lc : 1 ≤ i.maxLc ∧ i.maxLc ≤ 255 ∧ i.maxLc ≤ c.mlc
  size : i.nlenSize ≤ flen

theorem readBinary_ok (c : Card) (f : Bytes) (maxLe off size : Nat) (hle : 1 ≤ maxLe ∧ maxLe ≤ 256 ∧ maxLe ≤ c.mle)
    (hs : 1 ≤ size) (hoff : off + size ≤ f.length) (h65 : off + size ≤ 65536) :
    readBinary c f maxLe off (size : Int) = .ok (sliceN f off (off + min maxLe size)) := by
  unfold readBinary
  rw [if_neg (by omega)]
  have hmd : min (maxLe : Int) (size : Int) = ((min maxLe size : Nat) : Int) := by omega
  simp only [hmd]
  rw [if_neg (by omega), if_neg (by omega)]
  unfold cardRead
  rw [if_neg (by simp only [Int.toNat_natCast]; omega), if_neg (by omega)]
  simp

theorem readLoop_spec (c : Card) (i : Info) (nlen : Nat) (hle : 1 ≤ i.maxLe ∧ i.maxLe ≤ 256 ∧ i.maxLe ≤ c.mle)
    (hf : i.nlenSize + nlen ≤ c.file.length) (h65 : i.nlenSize + nlen ≤ 65536) :
    ∀ fuel acc, 0 < fuel → nlen < fuel + acc.length → acc.length ≤ nlen →
      readLoop c i nlen fuel acc = .ok (acc ++ sliceN c.file (i.nlenSize + acc.length) (i.nlenSize + nlen)) := by
  intro fuel
  induction fuel with
  | zero => intro acc h; omega
  | succ fuel ih =>
    intro acc _ hfu hacc
    unfold readLoop
    split
    · rw [sliceN_empty _ _ _ (by omega)]; simp
    · have hlt : acc.length < nlen := by omega
      have hcast : ((nlen : Int) - (acc.length : Int)) = ((nlen - acc.length : Nat) : Int) := by omega
      rw [hcast, readBinary_ok c c.file i.maxLe _ (nlen - acc.length) hle (by omega) (by omega) (by omega)]
      simp only [Py.bind_ok]
      have hdl : (sliceN c.file (i.nlenSize + acc.length) (i.nlenSize + acc.length + min i.maxLe (nlen - acc.length))).length
          = min i.maxLe (nlen - acc.length) := by
        rw [sliceN_length _ _ _ (by omega)]; omega
      rw [if_neg (by rw [hdl]; omega)]
      rw [ih _ (by omega) (by rw [List.length_append, hdl]; omega) (by rw [List.length_append, hdl]; omega)]
      rw [List.append_assoc, List.length_append, hdl]
      congr 2
      rw [show i.nlenSize + (acc.length + min i.maxLe (nlen - acc.length))
            = i.nlenSize + acc.length + min i.maxLe (nlen - acc.length) by omega]
      exact sliceN_append _ _ _ _ (by omega) (by omega)

/-- reading the NDEF file once the capability container has been understood -/
theorem readNdef_spec (v : Variant) (c : Card) (i : Info) (hd : discover v c = .ok (some i)) (hfid : i.fid = c.fid)
    (lim : Lim c i c.file.length) (hn : i.nlenSize + beNat (c.file.take i.nlenSize) ≤ c.file.length)
    (hn65 : i.nlenSize + beNat (c.file.take i.nlenSize) ≤ 65536) :
    readNdef v c = .ok (some ⟨i, ⟨i.capacity, i.readable, i.writeable,
      sliceN c.file i.nlenSize (i.nlenSize + beNat (c.file.take i.nlenSize))⟩⟩) := by
  have hnl := lim.nl; have hle := lim.le; have hsz := lim.size
  unfold readNdef
  simp only [hd, Py.bind_ok]
  rw [if_neg (by simp [hfid])]
  rw [readBinary_ok c c.file i.maxLe 0 i.nlenSize (by omega) (by omega) (by omega) (by omega)]
  simp only [Py.bind_ok, Nat.zero_add, Nat.min_eq_right hle.1, sliceN_zero_take]
  rw [if_neg (by simp [List.length_take]; omega)]
  rw [readLoop_spec c i _ (by omega) hn hn65 _ [] (by omega) (by simp) (by simp)]
  simp [catchTag]

/-- overwriting the placeholder `z` in front of `d` by `a` of the same size -/
theorem splice_overwrite_prefix (f a z d : Bytes) (h : a.length = z.length) :
    splice (splice f 0 (z ++ d)) 0 a = splice f 0 (a ++ d) := by
  rw [splice_zero, splice_zero, splice_zero, List.append_assoc z, List.drop_left' h.symm]
  simp only [List.length_append, h, List.append_assoc]

theorem beNat_toBE2 (n : Nat) (h : n < 65536) : beNat (toBE 2 n) = n := by
  simp [toBE, beNat]; omega

theorem beNat_toBE4 (n : Nat) (h : n < 4294967296) : beNat (toBE 4 n) = n := by
  simp [toBE, beNat]; omega

theorem beNat_zeros (k : Nat) : beNat (zeros k) = 0 := by
  unfold beNat zeros
  induction k with
  | zero => rfl
  | succ k ih => rw [List.replicate_succ, List.foldl_cons]; simpa using ih

/-- file after a complete write -/
def finalFile (f : Bytes) (nl : Nat) (data : Bytes) : Bytes := splice f 0 (toBE nl data.length ++ data)

theorem finalFile_length (f : Bytes) (nl : Nat) (data : Bytes) (h : nl + data.length ≤ f.length) :
    (finalFile f nl data).length = f.length :=
  splice_length _ _ _ (by rw [List.length_append, toBE_length]; omega)

theorem finalFile_nlen (f : Bytes) (nl : Nat) (data : Bytes) :
    (finalFile f nl data).take nl = toBE nl data.length := by
  rw [finalFile, splice_zero, List.append_assoc, List.take_left' (toBE_length _ _)]

theorem finalFile_data (f : Bytes) (nl : Nat) (data : Bytes) :
    sliceN (finalFile f nl data) nl (nl + data.length) = data := by
  rw [finalFile, splice_zero, List.append_assoc, sliceN, List.drop_left' (toBE_length _ _), Nat.add_sub_cancel_left,
    List.take_left]

theorem finalFile_beyond (f : Bytes) (nl : Nat) (data : Bytes) (h : nl + data.length ≤ f.length) :
    (finalFile f nl data).drop (nl + data.length) = f.drop (nl + data.length) :=
  splice_drop_after _ _ _ _ (by rw [List.length_append, toBE_length]; omega)
    (by rw [List.length_append, toBE_length]; omega)

theorem planWrite_mem (v : Variant) (i : Info) (data : Bytes) (hlc : 1 ≤ i.maxLc) (hnl : 1 ≤ i.nlenSize) :
    ∀ u ∈ planWrite v i data,
      1 ≤ u.data.length ∧ u.data.length ≤ i.maxLc ∧ u.off + u.data.length ≤ i.nlenSize + data.length := by
  intro u hu
  unfold planWrite at hu
  dsimp only at hu
  split at hu
  · have := chunk_mem i.maxLc _ hlc _ _ u hu
    rw [List.length_append, toBE_length] at this; omega
  · rcases List.mem_append.mp hu with hu | hu
    · have := chunk_mem i.maxLc _ hlc _ _ u hu
      rw [List.length_append, zeros_length] at this; omega
    · split at hu
      · have := chunk_mem i.maxLc _ hlc _ _ u hu
        rw [toBE_length] at this; omega
      · rw [List.mem_singleton.mp hu]
        simp only [List.length_take, toBE_length]
        omega

theorem applyU_planWrite (v : Variant) (i : Info) (data f : Bytes) (hlc : 1 ≤ i.maxLc)
    (hl : i.nlenSize + data.length ≤ f.length) (hv : v.nlenLoop = true ∨ i.nlenSize ≤ i.maxLc) :
    applyU f (planWrite v i data) = finalFile f i.nlenSize data := by
  have hb : (toBE i.nlenSize data.length ++ data).length = i.nlenSize + data.length := by
    rw [List.length_append, toBE_length]
  have hz : (zeros i.nlenSize ++ data).length = i.nlenSize + data.length := by
    rw [List.length_append, zeros_length]
  unfold planWrite
  dsimp only
  split
  · rw [applyU_chunk _ _ hlc _ 0 f (by omega) (by omega)]; rfl
  · have hfin : splice (splice f 0 (zeros i.nlenSize ++ data)) 0 (toBE i.nlenSize data.length)
        = finalFile f i.nlenSize data :=
      splice_overwrite_prefix _ _ _ _ (by rw [toBE_length, zeros_length])
    rw [applyU_append, applyU_chunk _ _ hlc _ 0 f (by omega) (by omega), List.drop_zero]
    split
    · rw [applyU_chunk _ _ hlc _ 0 _ (by rw [toBE_length]; omega)
        (by rw [toBE_length, splice_length _ _ _ (by omega)]; omega)]
      exact hfin
    · rename_i hnv
      rw [List.take_of_length_le (by rw [toBE_length]; exact hv.resolve_left hnv)]
      exact hfin

theorem writeNdef_spec (v : Variant) (c : Card) (i : Info) (data : Bytes) (lim : Lim c i c.file.length)
    (hlen : i.nlenSize + data.length ≤ c.file.length) (h65 : i.nlenSize + data.length ≤ 65536)
    (hv : v.nlenLoop = true ∨ i.nlenSize ≤ i.maxLc) :
    writeNdef v c i data = ⟨planWrite v i data, finalFile c.file i.nlenSize data, .ok ()⟩ := by
  have hnl := lim.nl; have hlc := lim.lc
  unfold writeNdef
  rw [if_neg (by rcases hnl with h | h <;> rw [h] <;> omega),
    runU_ok c i.maxLc _ hlc.2 h65 _ _ hlen (planWrite_mem v i data hlc.1 (by omega)),
    applyU_planWrite v i data c.file hlc.1 hlen hv]

end NfcVerif.T4
