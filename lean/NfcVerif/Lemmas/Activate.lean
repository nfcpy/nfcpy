import NfcVerif.Model.Activate
/-!
# Lemmas for the activation model (property C19)

What one device encodes the other decodes to what was announced: the PAX TLVs (`pax_roundtrip`, through `Decodes`),
the LLC options a device may legally use (`ValidLlc`; `takeover_sendPax`, `negotiated_llc`), ATR_REQ / ATR_RES and what
each side then holds (`initiatorSide_spec`, `targetSide_spec`).  Beside that, later traffic fits the announced length
reduction (`inf_within`), and peer general bytes raise nothing but DecodeError (`paxLoop_safe`).
-/

namespace NfcVerif.Activate

theorem clampI_le (hi x : Int) (_h : 0 ≤ hi) : (clampI 0 hi x : Int) ≤ hi := by
  unfold clampI; omega

theorem clampI_id (hi x : Int) (h0 : 0 ≤ x) (h1 : x ≤ hi) : (clampI 0 hi x : Int) = x := by
  unfold clampI; omega

theorem clampI_low (hi x : Int) (h0 : x ≤ 0) (_h : 0 ≤ hi) : clampI 0 hi x = 0 := by
  unfold clampI; omega

theorem clampI_high (hi x : Int) (h0 : hi ≤ x) (h : 0 ≤ hi) : (clampI 0 hi x : Int) = hi := by
  unfold clampI; omega

theorem clampI_le_nat (hi : Nat) (x : Int) : clampI 0 hi x ≤ hi := by
  unfold clampI; omega

theorem lrTable_ge (i : Nat) : 64 ≤ lrTable i := by
  unfold lrTable; split <;> omega

theorem lrTable_le (i : Nat) : lrTable i ≤ 254 := by
  unfold lrTable; split <;> omega

/-- every TLV value fits its field -/
def Pax.WF (p : Pax) : Prop :=
  (∀ v, p.version = some v → v < 256) ∧ (∀ v, p.miux = some v → v < 2048) ∧
  (∀ v, p.wks = some v → v < 65536) ∧ (∀ v, p.lto = some v → v < 256) ∧ (∀ v, p.opt = some v → v < 8)

theorem tlv1_some (t v : Nat) (h : v < 256) : tlv1 t (some v) = .ok [t, 1, v] :=
  if_neg (by omega)
theorem tlv2_some (t v : Nat) (h : v < 65536) : tlv2 t (some v) = .ok [t, 2, v / 256, v % 256] :=
  if_neg (by omega)
@[simp] theorem tlv1_none (t : Nat) : tlv1 t none = .ok [] := rfl
@[simp] theorem tlv2_none (t : Nat) : tlv2 t none = .ok [] := rfl

theorem tlv1_length {t : Nat} {o : Option Nat} {r : Bytes} (h : tlv1 t o = .ok r) : r.length ≤ 3 := by
  cases o with
  | none => cases h; exact Nat.zero_le _
  | some v =>
    simp only [tlv1] at h
    split at h <;> cases h
    exact Nat.le_refl _

theorem tlv2_length {t : Nat} {o : Option Nat} {r : Bytes} (h : tlv2 t o = .ok r) : r.length ≤ 4 := by
  cases o with
  | none => cases h; exact Nat.zero_le _
  | some v =>
    simp only [tlv2] at h
    split at h <;> cases h
    exact Nat.le_refl _

theorem encodeTlvs_length {p : Pax} {t : Bytes} (h : encodeTlvs p = .ok t) : t.length ≤ 17 := by
  simp only [encodeTlvs, Py.bind_eq_ok] at h
  obtain ⟨a, ha, b, hb, c, hc, d, hd, e, he, hh⟩ := h
  cases hh
  have := tlv1_length ha; have := tlv2_length hb; have := tlv2_length hc
  have := tlv1_length hd; have := tlv1_length he
  simp only [List.length_append]; omega

/-- The decoding loop works off the prefix `a`, which turns `q` into `q'`.  It spends one unit of fuel per TLV,
so how much is left depends on `a`; only that it suffices for the rest matters. -/
def Decodes (a : Bytes) (q q' : Pax) : Prop :=
  ∀ n rest, (a ++ rest).length ≤ n → ∃ m, rest.length ≤ m ∧ paxLoop n (a ++ rest) q = paxLoop m rest q'

theorem Decodes.nil (q : Pax) : Decodes [] q q := fun n _ h => ⟨n, h, rfl⟩

theorem Decodes.tlv {t l : Nat} {v : Bytes} {q q' : Pax} (hv : v.length = l) (hq : paxTlv q t l v = .ok q') :
    Decodes (t :: l :: v) q q' := by
  intro n rest hn
  simp only [List.cons_append, List.length_cons, List.length_append] at hn
  obtain ⟨m, rfl⟩ : ∃ m, n = m + 1 := ⟨n - 1, by omega⟩
  subst hv
  refine ⟨m, by omega, ?_⟩
  have hlen : ¬ v.length + rest.length < v.length := by omega
  simp [paxLoop, hlen, hq]

theorem Decodes.append {a b : Bytes} {q q' q'' : Pax} (ha : Decodes a q q') (hb : Decodes b q' q'') :
    Decodes (a ++ b) q q'' := by
  intro n rest hn
  rw [List.append_assoc] at hn ⊢
  obtain ⟨m, hm, e⟩ := ha n (b ++ rest) hn
  obtain ⟨k, hk, e'⟩ := hb m rest hm
  exact ⟨k, hk, e.trans e'⟩

theorem Decodes.decode {a : Bytes} {p : Pax} (h : Decodes a Pax.empty p) : decodeTlvs a = .ok p := by
  obtain ⟨m, _, e⟩ := h a.length [] (by simp)
  rw [List.append_nil] at e
  rw [decodeTlvs, e]
  cases m <;> rfl

theorem pax_roundtrip (p : Pax) (h : Pax.WF p) :
    ∃ t, encodeTlvs p = .ok t ∧ t.length ≤ 17 ∧ (p.version ≠ none → 3 ≤ t.length) ∧ decodeTlvs t = .ok p := by
  obtain ⟨ver, miux, wks, lto, opt⟩ := p
  obtain ⟨h1, h2, h3, h4, h5⟩ := h
  -- field by field: the TLV is built, and decoding it sets that field and no other
  have d1 : ∃ a, tlv1 1 ver = .ok a ∧ (ver ≠ none → 3 ≤ a.length) ∧
      Decodes a ⟨none, none, none, none, none⟩ ⟨ver, none, none, none, none⟩ := by
    cases ver with
    | none => exact ⟨[], rfl, fun h => absurd rfl h, .nil _⟩
    | some v =>
      exact ⟨_, tlv1_some 1 v (h1 v rfl), fun _ => Nat.le_refl _, .tlv rfl (by simp [paxTlv, beNat])⟩
  have d2 : ∃ b, tlv2 2 miux = .ok b ∧ Decodes b ⟨ver, none, none, none, none⟩ ⟨ver, miux, none, none, none⟩ := by
    cases miux with
    | none => exact ⟨[], rfl, .nil _⟩
    | some v =>
      have := h2 v rfl
      exact ⟨_, tlv2_some 2 v (by omega), .tlv rfl (by simp [paxTlv, beNat]; omega)⟩
  have d3 : ∃ c, tlv2 3 wks = .ok c ∧ Decodes c ⟨ver, miux, none, none, none⟩ ⟨ver, miux, wks, none, none⟩ := by
    cases wks with
    | none => exact ⟨[], rfl, .nil _⟩
    | some v =>
      have := h3 v rfl
      exact ⟨_, tlv2_some 3 v this, .tlv rfl (by simp [paxTlv, beNat]; omega)⟩
  have d4 : ∃ d, tlv1 4 lto = .ok d ∧ Decodes d ⟨ver, miux, wks, none, none⟩ ⟨ver, miux, wks, lto, none⟩ := by
    cases lto with
    | none => exact ⟨[], rfl, .nil _⟩
    | some v => exact ⟨_, tlv1_some 4 v (h4 v rfl), .tlv rfl (by simp [paxTlv, beNat])⟩
  have d5 : ∃ e, tlv1 7 opt = .ok e ∧ Decodes e ⟨ver, miux, wks, lto, none⟩ ⟨ver, miux, wks, lto, opt⟩ := by
    cases opt with
    | none => exact ⟨[], rfl, .nil _⟩
    | some v =>
      have := h5 v rfl
      exact ⟨_, tlv1_some 7 v (by omega), .tlv rfl (by simp [paxTlv, beNat]; omega)⟩
  obtain ⟨a, ea, la, da⟩ := d1
  obtain ⟨b, eb, db⟩ := d2
  obtain ⟨c, ec, dc⟩ := d3
  obtain ⟨d, ed, dd⟩ := d4
  obtain ⟨e, ee, de⟩ := d5
  have enc : encodeTlvs ⟨ver, miux, wks, lto, opt⟩ = .ok (a ++ b ++ c ++ d ++ e) := by
    simp only [encodeTlvs, ea, eb, ec, ed, ee, Py.bind_ok]
  refine ⟨_, enc, encodeTlvs_length enc, fun hv => ?_, ((((da.append db).append dc).append dd).append de).decode⟩
  have := la hv
  simp only [List.length_append]; omega

/-- documented range of the LLC options: MIU 128..2175, link timeout a multiple of 10 ms that fits
one octet, link service class 0..3 -/
def ValidLlc (o : LlcOpts) : Prop :=
  128 ≤ o.miu ∧ o.miu ≤ 2175 ∧ 0 ≤ o.lto ∧ o.lto ≤ 2550 ∧ o.lto % 10 = 0 ∧ 0 ≤ o.lsc ∧ o.lsc ≤ 3

instance (o : LlcOpts) : Decidable (ValidLlc o) := by unfold ValidLlc; infer_instance

/-- the two `match`es are how `takeover` reads the OPT value back -/
theorem sendPax_opt (o : LlcOpts) (h0 : 0 ≤ o.lsc) (h3 : o.lsc ≤ 3) :
    (∀ v, (sendPax o).opt = some v → v < 8) ∧
    (match (sendPax o).opt with | none => 0 | some x => x % 4) = o.lsc.toNat ∧
    (match (sendPax o).opt with | none => 0 | some x => (x / 4) % 2) = if o.sec then 1 else 0 := by
  obtain ⟨miu, lto, lsc, agf, sec, saps⟩ := o
  obtain rfl | rfl | rfl | rfl : lsc = 0 ∨ lsc = 1 ∨ lsc = 2 ∨ lsc = 3 := by simp only at h0 h3; omega
  all_goals cases sec <;>
    simp [sendPax]

theorem sendPax_wf (o : LlcOpts) (h : ValidLlc o) : Pax.WF (sendPax o) := by
  obtain ⟨h1, h2, h3, h4, h5, h6, h7⟩ := h
  refine ⟨fun v hv => ?_, fun v hv => ?_, fun v hv => ?_, fun v hv => ?_, (sendPax_opt o h6 h7).1⟩
  · cases hv; decide
  · simp only [sendPax] at hv
    split at hv <;> cases hv
    omega
  · cases hv; exact Nat.mod_lt _ (by decide)
  · simp only [sendPax] at hv
    split at hv <;> cases hv
    omega

/-- the parameters device A must hold about device B -/
def agreed (A B : LlcOpts) : LlcHeld :=
  { recvMiu := A.miu, sendLto := A.lto, agf := A.agf, sec := A.sec
    ver := (1, 3)
    sendMiu := B.miu.toNat
    recvLto := B.lto.toNat
    sendWks := wksOf B.saps
    sendLsc := B.lsc.toNat
    dpc := if A.sec && B.sec then 1 else 0 }

theorem takeover_sendPax (A B : LlcOpts) (h : ValidLlc B) : takeover A (sendPax B) = agreed A B := by
  obtain ⟨h1, h2, h3, h4, h5, h6, h7⟩ := h
  obtain ⟨-, hlsc, hdpc⟩ := sendPax_opt B h6 h7
  have e1 : (match (sendPax B).miux with | none => 128 | some m => m + 128) = B.miu.toNat := by
    by_cases hm : B.miu = 128
    · simp [sendPax, hm]
    · simp only [sendPax, ne_eq, hm, not_false_eq_true, if_true]
      -- `show` states the goal with the `max` that `omega` knows
      show (max (B.miu - 128) 0).toNat + 128 = B.miu.toNat
      omega
  have e2 : (match (sendPax B).lto with | none => 10 | some l => l) * 10 = B.lto.toNat := by
    by_cases hm : B.lto = 100
    · simp [sendPax, hm]
    · simp only [sendPax, ne_eq, hm, not_false_eq_true, if_true]
      rw [Int.fdiv_eq_ediv_of_nonneg _ (by decide)]
      show ((B.lto / 10) % 256).toNat * 10 = B.lto.toNat
      omega
  unfold takeover agreed
  -- `congr` closes the fields `sendMiu`, `recvLto`, `sendLsc` by `e1`, `e2`, `hlsc`; `dpc` is left
  congr 1
  cases A.sec
  · rfl
  · exact hdpc

/-- LLC half of the property: what A takes over from the general bytes B built equals what B
announced, for every valid option set of B and any options of A -/
theorem negotiated_llc (A B : LlcOpts) (hB : ValidLlc B) :
    ∃ gb, encodeGb (sendPax B) = .ok gb ∧ gb.length ≤ 20 ∧ llcLink A gb = .ok (some (agreed A B)) := by
  obtain ⟨t, ht, hl, h3, hd⟩ := pax_roundtrip (sendPax B) (sendPax_wf B hB)
  have hv : (sendPax B).version ≠ none := by simp [sendPax]
  refine ⟨magic ++ t, ?_, ?_, ?_⟩
  · simp [encodeGb, ht]
  · simp [magic]; omega
  · have hdrop : (magic ++ t).drop 3 = t := by simp [magic]
    have hacc : gbAccepted (magic ++ t) = true := by
      have := h3 hv
      simp [gbAccepted, magic]; omega
    simp only [llcLink, hacc, if_true, hdrop, hd, takeover_sendPax A B hB]

/-- the general bytes always fit: `gbi[0:48]` / `gbt[0:47]` never cut a TLV -/
theorem gb_length {p : Pax} {gb : Bytes} (h : encodeGb p = .ok gb) : gb.length ≤ 20 := by
  obtain ⟨t, ht, hg⟩ := Py.bind_eq_ok.mp h
  cases hg
  have := encodeTlvs_length ht
  simp only [List.length_append, magic, List.length_cons, List.length_nil]; omega

theorem decodeAtrRes_atrRes (id : Bytes) (h : id.length = 10) (to pp : Nat) (gb : Bytes) :
    decodeAtrRes (atrRes id to pp gb) = .ok ⟨id, to, pp, if pp &&& 2 ≠ 0 then gb else []⟩ := by
  have h3 : id.drop 15 = [] := List.drop_of_length_le (by omega)
  simp [decodeAtrRes, atrRes, List.drop_append, List.take_append, h, h3]

theorem decodeAtrReq_atrReq (id : Bytes) (h : id.length = 10) (did pp : Nat) (gb : Bytes) :
    decodeAtrReq (atrReq id did pp gb) = .ok ⟨id, did, pp, if pp &&& 2 ≠ 0 then gb else []⟩ := by
  have h3 : id.drop 14 = [] := List.drop_of_length_le (by omega)
  simp [decodeAtrReq, atrReq, List.drop_append, List.take_append, h, h3]

/-- the PP octet carries the length reduction in bits 4..5 and "general bytes present" in bit 1 -/
theorem pp_fields (l : Nat) (hl : l ≤ 3) (g n : Bool) :
    ((l * 16 + boolBit g 2 + boolBit n 1) / 16) % 4 = l ∧
    (((l * 16 + boolBit g 2 + boolBit n 1) &&& 2 ≠ 0) ↔ g = true) := by
  have : l = 0 ∨ l = 1 ∨ l = 2 ∨ l = 3 := by omega
  rcases this with rfl | rfl | rfl | rfl <;> cases g <;> cases n <;> decide

theorem gb_if (pp : Nat) (gb : Bytes) (h : (pp &&& 2 ≠ 0) ↔ (!gb.isEmpty) = true) :
    (if pp &&& 2 ≠ 0 then gb else []) = gb := by
  by_cases hc : pp &&& 2 ≠ 0
  · simp [hc]
  · have : ¬ ((!gb.isEmpty) = true) := fun hh => hc (h.mpr hh)
    have he : gb = [] := by
      cases gb with
      | nil => rfl
      | cons a l => simp at this
    simp [he]

theorem pslBrty_pslReq (did brs lri : Nat) (h : brs ≤ 2) : pslBrty (pslReq did brs lri) = brs := by
  have : brs = 0 ∨ brs = 1 ∨ brs = 2 := by omega
  rcases this with rfl | rfl | rfl <;> rfl

/-- what the Initiator must hold about the NFC-DEP link -/
def iAgreed (I T : Side) (f : Found) (acm : Bool) : IHeld :=
  { miu := lrTable (clampI 0 3 T.dep.lrt) - 3 - boolBit I.dep.did.isSome 1 - boolBit I.dep.nad.isSome 1
    wt := clampI 0 14 T.dep.rwt
    brty := max f.brty (clampI 0 2 I.dep.brs)
    did := I.dep.did, nad := I.dep.nad, acm := acm
    brs := clampI 0 2 I.dep.brs, lri := clampI 0 3 I.dep.lri }

/-- what the Target must hold about the NFC-DEP link -/
def tAgreed (I T : Side) (f : Found) : THeld :=
  { miu := lrTable (clampI 0 3 I.dep.lri) - 3 - boolBit (didByte I.dep.did > 0) 1
    wt := clampI 0 14 T.dep.rwt
    brty := max f.brty (clampI 0 2 I.dep.brs)
    did := if didByte I.dep.did > 0 then some (didByte I.dep.did) else none
    acm := f.activeMode
    lrt := clampI 0 3 T.dep.lrt }

theorem initiatorSide_spec (I : Side) (acm : Bool) (brs lri brty : Nat) (id : Bytes) (hid : id.length = 10)
    (rwt lrt : Nat) (hr : rwt ≤ 14) (hl : lrt ≤ 3) (gbt : Bytes) (l : Option LlcHeld)
    (hlink : llcLink I.llc gbt = .ok l) :
    initiatorSide I acm brs lri brty (atrRes id rwt (pptOf lrt gbt) gbt) =
      .ok (some ({ miu := lrTable lrt - 3 - boolBit I.dep.did.isSome 1 - boolBit I.dep.nad.isSome 1
                   wt := rwt, brty := brty, did := I.dep.did, nad := I.dep.nad, acm := acm
                   brs := brs, lri := lri }, l)) := by
  have hp := pp_fields lrt hl (!gbt.isEmpty) false
  have hpp : pptOf lrt gbt = lrt * 16 + boolBit (!gbt.isEmpty) 2 + boolBit false 1 := by simp [pptOf, boolBit]
  have hgb := gb_if (pptOf lrt gbt) gbt (by rw [hpp]; exact hp.2)
  have hw : rwt % 16 = rwt := by omega
  have hw2 : (if rwt < 15 then rwt else 14) = rwt := by split <;> omega
  unfold initiatorSide
  rw [decodeAtrRes_atrRes id hid]
  simp only [Py.bind_ok, hgb, hlink, hw, hw2]
  rw [hpp, hp.1]

theorem targetSide_spec (T : Side) (rwt lrt brty : Nat) (am : Bool) (id : Bytes) (hid : id.length = 10)
    (didb lri : Nat) (hl : lri ≤ 3) (gbi : Bytes) (nad : Option Int) (l : Option LlcHeld)
    (hlink : llcLink T.llc gbi = .ok l) :
    targetSide T rwt lrt brty am (atrReq id didb (ppiOf lri gbi nad) gbi) =
      .ok (some ({ miu := lrTable lri - 3 - boolBit (didb > 0) 1
                   wt := rwt, brty := brty
                   did := if didb > 0 then some didb else none
                   acm := am, lrt := lrt }, l)) := by
  have hp := pp_fields lri hl (!gbi.isEmpty) (optTruthy nad)
  have hgb := gb_if (ppiOf lri gbi nad) gbi (by unfold ppiOf; exact hp.2)
  unfold targetSide
  rw [decodeAtrReq_atrReq id hid]
  simp only [Py.bind_ok, hgb, hlink]
  unfold ppiOf
  rw [hp.1]

theorem inf_within (lr : Nat) (did nad : Bool) (n : Nat) :
    infLen did nad (chunk (lrTable lr - 3 - boolBit did 1 - boolBit nad 1) n) ≤ lrTable lr := by
  have := lrTable_ge lr
  unfold infLen chunk
  cases did <;> cases nad <;> simp [boolBit] <;> omega

theorem paxTlv_safe (p : Pax) (t l : Nat) (v : Bytes) : Safe (· = Exc.decodeError) (paxTlv p t l v) := by
  -- every known type checks its length and raises DecodeError or goes on
  have chk : ∀ (c : Prop) [Decidable c] (q : Pax),
      Safe (· = Exc.decodeError) (if c then .error .decodeError else .ok q) :=
    fun _ _ _ => Safe.ite (Safe.throw rfl) (Safe.ok _)
  unfold paxTlv
  exact .ite (chk _ _) <| .ite (chk _ _) <| .ite (chk _ _) <| .ite (chk _ _) <| .ite (chk _ _) <| .ite (chk _ _) <|
    .ite (chk _ _) <| .ite (chk _ _) (Safe.ok _)

theorem paxLoop_safe (fuel : Nat) : ∀ (d : Bytes) (p : Pax), Safe (· = Exc.decodeError) (paxLoop fuel d p) := by
  induction fuel with
  | zero => intro d p; unfold paxLoop; exact Safe.ok _
  | succ n ih =>
    intro d p
    unfold paxLoop
    split
    · apply Safe.ite
      · exact Safe.throw rfl
      · exact Safe.bind' (paxTlv_safe _ _ _ _) (fun a => ih _ a)
    · exact Safe.ok _

end NfcVerif.Activate
