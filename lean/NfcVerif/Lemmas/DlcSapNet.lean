import NfcVerif.Lemmas.DlcSapCli
/-!
# Two controllers joined by FIFO wires

`Flow`: what the receiving side has seen plus what is in flight is what the sending side has handed out.  `NInv` adds
that A, which only initiates connections, keeps the client invariant and B the controller invariant; hence the stream B
sees is disciplined, and the routing theorem applies to every PDU that arrives at B.
-/
namespace NfcVerif.DlcSap
open NfcVerif NfcVerif.Dlc

/-- what the receiver has been given plus what is in flight is what the sender has handed out, in order -/
def Flow (s r : Ctl) (w : List (List WPdu)) : Prop := r.seen ++ w.flatten = s.out

theorem Flow.send {s r : Ctl} {w : List (List WPdu)} (h : Flow s r w) (o : COp) :
    Flow (s.step o).1 r (if (s.step o).2.2.isEmpty then w else w ++ [(s.step o).2.2]) := by
  unfold Flow at h ⊢
  rw [step_out, ← h]
  split
  · rename_i he
    rw [List.isEmpty_iff.1 he, List.append_nil]
  · simp

theorem Flow.recv {s r : Ctl} {w : List (List WPdu)} (h : Flow s r w) (o : COp) (hd : isDlv o = false) :
    Flow s (r.step o).1 w := by
  unfold Flow; rw [step_seen_eq _ _ hd]; exact h

theorem Flow.deliver {s r : Ctl} {f : List WPdu} {w : List (List WPdu)} (h : Flow s r (f :: w)) :
    Flow s (r.step (.dlv f)).1 w := by
  unfold Flow at h ⊢
  rw [← h, show (r.step (.dlv f)).1.seen = r.seen ++ f from dispatchAll_seen r f]
  simp

theorem Flow.disc {s r : Ctl} {w : List (List WPdu)} (h : Flow s r w) (hd : Disc s.out) : Disc r.seen := by
  rw [← h] at hd; exact hd.prefix

/-- the closed system while A only initiates connections -/
structure NInv (n : Net) : Prop where
  ab : Flow n.a n.b n.wab
  ba : Flow n.b n.a n.wba
  cli : KInv n.a
  srv : CInv n.b

theorem netStep_inv (n : Net) (o : NOp) (ho : ∀ o', o = .op .A o' → isListenOp o' = false) (h : NInv n) :
    NInv (n.step o).1 := by
  cases o with
  | op x o' =>
    simp only [Net.step]
    cases hd : isDlv o' with
    | true => exact h
    | false =>
      simp only [Bool.false_eq_true, if_false]
      cases x with
      | A => exact ⟨h.ab.send o', h.ba.recv o' hd, step_k _ o' (ho o' rfl) h.cli, h.srv⟩
      | B =>
        have hab := h.ab.recv o' hd
        exact ⟨hab, h.ba.send o', h.cli, step_inv _ o' h.srv (hab.disc h.cli.disc)⟩
  | deliver x =>
    cases x with
    | A =>
      simp only [Net.step]
      cases hw : n.wba with
      | nil => exact h
      | cons f rest =>
        exact ⟨h.ab.send (.dlv f), (hw ▸ h.ba).deliver, step_k _ (.dlv f) rfl h.cli, h.srv⟩
    | B =>
      simp only [Net.step]
      cases hw : n.wab with
      | nil => exact h
      | cons f rest =>
        have hab : Flow n.a (n.b.step (.dlv f)).1 rest := (hw ▸ h.ab).deliver
        exact ⟨hab, h.ba.send (.dlv f), h.cli, step_inv _ (.dlv f) h.srv (hab.disc h.cli.disc)⟩

/-- side A of the history performs no `listen` -/
def ClientA (hist : List NOp) : Prop := ∀ o ∈ hist, ∀ o', o = .op .A o' → isListenOp o' = false

theorem netRun_inv (n : Net) (hist : List NOp) (hA : ClientA hist) (h : NInv n) : NInv (n.run hist) := by
  induction hist generalizing n with
  | nil => exact h
  | cons o r ih =>
    exact ih _ (fun o' ho' => hA o' (List.mem_cons_of_mem _ ho'))
      (netStep_inv n o (fun o' he => hA o (List.mem_cons_self ..) o' he) h)

theorem netInit_inv (link : Nat) (agf : Bool) : NInv (Net.init link agf) :=
  ⟨rfl, rfl, init_k link agf, init_inv link agf⟩

/-- the closed system: the frame at the head of the wire A -> B is dispatched; its PDU `w` reaches the socket of its
connection -/
theorem NInv.route {n : Net} (h : NInv n)
    (f : List WPdu) (rest : List (List WPdu)) (pre post : List WPdu) (w : WPdu)
    (hwire : n.wab = f :: rest) (hf : f = pre ++ w :: post) (hw : w.isData = true)
    (a : Sap) (ha : a ∈ (n.b.dispatchAll pre).saps) (hda : a.addr = w.dsap)
    (σ : Sock) (hσ : σ ∈ a.socks) (hp : σ.peer = some w.ssap) (hc : σ.cid = w.cid) :
    ∃ pre' post', a.socks = pre' ++ σ :: post' ∧ (∀ τ ∈ pre', matchPeer w.ssap τ = false) ∧
      { a with socks := pre' ++ σ.enqueue w :: post' } ∈ ((n.b.dispatchAll pre).dispatch w).saps := by
  have hd : Disc ((n.b.seen ++ pre) ++ [w]) := by
    have := h.cli.disc
    rw [← h.ab, hwire, hf, show n.b.seen ++ ((pre ++ w :: post) :: rest).flatten =
      ((n.b.seen ++ pre) ++ [w]) ++ (post ++ rest.flatten) by simp] at this
    exact this.prefix
  have hinv := dispatchAll_inv n.b pre h.srv hd.prefix
  rw [← dispatchAll_seen] at hd
  exact hinv.route w hd.last hw a ha hda σ hσ hp hc


/-- executable form of `ClientA` -/
def clientAB : List NOp → Bool
  | [] => true
  | .op .A o :: rest => !isListenOp o && clientAB rest
  | _ :: rest => clientAB rest

theorem ClientA_of_bool (hist : List NOp) (h : clientAB hist = true) : ClientA hist := by
  induction hist with
  | nil => intro o ho; cases ho
  | cons x r ih =>
    intro o ho o' heq
    rcases List.mem_cons.1 ho with rfl | ho
    · subst heq
      simp only [clientAB, Bool.and_eq_true, Bool.not_eq_true'] at h
      exact h.1
    · apply ih _ o ho o' heq
      cases x with
      | op s y =>
        cases s with
        | A => simp only [clientAB, Bool.and_eq_true] at h; exact h.2
        | B => exact h
      | deliver s => exact h

end NfcVerif.DlcSap
