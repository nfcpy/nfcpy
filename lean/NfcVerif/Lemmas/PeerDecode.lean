import NfcVerif.Model.PeerDispatch
import NfcVerif.Lemmas.PduReenc
/-!
# C07: the DSAP field of every decoded PDU is a SAP number (`PduOk`)

A corollary of property C11: a decoded PDU is valid up to its normal form (`Pdu.Impl.spec_valid`
with `decode_refines`), the normal form keeps the address fields, and the DSAP of a valid PDU is
0, 1 or at most 63.
-/
namespace NfcVerif.Peer
open NfcVerif.Pdu

theorem spduOk_of_valid (q : SPdu) (h : ValidS (normS q)) : SPduOk q := by
  unfold SPduOk
  cases q <;> simp only [normS, ValidS, SPdu.dsap] at h ⊢ <;> omega

/-- every DSAP field of a decoded PDU (and of every PDU inside a decoded aggregate) is a SAP number -/
theorem decode_pduOk {b : Bytes} (hb : IsBytes b) {p : Pdu} (h : Impl.decode b = .ok p) : PduOk p := by
  have hv : Valid (norm p) := Impl.spec_valid b hb p (by rw [← Impl.decode_refines b hb, h]; rfl)
  match p, hv with
  | .simple q, hv => exact spduOk_of_valid q hv
  | .agf d s items, hv => exact fun q hq => spduOk_of_valid q (hv.2.2 _ (List.mem_map_of_mem hq)).1
end NfcVerif.Peer
