import NfcVerif.Model.PeerSnep
import NfcVerif.Lemmas.PyPrims
/-!
# C07: the SNEP server and the SNEP client response path are total on the peer's octets

The three definitions of the specification that `Props/C07` states its SNEP results with come first:
`AppOk` (the contract of the application side), and `ofHandlers`, `HandlersOk`, which turn the
application side of C06's SNEP model into an `App` within the field ranges, so that the two request
handlers can be compared (`C07.snep_request_is_c06`, proved there).  Then `processRequest_total` and
`serve_total` for the server with an application that keeps `AppOk`, `recvResponse_total` and
`status_total` for the client.
-/
namespace NfcVerif.PeerSnep
open NfcVerif
open NfcVerif.Snep (contRsp contReq rejectRsp unsupRsp)

/-- the contract of the application side: response codes are octets, a response message fits the
32 bit length field, and decoder / callbacks / encoder raise nothing but the exceptions
`process_snep_request` handles (`ndef.DecodeError`, `ValueError`, `ndef.EncodeError`) -/
def AppOk (app : App) : Prop :=
  (∀ o, match app.get o with
    | .ok (.inl c) => c < 256
    | .ok (.inr d) => d.length < 2 ^ 32
    | .error (.py e) => e = .value
    | .error _ => True) ∧
  (∀ o, match app.put o with
    | .ok c => c < 256
    | .error (.py e) => e = .value
    | .error _ => True)

/-- the application side of C06's model (`valid` = the decoder does not raise) seen as an `App` -/
def ofHandlers (h : Snep.Handlers) : App where
  get o := if h.valid o = false then .error .ndefDecode else .ok (h.get o)
  put o := if h.valid o = false then .error .ndefDecode else .ok (h.put o)

/-- C06's handlers within the field ranges -/
def HandlersOk (h : Snep.Handlers) : Prop :=
  (∀ o, h.put o < 256) ∧ (∀ o, match h.get o with | .inl c => c < 256 | .inr d => d.length < 2 ^ 32)

theorem unpackL_slice (data : Bytes) (h : data.length ≥ 10) :
    unpackL (sliceN data 6 10) = .ok (beNat (sliceN data 6 10)) := by
  unfold unpackL
  rw [if_pos]
  simp only [sliceN, List.length_take, List.length_drop]
  omega

/-- within the field ranges the response is the header of C06's SNEP model followed by the data -/
theorem packResponse_ok (c : Nat) (d : Bytes) (hc : c < 256) (hd : d.length < 2 ^ 32) :
    packResponse c d = .ok (Snep.hdr c d.length ++ d) := by
  unfold packResponse packBBL
  rw [if_neg (by omega)]
  rfl

/-- what the `try` body can end with, given the application contract -/
theorem requestBody_cases (app : App) (h : AppOk app) (data : Bytes) (hd : 2 ≤ data.length) :
    (∃ c d, requestBody app data = .ok (c, d) ∧ c < 256 ∧ d.length < 2 ^ 32) ∨
    requestBody app data = .error .ndefDecode ∨ requestBody app data = .error .ndefEncode ∨
    requestBody app data = .error (.py .value) := by
  unfold requestBody
  obtain ⟨code, hcode, -⟩ := idxN_lt data 1 hd
  simp only [hcode]
  split
  · rename_i hc
    rw [unpackL_slice data hc.2]
    simp only
    have hg := h.1 (data.drop 10)
    cases hr : app.get (data.drop 10) with
    | error x =>
      rw [hr] at hg
      cases x with
      | py e => simp only at hg; subst hg; exact Or.inr (Or.inr (Or.inr rfl))
      | ndefDecode => exact Or.inr (Or.inl rfl)
      | ndefEncode => exact Or.inr (Or.inr (Or.inl rfl))
    | ok r =>
      rw [hr] at hg
      cases r with
      | inl c =>
        simp only at hg
        left
        simp only [Nat.not_lt_zero, if_false]
        exact ⟨c, [], rfl, hg, by simp⟩
      | inr d =>
        simp only at hg
        left
        simp only
        split
        · exact ⟨0xC1, [], rfl, by decide, by simp⟩
        · exact ⟨0x81, d, rfl, by decide, hg⟩
  · split
    · have hp := h.2 (data.drop 6)
      cases hr : app.put (data.drop 6) with
      | error x =>
        rw [hr] at hp
        cases x with
        | py e => simp only at hp; subst hp; exact Or.inr (Or.inr (Or.inr rfl))
        | ndefDecode => exact Or.inr (Or.inl rfl)
        | ndefEncode => exact Or.inr (Or.inr (Or.inl rfl))
      | ok c =>
        rw [hr] at hp
        simp only at hp
        left
        exact ⟨c, [], rfl, hp, by simp⟩
    · left; exact ⟨0xC2, [], rfl, by decide, by simp⟩

/-- `process_snep_request` on ANY message of at least two octets (what `_serve` hands over has at
least six): a response with a complete header, no exception -/
theorem processRequest_total (app : App) (h : AppOk app) (data : Bytes) (hd : 2 ≤ data.length) :
    ∃ r, processRequest app data = .ok r ∧ 6 ≤ r.length ∧ r.take 1 = [0x10] := by
  have pack : ∀ c (d : Bytes), c < 256 → d.length < 2 ^ 32 →
      ∃ r, packResponse c d = .ok r ∧ 6 ≤ r.length ∧ r.take 1 = [0x10] := fun c d hc hl =>
    ⟨_, packResponse_ok c d hc hl, by simp [Snep.hdr, toBE_length], rfl⟩
  unfold processRequest
  rcases requestBody_cases app h data hd with ⟨c, d, hb, hc, hl⟩ | hb | hb | hb <;> rw [hb]
  · exact pack c d hc hl
  · exact pack 0xC2 [] (by decide) (by simp)
  · exact pack 0xC0 [] (by decide) (by simp)
  · exact pack 0xC2 [] (by decide) (by simp)

theorem reasm_len (length : Nat) (data : Bytes) (inbox : List Bytes) :
    (reasm length data inbox).2.length ≤ inbox.length ∧ data.length ≤ (reasm length data inbox).1.length := by
  induction inbox generalizing data with
  | nil => simp [reasm]
  | cons m rest ih =>
    unfold reasm
    split
    · obtain ⟨h1, h2⟩ := ih (data ++ m)
      simp only [List.length_cons, List.length_append] at h2 ⊢
      omega
    · simp

theorem unpackFromBxL_ok (m : Bytes) (h : ¬ m.length < 6) : ∃ vl, unpackFromBxL m = .ok vl := by
  unfold unpackFromBxL
  rw [if_neg h]
  match m, h with
  | a :: _, _ => exact ⟨_, rfl⟩

/-- `_serve` on ANY sequence of fragments from the peer: the thread ends orderly (every request got its
answer, no exception), and `inbox.length + 1` turns of the receive loop suffice: every turn takes the
fragment `m` and goes on with no more than what was queued behind it -/
theorem serve_total (cfg : Cfg) (h : AppOk cfg.app) (fuel : Nat) (inbox sent : List Bytes) (hf : inbox.length < fuel) :
    ∃ out, serve cfg fuel inbox sent = .ok out := by
  -- walked with `Tri`, nothing being allowed to be raised
  suffices walk : Tri (fun _ => False) (fun _ => True) (serve cfg fuel inbox sent) from
    walk.returns.imp fun _ h => h.1
  induction fuel generalizing inbox sent with
  | zero => omega
  | succ fuel ih =>
    match inbox with
    | [] => exact Tri.ok trivial
    | m :: rest =>
      have next : ∀ inbox' sent', inbox'.length ≤ rest.length →
          Tri (fun _ => False) (fun _ => True) (serve cfg fuel inbox' sent') :=
        fun _ _ hl => ih _ _ (by simp only [List.length_cons] at hf; omega)
      unfold serve
      -- a first fragment shorter than the header ends the loop
      refine Tri.ite (fun _ => Tri.ok trivial) fun hm => ?_
      obtain ⟨vl, hvl⟩ := unpackFromBxL_ok m hm
      rw [hvl, Py.bind_ok]
      -- unsupported version, or more announced than is acceptable: answered, on to the next request
      refine Tri.ite (fun _ => next rest _ (Nat.le_refl _)) fun _ =>
        Tri.ite (fun _ => next rest _ (Nat.le_refl _)) fun _ => ?_
      dsimp only
      generalize hdr : (if decide (m.length - 6 < vl.2) = true then reasm vl.2 m rest else (m, rest)) = dr
      have hl : dr.2.length ≤ rest.length ∧ m.length ≤ dr.1.length := by
        subst hdr
        split
        · exact reasm_len _ _ _
        · exact ⟨Nat.le_refl _, Nat.le_refl _⟩
      -- the request is complete (or the connection ended): it is processed and answered
      refine (Tri.of_returns (processRequest_total cfg.app h dr.1 (by omega))).bind fun resp _ => ?_
      -- the response fits one fragment
      refine Tri.ite (fun _ => next dr.2 _ hl.1) fun _ => ?_
      -- or its first fragment is sent and the rest follows if the peer says Continue
      obtain ⟨hl, -⟩ := hl
      generalize dr.2 = q at hl ⊢
      match q, hl with
      | [], _ => exact next [] _ (Nat.zero_le _)
      | c :: rest2, hl =>
        have hl : rest2.length ≤ rest.length := Nat.le_of_succ_le hl
        exact Tri.ite (fun _ => next rest2 _ hl) fun _ => next rest2 _ hl

theorem cliReasm_len (length : Nat) (data : Bytes) (inbox : List Bytes) (r : Bytes)
    (h : cliReasm length data inbox = some r) : data.length ≤ r.length := by
  induction inbox generalizing data with
  | nil =>
    unfold cliReasm at h
    split at h
    · cases h
    · cases h; exact Nat.le_refl _
  | cons m rest ih =>
    unfold cliReasm at h
    split at h
    · have := ih _ h
      simp only [List.length_append] at this
      omega
    · cases h; exact Nat.le_refl _

theorem recvResponse_total (acc : Nat) (inbox : List Bytes) :
    ∃ r, recvResponse acc inbox = .ok r ∧ ∀ resp, r.1 = some resp → 6 ≤ resp.length := by
  unfold recvResponse
  match inbox with
  | [] => exact ⟨_, rfl, fun _ h => by cases h⟩
  | m :: rest =>
    simp only
    split
    · exact ⟨_, rfl, fun _ h => by cases h⟩
    · rename_i hm
      have h6 : (m.take 6).length = 6 := by simp only [List.length_take]; omega
      have : ∃ hh, unpackBBL (m.take 6) = .ok hh := by
        unfold unpackBBL
        rw [if_neg (by omega)]
        match hq : m.take 6, h6 with
        | a :: b :: _, _ => exact ⟨_, rfl⟩
      obtain ⟨hh, hhh⟩ := this
      simp only [hhh, Py.bind_ok]
      split
      · exact ⟨_, rfl, fun _ h => by cases h⟩
      · split
        · refine ⟨_, rfl, ?_⟩
          intro resp hr
          have := cliReasm_len _ _ _ _ hr
          omega
        · refine ⟨_, rfl, ?_⟩
          intro resp hr
          cases hr; omega

/-- the tail `get_octets` and `put_octets` share: no response, or one whose status octet is there -/
theorem status_total {α : Type} (acc : Nat) (inbox : List Bytes) (a : α) (k : Bytes → Nat → Py α)
    (hk : ∀ resp st, ∃ c, k resp st = .ok c) :
    ∃ c, (recvResponse acc inbox >>= fun r => match r.1 with
      | none => .ok a
      | some resp => idxN resp 1 >>= k resp) = .ok c := by
  obtain ⟨r, hr, hl⟩ := recvResponse_total acc inbox
  simp only [hr, Py.bind_ok]
  cases h1 : r.1 with
  | none => exact ⟨_, rfl⟩
  | some resp =>
    obtain ⟨st, hst, -⟩ := idxN_lt resp 1 (Nat.le_trans (by decide) (hl resp h1))
    simp only [hst, Py.bind_ok]
    exact hk resp st

end NfcVerif.PeerSnep
