import NfcVerif.Model.Crc
/-!
Helper lemmas for the CRC theorems of C14.

`byteStep_eq_iso` (the eight-iteration bit loop of `calculate_crc` equals the
ISO/IEC 14443-3 Annex B byte update for every register value and every octet,
2^24 cases) is proved without enumeration of the product space: both functions
are GF(2)-linear in (register, octet), hence determined by their values on the
three 8-bit "axes" (low register byte, high register byte, octet), and on
each axis the 256 cases are checked by kernel evaluation (`decide +kernel`).

The same linearity gives single-bit error detection (`crcOf_set_ne`): an error inside one octet changes the
register right behind that octet (`byteStep_flip`), and the octets that follow take different registers to
different registers (`crcOf_inj`), because the zero-input step is injective (`byteStep_zero_inj`).
-/
namespace NfcVerif.Crc

theorem xor_interchange (a b c d : BitVec n) : (a ^^^ b) ^^^ (c ^^^ d) = (a ^^^ c) ^^^ (b ^^^ d) := by
  rw [BitVec.xor_assoc, ← BitVec.xor_assoc b, BitVec.xor_comm b c, BitVec.xor_assoc c, ← BitVec.xor_assoc a]

theorem xor_ne_self (x e : BitVec n) (he : e ≠ 0#n) : x ^^^ e ≠ x := by
  intro h
  apply he
  have : x ^^^ (x ^^^ e) = x ^^^ x := by rw [h]
  rw [← BitVec.xor_assoc, BitVec.xor_self, BitVec.zero_xor] at this
  exact this

theorem bitStep_eq (r : BitVec 16) (b : Bool) :
    bitStep r b = r >>> 1 ^^^ (if (r.getLsbD 0 != b) then 0x8408#16 else 0#16) := by
  simp only [bitStep]
  cases (r.getLsbD 0 != b) <;> simp

theorem bitStep_xor (r s : BitVec 16) (a b : Bool) :
    bitStep (r ^^^ s) (a != b) = bitStep r a ^^^ bitStep s b := by
  have hb : ∀ p q : Bool, (if (p != q) then 0x8408#16 else 0#16)
      = (if p then 0x8408#16 else 0#16) ^^^ (if q then 0x8408#16 else 0#16) := by decide
  have hi : ∀ p q a b : Bool, ((p != q) != (a != b)) = ((p != a) != (q != b)) := by decide
  rw [bitStep_eq, bitStep_eq, bitStep_eq, BitVec.getLsbD_xor, BitVec.ushiftRight_xor_distrib]
  show _ ^^^ (if ((_ != _) != _) then _ else _) = _
  rw [hi, hb, xor_interchange]

theorem byteStep_xor (r s : BitVec 16) (a b : BitVec 8) :
    byteStep (r ^^^ s) (a ^^^ b) = byteStep r a ^^^ byteStep s b := by
  unfold byteStep
  simp only [BitVec.getLsbD_xor, bitStep_xor]

/-- what `isoUpdate` adds to `crc >>> 8`, as a function of `ch ^^^ lo crc` -/
def isoMix (x : BitVec 8) : BitVec 16 :=
  let c : BitVec 16 := (x ^^^ x <<< 4).setWidth 16
  c <<< 8 ^^^ c <<< 3 ^^^ c >>> 4

theorem isoMix_xor (x y : BitVec 8) : isoMix (x ^^^ y) = isoMix x ^^^ isoMix y := by
  have hc : ((x ^^^ y) ^^^ (x ^^^ y) <<< 4).setWidth 16
      = (x ^^^ x <<< 4).setWidth 16 ^^^ (y ^^^ y <<< 4).setWidth 16 := by
    rw [BitVec.shiftLeft_xor_distrib, xor_interchange, BitVec.setWidth_xor]
  simp only [isoMix]
  rw [hc]
  generalize (x ^^^ x <<< 4).setWidth 16 = u
  generalize (y ^^^ y <<< 4).setWidth 16 = v
  rw [BitVec.shiftLeft_xor_distrib, BitVec.shiftLeft_xor_distrib, BitVec.ushiftRight_xor_distrib,
    xor_interchange (u <<< 8), xor_interchange]

theorem isoUpdate_xor (r s : BitVec 16) (a b : BitVec 8) :
    isoUpdate (r ^^^ s) (a ^^^ b) = isoUpdate r a ^^^ isoUpdate s b := by
  have h : ∀ r a, isoUpdate r a = r >>> 8 ^^^ isoMix (a ^^^ r.setWidth 8) := by
    intro r a
    simp only [isoUpdate, isoMix, BitVec.xor_assoc]
  rw [h, h, h, BitVec.setWidth_xor, xor_interchange a, isoMix_xor, BitVec.ushiftRight_xor_distrib,
    xor_interchange]

/-- agreement on the three 256-element "axes" -/
theorem agree_lo : ∀ x : BitVec 8, byteStep (x.setWidth 16) 0#8 = isoUpdate (x.setWidth 16) 0#8 := by decide +kernel
theorem agree_hi : ∀ x : BitVec 8, byteStep (x.setWidth 16 <<< 8) 0#8 = isoUpdate (x.setWidth 16 <<< 8) 0#8 := by decide +kernel
theorem agree_ch : ∀ x : BitVec 8, byteStep 0#16 x = isoUpdate 0#16 x := by decide +kernel

theorem split16 (r : BitVec 16) : r = ((r >>> 8).setWidth 8).setWidth 16 <<< 8 ^^^ (r.setWidth 8).setWidth 16 := by
  apply BitVec.eq_of_getLsbD_eq
  intro i hi
  simp only [BitVec.getLsbD_xor, BitVec.getLsbD_shiftLeft, BitVec.getLsbD_setWidth, BitVec.getLsbD_ushiftRight]
  by_cases h : i < 8
  · simp [h, hi]
  · have h3 : 8 + (i - 8) = i := by omega
    have h4 : i - 8 < 8 := by omega
    simp [h, h3, h4, hi]
    intro _; omega

theorem byteStep_eq_iso (r : BitVec 16) (c : BitVec 8) : byteStep r c = isoUpdate r c := by
  have h1 : r = (((r >>> 8).setWidth 8).setWidth 16 <<< 8 ^^^ (r.setWidth 8).setWidth 16) ^^^ 0#16 := by
    rw [BitVec.xor_zero]; exact split16 r
  have h2 : c = (0#8 ^^^ 0#8) ^^^ c := by simp
  rw [h1, h2, byteStep_xor, byteStep_xor, isoUpdate_xor, isoUpdate_xor]
  rw [agree_lo (BitVec.setWidth 8 r), agree_hi (BitVec.setWidth 8 (r >>> 8)), agree_ch c]

theorem crcOf_eq_iso (init : BitVec 16) (d : List (BitVec 8)) : crcOf init d = isoCrcOf init d := by
  unfold crcOf isoCrcOf
  induction d generalizing init with
  | nil => rfl
  | cons a t ih => simp only [List.foldl_cons, byteStep_eq_iso, ih]

theorem crcOf_append (r : BitVec 16) (a b : List (BitVec 8)) : crcOf r (a ++ b) = crcOf (crcOf r a) b := by
  simp [crcOf, List.foldl_append]

theorem crcOf_xor (d e : List (BitVec 8)) : ∀ (r s : BitVec 16), d.length = e.length →
    crcOf (r ^^^ s) (List.zipWith (· ^^^ ·) d e) = crcOf r d ^^^ crcOf s e := by
  induction d generalizing e with
  | nil =>
    intro r s h
    cases e with
    | nil => rfl
    | cons _ _ => cases h
  | cons a t ih =>
    intro r s h
    cases e with
    | nil => cases h
    | cons b u =>
      simp only [List.zipWith_cons_cons, crcOf, List.foldl_cons, byteStep_xor]
      exact ih u _ _ (Nat.succ.inj h)

theorem bitStep_zero_inj (r : BitVec 16) (h : bitStep r false = 0#16) : r = 0#16 := by
  unfold bitStep at h
  have e0 : r.getLsbD 0 = r[0] := BitVec.getLsbD_eq_getElem (by omega)
  cases h0 : r[0]
  · simp [h0] at h
    apply BitVec.eq_of_getLsbD_eq
    intro i hi
    cases i with
    | zero => rw [e0, h0]; simp
    | succ j =>
      have := congrArg (fun x => x.getLsbD j) h
      simp only [BitVec.getLsbD_ushiftRight, BitVec.getLsbD_zero] at this
      rw [Nat.add_comm] at this
      simpa using this
  · simp [h0] at h
    have := congrArg (fun x => x.getLsbD 15) h
    simp at this

theorem byteStep_zero_inj (r : BitVec 16) (h : byteStep r 0#8 = 0#16) : r = 0#16 := by
  unfold byteStep at h
  simp only [BitVec.getLsbD_zero] at h
  exact bitStep_zero_inj _ (bitStep_zero_inj _ (bitStep_zero_inj _ (bitStep_zero_inj _
    (bitStep_zero_inj _ (bitStep_zero_inj _ (bitStep_zero_inj _ (bitStep_zero_inj _ h)))))))

theorem byteStep_inj (r s : BitVec 16) (a : BitVec 8) (h : byteStep r a = byteStep s a) : r = s := by
  have h0 : byteStep (r ^^^ s) 0#8 = 0#16 := by
    have := byteStep_xor r s a a
    rwa [BitVec.xor_self, h, BitVec.xor_self] at this
  exact BitVec.xor_eq_zero_iff.mp (byteStep_zero_inj _ h0)

theorem crcOf_inj (d : List (BitVec 8)) (r s : BitVec 16) (h : crcOf r d = crcOf s d) : r = s := by
  induction d generalizing r s with
  | nil => exact h
  | cons a t ih => exact byteStep_inj r s a (ih _ _ h)

theorem byteStep_flip (r : BitVec 16) (x e : BitVec 8) (he : byteStep 0#16 e ≠ 0#16) :
    byteStep r (x ^^^ e) ≠ byteStep r x := by
  have := byteStep_xor r 0#16 x e
  rw [BitVec.xor_zero] at this
  rw [this]
  exact xor_ne_self _ _ he

theorem crcOf_set_ne (init : BitVec 16) (d : List (BitVec 8)) (i : Nat) (e : BitVec 8) (hi : i < d.length)
    (he : byteStep 0#16 e ≠ 0#16) : crcOf init (d.set i (d[i] ^^^ e)) ≠ crcOf init d := by
  induction d generalizing i init with
  | nil => simp at hi
  | cons a t ih =>
    cases i with
    | zero => exact fun h => byteStep_flip init a e he (crcOf_inj t _ _ h)
    | succ j => exact ih (byteStep init a) j (by simpa using hi)

theorem bit_ne (b : Fin 8) : byteStep 0#16 (1#8 <<< b.val) ≠ 0#16 := by
  revert b; decide +kernel

def flipBit (l : List (BitVec 8)) (i : Nat) (b : Fin 8) : List (BitVec 8) :=
  match l[i]? with
  | some x => l.set i (x ^^^ (1#8 <<< b.val))
  | none => l

theorem flipBit_length (l : List (BitVec 8)) (i : Nat) (b : Fin 8) : (flipBit l i b).length = l.length := by
  unfold flipBit
  split
  · exact List.length_set
  · rfl

theorem lo_hi_inj (a b : BitVec 16) (h1 : lo a = lo b) (h2 : hi a = hi b) : a = b := by
  rw [split16 a, split16 b]
  unfold lo at h1; unfold hi at h2
  rw [h1, h2]

theorem one_shift_ne_zero (b : Fin 8) : (1#8 <<< b.val) ≠ 0#8 := by revert b; decide

/-- Generic form: `g` is any injective function of the CRC register (identity for CRC_A,
complement for CRC_B). The flipped frame is again a message `d'` followed by two octets, and these
are not the CRC octets of `d'`. -/
theorem check_flip_false (init : BitVec 16) (g : BitVec 16 → BitVec 16) (hg : ∀ a b, g a = g b → a = b)
    (d : List (BitVec 8)) (i : Nat) (b : Fin 8) (hlt : i < d.length + 2) :
    ∃ d' x y, flipBit (d ++ [lo (g (crcOf init d)), hi (g (crcOf init d))]) i b = d' ++ [x, y]
      ∧ d'.length = d.length ∧ ¬ (x = lo (g (crcOf init d')) ∧ y = hi (g (crcOf init d'))) := by
  have he := one_shift_ne_zero b
  by_cases hd : i < d.length
  · refine ⟨d.set i (d[i] ^^^ (1#8 <<< b.val)), lo (g (crcOf init d)), hi (g (crcOf init d)), ?_,
      List.length_set, ?_⟩
    · simp only [flipBit]
      rw [List.getElem?_append_left hd, List.getElem?_eq_getElem hd]
      exact List.set_append_left _ _ hd
    · intro h
      exact crcOf_set_ne init d i _ hd (bit_ne b) (hg _ _ (lo_hi_inj _ _ h.1 h.2)).symm
  · have hcase : i = d.length ∨ i = d.length + 1 := by omega
    rcases hcase with rfl | rfl
    · exact ⟨d, lo (g (crcOf init d)) ^^^ (1#8 <<< b.val), hi (g (crcOf init d)), by simp [flipBit], rfl,
        fun h => xor_ne_self _ _ he h.1⟩
    · exact ⟨d, lo (g (crcOf init d)), hi (g (crcOf init d)) ^^^ (1#8 <<< b.val), by simp [flipBit], rfl,
        fun h => xor_ne_self _ _ he h.2⟩

theorem checkA_flip (d : List (BitVec 8)) (i : Nat) (b : Fin 8) (h : i < d.length + 2) :
    checkCrcA (flipBit (addCrcA d) i b) = .ok false := by
  obtain ⟨d', x, y, hf, _, hne⟩ := check_flip_false (0x6363#16) (fun x => x) (fun _ _ h => h) d i b h
  simp only [checkCrcA, addCrcA, hf]
  rw [if_neg (by rw [List.length_append]; exact Nat.not_lt.2 (Nat.le_add_left 2 _))]
  simpa using hne

theorem checkB_flip (d : List (BitVec 8)) (i : Nat) (b : Fin 8) (h : i < d.length + 2) :
    checkCrcB (flipBit (addCrcB d) i b) = .ok false := by
  have hinj : ∀ a b : BitVec 16, ~~~a = ~~~b → a = b := fun a b h => by
    simpa using congrArg (fun x => ~~~x) h
  obtain ⟨d', x, y, hf, _, hne⟩ := check_flip_false (0xFFFF#16) (fun x => ~~~x) hinj d i b h
  simp only [checkCrcB, addCrcB, hf]
  rw [if_neg (by rw [List.length_append]; exact Nat.not_lt.2 (Nat.le_add_left 2 _))]
  simpa using hne

end NfcVerif.Crc
