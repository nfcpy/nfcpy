import NfcVerif.Model.IsoDepC08
import NfcVerif.Lemmas.IsoDepV2Term
import NfcVerif.Lemmas.IsoDepV2C08
/-!
# C08 lemmas: the repaired ISO-DEP initiator terminates against every card

* `xchgW_asFound`, `blockLoop_asFound`, `recvChain_asFound`, `exchange_asFound`: with all switches off
  the functions of `Model/IsoDepC08.lean` are those of `Model/IsoDep.lean` (the model C12 works with).
* with all switches on they are those of `Model/IsoDepV2.lean` (`IsoDep2.exchange_c08`), so `exchange_spec` is
  `IsoDep2.exchange_any` read through that equation: whatever the card answers, `exchange` returns a response
  or a `Type4TagCommandError`, uses up no fuel and sends at most `exchFrames` frames.
-/
namespace NfcVerif.IsoDepR
open NfcVerif NfcVerif.IsoDep

/-- frames handed to `clf.exchange` so far -/
def frames {σ} (w : World σ) : Nat := w.trace.length

/-! ## connection with `Model/IsoDep.lean` -/

def RxW.ofRx : Rx → RxW
  | .data b => .data b | .timeout => .timeout | .transmission => .transmission
  | .protocol => .protocol | .fuel => .fuel

/-- as found: `_exchange` of `Model/IsoDepC08.lean` = `xchgW` of the shared model -/
theorem xchgW_asFound {σ} (P : Peer σ) : ∀ (f sum : Nat) (w : World σ) (out : Bytes),
    xchgW P none f sum w out = ((IsoDep.xchgW P f w out).1, RxW.ofRx (IsoDep.xchgW P f w out).2) := by
  intro f
  induction f with
  | zero => intro sum w out; rfl
  | succ f ih =>
    intro sum w out
    unfold xchgW IsoDep.xchgW
    rcases hx : w.xchg P out with ⟨w', r⟩
    cases r with
    | data d =>
      simp only
      have hw : (wtxmOf d).isSome = isWtx d := IsoDep2.wtxmOf_isSome d
      cases hm : wtxmOf d with
      | none => rw [hm] at hw; simp at hw; simp [hw, RxW.ofRx]
      | some m => rw [hm] at hw; simp at hw; simp only [hw, if_true]; exact ih sum w' d
    | timeout | transmission | protocol | fuel => simp [RxW.ofRx]

theorem blockLoop_asFound {σ} (P : Peer σ) (c : Cfg) (hw : c.fx.wtx = false) (ha : c.fx.ack = false)
    (n : Nat) (resend : Option Nat) (req rty : Bytes) :
    ∀ (f i : Nat) (out : Bytes) (w : World σ),
      blockLoop P c n resend req rty f i out w = IsoDep.blockLoop P c.F n resend req rty f i out w := by
  intro f
  induction f with
  | zero => intro i out w; rfl
  | succ f ih =>
    intro i out w
    unfold blockLoop IsoDep.blockLoop
    have hx := xchgW_asFound P c.F 0 w out
    simp only [Cfg.wlim, hw, ha, Bool.false_eq_true, if_false, false_and]
    rw [hx]
    rcases IsoDep.xchgW P c.F w out with ⟨w', r⟩
    cases r with
    | data d => cases d <;> (simp only [RxW.ofRx]; split <;> simp [ih])
    | timeout | transmission => simp only [RxW.ofRx]; split <;> simp [ih]
    | protocol | fuel => simp [RxW.ofRx]

theorem sendChunks_asFound {σ} (P : Peer σ) (c : Cfg) (hw : c.fx.wtx = false) (ha : c.fx.ack = false) (nNak : Nat) :
    ∀ (cs : List Bytes) (pni : Nat) (w : World σ),
      sendChunks P c nNak cs pni w = IsoDep.sendChunks P c.F nNak cs pni w := by
  intro cs
  induction cs with
  | nil => intro pni w; rfl
  | cons ch rest ih =>
    intro pni w
    unfold sendChunks IsoDep.sendChunks
    simp only [blockLoop_asFound P c hw ha]
    rcases IsoDep.blockLoop P c.F nNak (some (0xA2 ||| ((pni + 1) % 2)))
      (((if (!rest.isEmpty) = true then 0x12 else 0x02) ||| pni) :: ch) [0xB2 ||| pni] c.F 1
      (((if (!rest.isEmpty) = true then 0x12 else 0x02) ||| pni) :: ch) w with ⟨w', r⟩
    cases r with
    | error e => rfl
    | ok d =>
      cases d with
      | nil => rfl
      | cons a t => simp only [ih]

theorem recvChain_asFound {σ} (P : Peer σ) (c : Cfg) (hw : c.fx.wtx = false) (ha : c.fx.ack = false)
    (hc : c.fx.chain = false) (nAck : Nat) :
    ∀ (f pni : Nat) (data resp : Bytes) (w : World σ),
      recvChain P c nAck f pni data resp w = IsoDep.recvChain P c.F nAck f pni data resp w := by
  intro f
  induction f with
  | zero => intro pni data resp w; rfl
  | succ f ih =>
    intro pni data resp w
    unfold recvChain IsoDep.recvChain
    cases data with
    | nil => rfl
    | cons a inf =>
      simp only [hc, Bool.false_eq_true, false_and, if_false, blockLoop_asFound P c hw ha]
      split
      · rfl
      · rcases IsoDep.blockLoop P c.F nAck none [0xA2 ||| pni] [0xA2 ||| pni] c.F 1 [0xA2 ||| pni] w with ⟨w', r⟩
        cases r with
        | error e => rfl
        | ok d =>
          cases d with
          | nil => rfl
          | cons b t => simp only [ih]

/-- with the three switches off, `exchange` of `Model/IsoDepC08.lean` is `exchange` of the shared model (`Model/IsoDep.lean`) -/
theorem exchange_asFound {σ} (P : Peer σ) (c : Cfg) (hw : c.fx.wtx = false) (ha : c.fx.ack = false)
    (hc : c.fx.chain = false) (pcd : Pcd) (cmd : Bytes) (w : World σ) :
    exchange P c pcd cmd w = IsoDep.exchange P c.F pcd cmd w := by
  have hcmd : exchangeCmd P c pcd cmd w = IsoDep.exchangeCmd P c.F pcd cmd w := by
    unfold exchangeCmd IsoDep.exchangeCmd
    split
    · rfl
    · split
      · rfl
      · simp only [sendChunks_asFound P c hw ha, recvChain_asFound P c hw ha hc]
        rcases IsoDep.sendChunks P c.F pcd.nNak (chunks pcd.miu.toNat cmd) pcd.pni w with ⟨w1, pni1, r⟩
        cases r with
        | error e => rfl
        | ok d => rfl
  unfold exchange IsoDep.exchange
  rw [hcmd]
  cases pcd.failed with
  | some e => rfl
  | none =>
    simp only
    rcases IsoDep.exchangeCmd P c.F pcd cmd w with ⟨w', pcd', r⟩
    cases r with
    | ok d => rfl
    | error e => cases e <;> rfl

/-! ## the repaired initiator: every loop ends -/

/-- a response or a `Type4TagCommandError` -/
def CmdRes : Py Bytes → Prop
  | .ok _ => True
  | .error e => ∃ n, e = .tagCmd n

/-- the three repairs are in and the fuel handed to the loops is enough for the repaired loops -/
structure Cfg.Repaired (c : Cfg) (nNak nAck : Nat) : Prop where
  wtx : c.fx.wtx = true
  ack : c.fx.ack = true
  chain : c.fx.chain = true
  fW : c.lim < c.F
  fN : nNak + 2 ≤ c.F
  fA : nAck + 2 ≤ c.F
  fC : 65540 ≤ c.F

/-- with all repairs on the block number stays 0 or 1 over the command blocks, whatever the card sends -/
theorem sendChunks_pni_lt {σ} (P : Peer σ) (c : Cfg) (hx : c.fx = Fix.all) (nNak : Nat) (cs : List Bytes) (pni : Nat)
    (w : World σ) (hp : pni < 2) : (sendChunks P c nNak cs pni w).2.1 < 2 := by
  obtain ⟨fx, L, F⟩ := c
  subst hx
  -- the frame predicate of `sendChunks_any` plays no part here: any block is let through
  exact IsoDep2.sendChunks_c08 P F L nNak cs pni w ▸
    (IsoDep2.sendChunks_any P F L cs.flatten.length nNak (fun _ => True) (fun _ _ => trivial) (fun _ _ => trivial) cs pni w
      (fun _ h => (List.sublist_flatten_of_mem h).length_le)).2.1 hp

/-- `IsoDepInitiator.exchange` with the three repairs, against every card: a response or a
`Type4TagCommandError`, never an internal error, never out of fuel, at most `exchFrames` frames; what activation
fixed (MIU, retry counts) stays -/
theorem exchange_spec {σ} (P : Peer σ) (c : Cfg) (pcd : Pcd) (hR : c.Repaired pcd.nNak pcd.nAck)
    (hm : 0 < pcd.miu) (cmd : Bytes) (hc : cmd ≠ []) (w : World σ) :
    CmdRes (exchange P c pcd cmd w).2.2 ∧
    frames w ≤ frames (exchange P c pcd cmd w).1 ∧
    frames (exchange P c pcd cmd w).1 ≤ frames w + exchFrames c pcd cmd.length ∧
    (exchange P c pcd cmd w).2.1.miu = pcd.miu ∧ (exchange P c pcd cmd w).2.1.nNak = pcd.nNak ∧
    (exchange P c pcd cmd w).2.1.nAck = pcd.nAck := by
  obtain ⟨⟨_, _, _⟩, L, F⟩ := c
  obtain ⟨rfl, rfl, rfl, fW, fN, fA, fC⟩ := hR
  have r : ∀ n, IsoDep2.roundsMax n = n + 2 := fun n => by simp only [IsoDep2.roundsMax, IsoDep2.resendMax]; omega
  obtain ⟨hx, _, hnf, hs⟩ := IsoDep2.exchange_any P F (IsoDep2.Pcd.withBase pcd L) cmd w (fun _ => True)
    (fun _ _ => trivial) (fun _ _ => trivial)
  have hb := And.intro (hnf fW ((r pcd.nNak).symm ▸ fN) ((r pcd.nAck).symm ▸ fA) fC)
    (And.intro hx.frames_le (And.intro (IsoDep2.exchange_static P F (IsoDep2.Pcd.withBase pcd L) cmd w) (hs hm hc)))
  rw [← IsoDep2.exchange_c08] at hb
  have hfr : IsoDep2.exchFrames (IsoDep2.Pcd.withBase pcd L) cmd.length = exchFrames ⟨⟨true, true, true⟩, L, F⟩ pcd cmd.length := by
    simp only [IsoDep2.exchFrames, IsoDep2.loopFrames, exchFrames, loopFrames, r]; rfl
  rw [hfr] at hb
  obtain ⟨hnf, ⟨h1, h2⟩, ⟨h3, h4, h5, _⟩, h6⟩ := hb
  refine ⟨?_, h1, h2, h3, h4, h5⟩
  cases hf : pcd.failed with
  | some e => unfold exchange; rw [hf]; exact ⟨e, rfl⟩
  | none =>
    have hs := h6 (fun e he => by cases hf.symm.trans he)
    change SafeErr (exchange P ⟨⟨true, true, true⟩, L, F⟩ pcd cmd w).2.2 at hs
    change (exchange P ⟨⟨true, true, true⟩, L, F⟩ pcd cmd w).2.2 ≠ _ at hnf
    revert hs hnf
    cases (exchange P ⟨⟨true, true, true⟩, L, F⟩ pcd cmd w).2.2 with
    | ok d => exact fun _ _ => trivial
    | error e =>
      intro hs hnf
      rcases hs e rfl with rfl | rfl | rfl | rfl
      · exact absurd rfl hnf
      all_goals exact ⟨_, rfl⟩

end NfcVerif.IsoDepR
