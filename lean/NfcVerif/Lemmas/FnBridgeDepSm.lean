import NfcVerif.Gen.FnDepSm
import NfcVerif.Model.FnDepSmRef
import NfcVerif.Gen.FnDepPdu
import NfcVerif.Gen.FnDep
import NfcVerif.PyFn
/-!
Auxiliary definitions for `Props/FnBridgeDepSm.lean`: the transition functions of `Model/NfcDep.lean` rebuilt from
regenerated pieces (`Gen/FnDepSm.lean`, `Gen/FnDepPdu.lean`).

Every condition, every arithmetic expression, every PDU that is put on the air and every loop range in the `..Gen`
functions below is a call of a regenerated definition.  Hand-written remain

* the control skeleton: the order of the pieces, which exception class leads to which recovery
  (`except TimeoutError` -> `request_attention` + `continue`, `except TransmissionError` -> `request_retransmission` +
  `break`, `except CommunicationError: continue` = `isComm`), what a `Py Unit` check that passed is followed by;
* the air `xfer` (no source counterpart: it stands for `send_req_recv_res` = encode, `clf.exchange`, decode);
* `recPdu`: the reading of a PDU record `((fmt, nad flag, did flag, pni), did, nad, data)` (the attributes stored by
  `__init__`) as the model's `Pdu`, written the way `DEP_REQ_RES.encode` reads the object (DID / NAD octet only when the
  flag is set);
* `Clock`: the link between the model's abstract `expired` flag and the regenerated deadline arithmetic.
-/
namespace NfcVerif.FnBridge.DepSm
open NfcVerif NfcVerif.PyFn NfcVerif.NfcDep

/-- a PDU object of the translator: `(pfb, did, nad, data)` with `pfb = (fmt, nad flag, did flag, pni)`; `data=None` is
stored as the empty string -/
abbrev Rec := (Int × Bool × Bool × Int) × Option Int × Option Int × Bytes

/-- the model's PDU for a PDU object, read as `encode()` reads it -/
def recPdu (r : Rec) : Pdu :=
  .dep r.1.1.toNat r.1.2.2.2.toNat (if r.1.2.2.1 then r.2.1.map Int.toNat else none)
    (if r.1.2.1 then r.2.2.1.map Int.toNat else none) r.2.2.2

/-- `self.did` / `self.nad` as the translator sees them -/
def oi (o : Option Nat) : Option Int := o.map (fun (n : Nat) => (n : Int))

theorem oi_ne_none (o : Option Nat) : decide (oi o ≠ none) = o.isSome := by cases o <;> rfl
theorem oi_toNat (o : Option Nat) : (oi o).map Int.toNat = o := by cases o <;> simp [oi]

/-- a PDU object as every builder makes it (flags from `did is not None`, `nad is not None`) read as the model's PDU -/
theorem recPdu_built (f p : Nat) (did nad : Option Nat) (data : Bytes) :
    recPdu (((f : Int), decide (oi nad ≠ none), decide (oi did ≠ none), (p : Int)), oi did, oi nad, data)
      = .dep f p did nad data := by
  cases did <;> cases nad <;> rfl

/-- the PDU type of a received PDU (`res.pfb.fmt`); the model's functions are only applied to DEP PDUs -/
def fmtOf (p : Pdu) : Nat := (p.fmt?).getD 0

/-! ## the clock -/

/-- what `send_dep_req_recv_dep_res` knows about time: the response waiting time, the deadline of the running call and
the time at which an air state is observed -/
structure Clock (σ : Type) where
  rwt : Int
  deadline : Int
  now : Air σ → Int

/-- the model's `expired` flag says that the deadline of the running call has passed -/
def Clock.Ok {σ} (k : Clock σ) : Prop := 0 < k.rwt ∧ ∀ a, (k.deadline ≤ k.now a ↔ a.expired = true)

/-- an inhabitant: the deadline is time 1, an expired air is observed at time 1, any other at time 0 -/
def Clock.demo (σ : Type) : Clock σ := ⟨1, 1, fun a => if a.expired then 1 else 0⟩

theorem Clock.demo_ok (σ : Type) : (Clock.demo σ).Ok := by
  refine ⟨by show (0 : Int) < 1; omega, fun a => ?_⟩
  simp only [Clock.demo]
  cases a.expired <;> simp

section initiator
variable {σ : Type} (P : Peer σ) (c : Cfg)

/-- ATN(): the attention request -/
def atnReq : Pdu := recPdu (Gen.Fn.smi_atn (oi c.idid))

/-- `nak = NAK(self.pni, self.did, self.nad)` through the regenerated call site and the regenerated builder -/
def nakReq (pni : Nat) : Pdu :=
  let args := Gen.Fn.dep_ini_nak_call (pni : Int) (oi c.idid) (oi c.inad) (fun p d n => (p, d, n))
  recPdu (Gen.Fn.smi_nak args.1 args.2.1 args.2.2 (pni : Int))

/-- `request_attention(self, n_retry_atn, rwt, deadline)`; the list is `range(n_retry_atn)` -/
def reqAttentionGen (k : Clock σ) : List Int → Air σ → Air σ × Py Unit
  | [], a => (a, Gen.Fn.smi_atn_fail)
  | _ :: is, a =>
    match Gen.Fn.smi_atn_timeout k.rwt k.deadline (k.now a) with
    | .error e => (a, .error e)
    | .ok _ =>
      match xfer P a (atnReq c) with
      | (a', .error e) => if isComm e then reqAttentionGen k is a' else (a', .error e)
      | (a', .ok (.dep fmt _ _ _ _)) => (a', Gen.Fn.dep_ini_atn_chk (fmt : Int))
      | (a', .ok _) => (a', .error .attr)

/-- `request_retransmission(self, n_retry_nak, rwt, deadline)`; `reqfmt` is `req.pfb.fmt` of the outstanding request.
Falling off the end of the function would hand None to the caller (`res.pfb` -> AttributeError). -/
def reqRetransGen (k : Clock σ) (pni reqfmt : Nat) : List Int → Air σ → Air σ × Py Pdu
  | [], a => (a, match Gen.Fn.smi_nak_fail with | .error e => .error e | .ok _ => .error .attr)
  | _ :: is, a =>
    match Gen.Fn.smi_nak_timeout k.rwt k.deadline (k.now a) with
    | .error e => (a, .error e)
    | .ok _ =>
      match xfer P a (nakReq c pni) with
      | (a', .error e) => if isComm e then reqRetransGen k pni reqfmt is a' else (a', .error e)
      | (a', .ok (.dep fmt rp did nad data)) =>
        (match Gen.Fn.dep_ini_retrans_chk (fmt : Int) (reqfmt : Int) with
         | .error e => (a', .error e)
         | .ok _ => (a', .ok (.dep fmt rp did nad data)))
      | (a', .ok _) => (a', .error .attr)

/-- the NACK check behind the loop of `send_dep_req_recv_dep_res` -/
def nakCheckGen (a : Air σ) (res : Pdu) : Air σ × Py Pdu :=
  match res with
  | .dep fmt _ _ _ _ =>
    (match Gen.Fn.dep_ini_nak_chk (fmt : Int) with
     | .error e => (a, .error e)
     | .ok _ => (a, .ok res))
  | _ => (a, .error .attr)

/-- the `while True` loop of `send_dep_req_recv_dep_res` -/
def sendDepLoopGen (k : Clock σ) (pni : Nat) (req : Pdu) : Nat → Air σ → Air σ × Py Pdu
  | 0, a => (a, .error .outOfFuel)
  | fuel+1, a =>
    match Gen.Fn.smi_timeout k.rwt k.deadline (k.now a) with
    | .error e => (a, .error e)
    | .ok _ =>
      match xfer P a req with
      | (a1, .ok res) => nakCheckGen a1 res
      | (a1, .error .timeout) =>
        (match reqAttentionGen P c k (Gen.Fn.smi_atn_range Gen.Fn.smi_n_atn) a1 with
         | (a2, .ok ()) => sendDepLoopGen k pni req fuel a2
         | (a2, .error e) => (a2, .error e))
      | (a1, .error .transmission) =>
        (match reqRetransGen P c k pni (fmtOf req) (Gen.Fn.smi_nak_range Gen.Fn.smi_n_nak) a1 with
         | (a2, .ok res) => nakCheckGen a2 res
         | (a2, .error e) => (a2, .error e))
      | (a1, .error e) => (a1, .error e)

/-- `send_dep_req_recv_dep_res(req, rwt, timeout)`: `deadline = time.time() + timeout` is a fresh deadline
(`gen_deadline_fresh`), the model resets `expired` -/
def sendDepGen (k : Clock σ) (fuel pni : Nat) (a : Air σ) (req : Pdu) : Air σ × Py Pdu :=
  sendDepLoopGen P c k pni req fuel { a with expired := false }

/-- the pieces of one copy of the timeout extension loop (`Initiator.exchange` has one in the send loop and one in the
receive loop) -/
structure RtoxCut where
  test : Int → Bool
  range : List Int
  call : Bytes → Option Int → Option Int → (Bytes → Option Int → Option Int → Bytes × Option Int × Option Int)
    → Bytes × Option Int × Option Int
  wait : Bytes → Int → Py Int
  done : Int → Bool
  fail : Py Unit

def cutS : RtoxCut := ⟨Gen.Fn.dep_ini_tox_test, Gen.Fn.smi_rtox_range_s, Gen.Fn.smi_rtox_call_s, Gen.Fn.smi_rtox_wait_s,
  Gen.Fn.smi_rtox_done_s, Gen.Fn.smi_rtox_fail_s⟩
def cutR : RtoxCut := ⟨Gen.Fn.smi_tox_test_r, Gen.Fn.smi_rtox_range_r, Gen.Fn.smi_rtox_call_r, Gen.Fn.smi_rtox_wait_r,
  Gen.Fn.smi_rtox_done_r, Gen.Fn.smi_rtox_fail_r⟩

/-- `for i in range(3): req = RTOX(res.data, ..); rwt = res.data[0] * self.rwt; res = send_dep_req_recv_dep_res(req, rwt, ..);
if res.pfb.fmt != TimeoutExtension: break` / `else: raise TimeoutError` -/
def rtoxLoopGen (q : RtoxCut) (k : Clock σ) (fuel pni : Nat) : List Int → Air σ → Pdu → Air σ × Py Pdu
  | [], a, res => (a, match q.fail with | .error e => .error e | .ok _ => .ok res)
  | _ :: is, a, res =>
    match res with
    | .dep _ _ _ _ data =>
      let args := q.call data (oi c.idid) (oi c.inad) (fun d i n => (d, i, n))
      (match Gen.Fn.smi_rtox args.1 args.2.1 args.2.2 with
       | .error e => (a, .error e)
       | .ok r =>
         match q.wait data k.rwt with
         | .error e => (a, .error e)
         | .ok rwt' =>
           match sendDepGen P c { k with rwt := rwt' } fuel pni a (recPdu r) with
           | (a', .error e) => (a', .error e)
           | (a', .ok res') =>
             match res'.fmt? with
             | some f => if q.done (f : Int) = true then (a', .ok res') else rtoxLoopGen q k fuel pni is a' res'
             | none => (a', .ok res'))
    | _ => (a, .error .attr)

/-- `res = self.send_dep_req_recv_dep_res(req, self.rwt, timeout)` and the timeout extension handling behind it -/
def transactGen (q : RtoxCut) (k : Clock σ) (fuel pni : Nat) (a : Air σ) (req : Pdu) : Air σ × Py Pdu :=
  match sendDepGen P c k fuel pni a req with
  | (a', .error e) => (a', .error e)
  | (a', .ok res) =>
    match res.fmt? with
    | some f => if q.test (f : Int) = true then rtoxLoopGen P c q k fuel pni q.range a' res else (a', .ok res)
    | none => (a', .ok res)

/-- `req = INF(self.pni, data, bool(send_data), self.did, self.nad)` -/
def infReq (pni : Nat) (data rest : Bytes) : Pdu :=
  let args := Gen.Fn.dep_ini_inf_call data rest (pni : Int) (oi c.idid) (oi c.inad) (fun p d m i n => (p, d, m, i, n))
  recPdu (Gen.Fn.smi_inf args.1 args.2.1 args.2.2.1 args.2.2.2.1 args.2.2.2.2)

/-- `req = ACK(self.pni, self.did, self.nad)` -/
def ackReq (pni : Nat) : Pdu :=
  let args := Gen.Fn.dep_ini_ack_call (pni : Int) (oi c.idid) (oi c.inad) (fun p d n => (p, d, n))
  recPdu (Gen.Fn.smi_ack args.1 args.2.1 args.2.2)

/-- the `while send_data` loop of `Initiator.exchange` -/
def sendLoopGen (k : Clock σ) (fuel : Nat) : Nat → Air σ → Nat → Bytes → Air σ × Nat × Py Pdu
  | 0, a, pni, _ => (a, pni, .error .outOfFuel)
  | n+1, a, pni, sd =>
    let ch := Gen.Fn.dep_ini_chunk sd (c.imiu : Int)
    match transactGen P c cutS k fuel pni a (infReq c pni ch.1 ch.2) with
    | (a', .error e) => (a', pni, .error e)
    | (a', .ok (.dep fmt rp did nad data)) =>
      (match Gen.Fn.dep_ini_ack_chk ch.2 (fmt : Int) >>= fun _ => Gen.Fn.dep_ini_pni_send (pni : Int) (rp : Int) with
       | .error e => (a', pni, .error e)
       | .ok pni' =>
         if Gen.Fn.smi_send_test ch.2 = true then sendLoopGen k fuel n a' pni'.toNat ch.2
         else (a', pni'.toNat, .ok (.dep fmt rp did nad data)))
    | (a', .ok _) => (a', pni, .error .attr)

/-- the `while res.pfb.fmt == MoreInformation` loop of `Initiator.exchange` -/
def recvLoopGen (k : Clock σ) (fuel : Nat) : Nat → Air σ → Nat → Bytes → Nat → Air σ × Nat × Py Bytes
  | 0, a, pni, _, _ => (a, pni, .error .outOfFuel)
  | n+1, a, pni, acc, fmt =>
    if Gen.Fn.dep_ini_more_test (fmt : Int) = false then (a, pni, .ok acc) else
    match transactGen P c cutR k fuel pni a (ackReq c pni) with
    | (a', .error e) => (a', pni, .error e)
    | (a', .ok (.dep fmt' rp _ _ data)) =>
      (match Gen.Fn.dep_ini_chain_chk (fmt' : Int) >>= fun _ => Gen.Fn.dep_ini_pni_recv acc (pni : Int) (rp : Int) data with
       | .error e => (a', pni, .error e)
       | .ok r => recvLoopGen k fuel n a' r.2.toNat r.1 fmt')
    | (a', .ok _) => (a', pni, .error .attr)

/-- `Initiator.exchange(send_data, timeout)`; with an empty payload the send loop is not entered and `res` is unbound -/
def exchangeGen (k : Clock σ) (fuel : Nat) (a : Air σ) (pni : Nat) (p : Bytes) : Air σ × Nat × Py Bytes :=
  if Gen.Fn.smi_send_test p = false then (a, pni, .error .unbound) else
  match sendLoopGen P c k fuel fuel a pni p with
  | (a1, pni1, .error e) => (a1, pni1, .error e)
  | (a1, pni1, .ok (.dep fmt _ _ _ data)) =>
    (match Gen.Fn.dep_ini_inf_chk (fmt : Int) with
     | .error e => (a1, pni1, .error e)
     | .ok _ => recvLoopGen P c k fuel fuel a1 pni1 (Gen.Fn.smi_recv_init data) fmt)
  | (a1, pni1, .ok _) => (a1, pni1, .error .attr)

/-- `req = RLS_REQ(self.did) if release else DSL_REQ(self.did)`; the two classes are given their PDU codes -/
def deactReq (release : Bool) : Pdu :=
  let r := Gen.Fn.smi_deact_req release (oi c.idid) (fun d => (8, d)) (fun d => (10, d))
  if r.1 = 10 then .rls (r.2.map Int.toNat) else .dsl (r.2.map Int.toNat)

/-- `Initiator.deactivate(release)` -/
def deactivateGen (release : Bool) (a : Air σ) : Air σ × Option Exc :=
  match xfer P a (deactReq c release) with
  | (a', .error e) => if isComm e then (a', none) else (a', some e)
  | (a', .ok _) => (a', none)

end initiator

/-! ## Target -/

section target
variable (c : Cfg)

/-- the bit rate string handed to the regenerated `encode_frame`; only the length byte check matters here -/
def brtyOf (c : Cfg) : String := if c.b106 then "106A" else "212F"

/-- `res = INF(self.pni, data, more, self.did, self.nad)` for the chunk cut off `send_data`; a Target has no NAD -/
def infRes (pni : Nat) (send_data : Bytes) : Pdu :=
  let ch := Gen.Fn.dep_tgt_chunk send_data (c.tmiu : Int)
  let args := Gen.Fn.dep_tgt_inf_call ch.1 ch.2 (pni : Int) (oi c.tdid) none (fun p d m i n => (p, d, m, i, n))
  recPdu (Gen.Fn.smt_inf args.1 args.2.1 args.2.2.1 args.2.2.2.1 args.2.2.2.2)

/-- `res = ACK(self.pni, self.did, self.nad)` -/
def ackRes (pni : Nat) : Pdu :=
  let args := Gen.Fn.dep_tgt_ack_call (pni : Int) (oi c.tdid) none (fun p d n => (p, d, n))
  recPdu (Gen.Fn.smt_ack args.1 args.2.1 args.2.2)

/-- `ATN(self.did, self.nad)` of `send_dep_res_recv_dep_req` -/
def atnRes : Pdu := recPdu (Gen.Fn.smt_atn (oi c.tdid) none)

/-- send loop body of `Target.exchange` up to the blocking call; `encode_frame` (regenerated, group Dep) raises
`struct.error` when the frame does not fit the length byte -/
def tSendChunkGen (t : TState) (pni : Nat) (data : Bytes) : TState × Option Pdu :=
  let res := infRes c pni data
  let t' := { t with pni := some pni, loc := .sending data, depRes := some res }
  match Gen.Fn.target_encode_frame (encodePdu false res) (brtyOf c) with
  | .error e => t'.die e
  | .ok _ => (t', some res)

/-- head of the receive loop of `Target.exchange` with `recv_data = acc`, then the application -/
def tRecvGen (t : TState) (pni : Nat) (acc : Bytes) (fmt : Nat) (data : Bytes) : TState × Option Pdu :=
  if Gen.Fn.dep_tgt_more_test (fmt : Int) = true then
    let ack := ackRes c pni
    ({ t with pni := some pni, loc := .receiving (Gen.Fn.smt_recv_acc acc data), depRes := some ack }, some ack)
  else
    let t := { t with pni := some pni, got := t.got ++ [Gen.Fn.smt_recv_last acc data] }
    match t.tosend with
    | [] => ({ t with status := .ended }, none)
    | p :: ps =>
      match Gen.Fn.smt_empty_chk (some p) with
      | .error e => ({ t with tosend := ps }).die e
      | .ok _ => tSendChunkGen c { t with tosend := ps } pni p

/-- `send_dep_res_recv_dep_req` returned a request to `exchange`.  In the `.sending` case the model records the
incremented packet number also when the ACK check (which the source makes in front of the increment) fails; the run
is over then (`status = raised`), the field is not read again - it is written by hand here. -/
def tAcceptGen (t : TState) (fmt rpni : Nat) (data : Bytes) : TState × Option Pdu :=
  match t.loc with
  | .listen => (t, none)
  | .first => tRecvGen c t Gen.Fn.smt_first_pni.toNat Gen.Fn.smt_recv_init fmt data
  | .sending sd =>
    let ch := Gen.Fn.dep_tgt_chunk sd (c.tmiu : Int)
    (match Gen.Fn.dep_tgt_ack_chk ch.2 (fmt : Int) >>= fun _ => Gen.Fn.dep_tgt_pni_send ((t.pni.getD 0 : Nat) : Int) (rpni : Int) with
     | .error e => ({ t with pni := some ((t.pni.getD 0 + 1) % 4) }).die e
     | .ok pni' =>
       let rest := Gen.Fn.dep_tgt_chunk_rest sd (c.tmiu : Int)
       if Gen.Fn.smt_send_test rest = true then tSendChunkGen c t pni'.toNat rest
       else tRecvGen c t pni'.toNat Gen.Fn.smt_recv_init fmt data)
  | .receiving acc =>
    (match Gen.Fn.dep_tgt_pni_recv ((t.pni.getD 0 : Nat) : Int) (rpni : Int) with
     | .error e => ({ t with pni := some ((t.pni.getD 0 + 1) % 4) }).die e
     | .ok pni' => tRecvGen c t pni'.toNat acc fmt data)

/-- PDU objects as the tokens of the regenerated dispatch chain: the saved response `dep_res` is token 1, the
attention response token 2, the received request token 0 -/
def tokRes (t : TState) : Option Int := t.depRes.map (fun _ => 1)

/-- `self.pni` of the Target: None before the first exchange (never equal to a packet number: -1) -/
def pniTok (t : TState) : Int := match t.pni with | some p => (p : Int) | none => -1

/-- `dep_res.pfb.fmt` of the saved response (only read when there is one) -/
def depResFmt (t : TState) : Nat := match t.depRes with | some p => fmtOf p | none => 0

/-- `req.pfb.pni` -/
def pniOf : Pdu → Nat
  | .dep _ p _ _ _ => p
  | _ => 0

/-- one turn of the loop of `send_dep_res_recv_dep_req` for a request that arrived (`req is not None`): the regenerated
dispatch chain on tokens, then what the tokens stand for.  `None` = `return None` behind the (dropped) DSL_RES / RLS_RES
answer, whose PDU is written by hand. -/
def tRxActiveGen (t : TState) (req : Pdu) : TState × Option Pdu :=
  match Gen.Fn.dep_tgt_dispatch none (tokRes t) none 0 false (decide (req.didAttr ≠ c.tdid)) (decide (req.kind = .dsl))
      (decide (req.kind = .rls)) (decide (req.kind = .dep)) (fmtOf req : Int)
      (pniOf req : Int) (pniTok t) (depResFmt t : Int) (oi c.tdid) none (fun _ _ => some 2) with
  | none => ({ t with status := .retNone }, some (if req.kind = .dsl then .dsl c.tdid else .rls c.tdid))
  | some (res, dep_req) =>
    match dep_req with
    | some _ =>
      (match req with
       | .dep fmt pni _ _ data => tAcceptGen c t fmt pni data
       | _ => (t, none))
    | none =>
      match res with
      | none => (t, none)
      | some tok => if tok = 2 then (t, some (atnRes c)) else (t, t.depRes)

/-- one frame received by the Target; hand-written: a Target that has ended ignores everything, `clf.listen` returns
with the first DEP_REQ -/
def tRxGen (t : TState) : Rx → TState × Option Pdu
  | .corrupt => (t, none)
  | .frame req =>
    if t.status ≠ .running then (t, none) else
    match t.loc, req with
    | .listen, .dep .. => tRxActiveGen c { t with loc := .first } req
    | .listen, _ => (t, none)
    | _, _ => tRxActiveGen c t req

end target

end NfcVerif.FnBridge.DepSm
