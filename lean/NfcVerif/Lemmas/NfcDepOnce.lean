import NfcVerif.Lemmas.NfcDepLive
/-!
# NFC-DEP: exactly once, in order, intact - for every fault script; everything under a sparse one

Phase alignment between the loops of `Initiator.exchange` and the Target machine: `sendLoop_sync`,
`recvLoop_sync`, `exchange_sync`, `iApp_sync`, each transaction through its outcome against the Target
(`transact_more`, `transact_inf`, `transact_ack`).  Each says where the Target is after a failure and after a
success and, as its last clause, that under a sparse script with fuel for the payloads the call succeeds.
`run_sync` and `run_live` for equal DIDs, `run_mismatch` otherwise.
-/
namespace NfcVerif.NfcDep
open NfcVerif

section
variable (c : Cfg) (hdid : c.tdid = c.idid) (fuel : Nat)
include hdid

theorem sendLoop_sync : ∀ (n : Nat) (a : Air TState) (pniI : Nat) (sd acc : Bytes) (g ts : List Bytes) (p : Bytes),
    p = acc ++ sd → pniI < 4 → PData c pniI acc g ts a.peer →
    (∀ e, (sendLoop (targetPeer c) c fuel n a pniI sd).2.2 = .error e →
        (sendLoop (targetPeer c) c fuel n a pniI sd).1.peer.got = g ∨
        (sendLoop (targetPeer c) c fuel n a pniI sd).1.peer.got = g ++ [p])
    ∧ (∀ res, (sendLoop (targetPeer c) c fuel n a pniI sd).2.2 = .ok res →
        ∃ pl p' ts', pl < 4 ∧ (sendLoop (targetPeer c) c fuel n a pniI sd).2.1 = (pl + 1) % 4 ∧ ts = p' :: ts'
          ∧ res = chunkPdu c pl p'
          ∧ PPost pl (.sending p') (chunkPdu c pl p') (g ++ [p]) ts' (sendLoop (targetPeer c) c fuel n a pniI sd).1.peer)
    ∧ (LiveCfg c → 2 ≤ fuel → sd.length < n → (∃ p' ts', ts = p' :: ts' ∧ p' ≠ []) → Calm a →
        Calm (sendLoop (targetPeer c) c fuel n a pniI sd).1
        ∧ ∃ res, (sendLoop (targetPeer c) c fuel n a pniI sd).2.2 = .ok res)
  | 0, a, pniI, sd, acc, g, ts, p, _, _, hA => by
    unfold sendLoop
    exact ⟨fun e _ => Or.inl hA.got, nofun, fun _ _ h => nomatch h⟩
  | n+1, a, pniI, sd, acc, g, ts, p, hp, hlt, hA => by
    unfold sendLoop
    dsimp only
    by_cases hrest : sd.drop c.imiu = []
    · -- last chunk
      have hsl := List.drop_eq_nil_iff.mp hrest
      simp only [hrest, ne_eq, not_true_eq_false, if_false, List.take_of_length_le hsl]
      have hx := transact_inf c hdid fuel a sd p hp hA
      generalize transact (targetPeer c) c fuel pniI a (.dep fINF pniI c.idid c.inad sd) = r at hx ⊢
      obtain ⟨a', u⟩ := r
      rcases hx with ⟨⟨e, rfl⟩, hAB, hnl⟩ | ⟨res, rfl, hr, hB', hcalm⟩
      · exact ⟨fun _ _ => hAB.imp PData.got PDone.got, nofun,
          fun L hf _ ht hC => absurd ⟨⟨L, hf, hsl, ht⟩, hC⟩ hnl⟩
      · have hpp := hB'.ok hr
        obtain ⟨p', ts', rfl, rfl⟩ := infResp_some hr
        simp only [chunkPdu, chunkFmt_ne_ack, false_and, if_false, not_true_eq_false]
        refine ⟨nofun, (fun res h => ?_), fun L hf _ ht hC => ⟨hcalm ⟨L, hf, hsl, ht⟩ hC, _, rfl⟩⟩
        cases h
        exact ⟨pniI, p', ts', hlt, rfl, rfl, rfl, hpp⟩
    · -- more chunks follow
      simp only [hrest, ne_eq, not_false_eq_true, if_true]
      have hdl : (sd.take c.imiu).length ≤ c.imiu := by simp [List.length_take]; omega
      have hx := transact_more c hdid fuel a (sd.take c.imiu) hA
      generalize transact (targetPeer c) c fuel pniI a (.dep fMORE pniI c.idid c.inad (sd.take c.imiu)) = r at hx ⊢
      obtain ⟨a', u⟩ := r
      rcases hx with ⟨⟨e, rfl⟩, hAB, hnl⟩ | ⟨res, rfl, hr, hB', hcalm⟩
      · exact ⟨fun _ _ => Or.inl (hAB.elim PData.got PPost.got), nofun,
          fun L hf _ _ hC => absurd ⟨⟨L, hf, hdl⟩, hC⟩ hnl⟩
      · cases hr
        simp only [ackPdu, and_false, if_false, not_true_eq_false]
        have ih := sendLoop_sync n a' ((pniI + 1) % 4) (sd.drop c.imiu) (acc ++ sd.take c.imiu) g ts p
          (by rw [hp, List.append_assoc, List.take_append_drop]) (Nat.mod_lt _ (by decide)) (PPost.recv c hlt hB')
        refine ⟨ih.1, ih.2.1, fun L hf hlen ht hC => ih.2.2 L hf ?_ ht (hcalm ⟨L, hf, hdl⟩ hC)⟩
        have := L.ipos
        have : sd.length > c.imiu := by
          have := mt List.drop_eq_nil_of_le hrest; omega
        simp [List.length_drop]; omega

theorem recvLoop_sync : ∀ (n : Nat) (a : Air TState) (pniI : Nat) (acc : Bytes) (fmt : Nat) (g ts : List Bytes) (p' : Bytes),
    pniI < 4 →
    ((fmt = fMORE ∧ ∃ d, PSend c pniI d g ts a.peer ∧ acc ++ d.drop c.tmiu = p')
      ∨ (fmt = fINF ∧ PData c pniI [] g ts a.peer ∧ acc = p')) →
    (∀ e, (recvLoop (targetPeer c) c fuel n a pniI acc fmt).2.2 = .error e →
        (recvLoop (targetPeer c) c fuel n a pniI acc fmt).1.peer.got = g)
    ∧ (∀ out, (recvLoop (targetPeer c) c fuel n a pniI acc fmt).2.2 = .ok out →
        out = p' ∧ (recvLoop (targetPeer c) c fuel n a pniI acc fmt).2.1 < 4
        ∧ PData c (recvLoop (targetPeer c) c fuel n a pniI acc fmt).2.1 [] g ts
            (recvLoop (targetPeer c) c fuel n a pniI acc fmt).1.peer)
    ∧ (LiveCfg c → 2 ≤ fuel → p'.length < acc.length + n → Calm a →
        Calm (recvLoop (targetPeer c) c fuel n a pniI acc fmt).1
        ∧ ∃ out, (recvLoop (targetPeer c) c fuel n a pniI acc fmt).2.2 = .ok out)
  | 0, a, pniI, acc, fmt, g, ts, p', _, h => by
    unfold recvLoop
    refine ⟨fun e _ => ?_, nofun, fun _ _ hlen _ => ?_⟩
    · rcases h with ⟨_, d, hs, _⟩ | ⟨_, hd, _⟩
      · exact hs.got
      · exact hd.got
    · rcases h with ⟨_, d, _, rfl⟩ | ⟨_, _, rfl⟩
      · simp at hlen; omega
      · omega
  | n+1, a, pniI, acc, fmt, g, ts, p', hlt, h => by
    unfold recvLoop
    rcases h with ⟨hf, d, hS, hacc⟩ | ⟨hf, hD, hacc⟩
    · subst hf
      simp only [ne_eq, not_true_eq_false, if_false]
      have hx := transact_ack c hdid fuel a hS
      generalize transact (targetPeer c) c fuel pniI a (.dep fACK pniI c.idid c.inad []) = r at hx ⊢
      obtain ⟨a', u⟩ := r
      rcases hx with ⟨⟨e, rfl⟩, hAB, hnl⟩ | ⟨res, rfl, hr, hB', hcalm⟩
      · exact ⟨fun _ _ => hAB.elim PSend.got PDone.got, nofun, fun L hf _ hC => absurd ⟨⟨L, hf⟩, hC⟩ hnl⟩
      · have hpp := hB'.ok hr
        cases ackResp_some hr
        simp only [chunkPdu, chunkFmt_data, if_false, not_true_eq_false]
        have ih := recvLoop_sync n a' ((pniI + 1) % 4) (acc ++ (d.drop c.tmiu).take c.tmiu)
          (if (d.drop c.tmiu).length > c.tmiu then fMORE else fINF) g ts p' (Nat.mod_lt _ (by decide)) (by
            rcases hpp.next c hlt ((d.drop c.tmiu).take c.tmiu) rfl with ⟨h1, hS', hd'⟩ | ⟨h1, hD', hd'⟩
            · exact Or.inl ⟨h1, _, hS', by rw [List.append_assoc, hd']; exact hacc⟩
            · refine Or.inr ⟨h1, hD', ?_⟩
              rw [hd']; exact hacc)
        refine ⟨ih.1, ih.2.1, fun L hf hlen hC => ih.2.2 L hf ?_ (hcalm ⟨L, hf⟩ hC)⟩
        -- the chunk just received is not empty, so the fuel still covers what is left of `p'`
        have hgt := hS.long
        have := L.tpos
        simp [List.length_take, List.length_drop] at hlen ⊢
        omega
    · subst hf
      have : fINF ≠ fMORE := by decide
      simp only [ne_eq, this, not_false_eq_true, if_true]
      exact ⟨nofun, (fun out h => by cases h; exact ⟨hacc, hlt, hD⟩), fun _ _ _ hC => ⟨hC, _, rfl⟩⟩

theorem exchange_sync (a : Air TState) (pniI : Nat) (p : Bytes) (g ts : List Bytes) (hlt : pniI < 4)
    (hA : PData c pniI [] g ts a.peer) :
    (∀ e, (exchange (targetPeer c) c fuel a pniI p).2.2 = .error e →
        (exchange (targetPeer c) c fuel a pniI p).1.peer.got = g ∨
        (exchange (targetPeer c) c fuel a pniI p).1.peer.got = g ++ [p])
    ∧ (∀ out, (exchange (targetPeer c) c fuel a pniI p).2.2 = .ok out →
        ∃ ts', ts = out :: ts' ∧ (exchange (targetPeer c) c fuel a pniI p).2.1 < 4
          ∧ PData c (exchange (targetPeer c) c fuel a pniI p).2.1 [] (g ++ [p]) ts'
              (exchange (targetPeer c) c fuel a pniI p).1.peer)
    ∧ (LiveCfg c → p ≠ [] → p.length < fuel → (∃ p' ts', ts = p' :: ts' ∧ p' ≠ [] ∧ p'.length < fuel) → Calm a →
        Calm (exchange (targetPeer c) c fuel a pniI p).1
        ∧ ∃ out, (exchange (targetPeer c) c fuel a pniI p).2.2 = .ok out) := by
  unfold exchange
  split
  · exact ⟨fun _ _ => Or.inl hA.got, nofun, fun _ h => absurd ‹p = []› h⟩
  · have hs := sendLoop_sync c hdid fuel fuel a pniI p [] g ts p (by simp) hlt hA
    generalize sendLoop (targetPeer c) c fuel fuel a pniI p = r at hs ⊢
    obtain ⟨a1, pni1, u⟩ := r
    cases u with
    | error e =>
      refine ⟨fun _ _ => hs.1 e rfl, nofun, fun L hp hl ⟨p', ts', ht, hp', _⟩ hC => ?_⟩
      have hp0 : 0 < p.length := List.length_pos_iff.mpr hp
      obtain ⟨_, _, h⟩ := hs.2.2 L (by omega) hl ⟨p', ts', ht, hp'⟩ hC
      cases h
    | ok res =>
      obtain ⟨pl, p', ts', hpl, hp1, hts, hres, hpp⟩ := hs.2.1 res rfl
      dsimp only at hp1 hpp
      subst hres hp1
      simp only [chunkPdu, chunkFmt_data, if_false]
      have hn := hpp.next c hpl (p'.take c.tmiu) rfl
      have hr := recvLoop_sync c hdid fuel fuel a1 ((pl + 1) % 4) (p'.take c.tmiu) _ (g ++ [p]) ts' p'
        (Nat.mod_lt _ (by decide)) (hn.imp (fun ⟨h1, hS, hd⟩ => ⟨h1, _, hS, hd⟩) id)
      refine ⟨fun e he => Or.inr (hr.1 e he), fun out ho => ?_, fun L hp hl ⟨p'', ts'', ht, hp', hl'⟩ hC => ?_⟩
      · obtain ⟨h1, h2, h3⟩ := hr.2.1 out ho
        exact ⟨ts', by rw [hts, h1], h2, h3⟩
      · have hp0 : 0 < p.length := List.length_pos_iff.mpr hp
        cases hts.symm.trans ht
        exact hr.2.2 L (by omega) (by omega) (hs.2.2 L (by omega) hl ⟨_, _, ht, hp'⟩ hC).1

theorem iApp_sync (pi0 pt0 : List Bytes) : ∀ (rem : List Bytes) (a : Air TState) (pniI : Nat) (gotI g ts : List Bytes),
    pniI < 4 → PData c pniI [] g ts a.peer → pi0 = g ++ rem → pt0 = gotI ++ ts →
    (iApp (targetPeer c) c fuel rem a pniI gotI).1.peer.got <+: pi0
    ∧ (iApp (targetPeer c) c fuel rem a pniI gotI).2.1 <+: pt0
    ∧ ((iApp (targetPeer c) c fuel rem a pniI gotI).2.2 = none →
        (iApp (targetPeer c) c fuel rem a pniI gotI).1.peer.got = pi0
        ∧ (iApp (targetPeer c) c fuel rem a pniI gotI).2.1.length = gotI.length + rem.length)
    ∧ (LiveCfg c → rem.length ≤ ts.length → (∀ p ∈ rem, p ≠ [] ∧ p.length < fuel) →
        (∀ p ∈ ts, p ≠ [] ∧ p.length < fuel) → Calm a → (iApp (targetPeer c) c fuel rem a pniI gotI).2.2 = none)
  | [], a, pniI, gotI, g, ts, _, hA, h1, h2 => by
    unfold iApp
    exact ⟨by rw [hA.got, h1]; simp, by rw [h2]; simp, fun _ => ⟨by rw [hA.got, h1]; simp, by simp⟩, fun _ _ _ _ _ => rfl⟩
  | p :: ps, a, pniI, gotI, g, ts, hlt, hA, h1, h2 => by
    unfold iApp
    have hx := exchange_sync c hdid fuel a pniI p g ts hlt hA
    have hl : LiveCfg c → (p :: ps).length ≤ ts.length → (∀ q ∈ p :: ps, q ≠ [] ∧ q.length < fuel) →
        (∀ q ∈ ts, q ≠ [] ∧ q.length < fuel) → Calm a → Calm (exchange (targetPeer c) c fuel a pniI p).1
          ∧ ∃ out, (exchange (targetPeer c) c fuel a pniI p).2.2 = .ok out := by
      intro L hlen hr ht hC
      cases ts with
      | nil => simp at hlen
      | cons p' ts' =>
        exact hx.2.2 L (hr p (by simp)).1 (hr p (by simp)).2 ⟨p', ts', rfl, ht p' (by simp)⟩ hC
    generalize exchange (targetPeer c) c fuel a pniI p = r at hx hl ⊢
    obtain ⟨a', pni', u⟩ := r
    cases u with
    | error e =>
      refine ⟨?_, by rw [h2]; simp, nofun, fun L hlen hr ht hC => by obtain ⟨_, _, h⟩ := hl L hlen hr ht hC; cases h⟩
      rcases hx.1 e rfl with h | h
      · show a'.peer.got <+: pi0
        rw [h, h1]; simp
      · show a'.peer.got <+: pi0
        rw [h, h1]; exact ⟨ps, by simp⟩
    | ok out =>
      obtain ⟨ts', hts, hlt', hA'⟩ := hx.2.1 out rfl
      have ih := iApp_sync pi0 pt0 ps a' pni' (gotI ++ [out]) (g ++ [p]) ts' hlt' hA'
        (by rw [h1]; simp) (by rw [h2, hts]; simp)
      refine ⟨ih.1, ih.2.1, fun h => ?_, fun L hlen hr ht hC => ?_⟩
      · have := ih.2.2.1 h
        exact ⟨this.1, by rw [this.2]; simp; omega⟩
      · subst hts
        exact ih.2.2.2 L (by simpa using hlen) (fun q hq => hr q (by simp [hq])) (fun q hq => ht q (by simp [hq]))
          (hl L hlen hr ht hC).1

omit hdid in
theorem tRx_dsl_got (t : TState) (rel : Bool) (did : Option Nat) :
    (tRx c t (.frame (if rel then .rls did else .dsl did))).1.got = t.got := by
  obtain ⟨pni, loc, depRes, tosend, got, status⟩ := t
  by_cases hr : status = .running
  · subst hr
    by_cases hd : did = c.tdid
    · cases rel <;> cases loc <;> simp [tRx, tRx.tRxActive, Pdu.didAttr, hd] <;> split <;> rfl
    · cases rel <;> cases loc <;> simp [tRx, tRx.tRxActive, Pdu.didAttr, hd]
  · cases rel <;> simp [tRx, hr]

omit hdid in
theorem deactivate_got (rel : Bool) (a : Air TState) :
    (deactivate (targetPeer c) c rel a).1.peer.got = a.peer.got := by
  unfold deactivate
  have hp := xfer_peer (targetPeer c) (fun _ => rfl) a (if rel then .rls c.idid else .dsl c.idid)
  have hx : (xfer (targetPeer c) a (if rel then .rls c.idid else .dsl c.idid)).1.peer.got = a.peer.got := by
    rcases hp with hp | hp
    · rw [hp.1]
    · rw [hp.1]; exact tRx_dsl_got c a.peer rel c.idid
  generalize xfer (targetPeer c) a (if rel then .rls c.idid else .dsl c.idid) = r at hx ⊢
  obtain ⟨a', u⟩ := r
  cases u with
  | error e => dsimp only; split <;> exact hx
  | ok _ => exact hx

omit hdid in
/-- what `run` reports about the payloads is what the application left: the deactivation delivers nothing -/
theorem run_app (script : List Fault) (rel : Nat) (pi pt : List Bytes) :
    (run c fuel script rel pi pt).t.got
      = (iApp (targetPeer c) c fuel pi ⟨script, TState.init pt, false, []⟩ 0 []).1.peer.got
    ∧ (run c fuel script rel pi pt).gotI = (iApp (targetPeer c) c fuel pi ⟨script, TState.init pt, false, []⟩ 0 []).2.1
    ∧ (run c fuel script rel pi pt).errI = (iApp (targetPeer c) c fuel pi ⟨script, TState.init pt, false, []⟩ 0 []).2.2 := by
  refine ⟨?_, rfl, rfl⟩
  unfold run
  dsimp only
  split
  · rfl
  · exact deactivate_got c _ _

/-- the composed system when both sides use the same DID: prefixes both ways, everything when nothing failed -/
theorem run_sync (script : List Fault) (rel : Nat) (pi pt : List Bytes) :
    (run c fuel script rel pi pt).t.got <+: pi ∧ (run c fuel script rel pi pt).gotI <+: pt
    ∧ ((run c fuel script rel pi pt).errI = none →
        (run c fuel script rel pi pt).t.got = pi ∧ (run c fuel script rel pi pt).gotI.length = pi.length) := by
  obtain ⟨hg, hI, hE⟩ := run_app c fuel script rel pi pt
  have h := iApp_sync c hdid fuel pi pt pi ⟨script, TState.init pt, false, []⟩ 0 [] [] pt (by decide)
    (PData.init c pt) rfl rfl
  rw [hg, hI, hE]
  exact ⟨h.1, h.2.1, fun hn => by simpa using h.2.2.1 hn⟩

end

/-- **Recovery.**  Under a sparse script (faults `l`/`c` only, after each fault the next `K ≥ 4`
frames are delivered) no exception is raised -/
theorem run_live (c : Cfg) (L : LiveCfg c) (K F : Nat) (hK : 4 ≤ K) (script : List Fault) (rel : Nat) (pi pt : List Bytes)
    (hs : sparse K 0 script = true) (hlen : pi.length ≤ pt.length) (hpi : ∀ p ∈ pi, p ≠ [] ∧ p.length ≤ F + 1)
    (hpt : ∀ p ∈ pt, p ≠ [] ∧ p.length ≤ F + 1) :
    (run c (F + 2) script rel pi pt).errI = none :=
  (iApp_sync c L.did (F + 2) pi pt pi ⟨script, TState.init pt, false, []⟩ 0 [] [] pt (by decide)
    (PData.init c pt) rfl rfl).2.2.2 L hlen
    (fun p h => ⟨(hpi p h).1, Nat.lt_succ_of_le (hpi p h).2⟩) (fun p h => ⟨(hpt p h).1, Nat.lt_succ_of_le (hpt p h).2⟩)
    ⟨K, 0, hK, hs⟩

/-- a frame whose DID differs from the Target's is never answered and changes nothing in the Target, except that
`clf.listen` has returned (`listen -> first`) -/
theorem tRx_foreign (c : Cfg) (t : TState) (req : Pdu) (h : req.didAttr ≠ c.tdid) :
    (tRx c t (.frame req)).2 = none ∧
    ((tRx c t (.frame req)).1 = t ∨ (t.loc = .listen ∧ (tRx c t (.frame req)).1 = { t with loc := .first })) := by
  obtain ⟨pni, loc, depRes, tosend, got, status⟩ := t
  by_cases hr : status = .running
  · subst hr
    cases loc <;> cases req <;> simp [tRx, tRx.tRxActive, h]
  · simp [tRx, hr]

theorem tRx_mismatch (c : Cfg) (t : TState) (req : Pdu) (h : req.didAttr ≠ c.tdid) :
    (tRx c t (.frame req)).2 = none ∧ (tRx c t (.frame req)).1.got = t.got := by
  obtain ⟨h1, h2 | ⟨_, h2⟩⟩ := tRx_foreign c t req h <;> exact ⟨h1, by rw [h2]⟩

theorem tRx_atn_got (c : Cfg) (t : TState) : (tRx c t (.frame (atnPdu c))).1.got = t.got := by
  have key : ∀ did, (tRx c t (.frame (.dep fATN 0 did none []))).1.got = t.got := by
    intro did
    rcases tRx_atn_state c t did with h1 | ⟨_, h1⟩ <;> rw [h1]
  rcases atn_cases c with h1 | h1 <;> rw [h1] <;> exact key _

section
variable (c : Cfg) (hne : c.tdid ≠ c.idid) (fuel : Nat)
include hne

theorem mismatchTX (g : List Bytes) (pni fmt rp : Nat) (data : Bytes) :
    TXHyp (targetPeer c) c (fun t => t.got = g) (fun t => t.got = g) none pni (.dep fmt rp c.idid c.inad data) := by
  -- a frame with the Initiator's DID is not for this Target, and an ATN delivers nothing
  have frm : ∀ (t : TState) f r d, t.got = g → (tRx c t (.frame (.dep f r c.idid c.inad d))).1.got = g
      ∧ (tRx c t (.frame (.dep f r c.idid c.inad d))).2 = none := fun t f r d h =>
    have m := tRx_mismatch c t (.dep f r c.idid c.inad d) (fun h' => hne h'.symm)
    ⟨m.2.trans h, m.1⟩
  have atn : ∀ t : TState, t.got = g → (tRx c t (.frame (atnPdu c))).1.got = g :=
    fun t h => (tRx_atn_got c t).trans h
  exact { cor := fun _ => rfl, aAtn := atn, bAtn := atn
          aReq := fun t h => frm t _ _ _ h
          bReq := fun t h => ⟨(frm t _ _ _ h).1, Or.inl (frm t _ _ _ h).2⟩
          bNak := fun t h => ⟨(frm t _ _ _ h).1, Or.inl (frm t _ _ _ h).2⟩ }

theorem transact_mismatch (g : List Bytes) (pni fmt : Nat) (data : Bytes) (a : Air TState) (h : a.peer.got = g) :
    (transact (targetPeer c) c fuel pni a (.dep fmt pni c.idid c.inad data)).1.peer.got = g
    ∧ ∀ res, (transact (targetPeer c) c fuel pni a (.dep fmt pni c.idid c.inad data)).2 ≠ .ok res := by
  have hx := transact_tx (mismatchTX c hne g pni fmt pni data) nofun fuel a h
  rcases hx with ⟨h1, h2⟩ | ⟨h1, h2⟩
  · exact ⟨h1, h2⟩
  · exact ⟨h1, fun res hr => by cases h2 res hr⟩

theorem exchange_mismatch (g : List Bytes) (a : Air TState) (pni : Nat) (p : Bytes) (h : a.peer.got = g) :
    (exchange (targetPeer c) c fuel a pni p).1.peer.got = g
    ∧ ∀ out, (exchange (targetPeer c) c fuel a pni p).2.2 ≠ .ok out := by
  unfold exchange
  split
  · exact ⟨h, nofun⟩
  · have hs : (sendLoop (targetPeer c) c fuel fuel a pni p).1.peer.got = g
        ∧ ∀ res, (sendLoop (targetPeer c) c fuel fuel a pni p).2.2 ≠ .ok res := by
      cases fuel with
      | zero => unfold sendLoop; exact ⟨h, nofun⟩
      | succ n =>
        unfold sendLoop
        dsimp only
        have ht := transact_mismatch c hne (n+1) g pni
          (if List.drop c.imiu p ≠ [] then fMORE else fINF) (List.take c.imiu p) a h
        generalize transact (targetPeer c) c (n+1) pni a _ = r at ht ⊢
        obtain ⟨a', u⟩ := r
        cases u with
        | error e => exact ⟨ht.1, nofun⟩
        | ok res => exact absurd rfl (ht.2 res)
    generalize sendLoop (targetPeer c) c fuel fuel a pni p = r at hs ⊢
    obtain ⟨a1, pni1, u⟩ := r
    cases u with
    | error e => exact ⟨hs.1, nofun⟩
    | ok res => exact absurd rfl (hs.2 res)

theorem iApp_mismatch (g : List Bytes) : ∀ (rem : List Bytes) (a : Air TState) (pni : Nat) (gotI : List Bytes),
    a.peer.got = g →
    (iApp (targetPeer c) c fuel rem a pni gotI).1.peer.got = g ∧ (iApp (targetPeer c) c fuel rem a pni gotI).2.1 = gotI
  | [], a, pni, gotI, h => by unfold iApp; exact ⟨h, rfl⟩
  | p :: ps, a, pni, gotI, h => by
    unfold iApp
    have hx := exchange_mismatch c hne fuel g a pni p h
    generalize exchange (targetPeer c) c fuel a pni p = r at hx ⊢
    obtain ⟨a', pni', u⟩ := r
    cases u with
    | error e => exact ⟨hx.1, rfl⟩
    | ok out => exact absurd rfl (hx.2 out)

/-- different DIDs on the two sides: nothing is ever delivered -/
theorem run_mismatch (script : List Fault) (rel : Nat) (pi pt : List Bytes) :
    (run c fuel script rel pi pt).t.got = [] ∧ (run c fuel script rel pi pt).gotI = [] := by
  obtain ⟨hg, hI, -⟩ := run_app c fuel script rel pi pt
  rw [hg, hI]
  exact iApp_mismatch c hne fuel [] pi ⟨script, TState.init pt, false, []⟩ 0 [] rfl
end

end NfcVerif.NfcDep
