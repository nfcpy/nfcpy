import NfcVerif.Gen.FnLlc
import NfcVerif.Lemmas.FnBridgeBase
import NfcVerif.Lemmas.Activate
/-!
For `Props/FnBridgeLlc.lean`: the encodings `oi` / `pi` of the model's PAX fields as Python values, bit masks on
arbitrary (also negative) Python ints, membership in `range`.
-/
namespace NfcVerif.FnBridge.Llc
open NfcVerif NfcVerif.PyFn

/-- a raw TLV value of the model's `Pax` (`Option Nat`) as the Python attribute (`int | None`) -/
def oi (o : Option Nat) : Option Int := o.map (fun (n : Nat) => (n : Int))

@[simp] theorem oi_none : oi none = none := rfl
@[simp] theorem oi_some (n : Nat) : oi (some n) = some (n : Int) := rfl

/-- a pair of naturals as a Python tuple of ints -/
def pi (p : Nat × Nat) : Int × Int := ((p.1 : Int), (p.2 : Int))

theorem band_255 (x : Int) : band x 255 = x % 256 := band_mask 8 x
theorem band_65535 (x : Int) : band x 65535 = x % 65536 := band_mask 16 x

/-- `y & 0xF0` on a natural: the high nibble of the low octet -/
theorem and240 (y : Nat) : y &&& 240 = y % 256 / 16 * 16 := by
  have e : y &&& 240 = (y % 256) &&& 240 := by
    rw [← and255, Nat.and_assoc]; rfl
  rw [e]
  have h := and_high (y % 256) 4 4 (by have := Nat.mod_lt y (show 0 < 256 by omega); simpa using this)
  simp only [show ((2 : Nat) ^ 4 - 1) <<< 4 = 240 from rfl] at h
  rw [h, Nat.shiftRight_eq_div_pow, Nat.shiftLeft_eq]

/-- `a | b` of a multiple of 16 and a nibble is their sum -/
theorem or_nibble (h l : Nat) (hl : l < 16) : (h * 16) ||| l = h * 16 + l := by
  have : h * 16 = h <<< 4 := by rw [Nat.shiftLeft_eq]
  rw [this, ← Nat.shiftLeft_add_eq_or_of_lt (by simpa using hl)]

theorem band_3 (x : Int) : band x 3 = x % 4 := band_mask 2 x

theorem mem_range (a lo hi : Int) : a ∈ PyFn.range lo hi ↔ lo ≤ a ∧ a < hi := by
  unfold PyFn.range
  simp only [List.mem_map, List.mem_range]
  constructor
  · rintro ⟨i, hi', rfl⟩; omega
  · rintro ⟨h1, h2⟩; exact ⟨(a - lo).toNat, by omega, by omega⟩

end NfcVerif.FnBridge.Llc
