import NfcVerif.Model.Deact
/-!
# Lemmas about the virtual-clock model of NFC-DEP deactivation (C09)

`finish_bound`: the end time of the exchange loop of `Target._deactivate` for every peer script, by a potential
on steps (`pot`: the latest end from a state between two exchanges, the time itself once the dialogue is over) that
no step raises except by the latency a repeated exchange costs (`step_pot`); `tx_run` / `renew_run`: the scripts
that keep the as-found retry loop, resp. a renewed deadline, busy for as long as wanted.
-/
namespace NfcVerif.Deact

/-- The latest end of the dialogue seen from a state between two exchanges, TransmissionErrors apart: the exchange
    under way may overrun `max now dl` by one driver latency, and from the main loop the RLS_RES / DSL_RES (sent with
    deadline 0) may cost one more.  In final mode the code has `dl = 0`; `max now dl` bounds it without assuming that. -/
def base (cfg : Cfg) (s : St) : Nat :=
  max s.now s.dl + (match s.mode with | .main => 2 * cfg.lat | .final => cfg.lat)

def pot (cfg : Cfg) : Step → Nat
  | .go s => base cfg s
  | .fin _ t _ => t

/-- what `tRun` and `targetDeactivate` do with the result of a step (their `match`, by `rfl`) -/
def finish (cfg : Cfg) (rest : List Ev) : Step → Res
  | .go s => tRun cfg rest s
  | .fin e t tr => ⟨e, t, tr⟩

theorem xchg_le (cfg : Cfg) (now dl : Nat) (ev : Ev) : (xchg cfg now dl ev).2 ≤ max now dl + cfg.lat := by
  unfold xchg; split <;> simp only <;> omega

/- After a request decoded at `now` the dialogue is over (`now`), in its last exchange (over by `now + lat`) or in the
   main loop before the deadline (`now < dl`, over by `dl + 2 * lat`): hence the bound of the next two lemmas. -/
theorem cont_pot (cfg : Cfg) (hr : cfg.renew = false) (x : Sent) (dl now : Nat) (tr) :
    pot cfg (cont cfg x dl now tr) ≤ max (now + cfg.lat) (dl + 2 * cfg.lat) := by
  simp only [cont, hr, Bool.false_and, Bool.false_eq_true, if_false]
  split <;> simp only [pot, base] <;> omega

theorem afterReq_pot (cfg : Cfg) (hr : cfg.renew = false) (dl : Nat) (r : Req) (ok : Bool) (now : Nat) (tr) :
    pot cfg (afterReq cfg dl r ok now tr) ≤ max (now + cfg.lat) (dl + 2 * cfg.lat) := by
  unfold afterReq
  cases ok <;> cases r <;> simp only [if_true, if_false, Bool.false_eq_true]
  case true.dsl | true.rls => simp only [pot, base]; omega
  all_goals exact cont_pot cfg hr _ dl now tr

theorem step_pot (cfg : Cfg) (hr : cfg.renew = false) (s : St) (ev : Ev) (rest : List Ev) :
    pot cfg (step cfg s ev) + txSlack cfg rest ≤ base cfg s + txSlack cfg (ev :: rest) := by
  have hx := xchg_le cfg s.now s.dl ev
  have hsl : txSlack cfg rest ≤ txSlack cfg (ev :: rest) := by
    unfold txSlack; split <;> simp [slack]
  have htx : (xchg cfg s.now s.dl ev).1 = .transmission → ev.out = .transmission := fun h => by
    unfold xchg at h; split at h <;> simp_all
  have hb : max s.now s.dl + cfg.lat ≤ base cfg s := by unfold base; cases s.mode <;> simp only <;> omega
  unfold step
  generalize xchg cfg s.now s.dl ev = r at hx htx
  obtain ⟨o, t⟩ := r
  simp only at hx htx ⊢
  cases o with
  | transmission =>
    simp only
    split
    · simp only [pot]; omega
    · -- the exchange is repeated
      rename_i hnb
      have hev := htx rfl
      cases hrb : cfg.retryBounded with
      | false =>
        -- as found: the event pays for the overrun with its latency of slack
        have : txSlack cfg (ev :: rest) = cfg.lat + txSlack cfg rest := by simp [txSlack, slack, hrb, hev]
        cases hm : s.mode <;> simp only [pot, base, hm] at hb ⊢ <;> omega
      | true =>
        -- repaired: the exchange ended before the deadline, the potential does not rise
        have : t < s.dl := by simpa [hrb] using hnb
        cases hm : s.mode <;> simp only [pot, base, hm] at hb ⊢ <;> omega
  | frame q ok =>
    simp only
    cases hm : s.mode with
    | main =>
      have := afterReq_pot cfg hr s.dl q ok t (s.trace ++ [(s.sent, s.dl - s.now)])
      simp only [base, hm] at hb ⊢; omega
    | final => simp only [pot]; omega
  | _ => simp only [pot]; omega

theorem finish_bound (cfg : Cfg) (hr : cfg.renew = false) :
    ∀ script st, (finish cfg script st).tEnd ≤ pot cfg st + txSlack cfg script
  | _, .fin _ t _ => Nat.le_add_right t _
  | [], .go s => by simp only [finish, tRun, silentEnd, pot, base]; cases s.mode <;> simp only <;> omega
  | ev :: rest, .go s => by
    have := finish_bound cfg hr rest (step cfg s ev)
    have := step_pot cfg hr s ev rest
    show (finish cfg rest (step cfg s ev)).tEnd ≤ _
    simp only [pot]; omega

def txEv : Ev := ⟨.transmission, 1⟩
def infEv : Ev := ⟨.frame .inf true, 1⟩

theorem tx_run (cfg : Cfg) (hb : cfg.retryBounded = false) (hl : 1 ≤ cfg.lat) : ∀ (n : Nat) (s : St),
    s.now + n ≤ (tRun cfg (List.replicate n txEv) s).tEnd := by
  intro n
  induction n with
  | zero => intro s; simp [tRun, silentEnd]
  | succ n ih =>
    intro s
    have hstep : step cfg s txEv = .go { s with sent := .nothing, now := s.now + 1, trace := s.trace ++ [(s.sent, s.dl - s.now)] } := by
      have hx : xchg cfg s.now s.dl txEv = (.transmission, s.now + 1) := by
        unfold xchg txEv; simp; omega
      simp [step, hx, hb]
    simp only [List.replicate_succ, tRun, hstep]
    have := ih { s with sent := .nothing, now := s.now + 1, trace := s.trace ++ [(s.sent, s.dl - s.now)] }
    simp only at this; omega

theorem renew_run (cfg : Cfg) (hn : cfg.renew = true) (hD : 0 < cfg.D) (hl : 1 ≤ cfg.lat) : ∀ (n : Nat) (s : St),
    s.mode = .main → s.now + n ≤ (tRun cfg (List.replicate n infEv) s).tEnd := by
  intro n
  induction n with
  | zero => intro s _; simp [tRun, silentEnd]
  | succ n ih =>
    intro s hm
    have hx : xchg cfg s.now s.dl infEv = (.frame .inf true, s.now + 1) := by
      unfold xchg infEv; simp; omega
    have hstep : step cfg s infEv = .go ⟨.main, .inf, s.now + 1, s.now + 1 + cfg.D, s.trace ++ [(s.sent, s.dl - s.now)]⟩ := by
      simp [step, hx, hm, afterReq, cont, hn]; omega
    simp only [List.replicate_succ, tRun, hstep]
    have := ih ⟨.main, .inf, s.now + 1, s.now + 1 + cfg.D, s.trace ++ [(s.sent, s.dl - s.now)]⟩ rfl
    simp only at this; omega

theorem target_unbounded (cfg : Cfg) (hb : cfg.retryBounded = false) (hl : 1 ≤ cfg.lat) (hD : 0 < cfg.D) (t0 B : Nat) :
    ∃ script, B < (targetDeactivate cfg .no script t0).tEnd := by
  refine ⟨List.replicate (B + 1) txEv, ?_⟩
  unfold targetDeactivate
  rw [if_pos (by omega)]
  have := tx_run cfg hb hl (B + 1) ⟨.main, .nothing, t0, t0 + cfg.D, []⟩
  simp only at this ⊢; omega

theorem slack_no_tx (cfg : Cfg) (script : List Ev) (h : ∀ ev ∈ script, ev.out ≠ .transmission) : slack cfg script = 0 := by
  induction script with
  | nil => rfl
  | cons ev rest ih =>
    have h1 : ev.out ≠ .transmission := h ev (by simp)
    simp [slack, h1, ih (fun e he => h e (by simp [he]))]

end NfcVerif.Deact
