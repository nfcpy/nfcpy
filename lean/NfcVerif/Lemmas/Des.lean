import NfcVerif.Model.Des
/-!
# DES and triple DES are bijections

No enumeration of blocks: a Feistel network is inverted by the same network
with the round keys reversed, whatever the round function is (`feistel_inv`);
the initial and final permutation tables are inverse to each other (two
64-case `decide`s).
-/
namespace NfcVerif.Des

theorem perm_perm {n m k : Nat} (a : Vector (Fin n) m) (b : Vector (Fin m) k) (x : Bits n) :
    perm b (perm a x) = perm (Vector.ofFn fun i => a[b[i]]) x := by
  apply Vector.ext
  intro i hi
  simp [perm]

theorem perm_id {n : Nat} (a : Vector (Fin n) n) (h : ∀ i : Fin n, a[i] = i) (x : Bits n) : perm a x = x := by
  apply Vector.ext
  intro i hi
  have := h ⟨i, hi⟩
  simp only [perm, Vector.getElem_ofFn]
  simp only [Fin.getElem_fin] at this ⊢
  simp [this]

theorem perm_cancel {n : Nat} (a b : Vector (Fin n) n) (h : ∀ i : Fin n, a[b[i]] = i) (x : Bits n) :
    perm b (perm a x) = x := by
  rw [perm_perm]
  apply perm_id
  intro i
  simpa using h i

theorem perm_fp_ip : ∀ x : Bits 64, perm fpTbl (perm ipTbl x) = x := perm_cancel ipTbl fpTbl (by decide)

theorem perm_ip_fp : ∀ x : Bits 64, perm ipTbl (perm fpTbl x) = x := perm_cancel fpTbl ipTbl (by decide)

theorem xorV_cancel {n : Nat} (a b : Bits n) : xorV (xorV a b) b = a := by
  apply Vector.ext
  intro i hi
  simp [xorV]

section Feistel
variable {α κ : Type} (x : α → α → α) (f : α → κ → α)

theorem fswap_fswap (s : α × α) : fswap (fswap s) = s := rfl

theorem fround_inv (hx : ∀ a b, x (x a b) b = a) (k : κ) (s : α × α) :
    fswap (fround x f k (fswap (fround x f k s))) = s := by
  cases s with
  | mk l r => simp [fround, fswap, hx]

theorem frounds_snoc (ks : List κ) (k : κ) (s : α × α) :
    frounds x f (ks ++ [k]) s = fround x f k (frounds x f ks s) := by
  simp [frounds, List.foldl_append]

theorem frounds_cons (ks : List κ) (k : κ) (s : α × α) :
    frounds x f (k :: ks) s = frounds x f ks (fround x f k s) := rfl

theorem feistel_inv (hx : ∀ a b, x (x a b) b = a) (ks : List κ) (s : α × α) :
    feistel x f ks.reverse (feistel x f ks s) = s := by
  induction ks generalizing s with
  | nil => rfl
  | cons k t ih =>
    have ih' := ih (fround x f k s)
    simp only [feistel] at ih' ⊢
    have h2 : frounds x f t.reverse (fswap (frounds x f t (fround x f k s))) = fswap (fround x f k s) := by
      have := congrArg fswap ih'
      rwa [fswap_fswap] at this
    rw [List.reverse_cons, frounds_snoc, frounds_cons, h2]
    exact fround_inv x f hx k s

theorem feistel_inv' (hx : ∀ a b, x (x a b) b = a) (ks : List κ) (s : α × α) :
    feistel x f ks (feistel x f ks.reverse s) = s := by
  have := feistel_inv x f hx ks.reverse s
  rwa [List.reverse_reverse] at this

end Feistel

theorem join_get (s : Bits 32 × Bits 32) (i : Nat) (hi : i < 64) :
    (join s)[i] = if h : i < 32 then s.1[i] else s.2[i - 32]'(by omega) := by
  unfold join
  rw [Vector.getElem_ofFn]

theorem split_fst_get (b : Bits 64) (i : Nat) (hi : i < 32) : (split b).1[i] = b[i] := by
  unfold split
  simp only []
  rw [Vector.getElem_ofFn]

theorem split_snd_get (b : Bits 64) (i : Nat) (hi : i < 32) : (split b).2[i] = b[32 + i] := by
  unfold split
  simp only []
  rw [Vector.getElem_ofFn]

theorem join_split (b : Bits 64) : join (split b) = b := by
  apply Vector.ext
  intro i hi
  rw [join_get]
  split
  · rw [split_fst_get]
  · rw [split_snd_get]; congr 1; omega

theorem split_join (s : Bits 32 × Bits 32) : split (join s) = s := by
  apply Prod.ext
  · apply Vector.ext
    intro i hi
    rw [split_fst_get, join_get]
    simp [hi]
  · apply Vector.ext
    intro i hi
    rw [split_snd_get, join_get]
    have : ¬ (32 + i < 32) := by omega
    simp [this]

theorem desCore_inv (ks : List (Bits 48)) (b : Bits 64) : desCore ks.reverse (desCore ks b) = b := by
  simp only [desCore, perm_ip_fp, split_join, feistel_inv xorV fFun xorV_cancel, join_split, perm_fp_ip]

theorem desCore_inv' (ks : List (Bits 48)) (b : Bits 64) : desCore ks (desCore ks.reverse b) = b := by
  have := desCore_inv ks.reverse b
  rwa [List.reverse_reverse] at this

theorem desDec_desEnc (k b : Bits 64) : desDec k (desEnc k b) = b := desCore_inv _ b

theorem desEnc_desDec (k b : Bits 64) : desEnc k (desDec k b) = b := desCore_inv' _ b

theorem tdesDec_tdesEnc (k1 k2 b : Bits 64) : tdesDec k1 k2 (tdesEnc k1 k2 b) = b := by
  simp [tdesDec, tdesEnc, desDec_desEnc, desEnc_desDec]

theorem tdesEnc_tdesDec (k1 k2 b : Bits 64) : tdesEnc k1 k2 (tdesDec k1 k2 b) = b := by
  simp [tdesDec, tdesEnc, desDec_desEnc, desEnc_desDec]

end NfcVerif.Des
