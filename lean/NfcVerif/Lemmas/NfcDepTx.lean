import NfcVerif.Lemmas.NfcDep
/-!
# NFC-DEP: one `send_dep_req_recv_dep_res` makes the peer accept the request at most once

Generic over the peer: `A` = states before the request was accepted (closed under ATN), `B` = states after
(closed under retransmission of the request, NAK and ATN; the first two are answered with the stored answer
`r1` or not at all).
For every fault script and fuel the call ends in `A` without a result, or in `B`, and a result is `r1`.
-/
namespace NfcVerif.NfcDep
open NfcVerif
variable {σ : Type}

/-- where the peer state can be after one `xfer`, and what an `ok`/transmission error reveals -/
theorem xfer_peer (P : Peer σ) (hcor : ∀ s, (P.rx s .corrupt).1 = s) (a : Air σ) (q : Pdu) :
    ((xfer P a q).1.peer = a.peer ∧ (∀ res, (xfer P a q).2 ≠ .ok res) ∧ (xfer P a q).2 ≠ .error .transmission)
    ∨ ((xfer P a q).1.peer = (P.rx a.peer (.frame q)).1
        ∧ (∀ res, (xfer P a q).2 = .ok res → (P.rx a.peer (.frame q)).2 = some res)
        ∧ ((xfer P a q).2 = .error .transmission → (P.rx a.peer (.frame q)).2 ≠ none)) := by
  unfold xfer
  split
  · exact Or.inl ⟨rfl, nofun, nofun⟩
  · simp only [next_peer]
    split
    · exact Or.inl ⟨rfl, nofun, nofun⟩
    · exact Or.inl ⟨rfl, nofun, nofun⟩
    · exact Or.inl ⟨hcor _, nofun, nofun⟩
    · right
      generalize P.rx a.peer (.frame q) = r
      obtain ⟨s', o⟩ := r
      cases o with
      | none => exact ⟨rfl, nofun, nofun⟩
      | some res =>
        dsimp only
        split
        · exact ⟨rfl, nofun, (fun _ => by simp)⟩
        · exact ⟨rfl, nofun, (fun _ => by simp)⟩
        · exact ⟨rfl, nofun, (fun _ => by simp)⟩
        · split
          · exact ⟨rfl, nofun, (fun _ => by simp)⟩
          · exact ⟨rfl, (fun r h => by cases h; rfl), (fun _ => by simp)⟩

/-- a transfer of `q` from a phase `B` that `q` keeps, answered by `r1` or not at all: `B` holds afterwards and
a result is `r1` -/
theorem xfer_keep (P : Peer σ) (hcor : ∀ s, (P.rx s .corrupt).1 = s) {B : σ → Prop} {r1 : Option Pdu} (a : Air σ)
    (q : Pdu) (h : B a.peer)
    (hb : B (P.rx a.peer (.frame q)).1 ∧ ((P.rx a.peer (.frame q)).2 = r1 ∨ (P.rx a.peer (.frame q)).2 = none)) :
    B (xfer P a q).1.peer ∧ ∀ res, (xfer P a q).2 = .ok res → r1 = some res := by
  rcases xfer_peer P hcor a q with hp | hp
  · rw [hp.1]; exact ⟨h, fun res hr => absurd hr (hp.2.1 res)⟩
  · rw [hp.1]
    refine ⟨hb.1, fun res hr => ?_⟩
    have := hp.2.1 res hr
    rcases hb.2 with h2 | h2
    · rw [← h2]; exact this
    · rw [h2] at this; cases this

section tx
variable (P : Peer σ) (c : Cfg) (A B : σ → Prop) (r1 : Option Pdu) (pni : Nat) (req : Pdu)

/-- result of one `send_dep_req_recv_dep_res`: the peer accepted the request at most once -/
def TXPost (r : Air σ × Py Pdu) : Prop :=
  (A r.1.peer ∧ ∀ res, r.2 ≠ .ok res) ∨ (B r.1.peer ∧ ∀ res, r.2 = .ok res → r1 = some res)

structure TXHyp : Prop where
  cor : ∀ s, (P.rx s .corrupt).1 = s
  aAtn : ∀ s, A s → A (P.rx s (.frame (atnPdu c))).1
  aReq : ∀ s, A s → B (P.rx s (.frame req)).1 ∧ (P.rx s (.frame req)).2 = r1
  bReq : ∀ s, B s → B (P.rx s (.frame req)).1 ∧ ((P.rx s (.frame req)).2 = r1 ∨ (P.rx s (.frame req)).2 = none)
  bNak : ∀ s, B s → B (P.rx s (.frame (.dep fNAK pni c.idid c.inad []))).1 ∧
    ((P.rx s (.frame (.dep fNAK pni c.idid c.inad []))).2 = r1 ∨ (P.rx s (.frame (.dep fNAK pni c.idid c.inad []))).2 = none)
  bAtn : ∀ s, B s → B (P.rx s (.frame (atnPdu c))).1

variable {P c A B r1 pni req}

theorem reqAttention_phase (X : σ → Prop) (hcor : ∀ s, (P.rx s .corrupt).1 = s)
    (hX : ∀ s, X s → X (P.rx s (.frame (atnPdu c))).1) : ∀ n (a : Air σ), X a.peer → X (reqAttention P c n a).1.peer
  | 0, a, h => by unfold reqAttention; exact h
  | n+1, a, h => by
    unfold reqAttention
    split
    · exact h
    · have hp := xfer_peer P hcor a (atnPdu c)
      have hx : X (xfer P a (atnPdu c)).1.peer := by
        rcases hp with hp | hp
        · rw [hp.1]; exact h
        · rw [hp.1]; exact hX _ h
      generalize xfer P a (atnPdu c) = r at hx ⊢
      obtain ⟨a', u⟩ := r
      cases u with
      | error e =>
        dsimp only
        split
        · exact reqAttention_phase X hcor hX n a' hx
        · exact hx
      | ok p =>
        cases p with
        | dep fmt pni did nad data =>
          dsimp only
          split
          · exact hx
          · split <;> exact hx
        | _ => exact hx

theorem reqRetrans_phase (H : TXHyp P c A B r1 pni req) (ch : Bool) : ∀ n (a : Air σ), B a.peer →
    B (reqRetrans P c pni ch n a).1.peer ∧ ∀ res, (reqRetrans P c pni ch n a).2 = .ok res → r1 = some res
  | 0, a, h => by unfold reqRetrans; exact ⟨h, nofun⟩
  | n+1, a, h => by
    unfold reqRetrans
    split
    · exact ⟨h, nofun⟩
    · have hx := xfer_keep P H.cor a _ h (H.bNak a.peer h)
      generalize xfer P a (.dep fNAK pni c.idid c.inad []) = r at hx ⊢
      obtain ⟨a', u⟩ := r
      cases u with
      | error e =>
        dsimp only
        split
        · exact reqRetrans_phase H ch n a' hx.1
        · exact ⟨hx.1, nofun⟩
      | ok p =>
        have hr := hx.2 p rfl
        cases p with
        | dep fmt rp did nad data =>
          dsimp only
          split
          · exact ⟨hx.1, nofun⟩
          · split
            · exact ⟨hx.1, fun res h => by cases h; exact hr⟩
            · exact ⟨hx.1, nofun⟩
        | _ => exact ⟨hx.1, nofun⟩

theorem nakCheck_tx (a : Air σ) (res : Pdu) (hb : B a.peer) (hr : r1 = some res) :
    TXPost A B r1 (nakCheck a res) := by
  unfold nakCheck
  cases res with
  | dep fmt rp did nad data =>
    dsimp only
    split
    · exact Or.inr ⟨hb, nofun⟩
    · exact Or.inr ⟨hb, fun _ h => by cases h; exact hr⟩
  | _ => exact Or.inr ⟨hb, nofun⟩

theorem TXPost.fail {a : Air σ} {e : Exc} (h : A a.peer ∨ B a.peer) : TXPost A B r1 (a, .error e) :=
  h.imp (⟨·, nofun⟩) (⟨·, nofun⟩)

theorem sendDepLoop_tx (H : TXHyp P c A B r1 pni req) : ∀ fuel (a : Air σ), (A a.peer ∨ B a.peer) →
    TXPost A B r1 (sendDepLoop P c pni req fuel a)
  | 0, a, h => by unfold sendDepLoop; exact .fail h
  | fuel+1, a, h => by
    unfold sendDepLoop
    split
    · exact .fail h
    · have hp := xfer_peer P H.cor a req
      -- phase after the transfer
      have hx : (A (xfer P a req).1.peer ∧ (∀ res, (xfer P a req).2 ≠ .ok res) ∧ (xfer P a req).2 ≠ .error .transmission)
          ∨ (B (xfer P a req).1.peer ∧ ∀ res, (xfer P a req).2 = .ok res → r1 = some res) := by
        rcases h with h | h
        · rcases hp with hp | hp
          · left; rw [hp.1]; exact ⟨h, hp.2⟩
          · right; rw [hp.1]
            have ha := H.aReq a.peer h
            exact ⟨ha.1, fun res hr => by rw [← ha.2]; exact hp.2.1 res hr⟩
        · exact Or.inr (xfer_keep P H.cor a req h (H.bReq a.peer h))
      generalize xfer P a req = r at hx ⊢
      obtain ⟨a1, u⟩ := r
      have hAB : A a1.peer ∨ B a1.peer := by
        rcases hx with hx | hx
        · exact Or.inl hx.1
        · exact Or.inr hx.1
      cases u with
      | ok res =>
        dsimp only
        rcases hx with hx | hx
        · exact absurd rfl (hx.2.1 res)
        · exact nakCheck_tx a1 res hx.1 (hx.2 res rfl)
      | error e =>
        cases e with
        | timeout =>
          dsimp only
          have ha : A (reqAttention P c 2 a1).1.peer ∨ B (reqAttention P c 2 a1).1.peer := by
            rcases hAB with h' | h'
            · exact Or.inl (reqAttention_phase A H.cor H.aAtn 2 a1 h')
            · exact Or.inr (reqAttention_phase B H.cor H.bAtn 2 a1 h')
          generalize reqAttention P c 2 a1 = r2 at ha ⊢
          obtain ⟨a2, u⟩ := r2
          cases u with
          | ok _ => exact sendDepLoop_tx H fuel a2 ha
          | error e2 => exact .fail ha
        | transmission =>
          dsimp only
          rcases hx with hx | hx
          · exact absurd rfl hx.2.2
          · have hr := reqRetrans_phase H (decide (req.fmt? = some fMORE)) 2 a1 hx.1
            generalize reqRetrans P c pni (decide (req.fmt? = some fMORE)) 2 a1 = r2 at hr ⊢
            obtain ⟨a2, u⟩ := r2
            cases u with
            | ok res => exact nakCheck_tx a2 res hr.1 (hr.2 res rfl)
            | error e2 => exact .fail (Or.inr hr.1)
        | _ => exact .fail hAB

/-- `transact` (with the timeout extension handling) when the peer's answer is never an RTOX -/
theorem transact_tx (H : TXHyp P c A B r1 pni req) (hnt : ∀ res, r1 = some res → res.fmt? ≠ some fTOX)
    (fuel : Nat) (a : Air σ) (h : A a.peer) : TXPost A B r1 (transact P c fuel pni a req) := by
  unfold transact sendDep
  have hs := sendDepLoop_tx H fuel { a with expired := false } (Or.inl h)
  generalize sendDepLoop P c pni req fuel { a with expired := false } = r at hs ⊢
  obtain ⟨a', u⟩ := r
  cases u with
  | error e => exact hs
  | ok res =>
    dsimp only
    rcases hs with hs | hs
    · exact absurd rfl (hs.2 res)
    · have := hnt res (hs.2 res rfl)
      simp only [this, if_false]
      exact Or.inr hs
end tx
end NfcVerif.NfcDep
