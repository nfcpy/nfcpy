import NfcVerif.Model.IsoDepV2
import NfcVerif.Lemmas.IsoDep
/-!
# ISO-DEP, repaired initiator: every loop ends against EVERY card

`Peer σ` is any card whatsoever (any state, any answer to any block), the fault script is arbitrary.  With the
three repairs every loop of `IsoDepInitiator.exchange` has a measure:

* `_exchange`: every granted S(WTX) request has a multiplier of at least 1 and the sum may not exceed
  `max_wtxm_sum` - at most `1 + max_wtxm_sum` frames (`xchgW_any`);
* the retry loops: the counter `i` advances in every round, also for a retransmission after R(ACK), and a round
  is only started while `i ≤ n` (`i ≤ resendMax n` after R(ACK)) - at most `roundsMax n` rounds (`blockLoop_any`);
* the response loop: every chained block brings at least one octet and the response may not grow beyond
  65538 octets before a further block is asked for - at most 65539 rounds (`recvChain_any`).

Each loop is walked once (`xchgW_any` … `exchange_any`), through the equations at the head of the file that present the
repaired loops as instances of the loop skeleton of `Lemmas/IsoDep.lean` and the `*Step_cases` lemmas there.  What
went out is stated as `Ext Q B w w'` (the trace grew by at most `B` blocks, all in `Q`): the bound on the frames and
the shape of the blocks hold whatever the fuel - less fuel only ends a loop earlier - and so does the block number;
the fuel bounds are premises of one clause only, that no fuel is used up.

`exchange_spec`: no fuel is used up once `F ≥ fuelNeed pcd`, the outcome is a response or
`Type4TagCommandError` with one of the three documented reasons, at most `exchFrames` frames are sent, the block
number stays a block number and nothing that activation fixed is changed.
-/
namespace NfcVerif.IsoDep2
open NfcVerif NfcVerif.IsoDep

theorem blockLoop_succ {σ} (P : Peer σ) (F L n : Nat) (resend : Option Nat) (req rty : Bytes) (f i : Nat) (out : Bytes)
    (w : World σ) :
    blockLoop P F L n resend req rty (f + 1) i out w =
      loopStep n i resend req rty (i > resendMax n) (blockLoop P F L n resend req rty f) (xchgW P L F 0 w out) := rfl

theorem sendChunks_cons {σ} (P : Peer σ) (F L nNak : Nat) (c : Bytes) (rest : List Bytes) (pni : Nat) (w : World σ) :
    sendChunks P F L nNak (c :: rest) pni w =
      sendStep (!rest.isEmpty) pni (sendChunks P F L nNak rest ((pni + 1) % 2))
        (blockLoop P F L nNak (some (0xA2 ||| ((pni + 1) % 2))) (((if !rest.isEmpty then 0x12 else 0x02) ||| pni) :: c)
          [0xB2 ||| pni] F 1 (((if !rest.isEmpty then 0x12 else 0x02) ||| pni) :: c) w) := rfl

theorem recvChain_succ {σ} (P : Peer σ) (F L nAck f pni : Nat) (data resp : Bytes) (w : World σ) :
    recvChain P F L nAck (f + 1) pni data resp w =
      recvStep (fun inf => inf = [] ∨ resp.length > 65538) pni data resp (recvChain P F L nAck f ((pni + 1) % 2)) w
        (blockLoop P F L nAck none [0xA2 ||| pni] [0xA2 ||| pni] F 1 [0xA2 ||| pni] w) := by
  cases data <;> rfl

/-- frames handed to `clf.exchange` so far -/
def frames {σ} (w : World σ) : Nat := w.trace.length

theorem xchg_trace {σ} (P : Peer σ) (w : World σ) (out : Bytes) : (w.xchg P out).1.trace = w.trace ++ [out] :=
  w.xchg_trace P out

theorem xchg_frames {σ} (P : Peer σ) (w : World σ) (out : Bytes) : frames (w.xchg P out).1 = frames w + 1 := by
  unfold frames
  rw [xchg_trace, List.length_append]
  rfl

theorem wtxmOf_isSome (d : Bytes) : (wtxmOf d).isSome = isWtx d := by
  match d with
  | [] | [_] => rfl
  | a :: b :: _ =>
    simp only [wtxmOf, isWtx]
    by_cases h : a &&& 0xFE = 0xF2 <;> simp [h]

theorem legBack_ne_fuel (f : Fault) (b : Bytes) : legBack f b ≠ .fuel := by
  cases f <;> simp [legBack]

theorem xchg_ne_fuel {σ} (P : Peer σ) (w : World σ) (out : Bytes) : (w.xchg P out).2 ≠ .fuel := by
  unfold World.xchg
  simp only
  split
  · simp
  · split
    · simp
    · exact legBack_ne_fuel _ _

/-- from `w` to `w'` the trace grew by at most `B` blocks, all of them in `Q` -/
def Ext {σ} (Q : Bytes → Prop) (B : Nat) (w w' : World σ) : Prop :=
  ∃ t, w'.trace = w.trace ++ t ∧ t.length ≤ B ∧ ∀ b ∈ t, Q b

theorem Ext.refl {σ} (Q : Bytes → Prop) (B : Nat) (w : World σ) : Ext Q B w w :=
  ⟨[], by simp, Nat.zero_le _, fun _ h => nomatch h⟩

theorem Ext.trans {σ} {Q : Bytes → Prop} {B1 B2 B : Nat} {w w1 w2 : World σ} (h1 : Ext Q B1 w w1) (h2 : Ext Q B2 w1 w2)
    (hB : B1 + B2 ≤ B) : Ext Q B w w2 := by
  obtain ⟨t1, e1, l1, q1⟩ := h1
  obtain ⟨t2, e2, l2, q2⟩ := h2
  refine ⟨t1 ++ t2, by rw [e2, e1, List.append_assoc], by rw [List.length_append]; omega, fun b hb => ?_⟩
  rcases List.mem_append.mp hb with h | h
  · exact q1 b h
  · exact q2 b h

theorem Ext.mono {σ} {Q : Bytes → Prop} {B1 B : Nat} {w w1 : World σ} (h1 : Ext Q B1 w w1) (hB : B1 ≤ B) : Ext Q B w w1 :=
  h1.trans (Ext.refl Q 0 w1) hB

theorem xchg_ext {σ} (P : Peer σ) (Q : Bytes → Prop) (w : World σ) (out : Bytes) (ho : Q out) :
    Ext Q 1 w (w.xchg P out).1 :=
  ⟨[out], w.xchg_trace P out, Nat.le_refl _, fun b hb => by rw [List.mem_singleton.mp hb]; exact ho⟩

theorem Ext.all {σ} {Q Q' : Bytes → Prop} {B : Nat} {w w' : World σ} (h : Ext Q B w w') (hQ : ∀ b, Q b → Q' b)
    (hw : ∀ b ∈ w.trace, Q' b) : ∀ b ∈ w'.trace, Q' b := by
  obtain ⟨t, e, _, q⟩ := h
  rw [e]
  intro b hb
  rcases List.mem_append.mp hb with h | h
  · exact hw b h
  · exact hQ b (q b h)

theorem Ext.step {σ} {Q : Bytes → Prop} {K m m' : Nat} {w w1 w2 : World σ} (h1 : Ext Q K w w1) (h2 : Ext Q (m * K) w1 w2)
    (hm : m + 1 ≤ m') : Ext Q (m' * K) w w2 :=
  h1.trans h2 (by have := Nat.mul_le_mul_right K hm; rw [Nat.add_mul, Nat.one_mul] at this; omega)

/-- one round and then the end, where `Ext.step` has one round and `m` more -/
theorem Ext.once {σ} {Q : Bytes → Prop} {K m' : Nat} {w w1 : World σ} (h : Ext Q K w w1) (hm : 1 ≤ m') : Ext Q (m' * K) w w1 :=
  h.mono (Nat.le_mul_of_pos_left K hm)

theorem Ext.frames_le {σ} {Q : Bytes → Prop} {B : Nat} {w w' : World σ} (h : Ext Q B w w') :
    frames w ≤ frames w' ∧ frames w' ≤ frames w + B := by
  obtain ⟨t, e, l, _⟩ := h
  unfold frames
  rw [e, List.length_append]
  omega

theorem xchgW_any {σ} (P : Peer σ) (L : Nat) (Q : Bytes → Prop) (hW : ∀ b : Bytes, (wtxmOf b).isSome → Q b) :
    ∀ (f sum : Nat) (w : World σ) (out : Bytes), sum ≤ L → Q out →
      Ext Q (1 + (L - sum)) w (xchgW P L f sum w out).1 ∧ (L - sum < f → (xchgW P L f sum w out).2 ≠ .fuel) := by
  intro f
  induction f with
  | zero => intro sum w out _ _; exact ⟨Ext.refl _ _ _, fun h => by omega⟩
  | succ f ih =>
    intro sum w out hs ho
    have hx := xchg_ext P Q w out ho
    have hnf := xchg_ne_fuel P w out
    have stop : ∀ r : RxW, r ≠ .fuel → Ext Q (1 + (L - sum)) w (w.xchg P out).1 ∧ (L - sum < f + 1 → r ≠ .fuel) :=
      fun r hr => ⟨hx.mono (by omega), fun _ => hr⟩
    rw [xchgW]
    generalize w.xchg P out = r1 at hx hnf stop
    obtain ⟨w', r⟩ := r1
    cases r with
    | data d =>
      simp only
      cases hm : wtxmOf d with
      | none => exact stop _ (by simp)
      | some m =>
        simp only
        split
        · exact stop _ (by simp)
        · split
          · exact stop _ (by simp)
          · have := ih (sum + m) w' d (by omega) (hW d (by simp [hm]))
            exact ⟨hx.trans this.1 (by omega), fun h => this.2 (by omega)⟩
    | timeout | transmission | protocol => exact stop _ (by simp)
    | fuel => exact absurd rfl hnf

/-- the three documented reasons of `Type4TagCommandError` -/
def Err3 (e : Exc) : Prop := e = .tagCmd TIMEOUT_ERROR ∨ e = .tagCmd RECEIVE_ERROR ∨ e = .tagCmd PROTOCOL_ERROR

/-- a response or a `Type4TagCommandError` -/
def CmdRes : Py Bytes → Prop
  | .ok _ => True
  | .error e => Err3 e

theorem resendMax_le (n : Nat) : resendMax n ≤ n + 1 := by unfold resendMax; omega

theorem roundsMax_ge (n : Nat) : n + 1 ≤ roundsMax n ∧ resendMax n + 1 ≤ roundsMax n ∧ roundsMax n ≤ n + 2 := by
  have := resendMax_le n
  unfold roundsMax
  omega

theorem blockLoop_any {σ} (P : Peer σ) (F L n : Nat) (Q : Bytes → Prop) (hW : ∀ b : Bytes, (wtxmOf b).isSome → Q b)
    (resend : Option Nat) (req rty : Bytes) (hreq : Q req) (hrty : Q rty) :
    ∀ (f i : Nat) (out : Bytes) (w : World σ), Q out → i ≤ roundsMax n →
      Ext Q ((roundsMax n + 1 - i) * (L + 1)) w (blockLoop P F L n resend req rty f i out w).1 ∧
      SafeRes (blockLoop P F L n resend req rty f i out w).2 ∧
      (L < F → roundsMax n + 1 ≤ i + f → (blockLoop P F L n resend req rty f i out w).2 ≠ .error .outOfFuel) := by
  obtain ⟨hR1, hR2, _⟩ := roundsMax_ge n
  intro f
  induction f with
  | zero => intro i out w _ hi; exact ⟨Ext.refl _ _ _, by simp [blockLoop, SafeRes, ErrKind], fun _ h => by omega⟩
  | succ f ih =>
    intro i out w ho hi
    obtain ⟨hx, hxf⟩ := xchgW_any P L Q hW F 0 w out (Nat.zero_le _) ho
    replace hx := hx.mono (show 1 + (L - 0) ≤ L + 1 by omega)
    rw [blockLoop_succ]
    rcases loopStep_cases n i resend req rty (i > resendMax n) (blockLoop P F L n resend req rty f) (xchgW P L F 0 w out)
      with ⟨o, ho', hgo, h⟩ | ⟨res, hs, hnf, h⟩
    · rw [h]
      obtain ⟨h1, h2, h3⟩ := ih (i + 1) o _ (by rcases ho' with rfl | rfl <;> assumption) (by omega)
      exact ⟨hx.step h1 (by omega), h2, fun hF hf => h3 hF (by omega)⟩
    · rw [h]
      exact ⟨hx.once (by omega), hs, fun hF _ => hnf (hxf (by omega))⟩

theorem sendChunks_any {σ} (P : Peer σ) (F L m nNak : Nat) (Q : Bytes → Prop) (hI : ∀ b : Bytes, b.length ≤ m + 1 → Q b)
    (hW : ∀ b : Bytes, (wtxmOf b).isSome → Q b) :
    ∀ (cs : List Bytes) (pni : Nat) (w : World σ), (∀ c ∈ cs, c.length ≤ m) →
      Ext Q (cs.length * loopFrames L nNak) w (sendChunks P F L nNak cs pni w).1 ∧
      (pni < 2 → (sendChunks P F L nNak cs pni w).2.1 < 2) ∧
      (cs ≠ [] → SafeRes (sendChunks P F L nNak cs pni w).2.2 ∧
        (L < F → roundsMax nNak ≤ F → (sendChunks P F L nNak cs pni w).2.2 ≠ .error .outOfFuel)) := by
  intro cs
  induction cs with
  | nil => intro pni w _; exact ⟨Ext.refl _ _ _, id, fun h => absurd rfl h⟩
  | cons c rest ih =>
    intro pni w hcs
    have hc : c.length ≤ m := hcs c (by simp)
    have hi : Q (((if !rest.isEmpty then 0x12 else 0x02) ||| pni) :: c) := hI _ (by simp; omega)
    obtain ⟨hb1, hb2, hb3⟩ := blockLoop_any P F L nNak Q hW (some (0xA2 ||| ((pni + 1) % 2))) _ [0xB2 ||| pni] hi
      (hI _ (by simp)) F 1 _ w hi (by have := (roundsMax_ge nNak).1; omega)
    rw [Nat.add_sub_cancel] at hb1
    rw [sendChunks_cons]
    rcases sendStep_cases (!rest.isEmpty) pni (sendChunks P F L nNak rest ((pni + 1) % 2)) _
      with ⟨hm, h⟩ | ⟨p, res, hp', hs, hnf, h⟩
    · rw [h]
      obtain ⟨h1, h2, h3⟩ := ih ((pni + 1) % 2) _ (fun x hx => hcs x (List.mem_cons_of_mem _ hx))
      exact ⟨hb1.step h1 (Nat.le_refl _), fun _ => h2 (tog_lt pni), fun _ => h3 (by intro h0; simp [h0] at hm)⟩
    · rw [h]
      refine ⟨hb1.once (by simp), fun hp => ?_, fun _ => ⟨hs hb2, fun hF hN => hnf (hb3 hF (by omega))⟩⟩
      rcases hp' with rfl | rfl
      · exact hp
      · exact tog_lt pni

/-- the response phase, any card: every chained block must bring at least one octet and the response may not exceed
65538 octets when a further block is asked for, so there are at most 65539 rounds -/
theorem recvChain_any {σ} (P : Peer σ) (F L m nAck : Nat) (Q : Bytes → Prop) (hI : ∀ b : Bytes, b.length ≤ m + 1 → Q b)
    (hW : ∀ b : Bytes, (wtxmOf b).isSome → Q b) :
    ∀ (f pni : Nat) (data resp : Bytes) (w : World σ), data.length - 1 ≤ resp.length →
      Ext Q ((65539 - (resp.length - (data.length - 1))) * loopFrames L nAck) w (recvChain P F L nAck f pni data resp w).1 ∧
      (pni < 2 → (recvChain P F L nAck f pni data resp w).2.1 < 2) ∧
      (data ≠ [] → SafeErr (recvChain P F L nAck f pni data resp w).2.2 ∧
        (L < F → roundsMax nAck ≤ F → 65539 - (resp.length - (data.length - 1)) + 1 ≤ f →
          (recvChain P F L nAck f pni data resp w).2.2 ≠ .error .outOfFuel)) := by
  intro f
  induction f with
  | zero =>
    intro pni data resp w _
    exact ⟨Ext.refl _ _ _, id, fun _ => ⟨fun e h => by cases h; exact Or.inl rfl, fun _ _ h => by omega⟩⟩
  | succ f ih =>
    intro pni data resp w hlen
    have hack : Q [0xA2 ||| pni] := hI _ (by simp)
    obtain ⟨hb1, hb2, hb3⟩ := blockLoop_any P F L nAck Q hW none _ _ hack hack F 1 _ w hack
      (by have := (roundsMax_ge nAck).1; omega)
    rw [Nat.add_sub_cancel] at hb1
    rw [recvChain_succ]
    rcases recvStep_cases (fun inf => inf = [] ∨ resp.length > 65538) pni data resp (recvChain P F L nAck f ((pni + 1) % 2)) w _
      with ⟨res, hs, hnf, h⟩ | ⟨a, inf, rfl, hg, hrest⟩
    · rw [h]; exact ⟨Ext.refl _ _ _, id, fun hd => ⟨hs hd, fun _ _ _ => hnf⟩⟩
    · have hinf : 1 ≤ inf.length := by
        cases inf with
        | nil => exact absurd (Or.inl rfl) hg
        | cons _ _ => simp
      have hresp : resp.length ≤ 65538 := Nat.le_of_not_gt fun h => hg (Or.inr h)
      simp only [List.length_cons, Nat.add_sub_cancel] at hlen ⊢
      rcases hrest with ⟨res, hs, hnf, h⟩ | ⟨b, t, h⟩
      · rw [h]
        exact ⟨hb1.once (by omega), id,
          fun _ => ⟨hs hb2, fun hF hA _ => hnf (hb3 hF (by omega))⟩⟩
      · rw [h]
        obtain ⟨h1, h2, h3⟩ := ih ((pni + 1) % 2) (b :: t) (resp ++ t) _ (by simp)
        simp only [List.length_cons, Nat.add_sub_cancel, List.length_append] at h1 h3
        exact ⟨hb1.step h1 (by omega), fun _ => h2 (tog_lt pni),
          fun _ => ⟨(h3 (by simp)).1, fun hF hA hf => (h3 (by simp)).2 hF hA (by omega)⟩⟩

theorem fuelNeed_le {pcd : Pcd} {F : Nat} (h : fuelNeed pcd ≤ F) :
    pcd.wlim < F ∧ roundsMax pcd.nNak ≤ F ∧ roundsMax pcd.nAck ≤ F ∧ 65540 ≤ F := by
  unfold fuelNeed at h
  omega

theorem exchangeCmd_any {σ} (P : Peer σ) (F : Nat) (pcd : Pcd) (cmd : Bytes) (w : World σ) (Q : Bytes → Prop)
    (hI : ∀ b : Bytes, b.length ≤ pcd.miu.toNat + 1 → Q b) (hW : ∀ b : Bytes, (wtxmOf b).isSome → Q b) :
    Ext Q (exchFrames pcd cmd.length) w (exchangeCmd P F pcd cmd w).1 ∧
    (pcd.pni < 2 → (exchangeCmd P F pcd cmd w).2.1.pni < 2) ∧
    (pcd.wlim < F → roundsMax pcd.nNak ≤ F → roundsMax pcd.nAck ≤ F → 65540 ≤ F →
      (exchangeCmd P F pcd cmd w).2.2 ≠ .error .outOfFuel) ∧
    (0 < pcd.miu → cmd ≠ [] → SafeErr (exchangeCmd P F pcd cmd w).2.2) := by
  unfold exchangeCmd
  split
  · rename_i h0; exact ⟨Ext.refl _ _ _, id, fun _ _ _ _ => by simp, fun h => by omega⟩
  · split
    · rename_i h1
      refine ⟨Ext.refl _ _ _, id, fun _ _ _ _ => by simp, fun hm hc => ?_⟩
      rcases h1 with h1 | h1
      · omega
      · exact absurd h1 hc
    · rename_i h0 h1
      have hc : cmd ≠ [] := fun h => h1 (Or.inr h)
      obtain ⟨_, hch, hcl, hchl⟩ := chunks_spec pcd.miu.toNat (by omega) cmd hc
      obtain ⟨hs1, hs2, hs3⟩ := sendChunks_any P F pcd.wlim pcd.miu.toNat pcd.nNak Q hI hW (chunks pcd.miu.toNat cmd) pcd.pni w hcl
      obtain ⟨hs3, hs4⟩ := hs3 hch
      have hmul := Nat.mul_le_mul_right (loopFrames pcd.wlim pcd.nNak) hchl
      generalize sendChunks P F pcd.wlim pcd.nNak (chunks pcd.miu.toNat cmd) pcd.pni w = r1 at hs1 hs2 hs3 hs4
      obtain ⟨w1, pni1, r⟩ := r1
      unfold exchFrames
      cases r with
      | error e =>
        exact ⟨hs1.mono (by omega), hs2, fun fW fN _ _ => hs4 fW fN, fun _ _ e' h => by cases h; exact hs3⟩
      | ok d =>
        have hd : d ≠ [] := hs3
        obtain ⟨hr1, hr2, hr3⟩ := recvChain_any P F pcd.wlim pcd.miu.toNat pcd.nAck Q hI hW F pni1 d (d.drop 1) w1 (by simp)
        simp only [List.length_drop, Nat.sub_self, Nat.sub_zero] at hr1 hr3
        exact ⟨hs1.trans hr1 (by omega), fun hp => hr2 (hs2 hp), fun fW _ fA fC => (hr3 hd).2 fW fA (by omega),
          fun _ _ => (hr3 hd).1⟩

theorem exchangeCmd_nop {σ} (P : Peer σ) (F : Nat) (pcd : Pcd) (cmd : Bytes) (w : World σ) (h : pcd.miu ≤ 0 ∨ cmd = []) :
    exchangeCmd P F pcd cmd w = (w, pcd, .error .value) ∨ exchangeCmd P F pcd cmd w = (w, pcd, .error .unbound) := by
  unfold exchangeCmd
  by_cases h0 : pcd.miu = 0
  · left; simp [h0]
  · right
    have : pcd.miu < 0 ∨ cmd = [] := by
      rcases h with h | h
      · exact Or.inl (by omega)
      · exact Or.inr h
    simp [h0, this]

/-- `_exchange_command` never touches the error flag, the frame size, the budgets or the S(WTX) limit -/
theorem exchangeCmd_static {σ} (P : Peer σ) (F : Nat) (pcd : Pcd) (cmd : Bytes) (w : World σ) :
    (exchangeCmd P F pcd cmd w).2.1.failed = pcd.failed ∧ (exchangeCmd P F pcd cmd w).2.1.miu = pcd.miu ∧
    (exchangeCmd P F pcd cmd w).2.1.nNak = pcd.nNak ∧ (exchangeCmd P F pcd cmd w).2.1.nAck = pcd.nAck ∧
    (exchangeCmd P F pcd cmd w).2.1.wlim = pcd.wlim := by
  unfold exchangeCmd
  split
  · exact ⟨rfl, rfl, rfl, rfl, rfl⟩
  · split
    · exact ⟨rfl, rfl, rfl, rfl, rfl⟩
    · simp only
      split <;> exact ⟨rfl, rfl, rfl, rfl, rfl⟩

theorem exchangeCmd_failed {σ} (P : Peer σ) (F : Nat) (pcd : Pcd) (cmd : Bytes) (w : World σ) :
    (exchangeCmd P F pcd cmd w).2.1.failed = pcd.failed := (exchangeCmd_static P F pcd cmd w).1

/-- the wrapper `exchange` returns what `_exchange_command` returns (it only records the error) -/
theorem exchange_unfailed {σ} (P : Peer σ) (F : Nat) (pcd : Pcd) (cmd : Bytes) (w : World σ) (h : pcd.failed = none) :
    (exchange P F pcd cmd w).2.2 = (exchangeCmd P F pcd cmd w).2.2 ∧
    (exchange P F pcd cmd w).1 = (exchangeCmd P F pcd cmd w).1 ∧
    (exchange P F pcd cmd w).2.1.pni = (exchangeCmd P F pcd cmd w).2.1.pni := by
  unfold exchange
  simp only [h]
  generalize exchangeCmd P F pcd cmd w = r
  obtain ⟨w1, p1, res⟩ := r
  cases res with
  | ok x => exact ⟨rfl, rfl, rfl⟩
  | error e => cases e <;> exact ⟨rfl, rfl, rfl⟩

theorem exchange_any {σ} (P : Peer σ) (F : Nat) (pcd : Pcd) (cmd : Bytes) (w : World σ) (Q : Bytes → Prop)
    (hI : ∀ b : Bytes, b.length ≤ pcd.miu.toNat + 1 → Q b) (hW : ∀ b : Bytes, (wtxmOf b).isSome → Q b) :
    Ext Q (exchFrames pcd cmd.length) w (exchange P F pcd cmd w).1 ∧
    (pcd.pni < 2 → (exchange P F pcd cmd w).2.1.pni < 2) ∧
    (pcd.wlim < F → roundsMax pcd.nNak ≤ F → roundsMax pcd.nAck ≤ F → 65540 ≤ F →
      (exchange P F pcd cmd w).2.2 ≠ .error .outOfFuel) ∧
    (0 < pcd.miu → cmd ≠ [] → (∀ e, pcd.failed = some e → Err3 (.tagCmd e)) → SafeErr (exchange P F pcd cmd w).2.2) := by
  have hc := exchangeCmd_any P F pcd cmd w Q hI hW
  unfold exchange
  cases hf : pcd.failed with
  | some e =>
    exact ⟨Ext.refl _ _ _, id, fun _ _ _ _ => by simp, fun _ _ h e' he' => by cases he'; exact Or.inr (h e rfl)⟩
  | none =>
    simp only
    generalize exchangeCmd P F pcd cmd w = r at hc
    obtain ⟨w', pcd', res⟩ := r
    cases res with
    | ok d => exact ⟨hc.1, hc.2.1, hc.2.2.1, fun hm hn _ => hc.2.2.2 hm hn⟩
    | error e => cases e <;> exact ⟨hc.1, hc.2.1, hc.2.2.1, fun hm hn _ => hc.2.2.2 hm hn⟩

theorem exchange_static {σ} (P : Peer σ) (F : Nat) (pcd : Pcd) (cmd : Bytes) (w : World σ) :
    (exchange P F pcd cmd w).2.1.miu = pcd.miu ∧ (exchange P F pcd cmd w).2.1.nNak = pcd.nNak ∧
    (exchange P F pcd cmd w).2.1.nAck = pcd.nAck ∧ (exchange P F pcd cmd w).2.1.wlim = pcd.wlim := by
  have hst := (exchangeCmd_static P F pcd cmd w).2
  unfold exchange
  cases pcd.failed with
  | some e => exact ⟨rfl, rfl, rfl, rfl⟩
  | none =>
    simp only
    generalize exchangeCmd P F pcd cmd w = r at hst
    obtain ⟨w', pcd', res⟩ := r
    cases res with
    | ok d => exact hst
    | error e => cases e <;> exact hst

/-- `IsoDepInitiator.exchange` with the three repairs, against EVERY card and for every command (also the empty
string): no fuel is used up, at most `exchFrames` frames, the block number stays a block number, what activation
fixed (MIU, retry counts, S(WTX) limit) stays; for a command APDU (non-empty, MIU positive) the outcome is a
response or a `Type4TagCommandError` with one of the three documented reasons -/
theorem exchange_spec {σ} (P : Peer σ) (F : Nat) (pcd : Pcd) (hF : fuelNeed pcd ≤ F) (hp : pcd.pni < 2)
    (cmd : Bytes) (w : World σ) :
    (exchange P F pcd cmd w).2.2 ≠ .error .outOfFuel ∧ (exchange P F pcd cmd w).2.1.pni < 2 ∧
    frames w ≤ frames (exchange P F pcd cmd w).1 ∧
    frames (exchange P F pcd cmd w).1 ≤ frames w + exchFrames pcd cmd.length ∧
    ((exchange P F pcd cmd w).2.1.miu = pcd.miu ∧ (exchange P F pcd cmd w).2.1.nNak = pcd.nNak ∧
     (exchange P F pcd cmd w).2.1.nAck = pcd.nAck ∧ (exchange P F pcd cmd w).2.1.wlim = pcd.wlim) ∧
    (0 < pcd.miu → cmd ≠ [] → (∀ e, pcd.failed = some e → Err3 (.tagCmd e)) → CmdRes (exchange P F pcd cmd w).2.2) := by
  obtain ⟨fW, fN, fA, fC⟩ := fuelNeed_le hF
  obtain ⟨h1, h2, h3, h4⟩ := exchange_any P F pcd cmd w (fun _ => True) (fun _ _ => trivial) (fun _ _ => trivial)
  have hnf := h3 fW fN fA fC
  refine ⟨hnf, h2 hp, h1.frames_le.1, h1.frames_le.2, exchange_static P F pcd cmd w, fun hm hc hfl => ?_⟩
  have hs := h4 hm hc hfl
  generalize (exchange P F pcd cmd w).2.2 = res at hnf hs
  cases res with
  | ok d => trivial
  | error e =>
    rcases hs e rfl with h | h
    · exact absurd (by rw [h]) hnf
    · exact h

/-- the block number stays a block number, whatever happens (also when the model's fuel is used up) -/
theorem exchange_pni_lt {σ} (P : Peer σ) (F : Nat) (pcd : Pcd) (cmd : Bytes) (w : World σ) (hp : pcd.pni < 2) :
    (exchange P F pcd cmd w).2.1.pni < 2 :=
  (exchange_any P F pcd cmd w (fun _ => True) (fun _ _ => trivial) (fun _ _ => trivial)).2.1 hp

theorem xchg_card {σ} (P : Peer σ) (w : World σ) (out : Bytes) :
    (w.xchg P out).1.card = w.card ∨ (w.xchg P out).1.card = (P.rx w.card out).1 := by
  unfold World.xchg
  simp only
  split
  · left; rfl
  · right; split <;> rfl

/-- the presence check is one `clf.exchange` of R(NAK) -/
theorem presence_world {σ} (P : Peer σ) (pcd : Pcd) (w : World σ) :
    (presence P pcd w).1 = (w.xchg P [0xB2 ||| pcd.pni]).1 := by
  unfold presence
  simp only
  generalize w.xchg P [0xB2 ||| pcd.pni] = r
  obtain ⟨w', rx⟩ := r
  cases rx <;> rfl

/-- **every block, every card**: whatever the card does, a block handed to the reader during `exchange` is one the
initiator built itself - an I-block with at most MIU octets of the command, R(ACK), R(NAK): at most `MIU + 1 = FSC - 2`
octets - or the repetition of an S(WTX) request exactly as the card sent it -/
theorem exchange_fits {σ} (P : Peer σ) (F : Nat) (pcd : Pcd) (cmd : Bytes) (w : World σ) (m : Nat)
    (hm : pcd.miu = (m : Int)) (Q : Bytes → Prop) (hI : ∀ b : Bytes, b.length ≤ m + 1 → Q b)
    (hW : ∀ b : Bytes, (wtxmOf b).isSome → Q b) (hq : ∀ b ∈ w.trace, Q b) :
    ∀ b ∈ (exchange P F pcd cmd w).1.trace, Q b :=
  (exchange_any P F pcd cmd w Q (fun b hb => hI b (by omega)) hW).1.all (fun _ h => h) hq

end NfcVerif.IsoDep2
