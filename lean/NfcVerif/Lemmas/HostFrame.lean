import NfcVerif.Model.HostFrame
import NfcVerif.Lemmas.PyPrims
/-!
# Host-link frames against the independent readings `Spec.*` (C14; the exception classes also serve C13)

What the drivers build parses back to command code and payload (`*_build_valid`); a response the
driver accepts is a valid frame under `Spec` (`*_accept_sound`) and, for the PN53x, conversely
(`pn_accept_complete`); any other octet string ends in the listed exceptions (`*_accept_doc`).
For the PN53x header all three are read off one statement, `pnStrip_spec`.
-/
namespace NfcVerif.HostFrame

theorem sum_append (a b : Bytes) : sum (a ++ b) = sum a + sum b := by
  unfold sum
  rw [List.foldl_append]
  generalize List.foldl (· + ·) 0 a = x
  induction b generalizing x with
  | nil => simp
  | cons h t ih => simp only [List.foldl_cons]; rw [ih, ih (0 + h)]; omega

theorem sum_cons (a : Nat) (b : Bytes) : sum (a :: b) = a + sum b := by
  have := sum_append [a] b
  simpa [sum] using this

@[simp] theorem sum_nil : sum [] = 0 := rfl

theorem body_ok (tfi code : Nat) (d : Bytes) :
    Spec.body ([tfi, code] ++ d ++ [(256 - sum ([tfi, code] ++ d) % 256) % 256, 0]) = some (tfi, code, d) := by
  simp only [List.cons_append, List.nil_append, Spec.body, List.reverse_append, List.reverse_cons, List.reverse_nil,
    List.reverse_reverse]
  simp [sum_cons]
  omega

theorem parse_ext (lm ll lcs : Nat) (rest : Bytes) :
    Spec.parse (0 :: 0 :: 0xFF :: 0xFF :: 0xFF :: lm :: ll :: lcs :: rest) =
      if (lm + ll + lcs) % 256 = 0 ∧ rest.length = lm * 256 + ll + 2 then Spec.body rest else none := rfl

theorem parse_normal (len lcs : Nat) (rest : Bytes) (h : ¬ (len = 0xFF ∧ lcs = 0xFF)) :
    Spec.parse (0 :: 0 :: 0xFF :: len :: lcs :: rest) =
      if (len + lcs) % 256 = 0 ∧ rest.length = len + 2 then Spec.body rest else none := by
  unfold Spec.parse
  split
  · rename_i heq; simp at heq; exact absurd ⟨heq.1, heq.2.1⟩ h
  · rename_i heq; simp at heq; obtain ⟨rfl, rfl, rfl⟩ := heq; rfl
  · rename_i h2; exact absurd rfl (h2 _ _ _)

theorem pn_build_valid (cmd : Nat) (d : Bytes) (h : d.length + 2 < 65536) :
    Spec.parse (pnBuild cmd d) = some (0xD4, cmd, d) := by
  have hb := body_ok 0xD4 cmd d
  simp only [List.cons_append, List.nil_append] at hb
  unfold pnBuild
  by_cases hn : d.length < 254
  · simp only [hn, if_true, sof, List.cons_append, List.nil_append]
    rw [parse_normal _ _ _ (by omega), if_pos ⟨by omega, by simp⟩, hb]
  · simp only [hn, if_false, sof, List.cons_append, List.nil_append]
    rw [parse_ext, if_pos ⟨by omega, by simp; omega⟩, hb]

theorem startsWith_iff (l p : Bytes) : startsWith l p = true ↔ ∃ t, l = p ++ t := by
  unfold startsWith
  rw [List.isPrefixOf_iff_prefix]
  constructor <;> exact fun ⟨t, ht⟩ => ⟨t, ht.symm⟩

theorem pnStrip_spec (f : Bytes) :
    (∃ body, pnStrip f = .ok body ∧ Spec.parse f = Spec.body body) ∨
    (pnStrip f = .error EIO ∧ Spec.parse f = none) := by
  unfold pnStrip
  by_cases hs : startsWith f (sof ++ [0xFF, 0xFF]) = true
  · rw [if_pos hs]
    obtain ⟨t, rfl⟩ := (startsWith_iff _ _).1 hs
    rcases t with _ | ⟨lm, _ | ⟨ll, _ | ⟨lcs, rest⟩⟩⟩
    · exact Or.inr (by decide)
    · right; simp [sof, sliceN, sum, Spec.parse]
    · right; simp [sof, sliceN, sum, Spec.parse]
    · by_cases c : (lm + ll + lcs) % 256 = 0 ∧ rest.length = lm * 256 + ll + 2
      · exact Or.inl ⟨rest, by simp [sof, sliceN, sum, unpackH, c], by simp [sof, parse_ext, c]⟩
      · refine Or.inr ⟨?_, by simp [sof, parse_ext, c]⟩
        simp [sof, sliceN, sum, unpackH]
        omega
  · rw [if_neg hs]
    by_cases hs2 : startsWith f sof = true
    · rw [if_pos hs2]
      obtain ⟨t, rfl⟩ := (startsWith_iff _ _).1 hs2
      rcases t with _ | ⟨len, _ | ⟨lcs, rest⟩⟩
      · exact Or.inr (by decide)
      · right; simp [sof, sliceN, sum, Spec.parse]
      · have hne : ¬ (len = 255 ∧ lcs = 255) := by
          intro ⟨a, b⟩; subst a b; simp [startsWith, sof] at hs
        by_cases c : (len + lcs) % 256 = 0 ∧ rest.length = len + 2
        · exact Or.inl ⟨rest, by simp [sof, sliceN, sum, c], by simp [sof, parse_normal _ _ _ hne, c]⟩
        · refine Or.inr ⟨?_, by simp [sof, parse_normal _ _ _ hne, c]⟩
          simp [sof, sliceN, sum]
          omega
    · rw [if_neg hs2]
      refine Or.inr ⟨rfl, ?_⟩
      unfold Spec.parse
      split
      · simp [startsWith, sof] at hs2
      · simp [startsWith, sof] at hs2
      · rfl

theorem pnStrip_ok (f body : Bytes) (h : pnStrip f = .ok body) : Spec.parse f = Spec.body body := by
  rcases pnStrip_spec f with ⟨b, hb, hp⟩ | ⟨he, _⟩
  · rw [hb] at h; cases h; exact hp
  · rw [he] at h; cases h

theorem pnStrip_complete (f : Bytes) (r : Nat × Nat × Bytes) (h : Spec.parse f = some r) :
    ∃ body, pnStrip f = .ok body ∧ Spec.body body = some r := by
  rcases pnStrip_spec f with ⟨b, hb, hp⟩ | ⟨_, hn⟩
  · exact ⟨b, hb, hp ▸ h⟩
  · rw [hn] at h; cases h

theorem exists_snoc2 (l : Bytes) (h : 2 ≤ l.length) : ∃ m y z, l = m ++ [y, z] := by
  rcases List.eq_nil_or_concat l with rfl | ⟨l1, z, rfl⟩
  · simp at h
  · rcases List.eq_nil_or_concat l1 with rfl | ⟨l2, y, rfl⟩
    · simp at h
    · exact ⟨l2, y, z, by simp⟩

theorem idx_last (m : Bytes) (a b y z : Nat) : idx (a :: b :: (m ++ [y, z])) (-1) = .ok z :=
  (idx_neg_idxN _ 1 (by decide) (by simp)).trans (by simp [idxN])

theorem slice_mid (m : Bytes) (a b y z : Nat) : slice (a :: b :: (m ++ [y, z])) 2 (-2) = m := by
  have h := slice_pos_neg (a :: b :: (m ++ [y, z])) 2 2 (by decide)
  simp only [sliceN, List.length_cons, List.length_append, List.length_nil] at h
  rw [show slice _ 2 (-2) = _ from h]
  simp

theorem pnBody_ok (cmd : Nat) (body data : Bytes) (h : pnBody cmd body = .ok data) :
    Spec.body body = some (0xD5, cmd + 1, data) := by
  simp only [pnBody, Py.guard_eq_ok, Py.bind_eq_ok] at h
  obtain ⟨h3, last, hlast, hz, hsum, tfi, htfi, h7f, hor, code, hcode, hc, hdata⟩ := h
  obtain ⟨a, b, rest, rfl⟩ : ∃ a b rest, body = a :: b :: rest := by
    rcases body with _ | ⟨a, _ | ⟨b, rest⟩⟩
    · simp at h3
    · simp at h3
    · exact ⟨a, b, rest, rfl⟩
  obtain ⟨m, y, z, rfl⟩ := exists_snoc2 rest (by simp at hor; omega)
  rw [idx_last] at hlast
  rw [slice_mid] at hdata
  simp only [idxN_cons_zero, idxN_cons_succ] at htfi hcode
  cases hlast; cases htfi; cases hcode; cases hdata
  simp at hz hor hc
  subst hz hc
  simp [Spec.body, hor]
  simp [sum_cons, sum_append] at hsum
  omega

theorem pn_accept_sound (cmd : Nat) (f data : Bytes) (h : pnAccept cmd f = .ok data) :
    Spec.parse f = some (0xD5, cmd + 1, data) := by
  unfold pnAccept at h
  rw [Py.bind_eq_ok] at h
  obtain ⟨body, h1, h2⟩ := h
  rw [pnStrip_ok f body h1, pnBody_ok cmd body data h2]

/-- what `pnAccept` raises on a response it does not accept: `IOError(EIO)`, or `Chipset.Error(0x7F)` for the
error frame (TFI 7Fh) -/
def Doc (e : Exc) : Prop := e = EIO ∨ e = .chipsetError 0x7F

theorem pnStrip_doc (f : Bytes) : Safe (· = EIO) (pnStrip f) := by
  intro e he
  rcases pnStrip_spec f with ⟨b, hb, _⟩ | ⟨h, _⟩
  · rw [hb] at he; cases he
  · rw [h] at he; cases he; rfl

theorem pnBody_doc (cmd : Nat) (body : Bytes) : Safe Doc (pnBody cmd body) := by
  unfold pnBody
  apply Safe.dite
  · intro _; exact Safe.throw' (S := Doc) (Or.inl rfl)
  · intro hl
    obtain ⟨last, hlast⟩ := idx_neg_ok body 1 (by omega) (by omega)
    obtain ⟨tfi, htfi, -⟩ := idxN_lt body 0 (by omega)
    have hl' : idx body (-1) = .ok last := hlast
    rw [hl', htfi]
    simp only [Py.bind_ok]
    apply Safe.ite (Safe.throw' (S := Doc) (Or.inl rfl))
    apply Safe.ite (Safe.throw' (S := Doc) (Or.inl rfl))
    apply Safe.ite (Safe.throw' (S := Doc) (Or.inr rfl))
    apply Safe.dite
    · intro _; exact Safe.throw' (S := Doc) (Or.inl rfl)
    · intro h4
      obtain ⟨code, hcode, -⟩ := idxN_lt body 1 (by omega)
      rw [hcode]
      simp only [Py.bind_ok]
      exact Safe.ite (Safe.throw' (S := Doc) (Or.inl rfl)) (Safe.pure _)

theorem pn_accept_doc (cmd : Nat) (f : Bytes) : Safe Doc (pnAccept cmd f) := by
  unfold pnAccept
  exact Safe.bind' ((pnStrip_doc f).mono (fun e h => Or.inl h)) (fun b => pnBody_doc cmd b)

theorem unLe32_le32 (n : Nat) (h : n < 4294967296) : unLe32 (le32 n) = n := by
  simp [unLe32, le32]; omega

theorem ccid_build_valid (x : Bytes) (h : x.length < 4294967296) : Spec.ccidEscape (ccidBuild x) = some x := by
  have := unLe32_le32 x.length h
  simp only [le32] at this
  simp [ccidBuild, Spec.ccidEscape, le32, this]

theorem acr_build_valid (cmd : Nat) (d w : Bytes) (h : acrBuild cmd d = .ok w) :
    Spec.acrCommand w = some (cmd, d) := by
  unfold acrBuild at h
  simp only at h
  split at h
  · simp at h
  · rename_i hl
    simp at h hl
    subst h
    unfold Spec.acrCommand
    rw [ccid_build_valid _ (by simp; omega)]
    simp
    omega

theorem rcs_build_valid (d : Bytes) (h : d.length < 65536) : Spec.rcsParse (rcsBuild d) = some d := by
  unfold rcsBuild Spec.rcsParse
  simp
  constructor <;> omega

theorem idx_last2 (m : Bytes) (a b y z : Nat) : idx (a :: b :: (m ++ [y, z])) (-2) = .ok y :=
  (idx_neg_idxN _ 2 (by decide) (by simp)).trans (by simp [idxN])

theorem acrBody_ok (cmd : Nat) (f data : Bytes) (h : acrBody cmd f = .ok data) :
    f = 0xD5 :: (cmd + 1) :: (data ++ [0x90, 0]) := by
  unfold acrBody at h
  split at h
  · simp at h
  rename_i h4
  obtain ⟨a, b, rest, rfl⟩ : ∃ a b rest, f = a :: b :: rest := by
    rcases f with _ | ⟨a, _ | ⟨b, rest⟩⟩
    · simp at h4
    · simp at h4
    · exact ⟨a, b, rest, rfl⟩
  obtain ⟨m, y, z, rfl⟩ := exists_snoc2 rest (by simp at h4; omega)
  rw [idx_last, idx_last2, slice_mid] at h
  simp only [Py.bind_ok, idxN_cons_zero, idxN_cons_succ] at h
  split at h
  · simp at h
  rename_i hab
  split at h
  · simp at h
  rename_i hyz
  simp at h hab hyz
  obtain ⟨rfl, rfl⟩ := hab
  obtain ⟨rfl, rfl⟩ := hyz
  subst h
  rfl

theorem ccidAccept_ok (raw f : Bytes) (h : ccidAccept raw = .ok f) :
    ∃ l0 l1 l2 l3 s q st er ch, raw = 0x80 :: l0 :: l1 :: l2 :: l3 :: s :: q :: st :: er :: ch :: f
      ∧ f.length = unLe32 [l0, l1, l2, l3] := by
  unfold ccidAccept at h
  split at h
  · simp at h
  rename_i hl
  rcases raw with _ | ⟨t, _ | ⟨l0, _ | ⟨l1, _ | ⟨l2, _ | ⟨l3, _ | ⟨s, _ | ⟨q, _ | ⟨st, _ | ⟨er, _ | ⟨ch, rest⟩⟩⟩⟩⟩⟩⟩⟩⟩⟩ <;>
    simp at hl
  simp only [Py.bind_ok, idxN_cons_zero] at h
  split at h
  · simp at h
  rename_i ht
  split at h
  · simp at h
  rename_i hlen
  simp [sliceN] at h ht hlen
  subst h ht
  exact ⟨l0, l1, l2, l3, s, q, st, er, ch, rfl, by omega⟩

theorem acr_accept_sound (cmd : Nat) (raw data : Bytes) (h : acrAccept cmd raw = .ok data) :
    Spec.acrResponse raw = some (cmd + 1, data) := by
  unfold acrAccept at h
  rw [Py.bind_eq_ok] at h
  obtain ⟨f, h1, h2⟩ := h
  obtain ⟨l0, l1, l2, l3, s, q, st, er, ch, rfl, hlen⟩ := ccidAccept_ok raw f h1
  have := acrBody_ok cmd f data h2
  subst this
  simp [Spec.acrResponse]
  simp at hlen
  omega

theorem acr_accept_doc (cmd : Nat) (raw : Bytes) : Safe (· = EIO) (acrAccept cmd raw) := by
  unfold acrAccept
  apply Safe.bind'
  · unfold ccidAccept
    apply Safe.dite
    · intro _; exact Safe.throw' (S := (· = EIO)) rfl
    · intro hl
      obtain ⟨t, ht, -⟩ := idxN_lt raw 0 (by omega)
      rw [ht]; simp only [Py.bind_ok]
      exact Safe.ite (Safe.throw' (S := (· = EIO)) rfl) (Safe.ite (Safe.throw' (S := (· = EIO)) rfl) (Safe.pure _))
  · intro f
    unfold acrBody
    apply Safe.dite
    · intro _; exact Safe.throw' (S := (· = EIO)) rfl
    · intro hl
      obtain ⟨a, ha, -⟩ := idxN_lt f 0 (by omega)
      obtain ⟨b, hb, -⟩ := idxN_lt f 1 (by omega)
      obtain ⟨y, hy⟩ := idx_neg_ok f 2 (by omega) (by omega)
      obtain ⟨z, hz⟩ := idx_neg_ok f 1 (by omega) (by omega)
      have hy' : idx f (-2) = .ok y := hy
      have hz' : idx f (-1) = .ok z := hz
      rw [ha, hb, hy', hz']; simp only [Py.bind_ok]
      exact Safe.ite (Safe.throw' (S := (· = EIO)) rfl) (Safe.ite (Safe.throw' (S := (· = EIO)) rfl) (Safe.pure _))

theorem body_some {rest : Bytes} {tfi code : Nat} {data : Bytes} (h : Spec.body rest = some (tfi, code, data)) :
    ∃ dcs, rest = tfi :: code :: (data ++ [dcs, 0]) ∧ (tfi + code + sum data + dcs) % 256 = 0 := by
  unfold Spec.body at h
  split at h
  · rename_i t c more
    split at h
    · rename_i post dcs rdata hrev
      simp only at h
      split at h
      · rename_i hc
        simp at h
        obtain ⟨rfl, rfl, rfl⟩ := h
        have hm : more = rdata.reverse ++ [dcs, post] := by
          have := congrArg List.reverse hrev
          simpa using this
        obtain ⟨hp, hs⟩ := hc
        subst hp
        exact ⟨dcs, by rw [hm], hs⟩
      · cases h
    · cases h
  · cases h

theorem pnBody_complete (cmd : Nat) (data : Bytes) (dcs : Nat)
    (hs : (0xD5 + (cmd + 1) + sum data + dcs) % 256 = 0) :
    pnBody cmd (0xD5 :: (cmd + 1) :: (data ++ [dcs, 0])) = .ok data := by
  unfold pnBody
  have hlen : ¬ (0xD5 :: (cmd + 1) :: (data ++ [dcs, 0])).length < 3 := by simp
  rw [if_neg hlen, idx_last, slice_mid]
  simp only [Py.bind_ok, idxN_cons_zero, idxN_cons_succ]
  have hsum : sum (0xD5 :: (cmd + 1) :: (data ++ [dcs, 0])) % 256 = 0 := by
    simp [sum_cons, sum_append]; omega
  simp [hsum]

theorem pn_accept_complete (cmd : Nat) (f data : Bytes) (h : Spec.parse f = some (0xD5, cmd + 1, data)) :
    pnAccept cmd f = .ok data := by
  obtain ⟨body, hs, hb⟩ := pnStrip_complete f _ h
  obtain ⟨dcs, rfl, hsum⟩ := body_some hb
  unfold pnAccept
  rw [hs]
  simp only [Py.bind_ok]
  exact pnBody_complete cmd data dcs hsum

end NfcVerif.HostFrame
