import NfcVerif.Model.ErrMap
import NfcVerif.Lemmas.FnBridgePn53xCommon
/-!
Helper lemmas for `Props/FnBridgeRcs380.lean` (`rcs380.Frame`, `rcs380.CommunicationError` against
`Model/HostFrame.lean` / `Model/ErrMap.lean`).
-/
namespace NfcVerif.FnBridge.Rcs380
open NfcVerif NfcVerif.PyFn NfcVerif.HostFrame NfcVerif.ErrMap NfcVerif.FnBridge.HostLink

/-- the checksum octet `(256 - sum(x)) % 256` (floor modulo on Python ints) -/
theorem cksum_mod (x : Bytes) :
    (((256 : Nat) : Int) - PyFn.sum (ints x)) % ((256 : Nat) : Int) = (((256 - HostFrame.sum x % 256) % 256 : Nat) : Int) := by
  unfold HostFrame.sum
  rw [PyFn.sum_ints]; omega

theorem cksum_lt (s : Nat) : ((256 - s % 256) % 256 < 256) = True := eq_true (Nat.mod_lt _ (by decide))

/-- octets 5..6 of the frame under construction, and what follows its 8 header octets -/
theorem header_len (a b : Nat) : sliceN ([0, 0, 255, 255, 255] ++ [a, b]) 5 7 = [a, b] := rfl
theorem header_drop (a b c : Nat) (d : Bytes) : List.drop 8 ([0, 0, 255, 255, 255] ++ [a, b] ++ [c] ++ d) = d := rfl

/-- `struct.unpack("<H", ..)` / `("<L", ..)` on exactly two / four octets, in the form `ule_nat` gives the field: the
little-endian value, as `ErrMap.unpackLeH` / `unpackLeL` write it -/
theorem beNat_reverse_two (a b : Nat) : beNat [a, b].reverse = a + 256 * b := by
  simp only [List.reverse_cons, List.reverse_nil, List.nil_append, List.cons_append, beNat, List.foldl_cons, List.foldl_nil]
  omega
theorem beNat_reverse_four (a b c d : Nat) : beNat [a, b, c, d].reverse = a + 256 * b + 65536 * c + 16777216 * d := by
  simp only [List.reverse_cons, List.reverse_nil, List.nil_append, List.cons_append, beNat, List.foldl_cons, List.foldl_nil]
  omega

theorem len2 {l : Bytes} (h : l.length = 2) : ∃ a b, l = [a, b] := by
  match l, h with
  | [a, b], _ => exact ⟨a, b, rfl⟩

/-- what the generated code says about a response with a communication status, in the model's two-level
exception type: `rcsComm` carries the status word that `CommunicationError.__init__` unpacked -/
def withStatus {α} (x : Py α) (st : Py Nat) : RPy α :=
  match x with
  | .ok a => .ok a
  | .error .rcsComm => liftR st >>= fun s => throw (.comm s)
  | .error e => .error (.py e)

theorem ints_ne_zero4 (l : Bytes) :
    (ints l ≠ [((0 : Nat) : Int), ((0 : Nat) : Int), ((0 : Nat) : Int), ((0 : Nat) : Int)]) ↔ l ≠ [0, 0, 0, 0] := by
  have : ([((0 : Nat) : Int), ((0 : Nat) : Int), ((0 : Nat) : Int), ((0 : Nat) : Int)] : List Int) = ints [0, 0, 0, 0] := rfl
  rw [this, ne_eq, ne_eq, ints_inj]

end NfcVerif.FnBridge.Rcs380
