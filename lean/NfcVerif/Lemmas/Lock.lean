import NfcVerif.Model.Lock
/-!
Soundness of the lock-discipline checker (C15): `lock_sound`, in two halves that meet in the
per-thread monitor `mstep`. `chk_sound`, by induction on `Runs`: a statement that `chk` accepts from
`st` takes a monitor state that is `Le st` (same `locked`, knows the device to be open whenever `st`
does, not inside the driver) along its trace to one that is `Le` what `chk` returns. `Post` also
speaks of an aborted run: the lock is as at the start and, if the statement has no assignment to the
device (`assigns`), what was known under the lock at the start still is; that clause is what an
exception handler is checked from (`tryCaught`). `chk_loop` gives the loop invariant; `Post.sub`
carries the result for a part to the compound statement that runs as that part does (a branch taken,
a first half that aborts), through `Le.weaken` where a `meet` or a loop invariant lies between.
`J g ms` ties the global state to one ghost monitor per thread: a locked monitor's thread holds the
mutex, and what it knows of the device while locked is true. `J.step` is the frame lemma,
`J.step_excl` its case where the stepping thread holds the lock or the lock is free, so that no
other monitor is locked (`J.excl`). `step_inv` gives `SafeAt` at every `devB`; `run_safe` walks a
schedule with `J` and `Acc` per thread.
-/
namespace NfcVerif.Lock

theorem mrun_append (m : Mon) (a b : List Ev) :
    mrun m (a ++ b) = (mrun m a).bind (fun m' => mrun m' b) := by
  induction a generalizing m with
  | nil => simp [mrun]
  | cons e es ih => simp only [List.cons_append, mrun]; cases mstep m e <;> simp [ih]

/-- the monitor state `m` is at least as informed as the abstract state `st` -/
def Le (st : St) (m : Mon) : Prop := m.locked = st.locked ∧ (st.known = true → m.known = true) ∧ m.inDev = false

theorem meet_le {x y r : St} (h : meet x y = some r) :
    x.locked = y.locked ∧ r.locked = x.locked ∧ (r.known = true → x.known = true ∧ y.known = true) := by
  unfold meet at h
  split at h
  · rename_i hl; cases h; simp [hl]
  · cases h

/-- `Le` passes to an abstract state that has the same lock bit and knows no more -/
theorem Le.weaken {st st' : St} {m : Mon} (h : Le st m) (hl : st'.locked = st.locked)
    (hk : st'.known = true → st.known = true) : Le st' m :=
  ⟨h.1.trans hl.symm, fun hx => h.2.1 (hk hx), h.2.2⟩

theorem Le.meet_left {x y r : St} {m : Mon} (hm : meet x y = some r) (h : Le x m) : Le r m :=
  h.weaken (meet_le hm).2.1 (fun hx => ((meet_le hm).2.2 hx).1)

theorem Le.meet_right {x y r : St} {m : Mon} (hm : meet x y = some r) (h : Le y m) : Le r m :=
  h.weaken ((meet_le hm).2.1.trans (meet_le hm).1) (fun hx => ((meet_le hm).2.2 hx).2)

/-- what `chk` guarantees for a loop: an invariant abstract state -/
theorem chk_loop {st r : St} {s : Stmt} (h : chk st (.loop s) = some r) :
    ∃ st1, chk r s = some st1 ∧ st1.locked = r.locked ∧ (r.known = true → st1.known = true)
      ∧ r.locked = st.locked ∧ (r.known = true → st.known = true) := by
  have weak : ∀ st'' , chk ⟨st.locked, false⟩ s = some st'' →
      (if st''.locked = st.locked then some (⟨st.locked, false⟩ : St) else none) = some r →
      ∃ st1, chk r s = some st1 ∧ st1.locked = r.locked ∧ (r.known = true → st1.known = true)
        ∧ r.locked = st.locked ∧ (r.known = true → st.known = true) := by
    intro st'' h1 h2
    split at h2
    · rename_i hl; cases h2
      exact ⟨st'', h1, hl, by simp, rfl, by simp⟩
    · cases h2
  simp only [chk] at h
  split at h
  · rename_i st' h1
    split at h
    · rename_i hc
      cases h
      simp at hc
      refine ⟨st', h1, hc.1, ?_, rfl, fun x => x⟩
      intro hk; rcases hc.2 with h2 | h2
      · simp [hk] at h2
      · exact h2
    · split at h
      · rename_i st'' h2; exact weak st'' h2 h
      · cases h
  · split at h
    · rename_i st'' h2; exact weak st'' h2 h
    · cases h

theorem mrun_cons {m m' : Mon} {e : Ev} (es : List Ev) (h : mstep m e = some m') :
    mrun m (e :: es) = mrun m' es := by rw [mrun, h]

/-- Result of running a checked statement under the monitor. -/
def Post (st st' : St) (s : Stmt) (m : Mon) (tr : List Ev) (c : Bool) : Prop :=
  ∃ m', mrun m tr = some m' ∧ m'.locked = st.locked ∧ m'.inDev = false
    ∧ (c = true → Le st' m') ∧ (assigns s = false → m.locked = true → m.known = true → m'.known = true)

/-- A compound statement `s` that runs as its part `a` does: on completion the state `chk` returns for `s` is
weaker than the one for `a` (`hc`), and `s` assigns the device if `a` does (`ha`). -/
theorem Post.sub {st sa st' : St} {a s : Stmt} {m : Mon} {tr : List Ev} {c : Bool} (h : Post st sa a m tr c)
    (hc : c = true → ∀ {m'}, Le sa m' → Le st' m') (ha : assigns s = false → assigns a = false) :
    Post st st' s m tr c := by
  obtain ⟨m1, hrun, h1l, h1d, h1c, h1p⟩ := h
  exact ⟨m1, hrun, h1l, h1d, fun hx => hc hx (h1c hx), fun hna => h1p (ha hna)⟩

theorem chk_sound (P : List Stmt) (hP : ∀ s ∈ P, entryOk s = true) :
    ∀ s tr c, Runs P s tr c → ∀ st st' m, chk st s = some st' → Le st m → Post st st' s m tr c := by
  intro s tr c hr
  induction hr
  all_goals intro st st' m h hle
  case dev n c =>
    simp only [chk] at h
    split at h
    · rename_i hc; cases h
      simp at hc
      obtain ⟨hl, hk, hd⟩ := hle
      have hmk := hk hc.2
      refine ⟨m, ?_, hl, hd, fun _ => ⟨hl, hk, hd⟩, fun _ _ h => h⟩
      rcases m with ⟨ml, mk, md⟩
      simp at hl hmk hd
      simp [mrun, mstep, hl, hc.1, hmk, hd]
    · cases h
  case assign =>
    simp only [chk] at h
    split at h
    · rename_i hc; cases h
      obtain ⟨hl, hk, hd⟩ := hle
      refine ⟨{ m with known := false }, ?_, hl, hd, fun _ => ⟨by simp [hl, hc], by simp, hd⟩, by simp [assigns]⟩
      simp [mrun, mstep, hl, hc, hd]
    · cases h
  case withLock s0 tr0 c0 hr ih =>
    simp only [chk] at h
    split at h
    · cases h
    rename_i hnl
    split at h
    · rename_i st1 h1
      split at h
      · rename_i hl1
        cases h
        obtain ⟨hl, hk, hd⟩ := hle
        simp at hnl
        have hml : m.locked = false := by rw [hl, hnl]
        obtain ⟨m1, hrun, h1l, h1d, h1c, _⟩ := ih ⟨true, false⟩ st1 ⟨true, false, false⟩ h1 ⟨rfl, by simp, rfl⟩
        refine ⟨⟨false, false, false⟩, ?_, by simp [hnl], rfl, fun _ => ⟨by simp, by simp, rfl⟩, ?_⟩
        · have e1 : mstep m .acq = some ⟨true, false, false⟩ := by simp [mstep, hml]
          have e2 : mstep m1 .rel = some ⟨false, false, false⟩ := by
            have h1l' : m1.locked = true := h1l
            simp [mstep, h1l', h1d]
          show mrun m (Ev.acq :: (tr0 ++ [Ev.rel])) = _
          rw [mrun_cons _ e1, mrun_append, hrun]
          exact mrun_cons [] e2
        · intro _ hml'
          rw [hml] at hml'; cases hml'
      · cases h
    · cases h
  case ifT a b tr0 c0 hr ih =>
    simp only [chk] at h
    split at h
    · rename_i sa sb ha hb
      obtain ⟨hl, hk, hd⟩ := hle
      have e1 : mstep m (.tst true) = some { m with known := m.locked || m.known } := rfl
      have hle1 : Le ⟨st.locked, st.locked || st.known⟩ { m with known := m.locked || m.known } := by
        refine ⟨hl, ?_, hd⟩
        intro hx; simp at hx ⊢
        rcases hx with hx | hx
        · left; rw [hl]; exact hx
        · right; exact hk hx
      obtain ⟨m1, hrun, h1l, h1d, h1c, h1p⟩ := ih _ sa _ ha hle1
      refine ⟨m1, ?_, h1l, h1d, ?_, ?_⟩
      · rw [mrun_cons _ e1]; exact hrun
      · exact fun hc => (h1c hc).meet_left h
      · -- the test can only add to what the monitor knows
        intro hna hml hmk
        exact h1p (Bool.or_eq_false_iff.mp hna).1 hml (by simp [hmk])
    · cases h
  case ifF a b tr0 c0 hr ih =>
    simp only [chk] at h
    split at h
    · rename_i sa sb ha hb
      -- `tst false` leaves the monitor as it is
      show Post st st' (.ifDev a b) m tr0 c0
      exact (ih _ sb _ hb hle).sub (fun _ => Le.meet_right h) (fun hna => (Bool.or_eq_false_iff.mp hna).2)
    · cases h
  case seqAbort a b ta hr ih =>
    simp only [chk] at h
    split at h
    · rename_i st1 ha
      exact (ih _ st1 _ ha hle).sub nofun (fun hna => (Bool.or_eq_false_iff.mp hna).1)
    · cases h
  case seq a b ta tb c0 hra hrb iha ihb =>
    simp only [chk] at h
    split at h
    · rename_i st1 ha
      obtain ⟨m1, hrun, h1l, h1d, h1c, h1p⟩ := iha _ st1 _ ha hle
      have hle1 := h1c rfl
      obtain ⟨m2, hrun2, h2l, h2d, h2c, h2p⟩ := ihb _ st' _ h hle1
      refine ⟨m2, ?_, ?_, h2d, h2c, ?_⟩
      · rw [mrun_append, hrun]; exact hrun2
      · rw [h2l, ← hle1.1, h1l]
      · intro hna hml hmk
        obtain ⟨hna1, hna2⟩ := Bool.or_eq_false_iff.mp hna
        exact h2p hna2 (by rw [h1l, ← hle.1]; exact hml) (h1p hna1 hml hmk)
    · cases h
  case brL a b t c0 hr ih | tryOk a b t hr ih =>
    simp only [chk] at h
    split at h
    · rename_i sa sb ha hb
      exact (ih _ sa _ ha hle).sub (fun _ => Le.meet_left h) (fun hna => (Bool.or_eq_false_iff.mp hna).1)
    · cases h
  case brR a b t c0 hr ih =>
    simp only [chk] at h
    split at h
    · rename_i sa sb ha hb
      exact (ih _ sb _ hb hle).sub (fun _ => Le.meet_right h) (fun hna => (Bool.or_eq_false_iff.mp hna).2)
    · cases h
  case loop0 s0 =>
    obtain ⟨st1, hb, hb1, hb2, hr1, hr2⟩ := chk_loop h
    exact ⟨m, rfl, hle.1, hle.2.2, fun _ => hle.weaken hr1 hr2, fun _ _ h => h⟩
  case loopAbort s0 t hr ih =>
    obtain ⟨st1, hb, hb1, hb2, hr1, hr2⟩ := chk_loop h
    obtain ⟨m1, hrun, h1l, h1d, h1c, h1p⟩ := ih _ st1 _ hb (hle.weaken hr1 hr2)
    exact ⟨m1, hrun, by rw [h1l, hr1], h1d, nofun, h1p⟩
  case loopS s0 t u c0 hrs hrl ihs ihl =>
    obtain ⟨st1, hb, hb1, hb2, hr1, hr2⟩ := chk_loop h
    have hl := hle.1
    obtain ⟨m1, hrun, h1l, h1d, h1c, h1p⟩ := ihs _ st1 _ hb (hle.weaken hr1 hr2)
    have hle1 : Le st' m1 := (h1c rfl).weaken hb1.symm hb2
    -- the loop statement checks from its own invariant state
    have hinv : chk st' (.loop s0) = some st' := by
      simp only [chk, hb]
      have : (st1.locked = st'.locked && (!st'.known || st1.known)) = true := by
        simp [hb1]
        cases hk' : st'.known
        · simp
        · simp [hb2 hk']
      simp [this]
    obtain ⟨m2, hrun2, h2l, h2d, h2c, h2p⟩ := ihl _ st' _ hinv hle1
    refine ⟨m2, ?_, by rw [h2l, hr1], h2d, h2c, ?_⟩
    · rw [mrun_append, hrun]; exact hrun2
    · intro hna hml hmk
      exact h2p hna (by rw [hle1.1, hr1, ← hl]; exact hml) (h1p hna hml hmk)
  case tryUncaught a b t hr ih =>
    simp only [chk] at h
    split at h
    · rename_i sa sb ha hb
      exact (ih _ sa _ ha hle).sub nofun (fun hna => (Bool.or_eq_false_iff.mp hna).1)
    · cases h
  case tryCaught a b t u c0 hra hrb iha ihb =>
    simp only [chk] at h
    split at h
    · rename_i sa sb ha hb
      obtain ⟨m1, hrun, h1l, h1d, h1c, h1p⟩ := iha _ sa _ ha hle
      obtain ⟨hl, hk, hd⟩ := hle
      have hle1 : Le ⟨st.locked, st.locked && st.known && !assigns a⟩ m1 := by
        refine ⟨h1l, ?_, h1d⟩
        intro hx
        simp at hx
        exact h1p hx.2 (by rw [hl]; exact hx.1.1) (hk hx.1.2)
      obtain ⟨m2, hrun2, h2l, h2d, h2c, h2p⟩ := ihb _ sb _ hb hle1
      refine ⟨m2, ?_, h2l, h2d, ?_, ?_⟩
      · rw [mrun_append, hrun]; exact hrun2
      · exact fun hc => (h2c hc).meet_right h
      · intro hna hml hmk
        obtain ⟨hna1, hna2⟩ := Bool.or_eq_false_iff.mp hna
        exact h2p hna2 (by rw [h1l, ← hl]; exact hml) (h1p hna1 hml hmk)
    · cases h
  case assignRaise | exit =>
    obtain ⟨hl, hk, hd⟩ := hle
    exact ⟨m, rfl, hl, hd, by simp, fun _ _ h => h⟩
  case skip =>
    simp only [chk] at h
    cases h
    obtain ⟨hl, hk, hd⟩ := hle
    exact ⟨m, rfl, hl, hd, fun _ => ⟨hl, hk, hd⟩, fun _ _ h => h⟩
  case cbNil c0 =>
    simp only [chk] at h
    split at h
    · cases h
    · rename_i hnl
      cases h
      obtain ⟨hl, hk, hd⟩ := hle
      simp at hnl
      exact ⟨m, rfl, hl, hd, fun _ => ⟨by rw [hl, hnl], by simp, hd⟩, fun _ _ h => h⟩
  case cbCons s0 t c1 u c0 hmem hrs hrc ihs ihc =>
    simp only [chk] at h
    split at h
    · cases h
    · rename_i hnl
      cases h
      obtain ⟨hl, hk, hd⟩ := hle
      have hok := hP s0 hmem
      unfold entryOk at hok
      split at hok
      · rename_i ste hse
        simp at hok hnl
        have hle0 : Le ⟨false, false⟩ m := ⟨by rw [hl, hnl], by simp, hd⟩
        obtain ⟨m1, hrun, h1l, h1d, h1c, h1p⟩ := ihs _ ste _ hse hle0
        have hle1 : Le ⟨false, false⟩ m1 := ⟨h1l, by simp, h1d⟩
        have hc0 : chk ⟨false, false⟩ .callback = some ⟨false, false⟩ := by simp [chk]
        obtain ⟨m2, hrun2, h2l, h2d, h2c, h2p⟩ := ihc _ _ _ hc0 hle1
        refine ⟨m2, ?_, by rw [h2l, hnl], h2d, h2c, by simp [assigns]⟩
        rw [mrun_append, hrun]; exact hrun2
      · cases hok
  case other src c0 =>
    simp [chk] at h

/-- joint invariant of the global state and the ghost monitors -/
structure J {n} (g : G n) (ms : Fin n → Mon) : Prop where
  hold : ∀ i, (ms i).locked = true → g.holder = some i
  indev : ∀ i, (ms i).inDev = g.inDev i
  devl : ∀ i, (ms i).inDev = true → (ms i).locked = true
  known : ∀ i, (ms i).locked = true → (ms i).known = true → g.device = true

def upd {n} (ms : Fin n → Mon) (t : Fin n) (m : Mon) : Fin n → Mon := fun i => if i = t then m else ms i

theorem J.excl {n} {g : G n} {ms : Fin n → Mon} (hj : J g ms) {t : Fin n}
    (h : (ms t).locked = true ∨ g.holder = none) (i : Fin n) (hit : i ≠ t) : (ms i).locked = false := by
  cases hli : (ms i).locked
  · rfl
  · have a := hj.hold i hli
    rcases h with h | h
    · have b := hj.hold t h
      rw [a] at b; cases b; exact absurd rfl hit
    · rw [a] at h; cases h

theorem J.step {n} {g g' : G n} {ms : Fin n → Mon} {t : Fin n} {m' : Mon} (hj : J g ms)
    (others : ∀ i, i ≠ t → (ms i).locked = true → g'.holder = g.holder ∧ g'.device = g.device)
    (inDevs : ∀ i, i ≠ t → g'.inDev i = g.inDev i)
    (hold : m'.locked = true → g'.holder = some t)
    (indev : m'.inDev = g'.inDev t)
    (devl : m'.inDev = true → m'.locked = true)
    (known : m'.locked = true → m'.known = true → g'.device = true) :
    J g' (upd ms t m') := by
  refine ⟨fun i => ?_, fun i => ?_, fun i => ?_, fun i => ?_⟩ <;> by_cases hit : i = t
  · subst hit; simpa [upd] using hold
  · simp only [upd, if_neg hit]; intro hl; rw [(others i hit hl).1]; exact hj.hold i hl
  · subst hit; simpa [upd] using indev
  · simp only [upd, if_neg hit]; rw [inDevs i hit]; exact hj.indev i
  · subst hit; simpa [upd] using devl
  · simp only [upd, if_neg hit]; exact hj.devl i
  · subst hit; simpa [upd] using known
  · simp only [upd, if_neg hit]; intro hl hk; rw [(others i hit hl).2]; exact hj.known i hl hk

theorem J.step_excl {n} {g g' : G n} {ms : Fin n → Mon} {t : Fin n} {m' : Mon} (hj : J g ms)
    (excl : (ms t).locked = true ∨ g.holder = none)
    (inDevs : ∀ i, i ≠ t → g'.inDev i = g.inDev i)
    (hold : m'.locked = true → g'.holder = some t)
    (indev : m'.inDev = g'.inDev t)
    (devl : m'.inDev = true → m'.locked = true)
    (known : m'.locked = true → m'.known = true → g'.device = true) :
    J g' (upd ms t m') :=
  hj.step (fun i hit hl => by rw [hj.excl excl i hit] at hl; cases hl) inDevs hold indev devl known

theorem step_inv {n} (g g' : G n) (ms : Fin n → Mon) (t : Fin n) (e : Ev) (v : Bool) (m' : Mon)
    (hj : J g ms) (hm : mstep (ms t) e = some m') (hg : gstep g t e v = some g') :
    J g' (upd ms t m') ∧ (e = .devB → SafeAt g t) := by
  have other : ∀ (b : Bool) (i : Fin n), i ≠ t → (if i = t then b else g.inDev i) = g.inDev i :=
    fun b i hit => if_neg hit
  cases e with
  | acq =>
    simp only [mstep] at hm
    split at hm
    · cases hm
    rename_i hnl
    cases hm
    simp only [gstep] at hg
    split at hg
    · rename_i hh
      cases hg
      refine ⟨hj.step_excl
        (excl := Or.inr hh)
        (inDevs := fun _ _ => rfl)
        (hold := fun _ => rfl)
        (indev := ?_)
        (devl := fun _ => rfl)
        (known := by simp), by simp⟩
      -- not locked, so not inside the driver
      cases hd : (ms t).inDev
      · exact hd ▸ hj.indev t
      · exact absurd (hj.devl t hd) hnl
    · cases hg
  | rel =>
    simp only [mstep] at hm
    split at hm
    · rename_i hc
      cases hm
      simp at hc
      cases hg
      exact ⟨hj.step_excl
        (excl := Or.inl hc.1)
        (inDevs := fun _ _ => rfl)
        (hold := by simp)
        (indev := hc.2 ▸ hj.indev t)
        (devl := by simp)
        (known := by simp), by simp⟩
    · cases hm
  | devB =>
    simp only [mstep] at hm
    split at hm
    · rename_i hc
      cases hm
      simp at hc
      cases hg
      refine ⟨hj.step_excl
        (excl := Or.inl hc.1.1)
        (inDevs := other true)
        (hold := fun _ => hj.hold t hc.1.1)
        (indev := by simp)
        (devl := fun _ => hc.1.1)
        (known := fun _ _ => hj.known t hc.1.1 hc.1.2), fun _ => ⟨hj.known t hc.1.1 hc.1.2, fun j hjt => ?_⟩⟩
      -- another thread inside the driver would hold the lock
      cases hd : g.inDev j
      · rfl
      · have h2 := hj.devl j ((hj.indev j).trans hd)
        rw [hj.excl (Or.inl hc.1.1) j hjt] at h2; cases h2
    · cases hm
  | devE =>
    simp only [mstep] at hm
    split at hm
    · rename_i hc
      cases hm
      cases hg
      have htl := hj.devl t hc
      exact ⟨hj.step_excl
        (excl := Or.inl htl)
        (inDevs := other false)
        (hold := fun _ => hj.hold t htl)
        (indev := by simp)
        (devl := by simp)
        (known := hj.known t), by simp⟩
    · cases hm
  | setDev =>
    simp only [mstep] at hm
    split at hm
    · rename_i hc
      cases hm
      simp at hc
      cases hg
      exact ⟨hj.step_excl
        (excl := Or.inl hc.1)
        (inDevs := fun _ _ => rfl)
        (hold := fun _ => hj.hold t hc.1)
        (indev := hj.indev t)
        (devl := fun _ => hc.1)
        (known := by simp), by simp⟩
    · cases hm
  | tst b =>
    simp only [gstep] at hg
    split at hg
    · rename_i hb
      cases hg
      refine ⟨hj.step
        (others := fun _ _ _ => ⟨rfl, rfl⟩)
        (inDevs := fun _ _ => rfl)
        (hold := ?_)
        (indev := ?_)
        (devl := ?_)
        (known := ?_), by simp⟩
      · cases b <;> cases hm <;> exact hj.hold t
      · cases b <;> cases hm <;> exact hj.indev t
      · cases b <;> cases hm <;> exact hj.devl t
      · cases b <;> cases hm
        · exact hj.known t
        · exact fun _ _ => hb.symm
    · cases hg

/-- the monitor accepts `l` followed by some continuation -/
def Acc (m : Mon) (l : List Ev) : Prop := ∃ ext m', mrun m (l ++ ext) = some m'

theorem acc_cons {m : Mon} {e : Ev} {l : List Ev} (h : Acc m (e :: l)) :
    ∃ m1, mstep m e = some m1 ∧ Acc m1 l := by
  obtain ⟨ext, m', h⟩ := h
  simp only [List.cons_append, mrun] at h
  split at h
  · rename_i m1 h1; exact ⟨m1, h1, ext, m', h⟩
  · cases h

theorem proj_cons_same {n} (t : Fin n) (e : Ev) (v : Bool) (rest : Sched n) :
    proj ((t, e, v) :: rest) t = e :: proj rest t := by simp [proj]

theorem proj_cons_other {n} (t i : Fin n) (e : Ev) (v : Bool) (rest : Sched n) (h : t ≠ i) :
    proj ((t, e, v) :: rest) i = proj rest i := by simp [proj, h]

theorem run_safe {n} (σ : Sched n) : ∀ (g : G n) (ms : Fin n → Mon), J g ms →
    (∀ i, Acc (ms i) (proj σ i)) → safeRun g σ := by
  induction σ with
  | nil => intro g ms _ _; trivial
  | cons x rest ih =>
    obtain ⟨t, e, v⟩ := x
    intro g ms hj hacc
    simp only [safeRun]
    split
    · trivial
    · rename_i g' hg
      have ht := hacc t
      rw [proj_cons_same] at ht
      obtain ⟨m1, hm1, hacc1⟩ := acc_cons ht
      obtain ⟨hj', hsafe⟩ := step_inv g g' ms t e v m1 hj hm1 hg
      refine ⟨hsafe, ih g' (upd ms t m1) hj' ?_⟩
      intro i
      by_cases hit : i = t
      · subst hit; simpa [upd] using hacc1
      · have := hacc i
        rw [proj_cons_other t i e v rest (fun h => hit h.symm)] at this
        simpa [upd, hit] using this

/-- **Soundness of the lock discipline.** If every entry point of the program passes the
syntactic check, then for any number of threads, each running any sequence of entry points
(with exceptions and early exits anywhere), under every interleaving: whenever a thread enters
the device driver the device is open and no other thread is inside the driver. -/
theorem lock_sound (P : List Stmt) (hP : wellLocked P = true) (n : Nat) (σ : Sched n) (d0 : Bool)
    (hthreads : ∀ i, ∃ full c, Runs P .callback full c ∧ ∃ ext, proj σ i ++ ext = full) :
    safeRun ⟨none, d0, fun _ => false⟩ σ := by
  have hP' : ∀ s ∈ P, entryOk s = true := by
    simpa [wellLocked, List.all_eq_true] using hP
  apply run_safe σ _ (fun _ => ⟨false, false, false⟩)
  · exact ⟨by simp, by simp, by simp, by simp⟩
  · intro i
    obtain ⟨full, c, hr, ext, hext⟩ := hthreads i
    have hc : chk ⟨false, false⟩ .callback = some ⟨false, false⟩ := by simp [chk]
    obtain ⟨m', hrun, _⟩ := chk_sound P hP' _ _ _ hr ⟨false, false⟩ _ ⟨false, false, false⟩ hc ⟨rfl, by simp, rfl⟩
    exact ⟨ext, m', by rw [hext]; exact hrun⟩

end NfcVerif.Lock
