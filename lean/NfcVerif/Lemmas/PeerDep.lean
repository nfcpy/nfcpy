import NfcVerif.Model.PeerDep
/-!
# C07: every NFC-DEP frame yields a PDU, ProtocolError or TransmissionError (repaired code)
-/
namespace NfcVerif.Peer
open NfcVerif.NfcDep

theorem decodeDsl_safe (mk : Option Nat → Pdu) (d : Bytes) : Safe FrameErr (decodeDsl mk d) := by
  intro e h
  unfold decodeDsl at h
  split at h <;> simp_all [FrameErr]

theorem decodeDep_safe (d : Bytes) : Safe FrameErr (decodeDep d) := by
  have P : Safe FrameErr (.error .protocol : Py Pdu) := Safe.throw (Or.inl rfl)
  unfold decodeDep
  match d with
  | [] => exact P
  | pfb :: r1 =>
    dsimp only
    refine Safe.ite ?_ (Safe.ite ?_ (Safe.ok _))
    · match r1 with
      | [] => exact P
      | did :: r2 =>
        refine Safe.ite ?_ (Safe.ok _)
        match r2 with
        | [] => exact P
        | _ :: _ => exact Safe.ok _
    · match r1 with
      | [] => exact P
      | _ :: _ => exact Safe.ok _

theorem frameBody_safe (req : Bool) (f2 : Bytes) : Safe FrameErr (frameBody true req f2) := by
  unfold frameBody
  apply Safe.ite
  · exact Safe.throw (Or.inr rfl)
  match f2 with
  | [] | [_] => exact Safe.throw (Or.inr rfl)
  | c0 :: c1 :: d =>
    simp only
    apply Safe.ite
    · exact Safe.throw (Or.inl rfl)
    apply Safe.ite
    · exact Safe.throw (Or.inl rfl)
    apply Safe.ite (decodeDep_safe d)
    apply Safe.ite (decodeDsl_safe _ d)
    apply Safe.ite (decodeDsl_safe _ d)
    apply Safe.ite
    · apply Safe.ite
      · simp only [if_true]; exact Safe.throw (Or.inl rfl)
      · exact Safe.ok _
    apply Safe.ite
    · apply Safe.ite
      · exact Safe.throw (Or.inl rfl)
      · exact Safe.ok _
    · exact Safe.throw (Or.inl rfl)

theorem stripStart_safe (frame : Bytes) (b106 : Bool) (h : ¬ frame.length < (if b106 then 2 else 1)) :
    Safe FrameErr (stripStart b106 frame) ∧ ∀ f1, stripStart b106 frame = .ok f1 → f1 ≠ [] := by
  unfold stripStart
  cases b106 with
  | false =>
    simp only [Bool.false_eq_true, if_false] at h ⊢
    refine ⟨Safe.ok _, ?_⟩
    intro f1 hf; cases hf; intro he; subst he; simp at h
  | true =>
    simp only [if_true] at h ⊢
    match frame, h with
    | [], h => simp at h
    | [_], h => simp at h
    | sb :: x :: r, _ =>
      simp only
      refine ⟨Safe.ite (Safe.throw (Or.inl rfl)) (Safe.ok _), ?_⟩
      intro f1 hf
      split at hf
      · cases hf
      · cases hf; simp

theorem dep_decode_total (b106 req : Bool) (frame : Bytes) : Safe FrameErr (decodeFrameV true b106 req frame) := by
  unfold decodeFrameV
  simp only [true_and]
  by_cases hl : frame.length < (if b106 = true then 2 else 1)
  · simp only [hl, if_true]; exact Safe.throw (Or.inr rfl)
  · simp only [hl, if_false]
    obtain ⟨hs, hne⟩ := stripStart_safe frame b106 hl
    apply Safe.bind hs
    intro f1 hf1
    match f1, hne f1 hf1 with
    | [], h => exact absurd rfl h
    | len :: f2, _ =>
      simp only
      apply Safe.ite
      · exact Safe.throw (Or.inl rfl)
      · exact frameBody_safe req f2

/-- the repaired frame model IS the (repaired) `decodeFrame` of property C04 -/
theorem decodeFrameV_repaired (b106 req : Bool) (frame : Bytes) :
    decodeFrameV true b106 req frame = NfcDep.decodeFrame b106 req frame := by
  unfold decodeFrameV NfcDep.decodeFrame
  simp only [true_and]
  split
  · rfl
  · unfold NfcDep.decodeFrameAux stripStart
    congr 1

end NfcVerif.Peer
