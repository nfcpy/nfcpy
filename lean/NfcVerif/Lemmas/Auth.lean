import NfcVerif.Lemmas.Mac
import NfcVerif.Lemmas.PyPrims
import NfcVerif.Model.Auth
/-!
The reader of `Model/Auth.lean` against the tag of the manuals (C20): the reader accepts what that
tag sends and sends what that tag expects. Two facts carry the file. `t3Response_frame`: the
response checks return the body of a frame built by `rspFrame`, so the reader functions evaluate
on the tag's frames (`readWithMac_eval`). `tag_mac_eq`: the tag, which holds key and challenge as
`revHalves` (little-endian words), computes the reader's `macBlocks` under the reader's
`sessionKey`; the reversals cancel word by word (`word_revHalves_0`, `chain_eq_cbcLast`). Together
they give `readWithMac_readFrame`. `liteAuthenticate_eq` shows internal authentication to be such
a MAC'ed read of the ID block, whence `lite_auth_complete`, and `lite_auth_true` by reading the
same equation backwards. `tag_macA_eq` is `tag_mac_eq` for MAC_A of Lite-S, where the halves of
the session key change places; it gives `writeWithMacCmd_tag`. The cipher is any `BlockCipher C`, needed only to know
that intermediate values are `Block`s. The bounds of 99 or 100 blocks and 200 octets keep a
command within the 255 that `t3Command` allows.
-/
namespace NfcVerif.Auth
open NfcVerif NfcVerif.Mac

theorem slice_body (x m p : Bytes) (hm : m.length = 8) (hp : p.length = 8) :
    slice (x ++ (m ++ p)) 0 (-16) = x ∧ slice (x ++ (m ++ p)) (-16) (-8) = m := by
  have hlen : (x ++ (m ++ p)).length = x.length + 16 := by simp [hm, hp]
  constructor
  · rw [show slice _ 0 (-16) = _ from slice_zero_neg _ 16 (by omega), hlen]
    simp
  · rw [show slice _ (-16) (-8) = _ from slice_neg _ 16 8 (by omega) (by omega), hlen]
    simp [sliceN, hm]

theorem idx_nat {α} (l : List α) (i : Nat) (h : i < l.length) : idx l (i : Int) = .ok l[i] := by
  rw [idx_ofNat, idxN, List.getElem?_eq_getElem h]

theorem t3Response_frame (idm : Bytes) (code : Nat) (body : Bytes) (hidm : idm.length = 8) :
    t3Response idm code (rspFrame idm code body) = .ok body := by
  obtain ⟨i0, i1, i2, i3, i4, i5, i6, i7, rfl⟩ := eq_of_length_eight hidm
  have hl : (rspFrame [i0, i1, i2, i3, i4, i5, i6, i7] code body).length = 12 + body.length := by
    simp [rspFrame]; omega
  unfold t3Response
  rw [if_neg (by omega)]
  rw [show idx _ 0 = _ from idx_ofNat _ 0, show idx _ 1 = _ from idx_ofNat _ 1, show idx _ 10 = _ from idx_ofNat _ 10,
    show slice _ 2 10 = _ from slice_cast _ 2 10]
  simp [rspFrame]
  omega

theorem blockList_length (blocks : List Nat) : (blockList blocks).length = 2 * blocks.length := by
  induction blocks with
  | nil => rfl
  | cons b t ih => simp [blockList, List.flatMap_cons] at ih ⊢; omega

theorem readCmd_ok (idm : Bytes) (blocks : List Nat) (hidm : idm.length = 8) (hb : blocks.length ≤ 100) :
    ∃ c, readCmd idm blocks = .ok c := by
  unfold readCmd t3Command
  have : ¬ (2 + idm.length + ([1, 0x0B, 0x00, blocks.length] ++ blockList blocks).length > 255) := by
    simp [blockList_length, hidm]; omega
  simp only [this, if_false]
  exact ⟨_, rfl⟩

theorem writeCmd_ok (idm : Bytes) (blocks : List Nat) (data : Bytes) (hidm : idm.length = 8)
    (h : 2 * blocks.length + data.length ≤ 200) :
    writeCmd idm blocks data = .ok ([2 + idm.length + ([1, 0x09, 0x00, blocks.length] ++ blockList blocks ++ data).length, 8]
      ++ idm ++ ([1, 0x09, 0x00, blocks.length] ++ blockList blocks ++ data)) := by
  unfold writeCmd t3Command
  have : ¬ (2 + idm.length + ([1, 0x09, 0x00, blocks.length] ++ blockList blocks ++ data).length > 255) := by
    simp [blockList_length, hidm]; omega
  simp only [this, if_false]

theorem readRsp_frame (idm body : Bytes) (blocks : List Nat) (nb : Nat) (hidm : idm.length = 8)
    (hb : body.length = blocks.length * 16) :
    readRsp idm blocks (rspFrame idm 6 ([nb] ++ body)) = .ok body := by
  unfold readRsp
  rw [t3Response_frame idm 6 _ hidm]
  simp [hb]; omega

theorem readRsp_length (idm : Bytes) (blocks : List Nat) (rsp data : Bytes) (h : readRsp idm blocks rsp = .ok data) :
    data.length = blocks.length * 16 := by
  unfold readRsp at h
  rcases Py.bind_eq_ok.mp h with ⟨d, _, h⟩
  split at h
  · cases h
  · rename_i hl
    injection h with h
    subst h
    simp only [List.length_drop]
    omega

theorem writeRsp_ok (idm : Bytes) (hidm : idm.length = 8) : writeRsp idm (writeOk idm) = .ok () := by
  have : writeOk idm = rspFrame idm 8 [] := by simp [writeOk, rspFrame]
  unfold writeRsp
  rw [this, t3Response_frame idm 8 _ hidm]
  rfl

theorem readWithMac_some (C : Cipher) (idm : Bytes) (s : Session) (blocks : List Nat) (rsp d : Bytes)
    (h : readWithMac C idm (some s) blocks rsp = .ok (some d)) :
    ∃ data, readRsp idm (blocks ++ [0x81]) rsp = .ok data ∧ d = slice data 0 (-16)
      ∧ generateMac C d s.sk s.iv false = .ok (slice data (-16) (-8)) := by
  simp only [readWithMac] at h
  rcases Py.bind_eq_ok.mp h with ⟨c, _, h⟩
  rcases Py.bind_eq_ok.mp h with ⟨data, hdata, h⟩
  rcases Py.bind_eq_ok.mp h with ⟨m, hm, h⟩
  split at h
  · cases h
  · rename_i hne
    have hd : slice data 0 (-16) = d := by injection h with h; injection h
    have heq : slice data (-16) (-8) = m := Classical.not_not.mp hne
    exact ⟨data, hdata, hd.symm, by rw [← hd, hm, heq]⟩

/-- evaluation of `read_with_mac` on a well-formed frame carrying data `x`, MAC field `m`, padding `p` -/
theorem readWithMac_eval (C : Cipher) (idm : Bytes) (s : Session) (blocks : List Nat) (nb : Nat) (x m p mm : Bytes)
    (hidm : idm.length = 8) (hblk : blocks.length ≤ 99) (hx : x.length = blocks.length * 16)
    (hm : m.length = 8) (hp : p.length = 8) (hg : generateMac C x s.sk s.iv false = .ok mm) :
    readWithMac C idm (some s) blocks (rspFrame idm 6 ([nb] ++ (x ++ (m ++ p))))
      = .ok (if m = mm then some x else none) := by
  obtain ⟨c, hc⟩ := readCmd_ok idm (blocks ++ [0x81]) hidm (by simp; omega)
  have hr := readRsp_frame idm (x ++ (m ++ p)) (blocks ++ [0x81]) nb hidm (by simp [hx, hm, hp]; omega)
  obtain ⟨s1, s2⟩ := slice_body x m p hm hp
  simp only [readWithMac, hc, hr, Py.bind_ok, s1, s2, hg]
  by_cases h : m = mm <;> simp [h]

/-! ## the tag of the manual computes the reader's MAC -/

theorem chain_eq_cbcLast (E : Bytes → Bytes) (x : Bytes) (ws : List Bytes) : LiteTag.chain E x ws = cbcLast E x ws := by
  induction ws generalizing x with
  | nil => rfl
  | cons w rest ih => simp only [LiteTag.chain, cbcLast, xorB_comm x w, ih]

theorem revHalves_length (x : Bytes) (h : x.length = 16) : (revHalves x).length = 16 := by
  simp [revHalves, h]

theorem word_revHalves_0 (x : Bytes) (h : x.length = 16) : word (revHalves x) 0 = x.take 8 := by
  unfold word revHalves
  simp only [Nat.mul_zero, List.drop_zero]
  rw [List.take_append_of_le_length (by simp [h]), List.take_of_length_le (by simp [h]), List.reverse_reverse]

theorem word_revHalves_1 (x : Bytes) (h : x.length = 16) : word (revHalves x) 1 = x.drop 8 := by
  unfold word revHalves
  simp only [Nat.mul_one]
  have h8 : ((x.take 8).reverse).length = 8 := by simp [h]
  rw [List.drop_append_of_le_length (by omega), List.drop_of_length_le (by omega), List.nil_append,
    List.take_of_length_le (by simp [h]), List.reverse_reverse, List.take_of_length_le (by simp [h])]

theorem chunks8_16 (x : Bytes) (h : x.length = 16) : chunks8 x = [x.take 8, x.drop 8] := by
  simp [chunks8, h, chunksAux, List.take_of_length_le (show (x.drop 8).length ≤ 8 by simp [h])]

theorem liteKey_length (pw key : Bytes) (h : liteKey pw = .ok key) : key.length = 16 := by
  unfold liteKey at h
  split at h
  · cases h
  · rename_i hc
    injection h with h
    subst h
    split
    · simp [zeros]
    · rename_i hne
      have : ¬ pw.length < 16 := fun hl => hc ⟨hne, hl⟩
      simp; omega

theorem sessionKey_16 (C : Cipher) (key rc : Bytes) (h : rc.length = 16) :
    sessionKey C key rc = .ok (C key (rc.take 8) ++ C key (xorB (rc.drop 8) (C key (rc.take 8)))) := by
  unfold sessionKey
  have : ¬ (rc.length % 8 ≠ 0) := by omega
  simp only [this, if_false, chunks8_16 rc h, cbcAll]
  have : xorB (rc.take 8) (List.replicate 8 0) = rc.take 8 := by
    have := xorB_zeros (rc.take 8)
    rwa [show (rc.take 8).length = 8 by simp [h]] at this
  simp only [List.replicate] at this
  simp [this]

/-- session key words of the tag that stores `revHalves key` and was given the challenge `revHalves rc` -/
theorem tag_sk (C : Cipher) (key rc wc : Bytes) (hk : key.length = 16) (hrc : rc.length = 16) :
    LiteTag.sk1 C ⟨revHalves key, revHalves rc, wc⟩ = C key (rc.take 8)
    ∧ LiteTag.sk2 C ⟨revHalves key, revHalves rc, wc⟩ = C key (xorB (rc.drop 8) (C key (rc.take 8))) := by
  simp only [LiteTag.sk1, LiteTag.sk2, word_revHalves_0 _ hk, word_revHalves_1 _ hk, word_revHalves_0 _ hrc,
    word_revHalves_1 _ hrc, List.take_append_drop, and_self]

theorem tag_mac_eq (C : Cipher) (key rc wc sk : Bytes) (hk : key.length = 16) (hrc : rc.length = 16)
    (hsk : sessionKey C key rc = .ok sk) (groups : List Bytes) (hne : groups ≠ []) :
    LiteTag.mac C ⟨revHalves key, revHalves rc, wc⟩ groups = macBlocks C sk (rc.take 8) groups := by
  rw [sessionKey_16 C key rc hrc] at hsk
  injection hsk with hsk
  obtain ⟨h1, h2⟩ := tag_sk C key rc wc hk hrc
  simp only [LiteTag.mac, macBlocks, hne, if_false, chain_eq_cbcLast, h1, h2, hsk, word_revHalves_0 _ hrc]

theorem readFrame_eq (C : Cipher) (t : LiteTag) (idm : Bytes) (n : Nat) (data : Bytes) :
    LiteTag.readFrame C t idm n data
      = rspFrame idm 6 ([n] ++ (data ++ (LiteTag.mac C t (chunks8 data) ++ zeros 8))) := by
  simp only [LiteTag.readFrame, rspFrame, List.append_assoc, List.cons_append, List.nil_append, List.length_cons,
    List.length_append, List.cons.injEq, and_true]
  omega

theorem block_take8 {rc : Bytes} (hrc : rc.length = 16) (hrcB : IsBytes rc) : Block (rc.take 8) :=
  ⟨by simp [hrc], isBytes_take hrcB 8⟩

theorem macBlocks_block (C : Cipher) (hC : BlockCipher C) (key iv : Bytes) (groups : List Bytes)
    (hiv : Block iv) (hg : ∀ g ∈ groups, Block g) (hne : groups ≠ []) : Block (macBlocks C key iv groups) := by
  simp only [macBlocks, hne, if_false]
  apply reverse_block
  apply cbcLast_block (hC key).1 _ _ hiv
  intro g hg'
  rw [List.mem_map] at hg'
  obtain ⟨a, ha, rfl⟩ := hg'
  exact reverse_block (hg a ha)

theorem chunks8_ne_nil (d : Bytes) (h : 8 ≤ d.length) : chunks8 d ≠ [] := by
  unfold chunks8
  have : d.length / 8 = (d.length / 8 - 1) + 1 := by omega
  rw [this]
  simp [chunksAux]

theorem sessionKey_ok (C : Cipher) (hC : BlockCipher C) (key rc : Bytes) (hrc : rc.length = 16) (hrcB : IsBytes rc) :
    ∃ sk, sessionKey C key rc = .ok sk ∧ sk.length = 16 ∧ sk.take 8 = C key (rc.take 8)
      ∧ sk.drop 8 = C key (xorB (rc.drop 8) (C key (rc.take 8))) := by
  have hiv := block_take8 hrc hrcB
  have hsk1 : Block (C key (rc.take 8)) := (hC key).1 _ hiv
  have hr2 : Block (rc.drop 8) := ⟨by simp [hrc], isBytes_drop hrcB 8⟩
  have hsk2 : Block (C key (xorB (rc.drop 8) (C key (rc.take 8)))) := (hC key).1 _ (xorB_block hr2 hsk1)
  refine ⟨_, sessionKey_16 C key rc hrc, by simp [hsk1.1, hsk2.1], ?_, ?_⟩
  · rw [List.take_append_of_le_length (by simp [hsk1.1]), List.take_of_length_le (by simp [hsk1.1])]
  · rw [List.drop_append_of_le_length (by simp [hsk1.1]), List.drop_of_length_le (by simp [hsk1.1]), List.nil_append]

theorem readWithMac_readFrame (C : Cipher) (hC : BlockCipher C) (idm key rc wc sk data : Bytes) (blocks : List Nat) (nb : Nat)
    (hidm : idm.length = 8) (hk : key.length = 16) (hrc : rc.length = 16) (hrcB : IsBytes rc)
    (hsk : sessionKey C key rc = .ok sk) (hb0 : 0 < blocks.length) (hb : blocks.length ≤ 99)
    (hd : data.length = blocks.length * 16) (hdB : IsBytes data) :
    readWithMac C idm (some ⟨sk, rc.take 8⟩) blocks (LiteTag.readFrame C ⟨revHalves key, revHalves rc, wc⟩ idm nb data)
      = .ok (some data) := by
  obtain ⟨sk', hsk', hskl, _, _⟩ := sessionKey_ok C hC key rc hrc hrcB
  cases hsk.symm.trans hsk'
  have hiv := block_take8 hrc hrcB
  have hne := chunks8_ne_nil data (by omega)
  have hmb := macBlocks_block C hC sk (rc.take 8) (chunks8 data) hiv (chunks8_blocks _ hdB) hne
  rw [readFrame_eq, tag_mac_eq C key rc wc sk hk hrc hsk (chunks8 data) hne,
    readWithMac_eval C idm ⟨sk, rc.take 8⟩ blocks nb data _ (zeros 8) _ hidm hb hd hmb.1 (by simp [zeros])
      (generateMac_ok C data sk (rc.take 8) false (by omega) hskl hiv.1)]
  simp

theorem liteAuthenticate_eq (C : Cipher) (idm pw rc rsp1 rsp2 : Bytes) :
    liteAuthenticate C idm pw rc rsp1 rsp2 =
      liteKey pw >>= fun key => liteChallengeCmd idm rc >>= fun _ => writeRsp idm rsp1 >>= fun _ =>
      sessionKey C key rc >>= fun sk =>
      readWithMac C idm (some ⟨sk, rc.take 8⟩) [0x82] rsp2 >>= fun r =>
      .ok (r.isSome, r.map fun _ => ⟨sk, rc.take 8⟩) := by
  unfold liteAuthenticate readWithMac
  simp only [bind_assoc, List.cons_append, List.nil_append]
  refine bind_congr fun key => bind_congr fun _ => bind_congr fun _ => bind_congr fun sk => bind_congr fun _ =>
    bind_congr fun data => bind_congr fun m => ?_
  split <;> simp [*]

/-- FeliCa Lite internal authentication succeeds against the tag of the manual that stores the
key in the layout `revHalves key` and received the challenge block the reader wrote -/
theorem lite_auth_complete (C : Cipher) (hC : BlockCipher C) (idm pw key rc idBlock wc : Bytes)
    (hidm : idm.length = 8) (hkey : liteKey pw = .ok key) (hrc : rc.length = 16) (hrcB : IsBytes rc)
    (hid : idBlock.length = 16) (hidB : IsBytes idBlock) :
    ∃ sk, sessionKey C key rc = .ok sk ∧ sk.length = 16 ∧
      liteAuthenticate C idm pw rc (writeOk idm)
        (LiteTag.readFrame C ⟨revHalves key, revHalves rc, wc⟩ idm 2 idBlock) = .ok (true, some ⟨sk, rc.take 8⟩) := by
  obtain ⟨sk, hsk, hskl, _, _⟩ := sessionKey_ok C hC key rc hrc hrcB
  refine ⟨sk, hsk, hskl, ?_⟩
  have hc1 : liteChallengeCmd idm rc = .ok _ := writeCmd_ok idm [0x80] _ hidm (by simp [revHalves_length rc hrc])
  rw [liteAuthenticate_eq]
  simp only [hkey, hc1, writeRsp_ok idm hidm, hsk, Py.bind_ok, readWithMac_readFrame C hC idm key rc wc sk idBlock [0x82] 2 hidm
    (liteKey_length pw key hkey) hrc hrcB hsk (by simp) (by simp) (by simp [hid]) hidB]
  rfl

/-- the data octets of a write command follow the 10 octets of length, code and IDm, the 4 of the
service list and block count, and two per block list element -/
theorem writeCmd_drop (idm : Bytes) (blocks : List Nat) (data c : Bytes) (hidm : idm.length = 8)
    (h : writeCmd idm blocks data = .ok c) : c.drop (14 + 2 * blocks.length) = data := by
  unfold writeCmd t3Command at h
  simp only at h
  split at h
  · cases h
  · injection h with h
    subst h
    rw [← List.append_assoc, ← List.append_assoc]
    exact List.drop_left' (by simp [hidm, blockList_length]; omega)

theorem protect_key_block (idm pw key pc : Bytes) (hidm : idm.length = 8) (hkey : liteKey pw = .ok key)
    (h : liteProtectKeyCmd idm pw = .ok pc) : pc.drop 16 = revHalves key := by
  simp only [liteProtectKeyCmd, hkey, Py.bind_ok] at h
  exact writeCmd_drop idm [0x87] _ pc hidm h

/-! ## soundness direction that is a fact about the code -/

theorem lite_auth_true (C : Cipher) (idm pw rc rsp1 rsp2 : Bytes) (s : Option Session)
    (h : liteAuthenticate C idm pw rc rsp1 rsp2 = .ok (true, s)) :
    ∃ key sk data, liteKey pw = .ok key ∧ sessionKey C key rc = .ok sk
      ∧ readRsp idm [0x82, 0x81] rsp2 = .ok data
      ∧ generateMac C (slice data 0 (-16)) sk (rc.take 8) false = .ok (slice data (-16) (-8))
      ∧ s = some ⟨sk, rc.take 8⟩ := by
  rw [liteAuthenticate_eq] at h
  rcases Py.bind_eq_ok.mp h with ⟨key, hkey, h⟩
  rcases Py.bind_eq_ok.mp h with ⟨_, _, h⟩
  rcases Py.bind_eq_ok.mp h with ⟨_, _, h⟩
  rcases Py.bind_eq_ok.mp h with ⟨sk, hsk, h⟩
  rcases Py.bind_eq_ok.mp h with ⟨r, hr, h⟩
  cases r with
  | none => cases h
  | some d =>
    obtain ⟨data, hdata, hd, hm⟩ := readWithMac_some C idm _ _ _ d hr
    cases h
    exact ⟨key, sk, data, hkey, hsk, hdata, hd ▸ hm, rfl⟩

/-! ## NTAG21x -/

theorem ntagKey_length (pw key : Bytes) (h : ntagKey pw = .ok key) : key.length = 6 := by
  unfold ntagKey at h
  split at h
  · cases h
  · rename_i hc
    injection h with h
    subst h
    split
    · rfl
    · rename_i hne
      have : ¬ pw.length < 6 := fun hl => hc ⟨hne, hl⟩
      simp; omega

theorem ntag_response_exact (pw key r : Bytes) (hk : ntagKey pw = .ok key) :
    ntagAuthenticate pw (.ok r) = .ok true ↔ r = (key.drop 4).take 2 := by
  simp [ntagAuthenticate, hk]

theorem ntag_protect_tag (pw key cfg : Bytes) (rp : Bool) (pf : Nat) (pages : List Bytes) (hk : ntagKey pw = .ok key)
    (h : ntagProtectPages pw rp pf cfg = .ok pages) :
    NtagTag.ofPages pages = ⟨key.take 4, key.drop 4⟩ := by
  have hl := ntagKey_length pw key hk
  unfold ntagProtectPages at h
  simp only [hk, Py.bind_ok] at h
  split at h
  · cases h
  · rename_i hc
    have hc : cfg.length = 16 := Classical.not_not.mp hc
    injection h with h
    subst h
    match key, hl with
    | [k0, k1, k2, k3, k4, k5], _ =>
      match cfg, hc with
      | [c0, c1, c2, c3, c4, c5, c6, c7, c8, c9, c10, c11, c12, c13, c14, c15], _ =>
        simp [NtagTag.ofPages, sliceN]

/-! ## Lite-S: the MAC_A the reader sends is the MAC_A of the manual -/

/-- `tag_mac_eq` for MAC_A: the same chain over the header word and the data, with the halves of the session
key in the other order -/
theorem tag_macA_eq (C : Cipher) (hC : BlockCipher C) (key rc wc sk : Bytes) (block : Nat) (data : Bytes)
    (hk : key.length = 16) (hrc : rc.length = 16) (hrcB : IsBytes rc) (hsk : sessionKey C key rc = .ok sk) :
    LiteTag.macA C ⟨revHalves key, revHalves rc, wc⟩ block data
      = macBlocks C (sk.drop 8 ++ sk.take 8) (rc.take 8) ([wc.take 3 ++ [0, block, 0, 0x91, 0]] ++ chunks8 data) := by
  obtain ⟨sk', hsk', _, htake, hdrop⟩ := sessionKey_ok C hC key rc hrc hrcB
  cases hsk.symm.trans hsk'
  obtain ⟨h1, h2⟩ := tag_sk C key rc wc hk hrc
  simp only [LiteTag.macA, macBlocks, chain_eq_cbcLast, h1, h2, hdrop, htake, word_revHalves_0 _ hrc]
  simp

theorem macA_block (C : Cipher) (hC : BlockCipher C) (key rc wb : Bytes) (block : Nat) (data : Bytes)
    (hk : key.length = 16) (hrc : rc.length = 16) (hrcB : IsBytes rc) (hw : IsBytes wb) (hwl : wb.length = 16)
    (hb : block ≤ 255) (hdB : IsBytes data) :
    Block (LiteTag.macA C ⟨revHalves key, revHalves rc, wb⟩ block data) := by
  obtain ⟨sk, hsk, _⟩ := sessionKey_ok C hC key rc hrc hrcB
  rw [tag_macA_eq C hC key rc wb sk block data hk hrc hrcB hsk]
  refine macBlocks_block C hC _ _ _ (block_take8 hrc hrcB) (fun g hg => ?_) (by simp)
  rcases List.mem_append.mp hg with h | h
  · -- the header word: three octets of the counter, then 00, block number, 00, 91h, 00
    rw [List.mem_singleton.mp h]
    refine ⟨by simp [hwl], isBytes_append (isBytes_take hw 3) ?_⟩
    intro v hv
    simp only [List.mem_cons, List.not_mem_nil, or_false] at hv
    rcases hv with rfl | rfl | rfl | rfl | rfl <;> omega
  · exact chunks8_blocks data hdB g h

theorem writeWithMacCmd_tag (C : Cipher) (hC : BlockCipher C) (idm key rc wblock data : Bytes) (block : Nat) (sk : Bytes)
    (hidm : idm.length = 8) (hk : key.length = 16) (hrc : rc.length = 16) (hrcB : IsBytes rc)
    (hsk : sessionKey C key rc = .ok sk) (hw : wblock.length = 16) (hd : data.length = 16) (hb : block ≤ 255) :
    writeWithMacCmd C idm (some ⟨sk, rc.take 8⟩) data block (rspFrame idm 6 ([1] ++ wblock))
      = writeCmd idm [block, 0x91]
          (data ++ (LiteTag.macA C ⟨revHalves key, revHalves rc, wblock⟩ block data ++ wblock.take 3 ++ zeros 5)) := by
  obtain ⟨sk', hsk', hskl, _⟩ := sessionKey_ok C hC key rc hrc hrcB
  cases hsk.symm.trans hsk'
  obtain ⟨c0, hc0⟩ := readCmd_ok idm [0x90] hidm (by simp)
  have hr := readRsp_frame idm wblock [0x90] 1 hidm (by simp [hw])
  have hhead : (wblock.take 3 ++ [0, block, 0, 0x91, 0]).length = 8 := by simp [hw]
  have hg := generateMac_ok C (wblock.take 3 ++ [0, block, 0, 0x91, 0] ++ data) (sk.drop 8 ++ sk.take 8) (rc.take 8) false
    (by simp [hw, hd]) (by simp [hskl]) (block_take8 hrc hrcB).1
  rw [chunks8_append _ data (by rw [hhead]), chunks8_block _ hhead] at hg
  have hslice : sliceN (wblock.take 3 ++ [0, block, 0, 0x91, 0] ++ data) 8 24 = data := by
    unfold sliceN
    rw [List.drop_append_of_le_length (by omega), List.drop_of_length_le (by omega), List.nil_append,
      List.take_of_length_le (by simp [hd])]
  simp only [writeWithMacCmd, hd, ne_eq, not_true_eq_false, if_false, hc0, hr, Py.bind_ok, show ¬ block > 255 by omega, hg,
    Bool.false_eq_true, hslice, tag_macA_eq C hC key rc wblock sk block data hk hrc hrcB hsk]

end NfcVerif.Auth
