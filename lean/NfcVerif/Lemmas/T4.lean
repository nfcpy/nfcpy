import NfcVerif.Model.T4
import NfcVerif.Lemmas.T34Base
/-!
Type 4 Tag, UPDATE BINARY side: a list of commands the card accepts is the pure fold `applyU` (`runU_ok`); the chunk loop
of `planWrite` writes its buffer as one splice (`applyU_chunk`) and starts with the first `MLc` octets (`chunk_head`).
-/
namespace NfcVerif.T4
open NfcVerif.T34

theorem runU_cons_ok {c : Card} {f f' : Bytes} {u : UCmd} (us : List UCmd) (h : sendU c f u = .ok f') :
    runU c f (u :: us) = ⟨u :: (runU c f' us).sent, (runU c f' us).file, (runU c f' us).res⟩ := by
  simp [runU, h]

theorem sendU_splice {c : Card} {f f' : Bytes} {u : UCmd} (h : sendU c f u = .ok f') : f' = splice f u.off u.data := by
  unfold sendU at h
  repeat (split at h; · simp at h)
  simp at h; exact h.symm

@[simp] theorem applyU_cons (f : Bytes) (u : UCmd) (us : List UCmd) :
    applyU f (u :: us) = applyU (splice f u.off u.data) us := rfl

theorem applyU_append (f : Bytes) (xs ys : List UCmd) : applyU f (xs ++ ys) = applyU (applyU f xs) ys :=
  List.foldl_append

theorem sendU_ok (c : Card) (f : Bytes) (u : UCmd) (h1 : u.off ≤ 65535) (h2 : 1 ≤ u.data.length ∧ u.data.length ≤ 255)
    (h3 : u.data.length ≤ c.mlc) (h4 : u.off + u.data.length ≤ f.length) : sendU c f u = .ok (splice f u.off u.data) := by
  unfold sendU
  rw [if_neg (by omega), if_neg (by omega), if_neg (by omega), if_neg (by omega), if_neg (by omega)]

theorem runU_ok (c : Card) (lc n : Nat) (hlc : lc ≤ 255 ∧ lc ≤ c.mlc) (hn : n ≤ 65536) (us : List UCmd) :
    ∀ f : Bytes, n ≤ f.length → (∀ u ∈ us, 1 ≤ u.data.length ∧ u.data.length ≤ lc ∧ u.off + u.data.length ≤ n) →
      runU c f us = ⟨us, applyU f us, .ok ()⟩ := by
  induction us with
  | nil => intro f _ _; rfl
  | cons u us ih =>
    intro f hf h
    have hu := h u List.mem_cons_self
    rw [runU_cons_ok us (sendU_ok c f u (by omega) (by omega) (by omega) (by omega)),
      ih _ (by rw [splice_length _ _ _ (by omega)]; exact hf) (fun u' hu' => h u' (List.mem_cons_of_mem _ hu'))]
    rfl

theorem chunk_mem (lc : Nat) (buf : Bytes) (hlc : 1 ≤ lc) : ∀ fuel off, ∀ u ∈ chunkCmds lc buf fuel off,
    off ≤ u.off ∧ 1 ≤ u.data.length ∧ u.data.length ≤ lc ∧ u.off + u.data.length ≤ buf.length := by
  intro fuel
  induction fuel with
  | zero => intro off u hu; simp [chunkCmds] at hu
  | succ fuel ih =>
    intro off u hu
    unfold chunkCmds at hu
    split at hu
    · simp at hu
    · rcases List.mem_cons.mp hu with rfl | hu
      · dsimp only; rw [length_sliceN]; omega
      · have := ih _ u hu; omega

/-- the chunk loop over `buf` from `off` writes `buf[off:]` at `off` -/
theorem applyU_chunk (lc : Nat) (buf : Bytes) (hlc : 1 ≤ lc) :
    ∀ fuel off f, buf.length < fuel + off → buf.length ≤ f.length →
      applyU f (chunkCmds lc buf fuel off) = splice f off (buf.drop off) := by
  have hend : ∀ off f, buf.length ≤ off → f = splice f off (buf.drop off) := fun off f h => by
    rw [List.drop_of_length_le h, splice_nil]
  intro fuel
  induction fuel with
  | zero => intro off f h _; exact hend off f (by omega)
  | succ fuel ih =>
    intro off f hf hbl
    unfold chunkCmds
    split
    · exact hend off f (by omega)
    · rw [applyU_cons]
      dsimp only
      rw [ih _ _ (by omega) (by rw [splice_length _ _ _ (by rw [length_sliceN]; omega)]; exact hbl), ← sliceN_min]
      exact splice_chunk f buf off off _ (by omega) (by omega)

/-- a buffer that fits one UPDATE BINARY is written by exactly one command -/
theorem chunk_single (lc : Nat) (buf : Bytes) (h : buf.length ≤ lc) (hne : 0 < buf.length) (fuel : Nat) (hf : 1 < fuel) :
    chunkCmds lc buf fuel 0 = [⟨0, buf⟩] := by
  obtain ⟨f2, rfl⟩ : ∃ f2, fuel = f2 + 2 := ⟨fuel - 2, by omega⟩
  unfold chunkCmds
  rw [if_neg (by omega)]
  unfold chunkCmds
  rw [if_pos (by omega)]
  simp only [Nat.zero_add]
  rw [sliceN_to_end _ _ _ h]; simp

theorem chunk_head (lc : Nat) (buf : Bytes) (hne : 0 < buf.length) (fuel : Nat) :
    chunkCmds lc buf (fuel + 1) 0 = ⟨0, buf.take lc⟩ :: chunkCmds lc buf fuel (min lc buf.length) := by
  rw [chunkCmds]
  rw [if_neg (by omega)]
  simp [sliceN]

end NfcVerif.T4
