import NfcVerif.Model.ErrMap
import NfcVerif.Lemmas.HostFrame
/-!
# Which exceptions leave the drivers' exchange functions (C13)

`Safe S x`: what `x` raises lies in `S`.  `CmdDoc` is what a host command may raise, `Mid` (`Mid2`
for the RC-S380) what is in flight inside an exchange function before the `except` ladders translate
it, `Documented` what the caller of `exchange()` may see.  Each chipset function keeps `Mid`, given
that the payload of an accepted response has the shape the manual specifies (`RegShape`, `WrShape`,
`FifoShape`, `RcsOk`); the handlers turn `Mid` into `Documented`.
-/
namespace NfcVerif.ErrMap
open HostFrame

/-- what an application may see from `exchange()` -/
def Documented (e : Exc) : Prop :=
  e = .timeout ∨ e = .transmission ∨ e = .brokenLink ∨ e = .protocol ∨ ∃ n, e = .io n

/-- what `Chipset.command` may raise: `IOError` or the error-frame `Chipset.Error(0x7F)` -/
def CmdDoc (e : Exc) : Prop := (∃ n, e = .io n) ∨ e = .chipsetError 0x7F

/-- inside the driver: documented, or a `Chipset.Error` still to be translated -/
def Mid (e : Exc) : Prop := Documented e ∨ ∃ n, e = .chipsetError n

theorem Documented.mid {e : Exc} (h : Documented e) : Mid e := Or.inl h
theorem CmdDoc.mid {e : Exc} (h : CmdDoc e) : Mid e := by
  rcases h with ⟨n, rfl⟩ | rfl
  · exact Or.inl (Or.inr (Or.inr (Or.inr (Or.inr ⟨n, rfl⟩))))
  · exact Or.inr ⟨_, rfl⟩

theorem doc_io (n : Nat) : Documented (.io n) := Or.inr (Or.inr (Or.inr (Or.inr ⟨n, rfl⟩)))
theorem doc_timeout : Documented .timeout := Or.inl rfl
theorem doc_transmission : Documented .transmission := Or.inr (Or.inl rfl)
theorem doc_brokenLink : Documented .brokenLink := Or.inr (Or.inr (Or.inl rfl))
theorem mid_chip (n : Nat) : Mid (.chipsetError n) := Or.inr ⟨n, rfl⟩

theorem pnAccept_cmdDoc (cmd : Nat) (f : Bytes) : Safe CmdDoc (pnAccept cmd f) :=
  (pn_accept_doc cmd f).mono (by
    intro e h
    rcases h with rfl | rfl
    · exact Or.inl ⟨5, rfl⟩
    · exact Or.inr rfl)

theorem pnAwait_doc (cmd : Nat) (evs : List Ev) : Safe CmdDoc (pnAwait cmd evs) := by
  induction evs with
  | nil => exact Safe.throw' (Or.inl ⟨_, rfl⟩)
  | cons ev rest ih =>
    cases ev with
    | raise e => exact Safe.throw' (Or.inl ⟨_, rfl⟩)
    | good p => exact Safe.pure _
    | frame g =>
      unfold pnAwait
      exact Safe.ite ih (pnAccept_cmdDoc cmd g)

theorem pnCommand_doc (cmd : Nat) (h : Host) : Safe CmdDoc (pnCommand cmd h) := by
  have hio : CmdDoc eio := Or.inl ⟨5, rfl⟩
  unfold pnCommand
  cases h.wr with
  | raise e => exact Safe.throw' hio
  | _ =>
    cases h.reads with
    | nil => exact Safe.throw' hio
    | cons ev rest =>
      cases ev with
      | raise e => exact Safe.throw' hio
      | good p => exact Safe.pure _
      | frame f => exact Safe.ite (Safe.throw' hio) (Safe.ite (pnAwait_doc cmd rest) (pnAccept_cmdDoc cmd f))

theorem acrCommand_doc (cmd : Nat) (h : Host) : Safe CmdDoc (acrCommand cmd h) := by
  have hacc : ∀ f, Safe CmdDoc (acrAccept cmd f) := fun f =>
    (acr_accept_doc cmd f).mono (by intro e h; subst h; exact Or.inl ⟨5, rfl⟩)
  unfold acrCommand
  cases h.wr with
  | raise e => exact Safe.throw' (Or.inl ⟨_, rfl⟩)
  | _ =>
    cases h.reads with
    | nil => exact Safe.throw' (Or.inl ⟨_, rfl⟩)
    | cons ev rest =>
      cases ev with
      | raise e => exact Safe.throw' (Or.inl ⟨_, rfl⟩)
      | good p => exact Safe.pure _
      | frame f => exact hacc f

theorem chipCommand_doc (d : Drv) (cmd : Nat) (h : Host) : Safe CmdDoc (chipCommand d cmd h) := by
  unfold chipCommand
  cases d with
  | acr122 => exact acrCommand_doc cmd h
  | _ => exact pnCommand_doc cmd h

/-! ## payload shapes: a well-formed response carries the octets the manual specifies -/

/-- ReadRegister response for `n` registers (PN533: status octet first) -/
def RegShape (fam : Fam) (n : Nat) (p : Bytes) : Prop :=
  match fam with
  | .pn533 => p.length = n + 1
  | _ => p.length = n

/-- WriteRegister response (PN533: one status octet) -/
def WrShape (fam : Fam) (p : Bytes) : Prop :=
  match fam with
  | .pn533 => p ≠ []
  | _ => True

theorem chipErr_cons {α} (a : Nat) (t : Bytes) : (chipErr (a :: t) : Py α) = .error (.chipsetError a) := rfl

theorem chipErr_mid {α} (d : Bytes) (h : d ≠ []) : Safe Mid (chipErr d : Py α) := by
  cases d with
  | nil => exact absurd rfl h
  | cons a t => rw [chipErr_cons]; exact Safe.throw (mid_chip a)

/-- `Q` speaks of the number of register octets handed to `regResult`; `hq` is what `RegShape` and `FifoShape` give -/
theorem readRegister_mid {β} (fam : Fam) (Q : Nat → Prop) (r : Py Bytes) (hr : Safe CmdDoc r)
    (hq : ∀ p, r = .ok p → match fam with | .pn533 => 0 < p.length ∧ Q (p.length - 1) | _ => Q p.length)
    (k : RegVal → Py β) (hk : ∀ regs, Q regs.length → Safe Mid (regResult regs >>= k)) :
    Safe Mid (readRegister fam r >>= k) := by
  cases r with
  | error e => intro e' h; cases h; exact (hr e rfl).mid
  | ok p =>
    have hp := hq p rfl
    cases fam
    case pn533 =>
      match p, hp with
      | s :: regs, ⟨_, hregs⟩ =>
        by_cases h0 : s = 0
        · subst h0; exact hk regs hregs
        · simp [readRegister, h0, chipErr_cons]; exact Safe.throw (mid_chip s)
    all_goals exact hk p hp

theorem RegShape.lengths {fam : Fam} {n : Nat} {p : Bytes} :
    RegShape fam n p → match fam with | .pn533 => 0 < p.length ∧ p.length - 1 = n | _ => p.length = n := by
  intro sh
  cases fam
  case pn533 =>
    have sh : p.length = n + 1 := sh
    exact ⟨by omega, by omega⟩
  all_goals exact sh

theorem read3_mid (fam : Fam) (r : Py Bytes) (hr : Safe CmdDoc r)
    (hs : ∀ p, r = .ok p → RegShape fam 3 p) : Safe Mid (readRegister fam r >>= unpack3) :=
  readRegister_mid fam (· = 3) r hr (fun p hp => (hs p hp).lengths) unpack3 (fun regs hl => by
    match regs, hl with
    | [a, b, c], _ => exact Safe.ok ())

theorem write_mid (fam : Fam) (r : Py Bytes) (hr : Safe CmdDoc r)
    (hs : ∀ p, r = .ok p → WrShape fam p) : Safe Mid (writeRegister fam r) := by
  cases r with
  | error e => intro e' h; cases h; exact (hr e rfl).mid
  | ok p =>
    have sh := hs p rfl
    cases fam <;> simp only [WrShape] at sh
    case pn533 =>
      cases p with
      | nil => exact absurd rfl sh
      | cons s t =>
        simp only [writeRegister, Py.bind_ok, idxN_cons_zero]
        exact Safe.ite (chipErr_mid _ (List.cons_ne_nil s t)) (Safe.pure _)
    case rcs956 =>
      simp only [writeRegister, Py.bind_ok]
      exact Safe.ite (Safe.throw' (mid_chip _)) (Safe.pure _)
    all_goals (simp [writeRegister]; exact Safe.ok _)

theorem rfcfg_mid (r : Py Bytes) (hr : Safe CmdDoc r) : Safe Mid (rfConfiguration r) := by
  cases r with
  | error e => intro e' h; cases h; exact (hr e rfl).mid
  | ok p => simp [rfConfiguration]; exact Safe.ok _

theorem inCommunicateThru_status (s : Nat) (rest : Bytes) (h : s ≠ 0) :
    inCommunicateThru (.ok (s :: rest)) = .error (.chipsetError s) := by
  simp only [inCommunicateThru, Py.bind_ok]
  split
  · rename_i heq; cases heq; exact absurd rfl h
  · exact chipErr_cons s rest

theorem inCommunicateThru_zero (rest : Bytes) : inCommunicateThru (.ok (0 :: rest)) = .ok rest := rfl

theorem thru_mid (r : Py Bytes) (hr : Safe CmdDoc r) (hs : ∀ p, r = .ok p → p ≠ []) :
    Safe Mid (inCommunicateThru r) := by
  cases r with
  | error e => intro e' h; cases h; exact (hr e rfl).mid
  | ok p =>
    cases p with
    | nil => exact absurd rfl (hs [] rfl)
    | cons s t =>
      by_cases h0 : s = 0
      · subst h0; rw [inCommunicateThru_zero]; exact Safe.ok _
      · rw [inCommunicateThru_status s t h0]; exact Safe.throw (mid_chip s)

theorem dataex_mid (r : Py Bytes) (hr : Safe CmdDoc r) (hs : ∀ p, r = .ok p → p ≠ []) :
    Safe Mid (inDataExchange r) := by
  cases r with
  | error e => intro e' h; cases h; exact (hr e rfl).mid
  | ok p =>
    cases p with
    | nil => exact absurd rfl (hs [] rfl)
    | cons s t =>
      simp only [inDataExchange, Py.bind_ok, idxN_cons_zero]
      exact Safe.ite (Safe.throw' (mid_chip _)) (Safe.pure _)

theorem tgresp_mid (r : Py Bytes) (hr : Safe CmdDoc r) (hs : ∀ p, r = .ok p → p ≠ []) :
    Safe Mid (tgResponseToInitiator r) := by
  cases r with
  | error e => intro e' h; cases h; exact (hr e rfl).mid
  | ok p =>
    cases p with
    | nil => exact absurd rfl (hs [] rfl)
    | cons s t =>
      simp only [tgResponseToInitiator, Py.bind_ok, idxN_cons_zero]
      exact Safe.ite (chipErr_mid _ (by simp)) (Safe.pure _)

theorem checkCrcA_ok (d : Bytes) (h : d.length > 2) : ∃ b, checkCrcA d = .ok b := by
  unfold checkCrcA Crc.checkCrcA
  have : ¬ (List.map (BitVec.ofNat 8) d).length < 2 := by simp; omega
  simp only [this, if_false]
  exact ⟨_, rfl⟩

theorem tt2Crc_doc (d : Bytes) : Safe Documented (tt2Crc d) := by
  unfold tt2Crc
  split
  · rename_i h
    obtain ⟨b, hb⟩ := checkCrcA_ok d h
    rw [hb]
    simp only [Py.bind_ok]
    exact Safe.ite (Safe.pure _) (Safe.throw' doc_transmission)
  · exact Safe.pure _

theorem tt2Crc_mid (d : Bytes) : Safe Mid (tt2Crc d) := (tt2Crc_doc d).mono fun _ => Documented.mid

/-- the two `except` ladders differ only in what a `Chipset.Error` becomes -/
theorem pnMap_doc {α : Type} (x : Py α) (h : Safe Mid x) : Safe Documented (pnMapI x) ∧ Safe Documented (pnMapT x) := by
  cases x with
  | ok a => exact ⟨Safe.ok a, Safe.ok a⟩
  | error e0 =>
    have io : ∀ n, Safe Documented (if n = ETIMEDOUT then .error .timeout else .error (.io n) : Py α) :=
      fun n => Safe.ite (Safe.throw doc_timeout) (Safe.throw (doc_io n))
    rcases h e0 rfl with hd | ⟨n, rfl⟩
    · rcases hd with rfl | rfl | rfl | rfl | ⟨n, rfl⟩
      · exact ⟨Safe.throw doc_timeout, Safe.throw doc_timeout⟩
      · exact ⟨Safe.throw doc_transmission, Safe.throw doc_transmission⟩
      · exact ⟨Safe.throw doc_brokenLink, Safe.throw doc_brokenLink⟩
      · exact ⟨Safe.throw (Or.inr (Or.inr (Or.inr (Or.inl rfl)))), Safe.throw (Or.inr (Or.inr (Or.inr (Or.inl rfl))))⟩
      · exact ⟨io n, io n⟩
    · exact ⟨Safe.ite (Safe.throw doc_timeout) (Safe.throw doc_transmission),
        Safe.ite (Safe.throw doc_brokenLink) (Safe.throw doc_transmission)⟩

theorem pnMapI_doc {α : Type} (x : Py α) (h : Safe Mid x) : Safe Documented (pnMapI x) := (pnMap_doc x h).1
theorem pnMapT_doc {α : Type} (x : Py α) (h : Safe Mid x) : Safe Documented (pnMapT x) := (pnMap_doc x h).2

theorem guardChip_doc {α} (x : Py α) (h : Safe Mid x) : Safe Documented (guardChip .repaired x) := by
  intro e he
  cases x with
  | ok a => simp [guardChip] at he
  | error e0 =>
    have h0 := h e0 rfl
    rcases h0 with hd | ⟨n, rfl⟩
    · have : guardChip .repaired (.error e0 : Py α) = .error e0 := by
        rcases hd with rfl | rfl | rfl | rfl | ⟨n, rfl⟩ <;> rfl
      rw [this] at he; cases he; exact hd
    · simp [guardChip] at he; subst he; exact doc_io 5

theorem pnSendCmdRecvRsp_doc (fam : Fam) (path : IPath) (r : Nat → Py Bytes)
    (hr : ∀ i, Safe CmdDoc (r i))
    (h0 : ∀ p, r 0 = .ok p → RegShape fam 3 p)
    (h1 : ∀ p, r 1 = .ok p → WrShape fam p)
    (h3 : ∀ p, r 3 = .ok p → p ≠ []) :
    Safe Documented (pnSendCmdRecvRsp .repaired fam path r) := by
  unfold pnSendCmdRecvRsp
  apply guardChip_doc
  have hprep : Safe Mid (pnPrep fam r) := by
    unfold pnPrep
    exact Safe.bind' (read3_mid fam (r 0) (hr 0) h0)
      (fun _ => Safe.bind' (write_mid fam (r 1) (hr 1) h1) (fun _ => rfcfg_mid (r 2) (hr 2)))
  have hbody : Safe Mid (pnBodyI path r) := by
    unfold pnBodyI
    cases path
    · exact dataex_mid (r 3) (hr 3) h3
    · exact Safe.bind' (thru_mid (r 3) (hr 3) h3) (fun d => tt2Crc_mid d)
    · exact thru_mid (r 3) (hr 3) h3
  exact Safe.bind' hprep (fun _ => (pnMapI_doc _ hbody).mono (fun _ h => h.mid))

theorem pnTgOther_doc (hasData : Bool) (r : Nat → Py Bytes)
    (hr : ∀ i, Safe CmdDoc (r i))
    (hs : ∀ i, i < 2 → ∀ p, r i = .ok p → p ≠ []) :
    Safe Documented (pnTgOther hasData r) := by
  unfold pnTgOther
  apply pnMapT_doc
  refine Safe.bind' ?_ (fun _ => thru_mid _ (hr _) (hs _ (by cases hasData <;> simp)))
  cases hasData
  · exact Safe.pure _
  · exact tgresp_mid (r 0) (hr 0) (hs 0 (by omega))

/-- FIFO data read: at least one data octet besides the first -/
def FifoShape (fam : Fam) (p : Bytes) : Prop :=
  match fam with
  | .pn533 => p.length ≥ 3
  | _ => p.length ≥ 2

theorem poll_mid (fam : Fam) (r : Py Bytes) (hr : Safe CmdDoc r)
    (hs : ∀ p, r = .ok p → RegShape fam 2 p) : Safe Mid (readRegister fam r >>= unpack2) :=
  readRegister_mid fam (· = 2) r hr (fun p hp => (hs p hp).lengths) unpack2 (fun regs hl => by
    match regs, hl with
    | [a, b], _ => exact Safe.ok (a, b))

theorem FifoShape.lengths {fam : Fam} {p : Bytes} :
    FifoShape fam p → match fam with | .pn533 => 0 < p.length ∧ p.length - 1 ≥ 2 | _ => p.length ≥ 2 := by
  intro sh
  cases fam
  case pn533 =>
    have sh : p.length ≥ 3 := sh
    exact ⟨by omega, by omega⟩
  all_goals exact sh

theorem fifoData_mid (fam : Fam) (rd : Py Bytes) (hd : Safe CmdDoc rd)
    (sd : ∀ p, rd = .ok p → FifoShape fam p) : Safe Mid (fifoData fam rd) :=
  readRegister_mid fam (· ≥ 2) rd hd (fun p hp => (sd p hp).lengths) _ (fun regs hl => by
    match regs, hl with
    | a :: b :: t, _ =>
      have : regResult (a :: b :: t) = .ok (.many (a :: b :: t)) := by simp [regResult]
      rw [this]
      simp only [Py.bind_ok, idxN_cons_zero]
      exact Safe.ite (Safe.throw' doc_transmission.mid) (Safe.pure _))

theorem fifoRead_mid (fam : Fam) (rl rd : Py Bytes) (hl : Safe CmdDoc rl) (hd : Safe CmdDoc rd)
    (sl : ∀ p, rl = .ok p → RegShape fam 1 p) (sd : ∀ p, rd = .ok p → FifoShape fam p) :
    Safe Mid (fifoRead fam rl rd) :=
  readRegister_mid fam (· = 1) rl hl (fun p hp => (sl p hp).lengths) _ (fun regs hl => by
    match regs, hl with
    | [a], _ => exact fifoData_mid fam rd hd sd)

theorem tt3Poll_mid (fam : Fam) (r : Nat → Py Bytes) (polls : List (Py Bytes))
    (hr : ∀ i, Safe CmdDoc (r i)) (hp : ∀ x ∈ polls, Safe CmdDoc x)
    (sp : ∀ x ∈ polls, ∀ p, x = .ok p → RegShape fam 2 p)
    (s2 : ∀ p, r 2 = .ok p → WrShape fam p)
    (s3 : ∀ p, r 3 = .ok p → RegShape fam 1 p)
    (s4 : ∀ p, r 4 = .ok p → FifoShape fam p) :
    Safe Mid (tt3Poll fam r polls) := by
  induction polls with
  | nil => exact Safe.throw' doc_timeout.mid
  | cons x later ih =>
    unfold tt3Poll
    refine Safe.bind' (poll_mid fam x (hp x (by simp)) (sp x (by simp))) (fun irq => ?_)
    refine Safe.ite (Safe.throw' doc_brokenLink.mid) (Safe.ite ?_ ?_)
    · exact Safe.bind' (write_mid fam (r 2) (hr 2) s2)
        (fun _ => fifoRead_mid fam (r 3) (r 4) (hr 3) (hr 4) s3 s4)
    · exact ih (fun y hy => hp y (by simp [hy])) (fun y hy => sp y (by simp [hy]))

theorem pnTgTt3_doc (fam : Fam) (r : Nat → Py Bytes) (polls : List (Py Bytes))
    (hr : ∀ i, Safe CmdDoc (r i)) (hp : ∀ x ∈ polls, Safe CmdDoc x)
    (sp : ∀ x ∈ polls, ∀ p, x = .ok p → RegShape fam 2 p)
    (s0 : ∀ p, r 0 = .ok p → WrShape fam p)
    (s2 : ∀ p, r 2 = .ok p → WrShape fam p)
    (s3 : ∀ p, r 3 = .ok p → RegShape fam 1 p)
    (s4 : ∀ p, r 4 = .ok p → FifoShape fam p) :
    Safe Documented (pnTgTt3 .repaired fam r polls) := by
  unfold pnTgTt3
  apply guardChip_doc
  exact Safe.bind' (write_mid fam (r 0) (hr 0) s0) (fun _ => tt3Poll_mid fam r polls hr hp sp s2 s3 s4)

theorem udpParse_doc (brty dg : Bytes) : Safe Documented (udpParse .repaired brty dg) := by
  intro e he
  unfold udpParse at he
  split at he
  · cases he; exact doc_brokenLink
  · split at he
    · split at he
      · cases he; exact doc_transmission
      · split at he
        · cases he; exact doc_transmission
        · split at he <;> cases he
    · cases he; exact doc_transmission

theorem udpRecv_doc (brty : Bytes) (evs : List Ev) : Safe Documented (udpRecv .repaired brty evs) := by
  induction evs with
  | nil => exact Safe.throw' doc_timeout
  | cons ev rest ih =>
    cases ev with
    | raise n => exact Safe.throw' (doc_io n)
    | good p => exact Safe.pure _
    | frame dg =>
      unfold udpRecv
      refine Safe.bind' (udpParse_doc brty dg) (fun o => ?_)
      cases o with
      | none => exact ih
      | some d => exact Safe.pure _

theorem udpExchange_doc (brty : Bytes) (hasData : Bool) (send recv : Host) :
    Safe Documented (udpExchange .repaired brty hasData send recv) := by
  unfold udpExchange
  refine Safe.bind' ?_ (fun _ => udpRecv_doc brty recv.reads)
  cases hasData
  · exact Safe.pure _
  · simp only [if_true]
    cases send.wr with
    | ok => exact Safe.pure _
    | raise n => exact Safe.throw' (doc_io n)
    | short => exact Safe.throw' doc_transmission

/-! ## RC-S380 (partial: host commands that complete or fail with a transport error) -/

/-- a host command either failed with a transport `IOError` or delivered a
response of at least `n` octets -/
def RcsOk (n : Nat) (x : Py (Option Bytes)) : Prop :=
  (∃ e, x = .error (.io e)) ∨ (∃ p, x = .ok (some p) ∧ n ≤ p.length)

/-- documented, or a `StatusError` still to be translated -/
def Mid2 (e : Exc) : Prop := Documented e ∨ e = .rcsStatus

theorem statusCheck_mid2 (x : Py (Option Bytes)) (h : RcsOk 0 x) : Safe Mid2 (statusCheck x) := by
  rcases h with ⟨n, rfl⟩ | ⟨p, rfl, _⟩
  · exact Safe.throw (Or.inl (doc_io n))
  · cases p with
    | nil => simp [statusCheck]; exact Safe.ok _
    | cons s t =>
      simp only [statusCheck, Py.bind_ok]
      exact Safe.ite (Safe.throw' (Or.inr rfl)) (Safe.pure _)

theorem guardStatus_doc {α} (x : Py α) (h : Safe Mid2 x) : Safe Documented (guardStatus .repaired x) := by
  intro e he
  cases x with
  | ok a => simp [guardStatus] at he
  | error e0 =>
    rcases h e0 rfl with hd | rfl
    · have : guardStatus .repaired (.error e0 : Py α) = .error e0 := by
        rcases hd with rfl | rfl | rfl | rfl | ⟨n, rfl⟩ <;> rfl
      rw [this] at he; cases he; exact hd
    · simp [guardStatus] at he; subst he; exact doc_io 5

@[simp] theorem RPy.bind_ok {α β} (a : α) (f : α → RPy β) : ((Except.ok a : RPy α) >>= f) = f a := rfl
@[simp] theorem RPy.bind_error {α β} (e : RErr) (f : α → RPy β) :
    ((Except.error e : RPy α) >>= f) = .error e := rfl

theorem inCommRf_status (a b c d : Nat) (t : Bytes) (hz : [a, b, c, d] ≠ [0, 0, 0, 0]) :
    inCommRf (.ok (some (a :: b :: c :: d :: t))) = .error (.comm (a + 256 * b + 65536 * c + 16777216 * d)) := by
  have hs : sliceN (a :: b :: c :: d :: t) 0 4 = [a, b, c, d] := by simp [sliceN]
  simp only [inCommRf, liftR, RPy.bind_ok, hs, ne_eq, hz, not_false_eq_true, if_true, unpackLeL]
  rfl

theorem inCommRf_cases (x : Py (Option Bytes)) (h : RcsOk 4 x) :
    (∃ n, inCommRf x = .error (.py (.io n))) ∨ (∃ st, inCommRf x = .error (.comm st)) ∨
    (∃ d, inCommRf x = .ok (some d)) := by
  rcases h with ⟨n, rfl⟩ | ⟨p, rfl, hp⟩
  · exact Or.inl ⟨n, rfl⟩
  · match p, hp with
    | a :: b :: c :: d :: t, _ =>
      by_cases hz : [a, b, c, d] = [0, 0, 0, 0]
      · cases hz; exact Or.inr (Or.inr ⟨_, rfl⟩)
      · exact Or.inr (Or.inl ⟨_, inCommRf_status a b c d t hz⟩)

theorem tgCommRf_status (x0 x1 x2 a b c d : Nat) (t : Bytes) (hz : [a, b, c, d] ≠ [0, 0, 0, 0]) :
    tgCommRf (.ok (some (x0 :: x1 :: x2 :: a :: b :: c :: d :: t))) =
      .error (.comm (a + 256 * b + 65536 * c + 16777216 * d)) := by
  have hs : sliceN (x0 :: x1 :: x2 :: a :: b :: c :: d :: t) 3 7 = [a, b, c, d] := by simp [sliceN]
  simp only [tgCommRf, liftR, RPy.bind_ok, hs, ne_eq, hz, not_false_eq_true, if_true, unpackLeL]
  rfl

theorem tgCommRf_cases (x : Py (Option Bytes)) (h : RcsOk 7 x) :
    (∃ n, tgCommRf x = .error (.py (.io n))) ∨ (∃ st, tgCommRf x = .error (.comm st)) ∨
    (∃ d, tgCommRf x = .ok (some d)) := by
  rcases h with ⟨n, rfl⟩ | ⟨p, rfl, hp⟩
  · exact Or.inl ⟨n, rfl⟩
  · match p, hp with
    | x0 :: x1 :: x2 :: a :: b :: c :: d :: t, _ =>
      by_cases hz : [a, b, c, d] = [0, 0, 0, 0]
      · cases hz; exact Or.inr (Or.inr ⟨_, rfl⟩)
      · exact Or.inr (Or.inl ⟨_, tgCommRf_status x0 x1 x2 a b c d t hz⟩)

theorem rcsMapI_mid2 {α} (x : RPy α) (h : ∀ e, x = .error (.py e) → Mid2 e) : Safe Mid2 (rcsMapI x) := by
  intro e he
  match x, h with
  | .ok a, _ => simp [rcsMapI] at he
  | .error (.comm st), _ =>
    simp only [rcsMapI] at he
    split at he <;> cases he
    · exact Or.inl doc_timeout
    · exact Or.inl doc_transmission
  | .error (.py e0), h => simp [rcsMapI] at he; subst he; exact h e0 rfl

theorem rcsMapT_doc {α} (x : RPy α) (h : ∀ e, x = .error (.py e) → Documented e) :
    Safe Documented (rcsMapT x) := by
  intro e he
  match x, h with
  | .ok a, _ => simp [rcsMapT] at he
  | .error (.comm st), _ =>
    simp only [rcsMapT] at he
    split at he
    · cases he; exact doc_brokenLink
    · split at he <;> cases he
      · exact doc_timeout
      · exact doc_transmission
  | .error (.py e0), h => simp [rcsMapT] at he; subst he; exact h e0 rfl

theorem rcsSendRspRecvCmd_doc (r : Nat → Py (Option Bytes)) (h0 : RcsOk 7 (r 0)) :
    Safe Documented (rcsSendRspRecvCmd r) := by
  unfold rcsSendRspRecvCmd
  apply rcsMapT_doc
  intro e he
  rcases tgCommRf_cases (r 0) h0 with ⟨n, hn⟩ | ⟨st, hst⟩ | ⟨d, hd⟩
  · rw [hn] at he; cases he; exact doc_io n
  · rw [hst] at he; cases he
  · rw [hd] at he; cases he

theorem rcsSendCmdRecvRsp_doc (settings tt2 : Bool) (r : Nat → Py (Option Bytes))
    (h0 : RcsOk 0 (r 0)) (h1 : RcsOk 0 (r 1)) (h2 : RcsOk 0 (r 2))
    (hrf : RcsOk 4 (r (if settings then 3 else 2))) :
    Safe Documented (rcsSendCmdRecvRsp .repaired settings tt2 r) := by
  unfold rcsSendCmdRecvRsp
  apply guardStatus_doc
  refine Safe.bind' (statusCheck_mid2 _ h0) (fun _ => Safe.bind' (statusCheck_mid2 _ h1) (fun _ => ?_))
  apply rcsMapI_mid2
  intro e he
  have hpre : (if settings then liftR (statusCheck (r 2)) else (pure () : RPy Unit)) = .ok () ∨
      ∃ e', (if settings then liftR (statusCheck (r 2)) else (pure () : RPy Unit)) = .error (.py e') ∧ Mid2 e' := by
    cases settings
    · exact Or.inl rfl
    · simp only [if_true]
      have hs := statusCheck_mid2 _ h2
      cases hsc : statusCheck (r 2) with
      | ok u => exact Or.inl rfl
      | error e' => exact Or.inr ⟨e', rfl, hs e' hsc⟩
  rcases hpre with hp | ⟨e', hp, hm⟩
  · rw [hp] at he
    simp only [RPy.bind_ok] at he
    rcases inCommRf_cases _ hrf with ⟨n, hn⟩ | ⟨st, hst⟩ | ⟨d, hd⟩
    · rw [hn] at he; cases he; exact Or.inl (doc_io n)
    · rw [hst] at he; cases he
    · rw [hd] at he
      simp only [RPy.bind_ok] at he
      cases tt2
      · cases he
      · simp only [if_true, rcsTt2] at he
        cases hc : tt2Crc d with
        | ok x => rw [hc] at he; cases he
        | error e2 =>
          have hdoc := tt2Crc_doc d e2 hc
          rw [hc] at he
          cases he
          exact Or.inl hdoc
  · rw [hp] at he; cases he; exact hm

theorem exchange_eq (v : Variant) (c : Cfg) (brty : Bytes) (w : Nat → Host) (polls : List Host) :
    exchange v c brty w polls = driverExchange v c brty w polls := by
  unfold exchange frontendExchange
  cases c.dir <;> rfl

/-- every accepted response of the host commands of this exchange has the layout of the manual -/
def PayloadOK (c : Cfg) (w : Nat → Host) (polls : List Host) : Prop :=
  let r := fun i => chipCommand c.drv (codeAt c i) (w i)
  let fam := famOf c.drv
  match c.dir with
  | .initiator =>
    (∀ p, r 0 = .ok p → RegShape fam 3 p) ∧ (∀ p, r 1 = .ok p → WrShape fam p) ∧ (∀ p, r 3 = .ok p → p ≠ [])
  | .target =>
    if c.tt3 then
      (∀ h ∈ polls, ∀ p, chipCommand c.drv 0x06 h = .ok p → RegShape fam 2 p) ∧
      (∀ p, r 0 = .ok p → WrShape fam p) ∧ (∀ p, r 2 = .ok p → WrShape fam p) ∧
      (∀ p, r 3 = .ok p → RegShape fam 1 p) ∧ (∀ p, r 4 = .ok p → FifoShape fam p)
    else ∀ i, i < 2 → ∀ p, r i = .ok p → p ≠ []

theorem pn_exchange_doc (c : Cfg) (brty : Bytes) (w : Nat → Host) (polls : List Host)
    (h1 : c.drv ≠ .rcs380) (h2 : c.drv ≠ .udp) (hp : PayloadOK c w polls) :
    Safe Documented (driverExchange .repaired c brty w polls) := by
  obtain ⟨drv, dir, path, settings, tt3, hasData⟩ := c
  simp only at h1 h2
  have hr : ∀ i, Safe CmdDoc (chipCommand drv (codeAt ⟨drv, dir, path, settings, tt3, hasData⟩ i) (w i)) :=
    fun i => chipCommand_doc _ _ _
  cases dir
  · -- initiator
    simp only [PayloadOK] at hp
    obtain ⟨s0, s1, s3⟩ := hp
    have key := pnSendCmdRecvRsp_doc (famOf drv) path _ hr s0 s1 s3
    cases drv with
    | rcs380 => exact absurd rfl h1
    | udp => exact absurd rfl h2
    | _ => exact Safe.bind' key (fun _ => Safe.pure _)
  · -- target
    simp only [PayloadOK] at hp
    cases tt3
    · simp only [Bool.false_eq_true, if_false] at hp
      have key := pnTgOther_doc hasData _ hr hp
      cases drv with
      | rcs380 => exact absurd rfl h1
      | udp => exact absurd rfl h2
      | _ => exact Safe.bind' key (fun _ => Safe.pure _)
    · simp only [if_true] at hp
      obtain ⟨sp, s0, s2, s3, s4⟩ := hp
      have key := pnTgTt3_doc (famOf drv) _ (polls.map (chipCommand drv 0x06)) hr
        (by intro x hx; obtain ⟨h, _, rfl⟩ := List.mem_map.mp hx; exact chipCommand_doc _ _ _)
        (by intro x hx p hxp; obtain ⟨h, hh, rfl⟩ := List.mem_map.mp hx; exact sp h hh p hxp)
        s0 s2 s3 s4
      cases drv with
      | rcs380 => exact absurd rfl h1
      | udp => exact absurd rfl h2
      | _ => exact Safe.bind' key (fun _ => Safe.pure _)

theorem udp_exchange_doc (c : Cfg) (brty : Bytes) (w : Nat → Host) (polls : List Host) (h : c.drv = .udp) :
    Safe Documented (driverExchange .repaired c brty w polls) := by
  obtain ⟨drv, dir, path, settings, tt3, hasData⟩ := c
  simp only at h
  subst h
  cases dir <;> exact Safe.bind' (udpExchange_doc brty hasData (w 0) (w 1)) (fun _ => Safe.pure _)

/-- RC-S380: every host command completes with a response of the specified
minimum length or fails with a transport `IOError` -/
def RcsHostOk (c : Cfg) (w : Nat → Host) : Prop :=
  let r := fun i => rcsSend (codeAt c i) (w i)
  match c.dir with
  | .initiator => RcsOk 0 (r 0) ∧ RcsOk 0 (r 1) ∧ RcsOk 0 (r 2) ∧
      RcsOk 4 (r (if (c.settings || c.path == .t2) then 3 else 2))
  | .target => RcsOk 7 (r 0)

theorem rcs_exchange_doc (c : Cfg) (brty : Bytes) (w : Nat → Host) (polls : List Host) (h : c.drv = .rcs380)
    (hh : RcsHostOk c w) : Safe Documented (driverExchange .repaired c brty w polls) := by
  obtain ⟨drv, dir, path, settings, tt3, hasData⟩ := c
  simp only at h
  subst h
  cases dir
  · simp only [RcsHostOk] at hh
    obtain ⟨h0, h1, h2, h3⟩ := hh
    exact rcsSendCmdRecvRsp_doc (settings || path == .t2) (path == .t2)
      (fun i => rcsSend (codeAt ⟨.rcs380, .initiator, path, settings, tt3, hasData⟩ i) (w i)) h0 h1 h2 h3
  · simp only [RcsHostOk] at hh
    exact rcsSendRspRecvCmd_doc
      (fun i => rcsSend (codeAt ⟨.rcs380, .target, path, settings, tt3, hasData⟩ i) (w i)) hh

end NfcVerif.ErrMap
