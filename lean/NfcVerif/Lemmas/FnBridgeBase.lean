import NfcVerif.PyFn
import NfcVerif.Lemmas.PyPrims
/-!
Lemmas about the prelude `PyFn.lean` used by the bridge theorems `Props/FnBridge*.lean`: on casts of naturals the Python
integer operators are the `Nat` operators, and byte-string reads, slices, `range` and the `struct` reads are `List`
functions (`at0`, `beNat`), with a test on naturals where Python can raise.  Of the operations that can raise on their
argument, `getB`, `mkBytes`, `packField` and `pack` are unfolded in one lemma each, for all arguments (`getB_idx`,
`mkBytes_cons_int`, `packField_eq`, `pack_cons`); their other forms, among them those on cast naturals, are derived
from that lemma.  `py_nat` is the `simp only` set that applies all of this.  Facts about the primitives of `Py.lean`
itself (`idx`, `idxN`, `slice`, `IsBytes`) are in `Lemmas/PyPrims.lean`.
-/
namespace NfcVerif.PyFn
open NfcVerif

theorem band_ofNat (a b : Nat) : band (a : Int) (b : Int) = ((a &&& b : Nat) : Int) := rfl
theorem bor_ofNat (a b : Nat) : bor (a : Int) (b : Int) = ((a ||| b : Nat) : Int) := rfl
theorem bxor_ofNat (a b : Nat) : bxor (a : Int) (b : Int) = ((a ^^^ b : Nat) : Int) := rfl
theorem shr_ofNat (a n : Nat) : shr (a : Int) (n : Int) = ((a >>> n : Nat) : Int) := by
  simp [shr]
theorem shl_ofNat (a n : Nat) : shl (a : Int) (n : Int) = ((a <<< n : Nat) : Int) := by
  simp [shl, Nat.shiftLeft_eq]
theorem pow_ofNat (a n : Nat) : pow (a : Int) (n : Int) = ((a ^ n : Nat) : Int) := by
  simp [pow]
theorem bnot_ofNat (n : Nat) : bnot (n : Int) = Int.negSucc n := by
  unfold bnot; omega

theorem imin_eq_min (a b : Int) : imin a b = min a b := by unfold imin; omega
theorem imax_eq_max (a b : Int) : imax a b = max a b := by unfold imax; omega

theorem ldiff_mask (k n : Nat) : ldiff (2 ^ k - 1) n = 2 ^ k - 1 - n % 2 ^ k := by
  apply Nat.eq_of_testBit_eq
  intro i
  have hlt : n % 2 ^ k < 2 ^ k := Nat.mod_lt _ (Nat.two_pow_pos k)
  have e : 2 ^ k - 1 - n % 2 ^ k = 2 ^ k - (n % 2 ^ k + 1) := by omega
  rw [e, Nat.testBit_two_pow_sub_succ hlt]
  unfold ldiff
  rw [Nat.testBit_bitwise (by rfl), Nat.testBit_two_pow_sub_one, Nat.testBit_mod_two_pow]
  by_cases h : i < k <;> simp [h]

/-- `~n & (2^k - 1)` -/
theorem band_bnot_mask (k n : Nat) :
    band (bnot (n : Int)) ((2 ^ k - 1 : Nat) : Int) = ((2 ^ k - 1 - n % 2 ^ k : Nat) : Int) := by
  rw [bnot_ofNat]
  show Int.ofNat (ldiff (2 ^ k - 1) n) = _
  rw [ldiff_mask]; rfl

theorem cast_eq_lit (a n : Nat) : ((a : Int) = (no_index (OfNat.ofNat n) : Int)) ↔ a = OfNat.ofNat n := by
  show (a : Int) = ((n : Nat) : Int) ↔ a = n; omega
theorem lit_eq_cast (a n : Nat) : ((no_index (OfNat.ofNat n) : Int) = (a : Int)) ↔ OfNat.ofNat n = a := by
  show ((n : Nat) : Int) = (a : Int) ↔ n = a; omega
theorem cast_lt_lit (a n : Nat) : ((a : Int) < (no_index (OfNat.ofNat n) : Int)) ↔ a < OfNat.ofNat n := by
  show (a : Int) < ((n : Nat) : Int) ↔ a < n; omega
theorem lit_lt_cast (a n : Nat) : ((no_index (OfNat.ofNat n) : Int) < (a : Int)) ↔ OfNat.ofNat n < a := by
  show ((n : Nat) : Int) < (a : Int) ↔ n < a; omega
theorem cast_le_lit (a n : Nat) : ((a : Int) ≤ (no_index (OfNat.ofNat n) : Int)) ↔ a ≤ OfNat.ofNat n := by
  show (a : Int) ≤ ((n : Nat) : Int) ↔ a ≤ n; omega
theorem lit_le_cast (a n : Nat) : ((no_index (OfNat.ofNat n) : Int) ≤ (a : Int)) ↔ OfNat.ofNat n ≤ a := by
  show ((n : Nat) : Int) ≤ (a : Int) ↔ n ≤ a; omega

theorem len_eq {α} (l : List α) : len l = (l.length : Int) := rfl

/-- octet `i` of a byte string, 0 behind its end (only used under a length guard) -/
def at0 (d : Bytes) (i : Nat) : Nat := (d[i]?).getD 0
theorem at0_lt {d : Bytes} {i : Nat} (h : i < d.length) : at0 d i = d[i] := by
  simp [at0, List.getElem?_eq_getElem h]
theorem at0_ge {d : Bytes} {i : Nat} (h : d.length ≤ i) : at0 d i = 0 := by
  simp [at0, List.getElem?_eq_none h]
theorem at0_cons_zero (a : Nat) (l : Bytes) : at0 (a :: l) 0 = a := rfl
theorem at0_cons_succ (a : Nat) (l : Bytes) (i : Nat) : at0 (a :: l) (i + 1) = at0 l i := by simp [at0]
/-- the other spellings of "octet `i`, 0 behind the end" that statements use -/
theorem headD_drop (d : Bytes) (i : Nat) : (d.drop i).headD 0 = at0 d i := by
  by_cases h : i < d.length
  · rw [at0_lt h, List.drop_eq_getElem_cons h]; rfl
  · rw [List.drop_of_length_le (by omega), at0_ge (by omega)]; rfl
theorem headD_eq_at0 (d : Bytes) : d.headD 0 = at0 d 0 := by cases d <;> rfl
theorem at0_take {d : Bytes} {n i : Nat} (h : i < n) : at0 (d.take n) i = at0 d i := by
  unfold at0; rw [List.getElem?_take_of_lt h]

theorem at0_lt_256 {d : Bytes} (h : IsBytes d) (i : Nat) : at0 d i < 256 := by
  by_cases hi : i < d.length
  · rw [at0_lt hi]; exact h _ (List.getElem_mem hi)
  · rw [at0_ge (by omega)]; omega

theorem idxN_nat (d : Bytes) (off : Nat) :
    idxN d off = if off < d.length then .ok (at0 d off) else .error .index := by
  unfold idxN at0
  by_cases h : off < d.length <;> simp [h]

theorem idxN_eq_at0 {l : Bytes} {n : Nat} (h : n < l.length) : idxN l n = .ok (at0 l n) :=
  (idxN_nat l n).trans (if_pos h)

theorem idxN_headD (l : Bytes) (i : Nat) (h : i < l.length) : idxN l i = .ok ((l.drop i).headD 0) := by
  rw [idxN_eq_at0 h, headD_drop]

/-! `data[i]`: `getB_idx` for every int; at a natural index as `idxN` (`getB_idxN`, `getB_bind`: what `py_nat` uses), as
a `match` on `l[i]?`, as `at0` behind a length test, and on a list given by its first element. -/

theorem getB_idx (l : Bytes) (i : Int) : getB l i = (idx l i >>= fun b => .ok (b : Int)) := by
  unfold getB; cases idx l i <;> rfl

theorem getB_idxN (l : Bytes) (n : Nat) : getB l (n : Int) = (idxN l n >>= fun b => .ok (b : Int)) := by
  rw [getB_idx, idx_ofNat]

theorem getB_bind {α} (l : Bytes) (n : Nat) (f : Int → Py α) :
    (getB l (n : Int) >>= f) = (idxN l n >>= fun b => f (b : Int)) := by
  rw [getB_idxN]; cases idxN l n <;> rfl

theorem getB_ofNat (l : Bytes) (i : Nat) :
    getB l (i : Int) = match l[i]? with | some b => .ok (b : Int) | none => .error .index := by
  rw [getB_idxN, idxN]; cases l[i]? <;> rfl

/-- for goals in which the other literals stay as they are (`cast_eq_lit`, `cast_lt_lit`) -/
theorem getB_lit (l : Bytes) (n : Nat) :
    getB l (no_index (OfNat.ofNat n)) = match l[(OfNat.ofNat n : Nat)]? with | some b => .ok (b : Int) | none => .error .index :=
  getB_ofNat l n

theorem getB_nat (d : Bytes) (off : Nat) :
    getB d (off : Int) = if off < d.length then .ok ((at0 d off : Nat) : Int) else .error .index := by
  rw [getB_idxN, idxN_nat]; split <;> rfl

theorem getB_zero (a : Nat) (l : Bytes) : getB (a :: l) 0 = .ok (a : Int) := getB_idxN (a :: l) 0
theorem getB_succ (a : Nat) (l : Bytes) (n : Nat) : getB (a :: l) ((n + 1 : Nat) : Int) = getB l (n : Int) := by
  rw [getB_idxN, getB_idxN, idxN_cons_succ]
theorem getB_one (a : Nat) (l : Bytes) : getB (a :: l) 1 = getB l 0 := getB_succ a l 0
theorem getB_two (a : Nat) (l : Bytes) : getB (a :: l) 2 = getB l 1 := getB_succ a l 1

theorem getB_nil (i : Int) : getB [] i = .error .index := by
  rw [getB_idx]; unfold idx; simp

/-- `data[-k]` -/
theorem getB_neg (l : Bytes) (k : Nat) (hk : 0 < k) :
    getB l (-(k : Int)) = if k ≤ l.length then
      (match l[l.length - k]? with | some b => .ok (b : Int) | none => .error .index) else .error .index := by
  rw [getB_idx]
  by_cases h : k ≤ l.length
  · rw [idx_neg_idxN l k hk h, if_pos h, idxN]; cases l[l.length - k]? <;> rfl
  · have h0 : -(k : Int) < 0 := by omega
    have h1 : (-(k : Int) + (l.length : Int) < 0 ∨ -(k : Int) + (l.length : Int) ≥ (l.length : Int)) := by omega
    unfold idx
    simp only [h0, if_true]
    rw [if_pos h1, if_neg h]; rfl

theorem sliceTo_ofNat {α} (l : List α) (i : Nat) : sliceTo l (i : Int) = l.take i := by
  unfold sliceTo; rw [clampBound_ofNat, ← List.take_eq_take_min]

theorem sliceFrom_ofNat {α} (l : List α) (i : Nat) : sliceFrom l (i : Int) = l.drop i := by
  unfold sliceFrom; rw [clampBound_ofNat, ← List.drop_eq_drop_min]

theorem sliceFrom_neg {α} (l : List α) (k : Nat) (hk : 0 < k) : sliceFrom l (-(k : Int)) = l.drop (l.length - k) := by
  unfold sliceFrom; rw [clampBound_neg _ _ hk]

theorem sliceTo_neg {α} (l : List α) (k : Nat) (hk : 0 < k) : sliceTo l (-(k : Int)) = l.take (l.length - k) := by
  unfold sliceTo; rw [clampBound_neg _ _ hk]

theorem sliceFrom_neg_append {α} (p s : List α) (hs : 0 < s.length) : sliceFrom (p ++ s) (-(s.length : Int)) = s := by
  rw [sliceFrom_neg _ _ hs, List.length_append, Nat.add_sub_cancel, List.drop_left]

theorem sliceTo_len {α} (l : List α) : sliceTo l (len l) = l := by
  rw [len_eq, sliceTo_ofNat, List.take_length]

/-- `data[:len(data)-k]` -/
theorem sliceTo_len_sub {α} (l : List α) (k : Nat) (h : k ≤ l.length) :
    sliceTo l (len l - (k : Int)) = l.take (l.length - k) := by
  have : len l - (k : Int) = ((l.length - k : Nat) : Int) := by rw [len_eq]; omega
  rw [this, sliceTo_ofNat]

theorem ints_cons (a : Nat) (l : Bytes) : ints (a :: l) = (a : Int) :: ints l := rfl
theorem ints_nil : ints [] = [] := rfl
theorem ints_inj (l m : Bytes) : ints l = ints m ↔ l = m :=
  List.map_inj_right fun _ _ => Int.ofNat_inj.mp

theorem sum_ints (l : Bytes) : PyFn.sum (ints l) = ((l.foldl (· + ·) 0 : Nat) : Int) := by
  unfold PyFn.sum
  suffices ∀ acc : Nat, List.foldl (· + ·) (acc : Int) (ints l) = ((l.foldl (· + ·) acc : Nat) : Int) from this 0
  induction l with
  | nil => intro acc; rfl
  | cons a l ih => intro acc; simp only [ints_cons, List.foldl_cons]; rw [← Int.natCast_add, ih]

theorem repeatL_one {α} (x : α) (n : Int) : repeatL [x] n = List.replicate n.toNat x :=
  List.flatten_replicate_singleton

theorem zeros_nat (n : Nat) : zeros (n : Int) = .ok (List.replicate n 0) := by
  unfold zeros; rw [if_neg (by omega), Int.toNat_natCast]

theorem range_ofNat (a b : Nat) :
    PyFn.range (a : Int) (b : Int) = (List.range (b - a)).map (fun (i : Nat) => (a : Int) + (i : Int)) := by
  unfold PyFn.range
  have : ((b : Int) - (a : Int)).toNat = b - a := by omega
  rw [this]

theorem range0_cast (n : Nat) : PyFn.range 0 (n : Int) = (List.range' 0 n).map fun (j : Nat) => (j : Int) := by
  rw [show (0 : Int) = ((0 : Nat) : Int) from rfl, range_ofNat, Nat.sub_zero, List.range_eq_range']
  exact List.map_congr_left fun i _ => by omega

/-- `range(a, b, s)`: the `ceil((b - a) / s)` values `a + i * s`, none when `b ≤ a` -/
theorem rangeStep_nat (a b s : Nat) (hs : 0 < s) :
    rangeStep (a : Int) (b : Int) (s : Int) = .ok ((List.range ((b - a + s - 1) / s)).map fun i => ((a + i * s : Nat) : Int)) := by
  unfold rangeStep
  rw [if_neg (by omega), if_pos (by omega)]
  have e : (((b : Int) - (a : Int) + (s : Int) - 1) / (s : Int)).toNat = (b - a + s - 1) / s := by
    by_cases h : a ≤ b
    · rw [show (b : Int) - (a : Int) + (s : Int) - 1 = ((b - a + s - 1 : Nat) : Int) by omega, ← Int.natCast_ediv, Int.toNat_natCast]
    · have h1 : (b - a + s - 1) / s = 0 := (Nat.div_eq_zero_iff_lt hs).mpr (by omega)
      have h2 : ((b : Int) - (a : Int) + (s : Int) - 1) / (s : Int) < 1 :=
        Int.ediv_lt_of_lt_mul (by omega) (by omega)
      omega
  rw [e]
  congr 1

/-- the count of `rangeStep_nat` for a range that is not empty (`n = b - a`): one more than from `a + s` on -/
theorem ceilDiv_step (s n : Nat) (hs : 0 < s) (hn : 0 < n) : (n + s - 1) / s = (n - s + s - 1) / s + 1 := by
  rw [show n + s - 1 = (n - 1) + s by omega, Nat.add_div_right _ hs]
  congr 1
  by_cases h : s ≤ n
  · congr 1; omega
  · rw [(Nat.div_eq_zero_iff_lt hs).mpr (by omega), (Nat.div_eq_zero_iff_lt hs).mpr (by omega)]

theorem slice_add_cast {α} (l : List α) (o m : Nat) : slice l (o : Int) ((o : Int) + (m : Int)) = (l.drop o).take m := by
  rw [← Int.natCast_add, slice_cast, Nat.add_sub_cancel_left]

theorem take_succ_drop (l : Bytes) (a n : Nat) (h : a < l.length) :
    (l.drop a).take (n + 1) = (l.drop a).headD 0 :: (l.drop (a + 1)).take n := by
  rw [List.drop_eq_getElem_cons h, List.take_succ_cons, List.headD_cons]

theorem getB_take_drop (l : Bytes) (a n i : Nat) (hi : i < n) (h : a + n ≤ l.length) :
    getB ((l.drop a).take n) (i : Int) = .ok (((l.drop (a + i)).headD 0 : Nat) : Int) := by
  have h' : a + i < l.length := by omega
  rw [getB_ofNat, List.getElem?_take_of_lt hi, List.getElem?_drop, List.getElem?_eq_getElem h',
    List.drop_eq_getElem_cons h']
  rfl

theorem isPrefixOf_code (c0 c1 : Nat) (d : Bytes) : List.isPrefixOf [c0, c1] (c0 :: c1 :: d) = true := by
  simp [List.isPrefixOf]

theorem isPrefixOf_eq_take {α} [DecidableEq α] (p l : List α) : p.isPrefixOf l = (l.take p.length == p) := by
  rw [Bool.eq_iff_iff, List.isPrefixOf_iff_prefix, List.prefix_iff_eq_take, beq_iff_eq, eq_comm]

theorem isPrefixOf_iff_take (c0 c1 : Nat) (data : Bytes) :
    List.isPrefixOf [c0, c1] data = true ↔ data.take 2 = [c0, c1] := by
  rw [isPrefixOf_eq_take]; exact beq_iff_eq

theorem eq_code_cons {c0 c1 : Nat} {data : Bytes} (h : data.take 2 = [c0, c1]) : data = c0 :: c1 :: data.drop 2 := by
  have := List.take_append_drop 2 data
  rwa [h, eq_comm] at this

theorem delSlice_zero_cast {α} (l : List α) (n : Nat) : delSlice l 0 (n : Int) = l.drop n := by
  unfold delSlice
  simp only [show (0 : Int) = ((0 : Nat) : Int) from rfl, clampBound_ofNat, Nat.zero_min, Nat.zero_max,
    ← List.drop_eq_drop_min, List.take_zero, List.nil_append]

theorem needFrom_nat (d : Bytes) (off k : Nat) :
    needFrom d (off : Int) (k : Int) = if off + k ≤ d.length then .ok (off : Int) else .error .struct := by
  unfold needFrom len
  have h0 : ¬ ((off : Int) < 0) := by omega
  simp only [h0, if_false, false_or]
  by_cases h : off + k ≤ d.length
  · rw [if_pos h, if_neg (by omega : ¬ ((k : Int) < 0 ∨ (d.length : Int) - (off : Int) < (k : Int)))]
  · rw [if_neg h, if_pos (by omega : (k : Int) < 0 ∨ (d.length : Int) - (off : Int) < (k : Int))]

theorem needExact_nat (d : Bytes) (k : Nat) :
    needExact d (k : Int) = if d.length = k then .ok () else .error .struct := by
  unfold needExact len
  by_cases h : d.length = k
  · rw [if_pos h, if_neg (by omega : ¬ ((k : Int) < 0 ∨ (d.length : Int) ≠ (k : Int)))]
  · rw [if_neg h, if_pos (by omega : (k : Int) < 0 ∨ (d.length : Int) ≠ (k : Int))]

theorem ube_nat (d : Bytes) (off w : Nat) : ube d (off : Int) w = ((beNat ((d.drop off).take w) : Nat) : Int) := by
  unfold ube; rw [Int.toNat_natCast]
theorem ule_nat (d : Bytes) (off w : Nat) :
    ule d (off : Int) w = ((beNat ((d.drop off).take w).reverse : Nat) : Int) := by
  unfold ule; rw [Int.toNat_natCast]

theorem beNat_take_one (d : Bytes) (off : Nat) : beNat ((d.drop off).take 1) = at0 d off := by
  by_cases h : off < d.length
  · rw [at0_lt h, List.drop_eq_getElem_cons h, List.take_succ_cons, List.take_zero]; simp [beNat]
  · rw [List.drop_of_length_le (by omega), at0_ge (by omega)]; rfl

theorem beNat_take_two (d : Bytes) (off : Nat) (h : off + 2 ≤ d.length) :
    beNat ((d.drop off).take 2) = at0 d off * 256 + at0 d (off + 1) := by
  have h0 : off < d.length := by omega
  have h1 : off + 1 < d.length := by omega
  rw [at0_lt h0, at0_lt h1, List.drop_eq_getElem_cons h0, List.drop_eq_getElem_cons h1, List.take_succ_cons,
    List.take_succ_cons, List.take_zero]
  simp [beNat]

theorem ube_one (d : Bytes) (off : Nat) : ube d (off : Int) 1 = ((at0 d off : Nat) : Int) := by
  rw [ube_nat, beNat_take_one]

theorem ube_two (d : Bytes) (off : Nat) (h : off + 2 ≤ d.length) :
    ube d (off : Int) 2 = ((at0 d off * 256 + at0 d (off + 1) : Nat) : Int) := by
  rw [ube_nat, beNat_take_two d off h]

theorem sub_nat (d : Bytes) (off n : Nat) : PyFn.sub d (off : Int) (n : Int) = (d.drop off).take n := by
  unfold PyFn.sub; simp

theorem unpackB_eq (d : Bytes) (off : Nat) :
    unpackB d off = if off + 1 ≤ d.length then .ok (at0 d off) else .error .struct := by
  unfold unpackB at0
  by_cases h : off < d.length
  · simp [List.getElem?_eq_getElem h, show off + 1 ≤ d.length from h]
  · simp [List.getElem?_eq_none (by omega : d.length ≤ off), show ¬ off + 1 ≤ d.length by omega]

/-- the shape of `unpackBB`, `unpackH` -/
theorem unpack_two {α} (f : Nat → Nat → α) (d : Bytes) (off : Nat) :
    (match d[off]?, d[off + 1]? with
      | some a, some b => (.ok (f a b) : Py α)
      | _, _ => .error .struct)
      = if off + 2 ≤ d.length then .ok (f (at0 d off) (at0 d (off + 1))) else .error .struct := by
  unfold at0
  by_cases h : off + 1 < d.length
  · rw [List.getElem?_eq_getElem h, List.getElem?_eq_getElem (Nat.lt_of_succ_lt h), if_pos (show off + 2 ≤ d.length from h)]
    rfl
  · rw [List.getElem?_eq_none (Nat.le_of_not_lt h), if_neg (show ¬ off + 2 ≤ d.length from h)]
    cases d[off]? <;> rfl

theorem unpackBB_eq (d : Bytes) (off : Nat) :
    unpackBB d off = if off + 2 ≤ d.length then .ok (at0 d off, at0 d (off + 1)) else .error .struct :=
  unpack_two Prod.mk d off

theorem unpackH_eq (d : Bytes) (off : Nat) :
    unpackH d off = if off + 2 ≤ d.length then .ok (at0 d off * 256 + at0 d (off + 1)) else .error .struct :=
  unpack_two (fun a b => a * 256 + b) d off

/-- `struct.unpack('>H', d)` of a string that cannot be longer than two octets (a slice of width two), in the form
`py_nat` gives to the regenerated text `needExact d 2 >>= fun _ => .. ube d 0 2 ..`: both read two octets when there are
two, both raise `struct.error` otherwise -/
theorem unpackH_exact (d : Bytes) (h : d.length ≤ 2) :
    unpackH d 0 = if d.length = 2 then .ok (beNat ((d.drop 0).take 2)) else .error .struct := by
  rw [unpackH_eq]
  by_cases hl : d.length = 2
  · rw [if_pos (by omega), if_pos hl, beNat_take_two d 0 (by omega)]
  · rw [if_neg (by omega), if_neg hl]

theorem and1 (x : Nat) : x &&& 1 = x % 2 := Nat.and_two_pow_sub_one_eq_mod x 1
theorem and3 (x : Nat) : x &&& 3 = x % 4 := Nat.and_two_pow_sub_one_eq_mod x 2
theorem and7 (x : Nat) : x &&& 7 = x % 8 := Nat.and_two_pow_sub_one_eq_mod x 3
theorem and15 (x : Nat) : x &&& 15 = x % 16 := Nat.and_two_pow_sub_one_eq_mod x 4
theorem and31 (x : Nat) : x &&& 31 = x % 32 := Nat.and_two_pow_sub_one_eq_mod x 5
theorem and63 (x : Nat) : x &&& 63 = x % 64 := Nat.and_two_pow_sub_one_eq_mod x 6
theorem and127 (x : Nat) : x &&& 127 = x % 128 := Nat.and_two_pow_sub_one_eq_mod x 7
theorem and255 (x : Nat) : x &&& 255 = x % 256 := Nat.and_two_pow_sub_one_eq_mod x 8
theorem and2047 (x : Nat) : x &&& 2047 = x % 2048 := Nat.and_two_pow_sub_one_eq_mod x 11
theorem and65535 (x : Nat) : x &&& 65535 = x % 65536 := Nat.and_two_pow_sub_one_eq_mod x 16

theorem band_mask (k : Nat) (x : Int) : band x ((2 ^ k - 1 : Nat) : Int) = x % ((2 ^ k : Nat) : Int) := by
  have hp : 0 < 2 ^ k := Nat.two_pow_pos k
  cases x with
  | ofNat n =>
    show band (n : Int) _ = (n : Int) % _
    rw [band_ofNat, Nat.and_two_pow_sub_one_eq_mod]; omega
  | negSucc m =>
    show ((ldiff (2 ^ k - 1) m : Nat) : Int) = _
    have hlt := Nat.mod_lt m hp
    rw [ldiff_mask, Int.negSucc_emod m (by omega)]
    omega

theorem and_two_pow_mul (x k : Nat) : x &&& 2 ^ k = 2 ^ k * (x / 2 ^ k % 2) := by
  have hp : 0 < 2 ^ k := Nat.two_pow_pos k
  have h1 : (x &&& 2 ^ k) / 2 ^ k = x / 2 ^ k % 2 := by
    rw [Nat.and_div_two_pow, Nat.div_self hp]; exact and1 _
  have h2 : (x &&& 2 ^ k) % 2 ^ k = 0 := by
    rw [Nat.and_mod_two_pow, Nat.mod_self, Nat.and_zero]
  have := Nat.div_add_mod (x &&& 2 ^ k) (2 ^ k)
  rw [h1, h2] at this
  omega

theorem and_two_pow_ne_zero (x k : Nat) : (x &&& 2 ^ k ≠ 0) ↔ (x / 2 ^ k % 2 = 1) := by
  rw [and_two_pow_mul]
  have hp : 0 < 2 ^ k := Nat.two_pow_pos k
  rcases Nat.mod_two_eq_zero_or_one (x / 2 ^ k) with h | h
  · simp [h]
  · rw [h]; simp

theorem band_two_pow_ne_zero (x k : Nat) : (band (x : Int) ((2 ^ k : Nat) : Int) ≠ 0) ↔ (x / 2 ^ k % 2 = 1) := by
  rw [band_ofNat, ne_eq, Int.natCast_eq_zero]; exact and_two_pow_ne_zero x k

theorem and_high (x k m : Nat) (hx : x < 2 ^ (k + m)) : x &&& ((2 ^ m - 1) <<< k) = (x >>> k) <<< k := by
  apply Nat.eq_of_testBit_eq
  intro i
  rw [Nat.testBit_and, Nat.testBit_shiftLeft, Nat.testBit_shiftLeft, Nat.testBit_two_pow_sub_one, Nat.testBit_shiftRight]
  by_cases h1 : i ≥ k
  · have e : k + (i - k) = i := by omega
    simp only [h1, decide_true, Bool.true_and, e]
    by_cases h2 : i - k < m
    · simp [h2]
    · have : x.testBit i = false := Nat.testBit_lt_two_pow (Nat.lt_of_lt_of_le hx (Nat.pow_le_pow_right (by omega) (by omega)))
      simp [h2, this]
  · simp [h1]

/-- `v & HIGH != 0 ? v & LOW : v` is `v % 2^k` when `v < 2^(k+m)`, `HIGH = (2^m-1) << k`, `LOW = 2^k-1` -/
theorem mask_reserved (x k m : Nat) (hx : x < 2 ^ (k + m)) :
    (if x &&& ((2 ^ m - 1) <<< k) ≠ 0 then x &&& (2 ^ k - 1) else x) = x % 2 ^ k := by
  rw [and_high x k m hx, Nat.and_two_pow_sub_one_eq_mod, Nat.shiftRight_eq_div_pow, Nat.shiftLeft_eq]
  have hp : 0 < 2 ^ k := Nat.two_pow_pos k
  split
  · rfl
  · rename_i h
    have : x / 2 ^ k = 0 := by
      rcases Nat.eq_zero_or_pos (x / 2 ^ k) with h0 | h0
      · exact h0
      · exfalso; apply h; exact Nat.ne_of_gt (Nat.mul_pos h0 hp)
    have := (Nat.div_eq_zero_iff_lt hp).mp this
    exact (Nat.mod_eq_of_lt this).symm

/-! the steps between two `if`s whose tests say the same, or the opposite, in different words (core `ite_congr` wants
the tests equal) -/
theorem ite_cond_congr {α} {c c' : Prop} [Decidable c] [Decidable c'] (h : c ↔ c') (a b : α) :
    (if c then a else b) = if c' then a else b :=
  ite_congr (propext h) (fun _ => rfl) fun _ => rfl

theorem ite_congr_iff {α} {c c' : Prop} [Decidable c] [Decidable c'] {a b a' b' : α} (h : c ↔ c')
    (ha : c' → a = a') (hb : ¬ c' → b = b') : (if c then a else b) = if c' then a' else b' :=
  ite_congr (propext h) ha hb

/-- the source raises behind `if bad`, the `struct` guard of the regenerated text succeeds on `good` -/
theorem ite_flip {α} {c c' : Prop} [Decidable c] [Decidable c'] {a b a' b' : α} (h : c ↔ ¬ c')
    (ha : ¬ c' → a = b') (hb : c' → b = a') : (if c then a else b) = if c' then a' else b' :=
  (ite_congr (propext h) ha fun hn => hb (Decidable.not_not.mp hn)).trans (ite_not c' b' a')


theorem ite_bind {α β} (c : Prop) [Decidable c] (x y : Py α) (f : α → Py β) :
    ((if c then x else y) >>= f) = if c then x >>= f else y >>= f := by split <;> rfl

/-- `x[i] |= m` under a test of `x[i]` reads `x[i]` twice -/
theorem bind_reread {α β} (x : Py α) (c : α → Prop) [DecidablePred c] (f : α → α → Py β) (g : α → Py β) :
    (x >>= fun a => if c a then x >>= fun b => f a b else g a) = (x >>= fun a => if c a then f a a else g a) := by
  cases x <;> rfl

theorem bind_reread_else {α β} (x : Py α) (c : α → Prop) [DecidablePred c] (f : Py β) (g : α → α → Py β) :
    (x >>= fun a => if c a then f else x >>= fun b => g a b) = (x >>= fun a => if c a then f else g a a) := by
  cases x <;> rfl

theorem forM_nil {α σ} (s : σ) (f : σ → α → Py σ) : forM [] s f = .ok s := rfl

theorem forM_cons_unit {α} (x : α) (xs : List α) (f : Unit → α → Py Unit) :
    forM (x :: xs) () f = (f () x >>= fun _ => forM xs () f) := by
  rw [forM]; cases f () x <;> rfl

theorem ite_ok_bind {α β} (c : Prop) [Decidable c] (a : α) (e : Exc) (f : α → Py β) :
    ((if c then Except.ok a else Except.error e) >>= f) = if c then f a else .error e := by
  split <;> rfl

theorem ite_error_bind {α β} (c : Prop) [Decidable c] (a : α) (e : Exc) (f : α → Py β) :
    ((if c then Except.error e else Except.ok a) >>= f) = if c then .error e else f a := by
  split <;> rfl

/-- with `ite_not` it folds the regenerated chains `if ¬ c₁ then raise else if ¬ c₂ then raise else ..` from the inside -/
theorem ite_ite_and {α} (c d : Prop) [Decidable c] [Decidable d] (x y : α) :
    (if c then (if d then x else y) else y) = if c ∧ d then x else y := by
  by_cases hc : c <;> simp [hc]

theorem ite_ite_or {α} (c d : Prop) [Decidable c] [Decidable d] (x y : α) :
    (if c then x else if d then x else y) = if c ∨ d then x else y := by
  by_cases hc : c <;> simp [hc]

/-- the join after an `if` whose branches assign the same variable -/
theorem bind_ok_id {α} (x : Py α) : (x >>= fun v => Except.ok v) = x := by
  cases x <;> rfl

/-- the final `bool(..)` of a condition cut -/
theorem bind_decide_true (x : Py Bool) : (x >>= fun t => Except.ok (decide (t = true))) = x := by
  cases x with
  | error e => rfl
  | ok b => cases b <;> rfl

theorem ite_cast (c : Prop) [Decidable c] (a b : Nat) : (if c then (a : Int) else (b : Int)) = ((if c then a else b : Nat) : Int) := by
  split <;> rfl

theorem lit_cast (n : Nat) : (no_index (OfNat.ofNat n) : Int) = ((OfNat.ofNat n : Nat) : Int) := rfl

/-! Displays and `struct` fields: the lemma that unfolds the definition, then what follows from it, in the spellings the
bridge statements use (`if bad then raise else ..` as the definitions have it, `if good then .. else raise`). -/

theorem mkBytes_cons_int (x : Int) (xs : List Int) :
    mkBytes (x :: xs) = if 0 ≤ x ∧ x ≤ 255 then (mkBytes xs >>= fun r => .ok (x.toNat :: r)) else .error .value := by
  rw [mkBytes]
  by_cases h : 0 ≤ x ∧ x ≤ 255
  · rw [if_neg (by omega), if_pos h]; cases mkBytes xs <;> rfl
  · rw [if_pos (by omega), if_neg h]

theorem mkBytes_cons (x : Nat) (xs : List Int) :
    mkBytes ((x : Int) :: xs) = if x < 256 then (mkBytes xs >>= fun r => .ok (x :: r)) else .error .value := by
  rw [mkBytes_cons_int, Int.toNat_natCast]; exact ite_cond_congr (by omega) _ _

protected theorem mkBytes_nil : mkBytes [] = .ok [] := rfl

theorem mkBytes_eq (l : List Int) :
    mkBytes l = if ∀ x ∈ l, 0 ≤ x ∧ x ≤ 255 then .ok (l.map Int.toNat) else .error .value := by
  induction l with
  | nil => rfl
  | cons x xs ih =>
    rw [mkBytes_cons_int, ih]
    by_cases hx : 0 ≤ x ∧ x ≤ 255
    · rw [if_pos hx, ite_bind]
      exact ite_cond_congr (by rw [List.forall_mem_cons]; exact (and_iff_right hx).symm) _ _
    · rw [if_neg hx, if_neg fun h => hx (h x List.mem_cons_self)]

theorem mkBytes_ok (l : List Int) (h : ∀ x ∈ l, 0 ≤ x ∧ x ≤ 255) : mkBytes l = .ok (l.map Int.toNat) :=
  (mkBytes_eq l).trans (if_pos h)

theorem mkBytes_error (l : List Int) (h : ∃ x ∈ l, x < 0 ∨ x > 255) : mkBytes l = .error .value :=
  (mkBytes_eq l).trans (if_neg fun a => by obtain ⟨x, hx, hb⟩ := h; have := a x hx; omega)

theorem mkBytes_isBytes (l : List Nat) (h : IsBytes l) : mkBytes (l.map (fun (n : Nat) => (n : Int))) = .ok l := by
  rw [mkBytes_ok _ fun x hx => by obtain ⟨n, hn, rfl⟩ := List.mem_map.mp hx; have := h n hn; omega, List.map_map]
  exact congrArg _ (List.map_id'' (fun _ => rfl) l)

theorem mkBytes_two (a b : Nat) (ha : a < 256) (hb : b < 256) : mkBytes [(a : Int), (b : Int)] = .ok [a, b] :=
  mkBytes_isBytes [a, b] (isBytes_cons ha (isBytes_cons hb isBytes_nil))

/-- the octets of one packed field, so that `packField_eq` can be stated for every format; `packField_B_nat` ..
`packField_Ile_nat` below spell them out format by format -/
def Fmt.octets : Fmt → Nat → Bytes
  | .B, n => [n]
  | .Hbe, n => toBE 2 n
  | .Ibe, n => toBE 4 n
  | .Hle, n => toLE 2 n
  | .Ile, n => toLE 4 n

theorem packField_eq (f : Fmt) (v : Int) :
    packField f v = if 0 ≤ v ∧ v < 256 ^ f.size then .ok (f.octets v.toNat) else .error .struct := by
  unfold packField
  exact ite_flip (by omega) (fun _ => rfl) fun _ => by cases f <;> rfl

theorem packField_neg (f : Fmt) (v : Int) (h : v < 0) : packField f v = .error .struct :=
  (packField_eq f v).trans (if_neg (by omega))

theorem packField_nat (f : Fmt) (n : Nat) :
    packField f (n : Int) = if n < 256 ^ f.size then .ok (f.octets n) else .error .struct :=
  (packField_eq f n).trans
    (ite_cond_congr (by rw [show (256 : Int) ^ f.size = ((256 ^ f.size : Nat) : Int) by simp]; omega) _ _)

/-! the five formats written out (instances of `packField_nat`; rewriting with these leaves no `Fmt.size` to unfold
under a `Decidable` instance) -/
theorem packField_B_nat (n : Nat) : packField .B (n : Int) = if n < 256 then .ok [n] else .error .struct :=
  packField_nat .B n
theorem packField_Hbe_nat (n : Nat) :
    packField .Hbe (n : Int) = if n < 65536 then .ok [n / 256 % 256, n % 256] else .error .struct := packField_nat .Hbe n
theorem packField_Hle_nat (n : Nat) :
    packField .Hle (n : Int) = if n < 65536 then .ok [n % 256, n / 256 % 256] else .error .struct := packField_nat .Hle n
theorem packField_Ibe_nat (n : Nat) :
    packField .Ibe (n : Int) = if n < 4294967296 then .ok (toBE 4 n) else .error .struct := packField_nat .Ibe n
theorem packField_Ile_nat (n : Nat) :
    packField .Ile (n : Int) = if n < 4294967296 then .ok (toLE 4 n) else .error .struct := packField_nat .Ile n

theorem packField_ok {f : Fmt} {n : Nat} (h : n < 256 ^ f.size) : packField f (n : Int) = .ok (f.octets n) :=
  (packField_nat f n).trans (if_pos h)

/-! `B` and `>H` in the spelling of the definition (the error first), for every int -/
theorem packField_B (v : Int) : packField .B v = if v < 0 ∨ v > 255 then .error .struct else .ok [v.toNat] :=
  (packField_eq .B v).trans (ite_flip (by show 0 ≤ v ∧ v < 256 ↔ _; omega) (fun _ => rfl) fun _ => rfl)

theorem packField_Hbe (v : Int) :
    packField .Hbe v = if v < 0 ∨ v > 65535 then .error .struct else .ok [v.toNat / 256, v.toNat % 256] :=
  (packField_eq .Hbe v).trans (ite_flip (by show 0 ≤ v ∧ v < 65536 ↔ _; omega) (fun h => by
    show Except.ok [v.toNat / 256 % 256, v.toNat % 256] = _
    rw [Nat.mod_eq_of_lt (by omega : v.toNat / 256 < 256)]) fun _ => rfl)

protected theorem pack_nil : pack [] [] = .ok [] := rfl

theorem pack_cons (f : Fmt) (fs : List Fmt) (v : Int) (vs : List Int) :
    pack (f :: fs) (v :: vs) = (packField f v >>= fun a => pack fs vs >>= fun b => .ok (a ++ b)) := by
  rw [pack]
  cases packField f v <;> simp only [Py.bind_ok, Py.bind_error]
  cases pack fs vs <;> rfl

theorem pack_one (f : Fmt) (v : Int) : pack [f] [v] = packField f v := by
  rw [pack_cons, PyFn.pack_nil]; simp only [Py.bind_ok, List.append_nil, bind_ok_id]

theorem pack_B (n : Nat) : pack [.B] [(n : Int)] = if n > 255 then .error .struct else .ok [n] :=
  (pack_one _ _).trans ((packField_B n).trans (ite_cond_congr (by omega) _ _))

theorem pack_Hbe (n : Nat) : pack [.Hbe] [(n : Int)] = if n > 65535 then .error .struct else .ok [n / 256, n % 256] :=
  (pack_one _ _).trans ((packField_Hbe n).trans (ite_cond_congr (by omega) _ _))

/-- The regenerated text computes on Python ints (`Int`) with the operations of `PyFn.lean`; the reference definitions
compute on `Nat` with `List` functions.  Where the arguments are casts of naturals every operation has a counterpart on
naturals, with a test on naturals where Python can raise; `py_nat` rewrites a goal into that form.  `getB` / `idx` at a
natural index become `idxN`: the `IndexError` stays inside the monad, so no length test has to be found first
(`idxN_nat` is the step to `at0` behind a test).  `ite_bind` copies the continuation into both branches, which a proof
about a long function may not want: use the lemmas by name there.

It is meant for both sides of a bridge equation after `unfold`: the two sides come out with the same skeleton, and what
is left to prove is where source and reference differ.  Not in the set, on purpose: `packField_nat` (the octets of a
field depend on the format: `rw [packField_nat]` or `packField_ok` where a `struct.pack` remains), `idxN_nat` /
`getB_nat` (they introduce length tests), `ite_ite_or`, and anything with a side condition: nothing in `py_nat`
searches or decides, so a call either rewrites or fails. -/
macro "py_nat" : tactic => `(tactic| simp only [lit_cast, ite_cast, ← Int.natCast_add, ← Int.natCast_mul, len_eq, slice_ofNat,
  sliceFrom_ofNat, sliceTo_ofNat, getB_bind, getB_idxN, idx_ofNat, idxN_cons_zero, idxN_cons_succ, idxN_nil, mkBytes_cons,
  PyFn.mkBytes_nil, pack_cons, PyFn.pack_nil, needFrom_nat, needExact_nat, ube_nat, ule_nat, beNat_take_one, sub_nat, sum_ints,
  shr_ofNat, shl_ofNat, band_ofNat, bor_ofNat, bxor_ofNat, pow_ofNat, Nat.shiftRight_eq_div_pow, Nat.shiftLeft_eq, and1, and3,
  and7, and15, and31, and63, and127, and255, and2047, and65535, Int.ofNat_lt, Int.ofNat_le, Int.natCast_inj,
  Int.toNat_natCast, Nat.not_lt_zero, or_self, or_false, false_or, ge_iff_le, gt_iff_lt, ne_eq, ite_bind, bind_assoc,
  bind_ok_id, Py.bind_ok, Py.bind_error, Py.pure_eq, Py.throw_eq, decide_eq_true_eq, Bool.false_eq_true, if_false, if_true,
  ite_not, ite_ite_and, reduceCtorEq, not_false_eq_true, not_true_eq_false, List.append_assoc, List.cons_append,
  List.nil_append, List.append_nil])

end NfcVerif.PyFn
