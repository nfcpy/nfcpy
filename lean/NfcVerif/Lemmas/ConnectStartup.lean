import NfcVerif.Lemmas.ConnectPrompt
/-!
# Option preparation of `connect()` (C18)

`startupPhase` is walked once, for `StartPost`: the monitor stays in its start-up phase, at most three
events are added, and the options that survive are among those given (`Live.Sub`), so that a ValueError
possible for them (`LiveV`) was possible for the option record (`OptsV`).
-/
namespace NfcVerif.Clf

/-- when a ValueError can leave connect(): a single target whose own error is raised (documented for
sense()), an argument that is not a RemoteTarget, or a LocalTarget of unknown technology -/
def LiveV (l : Live) : Prop :=
  (∃ r, l.rdwr = some r ∧ (r.targets.length = 1 ∨ r.targets.any (· == .notTarget) = true)) ∨
  (∃ c, l.card = some c ∧ c.target = .other)

/-- the same condition on the option record given to connect() -/
def OptsV (o : Opts) : Prop :=
  (∃ r, o.rdwr = some r ∧ (r.targets.length = 1 ∨ r.targets.any (· == .notTarget) = true)) ∨
  (∃ c, o.card = some c ∧ c.target = .other)

def NonIterableStartup (o : Opts) : Prop := ∃ r c, o.rdwr = some r ∧ r.startup = some (.nonIterable, c)

def Live.Sub (l : Live) (o : Opts) : Prop :=
  (∀ r, l.rdwr = some r → o.rdwr = some r) ∧ (∀ c, l.card = some c → o.card = some c)

theorem Live.Sub.optsV {l : Live} {o : Opts} (h : l.Sub o) (hv : LiveV l) : OptsV o := by
  rcases hv with ⟨r, h1, h2⟩ | ⟨c, h1, h2⟩
  · exact Or.inl ⟨r, h.1 r h1, h2⟩
  · exact Or.inr ⟨c, h.2 c h1, h2⟩

theorem of_ite_some {α} {b : Bool} {a a' : α} (h : (if b then some a else none) = some a') : a = a' := by
  cases b <;> simp at h
  exact h

def StartPost (o : Opts) (c : Nat) (s : St) (out : Py Live × St) : Prop :=
  (∃ k, mon out.2.log = some (.su k)) ∧ Seg c s out.2 ∧
  (match out.1 with
   | .ok l => l.Sub o
   | .error e => e = .type_ ∧ NonIterableStartup o)

theorem startupRest_all (o : Opts) (ll : Option LlcpOpts) (s1 : St) (k1 : Nat) (hk1 : k1 ≤ 1)
    (h1 : mon s1.log = some (.su k1)) : StartPost o 2 s1 (startupRest o ll s1) := by
  unfold startupRest
  cases hr : o.rdwr with
  | none =>
    cases hc : o.card with
    | none => exact ⟨⟨k1, h1⟩, (Seg.refl s1).mono (by omega), fun _ h => (by cases h), fun _ h => (by cases h)⟩
    | some c =>
      exact ⟨⟨3, mon_startupEvent h1 .card (by simp [rank]; omega) _⟩, (Seg.startupEvent .card c.startup s1).mono (by omega),
        fun _ h => (by cases h), fun _ h => of_ite_some h ▸ hc⟩
  | some r =>
    simp only
    have h2 := mon_startupEvent h1 .rdwr (by simp [rank]; omega) r.startup
    have g2 := Seg.startupEvent .rdwr r.startup s1
    split
    · rename_i hni
      refine ⟨⟨2, h2⟩, g2.mono (by omega), rfl, r, ?_⟩
      cases hsu : r.startup with
      | none => simp [hsu] at hni
      | some x =>
        obtain ⟨a, c⟩ := x
        cases a <;> simp [hsu] at hni
        exact ⟨c, hr, rfl⟩
    · cases hc : o.card with
      | none => exact ⟨⟨2, h2⟩, g2.mono (by omega), fun _ h => of_ite_some h ▸ hr, fun _ h => (by cases h)⟩
      | some c =>
        exact ⟨⟨3, mon_startupEvent h2 .card (by simp [rank]) _⟩, g2.trans (Seg.startupEvent .card c.startup _),
          fun _ h => of_ite_some h ▸ hr, fun _ h => of_ite_some h ▸ hc⟩

theorem startupPhase_all (o : Opts) (s : St) (h0 : mon s.log = some (.su 0)) : StartPost o 3 s (startupPhase o s) := by
  unfold startupPhase
  cases o.llcp with
  | none =>
    obtain ⟨a, b, c⟩ := startupRest_all o none s 0 (by omega) h0
    exact ⟨a, b.mono (by omega), c⟩
  | some l =>
    obtain ⟨a, b, c⟩ := startupRest_all o (if keeps .llcp l.startup then some l else none) _ 1 (by omega)
      (mon_startupEvent h0 .llcp (by simp [rank]) l.startup)
    exact ⟨a, ((Seg.startupEvent .llcp l.startup s).trans b).mono (by omega), c⟩

end NfcVerif.Clf
