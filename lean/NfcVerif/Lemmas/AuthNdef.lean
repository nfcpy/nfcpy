import NfcVerif.Model.AuthNdef
import NfcVerif.Lemmas.AuthHist
/-!
# `tag.ndef` after a successful authentication is MAC-verified data of that session

`InSession` is the invariant from a successful authentication to the next one: the read service is `read_with_mac`,
the session is that authentication's, a cached NDEF object was verified under it.  `Weak` methods keep it because
they leave all three alone (or drop the cache); `Yields` goes through the methods behind `tag.ndef` once, carrying
`InSession` and what each method returns.  Every `Quiet` call keeps `InSession` (`nstep_inSession`), so every history of them (`nrun_inSession`).
At the end: `TagCache.crun`, the NDEF cache logic of `nfc.tag.Tag`, is a `scan` as well.
-/
namespace NfcVerif.AuthNdef
open NfcVerif NfcVerif.Mac NfcVerif.Auth NfcVerif.AuthCard NfcVerif.AuthHist NfcVerif.AuthHist.RW NRW

variable {σ α β : Type}

theorem nbind_apply (m : NRW σ α) (f : α → NRW σ β) (n : NSt σ) :
    (m >>= f) n = match m n with
      | (.ok a, n') => f a n'
      | (.error e, n') => (.error e, n') := rfl

theorem npure_apply (a : α) (n : NSt σ) : (pure a : NRW σ α) n = (.ok a, n) := rfl

theorem nbind_ok {m : NRW σ α} {f : α → NRW σ β} {n n'' : NSt σ} {b : β} :
    (m >>= f) n = (.ok b, n'') ↔ ∃ a n', m n = (.ok a, n') ∧ f a n' = (.ok b, n'') := by
  rw [nbind_apply]
  rcases h : m n with ⟨r, n'⟩
  cases r with
  | error e => simp
  | ok a =>
    constructor
    · intro h2; exact ⟨a, n', rfl, h2⟩
    · rintro ⟨a', n1, h1, h2⟩
      injection h1 with h1 h3
      injection h1 with h1
      subst h1 h3
      exact h2

theorem npure_ok {a b : α} {n n' : NSt σ} : (pure a : NRW σ α) n = (.ok b, n') ↔ a = b ∧ n = n' := by
  rw [npure_apply]
  constructor
  · intro h; injection h with h1 h2; injection h1 with h1; exact ⟨h1, h2⟩
  · rintro ⟨rfl, rfl⟩; rfl

theorem nbind_of_ok {m : NRW σ α} {f : α → NRW σ β} {n n' : NSt σ} {a : α} (h : m n = (.ok a, n')) :
    (m >>= f) n = f a n' := by
  rw [nbind_apply, h]

theorem nbind_pure_ok {m : NRW σ α} {g : α → β} {n n' : NSt σ} {r : β}
    (h : (m >>= fun a => pure (g a)) n = (.ok r, n')) : ∃ a, m n = (.ok a, n') ∧ g a = r := by
  obtain ⟨a, n1, h1, k1⟩ := nbind_ok.mp h
  obtain ⟨hg, rfl⟩ := npure_ok.mp k1
  exact ⟨a, h1, hg⟩

theorem up_apply (m : RW σ α) (n : NSt σ) : up m n = ((m n.st).1, { n with st := (m n.st).2 }) := rfl

theorem up_ok {m : RW σ α} {n n' : NSt σ} {a : α} (h : up m n = (.ok a, n')) :
    m n.st = (.ok a, n'.st) ∧ n'.ndef = n.ndef ∧ n'.useMac = n.useMac ∧ n'.sys12fc = n.sys12fc := by
  rw [up_apply] at h
  injection h with h1 h2
  subst h2
  exact ⟨Prod.ext h1 rfl, rfl, rfl, rfl⟩

theorem get_apply (n : NSt σ) : (get : NRW σ (NSt σ)) n = (.ok n, n) := rfl
theorem fail_apply (e : Exc) (n : NSt σ) : (fail e : NRW σ α) n = (.error e, n) := rfl
theorem setNdef_apply (v : Option Bytes) (n : NSt σ) : (setNdef v : NRW σ Unit) n = (.ok (), { n with ndef := v }) := rfl
theorem setUseMac_apply (b : Bool) (n : NSt σ) : (setUseMac b : NRW σ Unit) n = (.ok (), { n with useMac := b }) := rfl

section
variable (C : Cipher) (forget noneOk : Bool) (x : Air σ) (idm : Bytes)

/-- what a successful `authenticate()` leaves in the tag object: no cached NDEF object, the NDEF read
service is `read_with_mac`, the session is the one of THIS call's challenge -/
def AfterAuth (pw rc : Bytes) (n' : NSt σ) : Prop :=
  n'.ndef = none ∧ n'.useMac = true ∧
    ∃ key sk, liteKey pw = .ok key ∧ sessionKey C key rc = .ok sk ∧ n'.st.rd = ⟨some ⟨sk, rc.take 8⟩, true⟩

theorem authN_true {pw rc : Bytes} {n n' : NSt σ} (h : authN C forget x idm pw rc n = (.ok true, n')) :
    AfterAuth C pw rc n' := by
  unfold authN at h
  obtain ⟨_, n1, _, h⟩ := nbind_ok.mp h
  rw [nbind_of_ok (setUseMac_apply false n1)] at h
  obtain ⟨ok, n3, h3, h⟩ := nbind_ok.mp h
  cases ok with
  | false => cases (npure_ok.mp h).1
  | true =>
    rw [if_pos rfl, nbind_of_ok (setUseMac_apply _ _), nbind_of_ok (setNdef_apply _ _)] at h
    obtain ⟨_, rfl⟩ := npure_ok.mp h
    obtain ⟨c1, c2, rsp1, rsp2, sess, t1, _, _, _, _, hla, hrd⟩ := authLite_true C forget x idm (up_ok h3).1
    obtain ⟨key, sk, data, hkey, hsk, _, _, hsess⟩ := lite_auth_true C idm pw rc rsp1 rsp2 sess hla
    exact ⟨rfl, rfl, key, sk, hkey, hsk, by rw [← hsess]; exact hrd⟩

theorem authNS_true {pw rc : Bytes} {n n' : NSt σ} (h : authNS C forget x idm pw rc n = (.ok true, n')) :
    AfterAuth C pw rc n' := by
  unfold authNS at h
  obtain ⟨ok, n1, h1, h⟩ := nbind_ok.mp h
  cases ok with
  | false =>
    simp only [Bool.not_false, if_true] at h
    cases (npure_ok.mp h).1
  | true =>
    simp only [Bool.not_true, Bool.false_eq_true, if_false] at h
    obtain ⟨hnd, _, key, sk, hkey, hsk, hrd⟩ := authN_true C forget x idm h1
    rw [nbind_of_ok (setUseMac_apply false n1)] at h
    obtain ⟨ok2, n3, h3, h⟩ := nbind_ok.mp h
    cases ok2 with
    | false => cases (npure_ok.mp h).1
    | true =>
      rw [if_pos rfl, nbind_of_ok (setUseMac_apply _ _)] at h
      obtain ⟨_, rfl⟩ := npure_ok.mp h
      obtain ⟨hm, hn3, _, _⟩ := up_ok h3
      obtain ⟨_, _, _, _, _, _, _, _, _, _, _, _, _, _, _, _, hrd3⟩ := extAuthS_true C x idm hm
      refine ⟨hn3.trans hnd, rfl, key, sk, hkey, hsk, ?_⟩
      show n3.st.rd = _
      rw [hrd3]
      show (⟨n1.st.rd.sess, true⟩ : Reader) = _
      rw [hrd]

/-- whatever the outcome: the read service and the session stay, the cached object stays or is dropped -/
def Weak (m : NRW σ α) : Prop :=
  ∀ n, (m n).2.useMac = n.useMac ∧ (m n).2.st.rd = n.st.rd ∧ ((m n).2.ndef = n.ndef ∨ (m n).2.ndef = none)

theorem Weak.pure (a : α) : Weak (pure a : NRW σ α) := fun _ => ⟨rfl, rfl, Or.inl rfl⟩
theorem Weak.fail (e : Exc) : Weak (fail e : NRW σ α) := fun _ => ⟨rfl, rfl, Or.inl rfl⟩
theorem Weak.get : Weak (get : NRW σ (NSt σ)) := fun _ => ⟨rfl, rfl, Or.inl rfl⟩
theorem Weak.setSys : Weak (setSys : NRW σ Unit) := fun _ => ⟨rfl, rfl, Or.inl rfl⟩
theorem Weak.dropNdef : Weak (setNdef none : NRW σ Unit) := fun _ => ⟨rfl, rfl, Or.inr rfl⟩
theorem Weak.up {m : RW σ α} (h : KeepsRd m) : Weak (up m) := fun n => ⟨rfl, h n.st, Or.inl rfl⟩

theorem Weak.bind {m : NRW σ α} {f : α → NRW σ β} (hm : Weak m) (hf : ∀ a, Weak (f a)) : Weak (m >>= f) := by
  intro n
  rw [nbind_apply]
  have h1 := hm n
  rcases e1 : m n with ⟨r1, t1⟩
  rw [e1] at h1
  cases r1 with
  | error e => exact h1
  | ok a =>
    obtain ⟨a1, a2, a3⟩ := hf a t1
    refine ⟨a1.trans h1.1, a2.trans h1.2.1, ?_⟩
    rcases a3 with a3 | a3
    · exact h1.2.2.imp a3.trans a3.trans
    · exact Or.inr a3

theorem Weak.catchTag {m : NRW σ α} (hm : Weak m) : Weak (catchTag m) := by
  intro n
  have h1 := hm n
  unfold NRW.catchTag
  rcases e1 : m n with ⟨r1, t1⟩
  rw [e1] at h1
  cases r1 with
  | ok a => exact h1
  | error e => cases e <;> exact h1

theorem Weak.ite {c : Prop} [Decidable c] {m1 m2 : NRW σ α} (h1 : Weak m1) (h2 : Weak m2) :
    Weak (if c then m1 else m2) := by split <;> assumption

theorem Weak.pollNdef : Weak (pollNdef x idm) := by
  unfold AuthNdef.pollNdef
  refine Weak.bind (Weak.up (KeepsRd.sendRecv x _)) (fun rsp => ?_)
  refine Weak.ite (Weak.fail _) ?_
  refine Weak.bind (Weak.up (KeepsRd.lift _)) (fun l => ?_)
  refine Weak.ite (Weak.fail _) ?_
  refine Weak.bind (Weak.up (KeepsRd.lift _)) (fun c => ?_)
  exact Weak.ite (Weak.fail _) (Weak.ite (Weak.fail _) (Weak.ite (Weak.fail _) Weak.setSys))

theorem Weak.wipeLoop (v : Nat) : ∀ (k b : Nat), Weak (wipeLoop x idm v k b)
  | 0, _ => Weak.pure _
  | k + 1, b => by
    unfold AuthNdef.wipeLoop
    exact Weak.bind (Weak.up (KeepsRd.writePlain x idm _ _)) (fun _ => Weak.wipeLoop v k _)

theorem Weak.format (wipe : Option Nat) : Weak (format x idm wipe) := by
  unfold AuthNdef.format
  refine Weak.bind (Weak.up (KeepsRd.readPlain x idm _)) (fun mc => ?_)
  refine Weak.bind (Weak.up (KeepsRd.lift _)) (fun m0 => ?_)
  split
  · exact Weak.pure _
  refine Weak.bind (Weak.up (KeepsRd.lift _)) (fun m3 => ?_)
  refine Weak.bind (Weak.up (KeepsRd.lift _)) (fun m2 => ?_)
  refine Weak.bind ?_ (fun r => ?_)
  · split
    · exact Weak.pure _
    · split
      · exact Weak.bind (Weak.up (KeepsRd.writePlain x idm _ _)) (fun _ => Weak.pure _)
      · exact Weak.pure _
  · match r with
    | none => exact Weak.pure _
    | some mc =>
      simp only
      refine Weak.bind (Weak.up (KeepsRd.lift _)) (fun m1 => ?_)
      refine Weak.bind (Weak.up (KeepsRd.writePlain x idm _ _)) (fun _ => ?_)
      refine Weak.bind ?_ (fun _ => Weak.bind Weak.dropNdef (fun _ => Weak.pure _))
      cases wipe with
      | none => exact Weak.pure _
      | some v => exact Weak.wipeLoop x idm v _ _

/-- `c` is block data that `read_with_mac` accepted under the session `S` -/
def Chunk (S : Session) (c : Bytes) : Prop := ∃ blocks rsp, readWithMac C idm (some S) blocks rsp = .ok (some c)

/-- NDEF data every octet of which was covered by a MAC verified under the session `S`: the
attribute block `ab` that gives the length and every data block came out of `read_with_mac` -/
def VerifiedNdef (S : Session) (d : Bytes) : Prop :=
  ∃ (ab rsp0 : Bytes) (a : Attr) (chunks : List Bytes), readWithMac C idm (some S) [0] rsp0 = .ok (some ab) ∧ parseAttr ab = some a
    ∧ (∀ c ∈ chunks, Chunk C idm S c) ∧ d = (chunks.flatten).take a.ln

/-- the tag object is in the session `S`: NDEF reads go through `read_with_mac`, `_sk`/`_iv` are `S`,
and a cached NDEF object holds data that was MAC-verified under `S` -/
def InSession (S : Session) (n : NSt σ) : Prop :=
  n.useMac = true ∧ n.st.rd.sess = some S ∧ ∀ d, n.ndef = some d → VerifiedNdef C idm S d

theorem Weak.inSession {m : NRW σ α} (h : Weak m) {S : Session} {n : NSt σ} (hj : InSession C idm S n) : InSession C idm S (m n).2 := by
  obtain ⟨a1, a2, a3⟩ := h n
  refine ⟨a1.trans hj.1, by rw [a2]; exact hj.2.1, ?_⟩
  intro d hd
  rcases a3 with a3 | a3
  · exact hj.2.2 d (by rw [← a3]; exact hd)
  · rw [a3] at hd; cases hd

/-- `m` keeps `InSession` whatever the outcome, and what it returns satisfies `P`: each method behind `tag.ndef` is
gone through once, for the invariant and for what it returns -/
def Yields (S : Session) (m : NRW σ α) (P : α → Prop) : Prop :=
  ∀ n, InSession C idm S n → InSession C idm S (m n).2 ∧ ∀ a, (m n).1 = .ok a → P a

section Yields
variable {C idm} {S : Session} {P : α → Prop}

theorem Yields.of_weak {m : NRW σ α} (h : Weak m) : Yields C idm S m (fun _ => True) :=
  fun _ hn => ⟨h.inSession C idm hn, fun _ _ => trivial⟩

theorem Yields.pure {a : α} (h : P a) : Yields C idm S (pure a : NRW σ α) P :=
  fun n hn => ⟨hn, fun b hb => by cases hb; exact h⟩

theorem Yields.pure_none {Q : β → Prop} : Yields C idm S (Pure.pure none : NRW σ (Option β)) (fun r => ∀ d, r = some d → Q d) :=
  .pure (fun _ h => nomatch h)

theorem Yields.fail (e : Exc) : Yields C idm S (NRW.fail e : NRW σ α) P := fun _ hn => ⟨hn, fun _ hb => nomatch hb⟩

theorem Yields.get : Yields C idm S (NRW.get : NRW σ (NSt σ)) (InSession C idm S) := fun n hn => ⟨hn, fun b hb => by cases hb; exact hn⟩

theorem Yields.setNdef {v : Option Bytes} (h : ∀ d, v = some d → VerifiedNdef C idm S d) :
    Yields C idm S (NRW.setNdef v : NRW σ Unit) (fun _ => True) :=
  fun _ hn => ⟨⟨hn.1, hn.2.1, h⟩, fun _ _ => trivial⟩

theorem Yields.bind {m : NRW σ α} {f : α → NRW σ β} {Q : β → Prop} (hm : Yields C idm S m P)
    (hf : ∀ a, P a → Yields C idm S (f a) Q) : Yields C idm S (m >>= f) Q := by
  intro n hn
  obtain ⟨h1, h2⟩ := hm n hn
  rw [nbind_apply]
  rcases e1 : m n with ⟨r1, t1⟩
  rw [e1] at h1 h2
  cases r1 with
  | error e => exact ⟨h1, fun _ hb => nomatch hb⟩
  | ok a => exact hf a (h2 a rfl) t1 h1

theorem Yields.catchTag {m : NRW σ α} (hm : Yields C idm S m P) : Yields C idm S (NRW.catchTag m) (fun r => ∀ a, r = some a → P a) := by
  intro n hn
  obtain ⟨h1, h2⟩ := hm n hn
  unfold NRW.catchTag
  rcases e1 : m n with ⟨r1, t1⟩
  rw [e1] at h1 h2
  cases r1 with
  | ok a => exact ⟨h1, fun r hr b hb => by cases hr; cases hb; exact h2 a rfl⟩
  | error e => cases e <;> refine ⟨h1, fun r hr b hb => ?_⟩ <;> cases hr <;> cases hb

theorem Yields.ite {c : Prop} [Decidable c] {m1 m2 : NRW σ α} (h1 : Yields C idm S m1 P) (h2 : Yields C idm S m2 P) :
    Yields C idm S (if c then m1 else m2) P := by split <;> assumption

theorem Yields.mono {m : NRW σ α} {Q : α → Prop} (h : Yields C idm S m P) (hpq : ∀ a, P a → Q a) : Yields C idm S m Q :=
  fun n hn => ⟨(h n hn).1, fun a ha => hpq a ((h n hn).2 a ha)⟩

variable (C idm)

theorem Yields.readMac (blocks : List Nat) : Yields C idm S (up (readMac C x idm blocks))
    (fun r => ∀ d, r = some d → ∃ rsp, readWithMac C idm (some S) blocks rsp = .ok (some d)) := by
  intro n hn
  refine ⟨(Weak.up (KeepsRd.readMac C x idm blocks)).inSession C idm hn, fun r hr d hd => ?_⟩
  rcases e : AuthHist.readMac C x idm blocks n.st with ⟨r1, s1⟩
  rw [up_apply, e] at hr
  simp only at hr
  rw [hr, hd] at e
  obtain ⟨sess, c, rsp, hsess, _, _, hv, _⟩ := readMac_some C x idm e
  cases hn.2.1.symm.trans hsess
  exact ⟨rsp, hv⟩

theorem Yields.readService (blocks : List Nat) : Yields C idm S (readService C x idm blocks)
    (fun r => ∀ d, r = some d → ∃ rsp, readWithMac C idm (some S) blocks rsp = .ok (some d)) := by
  unfold AuthNdef.readService
  refine .bind .get (fun n hn => ?_)
  rw [if_pos hn.1]
  exact Yields.readMac C x idm blocks

theorem Yields.readData (blocks : List Nat) : Yields C idm S (readData C noneOk x idm blocks)
    (fun r => ∀ d, r = some d → ∃ rsp, readWithMac C idm (some S) blocks rsp = .ok (some d)) := by
  unfold AuthNdef.readData
  refine .bind (.catchTag (Yields.readService C x idm blocks)) (fun r hr => ?_)
  match r, hr with
  | none, _ => exact .pure_none
  | some none, _ => exact .ite .pure_none (.fail _)
  | some (some d), hr => exact .pure (fun d' hd' => by cases hd'; exact hr _ rfl _ rfl)

theorem Yields.readChunks (nbr last : Nat) : ∀ (fuel i : Nat) (acc : Bytes), Yields C idm S (readChunks C noneOk x idm nbr last fuel i acc)
    (fun r => ∀ d, r = some d → ∃ chunks : List Bytes, (∀ c ∈ chunks, Chunk C idm S c) ∧ d = acc ++ chunks.flatten)
  | 0, _, acc => .pure (fun d hd => by cases hd; exact ⟨[], fun _ h => (nomatch h), by simp⟩)
  | fuel + 1, i, acc => by
    unfold AuthNdef.readChunks
    refine .ite (.pure (fun d hd => by cases hd; exact ⟨[], fun _ h => (nomatch h), by simp⟩))
      (.bind (Yields.readData C noneOk x idm _) (fun r hr => ?_))
    match r, hr with
    | none, _ => exact .pure_none
    | some c0, hr =>
      refine (Yields.readChunks nbr last fuel _ _).mono (fun r h d hd => ?_)
      obtain ⟨chunks, hch, e⟩ := h d hd
      refine ⟨c0 :: chunks, fun c hc => ?_, by rw [e]; simp⟩
      rcases List.mem_cons.mp hc with rfl | hc
      · exact ⟨_, hr _ rfl⟩
      · exact hch c hc

theorem Yields.readAttr (liteS : Bool) : Yields C idm S (readAttr C noneOk x idm liteS)
    (fun r => ∀ a, r = some a →
      ∃ ab rsp0 a0, readWithMac C idm (some S) [0] rsp0 = .ok (some ab) ∧ parseAttr ab = some a0 ∧ a.ln = a0.ln) := by
  unfold AuthNdef.readAttr
  refine .bind (Yields.readData C noneOk x idm [0]) (fun d hd => ?_)
  match d, hd with
  | none, _ => exact .pure_none
  | some ab, hd =>
    obtain ⟨rsp0, hv0⟩ := hd _ rfl
    simp only
    cases hp : parseAttr ab with
    | none => exact .pure_none
    | some a0 =>
      have hres : ∀ a : Attr, a.ln = a0.ln → ∀ a', some a = some a' →
          ∃ ab rsp0 a0, readWithMac C idm (some S) [0] rsp0 = .ok (some ab) ∧ parseAttr ab = some a0 ∧ a'.ln = a0.ln :=
        fun a hln a' ha' => by cases ha'; exact ⟨ab, rsp0, a0, hv0, hp, hln⟩
      refine .bind .get (fun n _ => .ite (.bind (.of_weak ?_) (fun _ _ => .pure (hres _ rfl))) (.pure (hres _ rfl)))
      exact Weak.ite (Weak.bind (Weak.up (KeepsRd.readPlain x idm _)) (fun _ => Weak.pure _)) (Weak.pure _)

/-- `_read_ndef_data` while the NDEF read service is `read_with_mac` under the session `S`: what
it returns is `VerifiedNdef` under `S` -/
theorem Yields.fetch (liteS : Bool) : Yields C idm S (fetch C noneOk x idm liteS) (fun r => ∀ d, r = some d → VerifiedNdef C idm S d) := by
  unfold AuthNdef.fetch
  refine .bind .get (fun n _ => .bind (.of_weak ?_) (fun ok _ => .ite .pure_none
    (.bind (Yields.readAttr C noneOk x idm liteS) (fun a ha => ?_))))
  · exact Weak.ite (Weak.pure _) (Weak.bind (Weak.catchTag (Weak.pollNdef x idm)) (fun _ => Weak.pure _))
  · match a, ha with
    | none, _ => exact .pure_none
    | some a, ha =>
      obtain ⟨ab, rsp0, a0, hv0, hp, hln⟩ := ha _ rfl
      simp only
      refine .ite .pure_none (.ite .pure_none (.ite .pure_none (.bind (Yields.readChunks C noneOk x idm _ _ _ _ _) (fun dd hdd => ?_))))
      match dd, hdd with
      | none, _ => exact .pure_none
      | some dd, hdd =>
        obtain ⟨chunks, hch, e⟩ := hdd _ rfl
        exact .pure (fun d hd => by cases hd; exact ⟨ab, rsp0, a0, chunks, hv0, hp, hch, by rw [e, hln]; simp⟩)

/-- `tag.ndef` in the session `S`: the cached object, verified when it was cached, or what a fetch delivers now -/
theorem Yields.ndefProp (liteS : Bool) :
    Yields C idm S (ndefProp C noneOk x idm liteS) (fun r => ∀ d, r = some d → VerifiedNdef C idm S d) := by
  unfold AuthNdef.ndefProp
  refine .bind .get (fun n hn => ?_)
  cases hc : n.ndef with
  | some d0 => exact .pure (fun d hd => by cases hd; exact hn.2.2 _ hc)
  | none => exact .bind (Yields.fetch C noneOk x idm liteS) (fun d hd => .bind (.setNdef hd) (fun _ _ => .pure hd))

theorem Yields.hasChanged (liteS : Bool) : Yields C idm S (hasChanged C noneOk x idm liteS) (fun _ => True) := by
  unfold AuthNdef.hasChanged
  refine .bind (Yields.ndefProp C noneOk x idm liteS) (fun o _ => ?_)
  cases o with
  | none => exact .pure trivial
  | some old => exact .bind (Yields.fetch C noneOk x idm liteS) (fun d hd => .bind (.setNdef hd) (fun _ _ => .pure trivial))

end Yields

/-- calls that neither start an authentication nor contain one -/
def Quiet : NOp σ → Prop
  | .ndef => True
  | .changed => True
  | .format _ => True
  | .low (.readMac _) => True
  | .low (.writeMac _ _) => True
  | .low (.readPlain _) => True
  | .low (.writePlain _ _) => True
  | .low (.world _) => True
  | _ => False

theorem KeepsRd.step_quiet {liteS : Bool} {op : Op σ} (hq : Quiet (NOp.low op)) : KeepsRd (step C forget x idm liteS op) := by
  cases op with
  | auth pw rc => cases hq
  | protect pw rp pf rc => cases hq
  | readMac blocks => exact KeepsRd.bind (KeepsRd.readMac C x idm blocks) (fun _ => KeepsRd.pure _)
  | writeMac data b =>
    simp only [step]
    split
    · exact KeepsRd.bind (KeepsRd.writeMac C x idm data b) (fun _ => KeepsRd.pure _)
    · exact KeepsRd.lift _
  | readPlain blocks => exact KeepsRd.bind (KeepsRd.readPlain x idm blocks) (fun _ => KeepsRd.pure _)
  | writePlain data b => exact KeepsRd.bind (KeepsRd.writePlain x idm data b) (fun _ => KeepsRd.pure _)
  | world f => intro s; rfl

theorem nstep_inSession {liteS : Bool} {S : Session} {op : NOp σ} {n : NSt σ} (hq : Quiet op) (hj : InSession C idm S n) :
    InSession C idm S (nstep C forget noneOk x idm liteS op n).2 := by
  cases op with
  | auth pw rc => cases hq
  | protect pw rp pf rc => cases hq
  | ndef => exact ((Yields.ndefProp C noneOk x idm liteS).bind (Q := fun _ => True) (fun _ _ => .pure trivial) n hj).1
  | changed => exact ((Yields.hasChanged C noneOk x idm liteS).bind (Q := fun _ => True) (fun _ _ => .pure trivial) n hj).1
  | format wipe => exact (Weak.bind (Weak.format x idm wipe) (fun _ => Weak.pure _)).inSession C idm hj
  | low op => exact (Weak.bind (Weak.up (KeepsRd.step_quiet C forget x idm hq)) (fun _ => Weak.pure _)).inSession C idm hj

theorem nrun_nil (liteS : Bool) (n : NSt σ) : nrun C forget noneOk x idm liteS [] n = ([], n) := rfl

theorem nrun_cons (liteS : Bool) (op : NOp σ) (ops : List (NOp σ)) (n : NSt σ) :
    nrun C forget noneOk x idm liteS (op :: ops) n =
      ((nstep C forget noneOk x idm liteS op n).1 :: (nrun C forget noneOk x idm liteS ops (nstep C forget noneOk x idm liteS op n).2).1,
       (nrun C forget noneOk x idm liteS ops (nstep C forget noneOk x idm liteS op n).2).2) := rfl

theorem nrun_eq_scan (liteS : Bool) (ops : List (NOp σ)) (n : NSt σ) :
    nrun C forget noneOk x idm liteS ops n = scan (nstep C forget noneOk x idm liteS) ops n := by
  induction ops generalizing n with
  | nil => rfl
  | cons op ops ih => rw [nrun_cons, ih]; rfl

theorem nrun_at {liteS : Bool} {pre post : List (NOp σ)} {op : NOp σ} {n : NSt σ} {r : Py NRes}
    (h : (nrun C forget noneOk x idm liteS (pre ++ op :: post) n).1[pre.length]? = some r) :
    nstep C forget noneOk x idm liteS op (nrun C forget noneOk x idm liteS pre n).2
      = (r, (nrun C forget noneOk x idm liteS (pre ++ [op]) n).2) := by
  simp only [nrun_eq_scan] at h ⊢
  exact scan_at h

theorem nrun_append_state (liteS : Bool) (ops1 ops2 : List (NOp σ)) (n : NSt σ) :
    (nrun C forget noneOk x idm liteS (ops1 ++ ops2) n).2
      = (nrun C forget noneOk x idm liteS ops2 (nrun C forget noneOk x idm liteS ops1 n).2).2 := by
  simp only [nrun_eq_scan]
  exact scan_append_state _ ops1 ops2 n

theorem nrun_inSession (liteS : Bool) (S : Session) (mid : List (NOp σ)) (hq : ∀ op ∈ mid, Quiet op) (n : NSt σ) (hj : InSession C idm S n) :
    InSession C idm S (nrun C forget noneOk x idm liteS mid n).2 := by
  induction mid generalizing n with
  | nil => exact hj
  | cons op ops ih =>
    rw [nrun_cons]
    exact ih (fun o ho => hq o (List.mem_cons_of_mem _ ho)) _ (nstep_inSession C forget noneOk x idm (hq op (List.mem_cons_self ..)) hj)

end

end NfcVerif.AuthNdef

namespace NfcVerif.TagCache
open NfcVerif

theorem crun_eq_scan (ops : List COp) (c : Option Bytes) : crun ops c = AuthHist.scan (fun op c => cstep c op) ops c := by
  induction ops generalizing c with
  | nil => rfl
  | cons op ops ih => rw [crun, ih]; rfl

end NfcVerif.TagCache
