import NfcVerif.Model.Sense
/-!
# Lemmas about the model of `sense()/listen()/exchange()` (C18)

`LoopSpec order single V s r s'`: the events appended between `s` and `s'` are driver calls and sleeps
and follow `order` (prefix; all of it when nothing was found), a returned target is the product of
the LAST driver call and no earlier call produced an acceptable target, errors are device errors
(or, for a single target, the target's own error: UnsupportedTargetError, or ValueError when `V`),
`self.target` is the returned target.  `sense`, its loops and `senseOne` are walked once, for this.
`ListenPost t s r`: what one `listen()` call adds to the log, its fresh target, its exceptions.
-/
namespace NfcVerif.Clf

/-- a driver call that produced a target `sense()` accepts -/
def validFind : Ev → Bool
  | .call .senseA (.found f) => (checkTta f).toBool
  | .call .senseB (.found _) => true
  | .call .senseF (.found _) => true
  | .call .senseDep (.found _) => true
  | _ => false

def sitesOf : List Ev → List Site
  | [] => []
  | .call s _ :: r => s :: sitesOf r
  | _ :: r => sitesOf r

@[simp] theorem sitesOf_append (a b : List Ev) : sitesOf (a ++ b) = sitesOf a ++ sitesOf b := by
  induction a with
  | nil => rfl
  | cons e r ih => cases e <;> simp [sitesOf, ih]

def Ev.neutral : Ev → Bool
  | .call _ _ | .sleep => true
  | _ => false

/-- the driver call a target leads to (none for a target refused by the argument checks) -/
def reach1 : TgtSpec → List Site
  | .dep n => if n < 16 then [] else if n > 64 then [] else [.senseDep]
  | .a n => if n ≠ 0 ∧ n ≠ 4 ∧ n ≠ 7 ∧ n ≠ 10 then [] else [.senseA]
  | .b => [.senseB]
  | .f => [.senseF]
  | _ => []

theorem ask_spec (s : St) (site : Site) :
    ∃ a, s.ask site = (a, { s with env := s.env.tail, n := s.n + 1, log := s.log ++ [.call site a] }) := by
  unfold St.ask
  cases h : s.env with
  | nil => exact ⟨.nothing, by simp⟩
  | cons a r => exact ⟨a, by simp⟩

/-- the errors of a target itself: UnsupportedTargetError, or (`V`: when it is refused for its
arguments) ValueError -/
def TgtErr (V : Prop) (e : Exc) : Prop := e = .unsupportedTarget ∨ (e = .value ∧ V)

theorem TgtErr.targetErr {V : Prop} {e : Exc} (h : TgtErr V e) : isTargetErr e = true := by
  rcases h with rfl | ⟨rfl, _⟩ <;> rfl

theorem TgtErr.of_targetErr {V : Prop} {e : Exc} (h : isTargetErr e = true) (v : V) : TgtErr V e := by
  cases e <;> simp [isTargetErr] at h
  · exact Or.inr ⟨rfl, v⟩
  · exact Or.inl rfl

theorem isTargetErr_of_comm {e : Exc} (h : isCommErr e = true) : isTargetErr e = false := by
  cases e <;> first | rfl | cases h

/-- what `senseOne t` does between `s` and `s'`: the driver calls `reach1 t` (one or none) and nothing else -/
structure OneSpec (t : TgtSpec) (s : St) (r : Py (Option (Nat × Found))) (s' : St) : Prop where
  seg : ∃ seg, s'.log = s.log ++ seg ∧ (∀ e ∈ seg, e.neutral = true) ∧ sitesOf seg = reach1 t ∧ s'.n = s.n + seg.length ∧
    (∀ x, r = .ok (some x) → ∃ e, seg = [e] ∧ validFind e = true ∧ x.1 + 1 = s'.n) ∧
    ((∀ x, r ≠ .ok (some x)) → ∀ e ∈ seg, validFind e = false)
  tgt : s'.target = s.target
  err : ∀ e, r = .error e → e = .io 5 ∨ e = .keyboardInterrupt ∨ TgtErr (reach1 t = []) e ∨ isCommErr e = true

theorem checkTta_cases (f : Found) : checkTta f = .ok () ∨ checkTta f = .error .protocol := by
  unfold checkTta
  repeat' split
  all_goals first | exact Or.inl rfl | exact Or.inr rfl

@[simp] theorem checkTta_stamp (f : Found) (p : Bool) (t : Nat) :
    checkTta { sens := f.sens, rid := f.rid, p2p := p, atrLen := f.atrLen, var := f.var, tech := t } = checkTta f := rfl

@[simp] theorem xchgAnswer_snd (a : Ans) (s : St) : (xchgAnswer a s).2 = s := by
  cases a <;> rfl

theorem drvSense_eq (site : Site) (s : St) : ∃ a, s.ask site = (a, { s with env := s.env.tail, n := s.n + 1, log := s.log ++ [.call site a] }) := ask_spec s site

theorem validFind_not_found (site : Site) (a : Ans) (h : ∀ f, a ≠ .found f) : validFind (.call site a) = false := by
  unfold validFind
  split <;> simp_all

/-- a returned target is the `found` answer with a stamp, which `checkTta` does not see -/
theorem drvSense_spec (site : Site) (s : St) : ∃ a,
    (drvSense site s).2 = { s with env := s.env.tail, n := s.n + 1, log := s.log ++ [.call site a] } ∧
    ((∃ f f', a = .found f ∧ (drvSense site s).1 = .ok (some (s.n, f')) ∧ checkTta f' = checkTta f) ∨
     ((∀ f, a ≠ .found f) ∧ (∀ x, (drvSense site s).1 ≠ .ok (some x)) ∧
       ∀ e, (drvSense site s).1 = .error e →
         e = .io 5 ∨ e = .keyboardInterrupt ∨ e = .unsupportedTarget ∨ isCommErr e = true)) := by
  obtain ⟨a, ha⟩ := ask_spec s site
  refine ⟨a, ?_⟩
  simp only [drvSense, ha]
  cases a with
  | found f =>
    refine ⟨rfl, Or.inl ⟨f, _, rfl, rfl, ?_⟩⟩
    split <;> rfl
  | _ => simp [isCommErr]

theorem OneSpec.refuse {t : TgtSpec} (s : St) {e : Exc} (hr : reach1 t = []) (he : isTargetErr e = true) :
    OneSpec t s (.error e) s :=
  ⟨⟨[], by simp, by simp, by rw [hr]; rfl, rfl, fun x h => (by cases h), fun _ e h => (by cases h)⟩, rfl,
    fun e' h => by cases h; exact Or.inr (Or.inr (Or.inl (.of_targetErr he hr)))⟩

theorem OneSpec.call {t : TgtSpec} {site : Site} {s : St} {a : Ans} {r : Py (Option (Nat × Found))}
    (hr : reach1 t = [site])
    (hsome : ∀ x, r = .ok (some x) → validFind (.call site a) = true ∧ x.1 = s.n)
    (hnone : (∀ x, r ≠ .ok (some x)) → validFind (.call site a) = false)
    (herr : ∀ e, r = .error e → e = .io 5 ∨ e = .keyboardInterrupt ∨ e = .unsupportedTarget ∨ isCommErr e = true) :
    OneSpec t s r { s with env := s.env.tail, n := s.n + 1, log := s.log ++ [.call site a] } :=
  ⟨⟨[.call site a], rfl, by simp [Ev.neutral], by rw [hr]; rfl, rfl,
    fun x hx => ⟨_, rfl, (hsome x hx).1, by rw [(hsome x hx).2]⟩,
    fun h e he => by rw [List.mem_singleton.mp he]; exact hnone h⟩, rfl,
    fun e he => (herr e he).imp_right (Or.imp_right (Or.imp_left Or.inl))⟩

theorem OneSpec.drv {t : TgtSpec} {site : Site} (s : St) (hr : reach1 t = [site])
    (hv : ∀ f, validFind (.call site (.found f)) = true) :
    OneSpec t s (drvSense site s).1 (drvSense site s).2 := by
  obtain ⟨a, hs, h⟩ := drvSense_spec site s
  rw [hs]
  rcases h with ⟨f, f', rfl, hres, _⟩ | ⟨hnf, hns, herr⟩
  · rw [hres]
    exact OneSpec.call hr (fun x hx => by cases hx; exact ⟨hv f, rfl⟩) (fun h => absurd rfl (h _))
      (fun e he => by cases he)
  · exact OneSpec.call hr (fun x hx => absurd hx (hns x)) (fun _ => validFind_not_found _ _ hnf) herr

theorem senseOne_spec (t : TgtSpec) (s : St) (ht : t ≠ .notTarget) : OneSpec t s (senseOne t s).1 (senseOne t s).2 := by
  cases t with
  | dep n =>
    simp only [senseOne]
    by_cases h1 : n < 16
    · rw [if_pos h1]
      exact OneSpec.refuse s (by simp [reach1, h1]) rfl
    by_cases h2 : n > 64
    · rw [if_neg h1, if_pos h2]
      exact OneSpec.refuse s (by simp [reach1, h2]) rfl
    rw [if_neg h1, if_neg h2]
    exact OneSpec.drv s (by simp [reach1, h1, h2]) (fun _ => rfl)
  | a n =>
    simp only [senseOne]
    by_cases h1 : n ≠ 0 ∧ n ≠ 4 ∧ n ≠ 7 ∧ n ≠ 10
    · rw [if_pos h1]
      exact OneSpec.refuse s (by simp [reach1, h1]) rfl
    rw [if_neg h1]
    have hr : reach1 (.a n) = [.senseA] := by simp [reach1, h1]
    -- the nested response checks turn an unacceptable answer into a ProtocolError
    obtain ⟨a, hs, h⟩ := drvSense_spec .senseA s
    rcases hd : drvSense .senseA s with ⟨r, s1⟩
    rw [hd] at hs h
    subst hs
    rcases h with ⟨f, f', rfl, rfl, hck⟩ | ⟨hnf, hns, herr⟩
    · simp only
      have hv : validFind (.call .senseA (.found f)) = (checkTta f').toBool := by rw [hck]; rfl
      rcases checkTta_cases f' with hc | hc <;> rw [hc] at hv ⊢
      · exact OneSpec.call hr (fun x hx => by cases hx; exact ⟨hv, rfl⟩) (fun h => absurd rfl (h _))
          (fun e he => by cases he)
      · exact OneSpec.call hr (fun x hx => by cases hx) (fun _ => hv)
          (fun e he => by cases he; simp [isCommErr])
    · have hno := validFind_not_found .senseA a hnf
      cases r with
      | error e => exact OneSpec.call hr (fun x hx => by cases hx) (fun _ => hno) herr
      | ok o =>
        cases o with
        | none => exact OneSpec.call hr (fun x hx => by cases hx) (fun _ => hno) herr
        | some x => exact absurd rfl (hns x)
  | b => exact OneSpec.drv s rfl (fun _ => rfl)
  | f => exact OneSpec.drv s rfl (fun _ => rfl)
  | unknown => exact OneSpec.refuse s rfl rfl
  | notTarget => exact absurd rfl ht

def reach (tl : List TgtSpec) : List Site := tl.flatMap reach1

/-- the clauses of `LoopSpec` about the appended events, for a given list `seg` of them -/
structure LoopSeg (order : List Site) (s : St) (r : Py (Option (Nat × Found))) (s' : St) (seg : List Ev) : Prop where
  log : s'.log = s.log ++ seg
  calls : ∀ e ∈ seg, e.neutral = true
  sites : sitesOf seg <+: order
  full : r = .ok none → sitesOf seg = order
  count : s.n ≤ s'.n
  last : ∀ x, r = .ok (some x) → ∃ pre e, seg = pre ++ [e] ∧ validFind e = true ∧ ∀ y ∈ pre, validFind y = false
  fresh : ∀ x, r = .ok (some x) → x.1 + 1 = s'.n ∧ s.n ≤ x.1 ∧ s'.target = .remote x.1
  notFound : (∀ x, r ≠ .ok (some x)) → (∀ e ∈ seg, validFind e = false) ∧ s'.target = s.target

structure LoopSpec (order : List Site) (single : Bool) (V : Prop) (s : St) (r : Py (Option (Nat × Found))) (s' : St) :
    Prop where
  seg : ∃ seg, LoopSeg order s r s' seg
  err : ∀ e, r = .error e → e = .io 5 ∨ e = .keyboardInterrupt ∨ (single = true ∧ TgtErr V e)

theorem LoopSpec.prepend {o1 o2 : List Site} {single : Bool} {V : Prop} {s s1 s' : St} {r : Py (Option (Nat × Found))}
    (seg1 : List Ev) (hlog : s1.log = s.log ++ seg1) (hc : ∀ e ∈ seg1, e.neutral = true) (hs : sitesOf seg1 = o1)
    (hn : s.n ≤ s1.n) (hv : ∀ e ∈ seg1, validFind e = false) (ht : s1.target = s.target)
    (h : LoopSpec o2 single V s1 r s') : LoopSpec (o1 ++ o2) single V s r s' := by
  obtain ⟨⟨seg2, h⟩, herr⟩ := h
  refine ⟨⟨seg1 ++ seg2, ?_⟩, herr⟩
  exact {
    log := by rw [h.log, hlog, List.append_assoc]
    calls := List.forall_mem_append.mpr ⟨hc, h.calls⟩
    sites := by rw [sitesOf_append, hs]; exact (List.prefix_append_right_inj o1).mpr h.sites
    full := fun hr => by rw [sitesOf_append, hs, h.full hr]
    count := Nat.le_trans hn h.count
    last := fun x hx => by
      obtain ⟨pre, e, hp, hve, hpre⟩ := h.last x hx
      exact ⟨seg1 ++ pre, e, by rw [hp, List.append_assoc], hve, List.forall_mem_append.mpr ⟨hv, hpre⟩⟩
    fresh := fun x hx => ⟨(h.fresh x hx).1, Nat.le_trans hn (h.fresh x hx).2.1, (h.fresh x hx).2.2⟩
    notFound := fun hx => ⟨List.forall_mem_append.mpr ⟨hv, (h.notFound hx).1⟩, by rw [(h.notFound hx).2, ht]⟩ }

theorem LoopSpec.done_none (single : Bool) (V : Prop) (s : St) : LoopSpec [] single V s (.ok none) s :=
  ⟨⟨[], by simp, by simp, by simp [sitesOf], by simp [sitesOf], Nat.le_refl _, by simp, by simp, by simp⟩, by simp⟩

/-- stopping early with an error after a segment without a valid find -/
theorem LoopSpec.stop_err {order : List Site} {single : Bool} {V : Prop} {s s1 : St} (e : Exc) (seg1 : List Ev)
    (hlog : s1.log = s.log ++ seg1) (hc : ∀ e ∈ seg1, e.neutral = true) (hs : sitesOf seg1 <+: order) (hn : s.n ≤ s1.n)
    (hv : ∀ e ∈ seg1, validFind e = false) (ht : s1.target = s.target)
    (he : e = .io 5 ∨ e = .keyboardInterrupt ∨ (single = true ∧ TgtErr V e)) :
    LoopSpec order single V s (.error e) s1 :=
  ⟨⟨seg1, hlog, hc, hs, by simp, hn, by simp, by simp, fun _ => ⟨hv, ht⟩⟩, by intro e' h; cases h; exact he⟩

theorem senseTargets_spec (single : Bool) (tl : List TgtSpec) (s : St) (hnt : ∀ t ∈ tl, t ≠ .notTarget) {V : Prop}
    (hV : ∀ t ∈ tl, reach1 t = [] → V) :
    LoopSpec (reach tl) single V s (senseTargets single tl s).1 (senseTargets single tl s).2 := by
  induction tl generalizing s with
  | nil => exact LoopSpec.done_none single V s
  | cons t rest ih =>
    have h1 := senseOne_spec t s (hnt t (by simp))
    have ih' := fun s => ih s (fun t ht => hnt t (by simp [ht])) (fun t ht => hV t (by simp [ht]))
    obtain ⟨⟨seg1, hlog, hcall, hsites, hn, hsome, hnone⟩, htgt, herr⟩ := h1
    have hreach : reach (t :: rest) = reach1 t ++ reach rest := by simp [reach]
    rw [hreach]
    unfold senseTargets
    rcases hr : senseOne t s with ⟨r1, s1⟩
    rw [hr] at hlog hn hsome hnone htgt herr
    simp only at hlog hn hsome hnone htgt herr
    cases r1 with
    | ok o =>
      cases o with
      | some x =>
        obtain ⟨e, hseg, hve, hid⟩ := hsome x rfl
        subst hseg
        simp only
        refine ⟨⟨[e], by simp [hlog], hcall, ?_, by simp, by simp; omega, ?_, ?_, ?_⟩, by simp⟩
        · rw [hsites]; exact List.prefix_append _ _
        · intro y hy; cases hy
          exact ⟨[], e, by simp, hve, by simp⟩
        · intro y hy; cases hy
          exact ⟨by simpa using hid, by simp at hn hid ⊢; omega, rfl⟩
        · intro hx; exact absurd rfl (hx x)
      | none =>
        simp only
        exact LoopSpec.prepend seg1 hlog hcall hsites (by omega) (hnone (by simp)) htgt (ih' s1)
    | error e =>
      have hv := hnone (by simp)
      simp only
      have stop := LoopSpec.stop_err (order := reach1 t ++ reach rest) (single := single) (V := V) e seg1 hlog hcall
        (by rw [hsites]; exact List.prefix_append _ _) (by omega) hv htgt
      have go := LoopSpec.prepend seg1 hlog hcall hsites (by omega) hv htgt (ih' s1)
      rcases herr e rfl with h | h | h | h
      · subst h; exact stop (Or.inl rfl)
      · subst h; exact stop (Or.inr (Or.inl rfl))
      · rw [if_pos h.targetErr]
        cases single with
        | true => exact stop (Or.inr (Or.inr ⟨rfl, h.imp_right (And.imp_right (hV t (by simp)))⟩))
        | false => exact go
      · rw [if_neg (by simp [isTargetErr_of_comm h]), if_pos h]; exact go

theorem raises_cases (a : Ans) (e : Exc) (h : a.raises = some e) : e = .io 5 ∨ e = .keyboardInterrupt := by
  cases a <;> simp [Ans.raises] at h <;> simp [← h]

theorem simpleCall_spec (site : Site) (s : St) :
    ∃ a, (simpleCall site s).2 = { s with env := s.env.tail, n := s.n + 1, log := s.log ++ [.call site a] } ∧
      (simpleCall site s).1 = (match a.raises with | some e => .error e | none => .ok ()) := by
  obtain ⟨a, ha⟩ := ask_spec s site
  refine ⟨a, ?_, ?_⟩ <;> simp only [simpleCall, ha] <;> cases a.raises <;> rfl

/-- a call that returns nothing (`mute`), then `k`: a device error of the call ends `sense()` -/
theorem LoopSpec.after_call {o : List Site} {single : Bool} {V : Prop} (site : Site)
    (hv : ∀ a, validFind (.call site a) = false) (s : St) {k : St → R (Option (Nat × Found))}
    (h : ∀ s2, LoopSpec o single V s2 (k s2).1 (k s2).2) :
    LoopSpec (site :: o) single V s
      (match simpleCall site s with | (.error e, s1) => ((.error e, s1) : R _) | (.ok _, s1) => k s1).1
      (match simpleCall site s with | (.error e, s1) => ((.error e, s1) : R _) | (.ok _, s1) => k s1).2 := by
  obtain ⟨a, hs2, hr2⟩ := simpleCall_spec site s
  rcases hm : simpleCall site s with ⟨r2, s2⟩
  rw [hm] at hs2 hr2
  simp only at hs2 hr2
  cases hra : a.raises with
  | some e =>
    rw [hra] at hr2; subst hr2
    exact LoopSpec.stop_err e [.call site a] (by simp [hs2]) (by simp [Ev.neutral]) (by simp [sitesOf])
      (by simp [hs2]) (by simpa using hv a) (by simp [hs2]) (by rcases raises_cases a e hra with h | h <;> simp [h])
  | none =>
    rw [hra] at hr2; subst hr2
    exact LoopSpec.prepend (o1 := [site]) [.call site a] (by simp [hs2]) (by simp [Ev.neutral]) rfl (by simp [hs2])
      (by simpa using hv a) (by simp [hs2]) (h s2)

theorem LoopSpec.weaken {o1 : List Site} (o2 : List Site) {single : Bool} {V : Prop} {s s' : St}
    {r : Py (Option (Nat × Found))} (h : LoopSpec o1 single V s r s') (hr : r ≠ .ok none) :
    LoopSpec (o1 ++ o2) single V s r s' := by
  obtain ⟨⟨seg, h⟩, herr⟩ := h
  exact ⟨⟨seg, { h with sites := h.sites.trans (List.prefix_append _ _), full := fun h' => absurd h' hr }⟩, herr⟩

/-- one iteration: the targets that reach the driver, then `mute` (unless no target was given) -/
def iterOrder (tl : List TgtSpec) : List Site := reach tl ++ (if tl.isEmpty then [] else [.mute])
def callOrder (tl : List TgtSpec) (k : Nat) : List Site := (List.replicate k (iterOrder tl)).flatten

theorem callOrder_succ (tl : List TgtSpec) (k : Nat) : callOrder tl (k + 1) = iterOrder tl ++ callOrder tl k := by
  simp [callOrder, List.replicate_succ]

theorem senseIters_spec (single : Bool) (tl : List TgtSpec) (k : Nat) (s : St) (hnt : ∀ t ∈ tl, t ≠ .notTarget)
    {V : Prop} (hV : ∀ t ∈ tl, reach1 t = [] → V) :
    LoopSpec (callOrder tl k) single V s (senseIters tl single k s).1 (senseIters tl single k s).2 := by
  induction k generalizing s with
  | zero => exact LoopSpec.done_none single V s
  | succ k ih =>
    have h1 := senseTargets_spec single tl s hnt hV
    rw [callOrder_succ]
    unfold senseIters
    rcases hr : senseTargets single tl s with ⟨r1, s1⟩
    rw [hr] at h1
    simp only at h1
    -- an error or a find ends the call inside this iteration
    have stop : r1 ≠ .ok none → LoopSpec (iterOrder tl ++ callOrder tl k) single V s r1 s1 := fun hr => by
      simpa [iterOrder, List.append_assoc] using
        h1.weaken ((if tl.isEmpty then [] else [.mute]) ++ callOrder tl k) hr
    cases r1 with
    | error e => exact stop (by simp)
    | ok o =>
      cases o with
      | some x => exact stop (by simp)
      | none =>
        simp only
        obtain ⟨⟨seg1, h1⟩, _⟩ := h1
        obtain ⟨hv, htg⟩ := h1.notFound (by simp)
        have hs1 := h1.full rfl
        -- the sleep before the next iteration is no driver call
        have next : ∀ s2 : St, LoopSpec (callOrder tl k) single V s2
            (senseIters tl single k (if k = 0 then s2 else s2.emit .sleep)).1
            (senseIters tl single k (if k = 0 then s2 else s2.emit .sleep)).2 := by
          intro s2
          by_cases hk : k = 0
          · rw [if_pos hk]; exact ih s2
          · rw [if_neg hk]
            exact LoopSpec.prepend (s1 := s2.emit .sleep) [.sleep] rfl (by simp [Ev.neutral]) rfl (Nat.le_refl _)
              (by simp [validFind]) rfl (ih _)
        by_cases hemp : tl.isEmpty = true
        · simp only [hemp, if_true]
          have hi : iterOrder tl = reach tl := by simp [iterOrder, hemp]
          rw [hi]
          exact LoopSpec.prepend seg1 h1.log h1.calls hs1 h1.count hv htg (next s1)
        · simp only [hemp]
          have hi : iterOrder tl = reach tl ++ [.mute] := by simp [iterOrder, hemp]
          rw [hi, List.append_assoc]
          exact LoopSpec.prepend seg1 h1.log h1.calls hs1 h1.count hv htg (LoopSpec.after_call .mute (fun _ => rfl) s1 next)

/-- the whole call order of `sense()` -/
def senseOrder (tl : List TgtSpec) (iters : Int) : List Site := .mute :: callOrder tl (max 1 iters).toNat

theorem sense_spec (tl : List TgtSpec) (iters : Int) (s : St) (hnt : tl.any (· == .notTarget) = false) :
    LoopSpec (senseOrder tl iters) (tl.length == 1) (∃ t ∈ tl, reach1 t = []) { s with target := .none }
      (sense tl iters s).1 (sense tl iters s).2 := by
  have hnt' : ∀ t ∈ tl, t ≠ .notTarget := by
    intro t ht h; subst h
    have : tl.any (· == .notTarget) = true := List.any_eq_true.mpr ⟨_, ht, by simp⟩
    rw [hnt] at this; cases this
  unfold sense
  simp only [hnt, Bool.false_eq_true, if_false]
  exact LoopSpec.after_call .mute (fun _ => rfl) _ fun s2 => senseIters_spec _ tl _ s2 hnt' fun t ht h => ⟨t, ht, h⟩

theorem simpleCall_err (site : Site) (s : St) (e : Exc) (h : (simpleCall site s).1 = .error e) :
    e = .io 5 ∨ e = .keyboardInterrupt := by
  obtain ⟨a, _, h2⟩ := simpleCall_spec site s
  rw [h2] at h
  cases hr : a.raises with
  | none => rw [hr] at h; cases h
  | some e' => rw [hr] at h; cases h; exact raises_cases a e hr

def ListenErr (t : LtSpec) (e : Exc) : Prop :=
  e = .io 5 ∨ e = .keyboardInterrupt ∨ e = .unsupportedTarget ∨ e = .brokenLink ∨ (e = .value ∧ t = .other)

theorem drvListen_spec (site : Site) (s : St) : ∃ a,
    (drvListen site s).2 = { s with env := s.env.tail, n := s.n + 1, log := s.log ++ [.call site a] } ∧
    (∀ x, (drvListen site s).1 = .ok (some x) → x.1 = s.n) ∧
    ∀ e t, (drvListen site s).1 = .error e → ListenErr t e := by
  obtain ⟨a, ha⟩ := ask_spec s site
  refine ⟨a, ?_⟩
  simp only [drvListen, ha, ListenErr]
  cases a <;> simp <;> (intro e _ h; subst h; simp)

/-- what `listen()` leaves behind, for a call started in `s` that ended with result and state `r` -/
def ListenPost (t : LtSpec) (s : St) (r : R (Option (Nat × Found))) : Prop :=
  (∃ a rest, r.2.log = s.log ++ .call .mute a :: rest ∧ (rest = [] ∨ ∃ site b, rest = [.call site b])) ∧
  (∀ x, r.1 = .ok (some x) → r.2.target = .loc x.1 ∧ s.n ≤ x.1 ∧ x.1 < r.2.n) ∧
  ((∀ x, r.1 ≠ .ok (some x)) → r.2.target = .none) ∧
  ∀ e, r.1 = .error e → ListenErr t e

theorem ListenPost.none {t : LtSpec} {s : St} {r : Py (Option (Nat × Found))} {s' : St} {a : Ans} {rest : List Ev}
    (hlog : s'.log = s.log ++ .call .mute a :: rest) (hrest : rest = [] ∨ ∃ site b, rest = [.call site b])
    (ht : s'.target = .none)
    (hr : ∀ x, r ≠ .ok (some x)) (he : ∀ e, r = .error e → ListenErr t e) : ListenPost t s (r, s') :=
  ⟨⟨a, rest, hlog, hrest⟩, fun x hx => absurd hx (hr x), fun _ => ht, he⟩

theorem ListenPost.some {t : LtSpec} {s s' : St} {id : Nat} {f : Found} {a : Ans} {rest : List Ev}
    (hlog : s'.log = s.log ++ .call .mute a :: rest) (hrest : rest = [] ∨ ∃ site b, rest = [.call site b])
    (h1 : s.n ≤ id) (h2 : id < s'.n) :
    ListenPost t s (.ok (some (id, f)), { s' with target := .loc id }) :=
  ⟨⟨a, rest, hlog, hrest⟩, fun x hx => by cases hx; exact ⟨rfl, h1, h2⟩,
    fun h => absurd rfl (h _), fun e he => by cases he⟩

/-- `listen()`: the field is switched off first, `self.target` is forgotten and then is exactly
what this call returns; a returned target is fresh (created by an answer consumed in this call);
it raises device errors, UnsupportedTargetError, the ValueError for an unknown technology, or the
CommunicationError a driver raised inside `listen_*` (F30) -/
theorem listen_spec (t : LtSpec) (s : St) : ListenPost t s (listen t s) := by
  obtain ⟨a, hs2, _⟩ := simpleCall_spec .mute { s with target := .none }
  have hme := simpleCall_err .mute { s with target := .none }
  unfold listen
  rcases hm : simpleCall .mute { s with target := .none } with ⟨r2, s2⟩
  rw [hm] at hs2 hme
  simp only at hs2
  have hlog : s2.log = s.log ++ .call .mute a :: [] := by rw [hs2]
  have hn : s.n ≤ s2.n := by rw [hs2]; exact Nat.le_succ _
  have ht : s2.target = .none := by rw [hs2]
  cases r2 with
  | error e =>
    refine ListenPost.none hlog (Or.inl rfl) ht (fun x hx => by cases hx) (fun e' he' => ?_)
    cases he'
    rcases hme e rfl with h | h
    · exact Or.inl h
    · exact Or.inr (Or.inl h)
  | ok u =>
    simp only
    -- the driver call: one more answer, which is the identity of a target it returns
    have drv : ∀ site, ∃ b, (drvListen site s2).2.log = s.log ++ .call .mute a :: [.call site b] ∧
        (drvListen site s2).2.n = s2.n + 1 ∧ (drvListen site s2).2.target = .none ∧
        (∀ x, (drvListen site s2).1 = .ok (some x) → x.1 = s2.n) ∧
        ∀ e, (drvListen site s2).1 = .error e → ListenErr t e := by
      intro site
      obtain ⟨b, hb, hid, he⟩ := drvListen_spec site s2
      exact ⟨b, by rw [hb, hlog]; simp, by rw [hb], by rw [hb, ht], hid, fun e => he e t⟩
    -- a target the driver returned becomes `self.target` when it is accepted (`listen_dep` checks the ATR_REQ length)
    have found : ∀ site (acc : Found → Prop) [DecidablePred acc], ListenPost t s (match drvListen site s2 with
        | (.ok (some (id, f)), s2) =>
          if acc f then (.ok (some (id, f)), { s2 with target := .loc id }) else (.ok none, s2)
        | r => r) := by
      intro site acc _
      obtain ⟨b, h1, h2, h3, hid, he⟩ := drv site
      generalize drvListen site s2 = p at h1 h2 h3 hid he ⊢
      obtain ⟨r3, s3⟩ := p
      split
      · rename_i id f s3' heq
        cases heq
        have hidx : id = s2.n := hid _ rfl
        subst hidx
        split
        · exact ListenPost.some h1 (Or.inr ⟨_, _, rfl⟩) hn (by simp only at h2; omega)
        · exact ListenPost.none h1 (Or.inr ⟨_, _, rfl⟩) h3 (fun x hx => by cases hx) (fun e he => by cases he)
      · rename_i hne
        exact ListenPost.none h1 (Or.inr ⟨_, _, rfl⟩) h3
          (fun x hx => hne x.1 x.2 s3 (by rw [hx])) he
    cases t with
    | other =>
      exact ListenPost.none hlog (Or.inl rfl) ht (fun x hx => by cases hx)
        (fun e he => by cases he; exact Or.inr (Or.inr (Or.inr (Or.inr ⟨rfl, rfl⟩))))
    | dep => exact found .listenDep fun f => 16 ≤ f.atrLen ∧ f.atrLen ≤ 64
    | a => exact found .listenA fun _ => True
    | b => exact found .listenB fun _ => True
    | f => exact found .listenF fun _ => True

/-- `exchange()` drives the device only with the current target and never changes it -/
theorem exchange_spec (s : St) :
    (exchange s).2.target = s.target ∧
    (match s.target with
     | .none => (exchange s) = (.ok none, s)
     | .remote id => ∃ a, (exchange s).2.log = s.log ++ [.call (.cmdRsp id) a]
     | .loc id => ∃ a, (exchange s).2.log = s.log ++ [.call (.rspCmd id) a]) := by
  unfold exchange
  cases ht : s.target with
  | none => simp [ht]
  | remote id =>
    obtain ⟨a, ha⟩ := ask_spec s (.cmdRsp id)
    simp only [ha, xchgAnswer_snd]
    exact ⟨ht, a, rfl⟩
  | loc id =>
    obtain ⟨a, ha⟩ := ask_spec s (.rspCmd id)
    simp only [ha, xchgAnswer_snd]
    exact ⟨ht, a, rfl⟩

theorem exchange_err (s : St) (e : Exc) (h : (exchange s).1 = .error e) :
    e = .io 5 ∨ e = .keyboardInterrupt ∨ isCommErr e = true := by
  unfold exchange at h
  cases ht : s.target with
  | none => simp [ht] at h
  | remote id =>
    obtain ⟨a, ha⟩ := ask_spec s (.cmdRsp id)
    simp only [ht, ha] at h
    cases a <;> simp [xchgAnswer] at h <;> subst h <;> simp [isCommErr]
  | loc id =>
    obtain ⟨a, ha⟩ := ask_spec s (.rspCmd id)
    simp only [ht, ha] at h
    cases a <;> simp [xchgAnswer] at h <;> subst h <;> simp [isCommErr]

/-- `sense()` raises only device errors, the error of a single target, or the ValueError for an
argument that is not a RemoteTarget -/
theorem sense_err (tl : List TgtSpec) (iters : Int) (s : St) (e : Exc) (h : (sense tl iters s).1 = .error e) :
    e = .io 5 ∨ e = .keyboardInterrupt ∨ e = .unsupportedTarget ∨
      (e = .value ∧ (tl.length = 1 ∨ tl.any (· == .notTarget) = true)) := by
  by_cases hnt : tl.any (· == .notTarget) = true
  · simp only [sense, hnt, if_true] at h
    cases h; exact Or.inr (Or.inr (Or.inr ⟨rfl, Or.inr hnt⟩))
  · obtain ⟨_, herr⟩ := sense_spec tl iters s ((Bool.not_eq_true _).mp hnt)
    rcases herr e h with h1 | h1 | ⟨h1, h2 | ⟨h2, _⟩⟩
    · exact Or.inl h1
    · exact Or.inr (Or.inl h1)
    · exact Or.inr (Or.inr (Or.inl h2))
    · exact Or.inr (Or.inr (Or.inr ⟨h2, Or.inl (by simpa using h1)⟩))

theorem listen_err (t : LtSpec) (s : St) (e : Exc) (h : (listen t s).1 = .error e) :
    e = .io 5 ∨ e = .keyboardInterrupt ∨ e = .unsupportedTarget ∨ e = .brokenLink ∨ (e = .value ∧ t = .other) :=
  (listen_spec t s).2.2.2 e h

end NfcVerif.Clf
