import NfcVerif.Model.IsoDepV2
/-!
# ISO-DEP: the invariant behind C12

One *round* is: the PCD wants the card to take a block `req` and to answer `B`
(an I-block of the command and its R(ACK) / first response block, or an R(ACK) and the
next response block).  `Round.Ok` states what the PICC rules give for the
three kinds of block the PCD sends in that round (`req`, the retry block `rty`, the echo of
an S(WTX) request).  `xchgW_post`/`blockLoop_post` prove, for every fault script, that a
retry loop of `IsoDepInitiator.exchange` either returns exactly `B` with the card having
taken `req` exactly once, or fails with a `Type4TagCommandError` leaving the card before or
after that single step - the generalisation of the spike invariant (A)/(B) of DESIGN C.5
to chaining in both directions, S(WTX) and the retry budgets.  `sendChunks_post`,
`recvChain_post` and `exchangeCmd_post` chain the rounds.

The loops of the repaired initiator (`Model/IsoDepV2.lean`) differ from the as-found ones in the `_exchange` they call
and in two cut-offs, so the loop bodies are stated once, with those as parameters (`loopStep`, `sendStep`, `recvStep`),
over the outcome type `IsoDep2.RxW` of the repaired `_exchange`, into which `RxW.ofRx` embeds the as-found outcomes.
Their `_cases` lemmas say what a pass can do against any card, their `_post` lemmas what it guarantees against the ISO card.
Against the ISO card the way a pass of `sendStep` / `recvStep` takes is fixed once the retry loop has done its round:
`sendStep_iso`, `recvStep_iso` state it as equations (`RecvAt`: the head of the response loop), and the `_post`, `_live`
(`Lemmas/IsoDepLive.lean`) and `_same` (`Lemmas/IsoDepV2Same.lean`) lemmas of the chain loops are inductions over them.
-/
namespace NfcVerif.IsoDep2
open NfcVerif NfcVerif.IsoDep

def RxW.ofRx : Rx → RxW
  | .data b => .data b | .timeout => .timeout | .transmission => .transmission
  | .protocol => .protocol | .fuel => .fuel

def liftW {σ} (r : World σ × Rx) : World σ × RxW := (r.1, RxW.ofRx r.2)

end NfcVerif.IsoDep2

namespace NfcVerif.IsoDep
open NfcVerif
open NfcVerif.IsoDep2 (RxW liftW)

theorem bn_cases {p : Nat} (h : p < 2) : p = 0 ∨ p = 1 := by omega

theorem tog_tog {p : Nat} (h : p < 2) : ((p + 1) % 2 + 1) % 2 = p := by omega
theorem tog_lt (p : Nat) : (p + 1) % 2 < 2 := by omega
theorem tog_ne {p : Nat} (_h : p < 2) : (p + 1) % 2 ≠ p := by omega

/-- the part of the card's state that a round determines: everything but the last block sent (`last`) and the block
held back behind S(WTX) requests (`pend`) -/
structure Core where
  bn : Nat
  rxbuf : Bytes
  txq : Bytes
  log : List Bytes

def Card.core (c : Card) : Core := ⟨c.bn, c.rxbuf, c.txq, c.log⟩

def Done (k : Core) (B : Bytes) (c : Card) : Prop := c.core = k ∧ c.last = some B ∧ c.pend = none
def Pending (cfg : CardCfg) (k : Core) (B : Bytes) (c : Card) : Prop :=
  c.core = k ∧ c.last = some (wtxBlock cfg) ∧ ∃ n, c.pend = some (B, n)
def Em (cfg : CardCfg) (k : Core) (B : Bytes) (c : Card) : Prop := Done k B c ∨ Pending cfg k B c

theorem Done.core {k : Core} {B : Bytes} {c : Card} (h : Done k B c) : c.core = k := h.1
theorem Pending.core {cfg : CardCfg} {k : Core} {B : Bytes} {c : Card} (h : Pending cfg k B c) : c.core = k := h.1
theorem Done.last {k : Core} {B : Bytes} {c : Card} (h : Done k B c) : c.last = some B := h.2.1
theorem Pending.last {cfg : CardCfg} {k : Core} {B : Bytes} {c : Card} (h : Pending cfg k B c) :
    c.last = some (wtxBlock cfg) := h.2.1
theorem Em.core {cfg : CardCfg} {k : Core} {B : Bytes} {c : Card} (h : Em cfg k B c) : c.core = k :=
  h.elim Done.core Pending.core

theorem core_bn {c : Card} {k : Core} (h : c.core = k) : c.bn = k.bn := congrArg Core.bn h
theorem core_rxbuf {c : Card} {k : Core} (h : c.core = k) : c.rxbuf = k.rxbuf := congrArg Core.rxbuf h
theorem core_log {c : Card} {k : Core} (h : c.core = k) : c.log = k.log := congrArg Core.log h

def Emitted (cfg : CardCfg) (k : Core) (B : Bytes) (r : Card × Option Bytes) : Prop :=
  (Done k B r.1 ∧ r.2 = some B) ∨ (Pending cfg k B r.1 ∧ r.2 = some (wtxBlock cfg))

theorem emit_emitted (cfg : CardCfg) (c : Card) (B : Bytes) (nw : Nat) :
    Emitted cfg c.core B (Card.emit cfg c B nw) := by
  cases nw <;> simp [Card.emit, Emitted, Done, Pending, Card.core]

theorem Emitted.ans {cfg : CardCfg} {k : Core} {B : Bytes} {r : Card × Option Bytes} (h : Emitted cfg k B r) :
    ∃ o, r = (r.1, some o) ∧ ((Done k B r.1 ∧ o = B) ∨ (Pending cfg k B r.1 ∧ o = wtxBlock cfg)) := by
  obtain ⟨c', o⟩ := r
  rcases h with ⟨hd, ho⟩ | ⟨hp, ho⟩
  · exact ⟨_, congrArg (Prod.mk c') ho, Or.inl ⟨hd, rfl⟩⟩
  · exact ⟨_, congrArg (Prod.mk c') ho, Or.inr ⟨hp, rfl⟩⟩

theorem rx_echo_pending (cfg : CardCfg) {k B c} (h : Pending cfg k B c) :
    Emitted cfg k B (Card.rx cfg c (wtxBlock cfg)) := by
  obtain ⟨hk, _, n, hp⟩ := h
  have := emit_emitted cfg c B n
  simp [Card.rx, wtxBlock, hp, hk] at this ⊢
  exact this

theorem rx_rblock_same (cfg : CardCfg) (c : Card) (h : c.bn < 2) (x : Nat) (hx : x = 0xA2 ∨ x = 0xB2) :
    Card.rx cfg c [x ||| c.bn] = (c, c.last) := by
  rcases bn_cases h with hb | hb <;> rcases hx with rfl | rfl <;> simp [Card.rx, hb]

theorem rx_nak_other (cfg : CardCfg) (c : Card) (p : Nat) (hp : p < 2) (hne : p ≠ c.bn) (h : c.bn < 2) :
    Card.rx cfg c [0xB2 ||| p] = (c, some [0xA2 ||| c.bn]) := by
  rcases bn_cases h with hb | hb <;> rcases bn_cases hp with rfl | rfl <;> simp [Card.rx, hb] at hne ⊢

theorem rx_iblk_more (cfg : CardCfg) (c : Card) (p : Nat) (hp : p < 2) (inf : Bytes) :
    Card.rx cfg c ((0x12 ||| p) :: inf) =
      Card.emit cfg { c with bn := (c.bn + 1) % 2, rxbuf := c.rxbuf ++ inf, txq := [], pend := none }
        [0xA2 ||| ((c.bn + 1) % 2)] cfg.wtxAck := by
  rcases bn_cases hp with rfl | rfl <;> simp [Card.rx]

theorem rx_iblk_last (cfg : CardCfg) (c : Card) (p : Nat) (hp : p < 2) (inf : Bytes) :
    Card.rx cfg c ((0x02 ||| p) :: inf) =
      Card.emit cfg { c with bn := (c.bn + 1) % 2, rxbuf := [], txq := (cfg.app c.log.length (c.rxbuf ++ inf)).drop cfg.chunk,
                              pend := none, log := c.log ++ [c.rxbuf ++ inf] }
        (iBlock ((c.bn + 1) % 2) (decide (cfg.chunk < (cfg.app c.log.length (c.rxbuf ++ inf)).length))
          ((cfg.app c.log.length (c.rxbuf ++ inf)).take cfg.chunk)) cfg.wtxI := by
  rcases bn_cases hp with rfl | rfl <;> simp [Card.rx]

theorem rx_ack_other (cfg : CardCfg) (c : Card) (p : Nat) (hp : p < 2) (hne : p ≠ c.bn) (ht : c.txq ≠ []) :
    Card.rx cfg c [0xA2 ||| p] =
      Card.emit cfg { c with bn := (c.bn + 1) % 2, txq := c.txq.drop cfg.chunk, pend := none }
        (iBlock ((c.bn + 1) % 2) (decide (cfg.chunk < c.txq.length)) (c.txq.take cfg.chunk)) cfg.wtxChain := by
  rcases bn_cases hp with rfl | rfl <;> simp [Card.rx, ht] <;> intro h <;> simp [h] at hne


/-! ### one round: the PCD wants the card to take `req` and answer `B` -/
/-- `req`: the block of the round; `rty`: the block the PCD sends after a failed attempt; `resend`: the PCB of the
one-octet answer to `rty` that makes the PCD send `req` again; `Pre`: the card has not taken `req`; `post`: its state
once it has; `B`: its answer -/
structure Round where
  req : Bytes
  rty : Bytes
  resend : Option Nat
  Pre : Card → Prop
  post : Core
  B : Bytes

structure Round.Ok (cfg : CardCfg) (R : Round) : Prop where
  hreq : ∀ c, R.Pre c → Emitted cfg R.post R.B (Card.rx cfg c R.req)
  hrtyPre : R.rty = R.req ∨ ∀ c, R.Pre c → ∃ a, Card.rx cfg c R.rty = (c, some [a]) ∧ R.resend = some a
  hrtyPost : ∀ c, c.core = R.post → Card.rx cfg c R.rty = (c, c.last)
  hB : ∃ a t, R.B = a :: t ∧ R.resend ≠ some a ∧ isWtx R.B = false

/-- the card is before or after the single step of the round -/
def St (cfg : CardCfg) (R : Round) (c : Card) : Prop := R.Pre c ∨ Em cfg R.post R.B c

/-- what `_exchange` can return (as found: through `RxW.ofRx`) -/
def WPost (cfg : CardCfg) (R : Round) (c : Card) : RxW → Prop
  | .data [] => St cfg R c
  | .data (a :: t) => (Done R.post R.B c ∧ a :: t = R.B) ∨ (R.Pre c ∧ t = [] ∧ R.resend = some a)
  | _ => St cfg R c

/-- on every outcome but an answer `WPost` is `St` -/
theorem WPost.of_st {cfg : CardCfg} {R : Round} {c : Card} (h : St cfg R c) :
    ∀ {r : RxW}, (∀ d, r ≠ .data d) → WPost cfg R c r
  | .data d, hr => absurd rfl (hr d)
  | .timeout, _ | .transmission, _ | .protocol, _ | .fuel, _ | .waited, _ => h

/-- what a single `clf.exchange` can return: either an S(WTX) request that will be answered, or a final outcome -/
def APost (cfg : CardCfg) (R : Round) (c : Card) (r : Rx) : Prop :=
  (r = .data (wtxBlock cfg) ∧ Pending cfg R.post R.B c) ∨
  ((∀ d, r = .data d → isWtx d = false) ∧ WPost cfg R c (.ofRx r))

theorem isWtx_wtxBlock (cfg : CardCfg) : isWtx (wtxBlock cfg) = true := by
  simp [isWtx, wtxBlock]

/-- the blocks the PCD may send, depending on what the card has seen -/
def Allowed (cfg : CardCfg) (R : Round) (c : Card) (out : Bytes) : Prop :=
  (R.Pre c ∧ (out = R.req ∨ out = R.rty)) ∨ (Em cfg R.post R.B c ∧ out = R.rty) ∨
  (Pending cfg R.post R.B c ∧ out = wtxBlock cfg)

/-- the PCD sends the block of the round or the retry block (not an S(WTX) echo) -/
def First (cfg : CardCfg) (R : Round) (c : Card) (out : Bytes) : Prop :=
  (R.Pre c ∧ (out = R.req ∨ out = R.rty)) ∨ (Em cfg R.post R.B c ∧ out = R.rty)

theorem First.st {cfg : CardCfg} {R : Round} {c : Card} {out : Bytes} (h : First cfg R c out) : St cfg R c := by
  rcases h with ⟨h, _⟩ | ⟨h, _⟩
  · exact Or.inl h
  · exact Or.inr h

theorem First.allowed {cfg : CardCfg} {R : Round} {c : Card} {out : Bytes} (h : First cfg R c out) :
    Allowed cfg R c out := by
  rcases h with h | h
  · exact Or.inl h
  · exact Or.inr (Or.inl h)

theorem St.first {cfg : CardCfg} {R : Round} {c : Card} (h : St cfg R c) : First cfg R c R.rty := by
  rcases h with h | h
  · exact Or.inl ⟨h, Or.inr rfl⟩
  · exact Or.inr ⟨h, rfl⟩

theorem rx_first (cfg : CardCfg) (R : Round) (hR : R.Ok cfg) (c : Card) (out : Bytes) (h : First cfg R c out) :
    ∃ c' o, Card.rx cfg c out = (c', some o) ∧ (c' = c ∨ (R.Pre c ∧ c' = (Card.rx cfg c R.req).1)) ∧
      ((Done R.post R.B c' ∧ o = R.B) ∨ (Pending cfg R.post R.B c' ∧ o = wtxBlock cfg) ∨
       (R.Pre c' ∧ out = R.rty ∧ ∃ a, o = [a] ∧ R.resend = some a)) := by
  have req : ∀ _ : R.Pre c, ∃ c' o, Card.rx cfg c R.req = (c', some o) ∧ (c' = c ∨ (R.Pre c ∧ c' = (Card.rx cfg c R.req).1)) ∧
      ((Done R.post R.B c' ∧ o = R.B) ∨ (Pending cfg R.post R.B c' ∧ o = wtxBlock cfg) ∨
       (R.Pre c' ∧ R.req = R.rty ∧ ∃ a, o = [a] ∧ R.resend = some a)) := by
    intro hpre
    obtain ⟨o, hr, ha⟩ := (hR.hreq c hpre).ans
    exact ⟨_, o, hr, Or.inr ⟨hpre, rfl⟩, ha.elim Or.inl (fun h => Or.inr (Or.inl h))⟩
  rcases h with ⟨hpre, rfl | rfl⟩ | ⟨hem, rfl⟩
  · exact req hpre
  · rcases hR.hrtyPre with heq | hr
    · rw [heq]; rw [heq] at req; exact req hpre
    · obtain ⟨a, hrx, ha⟩ := hr c hpre
      exact ⟨c, [a], hrx, Or.inl rfl, Or.inr (Or.inr ⟨hpre, rfl, a, rfl, ha⟩)⟩
  · rw [hR.hrtyPost c hem.core]
    rcases hem with h | h
    · exact ⟨c, R.B, by rw [h.last], Or.inl rfl, Or.inl ⟨h, rfl⟩⟩
    · exact ⟨c, wtxBlock cfg, by rw [h.last], Or.inl rfl, Or.inr (Or.inl ⟨h, rfl⟩)⟩

theorem rx_allowed (cfg : CardCfg) (R : Round) (hR : R.Ok cfg) (c : Card) (out : Bytes) (h : Allowed cfg R c out) :
    ∃ c' o, Card.rx cfg c out = (c', some o) ∧
      ((Done R.post R.B c' ∧ o = R.B) ∨ (Pending cfg R.post R.B c' ∧ o = wtxBlock cfg) ∨
       (R.Pre c' ∧ ∃ a, o = [a] ∧ R.resend = some a)) := by
  rcases (or_assoc.mpr h : First cfg R c out ∨ _) with hf | ⟨hp, rfl⟩
  · obtain ⟨c', o, hrx, _, ha⟩ := rx_first cfg R hR c out hf
    exact ⟨c', o, hrx, ha.imp_right (Or.imp_right fun h => ⟨h.1, h.2.2⟩)⟩
  · obtain ⟨o, hrx, ha⟩ := (rx_echo_pending cfg hp).ans
    exact ⟨_, o, hrx, ha.elim Or.inl (fun h => Or.inr (Or.inl h))⟩

theorem allowed_st {cfg : CardCfg} {R : Round} {c : Card} {out : Bytes} (h : Allowed cfg R c out) : St cfg R c := by
  rcases h with ⟨h, _⟩ | ⟨h, _⟩ | ⟨h, _⟩
  · exact Or.inl h
  · exact Or.inr h
  · exact Or.inr (Or.inr h)

theorem World.xchg_trace {σ} (P : Peer σ) (w : World σ) (out : Bytes) : (w.xchg P out).1.trace = w.trace ++ [out] := by
  unfold World.xchg
  simp only
  split
  · rfl
  · split <;> rfl

theorem xchg_fits {σ} (P : Peer σ) (Q : Bytes → Prop) (w : World σ) (out : Bytes) (ho : Q out)
    (hq : ∀ b ∈ w.trace, Q b) : ∀ b ∈ (w.xchg P out).1.trace, Q b := by
  rw [w.xchg_trace]
  intro b hb
  rcases List.mem_append.mp hb with hb | hb
  · exact hq b hb
  · rw [List.mem_singleton.mp hb]; exact ho

theorem allowed_fits {cfg : CardCfg} {R : Round} {c : Card} {out : Bytes} {Q : Bytes → Prop}
    (h : Allowed cfg R c out) (hQ : Q R.req ∧ Q R.rty ∧ Q (wtxBlock cfg)) : Q out := by
  rcases h with ⟨_, rfl | rfl⟩ | ⟨_, rfl⟩ | ⟨_, rfl⟩
  · exact hQ.1
  · exact hQ.2.1
  · exact hQ.2.1
  · exact hQ.2.2

/-- number of entries of the script that are not `deliver` -/
def nfaults : List Fault → Nat
  | [] => 0
  | f :: s => (if f = .d then 0 else 1) + nfaults s

/-- a lost, corrupted or empty block, or (only if the script holds one: `¬ np`) a reader protocol error -/
def Faulty (np : Prop) (r : Rx) : Prop :=
  r = .timeout ∨ r = .transmission ∨ r = .data [] ∨ (r = .protocol ∧ ¬ np)

theorem Faulty.not_wtx {np : Prop} {r : Rx} (h : Faulty np r) (d : Bytes) (hd : r = .data d) : isWtx d = false := by
  rcases h with h | h | h | ⟨h, _⟩ <;> rw [h] at hd <;> cases hd
  rfl

/-- the two legs of one `clf.exchange` when the card answers `o` -/
theorem xchg_legs {σ} (P : Peer σ) (w : World σ) (out : Bytes) (c' : σ) (o : Bytes)
    (hrx : P.rx w.card out = (c', some o)) :
    (((w.xchg P out).1.card = w.card ∧ (w.xchg P out).2 = .timeout ∧
        nfaults (w.xchg P out).1.script + 1 = nfaults w.script) ∨
     ((w.xchg P out).1.card = c' ∧ (w.xchg P out).2 = .data o ∧
        nfaults (w.xchg P out).1.script = nfaults w.script) ∨
     ((w.xchg P out).1.card = c' ∧
        ((w.xchg P out).2 = .timeout ∨ (w.xchg P out).2 = .transmission ∨ (w.xchg P out).2 = .data [] ∨
          ((w.xchg P out).2 = .protocol ∧ Fault.p ∈ w.script)) ∧
        nfaults (w.xchg P out).1.script + 1 = nfaults w.script)) ∧
    (Fault.p ∉ w.script → Fault.p ∉ (w.xchg P out).1.script) := by
  obtain ⟨c, s, t⟩ := w
  simp only at hrx
  cases s with
  | nil => simp [World.xchg, nextFault, hrx, legBack, nfaults]
  | cons f s =>
    cases f with
    | d =>
      cases s with
      | nil => simp [World.xchg, nextFault, hrx, legBack, nfaults]
      | cons f2 s2 => cases f2 <;> simp [World.xchg, nextFault, hrx, legBack, nfaults] <;> omega
    | l => simp [World.xchg, nextFault, nfaults]; omega
    | c => simp [World.xchg, nextFault, nfaults]; omega
    | p => simp [World.xchg, nextFault, nfaults]; omega
    | e => simp [World.xchg, nextFault, nfaults]; omega

theorem xchg_faulty {σ} (P : Peer σ) (w : World σ) (out : Bytes) (c' : σ) (o : Bytes)
    (hrx : P.rx w.card out = (c', some o)) :
    ((((w.xchg P out).1.card = w.card ∨ (w.xchg P out).1.card = c') ∧ Faulty (Fault.p ∉ w.script) (w.xchg P out).2 ∧
        nfaults (w.xchg P out).1.script + 1 = nfaults w.script) ∨
     ((w.xchg P out).1.card = c' ∧ (w.xchg P out).2 = .data o ∧
        nfaults (w.xchg P out).1.script = nfaults w.script)) ∧
    (Fault.p ∉ w.script → Fault.p ∉ (w.xchg P out).1.script) := by
  obtain ⟨h, hnp⟩ := xchg_legs P w out c' o hrx
  refine ⟨?_, hnp⟩
  rcases h with ⟨hc, hr, hk⟩ | h | ⟨hc, hr, hk⟩
  · exact Or.inl ⟨Or.inl hc, Or.inl hr, hk⟩
  · exact Or.inr h
  · exact Or.inl ⟨Or.inr hc, hr.imp_right (Or.imp_right (Or.imp_right (And.imp_right fun hp hn => hn hp))), hk⟩

theorem xchg_post (cfg : CardCfg) (R : Round) (hR : R.Ok cfg) (w : World Card) (out : Bytes)
    (h : Allowed cfg R w.card out) :
    APost cfg R (w.xchg (isoPeer cfg) out).1.card (w.xchg (isoPeer cfg) out).2 := by
  obtain ⟨c', o, hrx, ho⟩ := rx_allowed cfg R hR w.card out h
  obtain ⟨hlegs, _⟩ := xchg_faulty (isoPeer cfg) w out c' o hrx
  rcases hlegs with ⟨hc, hr, _⟩ | ⟨hc, hr, _⟩
  · have hst : St cfg R (w.xchg (isoPeer cfg) out).1.card := by
      rcases hc with hc | hc <;> rw [hc]
      · exact allowed_st h
      · rcases ho with h1 | h1 | h1
        · exact Or.inr (Or.inl h1.1)
        · exact Or.inr (Or.inr h1.1)
        · exact Or.inl h1.1
    refine Or.inr ⟨hr.not_wtx, ?_⟩
    rcases hr with hr | hr | hr | ⟨hr, _⟩ <;> rw [hr] <;> exact hst
  · rw [hc, hr]
    rcases ho with ⟨hd, rfl⟩ | ⟨hp, rfl⟩ | ⟨hpre, a, rfl, ha⟩
    · obtain ⟨a, t, hB, _, hBw⟩ := hR.hB
      refine Or.inr ⟨fun d hd' => by cases hd'; exact hBw, ?_⟩
      rw [hB]; exact Or.inl ⟨hd, hB.symm⟩
    · exact Or.inl ⟨rfl, hp⟩
    · exact Or.inr ⟨fun d hd' => by cases hd'; rfl, Or.inr ⟨hpre, rfl, ha⟩⟩


/-- `_exchange` in a round: S(WTX) requests are answered, the outcome is final -/
theorem xchgW_post (cfg : CardCfg) (R : Round) (hR : R.Ok cfg) (Q : Bytes → Prop)
    (hQ : Q R.req ∧ Q R.rty ∧ Q (wtxBlock cfg)) :
    ∀ (F : Nat) (w : World Card) (out : Bytes), Allowed cfg R w.card out → (∀ b ∈ w.trace, Q b) →
      WPost cfg R (xchgW (isoPeer cfg) F w out).1.card (.ofRx (xchgW (isoPeer cfg) F w out).2) ∧
      (∀ b ∈ (xchgW (isoPeer cfg) F w out).1.trace, Q b) := by
  intro F
  induction F with
  | zero =>
    intro w out h hq
    simp only [xchgW]
    exact ⟨WPost.of_st (allowed_st h) nofun, hq⟩
  | succ F ih =>
    intro w out h hq
    have hA := xchg_post cfg R hR w out h
    have hq1 := xchg_fits (isoPeer cfg) Q w out (allowed_fits h hQ) hq
    unfold xchgW
    generalize w.xchg (isoPeer cfg) out = r1 at hA hq1
    obtain ⟨w1, r⟩ := r1
    simp only at hA hq1 ⊢
    rcases hA with ⟨rfl, hp⟩ | ⟨hnw, hw⟩
    · simp only [isWtx_wtxBlock, if_true]
      exact ih w1 (wtxBlock cfg) (Or.inr (Or.inr ⟨hp, rfl⟩)) hq1
    · cases r with
      | data d => simp only [hnw d rfl]; exact ⟨hw, hq1⟩
      | timeout | transmission | protocol | fuel => exact ⟨hw, hq1⟩

/-- one pass of a retry loop at count `i`, given the outcome `r` of `_exchange`; `cut`: the retransmission after
R(ACK) is refused; `k`: the rest of the loop -/
def loopStep {σ} (n i : Nat) (resend : Option Nat) (req rty : Bytes) (cut : Prop) [Decidable cut]
    (k : Nat → Bytes → World σ → World σ × Py Bytes) (r : World σ × RxW) : World σ × Py Bytes :=
  match r.2 with
  | .data [] => if i ≤ n then k (i+1) rty r.1 else (r.1, .error (.tagCmd RECEIVE_ERROR))
  | .data (a :: t) =>
    if resend = some a then
      if cut then (r.1, .error (.tagCmd PROTOCOL_ERROR)) else k (i+1) req r.1
    else (r.1, .ok (a :: t))
  | .timeout => if i ≤ n then k (i+1) rty r.1 else (r.1, .error (.tagCmd TIMEOUT_ERROR))
  | .transmission => if i ≤ n then k (i+1) rty r.1 else (r.1, .error (.tagCmd RECEIVE_ERROR))
  | .protocol => (r.1, .error (.tagCmd PROTOCOL_ERROR))
  | .waited => (r.1, .error (.tagCmd TIMEOUT_ERROR))
  | .fuel => (r.1, .error .outOfFuel)

/-- one command block: what `sendChunks` does with the outcome `r` of the retry loop; `k`: the remaining blocks -/
def sendStep {σ} (more : Bool) (pni : Nat) (k : World σ → World σ × Nat × Py Bytes) (r : World σ × Py Bytes) :
    World σ × Nat × Py Bytes :=
  match r.2 with
  | .error e => (r.1, pni, .error e)
  | .ok [] => (r.1, pni, .error .index)
  | .ok (a :: t) =>
    if a &&& 0x01 ≠ pni then (r.1, pni, .error (.tagCmd PROTOCOL_ERROR))
    else if more then
      if a &&& 0xFE = 0xA2 then k r.1 else (r.1, pni, .error (.tagCmd PROTOCOL_ERROR))
    else
      if a &&& 0xEE = 0x02 then (r.1, (pni + 1) % 2, .ok (a :: t)) else (r.1, pni, .error (.tagCmd PROTOCOL_ERROR))

/-- one pass of the response loop; `guard`: the chained block is refused (repaired initiator); `r`: outcome of the
retry loop that sends R(ACK); `k`: the rest of the loop -/
def recvStep {σ} (guard : Bytes → Prop) [DecidablePred guard] (pni : Nat) (data resp : Bytes)
    (k : Bytes → Bytes → World σ → World σ × Nat × Py Bytes) (w : World σ) (r : World σ × Py Bytes) :
    World σ × Nat × Py Bytes :=
  match data with
  | [] => (w, pni, .error .index)
  | a :: inf =>
    if a &&& 0x10 = 0 then (w, pni, .ok resp)
    else if guard inf then (w, pni, .error (.tagCmd PROTOCOL_ERROR))
    else
      match r.2 with
      | .error e => (r.1, pni, .error e)
      | .ok [] => (r.1, pni, .error .index)
      | .ok (b :: t) =>
        if b &&& 0x01 ≠ pni then (r.1, pni, .error (.tagCmd PROTOCOL_ERROR))
        else k (b :: t) (resp ++ t) r.1

theorem blockLoop_succ {σ} (P : Peer σ) (F n : Nat) (resend : Option Nat) (req rty : Bytes) (f i : Nat) (out : Bytes)
    (w : World σ) :
    blockLoop P F n resend req rty (f + 1) i out w =
      loopStep n i resend req rty False (blockLoop P F n resend req rty f) (liftW (xchgW P F w out)) := by
  rw [blockLoop]
  rcases xchgW P F w out with ⟨w', r⟩
  cases r with
  | data d => cases d <;> rfl
  | _ => rfl

theorem sendChunks_cons {σ} (P : Peer σ) (F nNak : Nat) (c : Bytes) (rest : List Bytes) (pni : Nat) (w : World σ) :
    sendChunks P F nNak (c :: rest) pni w =
      sendStep (!rest.isEmpty) pni (sendChunks P F nNak rest ((pni + 1) % 2))
        (blockLoop P F nNak (some (0xA2 ||| ((pni + 1) % 2))) (((if !rest.isEmpty then 0x12 else 0x02) ||| pni) :: c)
          [0xB2 ||| pni] F 1 (((if !rest.isEmpty then 0x12 else 0x02) ||| pni) :: c) w) := rfl

theorem recvChain_succ {σ} (P : Peer σ) (F nAck f pni : Nat) (data resp : Bytes) (w : World σ) :
    recvChain P F nAck (f + 1) pni data resp w =
      recvStep (fun _ => False) pni data resp (recvChain P F nAck f ((pni + 1) % 2)) w
        (blockLoop P F nAck none [0xA2 ||| pni] [0xA2 ||| pni] F 1 [0xA2 ||| pni] w) := by
  cases data <;> rfl

/-- exceptions `exchange` raises on purpose (and the model's own fuel marker) -/
def ErrKind (e : Exc) : Prop :=
  e = .outOfFuel ∨ e = .tagCmd TIMEOUT_ERROR ∨ e = .tagCmd RECEIVE_ERROR ∨ e = .tagCmd PROTOCOL_ERROR

/-- a non-empty block, or one of the documented errors -/
def SafeRes : Py Bytes → Prop
  | .ok d => d ≠ []
  | .error e => ErrKind e

theorem loopStep_cases {σ} (n i : Nat) (resend : Option Nat) (req rty : Bytes) (cut : Prop) [Decidable cut]
    (k : Nat → Bytes → World σ → World σ × Py Bytes) (r : World σ × RxW) :
    (∃ o, (o = req ∨ o = rty) ∧ (i ≤ n ∨ ¬ cut) ∧ loopStep n i resend req rty cut k r = k (i + 1) o r.1) ∨
    (∃ res, SafeRes res ∧ (r.2 ≠ .fuel → res ≠ .error .outOfFuel) ∧ loopStep n i resend req rty cut k r = (r.1, res)) := by
  obtain ⟨w1, rx⟩ := r
  have stop : ∀ e : Exc, ErrKind e → e ≠ .outOfFuel →
      ∃ res, SafeRes res ∧ (rx ≠ .fuel → res ≠ .error .outOfFuel) ∧ (w1, (.error e : Py Bytes)) = (w1, res) :=
    fun e he hne => ⟨.error e, he, fun _ => by simpa using hne, rfl⟩
  have retry : ∀ e : Exc, ErrKind e → e ≠ .outOfFuel →
      (∃ o, (o = req ∨ o = rty) ∧ (i ≤ n ∨ ¬ cut) ∧ (if i ≤ n then k (i + 1) rty w1 else (w1, .error e)) = k (i + 1) o w1) ∨
      (∃ res, SafeRes res ∧ (rx ≠ .fuel → res ≠ .error .outOfFuel) ∧
        (if i ≤ n then k (i + 1) rty w1 else (w1, .error e)) = (w1, res)) := by
    intro e he hne
    by_cases h : i ≤ n
    · rw [if_pos h]; exact Or.inl ⟨rty, Or.inr rfl, Or.inl h, rfl⟩
    · rw [if_neg h]; exact Or.inr (stop e he hne)
  unfold loopStep
  cases rx with
  | data d =>
    cases d with
    | nil => exact retry (.tagCmd RECEIVE_ERROR) (by simp [ErrKind]) (by simp)
    | cons a t =>
      simp only
      by_cases hr : resend = some a
      · rw [if_pos hr]
        by_cases hc : cut
        · rw [if_pos hc]; exact Or.inr (stop _ (by simp [ErrKind]) (by simp))
        · rw [if_neg hc]; exact Or.inl ⟨req, Or.inl rfl, Or.inr hc, rfl⟩
      · rw [if_neg hr]; exact Or.inr ⟨_, by simp [SafeRes], fun _ => by simp, rfl⟩
  | timeout => exact retry (.tagCmd TIMEOUT_ERROR) (by simp [ErrKind]) (by simp)
  | transmission => exact retry (.tagCmd RECEIVE_ERROR) (by simp [ErrKind]) (by simp)
  | protocol => exact Or.inr (stop _ (by simp [ErrKind]) (by simp))
  | waited => exact Or.inr (stop _ (by simp [ErrKind]) (by simp))
  | fuel => exact Or.inr ⟨_, by simp [SafeRes, ErrKind], fun h => absurd rfl h, rfl⟩

theorem sendStep_cases {σ} (more : Bool) (pni : Nat) (k : World σ → World σ × Nat × Py Bytes) (r : World σ × Py Bytes) :
    (more = true ∧ sendStep more pni k r = k r.1) ∨
    (∃ p res, (p = pni ∨ p = (pni + 1) % 2) ∧ (SafeRes r.2 → SafeRes res) ∧
      (r.2 ≠ .error .outOfFuel → res ≠ .error .outOfFuel) ∧ sendStep more pni k r = (r.1, p, res)) := by
  have perr : SafeRes (.error (.tagCmd PROTOCOL_ERROR) : Py Bytes) := by simp [SafeRes, ErrKind]
  unfold sendStep
  cases r.2 with
  | error e => exact Or.inr ⟨_, _, Or.inl rfl, id, id, rfl⟩
  | ok d =>
    cases d with
    | nil => exact Or.inr ⟨_, _, Or.inl rfl, fun h => absurd rfl h, fun _ => by simp, rfl⟩
    | cons a t =>
      simp only
      by_cases h1 : a &&& 0x01 ≠ pni
      · rw [if_pos h1]; exact Or.inr ⟨_, _, Or.inl rfl, fun _ => perr, fun _ => by simp, rfl⟩
      · rw [if_neg h1]
        cases more with
        | true =>
          rw [if_pos rfl]
          by_cases h2 : a &&& 0xFE = 0xA2
          · rw [if_pos h2]; exact Or.inl ⟨rfl, rfl⟩
          · rw [if_neg h2]; exact Or.inr ⟨_, _, Or.inl rfl, fun _ => perr, fun _ => by simp, rfl⟩
        | false =>
          rw [if_neg Bool.false_ne_true]
          by_cases h2 : a &&& 0xEE = 0x02
          · rw [if_pos h2]; exact Or.inr ⟨_, _, Or.inr rfl, fun _ => by simp [SafeRes], fun _ => by simp, rfl⟩
          · rw [if_neg h2]; exact Or.inr ⟨_, _, Or.inl rfl, fun _ => perr, fun _ => by simp, rfl⟩

def SafeErr (res : Py Bytes) : Prop := ∀ e, res = .error e → ErrKind e

theorem recvStep_cases {σ} (guard : Bytes → Prop) [DecidablePred guard] (pni : Nat) (data resp : Bytes)
    (k : Bytes → Bytes → World σ → World σ × Nat × Py Bytes) (w : World σ) (r : World σ × Py Bytes) :
    (∃ res, (data ≠ [] → SafeErr res) ∧ res ≠ .error .outOfFuel ∧ recvStep guard pni data resp k w r = (w, pni, res)) ∨
    (∃ a inf, data = a :: inf ∧ ¬ guard inf ∧
      ((∃ res, (SafeRes r.2 → SafeErr res) ∧ (r.2 ≠ .error .outOfFuel → res ≠ .error .outOfFuel) ∧
          recvStep guard pni data resp k w r = (r.1, pni, res)) ∨
       (∃ b t, recvStep guard pni data resp k w r = k (b :: t) (resp ++ t) r.1))) := by
  have perr : SafeErr (.error (.tagCmd PROTOCOL_ERROR) : Py Bytes) := fun e h => by cases h; simp [ErrKind]
  unfold recvStep
  cases data with
  | nil => exact Or.inl ⟨.error .index, fun h => absurd rfl h, by simp, rfl⟩
  | cons a inf =>
    simp only
    by_cases h10 : a &&& 0x10 = 0
    · rw [if_pos h10]; exact Or.inl ⟨.ok resp, (fun _ e h => nomatch h), by simp, rfl⟩
    · rw [if_neg h10]
      by_cases hg : guard inf
      · rw [if_pos hg]; exact Or.inl ⟨_, fun _ => perr, by simp, rfl⟩
      · rw [if_neg hg]
        refine Or.inr ⟨a, inf, rfl, hg, ?_⟩
        cases r.2 with
        | error e => exact Or.inl ⟨.error e, fun hs e' h => by cases h; exact hs, id, rfl⟩
        | ok d =>
          cases d with
          | nil => exact Or.inl ⟨.error .index, fun hs => absurd rfl hs, fun _ => by simp, rfl⟩
          | cons b t =>
            simp only
            by_cases hb : b &&& 0x01 ≠ pni
            · rw [if_pos hb]; exact Or.inl ⟨_, fun _ => perr, fun _ => by simp, rfl⟩
            · rw [if_neg hb]; exact Or.inr ⟨b, t, rfl⟩

/-- what a retry loop can return -/
def LPost (cfg : CardCfg) (R : Round) (c : Card) : Py Bytes → Prop
  | .ok d => Done R.post R.B c ∧ d = R.B
  | .error e => St cfg R c ∧ ErrKind e

def LoopOk (cfg : CardCfg) (R : Round) (Q : Bytes → Prop) (x : World Card × Py Bytes) : Prop :=
  LPost cfg R x.1.card x.2 ∧ ∀ b ∈ x.1.trace, Q b

theorem loopStep_post (cfg : CardCfg) (R : Round) (hR : R.Ok cfg) (Q : Bytes → Prop) (n i : Nat) (cut : Prop)
    [Decidable cut] (k : Nat → Bytes → World Card → World Card × Py Bytes) (r : World Card × RxW)
    (hw : WPost cfg R r.1.card r.2) (hq : ∀ b ∈ r.1.trace, Q b)
    (hk : ∀ out, First cfg R r.1.card out → LoopOk cfg R Q (k (i + 1) out r.1)) :
    LoopOk cfg R Q (loopStep n i R.resend R.req R.rty cut k r) := by
  obtain ⟨w1, rx⟩ := r
  simp only at hw hq hk
  have stop : ∀ e : Exc, St cfg R w1.card → ErrKind e → LoopOk cfg R Q (w1, .error e) := fun e hst he => ⟨⟨hst, he⟩, hq⟩
  have retry : ∀ e : Exc, St cfg R w1.card → ErrKind e →
      LoopOk cfg R Q (if i ≤ n then k (i + 1) R.rty w1 else (w1, .error e)) := by
    intro e hst he
    by_cases h : i ≤ n
    · rw [if_pos h]; exact hk _ hst.first
    · rw [if_neg h]; exact stop e hst he
  unfold loopStep
  cases rx with
  | data d =>
    cases d with
    | nil => exact retry _ hw (by simp [ErrKind])
    | cons a t =>
      simp only
      obtain ⟨a', t', hB, hne, _⟩ := hR.hB
      rcases hw with ⟨hd, hab⟩ | ⟨hpre, rfl, hres⟩
      · have : a = a' := by rw [hB] at hab; cases hab; rfl
        subst this
        rw [if_neg hne]
        exact ⟨⟨hd, hab⟩, hq⟩
      · rw [if_pos hres]
        by_cases hc : cut
        · rw [if_pos hc]; exact stop _ (Or.inl hpre) (by simp [ErrKind])
        · rw [if_neg hc]; exact hk _ (Or.inl ⟨hpre, Or.inl rfl⟩)
  | timeout | transmission => exact retry _ hw (by simp [ErrKind])
  | protocol | waited | fuel => exact stop _ hw (by simp [ErrKind])

theorem blockLoop_post (cfg : CardCfg) (R : Round) (hR : R.Ok cfg) (Q : Bytes → Prop)
    (hQ : Q R.req ∧ Q R.rty ∧ Q (wtxBlock cfg)) (F n : Nat) :
    ∀ (f i : Nat) (out : Bytes) (w : World Card), First cfg R w.card out → (∀ b ∈ w.trace, Q b) →
      LoopOk cfg R Q (blockLoop (isoPeer cfg) F n R.resend R.req R.rty f i out w) := by
  intro f
  induction f with
  | zero => intro i out w h hq; exact ⟨⟨h.st, Or.inl rfl⟩, hq⟩
  | succ f ih =>
    intro i out w h hq
    obtain ⟨hw, hq1⟩ := xchgW_post cfg R hR Q hQ F w out h.allowed hq
    rw [blockLoop_succ]
    exact loopStep_post cfg R hR Q n i _ _ _ hw hq1 (fun o ho => ih (i + 1) o _ ho hq1)

theorem round_post (cfg : CardCfg) (R : Round) (hR : R.Ok cfg) (F n : Nat) (w : World Card) (hpre : R.Pre w.card) :
    LPost cfg R (blockLoop (isoPeer cfg) F n R.resend R.req R.rty F 1 R.req w).1.card
      (blockLoop (isoPeer cfg) F n R.resend R.req R.rty F 1 R.req w).2 :=
  (blockLoop_post cfg R hR (fun _ => True) ⟨trivial, trivial, trivial⟩ F n F 1 R.req w
    (Or.inl ⟨hpre, Or.inl rfl⟩) (fun _ _ => trivial)).1

theorem isWtx_iBlock {p : Nat} (hp : p < 2) (more : Bool) (inf : Bytes) : isWtx (iBlock p more inf) = false := by
  rcases bn_cases hp with rfl | rfl <;> cases more <;> cases inf <;> simp [isWtx, iBlock]

theorem emit_emitted' (cfg : CardCfg) {c : Card} {k : Core} {B B' : Bytes} (nw : Nat) (h1 : c.core = k) (h2 : B' = B) :
    Emitted cfg k B (Card.emit cfg c B' nw) := by
  subst h1 h2; exact emit_emitted cfg c B' nw

theorem iBlock_cons (p : Nat) (more : Bool) (inf : Bytes) :
    iBlock p more inf = ((if more then 0x12 else 0x02) ||| p) :: inf := rfl

theorem iBlock_drop_one (p : Nat) (more : Bool) (inf : Bytes) : (iBlock p more inf).drop 1 = inf := rfl

/-- a block of a chained response carries INF: something is left over only after a full, non-empty block -/
theorem take_ne_nil_of_drop_ne_nil {l : Bytes} {n : Nat} (hn : 1 ≤ n) (h : l.drop n ≠ []) : l.take n ≠ [] := by
  intro h0
  have hl := congrArg List.length h0
  have := List.length_pos_iff.mpr h
  simp only [List.length_take, List.length_drop, List.length_nil] at hl this
  omega

/-- command block `c` of a chain whose earlier blocks made up `acc`.  `more`: further blocks follow and the card
acknowledges; otherwise it executes `acc ++ c` and answers with the first block of the response -/
abbrev cmdRound (cfg : CardCfg) (pni : Nat) (acc : Bytes) (L : List Bytes) (c : Bytes) (more : Bool) : Round where
  req := ((if more then 0x12 else 0x02) ||| pni) :: c
  rty := [0xB2 ||| pni]
  resend := some (0xA2 ||| ((pni + 1) % 2))
  Pre := fun k => k.bn = (pni + 1) % 2 ∧ k.rxbuf = acc ∧ k.log = L
  post := bif more then ⟨pni, acc ++ c, [], L⟩
    else ⟨pni, [], (cfg.app L.length (acc ++ c)).drop cfg.chunk, L ++ [acc ++ c]⟩
  B := bif more then [0xA2 ||| pni]
    else iBlock pni (decide (cfg.chunk < (cfg.app L.length (acc ++ c)).length)) ((cfg.app L.length (acc ++ c)).take cfg.chunk)

theorem cmdRound_post_bn (cfg : CardCfg) (pni : Nat) (acc : Bytes) (L : List Bytes) (c : Bytes) (more : Bool) :
    (cmdRound cfg pni acc L c more).post.bn = pni := by
  cases more <;> rfl

theorem cmdRound_ok (cfg : CardCfg) {pni : Nat} (hp : pni < 2) (acc : Bytes) (L : List Bytes) (c : Bytes) (more : Bool) :
    (cmdRound cfg pni acc L c more).Ok cfg where
  hreq := by
    rintro k ⟨hb, hr, hl⟩
    cases more
    · simp only [Bool.false_eq_true, if_false, cond_false]
      rw [rx_iblk_last cfg k pni hp c]
      apply emit_emitted' <;> simp [Card.core, hb, hr, hl, tog_tog hp]
    · simp only [if_true, cond_true]
      rw [rx_iblk_more cfg k pni hp c]
      apply emit_emitted' <;> simp [Card.core, hb, hr, hl, tog_tog hp]
  hrtyPre := by
    right
    rintro k ⟨hb, _, _⟩
    refine ⟨0xA2 ||| k.bn, ?_, by simp [hb]⟩
    exact rx_nak_other cfg k pni hp (by rw [hb]; exact (tog_ne hp).symm) (by rw [hb]; exact tog_lt pni)
  hrtyPost := by
    intro k hk
    have hb : k.bn = pni := (congrArg Core.bn hk).trans (cmdRound_post_bn cfg pni acc L c more)
    simp only
    rw [← hb]
    exact rx_rblock_same cfg k (by rw [hb]; exact hp) 0xB2 (Or.inr rfl)
  hB := by
    cases more
    · refine ⟨_, _, iBlock_cons _ _ _, ?_, isWtx_iBlock hp _ _⟩
      rcases bn_cases hp with rfl | rfl <;>
        cases (decide (cfg.chunk < (cfg.app L.length (acc ++ c)).length)) <;> simp
    · refine ⟨0xA2 ||| pni, [], rfl, ?_, rfl⟩
      rcases bn_cases hp with rfl | rfl <;> simp

/-- response chaining: R(ACK) asks for the next block of the remaining response `T` -/
abbrev ackRound (cfg : CardCfg) (pni : Nat) (T : Bytes) (L : List Bytes) : Round where
  req := [0xA2 ||| pni]
  rty := [0xA2 ||| pni]
  resend := none
  Pre := fun k => k.core = ⟨(pni + 1) % 2, [], T, L⟩
  post := ⟨pni, [], T.drop cfg.chunk, L⟩
  B := iBlock pni (decide (cfg.chunk < T.length)) (T.take cfg.chunk)

theorem ackRound_ok (cfg : CardCfg) {pni : Nat} (hp : pni < 2) (T : Bytes) (hT : T ≠ []) (L : List Bytes) :
    (ackRound cfg pni T L).Ok cfg where
  hreq := by
    intro k hk
    simp only [Card.core, Core.mk.injEq] at hk
    obtain ⟨hb, hr, ht, hl⟩ := hk
    simp only
    rw [rx_ack_other cfg k pni hp (by rw [hb]; exact (tog_ne hp).symm) (by rw [ht]; exact hT)]
    apply emit_emitted' <;> simp [Card.core, hb, hr, hl, ht, tog_tog hp]
  hrtyPre := Or.inl rfl
  hrtyPost := by
    intro k hk
    have hb : k.bn = pni := by simpa [Card.core] using congrArg Core.bn hk
    simp only
    rw [← hb]
    exact rx_rblock_same cfg k (by rw [hb]; exact hp) 0xA2 (Or.inl rfl)
  hB := ⟨_, _, iBlock_cons _ _ _, by simp, isWtx_iBlock hp _ _⟩


theorem ihead_and1 {p : Nat} (hp : p < 2) (more : Bool) : ((if more then 0x12 else 0x02) ||| p) &&& 0x01 = p := by
  rcases bn_cases hp with rfl | rfl <;> cases more <;> decide
theorem ihead_andEE {p : Nat} (hp : p < 2) (more : Bool) : ((if more then 0x12 else 0x02) ||| p) &&& 0xEE = 0x02 := by
  rcases bn_cases hp with rfl | rfl <;> cases more <;> decide
theorem ihead_and10 {p : Nat} (hp : p < 2) (more : Bool) :
    (((if more then 0x12 else 0x02) ||| p) &&& 0x10 = 0) ↔ more = false := by
  rcases bn_cases hp with rfl | rfl <;> cases more <;> decide
theorem ack_and1 {p : Nat} (hp : p < 2) : (0xA2 ||| p) &&& 0x01 = p := by
  rcases bn_cases hp with rfl | rfl <;> decide
theorem ack_andFE {p : Nat} (hp : p < 2) : (0xA2 ||| p) &&& 0xFE = 0xA2 := by
  rcases bn_cases hp with rfl | rfl <;> decide

/-- the command `full` has just been executed (log `L` before), the first response block `d` was received -/
def CmdDone (cfg : CardCfg) (L : List Bytes) (full : Bytes) (pni' : Nat) (d : Bytes) (c : Card) : Prop :=
  pni' < 2 ∧
  d = iBlock ((pni' + 1) % 2) (decide (cfg.chunk < (cfg.app L.length full).length)) ((cfg.app L.length full).take cfg.chunk) ∧
  Done ⟨(pni' + 1) % 2, [], (cfg.app L.length full).drop cfg.chunk, L ++ [full]⟩ d c

section
variable {cfg : CardCfg} {L : List Bytes} {full : Bytes} {pni' : Nat} {d : Bytes} {c : Card} (h : CmdDone cfg L full pni' d c)
include h
theorem CmdDone.pni_lt : pni' < 2 := h.1
theorem CmdDone.block : d = iBlock ((pni' + 1) % 2) (decide (cfg.chunk < (cfg.app L.length full).length))
    ((cfg.app L.length full).take cfg.chunk) := h.2.1
theorem CmdDone.done : Done ⟨(pni' + 1) % 2, [], (cfg.app L.length full).drop cfg.chunk, L ++ [full]⟩ d c := h.2.2
end

def SendPost (cfg : CardCfg) (L : List Bytes) (full : Bytes) (Q : Bytes → Prop) (r : World Card × Nat × Py Bytes) : Prop :=
  (∀ b ∈ r.1.trace, Q b) ∧
  match r.2.2 with
  | .ok d => CmdDone cfg L full r.2.1 d r.1.card
  | .error e => ErrKind e ∧ (r.1.card.log = L ∨ r.1.card.log = L ++ [full])

theorem st_log_cmd (cfg : CardCfg) {pni acc L c more k} (h : St cfg (cmdRound cfg pni acc L c more) k) :
    k.log = L ∨ (more = false ∧ k.log = L ++ [acc ++ c]) := by
  have hpost : k.core = (cmdRound cfg pni acc L c more).post → k.log = L ∨ (more = false ∧ k.log = L ++ [acc ++ c]) := by
    intro hk
    have := core_log hk
    cases more
    · exact Or.inr ⟨rfl, this⟩
    · exact Or.inl this
  rcases h with h | h | h
  · exact Or.inl h.2.2
  · exact hpost h.1
  · exact hpost h.1

theorem sendStep_iso (cfg : CardCfg) {pni : Nat} (hp : pni < 2) (acc : Bytes) (L : List Bytes) (c : Bytes) (more : Bool)
    (k : World Card → World Card × Nat × Py Bytes) (r : World Card × Py Bytes)
    (hr : LPost cfg (cmdRound cfg pni acc L c more) r.1.card r.2) :
    sendStep more pni k r =
      match r.2 with
      | .error e => (r.1, pni, .error e)
      | .ok d => if more then k r.1 else (r.1, (pni + 1) % 2, .ok d) := by
  obtain ⟨w1, res⟩ := r
  unfold sendStep
  cases res with
  | error e => rfl
  | ok d =>
    have hB : d = (cmdRound cfg pni acc L c more).B := hr.2
    cases more with
    | false =>
      simp only [cond_false] at hB
      rw [hB]
      have h1 := ihead_and1 hp (decide (cfg.chunk < (cfg.app L.length (acc ++ c)).length))
      have h2 := ihead_andEE hp (decide (cfg.chunk < (cfg.app L.length (acc ++ c)).length))
      simp only [iBlock_cons, h1, h2, ne_eq, not_true_eq_false, Bool.false_eq_true, if_false, if_true]
    | true =>
      simp only [cond_true] at hB
      rw [hB]
      simp only [ack_and1 hp, ack_andFE hp, ne_eq, not_true_eq_false, if_false, if_true]

theorem cmdRound_next {cfg : CardCfg} {pni : Nat} (hp : pni < 2) {acc : Bytes} {L : List Bytes} {c : Bytes} {k : Card}
    (h : k.core = (cmdRound cfg pni acc L c true).post) :
    k.bn = ((pni + 1) % 2 + 1) % 2 ∧ k.rxbuf = acc ++ c ∧ k.log = L := by
  simp only [Card.core, cond_true, Core.mk.injEq] at h
  exact ⟨by rw [tog_tog hp]; exact h.1, h.2.1, h.2.2.2⟩

theorem sendStep_post (cfg : CardCfg) (L : List Bytes) (Q : Bytes → Prop) {pni : Nat} (hp : pni < 2) (acc c full : Bytes)
    (more : Bool) (k : World Card → World Card × Nat × Py Bytes) (r : World Card × Py Bytes)
    (hr : LoopOk cfg (cmdRound cfg pni acc L c more) Q r) (hfull : more = false → full = acc ++ c)
    (hk : more = true → ∀ w' : World Card, w'.card.bn = pni → w'.card.rxbuf = acc ++ c → w'.card.log = L →
      (∀ b ∈ w'.trace, Q b) → SendPost cfg L full Q (k w')) :
    SendPost cfg L full Q (sendStep more pni k r) := by
  rw [sendStep_iso cfg hp acc L c more k r hr.1]
  obtain ⟨w1, res⟩ := r
  obtain ⟨hl1, hq1⟩ := hr
  simp only at hl1 hq1 ⊢
  cases res with
  | error e =>
    refine ⟨hq1, hl1.2, ?_⟩
    rcases st_log_cmd cfg hl1.1 with h | ⟨hm, h⟩
    · exact Or.inl h
    · rw [hfull hm]; exact Or.inr h
  | ok d =>
    obtain ⟨hd, hB⟩ := hl1
    cases more with
    | false =>
      simp only [cond_false] at hd hB
      simp only [Bool.false_eq_true, if_false, SendPost, hfull rfl]
      refine ⟨hq1, tog_lt pni, ?_, ?_⟩
      · simp [hB, tog_tog hp]
      · simpa [hB, tog_tog hp] using hd
    | true =>
      obtain ⟨h1, h2, h3⟩ := cmdRound_next hp hd.core
      rw [tog_tog hp] at h1
      exact hk rfl w1 h1 h2 h3 hq1

theorem sendChunks_post (cfg : CardCfg) (m F nNak : Nat) (hm : 1 ≤ m) (L : List Bytes) (Q : Bytes → Prop)
    (hQ : ∀ b : Bytes, b.length ≤ m + 1 → Q b) :
    ∀ (cs : List Bytes) (pni : Nat) (acc : Bytes) (w : World Card), cs ≠ [] → pni < 2 →
      w.card.bn = (pni + 1) % 2 → w.card.rxbuf = acc → w.card.log = L →
      (∀ c ∈ cs, c.length ≤ m) → (∀ b ∈ w.trace, Q b) →
      SendPost cfg L (acc ++ cs.flatten) Q (sendChunks (isoPeer cfg) F nNak cs pni w) := by
  intro cs
  induction cs with
  | nil => intro _ _ _ h; exact absurd rfl h
  | cons c rest ih =>
    intro pni acc w _ hp hb hr hl hcs hq
    have hc : c.length ≤ m := hcs c (by simp)
    rw [sendChunks_cons]
    refine sendStep_post cfg L Q hp acc c _ (!rest.isEmpty) _ _
      (blockLoop_post cfg _ (cmdRound_ok cfg hp acc L c _) Q
        ⟨hQ _ (by simp; omega), hQ _ (by simp), hQ _ (by simp [wtxBlock]; omega)⟩ F nNak F 1 _ w
        (Or.inl ⟨⟨hb, hr, hl⟩, Or.inl rfl⟩) hq) ?_ ?_
    · intro hm'
      cases rest with
      | nil => simp
      | cons _ _ => simp at hm'
    · intro hm' w' h1 h2 h3 hq'
      have := ih ((pni + 1) % 2) (acc ++ c) w' (by intro h; simp [h] at hm') (tog_lt pni)
        (by rw [tog_tog hp]; exact h1) h2 h3 (fun x hx => hcs x (List.mem_cons_of_mem _ hx)) hq'
      simpa [List.append_assoc] using this


def RecvPost (L' : List Bytes) (rsp : Bytes) (Q : Bytes → Prop) (r : World Card × Nat × Py Bytes) : Prop :=
  (∀ b ∈ r.1.trace, Q b) ∧ r.1.card.log = L' ∧
  match r.2.2 with
  | .ok x => x = rsp ∧ r.2.1 < 2 ∧ r.1.card.bn = (r.2.1 + 1) % 2 ∧ r.1.card.rxbuf = []
  | .error e => ErrKind e

theorem st_log_ack (cfg : CardCfg) {pni T L k} (h : St cfg (ackRound cfg pni T L) k) : k.log = L := by
  rcases h with h | h | h
  · exact core_log h
  · exact core_log h.core
  · exact core_log h.core

/-- head of the response loop against the ISO card: `data` is the card's last block, `T` what the card still holds -/
structure RecvAt (L' : List Bytes) (pni : Nat) (data : Bytes) (c : Card) (T : Bytes) : Prop where
  pni_lt : pni < 2
  shape : ∃ inf, data = iBlock ((pni + 1) % 2) (decide (T ≠ [])) inf
  done : Done ⟨(pni + 1) % 2, [], T, L'⟩ data c

/-- the card is as the R(ACK) round for the next block (`ackRound`) wants to find it -/
theorem RecvAt.pre {L' : List Bytes} {pni : Nat} {data : Bytes} {c : Card} {T : Bytes} (h : RecvAt L' pni data c T) :
    c.core = ⟨(pni + 1) % 2, [], T, L'⟩ := h.done.core

theorem RecvAt.log {L' : List Bytes} {pni : Nat} {data : Bytes} {c : Card} {T : Bytes} (h : RecvAt L' pni data c T) :
    c.log = L' := core_log h.pre

structure RecvPre (L' : List Bytes) (rsp : Bytes) (Q : Bytes → Prop) (pni : Nat) (data resp : Bytes) (w : World Card)
    (T : Bytes) : Prop where
  head : RecvAt L' pni data w.card T
  collected : resp ++ T = rsp
  trace : ∀ b ∈ w.trace, Q b

theorem recvStep_iso (cfg : CardCfg) (L' : List Bytes) (guard : Bytes → Prop) [DecidablePred guard] {pni : Nat}
    {data : Bytes} {w : World Card} {T : Bytes} (resp : Bytes) (k : Bytes → Bytes → World Card → World Card × Nat × Py Bytes)
    (r : World Card × Py Bytes) (h : RecvAt L' pni data w.card T)
    (hr : T ≠ [] → LPost cfg (ackRound cfg pni T L') r.1.card r.2) :
    recvStep guard pni data resp k w r =
      if T = [] then (w, pni, .ok resp)
      else if guard (data.drop 1) then (w, pni, .error (.tagCmd PROTOCOL_ERROR))
      else match r.2 with
        | .error e => (r.1, pni, .error e)
        | .ok d => k d (resp ++ d.drop 1) r.1 := by
  obtain ⟨hp, ⟨inf, rfl⟩, _⟩ := h
  unfold recvStep
  simp only [iBlock_cons, List.drop_succ_cons, List.drop_zero]
  by_cases hT : T = []
  · rw [if_pos ((ihead_and10 (tog_lt pni) (decide (T ≠ []))).mpr (by simp [hT])), if_pos hT]
  · have h10 : ¬ (((if decide (T ≠ []) = true then 0x12 else 0x02) ||| ((pni + 1) % 2)) &&& 0x10 = 0) := by
      intro h; simpa [hT] using (ihead_and10 (tog_lt pni) (decide (T ≠ []))).mp h
    rw [if_neg h10, if_neg hT]
    obtain ⟨w1, res⟩ := r
    cases res with
    | error e => rfl
    | ok d =>
      have hB : d = (ackRound cfg pni T L').B := (hr hT).2
      simp only [hB, iBlock_cons, ihead_and1 hp, ne_eq, not_true_eq_false, if_false, List.drop_succ_cons, List.drop_zero]

theorem RecvAt.next {cfg : CardCfg} {L' : List Bytes} {pni : Nat} {data : Bytes} {c c1 : Card} {T : Bytes}
    (h : RecvAt L' pni data c T) (h1 : Done (ackRound cfg pni T L').post (ackRound cfg pni T L').B c1) :
    RecvAt L' ((pni + 1) % 2) (ackRound cfg pni T L').B c1 (T.drop cfg.chunk) := by
  refine ⟨tog_lt pni, ⟨T.take cfg.chunk, ?_⟩, ?_⟩
  · simp [tog_tog h.pni_lt, iBlock_cons, List.drop_eq_nil_iff]
  · simpa [tog_tog h.pni_lt, iBlock_cons] using h1

theorem CmdDone.recvAt {cfg : CardCfg} {L : List Bytes} {full : Bytes} {pni' : Nat} {d : Bytes} {c : Card}
    (h : CmdDone cfg L full pni' d c) :
    RecvAt (L ++ [full]) pni' d c ((cfg.app L.length full).drop cfg.chunk) :=
  ⟨h.pni_lt, ⟨(cfg.app L.length full).take cfg.chunk, by rw [h.block]; simp [List.drop_eq_nil_iff]⟩, h.done⟩

theorem recvStep_post (cfg : CardCfg) (L' : List Bytes) (rsp : Bytes) (Q : Bytes → Prop) (guard : Bytes → Prop)
    [DecidablePred guard] (pni : Nat) (data resp : Bytes) (k : Bytes → Bytes → World Card → World Card × Nat × Py Bytes)
    (w : World Card) (r : World Card × Py Bytes) (T : Bytes) (h : RecvPre L' rsp Q pni data resp w T)
    (hr : T ≠ [] → LoopOk cfg (ackRound cfg pni T L') Q r)
    (hk : ∀ data' resp' w', RecvPre L' rsp Q ((pni + 1) % 2) data' resp' w' (T.drop cfg.chunk) →
      RecvPost L' rsp Q (k data' resp' w')) :
    RecvPost L' rsp Q (recvStep guard pni data resp k w r) := by
  obtain ⟨hat, hresp, hq⟩ := h
  rw [recvStep_iso cfg L' guard resp k r hat (fun hT => (hr hT).1)]
  by_cases hT : T = []
  · rw [if_pos hT]
    subst hT
    exact ⟨hq, hat.log, by simpa using hresp, hat.pni_lt, core_bn hat.pre, core_rxbuf hat.pre⟩
  · rw [if_neg hT]
    by_cases hg : guard (data.drop 1)
    · rw [if_pos hg]
      exact ⟨hq, hat.log, Or.inr (Or.inr (Or.inr rfl))⟩
    · rw [if_neg hg]
      obtain ⟨w1, res⟩ := r
      obtain ⟨hl1, hq1⟩ := hr hT
      simp only at hl1 hq1 ⊢
      cases res with
      | error e => exact ⟨hq1, st_log_ack cfg hl1.1, hl1.2⟩
      | ok d =>
        have hn := hat.next hl1.1
        rw [← hl1.2] at hn
        refine hk _ _ w1 ⟨hn, ?_, hq1⟩
        rw [hl1.2]
        simpa [iBlock_cons, List.append_assoc] using hresp

theorem recvChain_post (cfg : CardCfg) (m F nAck : Nat) (hm : 1 ≤ m) (L' : List Bytes) (rsp : Bytes) (Q : Bytes → Prop)
    (hQ : ∀ b : Bytes, b.length ≤ m + 1 → Q b) :
    ∀ (f pni : Nat) (data resp : Bytes) (w : World Card) (T : Bytes), RecvPre L' rsp Q pni data resp w T →
      RecvPost L' rsp Q (recvChain (isoPeer cfg) F nAck f pni data resp w) := by
  intro f
  induction f with
  | zero =>
    intro pni data resp w T h
    simp only [recvChain, RecvPost]
    exact ⟨h.trace, h.head.log, Or.inl rfl⟩
  | succ f ih =>
    intro pni data resp w T h
    rw [recvChain_succ]
    exact recvStep_post cfg L' rsp Q _ pni data resp _ w _ T h
      (fun hT => blockLoop_post cfg _ (ackRound_ok cfg h.head.pni_lt T hT L') Q
        ⟨hQ _ (by simp), hQ _ (by simp), hQ _ (by simp [wtxBlock]; omega)⟩ F nAck F 1 _ w
        (Or.inl ⟨h.head.pre, Or.inl rfl⟩) h.trace)
      (fun d rs w' h' => ih _ d rs w' _ h')


theorem chunksAux_spec (miu : Nat) (hm : 1 ≤ miu) : ∀ (f : Nat) (l : Bytes), l.length ≤ f → l ≠ [] →
    (chunksAux miu f l).flatten = l ∧ chunksAux miu f l ≠ [] ∧ (∀ c ∈ chunksAux miu f l, c.length ≤ miu) ∧
    (chunksAux miu f l).length ≤ l.length := by
  intro f
  induction f with
  | zero =>
    intro l hl hne
    cases l with
    | nil => exact absurd rfl hne
    | cons a t => simp at hl
  | succ f ih =>
    intro l hl hne
    have hpos : 1 ≤ l.length := by
      cases l with
      | nil => exact absurd rfl hne
      | cons a t => simp
    unfold chunksAux
    split
    · rename_i h; simp [h, hpos]
    · rename_i h
      have hd : (l.drop miu).length ≤ f := by simp; omega
      have hdn : l.drop miu ≠ [] := by
        intro h0; have := congrArg List.length h0; simp at this; omega
      obtain ⟨h1, _, h3, h4⟩ := ih (l.drop miu) hd hdn
      refine ⟨by simp [h1], by simp, ?_, ?_⟩
      · intro c hc
        rcases List.mem_cons.mp hc with rfl | hc
        · simp; omega
        · exact h3 c hc
      · simp only [List.length_cons, List.length_drop] at h4 ⊢
        omega

theorem chunks_spec (miu : Nat) (hm : 1 ≤ miu) (l : Bytes) (hne : l ≠ []) :
    (chunks miu l).flatten = l ∧ chunks miu l ≠ [] ∧ (∀ c ∈ chunks miu l, c.length ≤ miu) ∧
    (chunks miu l).length ≤ l.length := by
  unfold chunks
  rw [if_neg hne]
  exact chunksAux_spec miu hm l.length l (Nat.le_refl _) hne

/-- card and reader are in step: the card's block number is the other one, no partial command chain is held -/
def Sync (pni : Nat) (c : Card) : Prop := c.bn = (pni + 1) % 2 ∧ c.rxbuf = []

/-- everything `exchange` guarantees against the ISO/IEC 14443-4 card, for every fault script -/
def ExchPost (cfg : CardCfg) (cmd : Bytes) (Q : Bytes → Prop) (w : World Card) (r : World Card × Pcd × Py Bytes) : Prop :=
  (∀ b ∈ r.1.trace, Q b) ∧
  match r.2.2 with
  | .ok x => r.1.card.log = w.card.log ++ [cmd] ∧ x = cfg.app w.card.log.length cmd ∧
             r.2.1.pni < 2 ∧ Sync r.2.1.pni r.1.card
  | .error e => ErrKind e ∧ (r.1.card.log = w.card.log ∨ r.1.card.log = w.card.log ++ [cmd])

theorem exchangeCmd_post (cfg : CardCfg) (F : Nat) (pcd : Pcd) (cmd : Bytes) (w : World Card) (m : Nat)
    (hmiu : pcd.miu = (m : Int)) (hm : 1 ≤ m) (hcmd : cmd ≠ []) (hp : pcd.pni < 2)
    (hs : Sync pcd.pni w.card) (Q : Bytes → Prop) (hQ : ∀ b : Bytes, b.length ≤ m + 1 → Q b) (hq : ∀ b ∈ w.trace, Q b) :
    ExchPost cfg cmd Q w (exchangeCmd (isoPeer cfg) F pcd cmd w) := by
  have h0 : ¬ pcd.miu = 0 := by omega
  have h1 : ¬ (pcd.miu < 0 ∨ cmd = []) := by
    intro h; rcases h with h | h
    · omega
    · exact hcmd h
  have ht : pcd.miu.toNat = m := by omega
  obtain ⟨hfl, hne, hlen, _⟩ := chunks_spec m hm cmd hcmd
  have hsend := sendChunks_post cfg m F pcd.nNak hm w.card.log Q hQ (chunks m cmd) pcd.pni [] w hne hp hs.1 hs.2 rfl hlen hq
  unfold exchangeCmd
  simp only [h0, h1, if_false, ht]
  rw [hfl, List.nil_append] at hsend
  generalize sendChunks _ _ _ _ _ _ = r1 at hsend ⊢
  obtain ⟨w1, pni1, res⟩ := r1
  obtain ⟨hq1, hres⟩ := hsend
  cases res with
  | error e => exact ⟨hq1, hres⟩
  | ok d =>
    obtain ⟨hp1, hd, hdone⟩ := hres
    simp only at hp1 hd hdone hq1 ⊢
    have hrecv := recvChain_post cfg m F pcd.nAck hm (w.card.log ++ [cmd]) (cfg.app w.card.log.length cmd) Q hQ
      F pni1 d (d.drop 1) w1 ((cfg.app w.card.log.length cmd).drop cfg.chunk)
      ⟨CmdDone.recvAt ⟨hp1, hd, hdone⟩, by rw [hd]; simp [iBlock_cons], hq1⟩
    generalize recvChain _ _ _ _ _ _ _ _ = r2 at hrecv ⊢
    obtain ⟨w2, pni2, res2⟩ := r2
    obtain ⟨hq2, hlog2, hres2⟩ := hrecv
    cases res2 with
    | error e => exact ⟨hq2, hres2, Or.inr hlog2⟩
    | ok x =>
      obtain ⟨hx, hp2, hb2, hr2⟩ := hres2
      exact ⟨hq2, hlog2, hx, hp2, hb2, hr2⟩


/-! ### exception classes, for every card whatsoever -/

theorem blockLoop_safe {σ} (P : Peer σ) (F n : Nat) (resend : Option Nat) (req rty : Bytes) :
    ∀ (f i : Nat) (out : Bytes) (w : World σ),
      SafeRes (blockLoop P F n resend req rty f i out w).2 := by
  intro f
  induction f with
  | zero => intro i out w; simp [blockLoop, ErrKind, SafeRes]
  | succ f ih =>
    intro i out w
    rw [blockLoop_succ]
    rcases loopStep_cases n i resend req rty False (blockLoop P F n resend req rty f) (liftW (xchgW P F w out))
      with ⟨o, _, _, h⟩ | ⟨res, hs, _, h⟩
    · rw [h]; exact ih _ _ _
    · rw [h]; exact hs

theorem sendChunks_safe {σ} (P : Peer σ) (F nNak : Nat) :
    ∀ (cs : List Bytes) (pni : Nat) (w : World σ), cs ≠ [] →
      SafeRes (sendChunks P F nNak cs pni w).2.2 := by
  intro cs
  induction cs with
  | nil => intro _ _ h; exact absurd rfl h
  | cons c rest ih =>
    intro pni w _
    rw [sendChunks_cons]
    rcases sendStep_cases (!rest.isEmpty) pni (sendChunks P F nNak rest ((pni + 1) % 2)) _
      with ⟨hm, h⟩ | ⟨p, res, _, hs, _, h⟩
    · rw [h]; exact ih _ _ (by intro h0; simp [h0] at hm)
    · rw [h]; exact hs (blockLoop_safe P F nNak _ _ _ F 1 _ w)

theorem recvChain_safe {σ} (P : Peer σ) (F nAck : Nat) :
    ∀ (f pni : Nat) (data resp : Bytes) (w : World σ), data ≠ [] →
      ∀ e, (recvChain P F nAck f pni data resp w).2.2 = .error e → ErrKind e := by
  intro f
  induction f with
  | zero => intro pni data resp w _ e h; simp [recvChain] at h; simp [ErrKind, ← h]
  | succ f ih =>
    intro pni data resp w hne
    rw [recvChain_succ]
    rcases recvStep_cases (fun _ => False) pni data resp (recvChain P F nAck f ((pni + 1) % 2)) w _
      with ⟨res, hs, _, h⟩ | ⟨a, inf, _, _, ⟨res, hs, _, h⟩ | ⟨b, t, h⟩⟩
    · rw [h]; exact hs hne
    · rw [h]; exact hs (blockLoop_safe P F nAck none [0xA2 ||| pni] [0xA2 ||| pni] F 1 [0xA2 ||| pni] w)
    · rw [h]; exact ih _ _ _ _ (by simp)

/-- `exchange` raises nothing but `Type4TagCommandError(TIMEOUT|RECEIVE|PROTOCOL)`, whatever the card
does (`outOfFuel` is the model's marker for a card that never stops asking for more) -/
theorem exchangeCmd_error_kind_any {σ} (P : Peer σ) (F : Nat) (pcd : Pcd) (cmd : Bytes) (w : World σ)
    (hm : 0 < pcd.miu) (hcmd : cmd ≠ []) (e : Exc) (h : (exchangeCmd P F pcd cmd w).2.2 = .error e) : ErrKind e := by
  have h0 : ¬ pcd.miu = 0 := by omega
  have h1 : ¬ (pcd.miu < 0 ∨ cmd = []) := by
    intro h; rcases h with h | h
    · omega
    · exact hcmd h
  have hne : chunks pcd.miu.toNat cmd ≠ [] := (chunks_spec pcd.miu.toNat (by omega) cmd hcmd).2.1
  unfold exchangeCmd at h
  simp only [h0, h1, if_false] at h
  have hs := sendChunks_safe P F pcd.nNak (chunks pcd.miu.toNat cmd) pcd.pni w hne
  generalize sendChunks _ _ _ _ _ _ = r at hs h
  obtain ⟨w1, p1, res⟩ := r
  cases res with
  | error e' => simp only [SafeRes] at h hs; cases h; exact hs
  | ok d =>
    simp only [SafeRes] at h hs
    exact recvChain_safe P F pcd.nAck F p1 d (d.drop 1) w1 hs e h

theorem exchangeCmd_nop {σ} (P : Peer σ) (F : Nat) (pcd : Pcd) (cmd : Bytes) (w : World σ) (h : pcd.miu ≤ 0 ∨ cmd = []) :
    exchangeCmd P F pcd cmd w = (w, pcd, .error .value) ∨ exchangeCmd P F pcd cmd w = (w, pcd, .error .unbound) := by
  unfold exchangeCmd
  by_cases h0 : pcd.miu = 0
  · left; simp [h0]
  · right
    have : pcd.miu < 0 ∨ cmd = [] := by
      rcases h with h | h
      · exact Or.inl (by omega)
      · exact Or.inr h
    simp [h0, this]

/-- `_exchange_command` never touches the error flag -/
theorem exchangeCmd_failed {σ} (P : Peer σ) (F : Nat) (pcd : Pcd) (cmd : Bytes) (w : World σ) :
    (exchangeCmd P F pcd cmd w).2.1.failed = pcd.failed := by
  unfold exchangeCmd
  split
  · rfl
  · split
    · rfl
    · simp only
      split <;> rfl

/-- the wrapper `exchange` returns what `_exchange_command` returns (it only records the error) -/
theorem exchange_unfailed {σ} (P : Peer σ) (F : Nat) (pcd : Pcd) (cmd : Bytes) (w : World σ) (h : pcd.failed = none) :
    (exchange P F pcd cmd w).2.2 = (exchangeCmd P F pcd cmd w).2.2 ∧
    (exchange P F pcd cmd w).1 = (exchangeCmd P F pcd cmd w).1 := by
  unfold exchange
  simp only [h]
  generalize exchangeCmd P F pcd cmd w = r
  obtain ⟨w1, p1, res⟩ := r
  cases res with
  | ok x => exact ⟨rfl, rfl⟩
  | error e => cases e <;> exact ⟨rfl, rfl⟩

theorem checkStatus_ok {rsp x : Bytes} (h : checkStatus true rsp = .ok x) : rsp = x ++ [0x90, 0x00] := by
  unfold checkStatus at h
  by_cases hlen : rsp.length < 2
  · simp [hlen] at h
  · by_cases hsw : rsp.drop (rsp.length - 2) = [0x90, 0x00]
    · simp [hlen, hsw] at h
      rw [← h, ← hsw, List.take_append_drop]
    · simp [hlen, hsw] at h

theorem deriveFsc_spec (fsci maxSend : Nat) :
    deriveFsc fsci maxSend = min (fscTable.getD (min fsci 8) 256) maxSend ∧
    fscTable.getD (min fsci 8) 256 ∈ fscTable ∧ 16 ≤ fscTable.getD (min fsci 8) 256 := by
  have hmin : (if fsci > 8 then 8 else fsci) = min fsci 8 := by split <;> omega
  have htab : ∀ i, i < 9 → fscTable.getD i 256 ∈ fscTable ∧ 16 ≤ fscTable.getD i 256 := by decide
  refine ⟨?_, htab (min fsci 8) (by omega)⟩
  unfold deriveFsc; simp only [hmin]; split <;> omega

theorem deriveRetry_spec (fwi : Nat) :
    deriveRetry fwi ≤ 5 ∧ (fwi ≤ 9 ∨ fwi = 15 → deriveRetry fwi = 5) ∧ (fwi = 10 → deriveRetry fwi = 3) ∧
    (fwi = 11 → deriveRetry fwi = 1) ∧ (12 ≤ fwi ∧ fwi ≤ 14 → deriveRetry fwi = 0) := by
  have hretry : ∀ k, k < 15 → min (13560000 / (4096 * 2 ^ k)) 5 ≤ 5 ∧ (k ≤ 9 → min (13560000 / (4096 * 2 ^ k)) 5 = 5) ∧
      (k = 10 → min (13560000 / (4096 * 2 ^ k)) 5 = 3) ∧ (k = 11 → min (13560000 / (4096 * 2 ^ k)) 5 = 1) ∧
      (12 ≤ k → min (13560000 / (4096 * 2 ^ k)) 5 = 0) := by decide
  have hfwi : deriveFwi fwi < 15 := by unfold deriveFwi; split <;> omega
  obtain ⟨h1, h2, h3, h4, h5⟩ := hretry (deriveFwi fwi) hfwi
  refine ⟨h1, fun h => h2 ?_, fun h => h3 ?_, fun h => h4 ?_, fun h => h5 ?_⟩ <;>
    unfold deriveFwi <;> split <;> omega

/-- the format byte T0 of `mkAts`: FSCI in the low nibble, presence bits of TA(1) and TB(1) -/
theorem t0_bits : ∀ (f : Fin 16) (a b c : Bool),
    ((f.val ||| (if a then 0x10 else 0) ||| (if b then 0x20 else 0) ||| (if c then 0x40 else 0)) &&& 0x0F = f.val) ∧
    (((f.val ||| (if a then 0x10 else 0) ||| (if b then 0x20 else 0) ||| (if c then 0x40 else 0)) &&& 0x10 ≠ 0) ↔ a = true) ∧
    (((f.val ||| (if a then 0x10 else 0) ||| (if b then 0x20 else 0) ||| (if c then 0x40 else 0)) &&& 0x20 ≠ 0) ↔ b = true) := by
  decide

/-- the Type 4A evaluation of an Answer To Select built by `mkAts`, as `activateA` of either model does it; `mk`: what is
made of FSCI and FWI -/
theorem mkAts_decode {β} (mk : Nat → Nat → β) (fsci : Nat) (hf : fsci < 16) (ta tb tc : Option Nat) (hist : Bytes) :
    (match (mkAts fsci ta tb tc hist)[1]? with
     | none => mk 2 4
     | some t0 =>
       let tbIndex := if t0 &&& 0x10 ≠ 0 then 3 else 2
       let fwi := if t0 &&& 0x20 ≠ 0 then (match (mkAts fsci ta tb tc hist)[tbIndex]? with | some tb => tb >>> 4 | none => 4) else 4
       mk (t0 &&& 0x0F) fwi) = mk fsci (match tb with | some b => b >>> 4 | none => 4) := by
  obtain ⟨h1, h2, h3⟩ := t0_bits ⟨fsci, hf⟩ ta.isSome tb.isSome tc.isSome
  simp only at h1 h2 h3
  unfold mkAts
  simp only [List.getElem?_cons_succ, List.getElem?_cons_zero, h1]
  cases ta <;> cases tb <;> cases tc <;> simp_all

end NfcVerif.IsoDep
