import NfcVerif.Lemmas.AdvT12
import NfcVerif.Model.AdvT34
import NfcVerif.Lemmas.IsoDep
/-!
C08 for activation: `activate_spec`. On activation data with the lengths the drivers deliver
(`WellFramed`), `nfc.tag.activate` never raises and needs at most 5 interactions: the 4 of
`activateNxp_spec` (authenticate probe, GET_VERSION, a re-activation after each) and one more.
`WOk` (the interaction counter counts the log) is carried through because `Lemmas/AdvOps` measures
the Type 4 session that follows by the log. `TagObjOk` is what the readers and the ISO-DEP
initiator assume of the tag object, and each part of it has its own hypothesis in `activate_spec`:
a Type 1 UID that is not empty needs the RID response of 6 octets; a Type 3 system code of 16 bits
needs SENSF_RES made of octets; a positive MIU and at most 5 retries (`mkPcd_ok`) need a frontend
that sends 16 octets, the smallest frame size. The waiting time budget of the Type 4 object is at
most 966656 = 59 · 2^14 (`wtxLimit_le`). `activate_ok` is the part without `TagObjOk`.
-/
namespace NfcVerif.Adv

theorem xchg_n (t : Tag) (w : W) (c : Bytes) : (xchg t w c).2.n = w.n + 1 := rfl

/-- the interaction counter counts the log -/
def WOk (w : W) : Prop := w.n = w.log.length

theorem xchg_wok (t : Tag) (w : W) (c : Bytes) (h : WOk w) : WOk (xchg t w c).2 := by
  unfold WOk xchg at *; simp; exact h

theorem activateNxp_spec (t : Tag) (w : W) :
    (activateNxp t w).2.n ≤ w.n + 4 ∧ (WOk w → WOk (activateNxp t w).2) := by
  have h1 := xchg_wok t w [0x1A, 0x00]
  have h2 := xchg_wok t (xchg t w [0x1A, 0x00]).2 []
  have h3 := xchg_wok t (xchg t (xchg t w [0x1A, 0x00]).2 []).2 [0x60]
  have h4 := xchg_wok t (xchg t (xchg t (xchg t w [0x1A, 0x00]).2 []).2 [0x60]).2 []
  have n2 : ((xchg t (xchg t w [0x1A, 0x00]).2 []).2).n ≤ w.n + 4 := Nat.le_add_right (w.n + 2) 2
  have n3 : ((xchg t (xchg t (xchg t w [0x1A, 0x00]).2 []).2 [0x60]).2).n ≤ w.n + 4 := Nat.le_succ (w.n + 3)
  have n4 : ((xchg t (xchg t (xchg t (xchg t w [0x1A, 0x00]).2 []).2 [0x60]).2 []).2).n ≤ w.n + 4 := Nat.le_refl _
  unfold activateNxp
  simp only
  split
  · exact ⟨n2, fun h => h2 (h1 h)⟩
  · split
    · exact ⟨n2, fun h => h2 (h1 h)⟩
    · split
      · exact ⟨n4, fun h => h4 (h3 (h2 (h1 h)))⟩
      · split
        · exact ⟨n3, fun h => h3 (h2 (h1 h))⟩
        · split
          · exact ⟨n4, fun h => h4 (h3 (h2 (h1 h)))⟩
          · exact ⟨n3, fun h => h3 (h2 (h1 h))⟩

/-- the activation inputs have the lengths the drivers deliver -/
def WellFramed (g : Target) : Prop :=
  (g.tech = 0 → g.sens.length = 2 ∧ g.sel.length = 1 ∧ 0 < g.sdd.length) ∧
  (g.tech = 1 → 12 ≤ g.sensb.length) ∧
  (g.tech ≠ 0 → g.tech ≠ 1 → g.sensf.length = 17 ∨ g.sensf.length = 19)

/-- what `nfc.tag.activate` hands to the tag classes -/
def TagObjOk : TagObj → Prop
  | .t1 _ uid => uid ≠ []
  | .t2 _ => True
  | .t3 _ idm pmm sys => idm.length = 8 ∧ pmm.length = 8 ∧ sys < 65536
  | .t4 _ pcd lim => 0 < pcd.miu ∧ pcd.nNak ≤ 5 ∧ pcd.nAck ≤ 5 ∧ lim ≤ 966656

theorem mkPcd_ok (fsci fwi maxSend : Nat) (h : 16 ≤ maxSend) :
    0 < (IsoDep.mkPcd fsci fwi maxSend).miu ∧ (IsoDep.mkPcd fsci fwi maxSend).nNak ≤ 5 ∧
    (IsoDep.mkPcd fsci fwi maxSend).nAck ≤ 5 := by
  obtain ⟨hf, -, h16⟩ := IsoDep.deriveFsc_spec fsci maxSend
  have hr := (IsoDep.deriveRetry_spec fwi).1
  unfold IsoDep.mkPcd
  exact ⟨by simp only; omega, hr, hr⟩

theorem wtxLimit_le (fwi : Nat) : IsoDepR.wtxLimit fwi ≤ 966656 := by
  unfold IsoDepR.wtxLimit
  have : 2 ^ (14 - IsoDep.deriveFwi fwi) ≤ 2 ^ 14 := Nat.pow_le_pow_right (by omega) (by omega)
  have h2 : (59 : Nat) * 2 ^ 14 = 966656 := by decide
  have := Nat.mul_le_mul_left 59 this
  omega

/-- the last part: for a frontend that can send at least 16 octets, SENSF_RES made of octets and, from a Type 1
tag, a RID response of 6 octets, the tag object (if any) is set up so that its operations are safe -/
theorem activate_spec (t : Tag) (maxSend maxRecv : Nat) (g : Target) (w : W) (hg : WellFramed g) :
    ∃ o, (activate t maxSend maxRecv g w).1 = .ok o ∧ (activate t maxSend maxRecv g w).2.n ≤ w.n + 5 ∧
      (WOk w → WOk (activate t maxSend maxRecv g w).2) ∧
      (16 ≤ maxSend → IsBytes g.sensf →
        (g.tech = 0 → ∀ s1, idxN g.sens 1 = .ok s1 → s1 &&& 0x0F = 0x0C → g.rid.length = 6) →
        ∀ x, o = some x → TagObjOk x) := by
  have h0le : w.n ≤ w.n + 5 := Nat.le_add_right _ _
  have h1le : w.n + 1 ≤ w.n + 5 := Nat.add_le_add_left (by decide) _
  have hnone : ∀ x : TagObj, (none : Option TagObj) = some x → TagObjOk x := fun _ h => by cases h
  unfold activate
  by_cases h0 : g.tech = 0
  · rw [if_pos h0]
    obtain ⟨hs, hl, hd⟩ := hg.1 h0
    obtain ⟨s1, hs1, -⟩ := idxN_lt g.sens 1 (by omega)
    obtain ⟨sl, hsl, -⟩ := idxN_lt g.sel 0 (by omega)
    obtain ⟨m, hm, -⟩ := idxN_lt g.sdd 0 hd
    rw [hs1]
    simp only
    split
    · rename_i h1
      refine ⟨_, rfl, h0le, id, fun _ _ hrid x hx => ?_⟩
      cases hx
      have := hrid h0 s1 rfl h1
      intro h
      have := congrArg List.length h
      simp [sliceN] at this
      omega
    · rw [hsl]
      simp only
      split
      · rw [hm]
        simp only
        split
        · obtain ⟨hn, hk⟩ := activateNxp_spec t w
          rcases hq : activateNxp t w with ⟨c, w'⟩
          rw [hq] at hn hk
          cases c with
          | some c => exact ⟨_, rfl, Nat.le_trans hn (by omega), hk, fun _ _ _ x hx => by cases hx; trivial⟩
          | none =>
            simp only [xchg]
            cases t w'.n with
            | some x =>
              exact ⟨_, rfl, Nat.succ_le_succ hn, fun h => xchg_wok t w' [] (hk h), fun _ _ _ x hx => by cases hx; trivial⟩
            | none => exact ⟨_, rfl, Nat.succ_le_succ hn, fun h => xchg_wok t w' [] (hk h), fun _ _ _ => hnone⟩
        · exact ⟨_, rfl, h0le, id, fun _ _ _ x hx => by cases hx; trivial⟩
      · split
        · simp only [xchg]
          cases t w.n with
          | none => exact ⟨_, rfl, h1le, xchg_wok t w _, fun _ _ _ => hnone⟩
          | some ats =>
            refine ⟨_, rfl, h1le, xchg_wok t w _, fun hms _ _ x hx => ?_⟩
            cases hx
            have := mkPcd_ok (atsParams ats).1 (atsParams ats).2 maxSend hms
            exact ⟨this.1, this.2.1, this.2.2, wtxLimit_le _⟩
        · exact ⟨_, rfl, h0le, id, fun _ _ _ => hnone⟩
  · rw [if_neg h0]
    by_cases h1 : g.tech = 1
    · rw [if_pos h1]
      have hb := hg.2.1 h1
      simp only [xchg]
      cases t w.n with
      | none => exact ⟨_, rfl, h1le, xchg_wok t w _, fun _ _ _ => hnone⟩
      | some x =>
        simp only
        obtain ⟨a, ha, -⟩ := idxN_lt g.sensb 10 (by omega)
        obtain ⟨b, hb', -⟩ := idxN_lt g.sensb 11 (by omega)
        simp only [IsoDep.activateB, ha, hb', Py.bind_ok]
        refine ⟨_, rfl, h1le, xchg_wok t w _, fun hms _ _ x hx => ?_⟩
        cases hx
        have := mkPcd_ok (a >>> 4) (b >>> 4) maxSend hms
        exact ⟨this.1, this.2.1, this.2.2, wtxLimit_le _⟩
    · rw [if_neg h1]
      have hf := hg.2.2 h0 h1
      split
      · exact ⟨_, rfl, h0le, id, fun _ _ _ => hnone⟩
      · obtain ⟨ic, hic, -⟩ := idxN_lt g.sensf 10 (by omega)
        rw [hic]
        simp only
        have h8a : (sliceN g.sensf 1 9).length = 8 := by simp [sliceN]; omega
        have h8b : (sliceN g.sensf 9 17).length = 8 := by simp [sliceN]; omega
        rcases hf with hf | hf
        · rw [if_neg (by omega)]
          exact ⟨_, rfl, h0le, id, fun _ _ _ x hx => by cases hx; exact ⟨h8a, h8b, by decide⟩⟩
        · rw [if_pos (by omega)]
          obtain ⟨v, hv, hlt⟩ := unpackH_slice g.sensf 17 (by omega)
          rw [hv]
          exact ⟨_, rfl, h0le, id, fun _ hsf _ x hx => by cases hx; exact ⟨h8a, h8b, hlt hsf⟩⟩

theorem activate_ok (t : Tag) (maxSend maxRecv : Nat) (g : Target) (w : W) (hg : WellFramed g) :
    (∃ o, (activate t maxSend maxRecv g w).1 = .ok o) ∧ (activate t maxSend maxRecv g w).2.n ≤ w.n + 5 :=
  let ⟨o, h, hn, _⟩ := activate_spec t maxSend maxRecv g w hg
  ⟨⟨o, h⟩, hn⟩

end NfcVerif.Adv
