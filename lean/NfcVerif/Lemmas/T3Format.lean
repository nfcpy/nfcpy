import NfcVerif.Model.T3Format
import NfcVerif.Lemmas.T3
/-!
Lemmas for Type 3 `format()` (C03T34.t3_format_confined): one lemma per loop of `format`.  One definition of the
specification lives here: `fmtNbw`, which the statement of `t3_format_confined` mentions.
-/
namespace NfcVerif.T3
open NfcVerif.T34

/-- the `Nbw` that `format` writes for a tag of `N` blocks accepting `limW` blocks per write command: the probed
`min limW 13`, with 13 reduced to 12 when `Nmaxb = N - 1 > 255` (`tt3.py`: `if nbw == 13 and nmaxb > 255: nbw = 12`) -/
def fmtNbw (limW N : Nat) : Nat := if min limW 13 = 13 ∧ N - 1 > 255 then 12 else min limW 13

theorem readOk_single (t : Phys) (N : Nat) (hm : t.mem.length = 16 * N) (hr : 1 ≤ t.limR) (b : Nat) :
    readOk t [b] = decide (b < N) := by
  simp only [readOk, blockOk, hm, List.isEmpty_cons, Bool.not_false, Bool.true_and, List.length_cons, List.length_nil,
    List.all_cons, List.all_nil, Bool.and_true]
  by_cases h : b < N
  · simp [h, hr]; omega
  · simp [h]; omega

theorem bsearch_spec (t : Phys) (N : Nat) (hm : t.mem.length = 16 * N) (hr : 1 ≤ t.limR) :
    ∀ fuel lo hi, lo < N → N ≤ hi → hi - lo ≤ 2 ^ fuel → bsearch t fuel lo hi = N - 1 := by
  intro fuel
  induction fuel with
  | zero => intro lo hi h1 h2 h3; simp at h3; simp [bsearch]; omega
  | succ fuel ih =>
    intro lo hi h1 h2 h3
    rw [Nat.pow_succ] at h3
    unfold bsearch
    split
    · simp only [readOk_single t N hm hr]
      by_cases hb : lo + (hi - lo) / 2 < N
      · simp only [hb, decide_true, if_true]
        exact ih _ _ hb h2 (by omega)
      · simp only [hb, decide_false]
        exact ih _ _ h1 (by omega) (by omega)
    · omega

theorem probeUp_spec (ok : Nat → Bool) (top lim : Nat) (hok : ∀ k, 1 ≤ k → (ok k = true ↔ k ≤ lim)) :
    ∀ fuel k, 1 ≤ k → k ≤ min lim top + 1 → fuel + k = top + 1 → probeUp ok top fuel k = min lim top := by
  intro fuel
  induction fuel with
  | zero => intro k h1 h2 h3; simp [probeUp]; omega
  | succ fuel ih =>
    intro k h1 h2 h3
    unfold probeUp
    rw [if_neg (by omega)]
    by_cases hk : k ≤ lim
    · rw [if_pos ((hok k h1).mpr hk)]
      exact ih (k + 1) (by omega) (by omega) (by omega)
    · have : ok k = false := Bool.eq_false_iff.mpr fun h => hk ((hok k h1).mp h)
      simp [this]; omega

theorem slice_repeat (blk : Bytes) (hl : blk.length = 16) : ∀ (K i : Nat), i < K →
    sliceN (repeatBytes K blk) (16 * i) (16 * (i + 1)) = blk := by
  intro K
  induction K with
  | zero => intro i h; omega
  | succ K ih =>
    intro i hi
    have hrep : repeatBytes (K + 1) blk = blk ++ repeatBytes K blk := by
      simp [repeatBytes, List.replicate_succ]
    rw [hrep]
    cases i with
    | zero => simp [sliceN, hl]
    | succ i =>
      have := ih i (by omega)
      unfold sliceN at *
      rw [List.drop_append, List.drop_of_length_le (by omega), hl, List.nil_append,
        show 16 * (i + 1) - 16 = 16 * i by omega, show 16 * (i + 1 + 1) - 16 * (i + 1) = 16 * (i + 1) - 16 * i by omega]
      exact this

theorem probe_fold (m data : Bytes) (hm : 16 ≤ m.length) : ∀ (k n : Nat),
    (∀ i, n ≤ i → i < n + k → sliceN data (16 * i) (16 * (i + 1)) = m.take 16) →
    ((List.replicate k 0).zipIdx n).foldl
      (fun m p => splice m (16 * p.1) (sliceN data (16 * p.2) (16 * (p.2 + 1)))) m = m := by
  have hs : splice m 0 (m.take 16) = m := by
    rw [splice_zero, List.length_take, Nat.min_eq_left hm, List.take_append_drop]
  intro k
  induction k with
  | zero => intro n _; rfl
  | succ k ih =>
    intro n h
    rw [List.replicate_succ, List.zipIdx_cons, List.foldl_cons]
    simp only [Nat.mul_zero]
    rw [h n (by omega) (by omega), hs]
    exact ih (n + 1) (fun i h1 h2 => h i (by omega) (by omega))

theorem probeWrites_fold (m : Bytes) (hm : 16 ≤ m.length) (nbw : Nat) :
    (probeWrites (m.take 16) nbw).foldl applyG m = m := by
  unfold probeWrites
  have hl : (m.take 16).length = 16 := by simp [List.length_take]; omega
  induction nbw with
  | zero => rfl
  | succ n ih =>
    rw [List.range_succ, List.map_append, List.foldl_append, ih]
    simp only [List.map_cons, List.map_nil, List.foldl_cons, List.foldl_nil, applyG]
    exact probe_fold m _ hm (n + 1) 0 (fun i _ h2 => slice_repeat _ hl (n + 1) i (by omega))

theorem applyG_single (m : Bytes) (b : Nat) (d : Bytes) (hd : d.length = 16) :
    applyG m ⟨[b], d⟩ = splice m (16 * b) d := by
  simp [applyG, List.zipIdx, sliceN, ← hd]

theorem wipe_fold (w : Nat) : ∀ (n : Nat) (m : Bytes), 16 * (n + 1) ≤ m.length →
    (wipeCmds w n).foldl applyG m = m.take 16 ++ List.replicate (16 * n) w ++ m.drop (16 * (n + 1)) := by
  intro n
  induction n with
  | zero => intro m _; simp [wipeCmds]
  | succ n ih =>
    intro m hm
    have hl : (List.replicate 16 w).length = 16 := by simp
    have hs : (splice m (16 * (n + 1)) (List.replicate 16 w)).length = m.length :=
      splice_length _ _ _ (by rw [hl]; omega)
    simp only [wipeCmds, List.foldl_cons]
    rw [applyG_single _ _ _ hl, ih _ (by rw [hs]; omega)]
    rw [splice_take_before _ _ _ 16 (by omega) (by rw [hl]; omega)]
    have hd : (splice m (16 * (n + 1)) (List.replicate 16 w)).drop (16 * (n + 1))
        = List.replicate 16 w ++ m.drop (16 * (n + 1 + 1)) := by
      unfold splice
      rw [List.append_assoc, List.drop_append, List.drop_of_length_le (by simp [List.length_take]; omega)]
      simp [List.length_take, Nat.min_eq_left (show 16 * (n + 1) ≤ m.length by omega)]
      congr 1
    rw [hd]
    have hr : List.replicate (16 * (n + 1)) w = List.replicate (16 * n) w ++ List.replicate 16 w := by
      rw [List.replicate_append_replicate]; congr 1
    rw [hr]
    simp [List.append_assoc]

theorem opOk_replicate (lim N k : Nat) (hN : 1 ≤ N) (hk : 1 ≤ k) (mem : Bytes) (hm : mem.length = 16 * N) :
    ((!(List.replicate k 0).isEmpty && decide ((List.replicate k 0).length ≤ lim)
      && (List.replicate k 0).all (fun b => decide (16 * (b + 1) ≤ mem.length))) = true) ↔ k ≤ lim := by
  obtain ⟨k', rfl⟩ : ∃ k', k = k' + 1 := ⟨k - 1, by omega⟩
  simp [List.replicate_succ, hm]
  intro _; omega

theorem wipeCmds_mem (w : Nat) : ∀ n, ∀ c ∈ wipeCmds w n, ∀ b ∈ c.blocks, 1 ≤ b ∧ b ≤ n := by
  intro n
  induction n with
  | zero => intro c hc; simp [wipeCmds] at hc
  | succ n ih =>
    intro c hc b hb
    simp only [wipeCmds, List.mem_cons] at hc
    rcases hc with rfl | hc
    · simp at hb; omega
    · have := ih c hc b hb; omega

end NfcVerif.T3
