import NfcVerif.Lemmas.SnepChannel
import NfcVerif.Model.Handover
/-! The handover client/server model (C06): one request is delivered and answered, each side collecting
fragments until the message is complete (`req_run`), for any completeness test that accepts the two
messages and none of their proper non-empty prefixes (`PrefixFree`). -/
namespace NfcVerif.Handover
open NfcVerif NfcVerif.Chan

/-- `complete` accepts `m` and no proper non-empty prefix of `m` (what a strict NDEF
decode does for a well-formed message: the ME flag ends it) -/
def PrefixFree (complete : Bytes → Bool) (m : Bytes) : Prop :=
  m ≠ [] ∧ complete m = true ∧ ∀ k, 0 < k → k < m.length → complete (m.take k) = false

theorem req_run (cfg : HCfg) (cmiu : Nat) (msg : Bytes) (n : HNet) (hn : n.sst = .collecting [] ∧ n.c2s = [] ∧ n.s2c = [])
    (hc : 0 < cmiu) (hs : 0 < cfg.smiu) (hreset : cfg.reset = true)
    (hm : PrefixFree cfg.complete msg) (hr : PrefixFree cfg.complete (cfg.handler msg)) :
    ∃ N, ∀ fuel, N ≤ fuel →
      runReq cfg cmiu fuel n msg =
      { cst := .done (some (cfg.handler msg)), sst := .collecting [], c2s := [], s2c := [],
        logC := n.logC ++ chunks cmiu msg, logS := n.logS ++ chunks cfg.smiu (cfg.handler msg), dl := n.dl ++ [msg] } := by
  obtain ⟨c0, _, _, _, lc, ls, dl0⟩ := n
  obtain ⟨rfl, rfl, rfl⟩ := hn
  have hcm := chunks_flatten cmiu hc msg
  have hcr := chunks_flatten cfg.smiu hs (cfg.handler msg)
  -- the server collects the queued request fragments and answers once, at the last one; `b = []` in its
  -- test for "more" is `if len(request) == 0: continue` of `serve()`, which comes before the decoder is asked
  have hsrv : ∀ b m, (proto cfg).srv (.collecting b) m =
      if decide (b ++ m = []) || !cfg.complete (b ++ m) then (.collecting (b ++ m), [], [])
      else (.collecting (if cfg.reset then [] else b ++ m), chunks cfg.smiu (cfg.handler (b ++ m)), [b ++ m]) := by
    intro b m
    by_cases h0 : b ++ m = [] <;> cases h : cfg.complete (b ++ m) <;> simp [proto, srvOnRecv, h0, h]
  have h1 := pump_srv_collect (proto cfg) (coll := .collecting) (more := fun b => decide (b = []) || !cfg.complete b)
    (fin := fun r => (.collecting (if cfg.reset then [] else r), chunks cfg.smiu (cfg.handler r), [r]))
    (hw := fun _ => rfl) (hs := hsrv) (fs := chunks cmiu msg) (buf := [])
    (h0 := chunks_ne_nil _ _ hm.1) (hne := fun f hf => (chunks_bound cmiu hc msg f hf).2)
    (hmore := fun k h1 h2 => by rw [List.nil_append, hcm] at h2 ⊢; rw [hm.2.2 k h1 h2, Bool.not_false, Bool.or_true])
    (hfin := by simp [hcm, hm.1, hm.2.1])
    (c := .collecting []) (q := []) (lc := lc ++ chunks cmiu msg) (ls := ls) (dl := dl0)
  -- the client collects the response fragments until the decoder accepts
  have hcli : ∀ b m, (proto cfg).cli (.collecting b) m =
      (if !cfg.complete (b ++ m) then .collecting (b ++ m) else .done (some (b ++ m)), []) := by
    intro b m
    cases h : cfg.complete (b ++ m) <;> simp [proto, cliOnRecv, h]
  have h2 := pump_cli_collect (proto cfg) (coll := .collecting) (more := fun b => !cfg.complete b)
    (fin := fun b => .done (some b)) (hw := fun _ => rfl) (hs := hcli)
    (fs := chunks cfg.smiu (cfg.handler msg)) (buf := [])
    (h0 := chunks_ne_nil _ _ hr.1) (hne := fun f hf => (chunks_bound cfg.smiu hs _ f hf).2)
    (hmore := fun k h1 h2 => by rw [List.nil_append, hcr] at h2 ⊢; rw [hr.2.2 k h1 h2]; rfl)
    (hfin := by rw [List.nil_append, hcr, hr.2.1]; rfl)
    (s := .collecting []) (lc := lc ++ chunks cmiu msg) (ls := ls ++ chunks cfg.smiu (cfg.handler msg))
    (dl := dl0 ++ [msg])
  rw [List.nil_append, hcm] at h1
  rw [List.nil_append, hcr] at h2
  refine ⟨(chunks cmiu msg).length + (chunks cfg.smiu (cfg.handler msg)).length, pump_stable _ _ _ _ ?_ (by simp [quiet])⟩
  simp only [startReq, List.nil_append]
  rw [pump_add, h1]
  simp only [hreset, if_true, List.nil_append]
  exact h2

end NfcVerif.Handover
