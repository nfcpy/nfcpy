import NfcVerif.Lemmas.FnBridgeBase
/-!
Lemmas about the prelude `PyFn.lean` for the bridge modules of the tag groups TagCmd, Vendor and Sony (single ones
are also used by Pn53xRf and Udp): `bytearray([..])`, `struct.pack` of single fields, slices, item reads and
item / slice assignments at natural positions, reversed slices, single-bit tests.
-/
namespace NfcVerif.FnBridge.TagCmd
open NfcVerif NfcVerif.PyFn

theorem mkBytes_bad (pre : List Nat) (x : Int) (post : List Int) (hp : ∀ b ∈ pre, b < 256) (hx : x < 0 ∨ x > 255) :
    mkBytes (pre.map (fun (b : Nat) => (b : Int)) ++ x :: post) = .error .value :=
  mkBytes_error _ ⟨x, by simp, hx⟩

/-- `len(rsp) == 1 and ..rsp[0]..`: the answer is a single octet -/
theorem single_octet {α} (rsp : Bytes) (f : Int → Py α) (g : Py α) :
    (if len rsp = 1 then getB rsp 0 >>= f else g) = match rsp with | [b] => f (b : Int) | _ => g := by
  match rsp with
  | [] => rfl
  | [b] => rfl
  | a :: b :: r => exact if_neg (by rw [len_eq, List.length_cons, List.length_cons]; omega)

theorem pack_Hle (n : Nat) : PyFn.pack [.Hle] [(n : Int)] = if n > 65535 then .error .struct else .ok [n % 256, n / 256] := by
  rw [pack_one, packField_nat]
  refine ite_flip ?_ ?_ ?_
  · show n < 65536 ↔ ¬ n > 65535
    omega
  · intro h
    have : n / 256 < 256 := by omega
    simp [Fmt.octets, toLE, Nat.mod_eq_of_lt this]
  · intro _; rfl

/-- `hi << i | lo` for a field `lo` of `i` bits: the two fields do not overlap -/
theorem or_low (hi lo i : Nat) (h : lo < 2 ^ i) : hi * 2 ^ i ||| lo = hi * 2 ^ i + lo := by
  rw [← Nat.shiftLeft_eq, Nat.shiftLeft_add_eq_or_of_lt h]

theorem at0_eq (d : Bytes) (i : Nat) : (d[i]?).getD 0 = at0 d i := rfl

theorem slice2_at (d : Bytes) (i : Nat) (h : i + 2 ≤ d.length) :
    slice d (i : Int) ((i + 2 : Nat) : Int) = [at0 d i, at0 d (i + 1)] := by
  rw [slice_ofNat]
  unfold sliceN
  have h0 : i < d.length := by omega
  have h1 : i + 1 < d.length := by omega
  rw [at0_lt h0, at0_lt h1, List.drop_eq_getElem_cons h0, List.drop_eq_getElem_cons h1]
  have : i + 2 - i = 2 := by omega
  rw [this, List.take_succ_cons, List.take_succ_cons, List.take_zero]

theorem slice02 (d : Bytes) (h : 2 ≤ d.length) : slice d 0 2 = [at0 d 0, at0 d 1] := slice2_at d 0 (by omega)

/-- Two spellings each of `ube_pair` and `needExact_pair`: a goal that went through `lit_cast` carries the offset / the
width as a cast natural, which neither `rw` nor `simp` matches against the literal. -/
theorem ube_pair (a b : Nat) : ube [a, b] ((0 : Nat) : Int) 2 = ((a * 256 + b : Nat) : Int) := by
  simp [ube, beNat]

theorem ube_pair' (a b : Nat) : ube [a, b] 0 2 = ((a * 256 + b : Nat) : Int) := ube_pair a b

theorem ule_pair (a b : Nat) : ule [a, b] 0 2 = ((b * 256 + a : Nat) : Int) := by
  simp [ule, beNat]

theorem needExact_pair (a b : Nat) : needExact [a, b] ((2 : Nat) : Int) = .ok () := needExact_nat [a, b] 2

theorem needExact_pair' (a b : Nat) : needExact [a, b] 2 = .ok () := needExact_pair a b

theorem idx_nat (d : Bytes) (k : Nat) (h : k < d.length) : idx d (k : Int) = .ok (at0 d k) := by
  unfold idx
  have h0 : ¬ ((k : Int) < 0) := by omega
  have h1 : ¬ ((k : Int) ≥ (d.length : Int)) := by omega
  simp only [h0, if_false, h1, false_or, Int.toNat_natCast, List.getElem?_eq_getElem h, at0_lt h]

theorem packField_pos (f : Fmt) (v : Int) (h : v ≥ 256 ^ f.size) : packField f v = .error .struct := by
  unfold packField; simp [h]

/-- `x[i] = v` at a natural position -/
theorem setB_nat (l : Bytes) (i v : Nat) (hi : i < l.length) (hv : v < 256) : setB l (i : Int) (v : Int) = .ok (l.set i v) := by
  unfold setB
  have h1 : ¬ ((i : Int) < 0) := by omega
  have h2 : ¬ ((i : Int) ≥ (l.length : Int)) := by omega
  have h3 : ¬ ((v : Int) < 0 ∨ (v : Int) > 255) := by omega
  simp only [h1, if_false, h2, h3, false_or, Int.toNat_natCast]

/-- a single bit test written with `&` -/
theorem and_bit (x k : Nat) : x &&& 2 ^ k = 0 ↔ x / 2 ^ k % 2 = 0 := by
  have := and_two_pow_ne_zero x k
  omega

/-- `l[a:b] = v` at natural positions inside the list -/
theorem setSlice_nat {α} (l : List α) (a b : Nat) (v : List α) (hab : a ≤ b) (hb : b ≤ l.length) :
    setSlice l (a : Int) (b : Int) v = l.take a ++ v ++ l.drop b := by
  unfold setSlice
  rw [clampBound_ofNat, clampBound_ofNat, Nat.min_eq_left (by omega), Nat.min_eq_left hb]
  show l.take a ++ v ++ l.drop (max a b) = _
  rw [Nat.max_eq_right hab]

/-- a natural bound of `l[a:b:-1]`, clamped to the last index and moved one up for `take` / `drop` -/
theorem revBound (n a : Nat) : ((if (a : Int) ≥ (n : Int) then (n : Int) - 1 else (a : Int)) + 1).toNat = min (a + 1) n := by
  split <;> omega

/-- `l[a:b:-1]` -/
theorem sliceRev_some {α} (l : List α) (a b : Nat) :
    sliceRev l (some (a : Int)) (some (b : Int)) = ((l.take (a + 1)).drop (b + 1)).reverse := by
  unfold sliceRev
  simp only [show ¬ ((a : Int) < 0) by omega, show ¬ ((b : Int) < 0) by omega, if_false, revBound]
  rw [← List.take_eq_take_min, Nat.min_def]
  split
  · rfl
  · rw [List.drop_of_length_le (by simp; omega), List.drop_of_length_le (by simp; omega)]

/-- `l[a::-1]` -/
theorem sliceRev_none {α} (l : List α) (a : Nat) : sliceRev l (some (a : Int)) none = (l.take (a + 1)).reverse := by
  unfold sliceRev
  simp only [show ¬ ((a : Int) < 0) by omega, if_false, revBound]
  rw [← List.take_eq_take_min]; rfl

/-- `x[7::-1] + x[15:7:-1]`: both halves reversed (for every length) -/
theorem revHalves_gen (x : Bytes) :
    sliceRev x (some 7) none ++ sliceRev x (some 15) (some 7) = (x.take 8).reverse ++ ((x.drop 8).take 8).reverse := by
  rw [show (7 : Int) = ((7 : Nat) : Int) from rfl, show (15 : Int) = ((15 : Nat) : Int) from rfl, sliceRev_none, sliceRev_some,
    List.drop_take]

theorem zeros8_gen : List.map (fun (_ : Int) => (0 : Int)) (PyFn.range 0 8) = [0, 0, 0, 0, 0, 0, 0, 0] := by decide

theorem zeros16 : PyFn.zeros 16 = .ok (List.replicate 16 0) := by decide

theorem zeros16' : PyFn.zeros 16 = .ok [0, 0, 0, 0, 0, 0, 0, 0, 0, 0, 0, 0, 0, 0, 0, 0] := zeros16

theorem pack_Hbe' (n : Nat) (h : n < 65536) : PyFn.pack [.Hbe] [(n : Int)] = .ok [n / 256, n % 256] :=
  (pack_Hbe n).trans (if_neg (by omega))

theorem pack_Ibe (n : Nat) (h : n < 4294967296) :
    PyFn.pack [.Ibe] [(n : Int)] = .ok [n / 16777216, n / 65536 % 256, n / 256 % 256, n % 256] := by
  rw [pack_one, packField_nat, if_pos (show n < 256 ^ Fmt.Ibe.size from h)]
  simp only [Fmt.octets, toBE, List.nil_append, List.cons_append, Nat.div_div_eq_div_mul, Nat.reduceMul, Except.ok.injEq,
    List.cons.injEq, and_true]
  omega

theorem pack_BBBH (a b c d : Nat) (ha : a < 256) (hb : b < 256) (hc : c < 256) (hd : d < 65536) :
    PyFn.pack [.B, .B, .B, .Hbe] [(a : Int), (b : Int), (c : Int), (d : Int)] = .ok [a, b, c, d / 256, d % 256] := by
  simp only [PyFn.pack, packField_B, packField_Hbe, Int.toNat_natCast]
  rw [if_neg (by omega), if_neg (by omega), if_neg (by omega), if_neg (by omega)]; rfl

end NfcVerif.FnBridge.TagCmd
