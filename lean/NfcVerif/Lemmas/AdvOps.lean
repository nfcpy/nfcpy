import NfcVerif.Lemmas.AdvT3
import NfcVerif.Lemmas.AdvT2
import NfcVerif.Lemmas.AdvAct
import NfcVerif.Lemmas.IsoDepC08
import NfcVerif.Model.AdvOps
/-!
# C08 lemmas: the Type 4 reader at FRAME level, the presence checks, sequences of operations, sessions

* `isoX_run`, `readNdef4_frames`: over the repaired ISO-DEP initiator every frame-level card lets
  `_read_ndef_data` end after at most `t4Frames` frames, without exception, with `None` or a safe object.
* `isPresent1/2/3/3rr/4_spec`: the presence checks return a boolean after at most 3 / 3 / 3 / 6 / 1 interactions.
* `runOps_safe`: any sequence of `tag.ndef` / `has_changed` / `is_present` on one tag object.
* `session_safe`: `nfc.tag.activate` on well-framed activation data followed by any such sequence.
-/
namespace NfcVerif.Adv
open NfcVerif.IsoDep (Pcd World)
open NfcVerif.IsoDepR (Cfg frames exchFrames loopFrames)

/-! ## Type 4 at frame level -/

def wframes (s : S4) : Nat := frames s.world

/-- frames one `_read_ndef_data` needs at most: 7 + 65536 APDUs of at most 13 octets -/
def t4Frames (c : Cfg) (p0 : Pcd) : Nat := (7 + 65536) * exchFrames c p0 13

theorem exchFrames_mono (c : Cfg) (p : Pcd) {a b : Nat} (h : a ≤ b) : exchFrames c p a ≤ exchFrames c p b := by
  unfold exchFrames
  exact Nat.add_le_add_right (Nat.mul_le_mul_right _ h) _

/-- one APDU over the repaired initiator, whatever the card does at frame level: a response APDU or a
`Type4TagCommandError`, at most `exchFrames` frames -/
theorem isoX_run (t : Tag) (c : Cfg) (p0 : Pcd) (sticky : Bool) (hR : c.Repaired p0.nNak p0.nAck) (hm : 0 < p0.miu)
    (s : S4) (cmd : Bytes) (hc : CmdOk cmd) :
    (∀ e, ((isoX t c p0 sticky).run s cmd).2 = .error e → isTagCmd e = true) ∧
    wframes s ≤ wframes ((isoX t c p0 sticky).run s cmd).1 ∧
    wframes ((isoX t c p0 sticky).run s cmd).1 ≤ wframes s + exchFrames c p0 13 := by
  unfold isoX
  simp only
  have he := IsoDepR.exchange_spec (oraclePeer t) c
    { p0 with pni := s.pni, failed := if sticky then s.failed else none } hR hm cmd hc.1 s.world
  have hmono := exchFrames_mono c p0 hc.2
  rcases hq : IsoDepR.exchange (oraclePeer t) c
    { p0 with pni := s.pni, failed := if sticky then s.failed else none } cmd s.world with ⟨w, pcd, r⟩
  rw [hq] at he
  simp only at he
  unfold wframes
  have hx : exchFrames c { p0 with pni := s.pni, failed := if sticky then s.failed else none } cmd.length =
      exchFrames c p0 cmd.length := rfl
  rw [hx] at he
  refine ⟨?_, he.2.1, by simp only; omega⟩
  intro e h
  simp only at h
  subst h
  obtain ⟨n, hn⟩ := he.1
  subst hn
  rfl

theorem isoX_ok (t : Tag) (c : Cfg) (p0 : Pcd) (sticky : Bool) (hR : c.Repaired p0.nNak p0.nAck) (hm : 0 < p0.miu) :
    XOk (isoX t c p0 sticky) :=
  fun s cmd e hc h => (isoX_run t c p0 sticky hR hm s cmd hc).1 e h

/-- the frames sent since `s0` are a budget: `exchFrames` for each APDU -/
theorem isoX_metered (t : Tag) (c : Cfg) (p0 : Pcd) (sticky : Bool) (hR : c.Repaired p0.nNak p0.nAck) (hm : 0 < p0.miu)
    (s0 : S4) :
    Metered (isoX t c p0 sticky)
      (fun k s => wframes s0 ≤ wframes s ∧ wframes s ≤ wframes s0 + k * exchFrames c p0 13) where
  mono h hk := ⟨h.1, Nat.le_trans h.2 (Nat.add_le_add_left (Nat.mul_le_mul_right _ hk) _)⟩
  run := fun {k s} cmd hc h => by
    have hr := isoX_run t c p0 sticky hR hm s cmd hc
    exact ⟨Nat.le_trans h.1 hr.2.1, by rw [Nat.succ_mul]; omega⟩

/-- FRAME level: against every card, whatever it answers to every single frame, the Type 4 `_read_ndef_data`
over the repaired ISO-DEP initiator ends after at most `t4Frames` frames, raises nothing, and returns
`None` or a safe object -/
theorem readNdef4_frames (t : Tag) (c : Cfg) (p0 : Pcd) (sticky : Bool) (hR : c.Repaired p0.nNak p0.nAck)
    (hm : 0 < p0.miu) (known : Option Info) (hk : ∀ i, known = some i → InfoOk i) (s : S4) :
    wframes s ≤ wframes (readNdef4 (isoX t c p0 sticky) known s).1 ∧
    wframes (readNdef4 (isoX t c p0 sticky) known s).1 ≤ wframes s + t4Frames c p0 ∧
    ((readNdef4 (isoX t c p0 sticky) known s).2 = .ok none ∨
     ∃ d i, (readNdef4 (isoX t c p0 sticky) known s).2 = .ok (some (d, i)) ∧ SafeNdef d ∧ InfoOk i) :=
  have h := readNdef4_metered (isoX_ok t c p0 sticky hR hm) (isoX_metered t c p0 sticky hR hm s) known hk
    (k := 0) (s := s) ⟨Nat.le_refl _, Nat.le_add_right _ _⟩
  ⟨h.1.1, h.1.2, h.2⟩

/-! ## the presence checks -/

theorem readByte1_spec (t : Tag) (uid : Bytes) (w : W) :
    (readByte1 t uid 0 w).2.n ≤ w.n + 3 ∧ ∀ e, (readByte1 t uid 0 w).1 = .error e → isTagCmd e = true := by
  unfold readByte1
  rw [if_neg (by omega)]
  obtain ⟨r, w', h, -, hn, -⟩ := trx_cases t 3 ([0x01, 0, 0x00] ++ uid) w
  rw [h]
  cases r with
  | none => exact ⟨hn, by intro e h; cases h; rfl⟩
  | some rsp =>
    simp only
    split
    · exact ⟨hn, by intro e h; cases h; rfl⟩
    · obtain ⟨a, ha⟩ : ∃ a, idx rsp (-1) = .ok a := idx_neg_ok rsp 1 (by decide) (by omega)
      simp only [ha]
      exact ⟨hn, by intro e h; cases h⟩

theorem isPresent1_spec (t : Tag) (uid : Bytes) (hu : uid ≠ []) (w : W) :
    (∃ b, (isPresent1 t uid w).1 = .ok b) ∧ (isPresent1 t uid w).2.n ≤ w.n + 3 := by
  unfold isPresent1
  have hr := readByte1_spec t uid w
  rcases hq : readByte1 t uid 0 w with ⟨r, w'⟩
  rw [hq] at hr
  simp only at hr
  obtain ⟨u, hu', -⟩ := idxN_lt uid 0 (by cases uid with | nil => exact absurd rfl hu | cons a b => simp)
  cases r with
  | error e => simp only [hr.2 e rfl, if_true]; exact ⟨⟨_, rfl⟩, hr.1⟩
  | ok b => simp only [hu']; exact ⟨⟨_, rfl⟩, hr.1⟩

theorem isPresent2_spec (t : Tag) (s : S2) :
    (∃ b, (isPresent2 t s).1 = .ok b) ∧ (isPresent2 t s).2.w.n ≤ s.w.n + 3 := by
  unfold isPresent2
  rcases (trans2_step t 3 [0x30, 0x00] (Later2.refl s)).cases with ⟨d, s', hg, hJ, -⟩ | ⟨e, s', hg, ht, hJ⟩
  · rw [hg]; exact ⟨⟨_, rfl⟩, hJ.2⟩
  · rw [hg]; simp only [ht, if_true]; exact ⟨⟨_, rfl⟩, hJ.2⟩

/-- the Type 3 Tag object between operations: IDm and PMm of 8 octets, a 16 bit system code -/
def I3s (s : S3) : Prop := I3 s ∧ s.sys < 65536

theorem Later.i3s {s0 s : S3} {k : Nat} (h : Later s0 k s) (hI : I3s s0) : I3s s := ⟨h.i3 hI.1, by rw [h.sys_eq]; exact hI.2⟩

theorem isPresent3_spec {t : Tag} (hT : TagBytes t) (nfcid : Bytes) (s : S3) (hI : I3s s) :
    (∃ b, (isPresent3 t nfcid s).1 = .ok b) ∧ (isPresent3 t nfcid s).2.w.n ≤ s.w.n + 3 ∧ I3s (isPresent3 t nfcid s).2 := by
  unfold isPresent3
  rcases (pollingTuple_step hT s.sys 0 (Later.refl s) hI.2 (Or.inl rfl)).cases with
    ⟨tup, s', hg, hJ, hp⟩ | ⟨e, s', hg, ht, hJ⟩
  · rw [hg]
    obtain ⟨a, b, rfl, -, -⟩ := hp.1 rfl
    simp only [unpack2]
    exact ⟨⟨_, rfl⟩, hJ.n_le, hJ.i3s hI⟩
  · rw [hg]
    simp only [ht, if_true]
    exact ⟨⟨_, rfl⟩, hJ.n_le, hJ.i3s hI⟩

theorem checkRsp3n_err (code : Nat) (idm rsp : Bytes) (e : Exc) (h : checkRsp3n code idm rsp = .error e) : isTagCmd e = true := by
  unfold checkRsp3n at h
  split at h
  · split at h
    · cases h; rfl
    · split at h
      · cases h; rfl
      · split at h
        · cases h; rfl
        · cases h
  · cases h; rfl

section
variable (t : Tag) {s0 s : S3} {k : Nat}

theorem sendCmd3n_step (code : Nat) (data : Bytes) (hJ : Later s0 k s) (hl : 2 + s.idm.length + data.length < 256)
    (hc : code < 256) :
    Step (Later s0 (k + 3)) (Later s0 (k + 3)) (sendCmd3n t code data s) (fun _ => True) := by
  unfold sendCmd3n
  rw [if_neg (by omega)]
  obtain ⟨r, w', h, -, hn, -⟩ := trx_cases t 3 ([2 + s.idm.length + data.length, code] ++ s.idm ++ data) s.w
  rw [h]
  have hJ' : Later s0 (k + 3) { s with w := w' } := hJ.trx hn
  cases r with
  | none => exact Step.err rfl hJ'
  | some rsp =>
    cases hr : checkRsp3n code s.idm rsp with
    | error e => exact Or.inr ⟨e, hr, checkRsp3n_err code s.idm rsp e hr, hJ'⟩
    | ok d => exact Or.inl ⟨d, hr, hJ', trivial⟩

theorem requestResponse_step (hJ : Later s0 k s) (hI : I3 s0) :
    Step (Later s0 (k + 3)) (Later s0 (k + 3)) (requestResponse t s) (fun _ => True) := by
  have hI := hJ.i3 hI
  unfold requestResponse
  obtain ⟨p3, hp3, -⟩ := idxN_lt s.pmm 3 (by rw [hI.2]; omega)
  rw [hp3]
  simp only
  rcases (sendCmd3n_step t 4 [] hJ (by rw [hI.1]; simp) (by omega)).cases with ⟨d, s', hg, hJ', -⟩ | ⟨e, s', hg, ht, hf⟩
  · rw [hg]
    simp only
    split
    · exact Step.err rfl hJ'
    · rename_i hl
      have hl1 : d.length = 1 := by simpa using hl
      obtain ⟨m, hm, -⟩ := idxN_lt d 0 (by omega)
      exact Or.inl ⟨m, hm, hJ', trivial⟩
  · rw [hg]; exact Step.err ht hf

end

theorem isPresent3rr_spec {t : Tag} (hT : TagBytes t) (nfcid : Bytes) (s : S3) (hI : I3s s) :
    (∃ b, (isPresent3rr t nfcid s).1 = .ok b) ∧ (isPresent3rr t nfcid s).2.w.n ≤ s.w.n + 6 ∧
    I3s (isPresent3rr t nfcid s).2 := by
  unfold isPresent3rr
  rcases (requestResponse_step t (Later.refl s) hI.1).cases with ⟨m, s', hg, hJ, -⟩ | ⟨e, s', hg, ht, hJ⟩
  · rw [hg]
    exact ⟨⟨_, rfl⟩, by have := hJ.n_le; simp only; omega, hJ.i3s hI⟩
  · rw [hg]
    simp only [ht, if_true]
    have := isPresent3_spec hT nfcid s' (hJ.i3s hI)
    exact ⟨this.1, by have := hJ.n_le; omega, this.2.2⟩

theorem isPresent4_spec (t : Tag) (s : S4) :
    (∃ b, (isPresent4 t s).1 = .ok b) ∧ wframes (isPresent4 t s).2 = wframes s + 1 := by
  unfold isPresent4 IsoDep.presence
  simp only
  have hf : frames (s.world.xchg (oraclePeer t) [0xB2 ||| s.pni]).1 = frames s.world + 1 := IsoDep2.xchg_frames _ _ _
  have hn := IsoDep2.xchg_ne_fuel (oraclePeer t) s.world [0xB2 ||| s.pni]
  rcases hq : s.world.xchg (oraclePeer t) [0xB2 ||| s.pni] with ⟨w, r⟩
  rw [hq] at hf hn
  simp only at hf hn
  cases r with
  | data d => exact ⟨⟨_, rfl⟩, hf⟩
  | timeout | transmission | protocol => simp only [commErr, if_true]; exact ⟨⟨_, rfl⟩, hf⟩
  | fuel => exact absurd rfl hn

/-! ## sequences of operations on one tag object -/

/-- what a tag type guarantees for its two operations, on states satisfying `I`: they never raise, need at most
`B` interactions (`n` counts them), keep `I`; a returned object satisfies `G` and what it keeps satisfies `K` -/
structure OpsOk {σ κ} (T : TagOps σ κ) (I : σ → Prop) (K : κ → Prop) (G : Ndef → Prop) (n : σ → Nat) (B : Nat) : Prop where
  read : ∀ known s, I s → (∀ k, known = some k → K k) →
    I (T.read known s).2 ∧ n (T.read known s).2 ≤ n s + B ∧
    ((T.read known s).1 = .ok none ∨ ∃ d k, (T.read known s).1 = .ok (some (d, k)) ∧ K k ∧ G d)
  present : ∀ s, I s → I (T.present s).2 ∧ n (T.present s).2 ≤ n s + B ∧ ∃ b, (T.present s).1 = .ok b

def ResOk (G : Ndef → Prop) : Res → Prop
  | .ndef (some d) => G d
  | _ => True

def ObjOk {σ κ} (I : σ → Prop) (K : κ → Prop) (G : Ndef → Prop) (o : Obj σ κ) : Prop :=
  I o.st ∧ ∀ d k, o.ndef = some (d, k) → K k ∧ G d

section ops
variable {σ κ : Type} {T : TagOps σ κ} {I : σ → Prop} {K : κ → Prop} {G : Ndef → Prop} {n : σ → Nat} {B : Nat}

theorem readStep_safe (h : OpsOk T I K G n B) (known : Option κ) (hk : ∀ k, known = some k → K k) (o : Obj σ κ)
    (hI : I o.st) :
    ∃ r, (readStep T known o).1 = .ok r ∧ ResOk G r ∧ ObjOk I K G (readStep T known o).2 ∧
      n (readStep T known o).2.st ≤ n o.st + B := by
  unfold readStep
  have hr := h.read known o.st hI hk
  rcases hq : T.read known o.st with ⟨r, s⟩
  rw [hq] at hr
  simp only at hr
  rcases hr.2.2 with h0 | ⟨d, k, h1, hk', hg⟩
  · subst h0
    exact ⟨_, rfl, trivial, ⟨hr.1, by intro d k hh; cases hh⟩, hr.2.1⟩
  · subst h1
    refine ⟨_, rfl, hg, ⟨hr.1, ?_⟩, hr.2.1⟩
    intro d' k' hh
    simp at hh
    obtain ⟨h1, h2⟩ := hh
    subst h1; subst h2
    exact ⟨hk', hg⟩

theorem step_safe (h : OpsOk T I K G n B) (op : Op) (o : Obj σ κ) (ho : ObjOk I K G o) :
    ∃ r, (step T op o).1 = .ok r ∧ ResOk G r ∧ ObjOk I K G (step T op o).2 ∧ n (step T op o).2.st ≤ n o.st + B := by
  obtain ⟨hI, hN⟩ := ho
  cases op with
  | ndef =>
    cases hnd : o.ndef with
    | some dk =>
      obtain ⟨d, k⟩ := dk
      simp only [step, hnd]
      exact ⟨_, rfl, (hN d k hnd).2, ⟨hI, hN⟩, by omega⟩
    | none =>
      simp only [step, hnd]
      exact readStep_safe h none (by intro k hk; cases hk) o hI
  | changed =>
    cases hnd : o.ndef with
    | none =>
      simp only [step, hnd]
      exact ⟨_, rfl, trivial, ⟨hI, hN⟩, by omega⟩
    | some dk =>
      obtain ⟨d0, k0⟩ := dk
      simp only [step, hnd]
      exact readStep_safe h (some k0) (by intro k hk; cases hk; exact (hN d0 k0 hnd).1) o hI
  | present =>
    simp only [step]
    have hp := h.present o.st hI
    rcases hq : T.present o.st with ⟨r, s⟩
    rw [hq] at hp
    simp only at hp
    obtain ⟨b, hb⟩ := hp.2.2
    subst hb
    exact ⟨_, rfl, trivial, ⟨hp.1, hN⟩, hp.2.1⟩

/-- any sequence of `tag.ndef` / `has_changed` / `is_present`: no exception, one result per operation, every
returned object good, at most `B` interactions per operation -/
theorem runOps_safe (h : OpsOk T I K G n B) : ∀ (ops : List Op) (o : Obj σ κ) (acc : List Res),
    ObjOk I K G o → (∀ r ∈ acc, ResOk G r) →
    ∃ rs, (runOps T ops o acc).1 = .ok rs ∧ (∀ r ∈ rs, ResOk G r) ∧ rs.length = acc.length + ops.length ∧
      ObjOk I K G (runOps T ops o acc).2 ∧ n (runOps T ops o acc).2.st ≤ n o.st + ops.length * B := by
  intro ops
  induction ops with
  | nil => intro o acc ho ha; exact ⟨acc, rfl, ha, by simp, ho, by simp [runOps]⟩
  | cons op ops ih =>
    intro o acc ho ha
    unfold runOps
    obtain ⟨r, hr, hg, ho', hn⟩ := step_safe h op o ho
    rcases hq : step T op o with ⟨pr, o'⟩
    rw [hq] at hr ho' hn
    simp only at hr ho' hn
    subst hr
    simp only
    obtain ⟨rs, h1, h2, h3, h4, h5⟩ := ih o' (r :: acc) ho' (by
      intro x hx
      rcases List.mem_cons.mp hx with rfl | hx
      · exact hg
      · exact ha x hx)
    refine ⟨rs, h1, h2, by simp only [List.length_cons] at h3 ⊢; omega, h4, ?_⟩
    simp only [List.length_cons, Nat.add_mul, Nat.one_mul]
    omega

end ops

/-! ## the four tag types -/

theorem SafeNdef.safeA {d : Ndef} (h : SafeNdef d) : SafeA d := ⟨h.2.1, h.2.2.1, h.2.2.2⟩

/-- the readers of Type 1, 2, 3 keep nothing between reads: their results with `()` attached -/
theorem unitRead {G : Ndef → Prop} {r : Py (Option Ndef)} (h : r = .ok none ∨ ∃ d, r = .ok (some d) ∧ G d) :
    r.map (·.map (·, ())) = .ok none ∨ ∃ d k, r.map (·.map (·, ())) = .ok (some (d, k)) ∧ True ∧ G d := by
  rcases h with rfl | ⟨d, rfl, hg⟩
  · exact Or.inl rfl
  · exact Or.inr ⟨d, (), rfl, trivial, hg⟩

theorem ops1_ok {t : Tag} (hT : TagBytes t) (uid : Bytes) (hu : uid ≠ []) :
    OpsOk (ops1 t uid) (fun _ => True) (fun _ => True) SafeA (·.n) 1300 where
  read _ w _ _ :=
    have h := readNdef1_safe hT uid w
    ⟨trivial, h.1, unitRead (h.2.imp_right fun ⟨d, hd, hs, _⟩ => ⟨d, hd, hs⟩)⟩
  present w _ :=
    have h := isPresent1_spec t uid hu w
    ⟨trivial, Nat.le_trans h.2 (Nat.add_le_add_left (by decide) _), h.1⟩

theorem ops2_ok {t : Tag} (hT : TagBytes t) :
    OpsOk (ops2 t) (fun _ => True) (fun _ => True) SafeA (·.w.n) 86066 where
  read _ o _ _ :=
    have h := readNdef2_safe hT o.w o.sector o.alive
    ⟨trivial, h.1, unitRead (h.2.imp_right fun ⟨d, hd, hs, _⟩ => ⟨d, hd, hs⟩)⟩
  present o _ :=
    have h := isPresent2_spec t { w := o.w, cache := [], sector := o.sector, alive := o.alive }
    ⟨trivial, Nat.le_trans h.2 (Nat.add_le_add_left (by decide) _), h.1⟩

theorem ops3_ok {t : Tag} (hT : TagBytes t) (nfcid : Bytes) (rr : Bool) :
    OpsOk (ops3 t nfcid rr) I3s (fun _ => True) SafeA (·.w.n) (6 + 3 * 65536) where
  read := by
    intro _ s hI _
    obtain ⟨hn, hres, hI3, hsys⟩ := readNdef3_safe hT s hI.1
    refine ⟨⟨hI3, ?_⟩, by rw [Nat.add_assoc] at hn; exact hn,
      unitRead (hres.imp_right fun ⟨d, hd, hs, _⟩ => ⟨d, hd, hs.safeA⟩)⟩
    show (readNdef3 t s).2.sys < 65536
    rcases hsys with hsame | hndef
    · rw [hsame]; exact hI.2
    · -- the reader has polled for the NDEF system code 12FCh and keeps it
      rw [hndef]; decide
  present := by
    intro s hI
    simp only [ops3]
    cases rr with
    | true =>
      have h := isPresent3rr_spec hT nfcid s hI
      simp only [if_true]
      exact ⟨h.2.2, Nat.le_trans h.2.1 (Nat.add_le_add_left (by decide) _), h.1⟩
    | false =>
      have h := isPresent3_spec hT nfcid s hI
      simp only [Bool.false_eq_true, if_false]
      exact ⟨h.2.2, Nat.le_trans h.2.1 (Nat.add_le_add_left (by decide) _), h.1⟩

theorem loopFrames_pos (c : Cfg) (n : Nat) : 1 ≤ loopFrames c n := by
  unfold loopFrames
  exact Nat.mul_pos (by omega) (by omega)

theorem t4Frames_pos (c : Cfg) (p0 : Pcd) : 1 ≤ t4Frames c p0 := by
  unfold t4Frames exchFrames
  have := loopFrames_pos c p0.nAck
  have h2 : 1 ≤ 13 * loopFrames c p0.nNak + 65539 * loopFrames c p0.nAck := by omega
  exact Nat.mul_pos (by omega) h2

theorem ops4_ok (t : Tag) (c : Cfg) (p0 : Pcd) (sticky : Bool) (hR : c.Repaired p0.nNak p0.nAck) (hm : 0 < p0.miu) :
    OpsOk (ops4 t c p0 sticky) (fun _ => True) InfoOk SafeA wframes (t4Frames c p0) where
  read := by
    intro known s _ hk
    have h := readNdef4_frames t c p0 sticky hR hm known hk s
    simp only [ops4]
    rcases hq : readNdef4 (isoX t c p0 sticky) known s with ⟨s', r⟩
    rw [hq] at h
    simp only at h
    refine ⟨trivial, h.2.1, ?_⟩
    rcases h.2.2 with h0 | ⟨d, i, hd, hs, hi⟩
    · subst h0; exact Or.inl rfl
    · subst hd; exact Or.inr ⟨d, i, rfl, hi, hs.safeA⟩
  present := by
    intro s _
    have h := isPresent4_spec t s
    have := t4Frames_pos c p0
    exact ⟨trivial, by simp only [ops4]; omega, h.1⟩

/-! ## sessions -/

/-- activation data as the drivers deliver them: the lengths of `WellFramed`, SENSF_RES made of octets, and the
RID response of a Type 1 Tag platform has 6 octets -/
def WellFramedS (g : Target) : Prop :=
  WellFramed g ∧ IsBytes g.sensf ∧ (g.tech = 0 → ∀ s1, idxN g.sens 1 = .ok s1 → s1 &&& 0x0F = 0x0C → g.rid.length = 6)

/-- interactions one operation needs at most, whatever the tag type: the Type 4 frame bound for the largest
retry count (5) and the largest S(WTX) limit (59 * 2^14) -/
def opBound : Nat := (7 + 65536) * (13 * (7 * 966657) + 65539 * (7 * 966657))

theorem t4Frames_le (c : Cfg) (p0 : Pcd) (hl : c.lim ≤ 966656) (hn : p0.nNak ≤ 5) (ha : p0.nAck ≤ 5) :
    t4Frames c p0 ≤ opBound := by
  unfold t4Frames opBound exchFrames loopFrames
  have h1 : (p0.nNak + 2) * (c.lim + 1) ≤ 7 * 966657 := Nat.mul_le_mul (by omega) (by omega)
  have h2 : (p0.nAck + 2) * (c.lim + 1) ≤ 7 * 966657 := Nat.mul_le_mul (by omega) (by omega)
  exact Nat.mul_le_mul_left _ (Nat.add_le_add (Nat.mul_le_mul_left _ h1) (Nat.mul_le_mul_left _ h2))

/-- what a session returns: nothing (no tag object), or one result per operation, every returned NDEF object
with its octets taken from inside the data area -/
def SessOk (ops : List Op) : Option (String × List Res) → Prop
  | none => True
  | some (_, rs) => rs.length = ops.length ∧ ∀ r ∈ rs, ResOk SafeA r

theorem sessionOf_safe {σ κ : Type} {T : TagOps σ κ} {I : σ → Prop} {K : κ → Prop} {n : σ → Nat} {B : Nat}
    (h : OpsOk T I K SafeA n B) (cls : String) (wOf : σ → W) (hw : ∀ s, (wOf s).n = n s) (ops : List Op)
    (o : Obj σ κ) (ho : ObjOk I K SafeA o) (hB : B ≤ opBound) (h5 : n o.st ≤ 5) :
    (∃ r, (sessionOf cls wOf (runOps T ops o [])).1 = .ok r ∧ SessOk ops r) ∧
    (sessionOf cls wOf (runOps T ops o [])).2.n ≤ 5 + ops.length * opBound := by
  obtain ⟨rs, h1, h2, h3, -, h5'⟩ := runOps_safe h ops o [] ho (by intro r hr; cases hr)
  unfold sessionOf
  rw [h1]
  refine ⟨⟨_, rfl, ?_⟩, ?_⟩
  · simp only [SessOk, List.length_reverse]
    exact ⟨by simpa using h3, fun r hr => h2 r (List.mem_reverse.mp hr)⟩
  · simp only
    rw [hw]
    exact Nat.le_trans h5' (Nat.add_le_add h5 (Nat.mul_le_mul_left _ hB))

/-- A SESSION: `nfc.tag.activate` on well-framed activation data (frontend able to send 16 octets), then ANY
sequence of `tag.ndef` / `tag.ndef.has_changed` / `tag.is_present`, against ANY tag (an arbitrary sequence of
answers made of octets; for a Type 4 Tag at frame level), on the tree with the ISO-DEP repairs: nothing is
ever raised, every operation yields its result, every NDEF object returned has its octets from inside the data
area, and the number of interactions is at most 5 + (number of operations) * `opBound` -/
theorem session_safe {t : Tag} (hT : TagBytes t) (g : Target) (hg : WellFramedS g) (maxSend maxRecv : Nat)
    (hms : 16 ≤ maxSend) (F : Nat) (hF : 966657 ≤ F) (sticky : Bool) (ops : List Op) :
    (∃ r, (session t g maxSend maxRecv IsoDepR.Fix.all F sticky ops).1 = .ok r ∧ SessOk ops r) ∧
    (session t g maxSend maxRecv IsoDepR.Fix.all F sticky ops).2.n ≤ 5 + ops.length * opBound := by
  unfold session
  obtain ⟨o, hok, hn, hlog, hobj⟩ := activate_spec t maxSend maxRecv g W.init hg.1
  have hwok := hlog rfl
  have hobj := hobj hms hg.2.1 hg.2.2
  rcases hq : activate t maxSend maxRecv g W.init with ⟨r, w⟩
  rw [hq] at hok hn hwok
  simp only at hok hn hwok
  subst hok
  have hw5 : w.n ≤ 5 := by simpa [W.init] using hn
  cases o with
  | none => exact ⟨⟨none, rfl, trivial⟩, by simp only; omega⟩
  | some x =>
    have hx := hobj x rfl
    cases x with
    | t1 cls uid =>
      exact sessionOf_safe (ops1_ok hT uid hx) cls id (fun _ => rfl) ops ⟨w, none⟩
        ⟨trivial, by intro d k h; cases h⟩ (by decide) hw5
    | t2 cls =>
      exact sessionOf_safe (ops2_ok hT) cls (·.w) (fun _ => rfl) ops ⟨{ w := w, sector := 0, alive := true }, none⟩
        ⟨trivial, by intro d k h; cases h⟩ (by decide) hw5
    | t3 cls idm pmm sys =>
      exact sessionOf_safe (ops3_ok hT idm (usesRequestResponse cls)) cls (·.w) (fun _ => rfl) ops
        ⟨{ w := w, idm := idm, pmm := pmm, sys := sys }, none⟩
        ⟨⟨⟨hx.1, hx.2.1⟩, hx.2.2⟩, by intro d k h; cases h⟩ (by decide) hw5
    | t4 cls pcd lim =>
      obtain ⟨hm, hnak, hack, hl⟩ := hx
      have hR : IsoDepR.Cfg.Repaired { fx := IsoDepR.Fix.all, lim := lim, F := F } pcd.nNak pcd.nAck :=
        ⟨rfl, rfl, rfl, by simp only; omega, by simp only; omega, by simp only; omega, by simp only; omega⟩
      exact sessionOf_safe (ops4_ok t { fx := IsoDepR.Fix.all, lim := lim, F := F } pcd sticky hR hm) cls
        (fun s => ofWorld s.world) (fun _ => rfl) ops ⟨{ world := toWorld w, pni := pcd.pni, failed := none }, none⟩
        ⟨trivial, by intro d k h; cases h⟩ (t4Frames_le _ _ hl hnak hack)
        (by simp only [wframes, frames, toWorld, List.length_reverse]; unfold WOk at hwok; omega)

end NfcVerif.Adv
