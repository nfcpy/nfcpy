import NfcVerif.Lemmas.IsoDepV2Same
/-!
# ISO-DEP, repaired initiator: absorbed faults

Liveness counterpart of `Lemmas/IsoDepV2.lean` against the ISO/IEC 14443-4 card.  (That every loop of the repaired
initiator ENDS needs no card hypothesis: `Lemmas/IsoDepV2Term.lean`.)  If the card asks for waiting time with a multiplier `M` in
1..59, at most `W` times per block with `W * M ≤ max_wtxm_sum`, sends non-empty chained blocks and a response of at
most 65539 octets, and the script contains `k` faults with `2k ≤ resendMax n_retry = n_retry + 1` (none of them a reader
protocol error), every retry loop ends with the block it was waiting for.

Against such a card the repaired loops do, block by block, what the loops of `Model/IsoDep.lean` do
(`Lemmas/IsoDepV2Same.lean`: the invariant `sum + outstanding requests * WTXM ≤ limit` keeps every S(WTX) request
granted, and a retransmission after R(ACK) is due at `i ≤ n + 1` at the latest), so the potential argument of
`Lemmas/IsoDepLive.lean` carries over: with `r = resendMax n` it reads `i + 2k ≤ r + 1` while the block of the round
is out and `i + 2k ≤ r` while the retry block is out - a block lost on its way TO the card costs two counts (R(NAK),
retransmission), the second of which is not subject to the retry limit.
-/
namespace NfcVerif.IsoDep2
open NfcVerif NfcVerif.IsoDep

/-- a retry loop of the repaired initiator: the count `i` leaves room for the faults still in the script (two counts
per fault, one less while the retry block is out) -/
theorem blockLoop_live (cfg : CardCfg) (W L : Nat) (R : Round) (hR : R.Ok cfg) (hL : R.Live cfg W)
    (hM : 1 ≤ wtxmMask cfg ∧ wtxmMask cfg ≤ 59) (hWL : W * wtxmMask cfg ≤ L) (F n : Nat) (hF : W + 1 ≤ F)
    (f i : Nat) (out : Bytes) (w : World Card) (hfirst : First cfg R w.card out)
    (hw : Em cfg R.post R.B w.card → wl w.card ≤ W) (hf : roundsMax n + 1 ≤ i + f) (hnp : Fault.p ∉ w.script)
    (hpot : (out = R.req → i + 2 * nfaults w.script ≤ resendMax n + 1) ∧
      (out ≠ R.req → i + 2 * nfaults w.script ≤ resendMax n)) :
    (∃ d, (blockLoop (isoPeer cfg) F L n R.resend R.req R.rty f i out w).2 = .ok d) ∧
    Fault.p ∉ (blockLoop (isoPeer cfg) F L n R.resend R.req R.rty f i out w).1.script ∧
    nfaults (blockLoop (isoPeer cfg) F L n R.resend R.req R.rty f i out w).1.script ≤ nfaults w.script := by
  have hrm := (roundsMax_ge n).2.1
  unfold resendMax at hrm hpot
  rw [blockLoop_same cfg W L R hR hL hM hWL F n hF f i out w hfirst hw (fun h => by have := hpot.2 h; omega)]
  refine (IsoDep.blockLoop_live cfg W R hR hL F n hF f i out w hfirst hw).2 hnp ⟨?_, by omega⟩
  by_cases h : out = R.req
  · have := hpot.1 h; rw [h, slack_req]; omega
  · have := hpot.2 h; rw [slack_ne h]; omega

theorem sendChunks_live (cfg : CardCfg) (W F L nNak : Nat) (hF1 : W + 1 ≤ F) (hF2 : roundsMax nNak ≤ F)
    (hM : 1 ≤ wtxmMask cfg ∧ wtxmMask cfg ≤ 59) (hWL : W * wtxmMask cfg ≤ L)
    (hW1 : cfg.wtxAck ≤ W) (hW2 : cfg.wtxI ≤ W) (Lg : List Bytes)
    (cs : List Bytes) (pni : Nat) (acc : Bytes) (w : World Card) (hne : cs ≠ []) (hp : pni < 2)
    (hb : w.card.bn = (pni + 1) % 2) (hr : w.card.rxbuf = acc) (hl : w.card.log = Lg) (hnp : Fault.p ∉ w.script)
    (hk : 2 * nfaults w.script ≤ resendMax nNak) :
    (∃ d, (sendChunks (isoPeer cfg) F L nNak cs pni w).2.2 = .ok d) ∧
    Fault.p ∉ (sendChunks (isoPeer cfg) F L nNak cs pni w).1.script ∧
    nfaults (sendChunks (isoPeer cfg) F L nNak cs pni w).1.script ≤ nfaults w.script := by
  have hrm := (roundsMax_ge nNak).2.1
  unfold resendMax at hrm hk
  rw [sendChunks_same cfg W F L nNak hF1 hM hWL hW1 hW2 Lg cs pni acc w hne hp hb hr hl]
  exact (IsoDep.sendChunks_live cfg W F nNak hF1 hW1 hW2 Lg cs pni acc w hne hp hb hr hl).2 hnp ⟨by omega, hk⟩

theorem recvChain_live (cfg : CardCfg) (W F L nAck : Nat) (hF1 : W + 1 ≤ F) (hF2 : roundsMax nAck ≤ F)
    (hM : 1 ≤ wtxmMask cfg ∧ wtxmMask cfg ≤ 59) (hWL : W * wtxmMask cfg ≤ L)
    (hW : cfg.wtxChain ≤ W) (hchunk : 1 ≤ cfg.chunk) (L' : List Bytes)
    (f pni : Nat) (data resp : Bytes) (w : World Card) (T : Bytes) (hat : RecvAt L' pni data w.card T)
    (hinf : T ≠ [] → data.drop 1 ≠ []) (hlen : T.length < f)
    (htot : resp.length + T.length ≤ 65539) (hnp : Fault.p ∉ w.script) (hk : 2 * nfaults w.script ≤ resendMax nAck) :
    (∃ d, (recvChain (isoPeer cfg) F L nAck f pni data resp w).2.2 = .ok d) ∧
    Fault.p ∉ (recvChain (isoPeer cfg) F L nAck f pni data resp w).1.script ∧
    nfaults (recvChain (isoPeer cfg) F L nAck f pni data resp w).1.script ≤ nfaults w.script := by
  have hrm := (roundsMax_ge nAck).2.1
  unfold resendMax at hrm hk
  rw [recvChain_same cfg W F L nAck hF1 hM hWL hW hchunk L' f pni data resp w T hat hinf htot]
  exact (IsoDep.recvChain_live cfg W F nAck hF1 hW hchunk L' f pni data resp w T hat hlen).2 hnp ⟨by omega, hk⟩

/-- `_exchange_command` against the ISO card: with few enough faults it succeeds -/
theorem exchangeCmd_live (cfg : CardCfg) (W F : Nat) (pcd : Pcd) (cmd : Bytes) (w : World Card) (m : Nat)
    (hmiu : pcd.miu = (m : Int)) (hm : 1 ≤ m) (hcmd : cmd ≠ []) (hp : pcd.pni < 2) (hs : Sync pcd.pni w.card)
    (hchunk : 1 ≤ cfg.chunk) (hW1 : cfg.wtxAck ≤ W) (hW2 : cfg.wtxI ≤ W) (hW3 : cfg.wtxChain ≤ W)
    (hM : 1 ≤ wtxmMask cfg ∧ wtxmMask cfg ≤ 59) (hWL : W * wtxmMask cfg ≤ pcd.wlim)
    (hrsp : (cfg.app w.card.log.length cmd).length ≤ 65539)
    (hF1 : W + 1 ≤ F) (hF2 : roundsMax pcd.nNak ≤ F) (hF3 : roundsMax pcd.nAck ≤ F)
    (hF4 : (cfg.app w.card.log.length cmd).length < F) (hnp : Fault.p ∉ w.script)
    (hk1 : 2 * nfaults w.script ≤ resendMax pcd.nNak) (hk2 : 2 * nfaults w.script ≤ resendMax pcd.nAck) :
    (∃ d, (exchangeCmd (isoPeer cfg) F pcd cmd w).2.2 = .ok d) ∧
    Fault.p ∉ (exchangeCmd (isoPeer cfg) F pcd cmd w).1.script ∧
    nfaults (exchangeCmd (isoPeer cfg) F pcd cmd w).1.script ≤ nfaults w.script := by
  rw [exchangeCmd_same cfg W F pcd cmd w m hmiu hm hcmd hp hs hchunk hW1 hW2 hW3 hM hWL hrsp hF1]
  have hN := (roundsMax_ge pcd.nNak).2.1
  have hA := (roundsMax_ge pcd.nAck).2.1
  unfold resendMax at hN hA hk1 hk2
  exact (IsoDep.exchangeCmd_live cfg W F pcd.base cmd w m hmiu hm hcmd hp hs hchunk hW1 hW2 hW3 hF1 hF4).2 hnp
    ⟨⟨(by omega : pcd.nNak + 2 ≤ F), (by omega : pcd.nAck + 2 ≤ F)⟩, hk1, hk2⟩

end NfcVerif.IsoDep2
