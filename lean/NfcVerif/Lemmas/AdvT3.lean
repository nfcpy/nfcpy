import NfcVerif.Lemmas.AdvT12
import NfcVerif.Lemmas.AdvT34
import NfcVerif.Lemmas.FnBridgeTagCmd
/-!
C08 for Type 3: `readNdef3_safe`, the NDEF reader against every tag that answers with octets
(`TagBytes`). `Later s0 k s` is the tag object `s0` at most `k` interactions later: same IDm, PMm
and system code, interaction counter at most `k` higher. Each layer of the reader (`sendCmd3_step`,
`read3_step`, `pollingTuple_step`) is a `Step` from `Later s0 k` to `Later s0 (k + 3)`, with a value
and with a command error alike; 3 is the number of attempts `sendCmd3` gives to `trx`.
`blockLoop3_spec` adds the steps up, and the 6 + 3·65536 of `readNdef3_safe` is one polling, the
attribute block and a data area of fewer than 65536 blocks (`parseAttr_spec`: Nmaxb has 16 bits,
and the repaired reader refuses Ln > Nmaxb·16). `polling3_step` does not end in `Later` when it
succeeds, since polling replaces IDm, PMm and system code; `I3` (8 octets each) is what it keeps.
That only command errors escape is `checkRsp3_spec`, the statement of the reference check
`t3CheckRsp_spec` carried over the bridge equation `checkRsp3_eq`.
-/
namespace NfcVerif.Adv

theorem checkRsp3_spec (code : Nat) (sendIdm : Bool) (idm rsp : Bytes) :
    (∀ e, checkRsp3 code sendIdm idm rsp = .error e → isTagCmd e = true) ∧
    (∀ d, checkRsp3 code sendIdm idm rsp = .ok d → ∃ k, d = rsp.drop k) := by
  rw [FnBridge.TagCmd.checkRsp3_eq]
  have h := TagCmdRef.t3CheckRsp_spec code sendIdm true idm rsp
  exact ⟨fun e he => let ⟨n, hn⟩ := h.1 e he; hn ▸ rfl, h.2⟩

theorem blockCodes_ok : ∀ (bl : List Nat), (∀ b ∈ bl, b < 65536) →
    ∃ bc, blockCodes bl = .ok bc ∧ bc.length ≤ 3 * bl.length := by
  intro bl
  induction bl with
  | nil => intro _; exact ⟨[], rfl, by simp⟩
  | cons b bs ih =>
    intro h
    obtain ⟨bc, hbc, hl⟩ := ih (fun x hx => h x (List.mem_cons_of_mem _ hx))
    have hb := h b (by simp)
    unfold blockCodes
    by_cases h1 : b < 256
    · simp only [blockCode, if_pos h1, hbc]
      exact ⟨_, rfl, by simp; omega⟩
    · simp only [blockCode, if_neg h1, if_pos hb, hbc]
      exact ⟨_, rfl, by simp; omega⟩

/-- identity of the tag as the reader holds it: IDm and PMm of 8 octets -/
def I3 (s : S3) : Prop := s.idm.length = 8 ∧ s.pmm.length = 8

/-- the tag object `s0` at most `k` interactions later -/
def Later (s0 : S3) (k : Nat) (s : S3) : Prop :=
  s.idm = s0.idm ∧ s.pmm = s0.pmm ∧ s.sys = s0.sys ∧ s.w.n ≤ s0.w.n + k

theorem Later.refl (s : S3) : Later s 0 s := ⟨rfl, rfl, rfl, Nat.le_refl _⟩

theorem Later.mono {s0 s : S3} {k k' : Nat} (h : Later s0 k s) (hk : k ≤ k') : Later s0 k' s :=
  ⟨h.1, h.2.1, h.2.2.1, Nat.le_trans h.2.2.2 (Nat.add_le_add_left hk _)⟩

theorem Later.i3 {s0 s : S3} {k : Nat} (h : Later s0 k s) (hI : I3 s0) : I3 s := by
  unfold I3; rw [h.1, h.2.1]; exact hI

theorem Later.sys_eq {s0 s : S3} {k : Nat} (h : Later s0 k s) : s.sys = s0.sys := h.2.2.1

theorem Later.n_le {s0 s : S3} {k : Nat} (h : Later s0 k s) : s.w.n ≤ s0.w.n + k := h.2.2.2

/-- one `transceive` of at most `j` interactions changes only the counter and the log -/
theorem Later.trx {s0 s : S3} {k j : Nat} (h : Later s0 k s) {w' : W} (hn : w'.n ≤ s.w.n + j) :
    Later s0 (k + j) { s with w := w' } :=
  ⟨h.1, h.2.1, h.2.2.1, Nat.le_trans hn (by rw [← Nat.add_assoc]; exact Nat.add_le_add_right h.2.2.2 j)⟩

theorem parseAttr_spec (d : Bytes) (hl : d.length = 16) (hb : IsBytes d) :
    parseAttr d = .ok none ∨ ∃ a, parseAttr d = .ok (some a) ∧ a.nmaxb ≤ 65535 := by
  match d, hl with
  | [a0, a1, a2, a3, a4, a5, a6, a7, a8, a9, a10, a11, a12, a13, c0, c1], _ =>
    have h3 : a3 < 256 := hb a3 (by simp)
    have h4 : a4 < 256 := hb a4 (by simp)
    unfold parseAttr
    by_cases hsum : a0 + a1 + a2 + a3 + a4 + a5 + a6 + a7 + a8 + a9 + a10 + a11 + a12 + a13 ≠ c0 * 256 + c1
    · exact Or.inl (if_pos hsum)
    · exact Or.inr ⟨_, if_neg hsum, by simp only; omega⟩

section
variable {t : Tag} (hT : TagBytes t) {s0 s : S3} {k : Nat}
include hT

theorem sendCmd3_step (code : Nat) (data : Bytes) (sendIdm : Bool) (hJ : Later s0 k s)
    (hl : 2 + (if sendIdm then s.idm else []).length + data.length < 256) (hc : code < 256) :
    Step (Later s0 (k + 3)) (Later s0 (k + 3)) (sendCmd3 t code data sendIdm s) IsBytes := by
  unfold sendCmd3
  rw [if_neg (by omega)]
  obtain ⟨r, w', h, -, hn, hb⟩ := trx_cases t 3 ([2 + (if sendIdm then s.idm else []).length + data.length, code] ++
    (if sendIdm then s.idm else []) ++ data) s.w
  rw [h]
  have hJ' : Later s0 (k + 3) { s with w := w' } := hJ.trx hn
  cases r with
  | none => exact Step.err rfl hJ'
  | some rsp =>
    have hc := checkRsp3_spec code sendIdm s.idm rsp
    cases hr : checkRsp3 code sendIdm s.idm rsp with
    | error e => exact Or.inr ⟨e, hr, hc.1 e hr, hJ'⟩
    | ok d =>
      obtain ⟨j, hj⟩ := hc.2 d hr
      exact Or.inl ⟨d, hr, hJ', hj ▸ isBytes_drop (hb rsp rfl hT) j⟩

theorem read3_step (bl : List Nat) (hJ : Later s0 k s) (hI : I3 s0) (hn : bl.length ≤ 15) (hb : ∀ b ∈ bl, b < 65536) :
    Step (Later s0 (k + 3)) (Later s0 (k + 3)) (read3 t bl s) (fun d => d.length = bl.length * 16 ∧ IsBytes d) := by
  have hI := hJ.i3 hI
  unfold read3
  obtain ⟨p5, hp5, -⟩ := idxN_lt s.pmm 5 (by rw [hI.2]; omega)
  rw [hp5]
  simp only
  rw [if_neg (by omega)]
  obtain ⟨bc, hbc, hlen⟩ := blockCodes_ok bl hb
  rw [hbc]
  simp only
  rcases (sendCmd3_step hT 6 ([1, 0x0B, 0x00, bl.length] ++ bc) true hJ
      (by simp only [if_true, hI.1, List.length_append, List.length_cons, List.length_nil]; omega) (by omega)).cases with
    ⟨d, s', hg, hJ', hd⟩ | ⟨e, s', hg, ht, hf⟩
  · rw [hg]
    simp only
    split
    · exact Step.err rfl hJ'
    · rename_i hl
      have hl' : d.length = 1 + bl.length * 16 := by simpa using hl
      exact Step.ok hJ' ⟨by simp; omega, fun b hb => hd b (List.mem_of_mem_drop hb)⟩
  · rw [hg]; exact Step.err ht hf

theorem blockLoop3_spec (hI : I3 s0) (last nbr : Nat) (hl : last ≤ 65536) (h1 : 1 ≤ nbr) (h15 : nbr ≤ 15) :
    ∀ (fuel i : Nat) (acc : List Bytes) (k : Nat) (s : S3), Later s0 k s → last < i + fuel → 0 < fuel →
      ∃ r s', blockLoop3 t last nbr fuel i acc s = (.ok r, s') ∧ Later s0 (k + 3 * (last - i)) s' := by
  intro fuel
  induction fuel with
  | zero => intro i acc k s _ _ h; omega
  | succ f ih =>
    intro i acc k s hJ hf _
    unfold blockLoop3
    split
    · exact ⟨_, _, rfl, hJ.mono (Nat.le_add_right _ _)⟩
    · rcases (read3_step hT (List.range' i (min (i + nbr) last - i)) hJ hI (by simp; omega)
          (by intro b hb; simp only [List.mem_range'_1] at hb; omega)).cases with ⟨d, s', hg, hJ', -⟩ | ⟨e, s', hg, ht, hf'⟩
      · rw [hg]
        obtain ⟨r, s2, h, hL⟩ := ih (i + nbr) (d :: acc) (k + 3) s' hJ' (by omega) (by omega)
        exact ⟨r, s2, h, hL.mono (by omega)⟩
      · rw [hg]
        simp only [ht, if_true]
        exact ⟨none, s', rfl, hf'.mono (by omega)⟩

/-- `polling(system_code, request_code)`: at most 3 interactions, only command errors, and the tuple has the
shape that belongs to the request code: `(idm, pmm)` of 8 octets each for request code 0 -/
theorem pollingTuple_step (sys rc : Nat) (hJ : Later s0 k s) (hs : sys < 65536) (hrc : rc = 0 ∨ rc = 1 ∨ rc = 2) :
    Step (Later s0 (k + 3)) (Later s0 (k + 3)) (pollingTuple t sys rc s) (fun tup =>
      (rc = 0 → ∃ a b, tup = [a, b] ∧ a.length = 8 ∧ b.length = 8) ∧ (rc ≠ 0 → ∃ a b c, tup = [a, b, c])) := by
  unfold pollingTuple
  rw [if_neg (by omega), if_neg (by omega)]
  rcases (sendCmd3_step hT 0 [sys / 256, sys % 256, rc, 0] false hJ (by simp) (by omega)).cases with
    ⟨d, s', hg, hJ', -⟩ | ⟨e, s', hg, ht, hf⟩
  · rw [hg]
    simp only
    by_cases hl : d.length ≠ (if rc = 0 then 16 else 18)
    · rw [if_pos hl]; exact Step.err rfl hJ'
    · rw [if_neg hl]
      have hl' : d.length = (if rc = 0 then 16 else 18) := by simpa using hl
      by_cases h16 : d.length = 16
      · rw [if_pos h16]
        refine Step.ok hJ' ⟨fun _ => ⟨_, _, rfl, by simp; omega, by simp; omega⟩, fun hne => ?_⟩
        rw [if_neg hne] at hl'; omega
      · rw [if_neg h16]
        refine Step.ok hJ' ⟨fun h0 => ?_, fun _ => ⟨_, _, _, rfl⟩⟩
        rw [if_pos h0] at hl'; omega
  · rw [hg]; exact Step.err ht hf

theorem polling3_step (s : S3) :
    Step (fun s' => I3 s' ∧ s'.sys = 0x12FC ∧ s'.w.n ≤ s.w.n + 3) (Later s 3) (polling3 t s) (fun _ => True) := by
  unfold polling3
  rcases (pollingTuple_step hT 0x12FC 0 (Later.refl s) (by omega) (Or.inl rfl)).cases with
    ⟨tup, s', hg, hJ', hp⟩ | ⟨e, s', hg, ht, hf⟩
  · rw [hg]
    obtain ⟨a, b, rfl, ha, hb⟩ := hp.1 rfl
    exact Step.ok ⟨⟨ha, hb⟩, rfl, hJ'.n_le⟩ trivial
  · rw [hg]; exact Step.err ht hf

/-- Type 3: for every tag `_read_ndef_data` needs at most 6 + 3·65536 interactions, never raises, and
returns `None` or an object with `length ≤ capacity` whose octets are blocks 1.. of the data area -/
theorem readNdef3_safe (s : S3) (hI : I3 s) :
    (readNdef3 t s).2.w.n ≤ s.w.n + 6 + 3 * 65536 ∧
    ((readNdef3 t s).1 = .ok none ∨ ∃ d, (readNdef3 t s).1 = .ok (some d) ∧ SafeNdef d ∧ d.lo = 16) ∧
    I3 (readNdef3 t s).2 ∧ ((readNdef3 t s).2.sys = s.sys ∨ (readNdef3 t s).2.sys = 0x12FC) := by
  unfold readNdef3
  obtain ⟨r, s1, hg, hI1, hsys1, hn1, hr⟩ : ∃ r s1, (if s.sys ≠ 0x12FC then polling3 t s else (.ok (), s)) = (r, s1) ∧
      I3 s1 ∧ (s1.sys = s.sys ∨ s1.sys = 0x12FC) ∧ s1.w.n ≤ s.w.n + 3 ∧ ∀ e, r = .error e → isTagCmd e = true := by
    split
    · rcases (polling3_step hT s).cases with ⟨u, s1, hg, ⟨hI1, hs, hn⟩, -⟩ | ⟨e, s1, hg, ht, hL⟩
      · exact ⟨_, _, hg, hI1, Or.inr hs, hn, fun e h => by cases h⟩
      · exact ⟨_, _, hg, hL.i3 hI, Or.inl hL.sys_eq, hL.n_le, fun e' h => by cases h; exact ht⟩
    · exact ⟨_, _, rfl, hI, Or.inl rfl, Nat.le_add_right _ _, fun e h => by cases h⟩
  -- from here on the tag object stays `s1`
  have fin : ∀ {j s'}, Later s1 j s' → j ≤ 3 + 3 * 65536 →
      s'.w.n ≤ s.w.n + 6 + 3 * 65536 ∧ I3 s' ∧ (s'.sys = s.sys ∨ s'.sys = 0x12FC) := fun hL hj =>
    ⟨by have := hL.n_le; omega, hL.i3 hI1, by rw [hL.sys_eq]; exact hsys1⟩
  simp only
  rw [hg]
  cases r with
  | error e =>
    simp only
    rw [if_pos (hr e rfl)]
    have := fin (Later.refl s1) (by omega)
    exact ⟨this.1, Or.inl rfl, this.2⟩
  | ok u =>
    simp only
    rcases (read3_step hT [0] (Later.refl s1) hI1 (by decide) (by decide)).cases with ⟨d, s2, hg2, hJ2, hd⟩ | ⟨e, s2, hg2, ht, hf⟩
    · rw [hg2]
      simp only
      have h2 := fin hJ2 (by omega)
      rcases parseAttr_spec d hd.1 hd.2 with h | ⟨a, h, hmax⟩
      · rw [h]; exact ⟨h2.1, Or.inl rfl, h2.2⟩
      · rw [h]
        simp only
        split
        · exact ⟨h2.1, Or.inl rfl, h2.2⟩
        · split
          · exact ⟨h2.1, Or.inl rfl, h2.2⟩
          · rename_i hln
            split
            · exact ⟨h2.1, Or.inl rfl, h2.2⟩
            · rename_i hnbr
              obtain ⟨r3, s3, hg3, hJ3⟩ := blockLoop3_spec hT hI1 (1 + (a.ln + 15) / 16) (min a.nbr 15) (by omega)
                (by omega) (by omega) (1 + (a.ln + 15) / 16) 1 [] _ s2 hJ2 (by omega) (by omega)
              rw [hg3]
              have h3 := fin hJ3 (by omega)
              cases r3 with
              | none => exact ⟨h3.1, Or.inl rfl, h3.2⟩
              | some data =>
                refine ⟨h3.1, Or.inr ⟨_, rfl, ⟨?_, rfl, List.length_range', fun x hx => ?_⟩, rfl⟩, h3.2⟩
                · simp only [List.length_take]; omega
                · simp only [List.mem_range'_1, List.length_take] at hx
                  simp only
                  omega
    · rw [hg2]
      simp only
      rw [if_pos ht]
      have := fin hf (by omega)
      exact ⟨this.1, Or.inl rfl, this.2⟩

end
end NfcVerif.Adv
