import NfcVerif.Lemmas.Snep
/-!
The SNEP server against an arbitrary peer (`Snep.srvFeed`): whatever sequence of messages arrives,
the application callbacks only get requests whose header announced a length within
`max_acceptable_length` (the check of C06-m2 / C06-r2m1 as an invariant of the server alone).
Property C06.
-/
namespace NfcVerif.Snep
open NfcVerif NfcVerif.Chan

/-- the length the first six octets of a request announce -/
def announced (data : Bytes) : Nat := beNat ((data.drop 2).take 4)

/-- what the application may see: the octets behind the header of a request `data` whose header
announces a length within the limit -/
def Admissible (cfg : SCfg) (e : Op × Bytes) : Prop :=
  ∃ data : Bytes, 6 ≤ data.length ∧ announced data ≤ cfg.maxAcc ∧ (e.2 = data.drop 6 ∨ e.2 = data.drop 10)

theorem process_admissible (cfg : SCfg) (data resp : Bytes) (dl : List (Op × Bytes)) (h6 : 6 ≤ data.length)
    (ha : announced data ≤ cfg.maxAcc) (hp : process cfg.h data = .ok (resp, dl)) :
    ∀ e ∈ dl, Admissible cfg e := by
  unfold process at hp
  obtain ⟨code, -, hp⟩ := Py.bind_eq_ok.mp hp
  dsimp only at hp
  intro e he
  -- every branch hands on nothing, or what follows the header of `data`
  refine ⟨data, h6, ha, ?_⟩
  split at hp
  · split at hp <;> cases hp
    · cases he
    · exact Or.inr (List.mem_singleton.mp he ▸ rfl)
  · split at hp
    · split at hp <;> cases hp
      · cases he
      · exact Or.inl (List.mem_singleton.mp he ▸ rfl)
    · cases hp; cases he

theorem announced_append (data m : Bytes) (h6 : 6 ≤ data.length) : announced (data ++ m) = announced data := by
  unfold announced
  rw [List.drop_append_of_le_length (by omega)]
  rw [List.take_append_of_le_length (by simp; omega)]

/-- the server only collects fragments for a request whose header it has accepted -/
def SInv (cfg : SCfg) : SState → Prop
  | .reasm data _ => 6 ≤ data.length ∧ announced data ≤ cfg.maxAcc
  | _ => True

theorem srvFinish_admissible (cfg : SCfg) (data : Bytes) (h6 : 6 ≤ data.length) (ha : announced data ≤ cfg.maxAcc) :
    SInv cfg (srvFinish cfg data).1 ∧ ∀ e ∈ (srvFinish cfg data).2.2, Admissible cfg e := by
  unfold srvFinish
  cases hp : process cfg.h data with
  | error e => simp [SInv]
  | ok r =>
    obtain ⟨resp, dl⟩ := r
    refine ⟨?_, process_admissible cfg data resp dl h6 ha hp⟩
    simp only [respond]
    split <;> simp [SInv]

theorem srvOnRecv_admissible (cfg : SCfg) (st : SState) (m : Bytes) (hi : SInv cfg st) :
    SInv cfg (srvOnRecv cfg st m).1 ∧ ∀ e ∈ (srvOnRecv cfg st m).2.2, Admissible cfg e := by
  cases st with
  | idle =>
    match m with
    | [] | [_] | [_, _] | [_, _, _] | [_, _, _, _] | [_, _, _, _, _] => simp [srvOnRecv, SInv]
    | v :: x :: a :: b :: c :: d :: tl =>
      have han : announced (v :: x :: a :: b :: c :: d :: tl) = beNat [a, b, c, d] := by simp [announced]
      simp only [srvOnRecv]
      split
      · simp [SInv]
      · split
        · simp [SInv]
        · next hle =>
          split
          · exact ⟨⟨by simp, by rw [han]; omega⟩, by simp⟩
          · exact srvFinish_admissible cfg _ (by simp) (by rw [han]; omega)
  | reasm data length =>
    obtain ⟨h6, ha⟩ := hi
    simp only [srvOnRecv]
    split
    · exact ⟨⟨by simp; omega, by rw [announced_append _ _ h6]; exact ha⟩, by simp⟩
    · exact srvFinish_admissible cfg _ (by simp; omega) (by rw [announced_append _ _ h6]; exact ha)
  | awaitCont rest =>
    simp only [srvOnRecv]
    split <;> simp [SInv]
  | closed | crashed _ => simp [srvOnRecv, SInv]

/-- **whatever the peer sends** - any sequence of messages, any state the server is in - the
application callbacks only ever get requests whose header announced a length within the limit -/
theorem srvFeed_admissible (cfg : SCfg) : ∀ (ms : List Bytes) (st : SState), SInv cfg st →
    SInv cfg (srvFeed cfg st ms).1 ∧ ∀ e ∈ (srvFeed cfg st ms).2.2, Admissible cfg e := by
  intro ms
  induction ms with
  | nil => intro st hi; exact ⟨hi, by simp [srvFeed]⟩
  | cons m rest ih =>
    intro st hi
    simp only [srvFeed]
    split
    · obtain ⟨h1, h2⟩ := srvOnRecv_admissible cfg st m hi
      obtain ⟨h3, h4⟩ := ih _ h1
      refine ⟨h3, fun e he => ?_⟩
      rcases List.mem_append.mp he with h | h
      · exact h2 e h
      · exact h4 e h
    · exact ih st hi

theorem srvOnClose_admissible (cfg : SCfg) (st : SState) (hi : SInv cfg st) :
    ∀ e ∈ (srvOnClose cfg st).2, Admissible cfg e := by
  cases st with
  | reasm data length =>
    obtain ⟨h6, ha⟩ := hi
    simp only [srvOnClose]
    cases hp : process cfg.h data with
    | error e => simp
    | ok r => obtain ⟨resp, dl⟩ := r; exact process_admissible cfg data resp dl h6 ha hp
  | idle | awaitCont _ | closed | crashed _ => simp [srvOnClose]

end NfcVerif.Snep
