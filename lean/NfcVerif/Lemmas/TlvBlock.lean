import NfcVerif.Lemmas.TlvSync
/-! Equations for evaluating writes on concrete images: without reserved bytes the copy loop is a splice (`place_nil`,
`phase2_nil`), and `diffUnits` is one pass over both images (`diffFrom`).  `Props/C02` and `Props/C03Sess` rewrite with them
before `decide +kernel`. -/
namespace NfcVerif.Tlv
open NfcVerif

theorem place_nil (c : Cfg) (ds : Bytes) : ∀ (m : Bytes) (a : Nat),
    place c [] m a ds = if ds ≠ [] ∧ m.length < a + ds.length then .error c.rdErr
      else .ok (m.take a ++ ds ++ m.drop (a + ds.length), a + ds.length) := by
  induction ds with
  | nil => intro m a; simp [place]
  | cons d ds ih =>
    intro m a
    simp only [place, nextFree_nil, wr, List.length_cons]
    by_cases h : a < m.length
    · have ht : (m.take (a + 1)).set a d = m.take a ++ [d] := by
        rw [List.take_add_one, List.getElem?_eq_getElem h, Option.toList_some,
          List.set_append_right _ _ (by simp; omega)]
        simp [List.length_take, Nat.min_eq_left (show a ≤ m.length by omega)]
      rw [if_pos h, Py.bind_ok, ih]
      simp only [List.take_set, List.drop_set, List.length_set, ht]
      by_cases hf : m.length < a + (ds.length + 1)
      · have hds : ds ≠ [] := by intro e; subst e; simp at hf; omega
        simp [hds, hf, show m.length < a + 1 + ds.length by omega]
      · simp [hf, Nat.add_assoc, Nat.add_comm 1]
    · rw [if_neg h, if_pos ⟨by simp, by omega⟩]; rfl

theorem phase2_nil (c : Cfg) (m1 : Bytes) (off e : Nat) (data : Bytes) :
    phase2 c m1 off [] e data =
      if data ≠ [] ∧ m1.length < off + hdrLen data.length + data.length then .error c.rdErr
      else if off + hdrLen data.length + data.length < e then
        wr c (m1.take (off + hdrLen data.length) ++ data ++ m1.drop (off + hdrLen data.length + data.length))
          (off + hdrLen data.length + data.length) 0xFE
      else .ok (m1.take (off + hdrLen data.length) ++ data ++ m1.drop (off + hdrLen data.length + data.length)) := by
  unfold phase2
  rw [place_nil]
  split
  · rfl
  · simp only [Py.bind_ok, nextFree_nil]

def diffFrom (u : Nat) : Nat → Nat → Bytes → Bytes → List Cmd
  | 0, _, _, _ => []
  | n + 1, i, old, new =>
    (if old.take u ≠ new.take u then [(i * u, new.take u)] else [])
      ++ diffFrom u n (i + 1) (old.drop u) (new.drop u)

theorem diffFrom_eq (u : Nat) (old new : Bytes) : ∀ n i,
    diffFrom u n i (old.drop (i * u)) (new.drop (i * u)) = (List.range' i n).filterMap fun i =>
      if sliceN old (i * u) (i * u + u) ≠ sliceN new (i * u) (i * u + u)
      then some (i * u, sliceN new (i * u) (i * u + u)) else none := by
  intro n
  induction n with
  | zero => intro i; rfl
  | succ n ih =>
    intro i
    have hd : ∀ l : Bytes, (l.drop (i * u)).drop u = l.drop ((i + 1) * u) := fun l => by
      rw [List.drop_drop, Nat.succ_mul]
    have hs : ∀ l : Bytes, (l.drop (i * u)).take u = sliceN l (i * u) (i * u + u) := fun l => by
      unfold sliceN; rw [Nat.add_sub_cancel_left]
    rw [diffFrom, hd, hd, ih (i + 1), hs, hs, List.range'_succ, List.filterMap_cons]
    split <;> simp_all

theorem diffUnits_eq_diffFrom (u : Nat) (old new : Bytes) :
    diffUnits u old new = diffFrom u ((old.length + u - 1) / u) 0 old new := by
  have := diffFrom_eq u old new ((old.length + u - 1) / u) 0
  simp only [Nat.zero_mul, List.drop_zero] at this
  rw [this, diffUnits, List.range_eq_range']

end NfcVerif.Tlv
