import NfcVerif.Model.PduObj
import NfcVerif.Lemmas.PduRound
/-!
# PDU objects: histories of assignments and observations (C11)

* observers leave the fields alone, so the state after a history is the state after its mutations (`final_filter`);
* the reply at any point of a history is `reply` at the fields of that point (`run_at`);
* an in-range assignment / append keeps a PDU valid (`assignS_valid`, `apply_valid`, `final_valid`);
* hence the round trip and the length hold at every point of every history whose fields are valid
  (`history_roundtrip`);
* the PAX property setters produce valid parameters (`pax_setters_valid`);
* `FrameReject.from_pdu`: the flag letters fit four bits (`flagList_le`), a valid PDU has a header in range
  (`validS_header`).
-/
namespace NfcVerif.Pdu
open NfcVerif

namespace Obj

theorem apply_observer (p : Pdu) (o : Op) (h : o.mutates = false) : apply p o = p := by
  cases o <;> simp [Op.mutates] at h <;> rfl

theorem final_nil (p : Pdu) : final p [] = p := rfl

theorem final_cons (p : Pdu) (o : Op) (os : List Op) : final p (o :: os) = final (apply p o) os := rfl

theorem final_append (p : Pdu) (a b : List Op) : final p (a ++ b) = final (final p a) b := by
  simp [final, List.foldl_append]

/-- the fields after a history are the fields after the assignments / appends of that history alone:
`encode`, `len`, `encode_header`, `==`, `str`, property and field reads have no influence -/
theorem final_filter (p : Pdu) (ops : List Op) : final p ops = final p (ops.filter Op.mutates) := by
  induction ops generalizing p with
  | nil => rfl
  | cons o os ih =>
    cases hm : o.mutates with
    | true => simp only [List.filter_cons, hm, if_true, final_cons]; exact ih _
    | false =>
      simp only [List.filter_cons, hm, final_cons, apply_observer p o hm]
      exact ih p

theorem run_append (p : Pdu) (a b : List Op) : run p (a ++ b) = run p a ++ run (final p a) b := by
  induction a generalizing p with
  | nil => rfl
  | cons o os ih => simp only [List.cons_append, run, final_cons, ih]

theorem run_length (p : Pdu) (ops : List Op) : (run p ops).length = ops.length := by
  induction ops generalizing p with
  | nil => rfl
  | cons o os ih => simp [run, ih]

/-- what an operation returns after a history `pre` is `reply` at the fields after `pre` -/
theorem run_at (p : Pdu) (pre : List Op) (o : Op) (post : List Op) :
    (run p (pre ++ o :: post))[pre.length]? = some (reply (final p pre) o) := by
  rw [run_append]
  have h : pre.length = (run p pre).length := (run_length p pre).symm
  rw [h, List.getElem?_append_right (Nat.le_refl _)]
  simp [run]

/-- At the fields reached by any history: if they are valid then `encode` succeeds, decoding the encoding gives
them back and `len` is the length of the encoding. -/
theorem history_roundtrip (p : Pdu) (pre post : List Op) (hv : Valid (final p pre)) :
    ∃ b, (run p (pre ++ .enc :: .len :: post))[pre.length]? = some (.bytes (.ok b)) ∧
      (run p (pre ++ .enc :: .len :: post))[pre.length + 1]? = some (.nat b.length) ∧
      Impl.decode b = .ok (final p pre) ∧
      final p pre = final p (pre.filter Op.mutates) := by
  obtain ⟨b, he, hd⟩ := Impl.roundtrip (final p pre) hv
  refine ⟨b, ?_, ?_, hd, final_filter p pre⟩
  · rw [run_at]
    simp only [reply, he]
  · have := run_at p (pre ++ [.enc]) .len post
    simp only [List.append_assoc, List.cons_append, List.nil_append, List.length_append, List.length_cons,
      List.length_nil, Nat.zero_add] at this
    rw [this, final_append]
    exact congrArg (some ∘ Reply.nat) (Impl.len_eq he)

/-- the value is in the range of the attribute (independent of the class) -/
def AsgOk : Asg → Prop
  | .n .dsap v | .n .ssap v => v ≤ 63
  | .n .ns v | .n .nr v | .n .rw v | .n .rejFlags v | .n .rejPtype v | .n .vs v | .n .vr v | .n .vsa v
  | .n .vra v => v ≤ 15
  | .n .miu v => 128 ≤ v ∧ v ≤ 128 + 0x7FF
  | .n .reason v => v ≤ 255
  | .n .wks _ | .n .lto _ | .n .lsc _ | .n .dpc _ => True       -- the PAX setters mask the value
  | .n .ptype v => v = 11 ∨ v = 15
  | .o .version v | .o .lto v => ∀ x, v = some x → x ≤ 255
  | .o .miux v => ∀ x, v = some x → x ≤ 0x7FF
  | .o .wks v => ∀ x, v = some x → x ≤ 0xFFFF
  | .o .opt v => ∀ x, v = some x → x ≤ 7
  | .b _ _ => True
  | .ob _ v => ∀ x, v = some x → x ≠ [] ∧ x.length ≤ 255
  | .version _ _ => True
  | .sdreq l => ∀ x ∈ l, x.1 ≤ 255 ∧ x.2.length ≤ 254
  | .sdres l => ∀ x ∈ l, x.1 ≤ 255 ∧ x.2 ≤ 255
  | .sdreqAppend x => x.1 ≤ 255 ∧ x.2.length ≤ 254
  | .sdresAppend x => x.1 ≤ 255 ∧ x.2 ≤ 255

/-- classes whose SAPs are not fixed by the format -/
def freeSap : SPdu → Bool
  | .symm .. | .pax .. | .snl .. | .dps .. => false
  | _ => true

/-- an assignment to `dsap` / `ssap` of SYMM, PAX, SNL, DPS must keep the fixed value -/
def SapOk : Asg → SPdu → Prop
  | .n .dsap v, p => freeSap p = true ∨ v = p.dsap
  | .n .ssap v, p => freeSap p = true ∨ v = p.ssap
  | _, _ => True

/-- `lsc` and `dpc` of a PAX PDU rewrite the OPT octet, which may be absent -/
theorem pax_opt_valid {d s : Nat} {a b c e f : Option Nat} (hv : ValidS (.pax d s a b c e f)) (x : Nat) (hx : x ≤ 7) :
    ValidS (.pax d s a b c e (some x)) :=
  ⟨hv.1, hv.2.1, hv.2.2.1, hv.2.2.2.1, hv.2.2.2.2.1, hv.2.2.2.2.2.1, fun y hy => by cases hy; exact hx⟩

theorem pax_opt_le {d s : Nat} {a b c e f : Option Nat} (hv : ValidS (.pax d s a b c e f)) : f.getD 0 ≤ 7 := by
  cases f with
  | none => exact Nat.zero_le _
  | some o => exact hv.2.2.2.2.2.2 o rfl

/-- a free SAP takes any value up to 63; a fixed one (SYMM, PAX, SNL, DPS) only the value it has -/
theorem setDsap_valid {v : Nat} {p : SPdu} (hv : ValidS p) (ha : v ≤ 63) (hs : freeSap p = true ∨ v = p.dsap) :
    ValidS (setDsap v p) := by
  rcases hs with hs | rfl
  · cases p with
    | symm | pax | snl | dps => cases hs
    | unknown => exact ⟨hv.1, ha, hv.2.2⟩
    | _ => exact ⟨ha, hv.2⟩
  · cases p <;> exact hv

theorem setSsap_valid {v : Nat} {p : SPdu} (hv : ValidS p) (ha : v ≤ 63) (hs : freeSap p = true ∨ v = p.ssap) :
    ValidS (setSsap v p) := by
  rcases hs with hs | rfl
  · cases p with
    | symm | pax | snl | dps => cases hs
    | ui | disc => exact ⟨hv.1, ha⟩
    | unknown => exact ⟨hv.1, hv.2.1, ha⟩
    | _ => exact ⟨hv.1, ha, hv.2.2⟩
  · cases p <;> exact hv

/-- Where the class does not read the attribute the fields are unchanged (`exact hv`); otherwise one component of
`ValidS` changes and `AsgOk` (or the mask of the PAX setter) gives it. -/
theorem assignS_valid (a : Asg) (p : SPdu) (hv : ValidS p) (ha : AsgOk a) (hs : SapOk a p) :
    ValidS (assignS a p) := by
  cases a with
  | n att v =>
    cases att with
    | dsap => exact setDsap_valid hv ha hs
    | ssap => exact setSsap_valid hv ha hs
    -- the four-bit fields of I, RR, RNR, FRMR and the DM reason: one bound of an arithmetic conjunction becomes `ha`
    | ns | nr | reason | rejFlags | rejPtype | vs | vr | vsa | vra =>
      cases p <;> first | exact hv | (simp only [assignS, assignN, ValidS, AsgOk] at hv ha ⊢; omega)
    | rw =>
      cases p with
      | connect => exact ⟨hv.1, hv.2.1, hv.2.2.1, hv.2.2.2.1, ha, hv.2.2.2.2.2⟩
      | cc => exact ⟨hv.1, hv.2.1, hv.2.2.1, hv.2.2.2.1, ha⟩
      | _ => exact hv
    | miu =>
      cases p with
      | connect => exact ⟨hv.1, hv.2.1, ha.1, ha.2, hv.2.2.2.2⟩
      | cc => exact ⟨hv.1, hv.2.1, ha.1, ha.2, hv.2.2.2.2⟩
      -- the PAX setter stores MIUX = `v - 128`
      | pax => exact ⟨hv.1, hv.2.1, hv.2.2.1, fun x hx => by have := Option.some.inj hx; have := ha.2; omega, hv.2.2.2.2⟩
      | _ => exact hv
    -- the other PAX setters mask their argument, so any `v` will do
    | wks =>
      cases p with
      | pax =>
        exact ⟨hv.1, hv.2.1, hv.2.2.1, hv.2.2.2.1,
          fun x hx => by have : v % 65536 = x := Option.some.inj hx; omega, hv.2.2.2.2.2⟩
      | _ => exact hv
    | lto =>
      cases p with
      | pax =>
        exact ⟨hv.1, hv.2.1, hv.2.2.1, hv.2.2.2.1, hv.2.2.2.2.1,
          fun x hx => by have : v / 10 % 256 = x := Option.some.inj hx; omega, hv.2.2.2.2.2.2⟩
      | _ => exact hv
    | lsc =>
      cases p with
      | pax => exact pax_opt_valid hv _ (by have := pax_opt_le hv; omega)
      | _ => exact hv
    | dpc =>
      cases p with
      | pax => exact pax_opt_valid hv _ (by have := pax_opt_le hv; split <;> omega)
      | _ => exact hv
    | ptype =>
      cases p with
      | unknown => exact ⟨ha, hv.2⟩
      | _ => exact hv
  | o att v =>
    cases att <;> cases p <;> first
      | exact hv
      | (obtain ⟨h1, h2, h3, h4, h5, h6, h7⟩ := hv
         exact ⟨h1, h2, by assumption, by assumption, by assumption, by assumption, by assumption⟩)
  | b att v => cases att <;> cases p <;> exact hv
  | ob att v =>
    cases att <;> cases p <;> first
      | exact hv
      | exact ⟨hv.1, hv.2.1, hv.2.2.1, hv.2.2.2.1, hv.2.2.2.2.1, ha⟩
      | exact ⟨hv.1, hv.2.1, ha, hv.2.2.2⟩
      | exact ⟨hv.1, hv.2.1, hv.2.2.1, ha⟩
  | version a b =>
    cases p with
    | pax => exact ⟨hv.1, hv.2.1, fun x hx => by cases hx; omega, hv.2.2.2⟩
    | _ => exact hv
  | sdreq l =>
    cases p with
    | snl => exact ⟨hv.1, hv.2.1, ha, hv.2.2.2⟩
    | _ => exact hv
  | sdres l =>
    cases p with
    | snl => exact ⟨hv.1, hv.2.1, hv.2.2.1, ha⟩
    | _ => exact hv
  | sdreqAppend x =>
    cases p with
    | snl =>
      exact ⟨hv.1, hv.2.1, fun y hy => (List.mem_append.mp hy).elim (hv.2.2.1 y) fun h => List.mem_singleton.mp h ▸ ha,
        hv.2.2.2⟩
    | _ => exact hv
  | sdresAppend x =>
    cases p with
    | snl =>
      exact ⟨hv.1, hv.2.1, hv.2.2.1,
        fun y hy => (List.mem_append.mp hy).elim (hv.2.2.2 y) fun h => List.mem_singleton.mp h ▸ ha⟩
    | _ => exact hv

/-- the operation is in range at the fields `p`: an in-range assignment (fixed SAPs kept), the append of a valid
PDU of at most 65535 octets, an in-range assignment to an aggregated PDU that keeps it within 65535 octets;
every observer -/
def OpOk (p : Pdu) : Op → Prop
  | .set a => match p with
    | .simple q => AsgOk a ∧ SapOk a q
    | .agf _ _ _ => match a with
      | .n .dsap v => v = 0
      | .n .ssap v => v = 0
      | _ => True
  | .append q => ValidS q ∧ Impl.lenS q ≤ 65535
  | .setItem i a => match p with
    | .agf _ _ items => ∀ q, items[i]? = some q → AsgOk a ∧ SapOk a q ∧ Impl.lenS (assignS a q) ≤ 65535
    | _ => True
  | _ => True

theorem mem_setAt (i : Nat) (a : Asg) (items : List SPdu) (x : SPdu) (h : x ∈ setAt i a items) :
    x ∈ items ∨ ∃ q, items[i]? = some q ∧ x = assignS a q := by
  induction items generalizing i with
  | nil => simp [setAt] at h
  | cons q qs ih =>
    cases i with
    | zero =>
      simp only [setAt, List.mem_cons] at h
      rcases h with h | h
      · exact .inr ⟨q, by simp, h⟩
      · exact .inl (List.mem_cons_of_mem _ h)
    | succ i =>
      simp only [setAt, List.mem_cons] at h
      rcases h with h | h
      · exact .inl (by simp [h])
      · rcases ih i h with h' | ⟨q', h1, h2⟩
        · exact .inl (List.mem_cons_of_mem _ h')
        · exact .inr ⟨q', by simpa using h1, h2⟩

theorem apply_valid (p : Pdu) (o : Op) (hv : Valid p) (ho : OpOk p o) : Valid (apply p o) := by
  cases o with
  | set a =>
    cases p with
    | simple q => exact assignS_valid a q hv ho.1 ho.2
    | agf d s items =>
      obtain ⟨h1, h2, h3⟩ := hv
      cases a with
      | n att v =>
        cases att with
        | dsap => exact ⟨ho, h2, h3⟩
        | ssap => exact ⟨h1, ho, h3⟩
        | _ => exact ⟨h1, h2, h3⟩
      | _ => exact ⟨h1, h2, h3⟩
  | append q =>
    cases p with
    | simple q' => exact hv
    | agf d s items =>
      obtain ⟨h1, h2, h3⟩ := hv
      refine ⟨h1, h2, ?_⟩
      intro x hx
      rcases List.mem_append.mp hx with h | h
      · exact h3 x h
      · simp only [List.mem_singleton] at h; subst h; exact ho
  | setItem i a =>
    cases p with
    | simple q' => exact hv
    | agf d s items =>
      obtain ⟨h1, h2, h3⟩ := hv
      refine ⟨h1, h2, ?_⟩
      intro x hx
      rcases mem_setAt i a items x hx with h | ⟨q, hq, hx'⟩
      · exact h3 x h
      · obtain ⟨c1, c2, c3⟩ := ho q hq
        subst hx'
        exact ⟨assignS_valid a q (h3 q (List.mem_of_getElem? hq)).1 c1 c2, c3⟩
  | enc | len | hdr | eq q | get g | state | str => exact hv

/-- every operation of the history is in range at the fields it meets -/
def HistOk : Pdu → List Op → Prop
  | _, [] => True
  | p, o :: os => OpOk p o ∧ HistOk (apply p o) os

theorem final_valid (p : Pdu) (ops : List Op) (hv : Valid p) (hh : HistOk p ops) : Valid (final p ops) := by
  induction ops generalizing p with
  | nil => exact hv
  | cons o os ih => exact ih _ (apply_valid p o hv hh.1) hh.2

/-- a link timeout given in milliseconds as a multiple of 10 up to 2550 is read back unchanged -/
theorem pax_lto_exact (d s : Nat) (a b c e f : Option Nat) (k : Nat) (hk : k ≤ 255) :
    paxGet .lto (assignS (.n .lto (10 * k)) (.pax d s a b c e f)) = some (10 * k, 0) := by
  show some (10 * k / 10 % 256 * 10, 0) = _
  congr 2; omega

/-- the property setters that mask their argument produce valid parameters for every number assigned (`miu` does
not mask: it needs `AsgOk`, at most 2175), so a PAX PDU filled through them round-trips; this is `assignS_valid` for
the PAX properties -/
theorem pax_setters_valid (p : SPdu) (hv : ValidS p) (v x y : Nat) :
    ValidS (assignS (.n .lsc v) p) ∧ ValidS (assignS (.n .dpc v) p) ∧ ValidS (assignS (.n .lto v) p) ∧
    ValidS (assignS (.n .wks v) p) ∧ ValidS (assignS (.version x y) p) :=
  ⟨assignS_valid _ p hv trivial trivial, assignS_valid _ p hv trivial trivial, assignS_valid _ p hv trivial trivial,
   assignS_valid _ p hv trivial trivial, assignS_valid _ p hv trivial trivial⟩

/-- a subset of the flag letters "SRIW", each at most once (`tco` passes "W", "I" or "S") -/
def flagList (s r i w : Bool) : List Nat :=
  (if s then [0] else []) ++ (if r then [1] else []) ++ (if i then [2] else []) ++ (if w then [3] else [])

theorem validS_header {p : SPdu} (hv : ValidS p) : p.dsap ≤ 63 ∧ p.ssap ≤ 63 ∧ p.ptype ≤ 15 := by
  cases p <;> simp only [ValidS, SPdu.dsap, SPdu.ssap, SPdu.ptype] at hv ⊢ <;> omega

/-- `rej_flags` of `FrameReject.from_pdu` fits the four flag bits -/
theorem flagList_le (s r i w : Bool) : (flagList s r i w).foldl (fun acc i => acc + 2 ^ i) 0 ≤ 15 := by
  cases s <;> cases r <;> cases i <;> cases w <;> decide

end Obj
end NfcVerif.Pdu
