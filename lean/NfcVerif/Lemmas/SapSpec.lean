import NfcVerif.Lemmas.Sap
import NfcVerif.Lemmas.PyYields
/-!
# C17: abstract specification of the address tables and the simulation theorem

`SpecSide` is the abstract state of one controller: number of sockets, their
kinds, the per-socket binding, the partial map address ⇀ sockets and the map
name ⇀ address.  `Spec.step` is the transition function of the specification,
`absP` the abstraction function.  Everything else of the concrete state (socket
state machines, queues, SAP send lists, service discovery transactions, the
PDUs in flight) is abstracted away.

Proved here: one lemma per API operation (`OpOk`), the simulation theorems, the invariant of
the specification and, through the simulation, the invariant of the controllers over all histories.
The `opOk_*` proofs follow the programs with the rules of `Yields` (Lemmas/PyYields); whatever an
operation does besides its table operation stays inside `PKeeps` (`Keeps`, `SockKeeps` of Lemmas/Sap),
under which `absS` does not move.
-/
namespace NfcVerif.Sap
open NfcVerif

structure SpecSide where
  n : Nat
  kind : Nat → Kind
  bound : Nat → Option Nat
  owner : Nat → Option (List Nat)
  names : List (Bytes × Nat)

structure SpecState where
  a : SpecSide
  b : SpecSide

def absS (c : Llc) : SpecSide :=
  { n := c.n, kind := fun id => (c.sock id).kind, bound := fun id => (c.sock id).addr,
    owner := fun a => (c.sap a).map (·.socks), names := c.snl }

def absP (p : Pair) : SpecState := ⟨absS p.a, absS p.b⟩

-- `by rfl`, not `rfl`: `simp only` then rewrites with them (and repairs the `Decidable` instances of the tests they occur in)
theorem absS_bound (c : Llc) (id : Nat) : (absS c).bound id = (c.sock id).addr := by rfl
theorem absS_kind (c : Llc) (id : Nat) : (absS c).kind id = (c.sock id).kind := by rfl
theorem absS_owner (c : Llc) (a : Nat) : (absS c).owner a = (c.sap a).map (·.socks) := by rfl

def SpecState.get (σ : SpecState) (x : Side) : SpecSide := if x then σ.b else σ.a
def SpecState.set (σ : SpecState) (x : Side) (s : SpecSide) : SpecState :=
  if x then { σ with b := s } else { σ with a := s }

namespace SpecSide

def freeIn (s : SpecSide) (lo cnt : Nat) : Option Nat :=
  (List.range' lo cnt).find? (fun a => (s.owner a).isNone)

def bindAt (s : SpecSide) (id a : Nat) : SpecSide :=
  { s with bound := upd s.bound id (some a), owner := upd s.owner a (some [id]) }

/-- the allocation rule as a function (lowest free address of the class); `Except errno` -/
def bind (s : SpecSide) (id : Nat) (arg : BindArg) : Except Nat SpecSide :=
  if (s.bound id).isSome then .error EINVAL else
  match arg with
  | .none =>
    match s.freeIn 32 32 with
    | none => .error EAGAIN
    | some a => .ok (s.bindAt id a)
  | .addr a =>
    if a < 0 ∨ a > 63 then .error EFAULT else
    if 32 ≤ a ∨ s.kind id = .raw then
      if (s.owner a.toNat).isNone then .ok (s.bindAt id a.toNat) else .error EADDRINUSE
    else .error EACCES
  | .name nm =>
    if validName nm = false then .error EFAULT else
    if (s.names.lookup nm).isSome then .error EADDRINUSE else
    match wks nm with
    | some a =>
      if (s.owner a).isSome then .error EADDRINUSE
      else .ok { s.bindAt id a with names := s.names ++ [(nm, a)] }
    | none =>
      match s.freeIn 16 16 with
      | none => .error EADDRNOTAVAIL
      | some a => .ok { s.bindAt id a with names := s.names ++ [(nm, a)] }

/-- the implicit anonymous bind of listen/connect/sendto on an unbound socket;
when it is refused the table is unchanged -/
def implicitBind (s : SpecSide) (id : Nat) : SpecSide :=
  if (s.bound id).isSome then s else
  match s.bind id .none with
  | .ok s' => s'
  | .error _ => s

def newSocket (s : SpecSide) (k : Kind) : SpecSide :=
  { s with n := s.n + 1, kind := upd s.kind s.n k, bound := upd s.bound s.n none }

/-- a new data link connection socket joins the address of the listening socket -/
def accept (s : SpecSide) (id : Nat) : SpecSide :=
  match s.bound id with
  | none => s
  | some a =>
    let s1 := { s with n := s.n + 1, kind := upd s.kind s.n .dlc, bound := upd s.bound s.n (some a) }
    match s.owner a with
    | none => s1
    | some l => { s1 with owner := upd s.owner a (some (s.n :: l)) }

/-- the socket leaves its address; the last one frees the address and its names -/
def close (s : SpecSide) (id : Nat) : SpecSide :=
  match s.bound id with
  | none => s
  | some a =>
    match s.owner a with
    | none => s
    | some l =>
      if l.erase id = [] then
        { s with owner := upd s.owner a none, names := s.names.filter (fun q => q.2 != a) }
      else { s with owner := upd s.owner a (some (l.erase id)) }

end SpecSide

namespace Spec

/-- effect of an operation on the table of the acting controller.  Only `accept`
needs to look at the outcome: whether a connection request was pending is not part
of the abstract state. -/
def sideStep (s : SpecSide) (op : Op) (out : Py Out) : SpecSide :=
  match op with
  | .socket _ k => s.newSocket k
  | .bind _ id arg => match s.bind id arg with
    | .ok s' => s'
    | .error _ => s
  | .listen _ id _ => if s.kind id = .dlc then s.implicitBind id else s
  | .connect _ id _ => s.implicitBind id
  | .accept _ id => match out with
    | .ok (.sock ..) => s.accept id
    | .error .attr => s.accept id
    | _ => s
  | .sendto _ id _ _ => if s.kind id = .ldl then s.implicitBind id else s
  | .sendpdu _ id _ _ _ => s.implicitBind id
  | .recvfrom .. => s
  | .resolve .. => s
  | .close _ id => s.close id
  | .xfer _ => s
  | .resolveMany .. => s
  | .sendsnl _ id _ _ => s.implicitBind id

/-- transition function of the specification -/
def step (σ : SpecState) (op : Op) (out : Py Out) : SpecState :=
  σ.set op.side (sideStep (σ.get op.side) op out)

def errno : Except Nat SpecSide → Py Out → Prop
  | .error n, out => out = .error (.llcp n)
  | .ok _, _ => True

/-- what the specification says about the outcome of an operation -/
def valid (s : SpecSide) (op : Op) (out : Py Out) : Prop :=
  match op with
  | .socket _ _ => out = .ok (.num s.n)
  | .bind _ id arg => match s.bind id arg with
    | .ok s' => out = .ok (.addr (s'.bound id))
    | .error n => out = .error (.llcp n)
  | .close .. => out = .ok .unit
  | .listen _ id _ =>
    if s.kind id ≠ .dlc then out = .error (.llcp EOPNOTSUPP)
    else (s.bound id = none → errno (s.bind id .none) out)
  | .connect _ id _ => s.bound id = none → errno (s.bind id .none) out
  | .sendto _ id _ _ =>
    if s.kind id = .raw then out = .error .type_
    else if s.kind id = .ldl then (s.bound id = none → errno (s.bind id .none) out) else True
  | .sendpdu _ id _ _ _ => s.bound id = none → errno (s.bind id .none) out
  | .accept _ id => ∀ nid a pr, out = .ok (.sock nid a pr) → nid = s.n ∧ a = s.bound id ∧ a.isSome
  | .sendsnl _ id _ _ => s.bound id = none → errno (s.bind id .none) out
  | .recvfrom .. | .resolve .. | .xfer _ | .resolveMany .. => True

end Spec

/-- same number of sockets, same kinds -/
def SameKN (c c' : Llc) : Prop := c'.n = c.n ∧ ∀ id, (c'.sock id).kind = (c.sock id).kind

theorem SameKN.trans {c1 c2 c3 : Llc} (h1 : SameKN c1 c2) (h2 : SameKN c2 c3) : SameKN c1 c3 :=
  ⟨h2.1.trans h1.1, fun id => (h2.2 id).trans (h1.2 id)⟩

theorem Keeps.absS {c c' : Llc} (h : Keeps c c') : absS c' = absS c := by
  simp only [Sap.absS, h.n, h.snl, h.socks, fun id => (h.sock id).kind, fun id => (h.sock id).addr]

theorem absS_bindAt (c : Llc) (id a : Nat) : absS (bindAt c id a) = (absS c).bindAt id a := by
  simp only [absS, bindAt, SpecSide.bindAt]
  congr 1
  · funext j; exact (upd_apply Sock.kind ..).trans (congrFun (upd_self (fun j => (c.sock j).kind) id) j)
  · funext j; exact upd_apply Sock.addr ..
  · funext b; exact upd_apply (Option.map SapEntry.socks) ..

theorem absS_freeIn (c : Llc) (lo cnt : Nat) : (absS c).freeIn lo cnt = freeIn c lo cnt := by
  simp [SpecSide.freeIn, freeIn, absS]

def errnoOf : Exc → Nat
  | .llcp n => n
  | _ => 0

def absR : Py Llc → Except Nat SpecSide
  | .ok c' => .ok (absS c')
  | .error e => .error (errnoOf e)

theorem absR_ok (c : Llc) : absR (.ok c) = .ok (absS c) := rfl
theorem absR_error (e : Exc) : absR (.error e) = .error (errnoOf e) := rfl
theorem errnoOf_llcp (n : Nat) : errnoOf (.llcp n) = n := rfl

/-- the concrete `bind` computes the abstract allocation function -/
theorem absS_bind (c : Llc) (id : Nat) (arg : BindArg) : (absS c).bind id arg = absR (bind c id arg) := by
  have ho : ∀ a, ((absS c).owner a).isNone = (c.sap a).isNone := fun a => Option.isNone_map ..
  have ho' : ∀ a, ((absS c).owner a).isSome = (c.sap a).isSome := fun a => Option.isSome_map ..
  have hn : (absS c).names = c.snl := rfl
  have named : ∀ (nm : Bytes) a, absS { bindAt c id a with snl := c.snl ++ [(nm, a)] } =
      { (absS c).bindAt id a with names := c.snl ++ [(nm, a)] } := fun nm a => by rw [← absS_bindAt]; rfl
  -- the same tree of tests on both sides: the tests agree by `absS_bound`, `absS_kind`, `ho`, `hn`, and `absR` goes to the leaves
  unfold SpecSide.bind bind
  rw [apply_ite absR]
  cases arg with
  | none =>
    dsimp only
    rw [absS_freeIn]
    cases freeIn c 32 32 <;> simp only [absS_bound, absR_ok, absR_error, Py.throw_eq, Py.pure_eq, errnoOf_llcp, absS_bindAt]
  | addr a =>
    simp only [absS_bound, absS_kind, ho, apply_ite absR, absR_ok, absR_error, Py.throw_eq, Py.pure_eq, errnoOf_llcp, absS_bindAt]
  | name nm =>
    dsimp only
    rw [absS_freeIn]
    cases wks nm with
    | some a => simp only [absS_bound, hn, ho', apply_ite absR, absR_ok, absR_error, Py.throw_eq, Py.pure_eq, errnoOf_llcp, named]
    | none =>
      cases freeIn c 16 16 <;> simp only [absS_bound, hn, apply_ite absR, absR_ok, absR_error, Py.throw_eq, Py.pure_eq, errnoOf_llcp, named]

theorem absS_bind_ok {c c' : Llc} {id : Nat} {arg : BindArg} (h : bind c id arg = .ok c') :
    (absS c).bind id arg = .ok (absS c') := by rw [absS_bind, h]; rfl

theorem absS_bind_err {c : Llc} {id : Nat} {arg : BindArg} {e : Exc} (h : bind c id arg = .error e) :
    (absS c).bind id arg = .error (errnoOf e) := by rw [absS_bind, h]; rfl

theorem bind_err_llcp {c : Llc} {id : Nat} {arg : BindArg} {e : Exc} (h : bind c id arg = .error e) :
    e = .llcp (errnoOf e) := by
  obtain ⟨n, rfl⟩ := bind_err h; rfl

theorem absS_bindIfUnbound_ok {c c' : Llc} {id : Nat} (h : bindIfUnbound c id = .ok c') :
    absS c' = (absS c).implicitBind id ∧
    ((absS c).bound id = none → (absS c).bind id .none = .ok (absS c')) := by
  unfold bindIfUnbound at h
  unfold SpecSide.implicitBind
  rw [absS_bound]
  split at h
  · cases h; rename_i hs
    exact ⟨by simp [hs], fun hn => by simp [hn] at hs⟩
  · rename_i hs
    simp only [hs, Bool.false_eq_true, ↓reduceIte]
    rw [absS_bind_ok h]
    exact ⟨rfl, fun _ => rfl⟩

theorem absS_bindIfUnbound_err {c : Llc} {id : Nat} {e : Exc} (h : bindIfUnbound c id = .error e) :
    (absS c).implicitBind id = absS c ∧ (absS c).bind id .none = .error (errnoOf e) ∧ e = .llcp (errnoOf e) := by
  unfold bindIfUnbound at h
  split at h
  · cases h
  · rename_i hs
    have h2 := absS_bind_err h
    refine ⟨?_, h2, bind_err_llcp h⟩
    unfold SpecSide.implicitBind
    rw [absS_bound]
    simp only [hs, Bool.false_eq_true, ↓reduceIte, h2]

theorem absS_newSocket (c : Llc) (k : Kind) : absS (newSocket c k).1 = (absS c).newSocket k := by
  simp only [absS, newSocket, SpecSide.newSocket]
  congr 1
  · funext j; exact upd_apply Sock.kind ..
  · funext j; exact upd_apply Sock.addr ..

theorem absS_removeSocket (c : Llc) (id a : Nat) (e : SapEntry) (ha : (c.sock id).addr = some a)
    (hs : c.sap a = some e) : absS (removeSocket c id a e (c.sock id)) = (absS c).close id := by
  have hself : setSock c id (c.sock id) = c := by
    show { c with sock := upd c.sock id (c.sock id) } = c
    rw [upd_self]
  simp only [SpecSide.close, absS_bound, ha, absS_owner, hs, Option.map_some, removeSocket, hself]
  split <;>
    (simp only [absS]
     congr 1
     funext b
     exact upd_apply (Option.map SapEntry.socks) ..)

theorem absS_accept (c : Llc) (id a : Nat) (s' child : Sock) (ha : (c.sock id).addr = some a)
    (hs' : s'.addr = (c.sock id).addr) (hk' : s'.kind = (c.sock id).kind) (hc : child.addr = some a)
    (hck : child.kind = .dlc) :
    (∀ e, c.sap a = some e →
      absS { c with n := c.n + 1, sock := upd (upd c.sock id s') c.n child,
                    sap := upd c.sap a (some { e with socks := c.n :: e.socks }) } = (absS c).accept id) ∧
    (c.sap a = none →
      absS { c with n := c.n + 1, sock := upd (upd c.sock id s') c.n child } = (absS c).accept id) := by
  have hkind : ∀ j, (upd (upd c.sock id s') c.n child j).kind = upd (fun j => (c.sock j).kind) c.n .dlc j := by
    intro j
    refine upd_cases (P := fun s : Sock => s.kind = _) (fun hj => ?_) (fun hj => ?_)
    · rw [hj, upd_eq]; exact hck
    · rw [upd_ne hj]
      refine upd_cases (P := fun s : Sock => s.kind = _) (fun hj => ?_) (fun _ => rfl)
      rw [hj]; exact hk'
  have haddr : ∀ j, (upd (upd c.sock id s') c.n child j).addr = upd (fun j => (c.sock j).addr) c.n (some a) j :=
    fun j => accept_addr hs' hc j
  have hk := funext hkind
  have ha' := funext haddr
  constructor
  · intro e hs
    simp only [SpecSide.accept, absS_bound, ha, absS_owner, hs, Option.map_some]
    simp only [absS, hk, ha']
    congr 1
    funext b; exact upd_apply (Option.map SapEntry.socks) ..
  · intro hs
    simp only [SpecSide.accept, absS_bound, ha, absS_owner, hs, Option.map_none]
    simp only [absS, hk, ha']

/-! The table part of an operation is computed by the specification; the rest lies inside `PKeeps`. -/

/-- what is shown of one operation: the tables move as the specification says, the outcome is one
it allows, and no logical-data-link socket gets a datagram with a foreign source into its send queue -/
structure OpOk (p : Pair) (op : Op) (r : Pair × Py Out) : Prop where
  acting : absS (r.1.get op.side) = Spec.sideStep (absS (p.get op.side)) op r.2
  other : absS (r.1.get (!op.side)) = absS (p.get (!op.side))
  valid : Spec.valid (absS (p.get op.side)) op r.2
  src : ∀ z j, SrcOk ((p.get z).sock j) → SrcOk ((r.1.get z).sock j)

theorem PKeeps.src {p p' : Pair} (f : PKeeps p p') (z : Side) (j : Nat) :
    SrcOk ((p.get z).sock j) → SrcOk ((p'.get z).sock j) := ((f z).sock j).src

theorem opOk_of_keeps {p : Pair} {op : Op} {r : Pair × Py Out} (f : PKeeps p r.1)
    (hs : Spec.sideStep (absS (p.get op.side)) op r.2 = absS (p.get op.side))
    (hv : Spec.valid (absS (p.get op.side)) op r.2) : OpOk p op r :=
  ⟨(f _).absS.trans hs.symm, (f _).absS, hv, f.src⟩

theorem src_set {p : Pair} {x : Side} {c : Llc} (h : ∀ j, SrcOk ((p.get x).sock j) → SrcOk (c.sock j)) (z : Side)
    (j : Nat) : SrcOk ((p.get z).sock j) → SrcOk (((p.set x c).get z).sock j) := by
  rw [get_set_eq]
  split
  · subst_vars; exact h j
  · exact fun h => h

theorem bind_sock {c c' : Llc} {id : Nat} {arg : BindArg} (h : bind c id arg = .ok c') (j : Nat) :
    (c'.sock j).kind = (c.sock j).kind ∧ (SrcOk (c.sock j) → SrcOk (c'.sock j)) := by
  obtain ⟨hu, a, _, rfl⟩ := bind_ok h
  rw [bindTo_sock]
  refine upd_cases (P := fun s : Sock => s.kind = (c.sock j).kind ∧ (SrcOk (c.sock j) → SrcOk s)) (fun hj => ?_)
    (fun _ => ⟨rfl, fun h => h⟩)
  rw [hj]
  -- an unbound socket has no datagram queued
  exact ⟨rfl, fun hj hl d sa m hm => by have := hj hl d sa m hm; rw [hu] at this; cases this⟩

theorem bindIfUnbound_sock {c c' : Llc} {id : Nat} (h : bindIfUnbound c id = .ok c') (j : Nat) :
    (c'.sock j).kind = (c.sock j).kind ∧ (SrcOk (c.sock j) → SrcOk (c'.sock j)) := by
  unfold bindIfUnbound at h
  split at h
  · cases h; exact ⟨rfl, fun h => h⟩
  · exact bind_sock h j

/-- an operation that binds its socket implicitly and then stays inside `PKeeps` -/
theorem opOk_withBound {p : Pair} (op : Op) {id : Nat} {k : Pair → Step} {r : Pair × Py Out}
    (h : withBound p op.side id k = .ok r)
    (hk : ∀ c, bindIfUnbound (p.get op.side) id = .ok c →
      Yields (fun r => PKeeps (p.set op.side c) r.1) (k (p.set op.side c)))
    (hs : ∀ o, Spec.sideStep (absS (p.get op.side)) op o = (absS (p.get op.side)).implicitBind id)
    (hv : ∀ o, ((absS (p.get op.side)).bound id = none → Spec.errno ((absS (p.get op.side)).bind id .none) o) →
      Spec.valid (absS (p.get op.side)) op o) : OpOk p op r := by
  unfold withBound at h
  split at h
  · rename_i c hb
    have f := hk c hb r h
    refine ⟨?_, ?_, hv _ ?_, fun z j h0 => f.src z j (src_set (fun j => (bindIfUnbound_sock hb j).2) z j h0)⟩
    · rw [hs, (f _).absS, get_set, (absS_bindIfUnbound_ok hb).1]
    · rw [(f _).absS, get_set_other]
    · intro hn; rw [(absS_bindIfUnbound_ok hb).2 hn]; trivial
  · rename_i e hb
    cases h
    obtain ⟨h1, h2, h3⟩ := absS_bindIfUnbound_err hb
    refine ⟨by rw [hs, h1], rfl, hv _ fun _ => ?_, fun _ _ h0 => h0⟩
    rw [h2]; simp only [Spec.errno]; rw [← h3]

theorem baseClose_keeps (s : Sock) : SockKeeps s (baseClose s) := .of_sendq rfl rfl (by simp [baseClose])

theorem yields_pop {p q : Pair} {x : Side} {id : Nat} {k : Pair × Option Pdu → Step} (hq : PKeeps p q)
    (hk : ∀ r1, PKeeps p r1.1 → Yields (fun r => PKeeps p r.1) (k r1)) :
    Yields (fun r => PKeeps p r.1) (popOrPump q x id >>= k) :=
  .bind fun r1 h => hk r1 (hq.trans (popOrPump_keeps h))

theorem opOk_listen {p : Pair} {x : Side} {id bl : Nat} {r : Pair × Py Out}
    (h : apiListen p x id bl = .ok r) : OpOk p (.listen x id bl) r := by
  unfold apiListen at h
  split at h
  · rename_i hk
    cases h
    refine opOk_of_keeps (.refl _) ?_ ?_
    · simp only [Spec.sideStep, Op.side, absS_kind]; rw [if_neg hk]
    · simp only [Spec.valid, Op.side, absS_kind]; rw [if_pos hk]; trivial
  · rename_i hk
    have hk : ((p.get x).sock id).kind = .dlc := by simpa using hk
    -- refused twice without a change, else the socket record is updated
    exact opOk_withBound (.listen x id bl) h
      (fun c _ => .ite (.ok (.refl _)) (.ite (.ok (.refl _)) (.ok (pkeeps_setSock _ _ _ _ (.queue (by rfl) (by rfl) (by rfl))))))
      (fun _ => by simp only [Spec.sideStep, Op.side, absS_kind, hk, ↓reduceIte])
      (fun _ h3 => by simp only [Spec.valid, Op.side, absS_kind, hk, ne_eq, not_true_eq_false, ↓reduceIte]; exact h3)

theorem opOk_sendto {p : Pair} {x : Side} {id : Nat} {m : Bytes} {d : Nat} {r : Pair × Py Out}
    (h : apiSendto p x id m d = .ok r) : OpOk p (.sendto x id m d) r := by
  unfold apiSendto at h
  split at h
  · rename_i hk
    cases h
    refine opOk_of_keeps (.refl _) ?_ ?_
    · simp [Spec.sideStep, Op.side, absS_kind, hk]
    · simp [Spec.valid, Op.side, absS_kind, hk]
  · rename_i hk
    -- three refusals without a change, else the datagram is queued with the socket's address as source
    exact opOk_withBound (.sendto x id m d) h
      (fun c _ => .ite (.ok (.refl _)) (.ite (.ok (.refl _)) (.ite (.ok (.refl _)) (by
        split
        · exact .error _
        · exact .ok (pkeeps_setSock _ _ _ _ (.push_ui (by rfl) (by rfl) (by rfl) ‹_›))))))
      (fun _ => by simp only [Spec.sideStep, Op.side, absS_kind, hk, ↓reduceIte])
      (fun _ h3 => by simp only [Spec.valid, Op.side, absS_kind, hk]; simpa [Op.side] using h3)
  · rename_i hk
    have f : PKeeps p r.1 :=
      (.ite (.error _) (.ite (.ok (.refl _)) (.ok (.refl _))) : Yields (fun r => PKeeps p r.1) _) r h
    refine opOk_of_keeps f ?_ ?_
    · simp [Spec.sideStep, Op.side, absS_kind, hk]
    · simp [Spec.valid, Op.side, absS_kind, hk]

theorem opOk_sendPdu {p : Pair} (op : Op) {id : Nat} {q : Pdu} {r : Pair × Py Out}
    (h : apiSendPdu p op.side id q = .ok r)
    (hs : ∀ o, Spec.sideStep (absS (p.get op.side)) op o = (absS (p.get op.side)).implicitBind id)
    (hv : ∀ o, ((absS (p.get op.side)).bound id = none → Spec.errno ((absS (p.get op.side)).bind id .none) o) →
      Spec.valid (absS (p.get op.side)) op o) : OpOk p op r := by
  unfold apiSendPdu at h
  split at h
  · cases h
  · rename_i hraw
    have hraw : ((p.get op.side).sock id).kind = .raw := by simpa using hraw
    refine opOk_withBound op h (fun c hb => ?_) hs hv
    have hkc : (((p.set op.side c).get op.side).sock id).kind ≠ .ldl := by
      rw [get_set, (bindIfUnbound_sock hb id).1, hraw]; decide
    exact .ite (.ok (.refl _)) (.ok (pkeeps_setSock _ _ _ _ (.notLdl (by rfl) (by rfl) hkc)))

theorem connectPdu_nonUi (a : Nat) (dest : Dest) : ∀ d sa m, connectPdu a dest ≠ .ui d sa m := by
  intro d sa m; cases dest <;> simp [connectPdu]

theorem opOk_connect {p : Pair} {x : Side} {id : Nat} {d : Dest} {r : Pair × Py Out}
    (h : apiConnect p x id d = .ok r) : OpOk p (.connect x id d) r := by
  unfold apiConnect at h
  refine opOk_withBound (.connect x id d) h (fun c _ => ?_) (fun _ => rfl) (fun _ h => h)
  dsimp only
  split
  · exact .ok (.refl _)
  · refine .ite (.ok (.refl _)) ?_
    split
    · exact .ok (pkeeps_setSock _ _ _ _ (.queue rfl rfl rfl))
    · exact .error _
  · refine .ite (.ok (.refl _)) (.ite (.ok (.refl _)) (.ite (.ok (.refl _)) ?_))
    split
    · exact .error _
    · -- CONNECT is queued; the answer is popped and decides the new state of the socket
      refine yields_pop (pkeeps_setSock _ _ _ _ (.push rfl rfl rfl (connectPdu_nonUi _ _))) fun r1 s1 => ?_
      split
      · exact .ok s1
      · exact .ok (s1.trans (pkeeps_setSock _ _ _ _ (.queue rfl rfl rfl)))
      · exact .ok (s1.trans (pkeeps_setSock _ _ _ _ (.queue rfl rfl rfl)))
      · exact .ok s1

theorem opOk_socket {p : Pair} {x : Side} {k : Kind} {r : Pair × Py Out}
    (h : apiSocket p x k = .ok r) : OpOk p (.socket x k) r := by
  cases h
  refine ⟨?_, ?_, ?_, src_set fun j hj => ?_⟩
  · simp only [Op.side, get_set, Spec.sideStep]; exact absS_newSocket _ k
  · simp only [Op.side, get_set_other]
  · simp [Spec.valid, newSocket, absS, Op.side]
  · refine upd_cases (P := SrcOk) (fun _ => ?_) (fun _ => hj)
    intro _ d sa m hm; cases hm

theorem opOk_bind {p : Pair} {x : Side} {id : Nat} {arg : BindArg} {r : Pair × Py Out}
    (h : apiBind p x id arg = .ok r) : OpOk p (.bind x id arg) r := by
  unfold apiBind at h
  split at h
  · rename_i c hc
    cases h
    have hb := absS_bind_ok hc
    refine ⟨?_, ?_, ?_, src_set fun j => (bind_sock hc j).2⟩
    · simp only [Op.side, get_set, Spec.sideStep, hb]
    · simp only [Op.side, get_set_other]
    · simp only [Spec.valid, Op.side, hb]; rfl
  · rename_i e hc
    cases h
    have hb := absS_bind_err hc
    refine ⟨?_, rfl, ?_, fun _ _ hs => hs⟩
    · simp only [Op.side, Spec.sideStep, hb]
    · simp only [Spec.valid, Op.side, hb]; rw [← bind_err_llcp hc]

theorem recvfrom_keeps (p : Pair) (x : Side) (id : Nat) : Yields (fun r => PKeeps p r.1) (apiRecvfrom p x id) := by
  unfold apiRecvfrom
  dsimp only
  refine .ite (.ok (.refl _)) ?_
  -- every kind of socket: refused in the wrong state without a change, else the wait
  split <;> refine .ite (.ok (.refl _)) (yields_pop (.refl _) fun r1 s1 => ?_)
  · split <;> exact .ok s1
  · split <;> exact .ok s1
  · split
    · exact .ok s1
    · exact .ok (s1.trans (pkeeps_setSock _ _ _ _ (baseClose_keeps _)))
    · exact .ok s1

theorem resolve_keeps (p : Pair) (x : Side) (nm : Bytes) : Yields (fun r => PKeeps p r.1) (apiResolve p x nm) := by
  unfold apiResolve
  dsimp only
  split
  · exact .ok (.refl _)
  · split
    · exact .ok (.refl _)
    · refine .bind fun p1 hpump => ?_
      have s1 : PKeeps p p1 := (pkeeps_set _ _ _ (keeps_sd _ _)).trans (pump_same _ hpump)
      split
      · exact .ok s1
      · exact .error _

theorem resolveMany_keeps (p : Pair) (x : Side) (nms : List Bytes) :
    Yields (fun r => PKeeps p r.1) (apiResolveMany p x nms) := by
  unfold apiResolveMany
  dsimp only
  split
  · exact .error _
  · refine .bind fun p1 hpump => ?_
    have s1 : PKeeps p p1 := by
      split at hpump
      · cases hpump; exact .refl _
      · exact (pkeeps_set _ _ _ (keeps_sd _ _)).trans (pump_same _ hpump)
    split
    · exact .ok s1
    · exact .error _

theorem sockClose_keeps (p : Pair) (x : Side) (id : Nat) : Yields (PKeeps p) (sockClose p x id) := by
  unfold sockClose
  dsimp only
  refine .ite ?_ (.ok (pkeeps_setSock _ _ _ _ (baseClose_keeps _)))
  split
  · -- DISC is queued, the answer awaited, then the socket is closed
    refine .bind fun r1 hpop => .ok ?_
    exact ((pkeeps_setSock _ _ _ _ (.push (by rfl) (by rfl) (by rfl) (by intro d sa m; simp))).trans
      (popOrPump_keeps hpop)).trans (pkeeps_setSock _ _ _ _ (baseClose_keeps _))
  · exact .error _

theorem opOk_close {p : Pair} {x : Side} {id : Nat} {r : Pair × Py Out}
    (h : apiClose p x id = .ok r) : OpOk p (.close x id) r := by
  -- a socket that is in no SAP is only closed: the specification must leave the table alone
  have quiet : ∀ {r}, (sockClose p x id >>= fun p1 => done p1 .unit) = .ok r →
      (absS (p.get x)).close id = absS (p.get x) → OpOk p (.close x id) r := by
    intro r h hs
    simp only [Py.bind_eq_ok] at h
    obtain ⟨p1, hc, h⟩ := h
    cases h
    exact opOk_of_keeps (sockClose_keeps _ _ _ _ hc) hs rfl
  unfold apiClose at h
  split at h
  · rename_i hn
    exact quiet h (by simp only [SpecSide.close, absS_bound, hn])
  · rename_i a haddr
    split at h
    · rename_i hsn
      exact quiet h (by simp only [SpecSide.close, absS_bound, haddr, absS_owner, hsn, Option.map_none])
    · simp only [Py.bind_eq_ok] at h
      obtain ⟨p1, hc, h⟩ := h
      have f := sockClose_keeps _ _ _ _ hc
      have ha1 : ((p1.get x).sock id).addr = some a := ((f x).sock id).addr.trans haddr
      split at h
      · -- unreachable: the SAP cannot disappear while the link runs
        rename_i _ _ hs0 _ hs1
        have := (f x).socks a
        rw [hs1, hs0] at this
        cases this
      · rename_i e1 hs1
        cases h
        refine ⟨?_, ?_, rfl, fun z j hs => src_set (fun j hj => ?_) z j (f.src z j hs)⟩
        · simp only [Op.side, get_set, Spec.sideStep]
          rw [absS_removeSocket _ _ _ _ ha1 hs1, (f x).absS]
        · simp only [Op.side, get_set_other]; exact (f _).absS
        · have : (removeSocket (p1.get x) id a e1 ((p1.get x).sock id)).sock j = (p1.get x).sock j := by
            simp only [removeSocket]
            split <;> simp only [setSock, upd_self]
          rw [this]; exact hj

theorem opOk_accept (p : Pair) (x : Side) (id : Nat) : Yields (OpOk p (.accept x id)) (apiAccept p x id) := by
  have novalid : ∀ e : Exc, Spec.valid (absS (p.get x)) (.accept x id) (.error e) := by
    intro e nid a pr hh; cases hh
  unfold apiAccept
  dsimp only
  refine .ite (.ok (opOk_of_keeps (.refl _) rfl (novalid _))) (.ite (.ok (opOk_of_keeps (.refl _) rfl (novalid _)))
    (.ite (.ok (opOk_of_keeps (.refl _) rfl (novalid _))) ?_))
  refine .bind fun r1 hpop => ?_
  have f : PKeeps p r1.1 := (pkeeps_setSock _ _ _ _ (.queue (by rfl) (by rfl) (by rfl))).trans (popOrPump_keeps hpop)
  -- the listener gets a CC into its send queue, the new socket is a data link connection
  have child : ∀ (c : Llc) (ss a n' j : Nat), SrcOk (c.sock j) →
      SrcOk (upd (upd c.sock id { c.sock id with recvBuf := n', sendq := (c.sock id).sendq ++ [.cc ss a] }) c.n
        { kind := .dlc, st := .established, addr := some a, peer := some ss } j) := by
    intro c ss a n' j hj
    have hl : SockKeeps (c.sock id) { c.sock id with recvBuf := n', sendq := (c.sock id).sendq ++ [.cc ss a] } :=
      .push rfl rfl rfl (by intro d sa m; simp)
    refine upd_cases (P := SrcOk) (fun _ hl => Kind.noConfusion hl) (fun _ => ?_)
    refine upd_cases (P := SrcOk) (fun hji => ?_) (fun _ => hj)
    rw [hji] at hj; exact hl.src hj
  split
  · exact .ok (opOk_of_keeps f rfl (novalid _))
  · split
    · exact .error _
    · rename_i a haddr
      split
      · rename_i hsap
        refine .ok ⟨?_, ?_, novalid _,
          fun z j hs => src_set (child _ _ _ _) z j (f.src z j hs)⟩
        · simp only [Op.side, get_set, Spec.sideStep]
          rw [← (f x).absS]
          exact (absS_accept (r1.1.get x) id a _ _ haddr (by rfl) (by rfl) (by rfl) (by rfl)).2 hsap
        · simp only [Op.side, get_set_other]; exact (f _).absS
      · rename_i e hsap
        refine .ok ⟨?_, ?_, ?_, fun z j hs => src_set (child _ _ _ _) z j (f.src z j hs)⟩
        · simp only [Op.side, get_set, Spec.sideStep]
          rw [← (f x).absS]
          exact (absS_accept (r1.1.get x) id a _ _ haddr (by rfl) (by rfl) (by rfl) (by rfl)).1 e hsap
        · simp only [Op.side, get_set_other]; exact (f _).absS
        · intro nid a' pr hh
          cases hh
          have hn : (absS (p.get x)).n = (r1.1.get x).n := by rw [← (f x).absS]; rfl
          have hb : (absS (p.get x)).bound id = some a := by rw [← (f x).absS]; exact haddr
          exact ⟨hn.symm, hb.symm, rfl⟩
  · exact .ok (opOk_of_keeps f rfl (novalid _))

theorem opOk_applyOp {p : Pair} {op : Op} {r : Pair × Py Out} (h : applyOp p op = .ok r) : OpOk p op r := by
  cases op with
  | socket x k => exact opOk_socket h
  | bind x id arg => exact opOk_bind h
  | listen x id bl => exact opOk_listen h
  | connect x id d => exact opOk_connect h
  | accept x id => exact opOk_accept _ _ _ _ h
  | sendto x id m d => exact opOk_sendto h
  | sendpdu x id d s m | sendsnl x id rq rs => exact opOk_sendPdu _ h (fun _ => rfl) (fun _ h => h)
  | recvfrom x id => exact opOk_of_keeps (recvfrom_keeps _ _ _ _ h) rfl trivial
  | resolve x nm => exact opOk_of_keeps (resolve_keeps _ _ _ _ h) rfl trivial
  | close x id => exact opOk_close h
  | xfer x =>
    simp only [applyOp, apiXfer, Py.bind_eq_ok] at h
    obtain ⟨r1, hx, h⟩ := h
    cases h
    exact opOk_of_keeps (xfer_keeps (p' := r1.1) (m := r1.2) hx) rfl trivial
  | resolveMany x nms => exact opOk_of_keeps (resolveMany_keeps _ _ _ _ h) rfl trivial

theorem apply_wf {p : Pair} {op : Op} {r : Pair × Py Out} (h : apply p op = .ok r) :
    applyOp p op = .ok r ∧ ∀ id, op.sock? = some id → id < (p.get op.side).n := by
  unfold apply at h
  split at h
  · rename_i hw
    refine ⟨h, fun id hid => ?_⟩
    simp only [Op.wf, hid] at hw
    exact of_decide_eq_true hw
  · cases h

theorem absP_get (p : Pair) (x : Side) : (absP p).get x = absS (p.get x) := by cases x <;> rfl

/-- one operation: the abstraction of the new state is the specification step of the
abstraction of the old state, and the outcome is one the specification allows -/
theorem simulation_step {p : Pair} {op : Op} {r : Pair × Py Out} (h : apply p op = .ok r) :
    absP r.1 = Spec.step (absP p) op r.2 ∧ Spec.valid ((absP p).get op.side) op r.2 := by
  obtain ⟨h1, h2, h3, _⟩ := opOk_applyOp (apply_wf h).1
  refine ⟨?_, by rw [absP_get]; exact h3⟩
  unfold Spec.step
  rw [absP_get, ← h1]
  cases hx : op.side <;> simp only [hx, Bool.not_true, Bool.not_false] at h2 ⊢
  · exact congrArg (SpecState.mk _) h2
  · exact congrArg (SpecState.mk · _) h2

/-- the observable trace (operation, outcome) of a history -/
def trace (p : Pair) : List Op → List (Op × Py Out)
  | [] => []
  | op :: t =>
    match apply p op with
    | .ok (p1, o) => (op, o) :: trace p1 t
    | .error _ => []

namespace Spec
/-- run the specification over a trace -/
def run (σ : SpecState) : List (Op × Py Out) → SpecState
  | [] => σ
  | (op, o) :: t => run (step σ op o) t

/-- every outcome of the trace is one the specification allows -/
def accepts (σ : SpecState) : List (Op × Py Out) → Prop
  | [] => True
  | (op, o) :: t => valid (σ.get op.side) op o ∧ accepts (step σ op o) t

def init : SpecState := absP Pair.init
end Spec

/-- simulation over whole histories: the abstraction of the state reached by the
concrete controllers is the state the specification reaches on the observed trace,
and the specification accepts that trace -/
theorem simulation : ∀ (ops : List Op) (p : Pair),
    absP (Sap.run p ops) = Spec.run (absP p) (trace p ops) ∧ Spec.accepts (absP p) (trace p ops)
  | [], p => ⟨rfl, trivial⟩
  | op :: t, p => by
    unfold Sap.run trace
    cases h : apply p op with
    | error e => exact ⟨rfl, trivial⟩
    | ok r =>
      obtain ⟨p1, o⟩ := r
      obtain ⟨h1, h2⟩ := simulation_step h
      obtain ⟨ih1, ih2⟩ := simulation t p1
      simp only [Spec.run, Spec.accepts]
      rw [← h1]
      exact ⟨ih1, h2, ih2⟩

/-- a concrete state whose abstraction is `s` -/
def conc (s : SpecSide) : Llc :=
  { n := s.n
    sock := fun id => { kind := s.kind id, st := .closed, addr := s.bound id }
    sap := fun a => (s.owner a).map (fun l => { socks := l })
    snl := s.names
    sd := {} }

theorem absS_conc (s : SpecSide) : absS (conc s) = s := by
  cases s
  simp only [absS, conc]
  congr 1
  funext a
  simp [Option.map_map, Function.comp_def]

/-- invariant of the abstract table (same statement as `Inv`, read on the abstraction) -/
def SpecInv (s : SpecSide) : Prop := Inv (conc s)

theorem inv_of_absS_eq {c1 c2 : Llc} (he : absS c1 = absS c2) (hi : Inv c1) : Inv c2 :=
  hi.same (fun id => (congrFun (congrArg SpecSide.bound he) id).symm) (Nat.le_of_eq (congrArg SpecSide.n he))
    (fun a => (congrFun (congrArg SpecSide.owner he) a).symm) (congrArg SpecSide.names he).symm

theorem inv_abs_iff (c : Llc) : SpecInv (absS c) ↔ Inv c :=
  ⟨inv_of_absS_eq (absS_conc _), inv_of_absS_eq (absS_conc _).symm⟩

theorem specInv_bind {c : Llc} (hi : Inv c) {id : Nat} {arg : BindArg} (hid : id < c.n) :
    SpecInv (match (absS c).bind id arg with | .ok s' => s' | .error _ => absS c) := by
  cases h : bind c id arg with
  | ok c' => rw [absS_bind_ok h]; exact (inv_abs_iff c').mpr (inv_bind hi hid h)
  | error e => rw [absS_bind_err h]; exact (inv_abs_iff c).mpr hi

theorem specInv_implicitBind {c : Llc} (hi : Inv c) {id : Nat} (hid : id < c.n) :
    SpecInv ((absS c).implicitBind id) := by
  unfold SpecSide.implicitBind
  split
  · exact (inv_abs_iff c).mpr hi
  · exact specInv_bind hi hid

theorem specInv_accept {c : Llc} (hi : Inv c) {id : Nat} : SpecInv ((absS c).accept id) := by
  cases ha : (c.sock id).addr with
  | none =>
    simp only [SpecSide.accept, absS_bound, ha]; exact (inv_abs_iff c).mpr hi
  | some a =>
    have h := absS_accept c id a (c.sock id) { kind := .dlc, st := .established, addr := some a } ha rfl rfl rfl rfl
    cases hs : c.sap a with
    | none =>
      rw [← h.2 hs]
      exact (inv_abs_iff _).mpr (inv_orphan hi rfl rfl (hi.noRes id a ha))
    | some e =>
      rw [← h.1 e hs]
      exact (inv_abs_iff _).mpr (inv_accept hi hs ha rfl rfl)

theorem specInv_close {c : Llc} (hi : Inv c) {id : Nat} : SpecInv ((absS c).close id) := by
  cases ha : (c.sock id).addr with
  | none =>
    simp only [SpecSide.close, absS_bound, ha]; exact (inv_abs_iff c).mpr hi
  | some a =>
    cases hs : c.sap a with
    | none =>
      simp only [SpecSide.close, absS_bound, ha, absS_owner, hs, Option.map_none]; exact (inv_abs_iff c).mpr hi
    | some e =>
      rw [← absS_removeSocket c id a e ha hs]
      exact (inv_abs_iff _).mpr (inv_removeSocket hi hs ha rfl)

theorem specInv_sideStep {s : SpecSide} (hi : SpecInv s) (op : Op) (out : Py Out)
    (hw : ∀ id, op.sock? = some id → id < s.n) : SpecInv (Spec.sideStep s op out) := by
  obtain ⟨c, rfl⟩ : ∃ c, s = absS c := ⟨conc s, (absS_conc s).symm⟩
  have hc : Inv c := (inv_abs_iff c).mp hi
  cases op with
  | socket x k =>
    simp only [Spec.sideStep]; rw [← absS_newSocket]
    exact (inv_abs_iff _).mpr (inv_newSocket hc k)
  | bind x id arg => exact specInv_bind hc (hw id rfl)
  | listen x id bl | sendto x id m d =>
    simp only [Spec.sideStep]; split
    · exact specInv_implicitBind hc (hw id rfl)
    · exact hi
  | connect x id d | sendpdu x id d s m | sendsnl x id rq rs => exact specInv_implicitBind hc (hw id rfl)
  | accept x id =>
    simp only [Spec.sideStep]
    split
    · exact specInv_accept hc
    · exact specInv_accept hc
    · exact hi
  | close x id => exact specInv_close hc
  | recvfrom x id | resolve x nm | xfer x | resolveMany x nms => exact hi

/-! The concrete controllers keep `Inv` because the specification keeps `SpecInv` and every operation
refines a specification step. -/

theorem apply_inv {p : Pair} {op : Op} {r : Pair × Py Out} (hp : PInv p) (h : apply p op = .ok r) : PInv r.1 := by
  obtain ⟨ha, hw⟩ := apply_wf h
  have ok := opOk_applyOp ha
  have h1 : Inv (r.1.get op.side) := by
    rw [← inv_abs_iff, ok.acting]
    exact specInv_sideStep ((inv_abs_iff _).mpr (hp.get _)) op r.2 hw
  have h2 : Inv (r.1.get (!op.side)) := inv_of_absS_eq ok.other.symm (hp.get _)
  cases hx : op.side <;> rw [hx] at h1 h2
  · exact ⟨h1, h2⟩
  · exact ⟨h2, h1⟩

theorem run_inv : ∀ (ops : List Op) {p : Pair}, PInv p → PInv (run p ops)
  | [], _, hp => hp
  | op :: t, p, hp => by
    unfold run
    split
    · rename_i p1 r h; exact run_inv t (apply_inv (r := (p1, r)) hp h)
    · exact hp

theorem reach_inv (ops : List Op) : PInv (run Pair.init ops) := run_inv ops ⟨init_inv, init_inv⟩

theorem specInv_reach (ops : List Op) (x : Side) : SpecInv ((absP (Sap.run Pair.init ops)).get x) := by
  rw [absP_get]; exact (inv_abs_iff _).mpr ((reach_inv ops).get x)

/-- consequences of the invariant in the vocabulary of the specification -/
theorem SpecInv.unique {s : SpecSide} (hi : SpecInv s) {a b id : Nat} {l l' : List Nat}
    (h1 : s.owner a = some l) (h2 : s.owner b = some l') (m1 : id ∈ l) (m2 : id ∈ l') :
    a = b ∧ l.Nodup ∧ s.bound id = some a ∧ id < s.n :=
  Inv.unique hi (c := conc s) (e := { socks := l }) (e' := { socks := l' }) (by simp [conc, h1])
    (by simp [conc, h2]) m1 m2

theorem SpecInv.name_live {s : SpecSide} (hi : SpecInv s) {nm : Bytes} {a : Nat} (h : s.names.lookup nm = some a) :
    (nm = nameSdp ∧ a = 1) ∨ (2 ≤ a ∧ ∃ l, s.owner a = some l ∧ l ≠ [] ∧ ∀ j ∈ l, s.bound j = some a) := by
  rcases Sap.name_live hi (c := conc s) h with h1 | ⟨h1, e, h2, h3, h4⟩
  · exact .inl h1
  · refine .inr ⟨h1, e.socks, ?_, h3, h4⟩
    simp only [conc] at h2
    cases ho : s.owner a with
    | none => simp [ho] at h2
    | some l => simp [ho] at h2; rw [← h2]

/-- the table part of the abstract state, as used by the allocation rule -/
def SpecSide.tbl (s : SpecSide) : Abs := ⟨s.owner, s.names⟩

theorem abs_conc (s : SpecSide) : abs (conc s) = s.tbl := congrArg SpecSide.tbl (absS_conc s)

/-- the allocation function of the specification satisfies the declarative rule of
the statement (`BindOk`: address class and freeness; `BindErr`: the errno table) -/
theorem spec_bind_rule (s : SpecSide) (id : Nat) (arg : BindArg) (hu : s.bound id = none) :
    (∃ s' a, s.bind id arg = .ok s' ∧ BindOk s.tbl (s.kind id) arg a ∧ s'.bound id = some a ∧
        s'.tbl = s.tbl.bound id a arg) ∨
    (∃ n, s.bind id arg = .error n ∧ BindErr s.tbl (s.kind id) arg n) := by
  rcases bind_cases (conc s) id arg with ⟨h1, _⟩ | ⟨_, ⟨a, h2, h1⟩ | ⟨n, h2, h1⟩⟩
  · have : ((conc s).sock id).addr = none := hu
    rw [this] at h1; cases h1
  · have hb := absS_bind_ok h1
    rw [absS_conc] at hb
    rw [abs_conc] at h2
    refine .inl ⟨_, a, hb, h2, bindTo_addr .., ?_⟩
    show abs (bindTo (conc s) id a arg) = _
    rw [abs_bindTo, abs_conc]
  · have hb := absS_bind_err h1
    rw [absS_conc] at hb
    rw [abs_conc] at h2
    exact .inr ⟨n, hb, h2⟩

theorem spec_close_last (s : SpecSide) (id a : Nat) (hb : s.bound id = some a) (ho : s.owner a = some [id]) :
    (s.close id).owner a = none ∧ (∀ nm, (s.close id).names.lookup nm ≠ some a) ∧
    (∀ b, b ≠ a → (s.close id).owner b = s.owner b) ∧ (s.close id).bound = s.bound := by
  simp only [SpecSide.close, hb, ho, List.erase_cons_head, ↓reduceIte]
  refine ⟨upd_eq .., ?_, ?_, trivial⟩
  · intro nm hl
    have := lookup_mem hl
    simp at this
  · exact fun b hne => upd_ne hne
end NfcVerif.Sap
