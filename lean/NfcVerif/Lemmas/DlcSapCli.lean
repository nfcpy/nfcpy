import NfcVerif.Lemmas.DlcSapStep
/-!
# A controller that never listens emits a disciplined PDU stream

`KInv` is the invariant of a controller on which no socket ever listens (so every access point holds exactly one
socket): relative to the log `out` of everything it has sent, the CONNECT PDUs still queued on the socket of an
access point carry increasing connection numbers above everything sent from that address, and a connected socket
carries a number not below them.  Hence `Disc c.out` - whatever arrives at the controller.

The link side is argued per access point: `SapEmit` is what one access point does on the link (`dequeue`, `sendack`,
`enqueue`: `sapDeq_k`, `sapAck_k`, `enqueueSap_k`), and `KInv.emit` lifts any such step to the controller; the application
calls go through their moves (`App.kinv`).
-/
namespace NfcVerif.DlcSap
open NfcVerif NfcVerif.Dlc

theorem hiOf_append_quiet (l : List WPdu) (w : WPdu) (p : Nat) (h : w.isConn = false) : hiOf (l ++ [w]) p = hiOf l p := by
  rw [hiOf_append, if_neg (by simp [h])]

theorem hiOf_append_other (l : List WPdu) (w : WPdu) (p : Nat) (h : w.ssap ≠ p) : hiOf (l ++ [w]) p = hiOf l p := by
  rw [hiOf_append, if_neg (fun hc => h hc.2)]

theorem hiOf_append_conn (l : List WPdu) (w : WPdu) (h : w.isConn = true) (hlt : hiOf l w.ssap < w.cid) :
    hiOf (l ++ [w]) w.ssap = w.cid := by
  rw [hiOf_append, if_pos ⟨h, rfl⟩]
  exact Nat.max_eq_left (Nat.le_of_lt hlt)

/-- a PDU that is neither a CONNECT nor numbered: DM, CC, DISC, FRMR -/
def Quiet (w : WPdu) : Prop := w.isData = false ∧ w.isConn = false

theorem quiet_dm (w : WPdu) (r : Nat) : Quiet (dmReply w r) := ⟨rfl, rfl⟩

/-- the PDUs queued outside a connection: nothing numbered; the CONNECT PDUs belong to address `p`, carry increasing
connection numbers in `H+1 .. top` -/
def LqOk (p H top : Nat) (lq : List WPdu) : Prop :=
  (∀ w ∈ lq, w.isData = false ∧ (w.isConn = true → w.ssap = p ∧ H < w.cid ∧ w.cid ≤ top)) ∧
  lq.Pairwise (fun w1 w2 => w1.isConn = true → w2.isConn = true → w1.cid < w2.cid)

/-- the one socket of the access point with address `p`, relative to the highest connection number `H` sent from `p` so far
and the connection counter `ncid` of the controller -/
structure KSock (H p ncid : Nat) (s : Sock) : Prop where
  addr : s.addr = some p
  nol : s.cs ≠ .listen
  lq : LqOk p H s.cid s.lq
  live : s.cs = .connect ∨ s.cs = .run → H ≤ s.cid
  fresh : s.cid < ncid

structure KInv (c : Ctl) : Prop where
  saps : ∀ a ∈ c.saps, (∃ s, a.socks = [s] ∧ KSock (hiOf c.out a.addr) a.addr c.ncid s) ∧ (∀ w ∈ a.sendList, Quiet w)
  distinct : c.saps.Pairwise (fun a b => a.addr ≠ b.addr)
  dmq : ∀ w ∈ c.dmq, Quiet w
  hi : ∀ p, hiOf c.out p < c.ncid
  disc : Disc c.out

/-- the counter is above 0, the connection number of a socket that never called `connect()` -/
theorem KInv.one_le {c : Ctl} (h : KInv c) : 1 ≤ c.ncid := Nat.lt_of_le_of_lt (Nat.zero_le _) (h.hi 0)

/-- the `saps` clause of `KInv` for one access point, with the highest number `H` sent from its address and the counter `n`
left open -/
def KSapAt (H n : Nat) (a : Sap) : Prop := (∃ s, a.socks = [s] ∧ KSock H a.addr n s) ∧ ∀ w ∈ a.sendList, Quiet w

def KSap (c : Ctl) (a : Sap) : Prop := KSapAt (hiOf c.out a.addr) c.ncid a

theorem KInv.table {c : Ctl} (h : KInv c) : Table (KSap c) c.saps := ⟨h.saps, h.distinct⟩

/-- `KSap` reads of the controller the highest number sent from the address and the counter -/
theorem KSap.of_eq {c c' : Ctl} {a : Sap} (h : KSap c a) (e1 : hiOf c'.out a.addr = hiOf c.out a.addr) (e2 : c'.ncid = c.ncid) :
    KSap c' a := by
  unfold KSap at h ⊢
  rw [e1, e2]; exact h

theorem LqOk.nil (p H top : Nat) : LqOk p H top [] := ⟨fun w hw => (by cases hw), List.Pairwise.nil⟩

theorem conn_not_data (w : WPdu) (h : w.isConn = true) : w.isData = false := by
  unfold WPdu.isConn at h; unfold WPdu.isData
  cases hb : w.body <;> simp [hb] at h ⊢

/-- a PDU joins the queue: it is judged like the others, and a CONNECT is numbered above the CONNECTs before it -/
theorem LqOk.push {p H top : Nat} {lq : List WPdu} (h : LqOk p H top lq) (w : WPdu)
    (h1 : w.isData = false ∧ (w.isConn = true → w.ssap = p ∧ H < w.cid ∧ w.cid ≤ top))
    (h2 : ∀ x ∈ lq, x.isConn = true → w.isConn = true → x.cid < w.cid) : LqOk p H top (lq ++ [w]) := by
  refine ⟨?_, ?_⟩
  · intro x hx
    rcases List.mem_append.1 hx with hx | hx
    · exact h.1 x hx
    · rw [List.mem_singleton.1 hx]; exact h1
  · rw [List.pairwise_append]
    refine ⟨h.2, List.pairwise_singleton _ _, ?_⟩
    intro x hx y hy
    rw [List.mem_singleton.1 hy]
    exact h2 x hx

theorem LqOk.push_quiet {p H top : Nat} {lq : List WPdu} (h : LqOk p H top lq) (w : WPdu) (hq : Quiet w) :
    LqOk p H top (lq ++ [w]) :=
  h.push w ⟨hq.1, fun hc => by rw [hq.2] at hc; cases hc⟩ fun _ _ _ hc => by rw [hq.2] at hc; cases hc

theorem LqOk.mono_top {p H top top' : Nat} {lq : List WPdu} (h : LqOk p H top lq) (ht : top ≤ top') : LqOk p H top' lq := by
  refine ⟨fun w hw => ⟨(h.1 w hw).1, fun hc => ?_⟩, h.2⟩
  obtain ⟨a1, a2, a3⟩ := (h.1 w hw).2 hc
  exact ⟨a1, a2, Nat.le_trans a3 ht⟩

/-- a CONNECT numbered above `H` and above the top joins the queue; its number is the new top -/
theorem LqOk.push_conn {p H top : Nat} {lq : List WPdu} (h : LqOk p H top lq) (w : WPdu) (hc : w.isConn = true)
    (hs : w.ssap = p) (hH : H < w.cid) (ht : top < w.cid) : LqOk p H w.cid (lq ++ [w]) :=
  (h.mono_top (Nat.le_of_lt ht)).push w ⟨conn_not_data w hc, fun _ => ⟨hs, hH, Nat.le_refl _⟩⟩
    fun x hx hcx _ => Nat.lt_of_le_of_lt ((h.1 x hx).2 hcx).2.2 ht

theorem LqOk.tail {p H top : Nat} {h0 : WPdu} {t : List WPdu} (h : LqOk p H top (h0 :: t)) : LqOk p H top t :=
  ⟨fun w hw => h.1 w (List.mem_cons_of_mem _ hw), (List.pairwise_cons.1 h.2).2⟩

theorem LqOk.tail_conn {p H top : Nat} {h0 : WPdu} {t : List WPdu} (h : LqOk p H top (h0 :: t)) (hc : h0.isConn = true) :
    LqOk p h0.cid top t := by
  refine ⟨?_, (List.pairwise_cons.1 h.2).2⟩
  intro w hw
  obtain ⟨h1, h2⟩ := h.1 w (List.mem_cons_of_mem _ hw)
  refine ⟨h1, fun hcw => ?_⟩
  obtain ⟨a1, _, a3⟩ := h2 hcw
  exact ⟨a1, (List.pairwise_cons.1 h.2).1 w hw hc hcw, a3⟩

theorem KSock.mono {H p n n' : Nat} {s : Sock} (h : KSock H p n s) (hn : n ≤ n') : KSock H p n' s :=
  ⟨h.addr, h.nol, h.lq, h.live, Nat.lt_of_lt_of_le h.fresh hn⟩

theorem KInv.of_eq {c c' : Ctl} (h : KInv c) (e1 : c'.saps = c.saps) (e2 : c'.out = c.out) (e3 : ∀ x ∈ c'.dmq, Quiet x)
    (e4 : c.ncid ≤ c'.ncid) : KInv c' := by
  refine ⟨?_, by rw [e1]; exact h.distinct, e3, fun q => by rw [e2]; exact Nat.lt_of_lt_of_le (h.hi q) e4,
    by rw [e2]; exact h.disc⟩
  intro a ha
  rw [e1] at ha
  obtain ⟨⟨s0, hs0, hk⟩, hq⟩ := h.saps a ha
  rw [e2]
  exact ⟨⟨s0, hs0, hk.mono e4⟩, hq⟩

/-- the judgement on a PDU `w` emitted by the socket of access point `p` after a log whose highest connection number from
`p` is `H`, and on the socket `s'` afterwards (`KSock` relative to the highest number after `w`) -/
def Emit (H p ncid : Nat) (s' : Sock) (w : WPdu) : Prop :=
  (w.isConn = false → (w.isData = true → w.ssap = p ∧ H ≤ w.cid) ∧ KSock H p ncid s') ∧
  (w.isConn = true → w.ssap = p ∧ H < w.cid ∧ w.cid < ncid ∧ KSock w.cid p ncid s')

theorem Emit.quiet {H p ncid : Nat} {s' : Sock} {w : WPdu} (h : Emit H p ncid s' w) (hc : w.isConn = false) :
    (w.isData = true → w.ssap = p ∧ H ≤ w.cid) ∧ KSock H p ncid s' := h.1 hc

theorem Emit.conn {H p ncid : Nat} {s' : Sock} {w : WPdu} (h : Emit H p ncid s' w) (hc : w.isConn = true) :
    w.ssap = p ∧ H < w.cid ∧ w.cid < ncid ∧ KSock w.cid p ncid s' := h.2 hc

/-- a socket with the address, state and connection number of `s`: its queue is judged anew, and so is the bound `H'` -/
theorem KSock.congr_lq {H H' p ncid : Nat} {s s' : Sock} (hk : KSock H p ncid s) (h1 : s'.addr = s.addr) (h2 : s'.cs = s.cs)
    (h4 : s'.cid = s.cid) (hlq : LqOk p H' s.cid s'.lq) (hlive : s.cs = .connect ∨ s.cs = .run → H' ≤ s.cid) :
    KSock H' p ncid s' :=
  ⟨by rw [h1]; exact hk.addr, by rw [h2]; exact hk.nol, by rw [h4]; exact hlq, by rw [h2, h4]; exact hlive,
   by rw [h4]; exact hk.fresh⟩

theorem KSock.congr {H p ncid : Nat} {s s' : Sock} (hk : KSock H p ncid s) (h1 : s'.addr = s.addr) (h2 : s'.cs = s.cs)
    (h3 : s'.lq = s.lq) (h4 : s'.cid = s.cid) : KSock H p ncid s' :=
  hk.congr_lq h1 h2 h4 (by rw [h3]; exact hk.lq) hk.live

theorem wrap_emit {H p ncid : Nat} {s s' : Sock} (pdu : Pdu) (hk : KSock H p ncid s') (ha : s.addr = some p)
    (hl : H ≤ s.cid) : Emit H p ncid s' (s.wrap pdu) := by
  refine ⟨fun _ => ⟨fun _ => ⟨by simp [Sock.wrap, ha], hl⟩, hk⟩, fun hcn => ?_⟩
  simp [Sock.wrap, WPdu.isConn] at hcn

theorem lq_head_emit {H p ncid : Nat} {s s' : Sock} {h0 : WPdu} {t : List WPdu} (hk : KSock H p ncid s) (hlq : s.lq = h0 :: t)
    (h1 : s'.addr = s.addr) (h2 : s'.cs = s.cs) (h3 : s'.lq = t) (h4 : s'.cid = s.cid) : Emit H p ncid s' h0 := by
  have hl := hk.lq
  rw [hlq] at hl
  obtain ⟨hd, hc⟩ := hl.1 h0 (List.mem_cons_self ..)
  constructor
  · intro hq
    constructor
    · intro hdata; rw [hd] at hdata; cases hdata
    · exact hk.congr_lq h1 h2 h4 (by rw [h3]; exact hl.tail) hk.live
  · intro hcn
    obtain ⟨c1, c2, c3⟩ := hc hcn
    exact ⟨c1, c2, Nat.lt_of_le_of_lt c3 hk.fresh, hk.congr_lq h1 h2 h4 (by rw [h3]; exact hl.tail_conn hcn) fun _ => c3⟩

def EmitOpt (H p ncid : Nat) (s' : Sock) : Option WPdu → Prop
  | none => KSock H p ncid s'
  | some w => Emit H p ncid s' w

/-- what one access point of a client does on the link: `a` becomes `a'` and hands out `o` -/
def SapEmit (H n : Nat) (a a' : Sap) (o : Option WPdu) : Prop :=
  a'.addr = a.addr ∧ (∀ w ∈ a'.sendList, Quiet w) ∧ ∃ s', a'.socks = [s'] ∧ EmitOpt H a.addr n s' o

theorem ep_emit {H p ncid : Nat} {s s' : Sock} {r : Option Pdu} (hk : KSock H p ncid s') (ha : s.addr = some p)
    (hl : H ≤ s.cid) : EmitOpt H p ncid s' (r.map s.wrap) := by
  cases r with
  | none => exact hk
  | some pdu => exact wrap_emit pdu hk ha hl

theorem dequeue_k {H p ncid : Nat} (s : Sock) (b : Int) (hk : KSock H p ncid s) :
    EmitOpt H p ncid (s.dequeue b).1 (s.dequeue b).2 := by
  unfold Sock.dequeue
  cases hcs : s.cs with
  | run =>
    have hl : H ≤ s.cid := hk.live (Or.inr hcs)
    dsimp only
    cases hlq : s.lq with
    | nil =>
      dsimp only
      exact ep_emit (hk.congr rfl hcs.symm hlq.symm rfl) hk.addr hl
    | cons h0 t =>
      dsimp only
      by_cases h1 : s.ep.st = .established ∧ s.ep.busySent ≠ s.ep.busy
      · rw [if_pos h1]
        exact ep_emit (hk.congr rfl hcs.symm hlq.symm rfl) hk.addr hl
      · rw [if_neg h1]
        by_cases h2 : (h0.infoSize : Int) > b
        · rw [if_pos h2]
          exact ep_emit (hk.congr rfl hcs.symm hlq.symm rfl) hk.addr hl
        · rw [if_neg h2]
          exact lq_head_emit hk hlq rfl hcs.symm rfl rfl
  | closed | connect =>
    dsimp only
    cases hlq : s.lq with
    | nil => exact hk
    | cons h0 t =>
      dsimp only
      by_cases h2 : (h0.infoSize : Int) > b
      · rw [if_pos h2]; exact hk
      · rw [if_neg h2]; exact lq_head_emit hk hlq rfl (by rw [hcs]) rfl rfl
  | listen => exact absurd hcs hk.nol

theorem sendack_k {H p ncid : Nat} (s : Sock) (hk : KSock H p ncid s) :
    EmitOpt H p ncid s.sendack.1 s.sendack.2 := by
  unfold Sock.sendack
  cases hcs : s.cs with
  | run =>
    dsimp only
    exact ep_emit (hk.congr rfl hcs.symm rfl rfl) hk.addr (hk.live (Or.inr hcs))
  | closed | connect | listen => exact hk

theorem Emit.of_quiet {H p ncid : Nat} {s' : Sock} {w : WPdu} (hq : Quiet w) (hk : KSock H p ncid s') : Emit H p ncid s' w := by
  constructor
  · intro _
    exact ⟨fun hd => (by rw [hq.1] at hd; cases hd), hk⟩
  · intro hc
    rw [hq.2] at hc; cases hc

/-- `ServiceAccessPoint.dequeue` of an access point with one socket -/
theorem sapDeq_k {H ncid : Nat} (a : Sap) (b : Int) (h : KSapAt H ncid a) :
    SapEmit H ncid a (a.dequeue b).1 (a.dequeue b).2 := by
  obtain ⟨⟨s, hs, hk⟩, hq⟩ := h
  have hd := dequeue_k s b hk
  unfold Sap.dequeue
  rw [hs, deqFirst_single]
  dsimp only
  cases hr : (s.dequeue b).2 with
  | some w =>
    rw [hr] at hd
    exact ⟨rfl, hq, (s.dequeue b).1, rfl, hd⟩
  | none =>
    rw [hr] at hd
    dsimp only
    cases hsl : a.sendList with
    | nil => exact ⟨rfl, fun w hw => (by cases hw), (s.dequeue b).1, rfl, hd⟩
    | cons w rest =>
      refine ⟨rfl, fun x hx => hq x (by rw [hsl]; exact List.mem_cons_of_mem _ hx), (s.dequeue b).1, rfl, ?_⟩
      exact Emit.of_quiet (hq w (by rw [hsl]; exact List.mem_cons_self ..)) hd

theorem sapAck_k {H ncid : Nat} (a : Sap) (h : KSapAt H ncid a) : SapEmit H ncid a a.sendack.1 a.sendack.2 := by
  obtain ⟨⟨s, hs, hk⟩, hq⟩ := h
  have hd := sendack_k s hk
  unfold Sap.sendack
  rw [hs, ackFirst_single]
  exact ⟨rfl, hq, s.sendack.1, rfl, hd⟩

/-- one access point takes a step on the link: it emits `w` (or nothing, `w = none`) and is replaced -/
theorem KInv.emit {c : Ctl} (h : KInv c) (pre post : List Sap) (a a' : Sap) (hsaps : c.saps = pre ++ a :: post)
    (w : Option WPdu) (he : KSap c a → SapEmit (hiOf c.out a.addr) c.ncid a a' w) (c' : Ctl)
    (h1 : c'.saps = pre ++ a' :: post) (h2 : c'.out = c.out ++ w.toList) (h3 : c'.dmq = c.dmq) (h4 : c'.ncid = c.ncid) :
    KInv c' := by
  have ht := h.table
  rw [hsaps] at ht
  obtain ⟨ha', hq', s', hs', hem⟩ := he (ht.1 a (List.mem_append_right _ (List.mem_cons_self ..)))
  -- what is left to show once it is known how the emitted PDU changes `hiOf`
  have core : (∀ q, q ≠ a.addr → hiOf c'.out q = hiOf c.out q) → KSock (hiOf c'.out a.addr) a.addr c.ncid s' →
      hiOf c'.out a.addr < c.ncid → Disc c'.out → KInv c' := by
    intro hhio hks hlt hdisc
    have ht' : Table (KSap c') c'.saps := by
      rw [h1]
      exact ht.replace ha' (fun _ => ⟨⟨s', hs', by rw [ha', h4]; exact hks⟩, hq'⟩) fun b hb hk => hk.of_eq (hhio _ hb) h4
    refine ⟨ht'.1, ht'.2, by rw [h3]; exact h.dmq, fun q => ?_, hdisc⟩
    rw [h4]
    by_cases hq : q = a.addr
    · rw [hq]; exact hlt
    · rw [hhio q hq]; exact h.hi q
  cases w with
  | none =>
    have hout : c'.out = c.out := by simpa using h2
    exact core (fun q _ => by rw [hout]) (by rw [hout]; exact hem) (by rw [hout]; exact h.hi _) (by rw [hout]; exact h.disc)
  | some w =>
    have hout : c'.out = c.out ++ [w] := by simpa using h2
    cases hc : w.isConn with
    | false =>
      obtain ⟨hdata, hks⟩ := Emit.quiet hem hc
      have hhi : ∀ q, hiOf c'.out q = hiOf c.out q := fun q => by rw [hout]; exact hiOf_append_quiet _ _ _ hc
      have hstep : StepOk c.out w :=
        ⟨fun hcn => (by rw [hc] at hcn; cases hcn), fun hd => by obtain ⟨e1, e2⟩ := hdata hd; rw [e1]; exact e2⟩
      exact core (fun q _ => hhi q) (by rw [hhi]; exact hks) (by rw [hhi]; exact h.hi _)
        (by rw [hout]; exact h.disc.snoc hstep)
    | true =>
      obtain ⟨e1, e2, e3, hks⟩ := Emit.conn hem hc
      have hstep : StepOk c.out w :=
        ⟨fun _ => (by rw [e1]; exact e2), fun hd => by rw [conn_not_data w hc] at hd; cases hd⟩
      have hhip : hiOf c'.out a.addr = w.cid := by
        rw [hout, ← e1]; exact hiOf_append_conn _ _ hc (by rw [e1]; exact e2)
      exact core (fun q hq => by rw [hout]; exact hiOf_append_other _ _ _ (by rw [e1]; exact Ne.symm hq))
        (by rw [hhip]; exact hks) (by rw [hhip]; exact e3) (by rw [hout]; exact h.disc.snoc hstep)

/-- a quiet PDU (DM of the service discovery component) leaves -/
theorem KInv.emitQuiet {c : Ctl} (h : KInv c) (w : WPdu) (hq : Quiet w) (c' : Ctl) (h1 : c'.saps = c.saps)
    (h2 : c'.out = c.out ++ [w]) (h3 : ∀ x ∈ c'.dmq, Quiet x) (h4 : c'.ncid = c.ncid) : KInv c' := by
  have hhi : ∀ q, hiOf c'.out q = hiOf c.out q := fun q => by rw [h2]; exact hiOf_append_quiet _ _ _ hq.2
  have hstep : StepOk c.out w := by
    constructor
    · intro hcn; rw [hq.2] at hcn; cases hcn
    · intro hd; rw [hq.1] at hd; cases hd
  refine ⟨?_, by rw [h1]; exact h.distinct, h3, fun q => by rw [hhi, h4]; exact h.hi q, by rw [h2]; exact h.disc.snoc hstep⟩
  intro b hb
  rw [h1] at hb
  rw [hhi, h4]
  exact h.saps b hb

theorem sdeq_k (c : Ctl) (addr : Nat) (b : Int) (h : KInv c) : KInv (c.sdeq addr b).1 := by
  unfold Ctl.sdeq
  split
  · cases hd : c.dmq with
    | nil => exact h
    | cons w rest =>
      dsimp only
      split
      · refine h.emitQuiet w (h.dmq w (by rw [hd]; exact List.mem_cons_self ..)) _ rfl rfl ?_ rfl
        intro x hx
        exact h.dmq x (by rw [hd]; exact List.mem_cons_of_mem _ hx)
      · exact h
  · cases hf : c.sap? addr with
    | none => exact h
    | some a =>
      dsimp only
      obtain ⟨_, pre, post, h1, h2⟩ := updSap_split c.saps addr a h.distinct hf
      exact h.emit pre post a _ h1 _ (sapDeq_k a b) _ (h2 _) rfl rfl rfl

theorem sack_k (c : Ctl) (addr : Nat) (h : KInv c) : KInv (c.sack addr).1 := by
  unfold Ctl.sack
  cases hf : c.sap? addr with
  | none => exact h
  | some a =>
    dsimp only
    obtain ⟨_, pre, post, h1, h2⟩ := updSap_split c.saps addr a h.distinct hf
    exact h.emit pre post a _ h1 _ (sapAck_k a) _ (h2 _) rfl rfl rfl

theorem collect_k (c : Ctl) (fuel : Nat) (h : KInv c) : KInv (c.collect fuel).1 :=
  collect_ind (fun c' _ => KInv c') (fun c' _ a b h => sdeq_k c' a b h) (fun c' _ a h => sack_k c' a h) c fuel h

/-- the sockets in the access points are found one per list -/
theorem KInv.found {c : Ctl} (h : KInv c) (sid : Nat) (s : Sock) (hf : sapsFind sid c.saps = some s) :
    ∃ pre a post, c.saps = pre ++ a :: post ∧ a.socks = [s] ∧ KSock (hiOf c.out a.addr) a.addr c.ncid s ∧
      (∀ w ∈ a.sendList, Quiet w) ∧ ∀ f, sapsUpd sid f c.saps = pre ++ { a with socks := [f s] } :: post := by
  obtain ⟨pre, a, post, l1, l2, h1, h2, h3⟩ := sapsFind_split sid c.saps s hf
  obtain ⟨⟨s0, hs0, hk⟩, hq⟩ := h.saps a (by rw [h1]; exact List.mem_append_right _ (List.mem_cons_self ..))
  rw [hs0] at h2
  have hl1 : l1 = [] := by
    cases l1 with
    | nil => rfl
    | cons y r =>
      simp only [List.cons_append, List.cons.injEq] at h2
      have := h2.2
      cases r <;> simp at this
  subst hl1
  simp only [List.nil_append, List.cons.injEq] at h2
  obtain ⟨rfl, h22⟩ := h2
  have hl2 : l2 = [] := h22.symm
  subst hl2
  exact ⟨pre, a, post, h1, hs0, hk, hq, fun f => by rw [h3 f]; rfl⟩

/-- updating the socket found by `sock?` when the new socket is as good as the old one -/
theorem KInv.upd {c : Ctl} (h : KInv c) (sid : Nat) (f : Sock → Sock) (s : Sock) (hs : c.sock? sid = some s) (n' : Nat)
    (hn : c.ncid ≤ n')
    (hx : ∀ H p, H < c.ncid → KSock H p c.ncid s → KSock H p n' (f s))
    (c' : Ctl) (hw : c.With c' (c.upd sid f).saps n') : KInv c' := by
  rcases sock?_cases c sid s hs with hf | ⟨hf, _⟩
  · obtain ⟨pre, a, post, e1, e2, hk, hq, e3⟩ := h.found sid s hf
    have hsaps : c'.saps = pre ++ { a with socks := [f s] } :: post := by
      rw [hw.saps]; unfold Ctl.upd; rw [hf]; exact e3 f
    have hk' := hx _ _ (h.hi a.addr) hk
    -- first raise the counter, then replace the socket
    have hmid : KInv { c with ncid := n' } := h.of_eq rfl rfl h.dmq hn
    exact KInv.emit (c := { c with ncid := n' }) hmid pre post a { a with socks := [f s] } e1 none
      (fun _ => ⟨rfl, hq, f s, rfl, hk'⟩) c' hsaps (by simpa using hw.out) hw.dmq hw.ncid
  · exact h.of_eq (by rw [hw.saps]; unfold Ctl.upd; rw [hf]) hw.out (by rw [hw.dmq]; exact h.dmq) (by rw [hw.ncid]; exact hn)

theorem KInv.addSap {c : Ctl} (h : KInv c) (s : Sock) (a : Nat) (hn : ∀ b ∈ c.saps, b.addr ≠ a)
    (hs : s.addr = some a ∧ s.cs = .closed ∧ s.lq = [] ∧ s.cid = 0) (c' : Ctl)
    (hw : c.With c' (insertSap ⟨a, [s], []⟩ c.saps) c.ncid) : KInv c' := by
  have hks : KSock (hiOf c.out a) a c.ncid s :=
    ⟨hs.1, by rw [hs.2.1]; decide, by rw [hs.2.2.1]; exact LqOk.nil _ _ _,
      fun hc => (by rw [hs.2.1] at hc; rcases hc with hc | hc <;> cases hc), by rw [hs.2.2.2]; exact h.one_le⟩
  have ht : Table (KSap c) (insertSap ⟨a, [s], []⟩ c.saps) :=
    h.table.insert _ hn ⟨⟨s, rfl, hks⟩, fun w hw => by cases hw⟩
  rw [← hw.saps] at ht
  exact ⟨fun b hb => (ht.1 b hb).of_eq (by rw [hw.out]) hw.ncid, ht.2, by rw [hw.dmq]; exact h.dmq,
    by rw [hw.out, hw.ncid]; exact h.hi, by rw [hw.out]; exact h.disc⟩

theorem unlist_k (c : Ctl) (sid : Nat) (h : KInv c) : KInv (c.unlist sid) := by
  unfold Ctl.unlist
  split
  · exact h
  · have ht := h.table.unlist sid fun a ⟨⟨s0, hs0, hk⟩, hq⟩ hne => by
      refine ⟨⟨s0, ?_, hk⟩, hq⟩
      rw [hs0] at hne ⊢
      unfold removeSid at hne ⊢
      rw [List.filter_cons] at hne ⊢
      split
      · rfl
      · rename_i hn; simp [hn] at hne
    exact ⟨ht.1, ht.2, h.dmq, h.hi, h.disc⟩

theorem SockMove.ksock {n n' : Nat} {s s' : Sock} (hm : SockMove n n' false s s') {H p : Nat} (hH : H < n)
    (hk : KSock H p n s) : KSock H p n' s' := by
  cases hm with
  | ep _ e => exact hk.congr rfl rfl rfl rfl
  | connect _ w hcs h1 h2 h3 =>
    have hl := hk.lq.push_conn w h1 (by rw [h2, hk.addr]; rfl) (by rw [h3]; exact hH) (by rw [h3]; exact hk.fresh)
    rw [h3] at hl
    exact ⟨hk.addr, by simp, hl, fun _ => Nat.le_of_lt hH, Nat.lt_succ_self _⟩
  | connected _ p b e hcs => exact ⟨hk.addr, by simp, hk.lq, fun _ => hk.live (Or.inl hcs), hk.fresh⟩
  | refused _ hcs => exact ⟨hk.addr, by simp, hk.lq, fun _ => hk.live (Or.inl hcs), hk.fresh⟩

theorem App.kinv {l : Bool} {c c' : Ctl} (h : App l c c') (hl : l = false) (hk : KInv c) : KInv c' := by
  induction h with
  | frame h => exact hk.of_eq h.saps h.out (by rw [h.dmq]; exact hk.dmq) (Nat.le_of_eq h.ncid.symm)
  | @upd c c' n' sid s f hs hm h =>
    subst hl
    exact hk.upd sid f s hs n' hm.le (fun _ _ hH hks => hm.ksock hH hks) c' h
  | unlist c sid => exact unlist_k c sid hk
  | addSap i rw miu a hn h => exact hk.addSap _ a hn ⟨rfl, rfl, rfl, rfl⟩ _ h
  | accept sid s _ _ _ _ _ hf hcs =>
    obtain ⟨_, _, _, _, _, hks, _, _⟩ := hk.found sid s hf
    exact absurd hcs hks.nol
  | trans _ _ ih1 ih2 => exact ih2 (ih1 hk)

theorem enqueueSock_k {H p ncid : Nat} (s : Sock) (w : WPdu) (hk : KSock H p ncid s) : KSock H p ncid (s.enqueue w) := by
  unfold Sock.enqueue
  cases hcs : s.cs with
  | closed =>
    exact ⟨hk.addr, by simp, hk.lq.push_quiet _ (quiet_dm w 1), by simp, hk.fresh⟩
  | listen => exact absurd hcs hk.nol
  | connect =>
    dsimp only
    split
    · split
      · exact hk.congr rfl (by rw [hcs]) rfl rfl
      · exact hk
    · split
      · exact hk.congr rfl (by rw [hcs]) rfl rfl
      · exact hk
    · exact hk
  | run =>
    dsimp only
    split
    · exact hk.congr rfl (by rw [hcs]) rfl rfl
    · exact hk

theorem enqueueSap_k {H ncid : Nat} (a : Sap) (w : WPdu) (h : KSapAt H ncid a) : SapEmit H ncid a (a.enqueue w) none := by
  obtain ⟨⟨s, hs, hk⟩, hq⟩ := h
  have hpush : ∀ r, ∀ x ∈ a.sendList ++ [dmReply w r], Quiet x := by
    intro r x hx
    rcases List.mem_append.1 hx with hx | hx
    · exact hq x hx
    · have : x = dmReply w r := by simpa using hx
      rw [this]; exact quiet_dm w r
  have hnl : isListen s = false := by simp [isListen, hk.nol]
  unfold Sap.enqueue
  split
  · rw [hs, updFirst_single, if_neg (by simp [hnl])]
    exact ⟨rfl, hpush 2, s, rfl, hk⟩
  · rw [hs, updFirst_single]
    cases hm : matchPeer w.ssap s with
    | true =>
      rw [if_pos rfl]
      exact ⟨rfl, hq, s.enqueue w, rfl, enqueueSock_k s w hk⟩
    | false =>
      rw [if_neg (by simp)]
      exact ⟨rfl, hpush 1, s, rfl, hk⟩

theorem dispatch_k (c : Ctl) (w : WPdu) (h : KInv c) : KInv (c.dispatch w) := by
  unfold Ctl.dispatch
  dsimp only
  split
  · refine h.of_eq rfl rfl ?_ (Nat.le_refl _)
    intro x hx
    rcases List.mem_append.1 hx with hx | hx
    · exact h.dmq x hx
    · rw [List.mem_singleton.1 hx]; exact ⟨rfl, rfl⟩
  · rename_i w' _
    split
    · exact h.of_eq rfl rfl h.dmq (Nat.le_refl _)
    · rename_i a hf
      obtain ⟨_, pre, post, h1, h2⟩ := updSap_split c.saps w'.dsap a h.distinct hf
      exact h.emit pre post a _ h1 none (enqueueSap_k a w') _ (h2 _) (List.append_nil _).symm rfl rfl

theorem dispatchAll_k (c : Ctl) (frame : List WPdu) (h : KInv c) : KInv (c.dispatchAll frame) := by
  induction frame generalizing c with
  | nil => exact h
  | cons w r ih => exact ih _ (dispatch_k c w h)

theorem step_k (c : Ctl) (o : COp) (ho : isListenOp o = false) (h : KInv c) : KInv (c.step o).1 := by
  cases hl : isLink o with
  | false => exact (step_app c o hl).kinv ho h
  | true =>
    cases o with
    | dlv f => exact dispatchAll_k c f h
    | sdeq addr b => exact sdeq_k c addr b h
    | sack addr => exact sack_k c addr h
    | collect => exact collect_k c 600 h
    | _ => cases hl

theorem run_k (c : Ctl) (ops : List COp) (ho : ∀ o ∈ ops, isListenOp o = false) (h : KInv c) : KInv (c.run ops) := by
  induction ops generalizing c with
  | nil => exact h
  | cons o r ih =>
    rw [run_cons]
    exact ih _ (fun o' ho' => ho o' (List.mem_cons_of_mem _ ho')) (step_k c o (ho o (List.mem_cons_self ..)) h)

theorem init_k (link : Nat) (agf : Bool) : KInv (Ctl.init link agf) :=
  ⟨fun a ha => (by cases ha), List.Pairwise.nil, fun w hw => (by cases hw), fun p => (by simp [Ctl.init, hiOf]), Disc.nil⟩

end NfcVerif.DlcSap
