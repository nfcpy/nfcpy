import NfcVerif.Model.AdvT34
import NfcVerif.Lemmas.PyYields
/-!
C08 for Type 4: `readNdef4_metered`, the NDEF reader over any APDU transport `X : Xp σ`, whatever
the card answers. Two things are asked of the transport, both only for commands that are `CmdOk`,
which is all the reader builds (`cmd4_ok`). `XOk X`: it fails with command errors only.
`Metered X Q`: an invariant of the transport with a budget, `Q k` holding of the states reachable
by at most `k` more commands; it grows with `k`, and one `run` takes `Q k` to `Q (k + 1)`. Each
layer of the reader (`apdu4_x` to `readFile4_x`) is a `StepX`: `Q` of the new state in any case,
and either a value with its property or a command error. The budgets add up to 7 + 65536: 5 for
discovery, 2 + 65536 for a file, whose NLEN the repaired reader keeps within the 16 bit offsets
while every READ BINARY makes progress. Of the capability container only `parseCC_yields` (what it
gives is `InfoOk`) and `parseCC_returns` (no exception on at most 15 octets) are used. `SafeNdef`
is what the property demands of the result; `countX` with `countX_metered` is the instance that
counts APDUs.
-/
namespace NfcVerif.Adv
open NfcVerif.IsoDep

/-- the command APDUs the NDEF reader builds: not empty, at most 13 octets (header, Lc, an application or file
identifier of at most 7 octets, Le) -/
def CmdOk (c : Bytes) : Prop := c ≠ [] ∧ c.length ≤ 13

theorem cmd4_ok (ins p1 p2 : Nat) (data : Bytes) (mrl : Int) (hd : data.length ≤ 7) : CmdOk (cmd4 ins p1 p2 data mrl) := by
  unfold cmd4 CmdOk
  refine ⟨by simp, ?_⟩
  simp only [List.length_append, List.length_cons, List.length_nil]
  split <;> split <;> simp <;> omega

/-- the transport fails only with `Type4TagCommandError` (for the commands the reader builds) -/
def XOk {σ} (X : Xp σ) : Prop := ∀ s c e, CmdOk c → (X.run s c).2 = .error e → isTagCmd e = true

/-- what the NDEF object keeps between reads: MLe clamped, a file identifier as `parseCC` produces it -/
def InfoOk (i : Info) : Prop := i.maxLe ≤ 256 ∧ i.fid.length ≤ 7

theorem checkStatus_err (rsp : Bytes) (e : Exc) (h : checkStatus true rsp = .error e) : isTagCmd e = true := by
  simp only [checkStatus] at h
  split at h
  · cases h; rfl
  · split at h
    · cases h; rfl
    · cases h

theorem isTagCmd_eq {e : Exc} (h : isTagCmd e = true) : ∃ n, e = .tagCmd n := by
  cases e with
  | tagCmd n => exact ⟨n, rfl⟩
  | _ => cases h

theorem parseCC_yields (v1 : Bool) (caps : Bytes) :
    Yields (fun o => ∀ i, o = some i → InfoOk i ∧ (i.nlenSize = 2 ∨ i.nlenSize = 4)) (parseCC v1 caps) := by
  unfold parseCC
  refine Yields.ite (.ok nofun) ?_
  split
  · refine Yields.ite (.ok nofun) (Yields.ite' (fun _ => .ok nofun) fun hc => .ok ?_)
    rintro i ⟨⟩
    refine ⟨⟨Nat.min_le_right _ _, Nat.le_add_left 2 5⟩, ?_⟩
    rcases Classical.not_not.mp hc with ⟨rfl, _⟩ | ⟨rfl, _⟩
    · exact Or.inl rfl
    · exact Or.inr rfl
  · exact Yields.error _

/-- `struct.error` needs more than 15 octets: up to 15, padded to 15, are what the pattern takes apart -/
theorem parseCC_returns (v1 : Bool) (caps : Bytes) (h : caps.length ≤ 15) : ∃ o, parseCC v1 caps = .ok o := by
  suffices ht : Tri (fun _ => False) (fun _ => True) (parseCC v1 caps) from ht.returns.imp fun _ h => h.1
  unfold parseCC
  refine Tri.ite (fun _ => Tri.ok trivial) fun h13 => ?_
  have hl : (caps ++ List.replicate (15 - caps.length) 0).length = 15 := by
    rw [List.length_append, List.length_replicate]; omega
  generalize caps ++ List.replicate (15 - caps.length) 0 = l at hl
  match l, hl with
  | [ver, e1, e0, c1, c0, tag, plen, v0, v1', v2, v3, v4, v5, v6, v7], _ =>
    exact Tri.ite (fun _ => Tri.ok trivial) fun _ => Tri.ite (fun _ => Tri.ok trivial) fun _ => Tri.ok trivial

/-- what the property demands of a returned NDEF object -/
def SafeNdef (d : Ndef) : Prop :=
  (d.length : Int) ≤ d.cap ∧ d.octets.length = d.length ∧ d.addrs.length = d.length ∧
  ∀ a ∈ d.addrs, d.lo ≤ a ∧ a < d.hi

/-! The reader uses its transport only through `run`, for at most 7 + 65536 commands.  What a caller wants to know
about the transport state afterwards (the APDU counter of `countX`, the frames the ISO-DEP initiator has sent) is
put as a family `Q k`: "reachable by at most `k` more commands", and carried through the reader once. -/

structure Metered {σ} (X : Xp σ) (Q : Nat → σ → Prop) : Prop where
  mono : ∀ {k k' s}, Q k s → k ≤ k' → Q k' s
  run : ∀ {k s} c, CmdOk c → Q k s → Q (k + 1) (X.run s c).1

/-- outcome of a call on the transport: `Q` of the state in any case; a value with `P`, or a command error -/
def StepX {σ α} (Q : σ → Prop) (x : σ × Py α) (P : α → Prop) : Prop :=
  Q x.1 ∧ ((∃ v, x.2 = .ok v ∧ P v) ∨ ∃ e, x.2 = .error e ∧ isTagCmd e = true)

theorem StepX.cases {σ α} {Q : σ → Prop} {x : σ × Py α} {P : α → Prop} (h : StepX Q x P) :
    (∃ s v, x = (s, .ok v) ∧ Q s ∧ P v) ∨ ∃ s n, x = (s, .error (.tagCmd n)) ∧ Q s := by
  obtain ⟨s, r⟩ := x
  obtain ⟨hq, ⟨v, h1, h2⟩ | ⟨e, h1, h2⟩⟩ := h
  · exact Or.inl ⟨s, v, by rw [← h1], hq, h2⟩
  · obtain ⟨n, rfl⟩ := isTagCmd_eq h2
    exact Or.inr ⟨s, n, by rw [← h1], hq⟩

theorem StepX.ok {σ α} {Q : σ → Prop} {P : α → Prop} {s : σ} {v : α} (hq : Q s) (hp : P v) : StepX Q (s, .ok v) P :=
  ⟨hq, Or.inl ⟨v, rfl, hp⟩⟩

theorem StepX.err {σ α} {Q : σ → Prop} {P : α → Prop} {s : σ} {e : Exc} (hq : Q s) (he : isTagCmd e = true) :
    StepX Q ((s, .error e) : σ × Py α) P :=
  ⟨hq, Or.inr ⟨e, rfl, he⟩⟩

/-- an outcome within a budget is an outcome within a larger one -/
theorem StepX.mono {σ α} {X : Xp σ} {Q : Nat → σ → Prop} (hQ : Metered X Q) {k k' : Nat} {x : σ × Py α} {P : α → Prop}
    (h : StepX (Q k) x P) (hk : k ≤ k') : StepX (Q k') x P :=
  ⟨hQ.mono h.1 hk, h.2⟩

section metered
variable {σ : Type} {X : Xp σ} {Q : Nat → σ → Prop} (hX : XOk X) (hQ : Metered X Q) {k : Nat} {s : σ}
include hX hQ

theorem apdu4_x (ins p1 p2 : Nat) (data : Bytes) (mrl : Int) (hd : data.length ≤ 7) (hm : mrl ≤ 256) (h : Q k s) :
    StepX (Q (k + 1)) (apdu4 X ins p1 p2 data mrl s) (fun _ => True) := by
  unfold apdu4
  rw [if_neg (by omega)]
  have hq := hQ.run _ (cmd4_ok ins p1 p2 data mrl hd) h
  cases hr : (X.run s (cmd4 ins p1 p2 data mrl)).2 with
  | error e => exact StepX.err hq (hX _ _ _ (cmd4_ok _ _ _ _ _ hd) hr)
  | ok rsp =>
    show StepX _ (_, checkStatus true rsp) _
    cases hc : checkStatus true rsp with
    | ok d => exact StepX.ok hq trivial
    | error e => exact StepX.err hq (checkStatus_err rsp e hc)

theorem readBin_x (maxLe off : Nat) (size : Int) (ho : off ≤ 65535) (hm : maxLe ≤ 256) (h : Q k s) :
    StepX (Q (k + 1)) (readBin X maxLe off size s) (fun d => (d.length : Int) ≤ max (min (maxLe : Int) size) 0) := by
  unfold readBin
  rw [if_neg (by omega)]
  rcases (apdu4_x hX hQ 0xB0 (off / 256) (off % 256) [] (min (maxLe : Int) size) (Nat.zero_le 7) (by omega) h).cases with
    ⟨s1, d, hg, hq, -⟩ | ⟨s1, n, hg, hq⟩
  · rw [hg]
    simp only [surplus, Py.bind_ok]
    split
    · exact StepX.err hq rfl
    · exact StepX.ok hq (by omega)
  · rw [hg]; exact StepX.err hq rfl

theorem readLoop4_x (i : Info) (nlen : Nat) (hm : i.maxLe ≤ 256) (ho : i.nlenSize + nlen ≤ 65536) :
    ∀ (fuel : Nat) (acc : Bytes) (k : Nat) (s : σ), Q k s → acc.length ≤ nlen → nlen < acc.length + fuel →
      StepX (Q (k + (nlen - acc.length))) (readLoop4 X i nlen fuel acc s) (fun r => ∀ d, r = some d → d.length = nlen) := by
  intro fuel
  induction fuel with
  | zero => intro acc k s _ h1 h2; omega
  | succ f ih =>
    intro acc k s h h1 h2
    unfold readLoop4
    split
    · exact StepX.ok (hQ.mono h (Nat.le_add_right _ _)) fun d hd => by cases hd; omega
    · rcases (readBin_x hX hQ i.maxLe (i.nlenSize + acc.length) ((nlen : Int) - acc.length) (by omega) hm h).cases with
        ⟨s1, more, hg, hq, hl⟩ | ⟨s1, n, hg, hq⟩
      · rw [hg]
        simp only
        split
        · exact StepX.ok (hQ.mono hq (by omega)) nofun
        · have := ih (acc ++ more) (k + 1) s1 hq (by simp only [List.length_append]; omega)
            (by simp only [List.length_append]; omega)
          simp only [List.length_append] at this
          exact this.mono hQ (by omega)
      · rw [hg]; exact StepX.err (hQ.mono hq (by omega)) rfl

theorem selectFid_x (v1 : Bool) (fid : Bytes) (hf : fid.length ≤ 7) (h : Q k s) :
    ∃ s1 b, selectFid X v1 fid s = (s1, .ok b) ∧ Q (k + 1) s1 := by
  unfold selectFid
  rcases (apdu4_x hX hQ 0xA4 0x00 (if v1 then 0x00 else 0x0C) fid 0 hf (by omega) h).cases with
    ⟨s1, d, hg, hq, -⟩ | ⟨s1, n, hg, hq⟩
  · rw [hg]; exact ⟨s1, true, rfl, hq⟩
  · rw [hg]; exact ⟨s1, false, rfl, hq⟩

theorem selectApp_x (h : Q k s) : ∃ s1 o, selectApp X s = (s1, .ok o) ∧ Q (k + 2) s1 := by
  unfold selectApp
  rcases (apdu4_x hX hQ 0xA4 0x04 0x00 aidV2 256 (by decide) (by omega) h).cases with ⟨s1, d, hg, hq, -⟩ | ⟨s1, n, hg, hq⟩
  · rw [hg]; exact ⟨s1, _, rfl, hQ.mono hq (Nat.le_succ _)⟩
  · rw [hg]
    simp only
    split
    · exact ⟨s1, _, rfl, hQ.mono hq (Nat.le_succ _)⟩
    · rcases (apdu4_x hX hQ 0xA4 0x04 0x00 aidV1 0 (by decide) (by omega) hq).cases with ⟨s2, d, hg2, hq2, -⟩ | ⟨s2, n2, hg2, hq2⟩
      · rw [hg2]; exact ⟨s2, _, rfl, hq2⟩
      · rw [hg2]; exact ⟨s2, _, rfl, hq2⟩

theorem discover4_x (h : Q k s) : StepX (Q (k + 5)) (discover4 X s) (fun o => ∀ i, o = some i → InfoOk i) := by
  unfold discover4
  obtain ⟨s1, o, hg, hq⟩ := selectApp_x hX hQ h
  rw [hg]
  cases o with
  | none => exact StepX.ok (hQ.mono hq (by omega)) nofun
  | some v1 =>
    simp only
    obtain ⟨s2, b, hg2, hq2⟩ := selectFid_x hX hQ v1 [0xE1, 0x03] (by decide) hq
    rw [hg2]
    cases b with
    | false => exact StepX.ok (hQ.mono hq2 (by omega)) nofun
    | true =>
      simp only
      rcases (readBin_x hX hQ 15 0 2 (by omega) (by omega) hq2).cases with ⟨s3, cclen, hg3, hq3, -⟩ | ⟨s3, n, hg3, hq3⟩
      · rw [hg3]
        simp only
        split
        · exact StepX.ok (hQ.mono hq3 (by omega)) nofun
        · rcases (readBin_x hX hQ 15 2 (min ((beNat cclen : Int) - 2) 15) (by omega) (by omega) hq3).cases with
            ⟨s4, caps, hg4, hq4, hl⟩ | ⟨s4, n, hg4, hq4⟩
          · rw [hg4]
            obtain ⟨o, hc⟩ := parseCC_returns v1 caps (by omega)
            simp only
            rw [hc]
            exact StepX.ok hq4 fun i hi => (parseCC_yields v1 caps o hc i hi).1
          · rw [hg4]; exact StepX.err hq4 rfl
      · rw [hg3]; exact StepX.err (hQ.mono hq3 (by omega)) rfl

theorem readFile4_x (i : Info) (hi : InfoOk i) (h : Q k s) :
    StepX (Q (k + (2 + 65536))) (readFile4 X i s) (fun o => ∀ d i', o = some (d, i') → SafeNdef d ∧ InfoOk i') := by
  unfold readFile4
  obtain ⟨s2, b, hg2, hq2⟩ := selectFid_x hX hQ i.v1 i.fid hi.2 h
  rw [hg2]
  cases b with
  | false => exact StepX.ok (hQ.mono hq2 (by omega)) nofun
  | true =>
    simp only
    rcases (readBin_x hX hQ i.maxLe 0 i.nlenSize (by omega) hi.1 hq2).cases with ⟨s3, nl, hg3, hq3, -⟩ | ⟨s3, n, hg3, hq3⟩
    · rw [hg3]
      simp only
      split
      · exact StepX.ok (hQ.mono hq3 (by omega)) nofun
      · split
        · exact StepX.ok (hQ.mono hq3 (by omega)) nofun
        · rename_i hcap
          have hcap' : (beNat nl : Int) ≤ i.capacity ∧ i.nlenSize + beNat nl ≤ 0x10000 := by omega
          rcases (readLoop4_x hX hQ i (beNat nl) hi.1 hcap'.2 (beNat nl + 1) [] _ s3 hq3 (Nat.zero_le _) (by simp)).cases with
            ⟨s4, o4, hg4, hq4, hlen⟩ | ⟨s4, n, hg4, hq4⟩
          · rw [hg4]
            have hq : Q (k + (2 + 65536)) s4 := hQ.mono hq4 (by simp only [List.length_nil]; omega)
            cases o4 with
            | none => exact StepX.ok hq nofun
            | some data =>
              have hlen : data.length = beNat nl := hlen data rfl
              refine StepX.ok hq fun d i' hd => ?_
              cases hd
              refine ⟨⟨by simp only; omega, rfl, List.length_range', fun a ha => ?_⟩, hi⟩
              simp only [List.mem_range'_1] at ha
              simp only
              omega
          · rw [hg4]; exact StepX.err (hQ.mono hq4 (by simp only [List.length_nil]; omega)) rfl
    · rw [hg3]; exact StepX.err (hQ.mono hq3 (by omega)) rfl

/-- whatever the card answers, `_read_ndef_data` sends at most 7 + 65536 APDUs, never raises, and returns
`None` or a consistent object -/
theorem readNdef4_metered (known : Option Info) (hk : ∀ i, known = some i → InfoOk i) (h : Q k s) :
    Q (k + (7 + 65536)) (readNdef4 X known s).1 ∧
    ((readNdef4 X known s).2 = .ok none ∨
     ∃ d i, (readNdef4 X known s).2 = .ok (some (d, i)) ∧ SafeNdef d ∧ InfoOk i) := by
  have hb : StepX (Q (k + (7 + 65536))) (readNdef4Body X known s) (fun o => ∀ d i, o = some (d, i) → SafeNdef d ∧ InfoOk i) := by
    unfold readNdef4Body
    cases known with
    | some i =>
      exact (readFile4_x hX hQ i (hk i rfl) h).mono hQ (by omega)
    | none =>
      simp only
      rcases (discover4_x hX hQ h).cases with ⟨s1, o, hg, hq, hi⟩ | ⟨s1, n, hg, hq⟩
      · rw [hg]
        cases o with
        | none => exact StepX.ok (hQ.mono hq (by omega)) nofun
        | some i =>
          exact (readFile4_x hX hQ i (hi i rfl) hq).mono hQ (by omega)
      · rw [hg]; exact StepX.err (hQ.mono hq (by omega)) rfl
  unfold readNdef4
  rcases hb.cases with ⟨s1, o, hg, hq, ho⟩ | ⟨s1, n, hg, hq⟩
  · rw [hg]
    cases o with
    | none => exact ⟨hq, Or.inl rfl⟩
    | some v => exact ⟨hq, Or.inr ⟨v.1, v.2, rfl, ho v.1 v.2 rfl⟩⟩
  · rw [hg]; exact ⟨hq, Or.inl rfl⟩

end metered

def countX {σ} (X : Xp σ) : Xp (σ × Nat) :=
  ⟨fun s c => (((X.run s.1 c).1, s.2 + 1), (X.run s.1 c).2)⟩

theorem countX_ok {σ} {X : Xp σ} (hX : XOk X) : XOk (countX X) := fun s c e hc h => hX s.1 c e hc h

theorem countX_metered {σ} (X : Xp σ) (n : Nat) : Metered (countX X) (fun k s => s.2 ≤ n + k) where
  mono h hk := Nat.le_trans h (Nat.add_le_add_left hk n)
  run _ _ h := Nat.succ_le_succ h

end NfcVerif.Adv
