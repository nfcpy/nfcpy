import NfcVerif.Lemmas.FnBridgePdu
/-! Small lemmas that `Props/FnBridgeT4`, `FnBridgeIsoSm` and `FnBridgeT34Ops` share. -/
namespace NfcVerif.FnBridge.T4
open NfcVerif NfcVerif.PyFn NfcVerif.FnBridge.Pdu

theorem pack_B_ok {n : Nat} (h : ¬ 255 < n) : PyFn.pack [.B] [(n : Int)] = .ok [n] := by
  rw [pack_B, if_neg h]

theorem imin_nat (a b : Nat) : imin (a : Int) (b : Int) = ((min a b : Nat) : Int) := by
  unfold imin; omega

/-- `p1, p2 = pack(">H", offset)`: `struct.error` beyond 16 bits, else the two octets (the length test never fires) -/
theorem p1p2 {β} (off : Nat) (k : Int → Int → Py β) :
    (PyFn.pack [.Hbe] [(off : Int)] >>= fun t =>
      (if PyFn.len t ≠ 2 then Except.error Exc.value else Except.ok ()) >>= fun _ =>
      PyFn.getB t 0 >>= fun p1 => PyFn.getB t 1 >>= fun p2 => k p1 p2)
      = if off > 65535 then .error .struct else k ((off / 256 : Nat) : Int) ((off % 256 : Nat) : Int) := by
  rw [PyFn.pack_Hbe]
  by_cases h : off > 65535
  · rw [if_pos h, if_pos h]; rfl
  · rw [if_neg h, if_neg h, Py.bind_ok, getB_zero, getB_one, getB_zero]; rfl

end NfcVerif.FnBridge.T4
