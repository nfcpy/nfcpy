import NfcVerif.Gen.FnSnep
import NfcVerif.Model.Snep
import NfcVerif.Model.Handover
import NfcVerif.Model.PeerSnep
import NfcVerif.Lemmas.SnepChannel
import NfcVerif.Lemmas.FnBridgeBase
/-!
Helper lemmas and auxiliary definitions for `Props/FnBridgeSnep.lean` (pure slices of `nfc/snep/client.py`,
`nfc/snep/server.py`, `nfc/handover/client.py`).

Two layers of auxiliary functions.  `processMid`, `srvIdleMid`, `cliAwaitMid`, `cliAwaitHdrMid`: the model transitions
rebuilt from the regenerated header slices with the surrounding conditions still written by hand (stepping stones of
the proofs).  `processGen`, `respondGen`, `srvOnRecvGen`, `cliOnRecvGen`, `cliSendGen`, `cliStartGen`, `cliFinishGen`: the
same transitions with EVERY condition, slice and protocol constant taken from `Gen/FnSnep.lean` (`expr=` cuts pinned to
their statement); only the control skeleton (which check comes first, which state follows) and the offsets
`range(miu, len, miu)` of the fragment loops are written by hand.  `Props/FnBridgeSnep.lean` proves them equal to the
model functions.
-/
namespace NfcVerif.FnBridge.Snep
open NfcVerif NfcVerif.PyFn NfcVerif.Chan

theorem take_drop_take {α} (l : List α) {a w n : Nat} (h : a + w ≤ n) : ((l.take n).drop a).take w = (l.drop a).take w := by
  rw [List.drop_take, List.take_take, Nat.min_eq_left (by omega)]

/-- `struct.pack(">BBL", a, b, n)` -/
theorem pack_BBL (a b n : Nat) :
    PyFn.pack [.B, .B, .Ibe] [(a : Int), (b : Int), (n : Int)]
      = if a < 256 ∧ b < 256 ∧ n < 2 ^ 32 then .ok ([a, b] ++ toBE 4 n) else .error .struct := by
  py_nat
  simp only [packField_B_nat, packField_Ibe_nat, ite_ok_bind, ite_ite_and]
  rfl

/-- `struct.pack(">BBLL", a, b, n, m)` -/
theorem pack_BBLL (a b n m : Nat) :
    PyFn.pack [.B, .B, .Ibe, .Ibe] [(a : Int), (b : Int), (n : Int), (m : Int)]
      = if a < 256 ∧ b < 256 ∧ n < 2 ^ 32 ∧ m < 2 ^ 32 then .ok ([a, b] ++ toBE 4 n ++ toBE 4 m) else .error .struct := by
  py_nat
  simp only [packField_B_nat, packField_Ibe_nat, ite_ok_bind, ite_ite_and]
  rfl

theorem chunksF_fuel (miu : Nat) (hm : 0 < miu) :
    ∀ n m (d : Bytes), d.length ≤ n → d.length ≤ m → chunksF miu n d = chunksF miu m d := by
  intro n
  induction n with
  | zero =>
    intro m d h _; have : d = [] := List.eq_nil_of_length_eq_zero (by omega); subst this
    cases m <;> simp [chunksF]
  | succ n ih =>
    intro m d h h'
    cases d with
    | nil => cases m <;> simp [chunksF]
    | cons a t =>
      cases m with
      | zero => simp at h'
      | succ m =>
        have h1 : ((a :: t).drop miu).length ≤ n := by simp at h ⊢; omega
        have h2 : ((a :: t).drop miu).length ≤ m := by simp at h' ⊢; omega
        simp only [chunksF, reduceCtorEq, if_false]
        rw [ih _ _ h1 h2]

theorem chunks_cons (miu : Nat) (hm : 0 < miu) (d : Bytes) (h : d ≠ []) :
    chunks miu d = d.take miu :: chunks miu (d.drop miu) := by
  cases d with
  | nil => exact absurd rfl h
  | cons a t =>
    have h2 : ((a :: t).drop miu).length ≤ t.length := by simp; omega
    unfold chunks
    simp only [chunksF, List.length_cons, reduceCtorEq, if_false]
    rw [chunksF_fuel miu hm _ _ _ h2 (Nat.le_refl _)]

/-- the `while len(octets) > 0` loop of `HandoverClient.send_octets` (normalised to `take`/`drop`): it offers the
MIU-sized chunks in order and stops at the first refused one; what is left is empty iff every chunk was accepted -/
theorem ho_loop (miu : Nat) (hm : 0 < miu) (send : Bytes → Bool) :
    ∀ (fuel : Nat) (d : Bytes), d.length < fuel →
      ∃ d', PyFn.whileC (ρ := Empty) fuel d
          (fun (o : Bytes) => Except.ok (decide ((PyFn.len o) > 0)))
          (fun (o : Bytes) => Except.ok (if ((send (o.take miu)) = true) then
              (PyFn.Ctl.next (o.drop miu)) else (PyFn.Ctl.brk o))) = .ok (.inl d')
        ∧ decide (PyFn.len d' = 0) = (chunks miu d).all send := by
  intro fuel
  induction fuel with
  | zero => intro d h; omega
  | succ fuel ih =>
    intro d h
    cases d with
    | nil => exact ⟨[], by simp [whileC, len_eq], by simp [chunks_nil, len_eq]⟩
    | cons a t =>
      have hc : decide (PyFn.len (a :: t) > 0) = true := by simp [len_eq]
      have hl : (a :: t).length = t.length + 1 := rfl
      rw [chunks_cons miu hm _ (by simp)]
      simp only [whileC, hc, List.all_cons]
      cases hs : send ((a :: t).take miu) with
      | false =>
        refine ⟨a :: t, by simp, ?_⟩
        simp only [len_eq, hl]; simp; omega
      | true =>
        simp only [if_true, Bool.true_and]
        exact ih _ (by rw [List.length_drop]; omega)

/-! The list patterns of `Model/Snep.lean` read by length and offsets, as the source does. -/
section firstFragment
open NfcVerif.Snep

theorem six_le {α} {m : List α} (h : ¬ m.length < 6) : ∃ v x a b c d rest, m = v :: x :: a :: b :: c :: d :: rest := by
  match m, h with
  | v :: x :: a :: b :: c :: d :: rest, _ => exact ⟨v, x, a, b, c, d, rest, rfl⟩
  | [], h | [_], h | [_, _], h | [_, _, _], h | [_, _, _, _], h | [_, _, _, _, _], h => exact absurd (by simp) h

theorem srvOnRecv_idle (cfg : SCfg) (m : Bytes) :
    srvOnRecv cfg .idle m =
      if m.length < 6 then (.closed, [], [])
      else if m.headD 0 / 16 > 1 then (.idle, [unsupRsp], [])
      else if beNat ((m.drop 2).take 4) > cfg.maxAcc then (.idle, [rejectRsp], [])
      else if m.length - 6 < beNat ((m.drop 2).take 4) then (.reasm m (beNat ((m.drop 2).take 4)), [contRsp], [])
      else srvFinish cfg m := by
  by_cases h : m.length < 6
  · rw [if_pos h]
    simp only [srvOnRecv]
    split
    · simp at h; omega
    · rfl
  · obtain ⟨v, x, a, b, c, d, rest, rfl⟩ := six_le h
    rw [if_neg h]; rfl

theorem cliOnRecv_awaitResp (op : Op) (acc : Nat) (m : Bytes) :
    cliOnRecv (.awaitResp op acc) m =
      if m.length < 6 then (.done (noResponse op), [])
      else if beNat ((m.drop 2).take 4) > acc then (.done (noResponse op), [])
      else if m.length - 6 < beNat ((m.drop 2).take 4) then (.reasm op m (beNat ((m.drop 2).take 4)), [contReq])
      else (.done (cliFinish op m), []) := by
  by_cases h : m.length < 6
  · rw [if_pos h]
    simp only [cliOnRecv]
    split
    · simp at h; omega
    · rfl
  · obtain ⟨v, x, a, b, c, d, rest, rfl⟩ := six_le h
    rw [if_neg h]; rfl

theorem len_lt_six (m : Bytes) : (PyFn.len m < 6) ↔ m.length < 6 := by rw [len_eq]; omega

theorem more_cast {m : Bytes} (h : ¬ m.length < 6) (n : Nat) : (PyFn.len m - 6 < (n : Int)) ↔ m.length - 6 < n := by
  rw [len_eq]; omega

end firstFragment

open NfcVerif.Snep in
/-- `SnepServer.process_snep_request` = the hand-written dispatch (`request_data[1] == 1 and len(request_data) >= 10`,
`== 2`), the application callbacks `h`, and the regenerated slices `snep_get_fields`, `snep_get_excess`,
`snep_put_fields`, `snep_response_pack` -/
def processMid (h : Handlers) (data : Bytes) : Py (Bytes × List (Op × Bytes)) :=
  getB data 1 >>= fun code =>
  if code = 1 ∧ PyFn.len data ≥ 10 then
    Gen.Fn.snep_get_fields data >>= fun (acc, octets) =>
    if h.valid octets = false then
      Gen.Fn.snep_response_pack 0xC2 [] >>= fun r => .ok (r, [])
    else
      let r : Int × Bytes := match h.get octets with
        | .inl c => ((c : Int), [])
        | .inr d => (0x81, d)
      let r := Gen.Fn.snep_get_excess r.1 r.2 acc
      Gen.Fn.snep_response_pack r.1 r.2 >>= fun resp => .ok (resp, [(Op.get, octets)])
  else if code = 2 then
    let octets := Gen.Fn.snep_put_fields data
    if h.valid octets = false then
      Gen.Fn.snep_response_pack 0xC2 [] >>= fun r => .ok (r, [])
    else
      Gen.Fn.snep_response_pack ((h.put octets : Nat) : Int) [] >>= fun resp => .ok (resp, [(Op.put, octets)])
  else Gen.Fn.snep_response_pack 0xC2 [] >>= fun r => .ok (r, [])

open NfcVerif.Snep in
/-- the head of the `_serve` loop on one received message `m` (`data = bytearray(client_socket.recv())`): the
hand-written conditions around the regenerated `struct.unpack_from(">BxL", data)` -/
def srvIdleMid (cfg : SCfg) (m : Bytes) : SState × List Bytes × List (Op × Bytes) :=
  if m = [] then (.closed, [], [])
  else if PyFn.len m < 6 then (.closed, [], [])
  else match Gen.Fn.snep_serve_header m with
    | .error e => (.crashed e, [], [])
    | .ok (version, length) =>
      if PyFn.shr version 4 > 1 then (.idle, [unsupRsp], [])
      else if length > (cfg.maxAcc : Int) then (.idle, [rejectRsp], [])
      else if PyFn.len m - 6 < length then (.reasm m length.toNat, [contRsp], [])
      else srvFinish cfg m

open NfcVerif.Snep in
/-- `recv_response` on the first received fragment `m`: the hand-written conditions around the regenerated
`struct.unpack(">BBL", snep_response[:6])` -/
def cliAwaitMid (op : Op) (acc : Nat) (m : Bytes) : CState × List Bytes :=
  if PyFn.len m < 6 then (.done (noResponse op), [])
  else match Gen.Fn.snep_recv_unpack m with
    | .error e => (.done (.exc e), [])
    | .ok (_version, _status, length) =>
      if length > (acc : Int) then (.done (noResponse op), [])
      else if PyFn.len m - 6 < length then (.reasm op m length.toNat, [contReq])
      else (.done (cliFinish op m), [])

open NfcVerif.Snep in
/-- `recv_response` on the first received fragment, with the regenerated slice `snep_recv_header` (the length
check, the header unpack and the acceptable-length check of the source); only the reassembly condition
`len(snep_response) - 6 < length` is restated by hand -/
def cliAwaitHdrMid (op : Op) (acc : Nat) (m : Bytes) : CState × List Bytes :=
  match Gen.Fn.snep_recv_header m (acc : Int) with
  | .error e => (.done (.exc e), [])
  | .ok none => (.done (noResponse op), [])
  | .ok (some length) =>
    if PyFn.len m - 6 < length then (.reasm op m length.toNat, [contReq]) else (.done (cliFinish op m), [])

/-- number of fragments of `n` octets at MIU `miu` -/
def nfrag (miu n : Nat) : Nat := (n + miu - 1) / miu

theorem nfrag_zero (miu : Nat) (hm : 0 < miu) : nfrag miu 0 = 0 := by
  unfold nfrag; exact Nat.div_eq_of_lt (by omega)

theorem nfrag_pos (miu n : Nat) (hm : 0 < miu) (hn : 0 < n) : nfrag miu n = nfrag miu (n - miu) + 1 :=
  ceilDiv_step miu n hm hn

/-- `[d[o:o+miu] for o in range(0, len(d), miu)]`: the i-th fragment starts at `i * miu` -/
theorem chunks_eq_offsets (miu : Nat) (hm : 0 < miu) :
    ∀ (n : Nat) (d : Bytes), d.length ≤ n →
      chunks miu d = (List.range (nfrag miu d.length)).map (fun i => (d.drop (i * miu)).take miu) := by
  intro n
  induction n with
  | zero =>
    intro d h
    have : d = [] := List.eq_nil_of_length_eq_zero (by omega)
    subst this
    simp [chunks_nil, nfrag_zero miu hm]
  | succ n ih =>
    intro d h
    cases d with
    | nil => simp [chunks_nil, nfrag_zero miu hm]
    | cons a t =>
      rw [chunks_cons miu hm _ (by simp), nfrag_pos miu _ hm (by simp), List.range_succ_eq_map, List.map_cons, List.map_map]
      have hl : ((a :: t).drop miu).length ≤ n := by rw [List.length_drop]; simp at h ⊢; omega
      rw [ih _ hl, List.length_drop]
      congr 1
      · simp
      · apply List.map_congr_left
        intro i _
        simp only [Function.comp, List.drop_drop]
        congr 2
        rw [Nat.succ_mul]; omega

/-- the offsets `a, a + s, ..` below `n`: the value of `range(a, n, s)` -/
def offs (a n s : Nat) : List Int := (List.range ((n - a + s - 1) / s)).map fun i => ((a + i * s : Nat) : Int)

theorem rangeStep_offs (a n s : Nat) (hs : 0 < s) : PyFn.rangeStep (a : Int) (n : Int) (s : Int) = .ok (offs a n s) :=
  rangeStep_nat a n s hs

/-- the same with the literal `0` of `range(0, n, s)` as the regenerated text has it -/
theorem rangeStep_zero (n s : Nat) (hs : 0 < s) : PyFn.rangeStep 0 (n : Int) (s : Int) = .ok (offs 0 n s) :=
  rangeStep_offs 0 n s hs

theorem offs_slices (d : Bytes) (a s : Nat) (hs : 0 < s) :
    (offs a d.length s).map (fun o => slice d o (o + (s : Int))) = chunks s (d.drop a) := by
  unfold offs
  rw [chunks_eq_offsets s hs _ _ (Nat.le_refl _), List.length_drop, List.map_map]
  apply List.map_congr_left
  intro i _
  simp only [Function.comp, ← Int.natCast_add, slice_cast, List.drop_drop]
  congr 2
  omega

/-- the fragments a sender puts on the wire after the first one: `frag data o miu` for `o` in
`range(miu, len(data), miu)` (the offsets are written out by hand: `range` with a step is not translated) -/
def fragsGen (frag : Bytes → Int → Int → Bytes) (data : Bytes) (miu : Nat) : List Bytes :=
  (List.range (nfrag miu (data.length - miu))).map
    (fun i => frag data (((i + 1) * miu : Nat) : Int) (miu : Int))

theorem fragsGen_eq (frag : Bytes → Int → Int → Bytes) (hf : ∀ d (a m : Nat), frag d a m = slice d (a : Int) ((a : Int) + (m : Int)))
    (data : Bytes) (miu : Nat) (hm : 0 < miu) :
    fragsGen frag data miu = chunks miu (data.drop miu) := by
  rw [← offs_slices data miu miu hm]
  unfold fragsGen offs
  rw [List.map_map]
  apply List.map_congr_left
  intro i _
  rw [hf, Nat.succ_mul, Nat.add_comm]; rfl

section server
open NfcVerif.Snep

/-- `process_snep_request`: regenerated dispatch conditions, field slices, ExcessData rule and response header
around the application callbacks `h` -/
def processGen (h : Handlers) (data : Bytes) : Py (Bytes × List (Op × Bytes)) :=
  Gen.Fn.snep_srv_is_get data >>= fun isGet =>
  if isGet = true then
    Gen.Fn.snep_get_fields data >>= fun (acc, octets) =>
    if h.valid octets = false then
      Gen.Fn.snep_response_pack 0xC2 [] >>= fun r => .ok (r, [])
    else
      let r : Int × Bytes := match h.get octets with
        | .inl c => ((c : Int), [])
        | .inr d => (0x81, d)
      let r := Gen.Fn.snep_get_excess r.1 r.2 acc
      Gen.Fn.snep_response_pack r.1 r.2 >>= fun resp => .ok (resp, [(Op.get, octets)])
  else
    Gen.Fn.snep_srv_is_put data >>= fun isPut =>
    if isPut = true then
      let octets := Gen.Fn.snep_put_fields data
      if h.valid octets = false then
        Gen.Fn.snep_response_pack 0xC2 [] >>= fun r => .ok (r, [])
      else
        Gen.Fn.snep_response_pack ((h.put octets : Nat) : Int) [] >>= fun resp => .ok (resp, [(Op.put, octets)])
    else Gen.Fn.snep_response_pack 0xC2 [] >>= fun r => .ok (r, [])

/-- "send the snep response, fragment if needed" -/
def respondGen (smiu : Nat) (resp : Bytes) : SState × List Bytes :=
  if Gen.Fn.snep_srv_fits resp (smiu : Int) = true then (.idle, [resp])
  else (.awaitCont (fragsGen Gen.Fn.snep_srv_frag resp smiu), [Gen.Fn.snep_srv_first resp (smiu : Int)])

def srvFinishGen (cfg : SCfg) (data : Bytes) : SState × List Bytes × List (Op × Bytes) :=
  match processGen cfg.h data with
  | .error e => (.crashed e, [], [])
  | .ok (resp, dl) => ((respondGen cfg.smiu resp).1, (respondGen cfg.smiu resp).2, dl)

/-- `SnepServer._serve` cut at its blocking points, every condition / slice / constant regenerated -/
def srvOnRecvGen (cfg : SCfg) : SState → Bytes → SState × List Bytes × List (Op × Bytes)
  | .idle, m =>
    if Gen.Fn.snep_srv_empty m = true then (.closed, [], [])
    else if Gen.Fn.snep_srv_short m = true then (.closed, [], [])
    else match Gen.Fn.snep_serve_header m with
      | .error e => (.crashed e, [], [])
      | .ok (version, length) =>
        if Gen.Fn.snep_srv_bad_version version = true then (.idle, [Gen.Fn.snep_srv_unsup_rsp], [])
        else if Gen.Fn.snep_srv_too_long length (cfg.maxAcc : Int) = true then (.idle, [Gen.Fn.snep_srv_reject_rsp], [])
        else if Gen.Fn.snep_srv_more m length = true then (.reasm m length.toNat, [Gen.Fn.snep_srv_cont_rsp], [])
        else srvFinishGen cfg m
  | .reasm data length, m =>
    if Gen.Fn.snep_srv_more_loop (data ++ m) (length : Int) = true then (.reasm (data ++ m) length, [], [])
    else srvFinishGen cfg (data ++ m)
  | .awaitCont rest, m => if m = Gen.Fn.snep_srv_cont_req then (.idle, rest, []) else (.idle, [], [])
  | .closed, _ => (.closed, [], [])
  | .crashed e, _ => (.crashed e, [], [])

end server

/-- the application callbacks answer with a one-octet code / a message that fits the 32 bit length field -/
structure HandlersOk (h : Snep.Handlers) : Prop where
  put : ∀ o, h.put o < 256
  getCode : ∀ o c, h.get o = .inl c → c < 256
  getLen : ∀ o d, h.get o = .inr d → d.length < 2 ^ 32

section client
open NfcVerif.Snep

/-- tail of `get_octets` / `put_octets` once `recv_response` returned data: `if response[1] != 0x81: raise
SnepError(response[1])`, `return response[6:]` / `return True` -/
def cliFinishGen (op : Op) (resp : Bytes) : CRes :=
  match (match op with | .get => Gen.Fn.snep_cli_get_status resp | .put => Gen.Fn.snep_cli_put_status resp) with
  | .error e => .exc e
  | .ok true => (match getB resp 1 with | .ok st => .snepError st.toNat | .error e => .exc e)
  | .ok false => (match op with | .put => .okTrue | .get => .okData (Gen.Fn.snep_cli_get_data resp))

/-- `recv_response` on the first received fragment -/
def cliAwaitGen (op : Op) (acc : Nat) (m : Bytes) : CState × List Bytes :=
  match Gen.Fn.snep_recv_header m (acc : Int) with
  | .error e => (.done (.exc e), [])
  | .ok none => (.done (noResponse op), [])
  | .ok (some length) =>
    if Gen.Fn.snep_cli_more m length = true then (.reasm op m length.toNat, [Gen.Fn.snep_cli_cont_req])
    else (.done (cliFinishGen op m), [])

/-- `send_request` after its first fragment, `recv_response`, and the tails of `put_octets` / `get_octets`, cut at the
blocking points; every condition / slice / constant regenerated -/
def cliOnRecvGen : CState → Bytes → CState × List Bytes
  | .awaitCont op acc rest, m =>
    if m ≠ Gen.Fn.snep_cli_cont_rsp then (.done (sendFailed op), []) else (.awaitResp op acc, rest)
  | .awaitResp op acc, m => cliAwaitGen op acc m
  | .reasm op buf length, m =>
    if Gen.Fn.snep_cli_more_loop (buf ++ m) (length : Int) = true then (.reasm op (buf ++ m) length, [])
    else (.done (cliFinishGen op (buf ++ m)), [])
  | st, _ => (st, [])

/-- `send_request` up to its first blocking point -/
def cliSendGen (miu acc : Nat) (op : Op) (req : Bytes) : CState × List Bytes :=
  if Gen.Fn.snep_cli_fits req (miu : Int) = true then (.awaitResp op (respAcc acc op), [req])
  else (.awaitCont op (respAcc acc op) (fragsGen Gen.Fn.snep_cli_frag req miu), [Gen.Fn.snep_cli_first req (miu : Int)])

/-- `put_octets` / `get_octets` up to the first blocking point of `send_request` -/
def cliStartGen (miu acc : Nat) (op : Op) (octets : Bytes) : CState × List Bytes :=
  match (match op with
         | .put => Gen.Fn.snep_put_request octets
         | .get => Gen.Fn.snep_get_request octets (acc : Int)) with
  | .error e => (.done (.exc e), [])
  | .ok req => cliSendGen miu acc op req

end client

end NfcVerif.FnBridge.Snep
