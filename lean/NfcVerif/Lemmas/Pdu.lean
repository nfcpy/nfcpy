import NfcVerif.Model.Pdu
import NfcVerif.Lemmas.PyPrims
/-!
# LLCP PDUs (property C11): the `struct` reads succeed inside the buffer; every encoding has the length
`len` reports and is an octet string when the payloads and names are (`encode_enc`)
-/
namespace NfcVerif.Pdu
open NfcVerif

theorem orShl_eq (a k b : Nat) (h : b < 2 ^ k) : orShl a k b = a * 2 ^ k + b := by
  unfold orShl
  rw [← Nat.shiftLeft_add_eq_or_of_lt h, Nat.shiftLeft_eq]

theorem sliceN_all {α} (l : List α) : sliceN l 0 (0 + l.length) = l := by
  simp [sliceN]

theorem sliceN_append_mid {α} (pre e post : List α) :
    sliceN (pre ++ e ++ post) pre.length (pre.length + e.length) = e := by
  simp [sliceN]

theorem sliceN_length {α} (l : List α) (a n : Nat) (h : a + n ≤ l.length) : (sliceN l a (a + n)).length = n := by
  rw [length_sliceN]; omega

theorem unpackBB_ok {d : Bytes} {off : Nat} (h : off + 2 ≤ d.length) :
    ∃ a b, unpackBB d off = .ok (a, b) := by
  have h0 : off < d.length := by omega
  have h1 : off + 1 < d.length := by omega
  refine ⟨d[off], d[off+1], ?_⟩
  simp [unpackBB, List.getElem?_eq_getElem h0, List.getElem?_eq_getElem h1]

theorem unpackBBB_ok {d : Bytes} {off : Nat} (h : off + 3 ≤ d.length) :
    ∃ a b c, unpackBBB d off = .ok (a, b, c) := by
  have h0 : off < d.length := by omega
  have h1 : off + 1 < d.length := by omega
  have h2 : off + 2 < d.length := by omega
  refine ⟨d[off], d[off+1], d[off+2], ?_⟩
  simp [unpackBBB, List.getElem?_eq_getElem h0, List.getElem?_eq_getElem h1, List.getElem?_eq_getElem h2]

theorem unpackBBBB_ok {d : Bytes} {off : Nat} (h : off + 4 ≤ d.length) :
    ∃ a b c e, unpackBBBB d off = .ok (a, b, c, e) := by
  have h0 : off < d.length := by omega
  have h1 : off + 1 < d.length := by omega
  have h2 : off + 2 < d.length := by omega
  have h3 : off + 3 < d.length := by omega
  refine ⟨d[off], d[off+1], d[off+2], d[off+3], ?_⟩
  simp [unpackBBBB, List.getElem?_eq_getElem h0, List.getElem?_eq_getElem h1, List.getElem?_eq_getElem h2,
    List.getElem?_eq_getElem h3]

theorem unpackB_ok {d : Bytes} {off : Nat} (h : off + 1 ≤ d.length) : ∃ a, unpackB d off = .ok a := by
  have h0 : off < d.length := by omega
  exact ⟨d[off], by simp [unpackB, List.getElem?_eq_getElem h0]⟩

theorem unpackH_ok {d : Bytes} {off : Nat} (h : off + 2 ≤ d.length) : ∃ a, unpackH d off = .ok a := by
  have h0 : off < d.length := by omega
  have h1 : off + 1 < d.length := by omega
  exact ⟨d[off] * 256 + d[off+1], by simp [unpackH, List.getElem?_eq_getElem h0, List.getElem?_eq_getElem h1]⟩

theorem unpackS_ok_length {n : Nat} {d : Bytes} {off : Nat} {v : Bytes} (h : unpackS n d off = .ok v) :
    v.length = n := by
  unfold unpackS at h
  split at h
  · cases h; simp; omega
  · cases h

/-- the octet-string fields hold octets -/
def OctetsS : SPdu → Prop
  | .ui _ _ x => IsBytes x
  | .info _ _ _ _ x => IsBytes x
  | .unknown _ _ _ x => IsBytes x
  | .connect _ _ _ _ sn => ∀ v, sn = some v → IsBytes v
  | .snl _ _ q _ => ∀ x ∈ q, IsBytes x.2
  | .dps _ _ e r => (∀ v, e = some v → IsBytes v) ∧ (∀ v, r = some v → IsBytes v)
  | _ => True

def Octets : Pdu → Prop
  | .simple p => OctetsS p
  | .agf _ _ items => ∀ p ∈ items, OctetsS p

/-- every successful result satisfies `P`: word for word `Yields` of `Lemmas/PyYields.lean`, and the proofs
from here on are written with `Yields` and its rules (`Yields.bind`, `Yields.ite'`, ..) -/
def PyAll {α : Type} (P : α → Prop) (x : Py α) : Prop := ∀ a, x = .ok a → P a

namespace PyAll
variable {α : Type} {P : α → Prop}
theorem ok' {a : α} (h : P a) : PyAll P (.ok a : Py α) := by intro b hb; cases hb; exact h
end PyAll

namespace Impl

theorem encodeHeader_enc (t d s : Nat) : Yields (fun h => h.length = 2 ∧ IsBytes h) (encodeHeader t d s) := by
  unfold encodeHeader
  refine Yields.ite' (fun _ => (Yields.error _)) fun _ => ?_
  simp only
  refine Yields.ite' (fun _ => (Yields.error _)) fun h => Yields.ok ⟨rfl, ?_⟩
  exact isBytes_cons (by omega) (isBytes_cons (by omega) isBytes_nil)

theorem encodeHeaderN_enc (t d s ns nr : Nat) :
    Yields (fun h => h.length = 3 ∧ IsBytes h) (encodeHeaderN t d s ns nr) := by
  unfold encodeHeaderN
  refine Yields.bind_of (encodeHeader_enc t d s) fun h hh => Yields.ite' (fun _ => (Yields.error _)) fun c => Yields.ok ⟨?_, ?_⟩
  · simp [hh.1]
  · have : orShl ns 4 nr = ns * 16 + nr := by rw [orShl_eq _ _ _ (by omega)]
    exact isBytes_append hh.2 (isBytes_cons (by omega) isBytes_nil)

theorem encB_enc (t v : Nat) (ht : t < 256) : Yields (fun b => b.length = 3 ∧ IsBytes b) (encB t v) := by
  unfold encB
  exact Yields.ite' (fun _ => (Yields.error _)) fun h =>
    Yields.ok ⟨rfl, isBytes_cons ht (isBytes_cons (by omega) (isBytes_cons (by omega) isBytes_nil))⟩

theorem encH_enc (t v : Nat) (ht : t < 256) : Yields (fun b => b.length = 4 ∧ IsBytes b) (encH t v) := by
  unfold encH
  exact Yields.ite' (fun _ => (Yields.error _)) fun h => Yields.ok
    ⟨rfl, isBytes_cons ht (isBytes_cons (by omega) (isBytes_cons (by omega) (isBytes_cons (by omega) isBytes_nil)))⟩

theorem optTlv_enc {enc : Nat → Py Bytes} {n : Nat} (h : ∀ v, Yields (fun b => b.length = n ∧ IsBytes b) (enc v))
    (o : Option Nat) : Yields (fun b => b.length = optLen n o ∧ IsBytes b) (optTlv enc o) := by
  cases o with
  | none => exact Yields.ok ⟨rfl, isBytes_nil⟩
  | some v => exact h v

theorem ite_enc {c : Prop} [Decidable c] {x : Py Bytes} {n : Nat} (hx : Yields (fun b => b.length = n ∧ IsBytes b) x) :
    Yields (fun b => b.length = (if c then n else 0) ∧ IsBytes b) (if c then x else pure []) := by
  split
  · exact hx
  · exact Yields.ok ⟨rfl, isBytes_nil⟩

theorem truthyTlv_enc (t : Nat) (ht : t < 256) (o : Option Bytes) :
    Yields (fun b => b.length = truthyLen o ∧ ((∀ v, o = some v → IsBytes v) → IsBytes b)) (truthyTlv t o) := by
  rcases o with _ | ⟨_ | ⟨x, xs⟩⟩
  · exact Yields.ok ⟨rfl, fun _ => isBytes_nil⟩
  · exact Yields.ok ⟨rfl, fun _ => isBytes_nil⟩
  · refine Yields.ite' (fun _ => (Yields.error _)) fun h => Yields.ok ⟨by simp [truthyLen]; omega, fun ho => ?_⟩
    exact isBytes_cons ht (isBytes_cons (by simp at h ⊢; omega) (ho _ rfl))

theorem encList_enc {α : Type} {enc : α → Py Bytes} {f : α → Nat} {C : α → Prop}
    (h : ∀ x, Yields (fun b => b.length = f x ∧ (C x → IsBytes b)) (enc x)) (l : List α) :
    Yields (fun b => b.length = sumMap f l ∧ ((∀ x ∈ l, C x) → IsBytes b)) (encList enc l) := by
  induction l with
  | nil => exact Yields.ok ⟨rfl, fun _ => isBytes_nil⟩
  | cons x xs ih =>
    refine Yields.bind_of (h x) fun a ha => Yields.bind_of ih fun b hb => Yields.ok ⟨?_, fun hc => ?_⟩
    · simp [sumMap, ha.1, hb.1]
    · exact isBytes_append (ha.2 (hc x (by simp))) (hb.2 fun y hy => hc y (by simp [hy]))

theorem encSdreq_enc (r : Nat × Bytes) :
    Yields (fun b => b.length = 3 + r.2.length ∧ (IsBytes r.2 → IsBytes b)) (encSdreq r) := by
  unfold encSdreq
  refine Yields.ite' (fun _ => (Yields.error _)) fun h1 => Yields.ite' (fun _ => (Yields.error _)) fun h2 => Yields.ok ⟨by simp; omega, fun hr => ?_⟩
  exact isBytes_append (isBytes_cons (by omega) (isBytes_cons (by omega) (isBytes_cons (by omega) isBytes_nil))) hr

theorem encSdres_enc (r : Nat × Nat) : Yields (fun b => b.length = 4 ∧ (True → IsBytes b)) (encSdres r) := by
  unfold encSdres
  refine Yields.ite' (fun _ => (Yields.error _)) fun h1 => Yields.ok ⟨rfl, fun _ => ?_⟩
  exact isBytes_cons (by omega) (isBytes_cons (by omega) (isBytes_cons (by omega) (isBytes_cons (by omega) isBytes_nil)))

theorem packB_enc (v : Nat) : Yields (fun r => r.length = 1 ∧ IsBytes r) (packB v) := by
  unfold packB
  exact Yields.ite' (fun _ => (Yields.error _)) fun c => Yields.ok ⟨rfl, isBytes_cons (by omega) isBytes_nil⟩

theorem sumMap_const {α : Type} (n : Nat) (l : List α) : sumMap (fun _ => n) l = l.length * n := by
  induction l with
  | nil => simp [sumMap]
  | cons x xs ih => simp [sumMap, ih, Nat.add_mul]; omega

/-- no hypothesis on the numeric fields: the range checks of the encoder (`EncodeError` / `struct.error`) see to them -/
theorem encodeS_enc (p : SPdu) : Yields (fun b => b.length = lenS p ∧ (OctetsS p → IsBytes b)) (encodeS p) := by
  cases p with
  | symm d s => exact Yields.ite' (fun _ => (Yields.error _)) fun _ => (encodeHeader_enc 0 d s).mono fun _ hh => ⟨hh.1, fun _ => hh.2⟩
  | pax d s ver miux wks lto opt =>
    refine Yields.ite' (fun _ => (Yields.error _)) fun _ => ?_
    refine Yields.bind_of (encodeHeader_enc 1 d s) fun h hh => ?_
    refine Yields.bind_of (optTlv_enc (fun v => encB_enc 1 v (by omega)) ver) fun a ha => ?_
    refine Yields.bind_of (optTlv_enc (fun v => encH_enc 2 v (by omega)) miux) fun b hb => ?_
    refine Yields.bind_of (optTlv_enc (fun v => encH_enc 3 v (by omega)) wks) fun c hc => ?_
    refine Yields.bind_of (optTlv_enc (fun v => encB_enc 4 v (by omega)) lto) fun e he => ?_
    refine Yields.bind_of (optTlv_enc (fun v => encB_enc 7 v (by omega)) opt) fun f hf => Yields.ok ⟨?_, fun _ => ?_⟩
    · simp only [List.length_append, lenS, hh.1, ha.1, hb.1, hc.1, he.1, hf.1]
    · exact isBytes_append (isBytes_append (isBytes_append (isBytes_append (isBytes_append hh.2 ha.2) hb.2) hc.2) he.2) hf.2
  | ui d s data =>
    exact Yields.bind_of (encodeHeader_enc 3 d s) fun h hh =>
      Yields.ok ⟨by simp [lenS, hh.1], fun ho => isBytes_append hh.2 ho⟩
  | connect d s miu rw sn =>
    refine Yields.bind_of (encodeHeader_enc 4 d s) fun h hh => ?_
    refine Yields.bind_of (ite_enc (encH_enc 2 _ (by omega))) fun a ha => ?_
    refine Yields.bind_of (ite_enc (encB_enc 5 _ (by omega))) fun b hb => ?_
    refine Yields.bind_of (truthyTlv_enc 6 (by omega) sn) fun c hc => Yields.ok ⟨?_, fun ho => ?_⟩
    · simp only [List.length_append, lenS, hh.1, ha.1, hb.1, hc.1]
    · exact isBytes_append (isBytes_append (isBytes_append hh.2 ha.2) hb.2) (hc.2 ho)
  | disc d s => exact (encodeHeader_enc 5 d s).mono fun _ hh => ⟨hh.1, fun _ => hh.2⟩
  | cc d s miu rw =>
    refine Yields.bind_of (encodeHeader_enc 6 d s) fun h hh => ?_
    refine Yields.bind_of (ite_enc (encH_enc 2 _ (by omega))) fun a ha => ?_
    refine Yields.bind_of (ite_enc (encB_enc 5 _ (by omega))) fun b hb => Yields.ok ⟨?_, fun _ => ?_⟩
    · simp only [List.length_append, lenS, hh.1, ha.1, hb.1]
    · exact isBytes_append (isBytes_append hh.2 ha.2) hb.2
  | dm d s reason =>
    exact Yields.bind_of (encodeHeader_enc 7 d s) fun h hh => Yields.bind_of (packB_enc reason) fun r hr =>
      Yields.ok ⟨by simp [lenS, hh.1, hr.1], fun _ => isBytes_append hh.2 hr.2⟩
  | frmr d s flags ptype ns nr vs vr vsa vra =>
    refine Yields.bind_of (encodeHeader_enc 8 d s) fun h hh => ?_
    simp only
    refine Yields.ite' (fun _ => (Yields.error _)) fun c => Yields.ok ⟨by simp [lenS, hh.1], fun _ => isBytes_append hh.2 ?_⟩
    exact isBytes_cons (by omega) (isBytes_cons (by omega) (isBytes_cons (by omega) (isBytes_cons (by omega) isBytes_nil)))
  | snl d s sdreq sdres =>
    refine Yields.bind_of (encodeHeader_enc 9 d s) fun h hh => ?_
    refine Yields.bind_of (encList_enc encSdreq_enc sdreq) fun a ha => ?_
    refine Yields.bind_of (encList_enc encSdres_enc sdres) fun b hb => Yields.ok ⟨?_, fun ho => ?_⟩
    · simp only [List.length_append, lenS, hh.1, ha.1, hb.1, sumMap_const]
      omega
    · exact isBytes_append (isBytes_append hh.2 (ha.2 ho)) (hb.2 fun _ _ => trivial)
  | dps d s ecpk rn =>
    refine Yields.ite' (fun _ => (Yields.error _)) fun _ => ?_
    refine Yields.bind_of (encodeHeader_enc 10 d s) fun h hh => ?_
    refine Yields.bind_of (truthyTlv_enc 10 (by omega) ecpk) fun a ha => ?_
    refine Yields.bind_of (truthyTlv_enc 11 (by omega) rn) fun b hb => Yields.ok ⟨?_, fun ho => ?_⟩
    · simp only [List.length_append, lenS, hh.1, ha.1, hb.1]
    · exact isBytes_append (isBytes_append hh.2 (ha.2 ho.1)) (hb.2 ho.2)
  | info d s ns nr data =>
    exact Yields.bind_of (encodeHeaderN_enc 12 d s ns nr) fun h hh =>
      Yields.ok ⟨by simp [lenS, hh.1], fun ho => isBytes_append hh.2 ho⟩
  | rr d s nr | rnr d s nr => exact (encodeHeaderN_enc _ d s 0 nr).mono fun _ hh => ⟨hh.1, fun _ => hh.2⟩
  | unknown t d s payload =>
    exact Yields.bind_of (encodeHeader_enc t d s) fun h hh =>
      Yields.ok ⟨by simp [lenS, hh.1], fun ho => isBytes_append hh.2 ho⟩

theorem lenS_eq {p : SPdu} {b : Bytes} (e : encodeS p = .ok b) : lenS p = b.length :=
  (encodeS_enc p b e).1.symm

/-- the body of an aggregate: `length(16) PDU` for every PDU -/
theorem agf_enc {items : List SPdu} {es : List Bytes} {body : Bytes}
    (e1 : encodeAll items = .ok es) (e2 : agfJoin es = .ok body) :
    body.length = sumMap (fun p => 2 + lenS p) items ∧ ((∀ p ∈ items, OctetsS p) → IsBytes body) := by
  induction items generalizing es body with
  | nil => cases e1; cases e2; exact ⟨rfl, fun _ => isBytes_nil⟩
  | cons p ps ih =>
    simp only [encodeAll] at e1
    obtain ⟨e, ee, e1⟩ := Py.bind_eq_ok.mp e1
    obtain ⟨es', ees, e1⟩ := Py.bind_eq_ok.mp e1
    cases e1
    simp only [agfJoin] at e2
    obtain ⟨l, el, e2⟩ := Py.bind_eq_ok.mp e2
    obtain ⟨r, er, e2⟩ := Py.bind_eq_ok.mp e2
    cases e2
    obtain ⟨he1, he2⟩ := encodeS_enc p e ee
    obtain ⟨hr1, hr2⟩ := ih ees er
    have hl : l.length = 2 ∧ IsBytes l := by
      split at el
      · cases el
      · cases el; exact ⟨rfl, isBytes_cons (by omega) (isBytes_cons (by omega) isBytes_nil)⟩
    refine ⟨by simp [sumMap, hr1, he1, hl.1]; omega, fun ho => ?_⟩
    exact isBytes_append (isBytes_append hl.2 (he2 (ho p (by simp)))) (hr2 fun q hq => ho q (by simp [hq]))

theorem encode_enc (p : Pdu) : Yields (fun b => b.length = len p ∧ (Octets p → IsBytes b)) (encode p) := by
  cases p with
  | simple q => exact encodeS_enc q
  | agf d s items =>
    intro b e
    simp only [encode] at e
    split at e
    · cases e
    · obtain ⟨h, eh, e⟩ := Py.bind_eq_ok.mp e
      obtain ⟨es, ees, e⟩ := Py.bind_eq_ok.mp e
      obtain ⟨body, eb, e⟩ := Py.bind_eq_ok.mp e
      cases e
      obtain ⟨h1, h2⟩ := encodeHeader_enc 2 d s h eh
      obtain ⟨b1, b2⟩ := agf_enc ees eb
      exact ⟨by simp [len, h1, b1], fun ho => isBytes_append h2 (b2 ho)⟩

theorem len_eq {p : Pdu} {b : Bytes} (e : encode p = .ok b) : len p = b.length :=
  (encode_enc p b e).1.symm

theorem encode_bytes (p : Pdu) (ho : Octets p) : Yields IsBytes (encode p) :=
  (encode_enc p).mono fun _ h => h.2 ho

end Impl
end NfcVerif.Pdu
