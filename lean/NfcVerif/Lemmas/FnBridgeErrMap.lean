import NfcVerif.Lemmas.ErrMap
/-!
Helper definitions for `Props/FnBridgeErrMap.lean`: the models `pnMapI`, `pnMapT`, `guardChip`,
`guardStatus` of `Model/ErrMap.lean` are functions on `Py α` that change only the exception; the
regenerated handler bodies are functions from the caught `errno` to `Py Unit` that always raise.  The two
meet at `α := Unit`; `pnMapI_error` .. `guardStatus_error` say the choice of `α` does not matter.  `udpParseRest` is
`udpParse` behind its first test, which is the one regenerated on its own (`udp_rfoff`).
-/
namespace NfcVerif.FnBridge.ErrMap
open NfcVerif NfcVerif.ErrMap NfcVerif.HostFrame

/-- `pnMapI` on a raised exception, as a function on exceptions -/
def mapI : Exc → Exc
  | .chipsetError n => if n = 1 then .timeout else .transmission
  | .io e => if e = ETIMEDOUT then .timeout else .io e
  | x => x

/-- `pnMapT` on a raised exception -/
def mapT : Exc → Exc
  | .chipsetError n => if n = 0x0A ∨ n = 0x29 ∨ n = 0x31 then .brokenLink else .transmission
  | .io e => if e = ETIMEDOUT then .timeout else .io e
  | x => x

/-- on a raised exception the handler models give the same exception at every result type -/
theorem pnMapI_error {α} (e : Exc) : pnMapI (.error e : Py α) = .error (mapI e) := by
  cases e <;> simp only [pnMapI, mapI] <;> split <;> rfl
theorem pnMapT_error {α} (e : Exc) : pnMapT (.error e : Py α) = .error (mapT e) := by
  cases e <;> simp only [pnMapT, mapT] <;> split <;> rfl
theorem guardChip_error {α} (n : Nat) : guardChip .repaired (.error (.chipsetError n) : Py α) = .error eio := rfl
theorem guardStatus_error {α} : guardStatus .repaired (.error .rcsStatus : Py α) = .error eio := rfl

/-- the part of `udpParse` behind the RFOFF test -/
def udpParseRest (v : Variant) (brty : Bytes) (dg : Bytes) : Py (Option Bytes) :=
  match splitWs dg with
  | [b, hex] =>
    if b.any (fun x => decide (x ≥ 128)) then
      (match v with | .asFound => throw .value | .repaired => throw .transmission)
    else
      match unhex hex with
      | none => (match v with | .asFound => throw .value | .repaired => throw .transmission)
      | some d => if b = brty then pure (some d) else pure none
  | _ => throw .transmission

theorem udpParse_split (v : Variant) (brty dg : Bytes) :
    udpParse v brty dg = if startsWith dg rfoff then throw .brokenLink else udpParseRest v brty dg := rfl

end NfcVerif.FnBridge.ErrMap
