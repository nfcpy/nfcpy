import NfcVerif.Lemmas.IsoDep
/-!
# ISO-DEP: termination and absorbed faults

Liveness counterpart of `Lemmas/IsoDep.lean`: against the ISO/IEC 14443-4 card every loop of
`IsoDepInitiator.exchange` ends within a bounded number of blocks (`*_live`, first component: fuel `2n + 3` per retry
loop is never used up), and if the script contains `k` faults with `2k ≤ n_retry + 1` (none of them a reader protocol
error) every retry loop ends with the block it was waiting for (second component; such a run needs fuel `n + 2` only,
which is what lets `Lemmas/IsoDepV2Live.lean` carry it over to the repaired loops).  The potential `i + 2k (+1 while
the retry block is out)` accounts for the fact that the retransmission after R(ACK) also advances the counter `i`.
-/
namespace NfcVerif.IsoDep
open NfcVerif

/-- S(WTX) requests the card still wants to be answered before it sends its held back block -/
def wl (c : Card) : Nat :=
  match c.pend with
  | some (_, n) => n + 1
  | none => 0

theorem wl_emit (cfg : CardCfg) (c : Card) (B : Bytes) (nw : Nat) : wl (Card.emit cfg c B nw).1 = nw := by
  cases nw <;> simp [Card.emit, wl]

theorem rx_echo_wl (cfg : CardCfg) {k B c} (h : Pending cfg k B c) :
    wl (Card.rx cfg c (wtxBlock cfg)).1 + 1 = wl c := by
  obtain ⟨_, _, n, hp⟩ := h
  have h1 : Card.rx cfg c (wtxBlock cfg) = Card.emit cfg c B n := by simp [Card.rx, wtxBlock, hp]
  rw [h1, wl_emit]; simp [wl, hp]

/-- what the liveness argument needs of a round beyond `Round.Ok`; `W`: how often the card may ask for waiting time
before it answers `req` -/
structure Round.Live (cfg : CardCfg) (W : Nat) (R : Round) : Prop where
  hwl : ∀ c, R.Pre c → wl (Card.rx cfg c R.req).1 ≤ W
  hdist : R.rty = R.req → R.resend = none
  hexcl : ∀ c, R.Pre c → c.core ≠ R.post

/-- what the card answers, with the bookkeeping of outstanding S(WTX) requests -/
def CardAns (cfg : CardCfg) (W : Nat) (R : Round) (out : Bytes) (c' : Card) (o : Bytes) : Prop :=
  (Em cfg R.post R.B c' → wl c' ≤ W) ∧
  ((Done R.post R.B c' ∧ o = R.B) ∨ (Pending cfg R.post R.B c' ∧ o = wtxBlock cfg) ∨
   (R.Pre c' ∧ out ≠ R.req ∧ ∃ a, o = [a] ∧ R.resend = some a))

theorem rx_live_first (cfg : CardCfg) (W : Nat) (R : Round) (hR : R.Ok cfg) (hL : R.Live cfg W) (c : Card) (out : Bytes)
    (h : First cfg R c out) (hw : Em cfg R.post R.B c → wl c ≤ W) :
    ∃ c' o, Card.rx cfg c out = (c', some o) ∧ CardAns cfg W R out c' o := by
  obtain ⟨c', o, hrx, hc, ha⟩ := rx_first cfg R hR c out h
  refine ⟨c', o, hrx, ?_, ha.imp_right (Or.imp_right fun ⟨hpre, hout, a, ho, hres⟩ => ⟨hpre, ?_, a, ho, hres⟩)⟩
  · rcases hc with rfl | ⟨hpre, rfl⟩
    · exact hw
    · exact fun _ => hL.hwl c hpre
  · intro heq
    rw [hL.hdist (by rw [← hout, heq])] at hres; cases hres

theorem rx_live_echo (cfg : CardCfg) (R : Round) (c : Card) (h : Pending cfg R.post R.B c) :
    ∃ c' o, Card.rx cfg c (wtxBlock cfg) = (c', some o) ∧ wl c' + 1 = wl c ∧
      ((Done R.post R.B c' ∧ o = R.B) ∨ (Pending cfg R.post R.B c' ∧ o = wtxBlock cfg)) := by
  obtain ⟨o, hrx, ha⟩ := (rx_echo_pending cfg h).ans
  exact ⟨_, o, hrx, rx_echo_wl cfg h, ha⟩


/-- outcome of `_exchange` with the fault bookkeeping: `k` faults were left in the script, `np` says that none of
them is a reader protocol error -/
def WLive (cfg : CardCfg) (W : Nat) (R : Round) (k : Nat) (np : Prop) (out : Bytes) (w' : World Card) (r : Rx) : Prop :=
  (np → Fault.p ∉ w'.script) ∧ (Em cfg R.post R.B w'.card → wl w'.card ≤ W) ∧
  ((nfaults w'.script ≤ k ∧ ((r = .data R.B ∧ Done R.post R.B w'.card) ∨
       (out ≠ R.req ∧ R.Pre w'.card ∧ ∃ a, r = .data [a] ∧ R.resend = some a))) ∨
   (nfaults w'.script < k ∧ St cfg R w'.card ∧ Faulty np r))

theorem WLive.mono {cfg W R k1 k} {np1 np : Prop} {out w' r} (h : WLive cfg W R k1 np1 out w' r) (hk : k1 ≤ k)
    (hnp : np → np1) : WLive cfg W R k np out w' r := by
  obtain ⟨h1, h2, h3⟩ := h
  refine ⟨fun h => h1 (hnp h), h2, ?_⟩
  rcases h3 with ⟨ha, hb⟩ | ⟨ha, hb, hc⟩
  · exact Or.inl ⟨by omega, hb⟩
  · exact Or.inr ⟨by omega, hb, hc.imp_right (Or.imp_right (Or.imp_right (And.imp_right fun hn hp => hn (hnp hp))))⟩

theorem xchgW_succ {σ} (P : Peer σ) (F : Nat) (w : World σ) (out : Bytes) :
    xchgW P (F + 1) w out =
      match (w.xchg P out).2 with
      | .data d => if isWtx d then xchgW P F (w.xchg P out).1 d else ((w.xchg P out).1, .data d)
      | e => ((w.xchg P out).1, e) := rfl

theorem xchgW_final {σ} (P : Peer σ) (F : Nat) (w : World σ) (out : Bytes)
    (h : ∀ d, (w.xchg P out).2 = .data d → isWtx d = false) : xchgW P (F + 1) w out = w.xchg P out := by
  rw [xchgW_succ]
  generalize w.xchg P out = x at h ⊢
  obtain ⟨w', r⟩ := x
  cases r with
  | data d => simp only [h d rfl]; rfl
  | _ => rfl

/-- one step of `_exchange`, the card answering with the block of the round, an S(WTX) request or (to the retry
block `out0`) R(ACK) with the other block number -/
theorem xchgW_step_em (cfg : CardCfg) (W : Nat) (R : Round) (hR : R.Ok cfg) (F : Nat)
    (ihEcho : ∀ (w : World Card) (out0 : Bytes), Pending cfg R.post R.B w.card → wl w.card ≤ W → wl w.card ≤ F →
      WLive cfg W R (nfaults w.script) (Fault.p ∉ w.script) out0
        (xchgW (isoPeer cfg) F w (wtxBlock cfg)).1 (xchgW (isoPeer cfg) F w (wtxBlock cfg)).2)
    (w : World Card) (out out0 : Bytes) (c' : Card) (o : Bytes) (hrx : Card.rx cfg w.card out = (c', some o))
    (hans : (Done R.post R.B c' ∧ o = R.B) ∨ (Pending cfg R.post R.B c' ∧ o = wtxBlock cfg) ∨
      (R.Pre c' ∧ out0 ≠ R.req ∧ ∃ a, o = [a] ∧ R.resend = some a))
    (hwl' : Em cfg R.post R.B c' → wl c' ≤ W) (hwlF : Pending cfg R.post R.B c' → wl c' ≤ F)
    (hst : St cfg R w.card) (hw : Em cfg R.post R.B w.card → wl w.card ≤ W) :
    WLive cfg W R (nfaults w.script) (Fault.p ∉ w.script) out0
      (xchgW (isoPeer cfg) (F + 1) w out).1 (xchgW (isoPeer cfg) (F + 1) w out).2 := by
  obtain ⟨hlegs, hnp⟩ := xchg_faulty (isoPeer cfg) w out c' o hrx
  have hst' : St cfg R c' := by
    rcases hans with h | h | h
    · exact Or.inr (Or.inl h.1)
    · exact Or.inr (Or.inr h.1)
    · exact Or.inl h.1
  rcases hlegs with ⟨hc, hr, hk⟩ | ⟨hc, hr, hk⟩
  · rw [xchgW_final _ _ _ _ hr.not_wtx]
    refine ⟨hnp, ?_, Or.inr ⟨by omega, ?_, hr⟩⟩
    · rcases hc with hc | hc <;> rw [hc] <;> assumption
    · rcases hc with hc | hc <;> rw [hc] <;> assumption
  · rw [xchgW_succ]
    simp only [hr]
    rcases hans with ⟨hd, rfl⟩ | ⟨hp, rfl⟩ | ⟨hpre, hne, a, rfl, ha⟩
    · obtain ⟨a, t, hB, _, hBw⟩ := hR.hB
      simp only [hBw, Bool.false_eq_true, if_false]
      exact ⟨hnp, by rw [hc]; exact hwl', Or.inl ⟨by omega, Or.inl ⟨rfl, by rw [hc]; exact hd⟩⟩⟩
    · simp only [isWtx_wtxBlock, if_true]
      have := ihEcho (w.xchg (isoPeer cfg) out).1 out0 (by rw [hc]; exact hp) (by rw [hc]; exact hwl' (Or.inr hp))
        (by rw [hc]; exact hwlF hp)
      exact this.mono (by omega) hnp
    · simp only [isWtx, Bool.false_eq_true, if_false]
      exact ⟨hnp, by rw [hc]; exact hwl', Or.inl ⟨by omega, Or.inr ⟨hne, by rw [hc]; exact hpre, a, rfl, ha⟩⟩⟩

theorem xchgW_live_echo (cfg : CardCfg) (W : Nat) (R : Round) (hR : R.Ok cfg) :
    ∀ (F : Nat) (w : World Card) (out0 : Bytes), Pending cfg R.post R.B w.card → wl w.card ≤ W → wl w.card ≤ F →
      WLive cfg W R (nfaults w.script) (Fault.p ∉ w.script) out0
        (xchgW (isoPeer cfg) F w (wtxBlock cfg)).1 (xchgW (isoPeer cfg) F w (wtxBlock cfg)).2 := by
  intro F
  induction F with
  | zero =>
    intro w out0 hp _ hF
    obtain ⟨_, _, n, hn⟩ := hp
    simp [wl, hn] at hF
  | succ F ih =>
    intro w out0 hp hW hF
    obtain ⟨c', o, hrx, hdec, hans⟩ := rx_live_echo cfg R w.card hp
    exact xchgW_step_em cfg W R hR F ih w (wtxBlock cfg) out0 c' o hrx (hans.imp_right Or.inl) (fun _ => by omega)
      (fun _ => by omega) (Or.inr (Or.inr hp)) (fun _ => hW)

theorem xchgW_live_first (cfg : CardCfg) (W : Nat) (R : Round) (hR : R.Ok cfg) (hL : R.Live cfg W)
    (F : Nat) (hF : W + 1 ≤ F) (w : World Card) (out : Bytes) (h : First cfg R w.card out)
    (hw : Em cfg R.post R.B w.card → wl w.card ≤ W) :
    WLive cfg W R (nfaults w.script) (Fault.p ∉ w.script) out
      (xchgW (isoPeer cfg) F w out).1 (xchgW (isoPeer cfg) F w out).2 := by
  obtain ⟨F', rfl⟩ : ∃ F', F = F' + 1 := ⟨F - 1, by omega⟩
  obtain ⟨c', o, hrx, hwl', hans⟩ := rx_live_first cfg W R hR hL w.card out h hw
  exact xchgW_step_em cfg W R hR F' (xchgW_live_echo cfg W R hR F') w out out c' o hrx hans hwl'
    (fun hp => by have := hwl' (Or.inr hp); omega) h.st hw


/-- while the retry block is out, one more step is needed to get back to the block of the round -/
def slack (R : Round) (out : Bytes) : Nat := if out = R.req then 0 else 1

theorem slack_le (R : Round) (out : Bytes) : slack R out ≤ 1 := by unfold slack; split <;> omega
theorem slack_req (R : Round) : slack R R.req = 0 := if_pos rfl
theorem slack_ne {R : Round} {out : Bytes} (h : out ≠ R.req) : slack R out = 1 := if_neg h

/-- the retry counter `i` leaves room for the `k` faults still in the script (a retransmission after R(ACK) costs one
more count, hence `2k`), and the fuel `f` is enough for a run within that budget -/
def Pot (R : Round) (n f i k : Nat) (out : Bytes) : Prop := i + 2 * k + slack R out ≤ n + 2 ∧ n + 3 ≤ i + f

/-- the fuel `f` is enough whatever the script does: at most two passes per count -/
def FuelOk (R : Round) (n f i : Nat) (out : Bytes) : Prop :=
  i + slack R out ≤ n + 2 ∧ 2 * (n + 2) + 1 + slack R out ≤ f + 2 * i

/-- outcome of a retry loop: with fuel for the worst case (`fuel`) it ends, and it ends well if the faults fit the
budget (`pot`, which also asks for the little fuel a good run needs) -/
def LLive (k : Nat) (fuel np pot : Prop) (w' : World Card) (res : Py Bytes) : Prop :=
  (fuel → res ≠ .error .outOfFuel) ∧
  (np → pot → (∃ d, res = .ok d) ∧ Fault.p ∉ w'.script ∧ nfaults w'.script ≤ k)

theorem FuelOk.fuel_pos {R : Round} {n f i : Nat} {out : Bytes} (h : FuelOk R n f i out) : 0 < f := by
  unfold FuelOk at h; omega

/-- after a failed attempt at a count `i ≤ n` the retry block goes out -/
theorem FuelOk.retry {R : Round} {n f i : Nat} {out : Bytes} (h : FuelOk R n (f + 1) i out) (hi : i ≤ n) :
    FuelOk R n f (i + 1) R.rty := by
  have := slack_le R R.rty
  unfold FuelOk at h ⊢; omega

/-- after R(ACK) for the retry block the block of the round goes out again -/
theorem FuelOk.resend {R : Round} {n f i : Nat} {out : Bytes} (h : FuelOk R n (f + 1) i out) (hne : out ≠ R.req) :
    FuelOk R n f (i + 1) R.req := by
  have := slack_ne hne
  have := slack_req R
  unfold FuelOk at h ⊢; omega

theorem Pot.fuel_pos {R : Round} {n f i k : Nat} {out : Bytes} (h : Pot R n f i k out) : 0 < f := by
  unfold Pot at h; omega

/-- while a fault is still to come the count is within the retry limit -/
theorem Pot.le_of_pos {R : Round} {n f i k : Nat} {out : Bytes} (h : Pot R n f i k out) (hk : 0 < k) : i ≤ n := by
  unfold Pot at h; omega

/-- a fault is paid with two counts: this retry and, at worst, the retransmission after R(ACK) -/
theorem Pot.retry {R : Round} {n f i k k' : Nat} {out : Bytes} (h : Pot R n (f + 1) i k out) (hk : k' < k) :
    Pot R n f (i + 1) k' R.rty := by
  have := slack_le R R.rty
  unfold Pot at h ⊢; omega

theorem Pot.resend {R : Round} {n f i k k' : Nat} {out : Bytes} (h : Pot R n (f + 1) i k out) (hne : out ≠ R.req)
    (hk : k' ≤ k) : Pot R n f (i + 1) k' R.req := by
  have := slack_ne hne
  have := slack_req R
  unfold Pot at h ⊢; omega

theorem LLive.mono {k : Nat} {fuel fuel' np pot pot' : Prop} {w' : World Card} {res : Py Bytes}
    (h : LLive k fuel np pot w' res) (hfuel : fuel' → fuel) (hpot : pot' → pot) : LLive k fuel' np pot' w' res :=
  ⟨fun hf => h.1 (hfuel hf), fun hnp hp => h.2 hnp (hpot hp)⟩

/-- a loop that ends well (if the faults fit its budget), then a second loop on what the first has left of the script:
the second one's budget is asked for the faults that are left, and they are not more than before -/
theorem LLive.seq {k : Nat} {fuel1 fuel2 fuel np pot1 pot2 pot : Prop} {w1 w2 : World Card} {res1 res2 : Py Bytes}
    (h1 : LLive k fuel1 np pot1 w1 res1)
    (h2 : LLive (nfaults w1.script) fuel2 (Fault.p ∉ w1.script) pot2 w2 res2)
    (hfuel : fuel → fuel2) (hpot1 : pot → pot1) (hpot2 : pot → nfaults w1.script ≤ k → pot2) :
    LLive k fuel np pot w2 res2 := by
  refine ⟨fun hf => h2.1 (hfuel hf), fun hnp hpot => ?_⟩
  obtain ⟨_, hnp1, hk1⟩ := h1.2 hnp (hpot1 hpot)
  obtain ⟨hok, hnp2, hk2⟩ := h2.2 hnp1 (hpot2 hpot hk1)
  exact ⟨hok, hnp2, Nat.le_trans hk2 hk1⟩

theorem blockLoop_live (cfg : CardCfg) (W : Nat) (R : Round) (hR : R.Ok cfg) (hL : R.Live cfg W)
    (F n : Nat) (hF : W + 1 ≤ F) :
    ∀ (f i : Nat) (out : Bytes) (w : World Card), First cfg R w.card out →
      (Em cfg R.post R.B w.card → wl w.card ≤ W) →
      LLive (nfaults w.script) (FuelOk R n f i out) (Fault.p ∉ w.script) (Pot R n f i (nfaults w.script) out)
        (blockLoop (isoPeer cfg) F n R.resend R.req R.rty f i out w).1
        (blockLoop (isoPeer cfg) F n R.resend R.req R.rty f i out w).2 := by
  intro f
  induction f with
  | zero =>
    intro i out w _ _
    exact ⟨fun hf => absurd hf.fuel_pos (Nat.lt_irrefl 0), fun _ hpot => absurd hpot.fuel_pos (Nat.lt_irrefl 0)⟩
  | succ f ih =>
    intro i out w hfirst hw
    have hW := xchgW_live_first cfg W R hR hL F hF w out hfirst hw
    unfold blockLoop
    generalize xchgW (isoPeer cfg) F w out = r1 at hW
    obtain ⟨w1, r⟩ := r1
    obtain ⟨hnp1, hw1, alt⟩ := hW
    simp only at hnp1 hw1 alt ⊢
    -- the retry branch, common to timeout / transmission error / empty frame
    have retry : ∀ (e : Exc), e ≠ .outOfFuel → nfaults w1.script < nfaults w.script → St cfg R w1.card →
        LLive (nfaults w.script) (FuelOk R n (f + 1) i out) (Fault.p ∉ w.script) (Pot R n (f + 1) i (nfaults w.script) out)
          (if i ≤ n then blockLoop (isoPeer cfg) F n R.resend R.req R.rty f (i + 1) R.rty w1 else (w1, .error e)).1
          (if i ≤ n then blockLoop (isoPeer cfg) F n R.resend R.req R.rty f (i + 1) R.rty w1 else (w1, .error e)).2 := by
      intro e he hk hst
      by_cases hin : i ≤ n
      · rw [if_pos hin]
        obtain ⟨h1, h2⟩ := ih (i + 1) R.rty w1 hst.first hw1
        refine ⟨fun hf => h1 (hf.retry hin), fun hnp hpot => ?_⟩
        obtain ⟨h3, h4, h5⟩ := h2 (hnp1 hnp) (hpot.retry hk)
        exact ⟨h3, h4, by omega⟩
      · rw [if_neg hin]
        exact ⟨fun _ => by simpa using he, fun _ hpot => absurd (hpot.le_of_pos (by omega)) hin⟩
    rcases alt with ⟨hk, ⟨rfl, hd⟩ | ⟨hne, hpre, a, rfl, ha⟩⟩ | ⟨hk, hst, rfl | rfl | rfl | ⟨rfl, hnnp⟩⟩
    · -- the block of the round arrived
      obtain ⟨a, t, hB, hres, _⟩ := hR.hB
      simp only [hB, if_neg hres]
      exact ⟨fun _ => by simp, fun hnp _ => ⟨⟨_, rfl⟩, hnp1 hnp, hk⟩⟩
    · -- R(ACK) with the other block number: send the block again
      simp only [if_pos ha]
      obtain ⟨h1, h2⟩ := ih (i + 1) R.req w1 (Or.inl ⟨hpre, Or.inl rfl⟩) hw1
      refine ⟨fun hf => h1 (hf.resend hne), fun hnp hpot => ?_⟩
      obtain ⟨h3, h4, h5⟩ := h2 (hnp1 hnp) (hpot.resend hne hk)
      exact ⟨h3, h4, by omega⟩
    · exact retry _ (by simp) hk hst
    · exact retry _ (by simp) hk hst
    · exact retry _ (by simp) hk hst
    · exact ⟨fun _ => by simp, fun hnp _ => absurd hnp hnnp⟩


theorem core_bn_ne {c : Card} {k : Core} (h : c.bn ≠ k.bn) : c.core ≠ k := by
  intro hc; exact h (by rw [← hc]; rfl)

theorem cmdRound_live (cfg : CardCfg) (W : Nat) (hW1 : cfg.wtxAck ≤ W) (hW2 : cfg.wtxI ≤ W) {pni : Nat} (hp : pni < 2)
    (acc : Bytes) (L : List Bytes) (c : Bytes) (more : Bool) : (cmdRound cfg pni acc L c more).Live cfg W where
  hwl := by
    rintro k _
    cases more
    · simp only [Bool.false_eq_true, if_false]
      rw [rx_iblk_last cfg k pni hp c, wl_emit]; exact hW2
    · simp only [if_true]
      rw [rx_iblk_more cfg k pni hp c, wl_emit]; exact hW1
  hdist := by
    intro h
    rcases bn_cases hp with rfl | rfl <;> cases more <;> simp at h
  hexcl := by
    rintro k ⟨hb, _, _⟩
    exact core_bn_ne (by rw [cmdRound_post_bn, hb]; exact tog_ne hp)

theorem ackRound_live (cfg : CardCfg) (W : Nat) (hW : cfg.wtxChain ≤ W) {pni : Nat} (hp : pni < 2) (T : Bytes) (hT : T ≠ [])
    (L : List Bytes) : (ackRound cfg pni T L).Live cfg W where
  hwl := by
    intro k hk
    simp only [Card.core, Core.mk.injEq] at hk
    obtain ⟨hb, _, ht, _⟩ := hk
    simp only
    rw [rx_ack_other cfg k pni hp (by rw [hb]; exact (tog_ne hp).symm) (by rw [ht]; exact hT), wl_emit]; exact hW
  hdist := fun _ => rfl
  hexcl := by
    intro k hk
    have hb : k.bn = (pni + 1) % 2 := by simpa [Card.core] using congrArg Core.bn hk
    exact core_bn_ne (by simp only; rw [hb]; exact tog_ne hp)

theorem pre_not_em {cfg : CardCfg} {W : Nat} {R : Round} (hL : R.Live cfg W) {c : Card} (h : R.Pre c) :
    Em cfg R.post R.B c → wl c ≤ W := by
  intro hem
  exfalso
  exact hL.hexcl c h hem.core

theorem round_live (cfg : CardCfg) (W : Nat) (R : Round) (hR : R.Ok cfg) (hL : R.Live cfg W) (F n : Nat)
    (hF : W + 1 ≤ F) (w : World Card) (hpre : R.Pre w.card) :
    LLive (nfaults w.script) (2 * n + 3 ≤ F) (Fault.p ∉ w.script) (n + 2 ≤ F ∧ 2 * nfaults w.script ≤ n + 1)
      (blockLoop (isoPeer cfg) F n R.resend R.req R.rty F 1 R.req w).1
      (blockLoop (isoPeer cfg) F n R.resend R.req R.rty F 1 R.req w).2 := by
  have := slack_req R
  exact (blockLoop_live cfg W R hR hL F n hF F 1 R.req w (Or.inl ⟨hpre, Or.inl rfl⟩) (pre_not_em hL hpre)).mono
    (fun hf => by unfold FuelOk; omega) (fun hk => by unfold Pot; omega)

theorem sendChunks_live (cfg : CardCfg) (W F nNak : Nat) (hF1 : W + 1 ≤ F)
    (hW1 : cfg.wtxAck ≤ W) (hW2 : cfg.wtxI ≤ W) (L : List Bytes) :
    ∀ (cs : List Bytes) (pni : Nat) (acc : Bytes) (w : World Card), cs ≠ [] → pni < 2 →
      w.card.bn = (pni + 1) % 2 → w.card.rxbuf = acc → w.card.log = L →
      LLive (nfaults w.script) (2 * nNak + 3 ≤ F) (Fault.p ∉ w.script) (nNak + 2 ≤ F ∧ 2 * nfaults w.script ≤ nNak + 1)
        (sendChunks (isoPeer cfg) F nNak cs pni w).1 (sendChunks (isoPeer cfg) F nNak cs pni w).2.2 := by
  intro cs
  induction cs with
  | nil => intro _ _ _ h; exact absurd rfl h
  | cons c rest ih =>
    intro pni acc w _ hp hb hr hl
    have hR := cmdRound_ok cfg hp acc L c (!rest.isEmpty)
    have hlive := round_live cfg W _ hR (cmdRound_live cfg W hW1 hW2 hp acc L c _) F nNak hF1 w ⟨hb, hr, hl⟩
    have hpost := round_post cfg _ hR F nNak w ⟨hb, hr, hl⟩
    rw [sendChunks_cons, sendStep_iso cfg hp acc L c _ _ _ hpost]
    simp only at hlive hpost
    generalize blockLoop _ _ _ _ _ _ _ _ _ _ = r1 at hlive hpost ⊢
    obtain ⟨w1, res⟩ := r1
    cases res with
    | error e => exact hlive
    | ok d =>
      cases rest with
      | nil => exact ⟨fun _ => by simp, fun hnp hpot => ⟨⟨_, rfl⟩, (hlive.2 hnp hpot).2⟩⟩
      | cons c2 rest2 =>
        obtain ⟨h1, h2, h3⟩ := cmdRound_next hp hpost.1.core
        exact hlive.seq (ih ((pni + 1) % 2) (acc ++ c) w1 (by simp) (tog_lt pni) h1 h2 h3) id id
          (fun hpot hk => ⟨hpot.1, by simp only at hk; omega⟩)

theorem recvChain_live (cfg : CardCfg) (W F nAck : Nat) (hF1 : W + 1 ≤ F)
    (hW : cfg.wtxChain ≤ W) (hchunk : 1 ≤ cfg.chunk) (L' : List Bytes) :
    ∀ (f pni : Nat) (data resp : Bytes) (w : World Card) (T : Bytes), RecvAt L' pni data w.card T → T.length < f →
      LLive (nfaults w.script) (2 * nAck + 3 ≤ F) (Fault.p ∉ w.script) (nAck + 2 ≤ F ∧ 2 * nfaults w.script ≤ nAck + 1)
        (recvChain (isoPeer cfg) F nAck f pni data resp w).1 (recvChain (isoPeer cfg) F nAck f pni data resp w).2.2 := by
  intro f
  induction f with
  | zero => intro _ _ _ _ T _ h; omega
  | succ f ih =>
    intro pni data resp w T h hlen
    have hpost := fun hT => round_post cfg _ (ackRound_ok cfg h.pni_lt T hT L') F nAck w h.pre
    rw [recvChain_succ, recvStep_iso cfg L' _ resp _ _ h hpost]
    by_cases hT : T = []
    · rw [if_pos hT]
      exact ⟨fun _ => by simp, fun hnp _ => ⟨⟨_, rfl⟩, hnp, Nat.le_refl _⟩⟩
    · rw [if_neg hT, if_neg not_false]
      have hlive := round_live cfg W _ (ackRound_ok cfg h.pni_lt T hT L') (ackRound_live cfg W hW h.pni_lt T hT L') F nAck hF1 w h.pre
      replace hpost := hpost hT
      simp only at hlive hpost
      generalize blockLoop _ _ _ _ _ _ _ _ _ _ = r1 at hlive hpost ⊢
      obtain ⟨w1, res⟩ := r1
      cases res with
      | error e => exact hlive
      | ok d =>
        have hTl : 0 < T.length := List.length_pos_iff.mpr hT
        exact hlive.seq (ih ((pni + 1) % 2) d (resp ++ d.drop 1) w1 (T.drop cfg.chunk)
          (by rw [hpost.2]; exact h.next hpost.1) (by simp; omega)) id id
          (fun hpot hk => ⟨hpot.1, by simp only at hk; omega⟩)

/-- `_exchange_command` against the ISO card: with fuel `2n + 3` it ends, and with few enough faults it succeeds
(for which fuel `n + 2` is enough) -/
theorem exchangeCmd_live (cfg : CardCfg) (W F : Nat) (pcd : Pcd) (cmd : Bytes) (w : World Card) (m : Nat)
    (hmiu : pcd.miu = (m : Int)) (hm : 1 ≤ m) (hcmd : cmd ≠ []) (hp : pcd.pni < 2) (hs : Sync pcd.pni w.card)
    (hchunk : 1 ≤ cfg.chunk) (hW1 : cfg.wtxAck ≤ W) (hW2 : cfg.wtxI ≤ W) (hW3 : cfg.wtxChain ≤ W)
    (hF1 : W + 1 ≤ F) (hF4 : (cfg.app w.card.log.length cmd).length < F) :
    LLive (nfaults w.script) (2 * pcd.nNak + 3 ≤ F ∧ 2 * pcd.nAck + 3 ≤ F) (Fault.p ∉ w.script)
      ((pcd.nNak + 2 ≤ F ∧ pcd.nAck + 2 ≤ F) ∧
        2 * nfaults w.script ≤ pcd.nNak + 1 ∧ 2 * nfaults w.script ≤ pcd.nAck + 1)
      (exchangeCmd (isoPeer cfg) F pcd cmd w).1 (exchangeCmd (isoPeer cfg) F pcd cmd w).2.2 := by
  have h0 : ¬ pcd.miu = 0 := by omega
  have h1 : ¬ (pcd.miu < 0 ∨ cmd = []) := by
    intro h; rcases h with h | h
    · omega
    · exact hcmd h
  have ht : pcd.miu.toNat = m := by omega
  obtain ⟨hfl, hne, hlen, _⟩ := chunks_spec m hm cmd hcmd
  have hsend := sendChunks_post cfg m F pcd.nNak hm w.card.log (fun _ => True) (fun _ _ => trivial)
    (chunks m cmd) pcd.pni [] w hne hp hs.1 hs.2 rfl hlen (fun _ _ => trivial)
  have hslive := sendChunks_live cfg W F pcd.nNak hF1 hW1 hW2 w.card.log (chunks m cmd) pcd.pni [] w hne hp hs.1 hs.2 rfl
  unfold exchangeCmd
  simp only [h0, h1, if_false, ht]
  rw [hfl, List.nil_append] at hsend
  generalize sendChunks _ _ _ _ _ _ = r1 at hsend hslive ⊢
  obtain ⟨w1, pni1, res⟩ := r1
  obtain ⟨_, hres⟩ := hsend
  cases res with
  | error e => exact hslive.mono And.left (fun hpot => ⟨hpot.1.1, hpot.2.1⟩)
  | ok d =>
    simp only at hres hslive ⊢
    exact hslive.seq (recvChain_live cfg W F pcd.nAck hF1 hW3 hchunk (w.card.log ++ [cmd])
      F pni1 d (d.drop 1) w1 _ hres.recvAt (by simp; omega)) And.right (fun hpot => ⟨hpot.1.1, hpot.2.1⟩)
      (fun hpot hk => ⟨hpot.1.2, by omega⟩)

end NfcVerif.IsoDep
