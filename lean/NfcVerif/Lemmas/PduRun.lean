import NfcVerif.Lemmas.PduSafe
/-!
The class decoders walk `(buffer, offset, size)`; the lemmas here move a loop to offset 0 of the octets it reads
(`*_shift`), free it of its fuel, and give the one step of the TLV loop (`run_param`) that everything about
parameter lists rests on, and the one round of the aggregate loop (`agfLoop_step`).
-/
namespace NfcVerif.Pdu
open NfcVerif
namespace Impl

theorem tlvLoop_done {σ : Type} {app : σ → Nat → TlvV → σ} {fuel : Nat} {d : Bytes} {off size : Nat} {st : σ}
    (h : size < 2) : tlvLoop app fuel d off size st = .ok st := by
  rw [tlvLoop.eq_def]; simp [h]

theorem tlvLoop_succ {σ : Type} {app : σ → Nat → TlvV → σ} {fuel : Nat} {d : Bytes} {off size : Nat} {st : σ}
    (h : ¬ size < 2) :
    tlvLoop app (fuel + 1) d off size st =
      (paramDecode d off >>= fun (t, l, v) => tlvLoop app fuel d (off + 2 + l) (size - 2 - l) (app st t v)) := by
  rw [tlvLoop.eq_def]; simp [h]

theorem tlvLoop_fuel {σ : Type} (app : σ → Nat → TlvV → σ) (f1 f2 : Nat) (d : Bytes) (off size : Nat) (st : σ)
    (h1 : size ≤ f1) (h2 : size ≤ f2) : tlvLoop app f1 d off size st = tlvLoop app f2 d off size st := by
  induction f1 generalizing f2 off size st with
  | zero => rw [tlvLoop_done (by omega), tlvLoop_done (by omega)]
  | succ n ih =>
    by_cases hs : size < 2
    · rw [tlvLoop_done hs, tlvLoop_done hs]
    · obtain ⟨m, rfl⟩ : ∃ m, f2 = m + 1 := ⟨f2 - 1, by omega⟩
      rw [tlvLoop_succ hs, tlvLoop_succ hs]
      congr 1
      funext ⟨t, l, v⟩
      exact ih _ _ _ _ (by omega) (by omega)

theorem getElem?_shift {α} (pre d : List α) (i : Nat) : (pre ++ d)[pre.length + i]? = d[i]? := by
  rw [List.getElem?_append_right (by omega)]
  congr 1
  omega

theorem unpackBB_shift (pre d : Bytes) (off : Nat) : unpackBB (pre ++ d) (pre.length + off) = unpackBB d off := by
  unfold unpackBB
  rw [getElem?_shift, Nat.add_assoc, getElem?_shift]

theorem unpackS_shift (n : Nat) (pre d : Bytes) (off : Nat) :
    unpackS n (pre ++ d) (pre.length + off) = unpackS n d off := by
  unfold unpackS
  have : (pre.length + off + n ≤ (pre ++ d).length) ↔ (off + n ≤ d.length) := by simp; omega
  simp only [this, List.drop_append, List.drop_eq_nil_of_le (Nat.le_add_right _ _), Nat.add_sub_cancel_left,
    List.nil_append]

theorem paramDecode_shift (pre d : Bytes) (off : Nat) :
    paramDecode (pre ++ d) (pre.length + off) = paramDecode d off := by
  rw [paramDecode_eq, paramDecode_eq]
  unfold paramRaw
  rw [unpackBB_shift]
  simp only [Nat.add_assoc, unpackS_shift]

theorem tlvLoop_shift {σ : Type} (app : σ → Nat → TlvV → σ) (fuel : Nat) (pre d : Bytes) (off size : Nat) (st : σ) :
    tlvLoop app fuel (pre ++ d) (pre.length + off) size st = tlvLoop app fuel d off size st := by
  induction fuel generalizing off size st with
  | zero => rw [tlvLoop.eq_def, tlvLoop.eq_def app 0 d]
  | succ n ih =>
    by_cases hs : size < 2
    · rw [tlvLoop_done hs, tlvLoop_done hs]
    · rw [tlvLoop_succ hs, tlvLoop_succ hs, paramDecode_shift]
      congr 1
      funext ⟨t, l, v⟩
      have : pre.length + off + 2 + l = pre.length + (off + 2 + l) := by omega
      dsimp only
      rw [this]
      exact ih _ _ _

/-- the loop over a parameter list that is the whole rest of the buffer -/
def run {σ : Type} (app : σ → Nat → TlvV → σ) (body : Bytes) (st : σ) : Py σ :=
  tlvLoop app body.length body 0 body.length st

theorem run_nil {σ : Type} (app : σ → Nat → TlvV → σ) (st : σ) : run app [] st = .ok st := by
  unfold run; exact tlvLoop_done (by simp)

theorem run_cons {σ : Type} (app : σ → Nat → TlvV → σ) (tlv rest : Bytes) (t l : Nat) (val : TlvV) (st : σ)
    (hp : paramDecode (tlv ++ rest) 0 = .ok (t, l, val)) (hl : tlv.length = 2 + l) :
    run app (tlv ++ rest) st = run app rest (app st t val) := by
  unfold run
  have hlen : (tlv ++ rest).length = (rest.length + l + 1) + 1 := by simp; omega
  rw [hlen, tlvLoop_succ (by omega), hp]
  simp only [Py.bind_ok]
  have h0 : 0 + 2 + l = tlv.length + 0 := by omega
  have h1 : rest.length + l + 1 + 1 - 2 - l = rest.length := by omega
  rw [h0, h1, tlvLoop_shift]
  exact tlvLoop_fuel _ _ _ _ _ _ _ (by omega) (by omega)

/-- what a class decoder does with one parameter of the format reading -/
def specStep {σ : Type} (app : σ → Nat → TlvV → σ) (s : σ) (p : Spec.Param) : σ :=
  app s (tlvOf p).1 (tlvOf p).2

theorem run_param {σ : Type} (app : σ → Nat → TlvV → σ) {t : Nat} {v : Bytes} {p : Spec.Param}
    (h : Spec.param t v = some p) (R : Bytes) (st : σ) :
    run app (t :: v.length :: (v ++ R)) st = run app R (specStep app st p) :=
  run_cons app (t :: v.length :: v) R _ v.length _ st (paramDecode_of_param h R) (by simp; omega)

theorem agfLoop_done (fuel : Nat) (d : Bytes) (off : Nat) (acc : List SPdu) :
    agfLoop fuel d off 0 acc = .ok acc := by
  rw [agfLoop.eq_def]; simp

theorem agfLoop_succ {fuel : Nat} {d : Bytes} {off size : Nat} {acc : List SPdu} (h : size ≠ 0) :
    agfLoop (fuel + 1) d off size acc =
      (structToDecode (unpackH d off) >>= fun n => decodeNested d (off + 2) n >>= fun p =>
        agfLoop fuel d (off + 2 + n) (size - 2 - n) (acc ++ [p])) := by
  rw [agfLoop.eq_def]; simp [h]

theorem unpackH_shift (pre d : Bytes) (off : Nat) : unpackH (pre ++ d) (pre.length + off) = unpackH d off := by
  unfold unpackH
  rw [getElem?_shift, Nat.add_assoc, getElem?_shift]

theorem decodeNested_shift (pre d : Bytes) (off n : Nat) :
    decodeNested (pre ++ d) (pre.length + off) n = decodeNested d off n := by
  unfold decodeNested decodePre
  have c : (pre.length + off + n > (pre ++ d).length) ↔ (off + n > d.length) := by simp; omega
  have sl : sliceN (pre ++ d) (pre.length + off) (pre.length + off + n) = sliceN d off (off + n) := by
    have e1 : pre.length + off + n - (pre.length + off) = n := by omega
    have e2 : off + n - off = n := by omega
    simp only [sliceN, List.drop_append, List.drop_eq_nil_of_le (Nat.le_add_right _ _), Nat.add_sub_cancel_left,
      List.nil_append, e1, e2]
  simp only [c, sl]

theorem agfLoop_shift (fuel : Nat) (pre d : Bytes) (off size : Nat) (acc : List SPdu) :
    agfLoop fuel (pre ++ d) (pre.length + off) size acc = agfLoop fuel d off size acc := by
  induction fuel generalizing off size acc with
  | zero => rw [agfLoop.eq_def, agfLoop.eq_def 0 d]
  | succ k ih =>
    by_cases hs : size = 0
    · subst hs; rw [agfLoop_done, agfLoop_done]
    · rw [agfLoop_succ hs, agfLoop_succ hs, unpackH_shift]
      congr 1
      funext n
      have e1 : pre.length + off + 2 = pre.length + (off + 2) := by omega
      rw [e1, decodeNested_shift]
      congr 1
      funext p
      have e2 : pre.length + (off + 2) + n = pre.length + (off + 2 + n) := by omega
      rw [e2]
      exact ih _ _ _

theorem agfLoop_step (k a b : Nat) (rest : Bytes) (acc : List SPdu) (hl : a * 256 + b ≤ rest.length) :
    agfLoop (k + 1) (a :: b :: rest) 0 (a :: b :: rest).length acc =
      (decodeNested (rest.take (a * 256 + b)) 0 (rest.take (a * 256 + b)).length >>= fun p =>
        agfLoop k (rest.drop (a * 256 + b)) 0 (rest.drop (a * 256 + b)).length (acc ++ [p])) := by
  generalize hn : a * 256 + b = n at hl ⊢
  have hu : structToDecode (unpackH (a :: b :: rest) 0) = .ok n := by
    simp [structToDecode, wrapExc, unpackH, hn]
  have e2 : (rest.take n).length = n := by simp; omega
  have e3 : a :: b :: rest = [a, b] ++ rest.take n ++ rest.drop n := by simp
  rw [agfLoop_succ (by simp), hu, ← decodeNested_local [a, b] (rest.take n) (rest.drop n), ← e3, e2]
  simp only [Py.bind_ok]
  refine congrArg _ (funext fun p => ?_)
  have e4 : 0 + 2 + n = ([a, b] ++ rest.take n).length + 0 := by simp [e2]; omega
  have e5 : (a :: b :: rest).length - 2 - n = (rest.drop n).length := by simp
  rw [e4, e5]
  conv => lhs; rw [e3]
  rw [agfLoop_shift]

end Impl
end NfcVerif.Pdu
