import NfcVerif.Lemmas.ExcFlow
/-!
What the instance theorems (`Props/ExcFlow*.lean`) make the kernel evaluate.  `checkAll` of `Model/ExcFlow.lean` keeps
every set as a list: `expand` asks `sub` once per class and `sub` walks the tree each time, every union, `dedup` and
handler test compares outcomes one by one, and every call site walks the list of summaries.  Classes and sites are
small numbers, so the same analysis is run on a representation the kernel computes with on binary numerals:

* a set of classes is a `Nat`, bit `c` set iff class `c` belongs to it; `descMask X T` is the set of classes below `X`,
  found in one pass over the tree (`testBit_descMask`: its bits are `sub`);
* a set of outcomes is an `OSet`, four flags and the set of raised classes; each operation of the list analysis has its
  counterpart there with one membership lemma (`mem_union`, `mem_seq`, `mem_bind` ...), `outsM` is `outs` written with
  them and `mem_outsM` says that it has the same members;
* a table keyed by site is a `Trie` (`find_ins`, `find_ofList`), `summTrie` is `summTable` (`testBit_summTrie`);
* `checkM` is `checkAll` written with these (only `checkM = true → checkAll = true` is proved and used).  The kernel
  evaluates `checkM ... = true`, and `checkAll_of_checkM` (with `checkOnly_of_checkM`, `escapesWithin_of_checkM`,
  `canEscape_of_checkM`) carries that to the checks of the model, about which `Lemmas/ExcFlow.lean` proves what they
  mean for `Runs`.
-/
namespace NfcVerif.ExcFlow

/-- bit `c` is set iff `c` is below `X`; the tree lists a class before its bases, so the set for `rest` already
holds every base of `k` that is below `X`, and what is listed after `X` itself is not below `X`: the walk ends there -/
def descMask (X : Cls) : Tree → Nat
  | [] => 2 ^ X
  | (k, bs) :: rest =>
    bif k.beq X then 2 ^ X else
    let D := descMask X rest
    bif bs.any (fun b => D.testBit b) then D ||| 2 ^ k else D

theorem sub_of_not_key {k d : Cls} : ∀ {T : Tree}, (∀ e ∈ T, e.1 ≠ k) → sub T k d = (k == d)
  | [], _ => rfl
  | (j, bs) :: rest, h => by
    have hj : (k == j) = false := beq_eq_false_iff_ne.mpr fun e => h _ List.mem_cons_self e.symm
    simp only [sub, hj, Bool.false_eq_true, if_false]
    rw [sub_of_not_key fun e he => h e (List.mem_cons_of_mem _ he), Bool.or_self]

theorem sub_of_not_mentioned {X : Cls} : ∀ {T : Tree}, (∀ e ∈ T, e.1 ≠ X ∧ X ∉ e.2) → ∀ c, sub T c X = (c == X)
  | [], _, _ => rfl
  | (j, bs) :: rest, h, c => by
    have ih := sub_of_not_mentioned (X := X) fun e he => h e (List.mem_cons_of_mem _ he)
    have hb : bs.any (fun b => b == X) = false :=
      List.any_eq_false.mpr fun b hb e => (h _ List.mem_cons_self).2 (eq_of_beq e ▸ hb)
    simp only [sub, ih, hb]
    cases c == X <;> cases c == j <;> rfl

theorem testBit_descMask (X c : Cls) : ∀ {T : Tree}, ordered T = true → (descMask X T).testBit c = sub T c X
  | [], _ => by
    rw [descMask, sub, Nat.testBit_two_pow, Bool.eq_iff_iff, decide_eq_true_iff, beq_iff_eq]
    exact eq_comm
  | (k, bs) :: rest, hT => by
    simp only [ordered, Bool.and_eq_true, List.all_eq_true, bne_iff_ne, ne_eq] at hT
    rw [descMask]
    cases hkX : k.beq X
    · have ih := fun b => testBit_descMask X b hT.2
      -- `k` is not listed in `rest`, so only `k = X` puts it below `X` there
      have hk : sub rest k X = (k == X) := sub_of_not_key fun e he => (hT.1.2 e he).1
      have hc : (c == X || sub rest c X) = sub rest c X := by
        cases h : c == X
        · rfl
        · rw [eq_of_beq h, sub_refl]; rfl
      simp only [cond_false, sub, ih]
      by_cases hck : c = k
      · subst hck
        cases hany : bs.any (fun b => sub rest b X) <;> simp [ih, hk, Nat.testBit_or]
      · have : ¬ k = c := fun e => hck e.symm
        cases hany : bs.any (fun b => sub rest b X) <;> simp [ih, hck, this, hc, Nat.testBit_or]
    · obtain rfl := Nat.eq_of_beq_eq_true hkX
      -- `rest` does not mention `k`: nothing there is below `k`
      have hm := sub_of_not_mentioned (X := k) (T := rest) fun e he => ⟨(hT.1.2 e he).1, by simpa using (hT.1.2 e he).2⟩
      have hb : bs.any (fun b => b == k) = false :=
        List.any_eq_false.mpr fun b hb e => by simp [← eq_of_beq e, hb] at hT
      simp only [cond_true, Nat.testBit_two_pow, sub, hm, hb]
      cases h : c == k
      · simpa using fun e => by simp [e] at h
      · simpa using (eq_of_beq h).symm

/-- a set of outcomes: the four outcomes without a class, and the set of classes `k` with `raised k` -/
structure OSet where
  n : Bool
  r : Bool
  b : Bool
  c : Bool
  ex : Nat

namespace OSet

def mem (s : OSet) : Outcome → Bool
  | .normal => s.n
  | .returned => s.r
  | .broke => s.b
  | .continued => s.c
  | .raised k => s.ex.testBit k

def empty : OSet := ⟨false, false, false, false, 0⟩

def single : Outcome → OSet
  | .normal => ⟨true, false, false, false, 0⟩
  | .returned => ⟨false, true, false, false, 0⟩
  | .broke => ⟨false, false, true, false, 0⟩
  | .continued => ⟨false, false, false, true, 0⟩
  | .raised k => ⟨false, false, false, false, 2 ^ k⟩

def classes (m : Nat) : OSet := ⟨false, false, false, false, m⟩

def union (a b : OSet) : OSet := ⟨a.n || b.n, a.r || b.r, a.b || b.b, a.c || b.c, a.ex ||| b.ex⟩

def seq (a b : OSet) : OSet := bif a.n then union { a with n := false } b else a

def loop (s : OSet) : OSet := ⟨s.b, s.r, false, false, s.ex⟩

/-- `filter isJump` -/
def jumps (s : OSet) : OSet := ⟨false, s.r, s.b, s.c, 0⟩

def overBits (f : Cls → OSet) (m : Nat) : Nat → OSet
  | 0 => empty
  | c + 1 => bif m.testBit c then union (f c) (overBits f m c) else overBits f m c

/-- `flatMap` -/
def bind (s : OSet) (f : Outcome → OSet) : OSet :=
  union (bif s.n then f .normal else empty) (union (bif s.r then f .returned else empty)
    (union (bif s.b then f .broke else empty) (union (bif s.c then f .continued else empty)
      (overBits (fun k => f (.raised k)) s.ex (s.ex.log2 + 1)))))

/-- `finOut o1` over the outcomes `s` of the `finally` block -/
def fin (o1 : Outcome) (s : OSet) : OSet := bif s.n then union (single o1) { s with n := false } else s

variable {a b s : OSet} {o : Outcome}

theorem mem_empty : empty.mem o = false := by
  cases o <;> simp [mem, empty]

theorem mem_cond {c : Bool} : (bif c then s else empty).mem o = true ↔ c = true ∧ s.mem o = true := by
  cases c <;> simp [mem_empty]

theorem mem_single {x : Outcome} : (single x).mem o = true ↔ o = x := by
  cases x <;> cases o <;> simp [mem, single, Nat.testBit_two_pow, eq_comm]

theorem mem_classes {m : Nat} : (classes m).mem o = true ↔ ∃ k, o = .raised k ∧ m.testBit k = true := by
  cases o <;> simp [mem, classes]

theorem mem_union : (union a b).mem o = true ↔ a.mem o = true ∨ b.mem o = true := by
  cases o <;> simp [mem, union, Nat.testBit_or]

theorem mem_seq : (seq a b).mem o = true ↔
    (a.mem o = true ∧ o ≠ .normal) ∨ (a.mem .normal = true ∧ b.mem o = true) := by
  cases hn : a.n <;> cases o <;> simp [seq, mem, union, hn]

theorem mem_loop : (loop s).mem o = true ↔ (o = .returned ∧ s.mem .returned = true) ∨
    (∃ k, o = .raised k ∧ s.mem (.raised k) = true) ∨ (o = .normal ∧ s.mem .broke = true) := by
  cases o <;> simp [loop, mem]

theorem mem_jumps : (jumps s).mem o = true ↔ s.mem o = true ∧ isJump o = true := by
  cases o <;> simp [jumps, mem, isJump]

theorem mem_overBits {f : Cls → OSet} {m : Nat} : ∀ {n : Nat},
    (overBits f m n).mem o = true ↔ ∃ k, k < n ∧ m.testBit k = true ∧ (f k).mem o = true
  | 0 => by simp [overBits, mem_empty]
  | n + 1 => by
    simp only [Nat.lt_succ_iff_lt_or_eq, or_and_right, exists_or, exists_eq_left, ← mem_overBits (n := n), overBits]
    cases m.testBit n <;> simp [mem_union, or_comm]

/-- the bound `overBits` is called with covers every class of the set -/
theorem lt_of_testBit {m k : Nat} (h : m.testBit k = true) : k < m.log2 + 1 :=
  Nat.lt_of_not_le fun hle => by
    rw [Nat.testBit_lt_two_pow (Nat.lt_of_lt_of_le Nat.lt_log2_self (Nat.pow_le_pow_right (by decide) hle))] at h
    cases h

theorem mem_overBits_log2 {f : Cls → OSet} {m : Nat} :
    (overBits f m (m.log2 + 1)).mem o = true ↔ ∃ k, m.testBit k = true ∧ (f k).mem o = true :=
  mem_overBits.trans ⟨fun ⟨k, _, h⟩ => ⟨k, h⟩, fun ⟨k, h⟩ => ⟨k, lt_of_testBit h.1, h⟩⟩

theorem mem_bind {f : Outcome → OSet} :
    (bind s f).mem o = true ↔ ∃ o1, s.mem o1 = true ∧ (f o1).mem o = true := by
  simp only [bind, mem_union, mem_cond, mem_overBits_log2]
  constructor
  · rintro (h | h | h | h | ⟨k, h⟩)
    · exact ⟨.normal, h⟩
    · exact ⟨.returned, h⟩
    · exact ⟨.broke, h⟩
    · exact ⟨.continued, h⟩
    · exact ⟨.raised k, h⟩
  · rintro ⟨o1, h⟩
    cases o1 with
    | normal => exact .inl h
    | returned => exact .inr (.inl h)
    | broke => exact .inr (.inr (.inl h))
    | continued => exact .inr (.inr (.inr (.inl h)))
    | raised k => exact .inr (.inr (.inr (.inr ⟨k, h⟩)))

theorem mem_fin {o1 : Outcome} : (fin o1 s).mem o = true ↔ ∃ o2, s.mem o2 = true ∧ finOut o1 o2 = o := by
  have h2 : (∃ o2, s.mem o2 = true ∧ finOut o1 o2 = o) ↔ (s.n = true ∧ o = o1) ∨ (s.mem o = true ∧ o ≠ .normal) :=
    ⟨fun ⟨o2, h, e⟩ => by
      by_cases hn : o2 = .normal
      · subst hn; exact .inl ⟨h, by simpa [finOut] using e.symm⟩
      · rw [finOut, if_neg hn] at e; subst e; exact .inr ⟨h, hn⟩,
     fun h => h.elim (fun ⟨hn, e⟩ => ⟨.normal, hn, by simp [finOut, e]⟩) (fun ⟨hm, hn⟩ => ⟨o, hm, by simp [finOut, hn]⟩)⟩
  rw [h2, fin]
  cases hn : s.n
  · cases o <;> simp [mem, hn]
  · rw [cond_true, mem_union, mem_single]
    cases o <;> simp [mem]

end OSet
open OSet

mutual
def outsM (W : World) (asm : Site → Nat) : Option Cls → Stmt → OSet
  | _, .skip => single .normal
  | _, .ret => single .returned
  | _, .brk => single .broke
  | _, .cont => single .continued
  | _, .call k => union (single .normal) (classes (asm k))
  | _, .raise c => single (.raised c)
  | cur, .reraise => match cur with
    | some k => single (.raised k)
    | none => single (.raised W.rte)
  | cur, .seq a b => seq (outsM W asm cur a) (outsM W asm cur b)
  | cur, .branch a b => union (outsM W asm cur a) (outsM W asm cur b)
  | cur, .loop b e => union (outsM W asm cur e) (loop (outsM W asm cur b))
  | cur, .tryExcept body hs e =>
    let ob := outsM W asm cur body
    union (union (bif ob.mem .normal then outsM W asm cur e else empty) (jumps ob))
      (overBits (fun c => outsHM W asm c hs) ob.ex (ob.ex.log2 + 1))
  | cur, .tryFinally body fin =>
    bind (outsM W asm cur body) (fun o1 => OSet.fin o1 (outsM W asm (curAfter cur o1) fin))
  | _, .other _ => union (single .normal) (union (single .returned) (union (single .broke)
      (union (single .continued) (classes (descMask W.top W.tree)))))
def outsHM (W : World) (asm : Site → Nat) : Cls → Handlers → OSet
  | c, .nil => single (.raised c)
  | c, .cons cs h rest =>
    bif cs.any (fun A => (descMask A W.tree).testBit c) then outsM W asm (some c) h else outsHM W asm c rest
end

mutual
theorem mem_outsM {W : World} (hT : ordered W.tree = true) {asm : Site → List Cls} {asmM : Site → Nat}
    (ha : ∀ k c, c ∈ asm k ↔ (asmM k).testBit c = true) :
    ∀ (s : Stmt) (cur : Option Cls) (o : Outcome), o ∈ outs W asm cur s ↔ (outsM W asmM cur s).mem o = true
  | .skip, cur, o | .ret, cur, o | .brk, cur, o | .cont, cur, o | .raise _, cur, o => by
    simp [outs, outsM, mem_single]
  | .call k, cur, o => by cases o <;> simp [outs, outsM, mem_union, mem_single, mem_classes, ha]
  | .reraise, cur, o => by cases cur <;> simp [outs, outsM, mem_single]
  | .seq a b, cur, o => by
    simp only [outs, outsM, mem_seqO, mem_seq, mem_outsM hT ha a, mem_outsM hT ha b]
  | .branch a b, cur, o => by
    simp only [outs, outsM, mem_uni, mem_union, mem_outsM hT ha a, mem_outsM hT ha b]
  | .loop b e, cur, o => by
    simp only [outs, outsM, mem_uni, mem_loopO, mem_union, mem_loop, mem_outsM hT ha b, mem_outsM hT ha e]
  | .tryExcept body hs e, cur, o => by
    simp only [outs, outsM, mem_uni, mem_dedup, List.mem_filter, List.contains_eq_mem, decide_eq_true_eq,
      List.mem_ite_nil_right, mem_union, mem_cond, mem_jumps, mem_overBits_log2, mem_outsM hT ha body,
      mem_outsM hT ha e]
    refine or_congr .rfl ?_
    -- the handlers: one class of the body's outcomes at a time on both sides
    rw [List.mem_flatMap]
    constructor
    · rintro ⟨o1, h1, h2⟩
      cases o1 <;> simp at h2
      exact ⟨_, (mem_outsM hT ha body _ _).mp h1, (mem_outsHM hT ha hs _ _).mp h2⟩
    · rintro ⟨k, h1, h2⟩
      exact ⟨.raised k, (mem_outsM hT ha body _ _).mpr h1, (mem_outsHM hT ha hs _ _).mpr h2⟩
  | .tryFinally body fin, cur, o => by
    simp only [outs, outsM, mem_dedup, List.mem_flatMap, List.mem_map, mem_bind, mem_fin, mem_outsM hT ha body,
      mem_outsM hT ha fin]
  | .other src, cur, o => by
    simp only [outs, outsM, mem_allOutcomes hT, mem_union, mem_single, mem_classes, testBit_descMask _ _ hT,
      sub_iff_below hT]
theorem mem_outsHM {W : World} (hT : ordered W.tree = true) {asm : Site → List Cls} {asmM : Site → Nat}
    (ha : ∀ k c, c ∈ asm k ↔ (asmM k).testBit c = true) :
    ∀ (hs : Handlers) (c : Cls) (o : Outcome), o ∈ outsH W asm c hs ↔ (outsHM W asmM c hs).mem o = true
  | .nil, c, o => by simp [outsH, outsHM, mem_single]
  | .cons cs h rest, c, o => by
    simp only [outsH, outsHM, testBit_descMask _ _ hT]
    cases cs.any (fun A => sub W.tree c A)
    · simpa using mem_outsHM hT ha rest c o
    · simpa using mem_outsM hT ha h (some c) o
end

/-- finite maps from numbers: the key is read from its lowest bit up (`Nat.beq` and not `==`: the kernel computes it
on numerals without unfolding an instance) -/
inductive Trie (α : Type) where
  | leaf
  | node (v : Option α) (l r : Trie α)

namespace Trie
variable {α : Type}

def val : Trie α → Option α
  | leaf => none
  | node v _ _ => v
def left : Trie α → Trie α
  | leaf => leaf
  | node _ l _ => l
def right : Trie α → Trie α
  | leaf => leaf
  | node _ _ r => r

def find : Trie α → Nat → Option α
  | leaf, _ => none
  | node v l r, k => bif k.beq 0 then v else bif (k % 2).beq 0 then l.find (k / 2) else r.find (k / 2)

/-- `fuel`: more than the number of bits of `k`.  `t` is read through `val` / `left` / `right` and not matched, so the
new node is there before `t` is evaluated: a lookup only evaluates the nodes on its path -/
def insert (a : α) : Nat → Trie α → Nat → Trie α
  | 0, t, _ => t
  | fuel + 1, t, k =>
    bif k.beq 0 then node (some a) t.left t.right else
    bif (k % 2).beq 0 then node t.val (insert a fuel t.left (k / 2)) t.right
    else node t.val t.left (insert a fuel t.right (k / 2))

theorem find_eq (t : Trie α) (k : Nat) :
    t.find k = bif k.beq 0 then t.val else bif (k % 2).beq 0 then t.left.find (k / 2) else t.right.find (k / 2) := by
  cases t <;> simp [find, val, left, right]

theorem find_insert (a : α) : ∀ (fuel : Nat) (t : Trie α) (k k' : Nat), k < 2 ^ fuel →
    (insert a (fuel + 1) t k).find k' = if k' = k then some a else t.find k'
  | fuel, t, k, k', hk => by
    rw [insert, find_eq t k']
    have e0 : ∀ n : Nat, n.beq 0 = decide (n = 0) := fun n => by cases n <;> simp [Nat.beq]
    by_cases h0 : k = 0
    · subst h0
      by_cases h0' : k' = 0 <;> simp [find, e0, h0']
    · obtain ⟨fuel, rfl⟩ : ∃ f, fuel = f + 1 := by
        cases fuel with
        | zero => omega
        | succ f => exact ⟨f, rfl⟩
      have hk2 : k / 2 < 2 ^ fuel := by rw [Nat.pow_succ] at hk; omega
      have ih := find_insert a fuel
      by_cases h0' : k' = 0
      · subst h0'
        have : ¬ 0 = k := fun e => h0 e.symm
        by_cases h2 : k % 2 = 0 <;> simp [find, e0, h0, h2, this]
      · have hkk : k' = k ↔ k' % 2 = k % 2 ∧ k' / 2 = k / 2 := by omega
        simp only [hkk]
        rcases Nat.mod_two_eq_zero_or_one k with h2 | h2 <;> rcases Nat.mod_two_eq_zero_or_one k' with h2' | h2' <;>
          simp [find, e0, h0, h2, h0', h2', ih _ _ _ hk2]

def ins (t : Trie α) (k : Nat) (a : α) : Trie α := insert a (k + 1) t k

theorem find_ins (t : Trie α) (k k' : Nat) (a : α) : (t.ins k a).find k' = if k' = k then some a else t.find k' :=
  find_insert a k t k k' Nat.lt_two_pow_self

def ofList : List (Nat × α) → Trie α
  | [] => leaf
  | (k, a) :: l => (ofList l).ins k a

theorem find_ofList : ∀ (l : List (Nat × α)) (k : Nat), (ofList l).find k = l.lookup k
  | [], _ => rfl
  | (j, a) :: l, k => by
    rw [ofList, find_ins, find_ofList l, List.lookup_cons]
    by_cases h : k = j
    · simp [h]
    · simp [h, beq_eq_false_iff_ne.mpr h]

end Trie

def maskOf (T : Tree) (l : List Cls) : Nat := l.foldr (fun X m => descMask X T ||| m) 0

theorem testBit_maskOf {T : Tree} (hT : ordered T = true) (c : Cls) (l : List Cls) :
    (maskOf T l).testBit c = l.any (fun A => sub T c A) := by
  induction l with
  | nil => simp [maskOf]
  | cons X l ih => rw [maskOf, List.foldr_cons, Nat.testBit_or, testBit_descMask _ _ hT, List.any_cons, ← ih]; rfl

/-- `lookupT` -/
def lookM (t : Trie Nat) (base : Site → Nat) (k : Site) : Nat :=
  match t.find k with
  | some m => m
  | none => base k

def summTrie (W : World) (base : Site → Nat) : Prog → Trie Nat
  | [] => .leaf
  | (f, body) :: rest =>
      let t := summTrie W base rest
      t.ins f (outsM W (lookM t base) none body).ex

theorem testBit_summTrie {W : World} (hT : ordered W.tree = true) {base : Site → List Cls} {baseM : Site → Nat}
    (hb : ∀ k c, c ∈ base k ↔ (baseM k).testBit c = true) :
    ∀ (P : Prog) (k : Site) (c : Cls), c ∈ summ W base P k ↔ (lookM (summTrie W baseM P) baseM k).testBit c = true
  | [], k, c => hb k c
  | (f, body) :: rest, k, c => by
    simp only [summ, summTrie, lookM, Trie.find_ins]
    by_cases hk : k = f
    · subst hk
      simp only [if_true, escapes, mem_raisedOf]
      exact mem_outsM hT (testBit_summTrie hT hb rest) body none (.raised c)
    · simp only [hk, if_false]
      exact testBit_summTrie hT hb rest k c

/-- `m ||| a == a`: every class of `m` is in `a`; `m &&& b == 0`: none is in `b` -/
def checkM (W : World) (tbl : List (Site × List Cls)) (P : Prog) (only never : List (Site × List Cls))
    (can : List (Site × Cls)) : Bool :=
  let tb := Trie.ofList tbl
  let base := fun k => maskOf W.tree (match tb.find k with | some l => l | none => [W.top])
  let t := summTrie W base P
  only.all (fun fa => let a := maskOf W.tree fa.2; (lookM t base fa.1 ||| a) == a) &&
  never.all (fun fb => (lookM t base fb.1 &&& maskOf W.tree fb.2) == 0) &&
  can.all (fun fc => (lookM t base fc.1).testBit fc.2)

theorem checkAll_of_checkM {W : World} (hT : ordered W.tree = true) {tbl : List (Site × List Cls)} {P : Prog}
    {only never : List (Site × List Cls)} {can : List (Site × Cls)} (h : checkM W tbl P only never can = true) :
    checkAll W tbl P only never can = true := by
  have hb : ∀ k c, c ∈ expandAll W.tree (lookupAbs W tbl k) ↔
      (maskOf W.tree (match (Trie.ofList tbl).find k with | some l => l | none => [W.top])).testBit c = true :=
    fun k c => by rw [testBit_maskOf hT, mem_expandAll hT, any_sub_iff hT, Trie.find_ofList]; rfl
  have hs := testBit_summTrie hT hb P
  simp only [checkM, Bool.and_eq_true, List.all_eq_true, beq_iff_eq] at h
  simp only [checkAll, summTable_eq, Bool.and_eq_true, List.all_eq_true, List.contains_eq_mem, decide_eq_true_eq]
  refine ⟨⟨fun fa hfa c hc => ?_, fun fb hfb c hc => ?_⟩, fun fc hfc => (hs _ _).mpr (h.2 fc hfc)⟩
  · rw [← testBit_maskOf hT, ← h.1.1 fa hfa, Nat.testBit_or, (hs _ _).mp hc]
    rfl
  · have := congrArg (Nat.testBit · c) (h.1.2 fb hfb)
    simp only [Nat.testBit_and, (hs _ _).mp hc, Bool.true_and, Nat.zero_testBit, testBit_maskOf hT] at this
    rw [this]
    rfl

theorem checkOnly_of_checkM {W : World} (hT : ordered W.tree = true) {tbl : List (Site × List Cls)} {P : Prog}
    {specs : List (Site × List Cls)} (h : checkM W tbl P specs [] [] = true) : checkOnly W tbl P specs = true :=
  (checkAll_split (checkAll_of_checkM hT h)).1

theorem escapesWithin_of_checkM {W : World} (hT : ordered W.tree = true) {tbl : List (Site × List Cls)} {P : Prog}
    {f : Site} {allowed : List Cls} (h : checkM W tbl P [(f, allowed)] [] [] = true) :
    escapesWithin W tbl P f allowed = true := by
  have := checkOnly_of_checkM hT h
  simpa [checkOnly, summTable_eq, escapesWithin] using this

theorem canEscape_of_checkM {W : World} (hT : ordered W.tree = true) {tbl : List (Site × List Cls)} {P : Prog}
    {f : Site} {c : Cls} (h : checkM W tbl P [] [] [(f, c)] = true) : canEscape W tbl P f c = true := by
  have := (checkAll_split (checkAll_of_checkM hT h)).2.2
  simpa [checkCan, summTable_eq, canEscape] using this

end NfcVerif.ExcFlow
