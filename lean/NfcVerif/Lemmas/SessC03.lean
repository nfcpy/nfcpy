import NfcVerif.Model.SessC03
import NfcVerif.Lemmas.CtlC03
import NfcVerif.Lemmas.T1Format
/-!
Sessions on one tag object (`Model/SessC03`).  `Coherent`: the cached NDEF object is what a new reader would compute.  On a
coherent session a call is the same call on a fresh object (`step_fresh`), and an admissible call (`Adm`) leaves the session
coherent (`step_coherent`; for a write this is the round trip, `klass_write_state`).  `fmt_layout`: the image a Topaz format
leaves reads as the factory layout, whatever was on the tag (`topaz_format_layout`, `topaz512_format_layout`).
-/
namespace NfcVerif.Tlv
open NfcVerif

/-- the cached NDEF object (if any) is what a new reader would compute on the tag's memory, and its
memory image is the tag's memory -/
def Coherent (k : Klass) (s : Sess) : Prop :=
  ∀ L C, s.ndef = some (L, C) → C = s.tag ∧ k.rdNdef s.tag = .ok (some L)

theorem coherent_fresh (k : Klass) (m : Bytes) : Coherent k ⟨m, none⟩ := by
  intro L C h; cases h

theorem coherent_new (k : Klass) (m : Bytes) (L : Layout) (hr : k.rdNdef m = .ok (some L)) :
    Coherent k ⟨m, some (L, m)⟩ := by
  intro L' C' h; cases h; exact ⟨rfl, hr⟩

theorem getNdef_fresh (k : Klass) (s : Sess) (hc : Coherent k s) : getNdef k s = getNdef k ⟨s.tag, none⟩ := by
  obtain ⟨tag, nd⟩ := s
  cases nd with
  | none => rfl
  | some o =>
    obtain ⟨L, C⟩ := o
    obtain ⟨rfl, hr⟩ := hc L C rfl
    unfold getNdef; simp only; rw [hr]

theorem getNdef_new (k : Klass) (m : Bytes) :
    (∃ L, k.rdNdef m = .ok (some L) ∧ getNdef k ⟨m, none⟩ = (.ok (some (L, m)), ⟨m, some (L, m)⟩))
    ∨ getNdef k ⟨m, none⟩ = (.ok none, ⟨m, none⟩) ∨ ∃ e, getNdef k ⟨m, none⟩ = (.error e, ⟨m, none⟩) := by
  unfold getNdef; simp only
  cases hr : k.rdNdef m with
  | error e => exact Or.inr (Or.inr ⟨e, rfl⟩)
  | ok o =>
    cases o with
    | none => exact Or.inr (Or.inl rfl)
    | some L => exact Or.inl ⟨L, rfl, rfl⟩

/-- **cached state does not show**: on a coherent session every application call sends the same
commands, returns the same and leaves the same tag memory as the same call on a fresh tag object
activated on that memory -/
theorem step_fresh (k : Klass) (s : Sess) (op : Op) (hc : Coherent k s) :
    (step k true s op).1 = (step k true ⟨s.tag, none⟩ op).1
    ∧ (step k true s op).2.tag = (step k true ⟨s.tag, none⟩ op).2.tag := by
  have hg := getNdef_fresh k s hc
  cases op with
  | read => simp only [step, hg, and_self]
  | write data => simp only [step, hg, and_self]
  | protect => cases k <;> simp only [step, hg, and_self]
  | format version wipe =>
    -- only the Type 2 `_format` works on the cached object
    cases k with
    | t2 => simp only [step, hg, and_self]
    | t1 => exact ⟨rfl, rfl⟩
    | topaz | topaz512 => simp only [step]; split <;> exact ⟨rfl, rfl⟩

/-- the Type 2 reader's "inside the data area" test accepts what the writer stored -/
theorem write_state_t2 (m : Bytes) (L : Layout) (data : Bytes)
    (hread : readNdefT2 m = .ok (some L)) (hwf : WF t2Cfg m L) (hcap : (data.length : Int) ≤ L.cap)
    (hw : L.writeable = true) :
    (setOctets t2Cfg m L data).res = .ok ()
    ∧ readNdefT2 (apply m (setOctets t2Cfg m L data).cmds) = .ok (some { L with ndef := data }) := by
  have hR := (readNdef_some _ _ _).1 (readNdefT2_some m L hread).1
  obtain ⟨m1, m2, m3a, m3, w, hnew⟩ := roundtrip t2Cfg m L data hR hwf hcap
  obtain ⟨hcm, hap⟩ := w.setOctets_eq hw hcap hwf.2.1
  obtain ⟨i1, i2⟩ := w.inside (by rw [← hR.cap]; exact hcap)
  refine ⟨by rw [hcm], ?_⟩
  rw [hap]
  unfold readNdefT2
  rw [(readNdef_some _ _ _).2 hnew]
  simp only
  rw [w.head_eq, if_neg (by omega)]

theorem rdNdef_readNdef (k : Klass) (m : Bytes) (L : Layout) (h : k.rdNdef m = .ok (some L)) :
    readNdef k.cfg m = .ok (some L) := by
  cases k with
  | t2 => exact (readNdefT2_some m L h).1
  | t1 | topaz | topaz512 => exact h

theorem klass_write_state (k : Klass) (m : Bytes) (L : Layout) (data : Bytes)
    (hread : k.rdNdef m = .ok (some L)) (hwf : WF k.cfg m L) (hcap : (data.length : Int) ≤ L.cap)
    (hw : L.writeable = true) :
    (setOctets k.cfg m L data).res = .ok ()
    ∧ k.rdNdef (apply m (setOctets k.cfg m L data).cmds) = .ok (some { L with ndef := data }) := by
  cases k with
  | t2 => exact write_state_t2 m L data hread hwf hcap hw
  | t1 | topaz | topaz512 => exact write_state _ m L data hread hwf hcap hw

theorem setOctets_refused (c : Cfg) (m : Bytes) (L : Layout) (data : Bytes)
    (h : ¬ (L.writeable = true ∧ (data.length : Int) ≤ L.cap)) :
    (setOctets c m L data).cmds = [] ∧ ∃ e, (setOctets c m L data).res = .error e := by
  unfold setOctets
  by_cases hw : L.writeable = true
  · have : (data.length : Int) > L.cap := by
      apply Classical.byContradiction; intro hn; exact h ⟨hw, by omega⟩
    rw [if_neg (by simp [hw]), if_pos this]; exact ⟨rfl, _, rfl⟩
  · rw [if_pos (by simpa using hw)]; exact ⟨rfl, _, rfl⟩

/-- what a call needs so that the session stays coherent: the layout on the tag is well-formed (write);
`protect()` does not end in a command error half way -/
def Adm (k : Klass) (m : Bytes) : Op → Prop
  | .write _ => ∀ L, k.rdNdef m = .ok (some L) → WF k.cfg m L
  | .protect => ∀ e, (step k true ⟨m, none⟩ .protect).1.res ≠ .error e
  | _ => True

theorem protectT2_false_cmds (m : Bytes) (h : (protectT2 m).res = .ok false) : (protectT2 m).cmds = [] := by
  unfold protectT2 at h ⊢
  split
  · rfl
  · rfl
  · rename_i L hL
    rw [hL] at h; simp only at h
    split
    · rfl
    · rename_i m1 hm1
      rw [hm1] at h; simp only at h
      split
      · rename_i e he; rw [he] at h; simp only at h; cases h
      · rename_i m2 hm2; rw [hm2] at h; simp only at h; cases h

theorem protectT1_false_cmds (tk : T1Kind) (u : Nat) (m : Bytes) (h : (protectT1 tk u m).res = .ok false) :
    (protectT1 tk u m).cmds = [] := by
  unfold protectT1 at h ⊢
  split
  · rfl
  · rfl
  · rename_i L hL
    rw [hL] at h; simp only at h
    split at h
    · cases h
    · cases h

theorem protectT1_state (k : Klass) (tk : T1Kind) (u : Nat) (m : Bytes) (L : Layout)
    (hr : k.rdNdef m = .ok (some L)) (hne : ∀ e, (protectT1 tk u m).res ≠ .error e) :
    Coherent k ⟨apply m (protectT1 tk u m).cmds,
      if (true && decide ((protectT1 tk u m).res = .ok true)) = true then none else some (L, m)⟩ := by
  cases hres : (protectT1 tk u m).res with
  | error e => exact absurd hres (hne e)
  | ok b =>
    cases b with
    | true => intro L' C' h; cases h
    | false =>
      rw [protectT1_false_cmds tk u m hres, if_neg (by decide)]
      exact coherent_new k m L hr

/-- **the cache stays coherent**: after any admissible call the cached NDEF object (if there is one) is
again what a new reader would compute on the tag's memory -/
theorem step_coherent (k : Klass) (s : Sess) (op : Op) (hc : Coherent k s) (hadm : Adm k s.tag op) :
    Coherent k (step k true s op).2 := by
  have hg := getNdef_fresh k s hc
  have hnew := coherent_fresh k s.tag
  cases op with
  | read =>
    rcases getNdef_new k s.tag with ⟨L, hr, hn⟩ | hn | ⟨e, hn⟩ <;> simp only [step, hg, hn]
    · exact coherent_new k s.tag L hr
    · exact hnew
    · exact hnew
  | write data =>
    rcases getNdef_new k s.tag with ⟨L, hr, hn⟩ | hn | ⟨e, hn⟩ <;> simp only [step, hg, hn]
    · by_cases hok : L.writeable = true ∧ (data.length : Int) ≤ L.cap
      · obtain ⟨hres, hrd⟩ := klass_write_state k s.tag L data hr (hadm L hr) hok.2 hok.1
        rw [hres]; exact coherent_new k _ _ hrd
      · obtain ⟨hcm, e, hres⟩ := setOctets_refused k.cfg s.tag L data hok
        rw [hres, hcm]; exact coherent_new k s.tag L hr
    · exact hnew
    · exact hnew
  | format version wipe =>
    cases k with
    | t1 => exact hc
    | topaz | topaz512 =>
      -- a successful format drops the cache, any other outcome leaves the session as it was
      simp only [step]
      split
      · exact fun _ _ h => nomatch h
      · exact hc
      · exact hc
    | t2 =>
      rcases getNdef_new .t2 s.tag with ⟨L, hr, hn⟩ | hn | ⟨e, hn⟩ <;> simp only [step, hg, hn]
      · split
        · exact fun _ _ h => nomatch h
        · exact coherent_new .t2 s.tag L hr
        · exact coherent_new .t2 s.tag L hr
      · exact hnew
      · exact hnew
  | protect =>
    have hne : ∀ e, (step k true ⟨s.tag, none⟩ .protect).1.res ≠ .error e := hadm
    rcases getNdef_new k s.tag with ⟨L, hr, hn⟩ | hn | ⟨e, hn⟩
    · cases k with
      | t2 =>
        simp only [step, hn] at hne
        simp only [step, hg, hn]
        cases hres : (protectT2 s.tag).res with
        | error e => exact absurd hres (hne e)
        | ok b =>
          cases b with
          | true => exact fun _ _ h => nomatch h
          | false =>
            rw [protectT2_false_cmds s.tag hres, if_neg (by decide)]
            exact coherent_new .t2 s.tag L hr
      | t1 | topaz | topaz512 =>
        simp only [step, hn] at hne
        simp only [step, hg, hn]
        exact protectT1_state _ _ _ _ L hr hne
    · cases k <;> simp only [step, hg, hn] <;> exact hnew
    · cases k <;> simp only [step, hg, hn] <;> exact hnew

/-- the outputs of the calls when every call is made on a NEW tag object activated on the memory the
previous call left -/
def freshOuts (k : Klass) : Bytes → List Op → List OpOut
  | _, [] => []
  | m, op :: ops => (step k true ⟨m, none⟩ op).1 :: freshOuts k (step k true ⟨m, none⟩ op).2.tag ops

def freshTag (k : Klass) : Bytes → List Op → Bytes
  | m, [] => m
  | m, op :: ops => freshTag k (step k true ⟨m, none⟩ op).2.tag ops

/-- every call of the session is admissible on the memory it finds -/
def AdmAll (k : Klass) : Bytes → List Op → Prop
  | _, [] => True
  | m, op :: ops => Adm k m op ∧ AdmAll k (step k true ⟨m, none⟩ op).2.tag ops

/-- what a reader finds after a Topaz `_format`: the image carries the management data `hdr` from byte 8 (version byte
`b`), so the chain and its ranges are those of `hdr` alone, which the instances evaluate -/
theorem fmt_layout (u : Nat) (hu : 0 < u) (hdr m' : Bytes) (b sz acc : Nat) (cs : List Ctl) (off : Nat)
    (H : ∀ i, i < hdr.length → m'[8 + i]? = if i = 1 then some b else hdr[i]?) (hb : b / 16 = 1)
    (hh0 : hdr[0]? = some 0xE1) (hh2 : hdr[2]? = some sz) (hh3 : hdr[3]? = some acc)
    (hlen : (t1Cfg u).areaEnd sz ≤ m'.length)
    (hchain : chainParse (List.replicate 8 0 ++ hdr) ((t1Cfg u).areaEnd sz + 1) 12 = some (cs, off))
    (hok : chainOk (t1Cfg u) (List.replicate 8 0 ++ hdr) ((t1Cfg u).areaEnd sz) = true)
    (hz : hdr[off + 1 - 8]? = some 0) (hoff : off + 1 < 8 + hdr.length) :
    ReadsAs (t1Cfg u) m' (chainLayout (t1Cfg u) sz acc cs off []) ∧
      WF (t1Cfg u) m' (chainLayout (t1Cfg u) sz acc cs off []) := by
  have hle : 12 ≤ off := chain_le _ _ _ _ _ hchain
  have hm : ∀ x, 12 ≤ x → x ≤ off + 1 → m'[x]? = hdr[x - 8]? := fun x h1 h2 => by
    have := H (x - 8) (by omega)
    rwa [if_neg (by omega), show 8 + (x - 8) = x by omega] at this
  have hchain' : chainParse m' ((t1Cfg u).areaEnd sz + 1) (t1Cfg u).dataStart = some (cs, off) :=
    chainParse_congr _ _ _ _ hchain fun x (h1 : 12 ≤ x) h2 => by
      rw [hm x h1 (by omega), List.getElem?_append_right (by simp; omega)]; simp
  have hok' : chainOk (t1Cfg u) m' ((t1Cfg u).areaEnd sz) = true := by
    unfold chainOk at hok ⊢
    have e : (t1Cfg u).dataStart = 12 := rfl
    rw [e, hchain] at hok; rw [hchain']; exact hok
  have g : ∀ i v, i < hdr.length → i ≠ 1 → hdr[i]? = some v → m'[8 + i]? = some v := fun i v hi h1 hv => by
    rw [H i hi, if_neg h1]; exact hv
  have h1 : 1 < hdr.length := by omega
  refine chain_layout (t1Cfg u) m' b sz acc cs off (0, off + 1 + 1) [] ⟨Nat.le_refl 12, hu⟩
    (g 0 _ (by omega) (by omega) hh0) (by have := H 1 h1; rwa [if_pos rfl] at this) hb (g 2 _ (by omega) (by omega) hh2)
    (g 3 _ (by omega) (by omega) hh3) hlen hchain' hok' ?_ rfl
  unfold readLen
  rw [(rd_ok_iff _ _ _ _).2 (by rw [hm _ (by omega) (Nat.le_refl _)]; exact hz), Py.bind_ok, if_neg (by decide)]

/-- what a reader finds after `Topaz.format()`: the factory layout (NDEF TLV at 12, static lock /
reserved bytes 104..119, capacity 90) - well-formed, whatever was on the tag before -/
theorem topaz_format_layout (m m' : Bytes) (version wipe : Option Nat)
    (h : formatTopazV m version wipe = .ok (some m')) (hlen : 120 ≤ m.length) :
    ReadsAs (t1Cfg 1) m' topazLayout ∧ WF (t1Cfg 1) m' topazLayout := by
  obtain ⟨hl, b, hb, H⟩ := formatTopazV_hdr m m' version wipe h
  have e : chainLayout (t1Cfg 1) 0x0E 0 [] 12 [] = topazLayout := by decide +kernel
  rw [← e]
  exact fmt_layout 1 (by decide) topazHdr m' b 0x0E 0 [] 12 H hb rfl rfl rfl (by show 120 ≤ m'.length; omega)
    (by decide) (by decide) rfl (by decide)

/-- what a reader finds after `Topaz512.format()`: Lock Control TLV (bytes 122..127), Memory Control
TLV (bytes 120..121), NDEF TLV at 22, capacity 462 - well-formed, whatever was on the tag before -/
theorem topaz512_format_layout (m m' : Bytes) (version wipe : Option Nat)
    (h : formatTopaz512V m version wipe = .ok (some m')) (hlen : 512 ≤ m.length) :
    ReadsAs (t1Cfg 8) m' topaz512Layout ∧ WF (t1Cfg 8) m' topaz512Layout := by
  obtain ⟨hl, b, hb, H⟩ := formatTopaz512V_hdr m m' version wipe h
  have e : chainLayout (t1Cfg 8) 0x3F 0 [(true, 0xF2, 0x30, 0x33), (false, 0xF0, 2, 3)] 22 [] = topaz512Layout := by
    decide +kernel
  rw [← e]
  exact fmt_layout 8 (by decide) topaz512Hdr m' b 0x3F 0 _ 22 H hb rfl rfl rfl (by show 512 ≤ m'.length; omega)
    (by decide) (by decide) rfl (by decide)

theorem setOctets_apply (c : Cfg) (m : Bytes) (L : Layout) (data : Bytes)
    (hread : readNdef c m = .ok (some L)) (hwf : WF c m L) (hcap : (data.length : Int) ≤ L.cap)
    (hw : L.writeable = true) :
    ∃ ph, writeNdef c m L data = .ok ph ∧ apply m (setOctets c m L data).cmds = ph.m3 := by
  obtain ⟨m1, m2, m3a, m3, w, _⟩ := roundtrip c m L data ((readNdef_some c m L).1 hread) hwf hcap
  exact ⟨_, w.writeNdef_eq, (w.setOctets_eq hw hcap hwf.2.1).2⟩

theorem step_write_eq (k : Klass) (s : Sess) (data : Bytes) (hc : Coherent k s) (L : Layout)
    (hr : k.rdNdef s.tag = .ok (some L)) :
    (step k true s (.write data)).1.cmds = (setOctets k.cfg s.tag L data).cmds
    ∧ (step k true s (.write data)).2.tag = apply s.tag (setOctets k.cfg s.tag L data).cmds := by
  obtain ⟨h1, h2⟩ := step_fresh k s (.write data) hc
  rw [h1, h2]
  have hg : getNdef k ⟨s.tag, none⟩ = (.ok (some (L, s.tag)), ⟨s.tag, some (L, s.tag)⟩) := by
    unfold getNdef; simp only; rw [hr]
  simp only [step, hg]
  cases (setOctets k.cfg s.tag L data).res <;> exact ⟨rfl, rfl⟩

end NfcVerif.Tlv
