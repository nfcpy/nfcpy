import NfcVerif.Model.PeerDispatch
import NfcVerif.Lemmas.PyYields
/-!
# C07: the link loop never waits while it dispatches a PDU, and raises nothing on a well-formed table (repaired code)

The enqueue functions always hand back a socket (`*_some`); `dispatch` and its parts are then walked
once, for `Disp`, of which `dispatch_never_waits` (any table) and `dispatch_total` (a well-formed one)
are the two readings.
-/
namespace NfcVerif.Peer
open NfcVerif.Pdu

theorem dlcClose_shutdown (s : Sock) : ∃ s', dlcClose { s with st := .shutdown } = some s' := by
  unfold dlcClose
  simp

theorem enqueueEstablished_some (s : Sock) (p : SPdu) : ∃ s', enqueueEstablished s p = some s' := by
  unfold enqueueEstablished
  cases p with
  | info =>
    simp only
    split
    · exact ⟨_, rfl⟩
    · split <;> exact ⟨_, rfl⟩
  | frmr => exact dlcClose_shutdown s
  | _ => exact ⟨_, rfl⟩

theorem dlcEnqueue_some (f : Fix) (hf : f.f39 = true) (s : Sock) (p : SPdu) : ∃ s', dlcEnqueue f s p = some s' := by
  unfold dlcEnqueue
  split
  · obtain ⟨s', hs⟩ := dlcClose_shutdown s
    exact ⟨_, by rw [hs]; rfl⟩
  · split
    · exact ⟨_, rfl⟩
    · split
      · split <;> exact ⟨_, rfl⟩
      · exact ⟨_, rfl⟩
    · split
      · split <;> exact ⟨_, rfl⟩
      · split <;> exact ⟨_, rfl⟩
      · exact ⟨_, rfl⟩
    · split <;> exact ⟨_, rfl⟩
    · exact enqueueEstablished_some s p
    · exact ⟨_, rfl⟩

theorem sockEnqueue_some (f : Fix) (hf : f.f39 = true) (s : Sock) (p : SPdu) : ∃ s', sockEnqueue f s p = some s' := by
  unfold sockEnqueue
  split
  · exact ⟨_, rfl⟩
  · split
    · split <;> exact ⟨_, rfl⟩
    · exact ⟨_, rfl⟩
  · exact dlcEnqueue_some f hf s p

theorem firstMatch_some (f : Fix) (hf : f.f39 = true) (sel : Sock → Bool) (p : SPdu) (l : List Sock) :
    ∃ r, firstMatch f sel p l = some r := by
  induction l with
  | nil => exact ⟨_, rfl⟩
  | cons s rest ih =>
    unfold firstMatch
    split
    · obtain ⟨s', hs⟩ := sockEnqueue_some f hf s p
      exact ⟨_, by rw [hs]; rfl⟩
    · obtain ⟨r, hr⟩ := ih
      exact ⟨_, by rw [hr]; rfl⟩

theorem sapEnqueue_some (f : Fix) (hf : f.f39 = true) (sap : Sap) (p : SPdu) : ∃ s', sapEnqueue f sap p = some s' := by
  have h1 := firstMatch_some f hf (fun s => s.st = .listen) p sap.socks
  have h2 := firstMatch_some f hf (fun s => s.peer = some p.ssap ∨ s.peer = none) p sap.socks
  obtain ⟨r1, hr1⟩ := h1
  obtain ⟨r2, hr2⟩ := h2
  unfold sapEnqueue
  cases p <;> simp only [hr1, hr2] <;> exact ⟨_, rfl⟩

theorem llcOk_set (w : Llc) (hw : LlcOk w) (i : Nat) (e : Entry)
    (h1 : i = 1 → ∃ dm n, e = .sdp dm n) : LlcOk { w with tab := setEntry w.tab i e } := by
  obtain ⟨hl, ⟨dm, n, hs⟩, hn⟩ := hw
  refine ⟨by simp [setEntry, hl], ?_, hn⟩
  by_cases hi : i = 1
  · obtain ⟨dm', n', he⟩ := h1 hi
    subst hi; subst he
    exact ⟨dm', n', by simp [setEntry, hl]⟩
  · exact ⟨dm, n, by simp only [setEntry]; rw [List.getElem?_set_ne hi]; exact hs⟩

theorem lookupName_lt (w : Llc) (hw : LlcOk w) (sn : Option Bytes) (a : Nat) (h : lookupName w.snl sn = some a) : a < 64 := by
  unfold lookupName at h
  match sn, h with
  | some n, h =>
    simp only [Option.map_eq_some_iff] at h
    obtain ⟨e, hf, rfl⟩ := h
    exact hw.names e (List.mem_of_find?_eq_some hf)

/-- What a part of `dispatch` does with the table `w`: it hands back a table (never `none`: the link
loop does not wait), well formed if `w` was; it raises only if `w` is not well formed or `H` fails. -/
abbrev Disp (w : Llc) (H : Prop) (x : Py (Option Llc)) : Prop :=
  Tri (fun _ => ¬ (LlcOk w ∧ H)) (fun r => ∃ w', r = some w' ∧ (LlcOk w → LlcOk w')) x

variable {H : Prop}

theorem tab_tri (w : Llc) (i : Nat) (hi : LlcOk w → H → i < 64) :
    Tri (fun _ => ¬ (LlcOk w ∧ H)) (fun e => w.tab[i]? = some e) (idxN w.tab i) :=
  (idxN_tri w.tab i).mono (fun _ h hw => by have := hw.1.len; have := hi hw.1 hw.2; omega) fun _ h => h

theorem deliver_disp (f : Fix) (hf : f.f39 = true) (w : Llc) (p : SPdu) (hp : LlcOk w → H → p.dsap < 64) :
    Disp w H (deliver f w p) := by
  unfold deliver
  refine (tab_tri w p.dsap hp).bind fun e hget => ?_
  match e, hget with
  | .empty, _ => exact Tri.ok ⟨w, rfl, id⟩
  | .sdp dm nres, _ =>
    simp only
    split
    · exact Tri.ok ⟨_, rfl, fun hw => llcOk_set w hw _ _ fun _ => ⟨_, _, rfl⟩⟩
    · exact Tri.ok ⟨w, rfl, id⟩
  | .sap s, hget =>
    obtain ⟨s', hs⟩ := sapEnqueue_some f hf s p
    simp only [hs]
    refine Tri.ok ⟨_, rfl, fun hw => llcOk_set w hw _ _ fun h1 => ?_⟩
    obtain ⟨dm, n, hsd⟩ := hw.sdp
    rw [h1, hsd] at hget
    cases hget

theorem rejectByName_disp (w : Llc) (ssap : Nat) (sn : Option Bytes) : Disp w H (rejectByName w ssap sn) := by
  unfold rejectByName
  refine (tab_tri w 1 fun _ _ => by decide).bind fun e hget => ?_
  have not_sdp : (∀ dm n, e ≠ .sdp dm n) → ¬ (LlcOk w ∧ H) := fun h hw => by
    obtain ⟨dm, n, hsd⟩ := hw.1.sdp
    exact h dm n (Option.some.inj (hget.symm.trans hsd))
  match e, not_sdp with
  | .sdp dm nres, _ => exact Tri.ok ⟨_, rfl, fun hw => llcOk_set w hw _ _ fun _ => ⟨_, _, rfl⟩⟩
  | .empty, h | .sap _, h => exact Tri.throw (h fun _ _ => nofun)

theorem dispatchS_disp (f : Fix) (hf : f.f39 = true) (w : Llc) (p : SPdu) (hp : LlcOk w → H → SPduOk p) :
    Disp w H (dispatchS f w p) := by
  unfold dispatchS
  split
  · exact Tri.ok ⟨w, rfl, id⟩
  · split
    · exact rejectByName_disp w _ _
    · exact rejectByName_disp w _ _
    · rename_i a _ hlk
      have ha : LlcOk w → H → a < 64 := fun hw _ => lookupName_lt w hw _ a hlk
      refine (tab_tri w a ha).bind fun e _ => ?_
      split
      · exact rejectByName_disp w _ _
      · exact deliver_disp f hf w _ ha
  · exact deliver_disp f hf w p hp

theorem dispatchAll_disp (f : Fix) (hf : f.f39 = true) (ps : List SPdu) (w : Llc) (hp : LlcOk w → H → ∀ q ∈ ps, SPduOk q) :
    Disp w H (dispatchAll f w ps) := by
  induction ps generalizing w H with
  | nil => exact Tri.ok ⟨w, rfl, id⟩
  | cons p ps ih =>
    unfold dispatchAll
    refine (dispatchS_disp f hf w p fun hw h => hp hw h p (by simp)).bind fun r hr => ?_
    obtain ⟨w1, rfl, hw1⟩ := hr
    -- the rest runs on `w1`; its precondition and its result are carried back to `w` along `hw1`
    exact (ih (H := LlcOk w ∧ H) w1 fun _ h q hq => hp h.1 h.2 q (by simp [hq])).mono
      (fun _ hn hw => hn ⟨hw1 hw.1, hw⟩) fun _ ⟨w', h, hw'⟩ => ⟨w', h, fun hw => hw' (hw1 hw)⟩

theorem dispatch_disp (f : Fix) (hf : f.f39 = true) (w : Llc) (p : Pdu) : Disp w (PduOk p) (dispatch f w p) := by
  unfold dispatch
  match p with
  | .simple q => exact dispatchS_disp f hf w q fun _ h => h
  | .agf d s items => exact Tri.ite (fun _ => dispatchAll_disp f hf items w fun _ h => h) fun _ => Tri.ok ⟨w, rfl, id⟩

theorem dispatch_never_waits (f : Fix) (hf : f.f39 = true) (w : Llc) (p : Pdu) : dispatch f w p ≠ .ok none := fun h => by
  obtain ⟨w', h', -⟩ := (dispatch_disp f hf w p).yields _ h
  cases h'

theorem dispatch_total (f : Fix) (hf : f.f39 = true) (w : Llc) (hw : LlcOk w) (p : Pdu) (hp : PduOk p) :
    ∃ w', dispatch f w p = .ok (some w') ∧ LlcOk w' := by
  obtain ⟨r, hr, w', rfl, hw'⟩ := ((dispatch_disp f hf w p).mono (fun _ h => h ⟨hw, hp⟩) fun _ h => h).returns
  exact ⟨w', hr, hw' hw⟩
end NfcVerif.Peer
