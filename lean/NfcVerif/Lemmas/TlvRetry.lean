import NfcVerif.Lemmas.TlvSync
/-!
A second `_write_ndef_data` on an NDEF object after a command of the first was lost. The object
then holds two images that differ, the tag image `T` and the cache `C`; `syncLost_coherent` is why
`T` stands for the memory reader's belief as well as for the tag. All the retry needs of either is
`Head m L`: the length of the original image `m` and its octets up to the length byte.
`retry_safe` is `w.cut`, the cut theorem of `Lemmas/TlvSync` for a write from tag `T` with cache
`C`, and `w.reads_new`, for the `w` that `write_spec` gives on `C`. `failedWrite_state` shows that
a lost command leaves such a pair: the cache is one of the four images of the first write, which
`w.heads` covers, and the tag is a cut of that write, which `w.cuts` carries through `Head.thr` (a
threshold image of two images with `m`'s head has `m`'s head).
-/
namespace NfcVerif.Tlv
open NfcVerif

/-- **cache coherence**: when a command of `_write_to_tag` is lost, the memory reader's picture of
the tag (`_data_from_tag`, updated only after a command succeeded) still equals the tag -/
theorem syncLost_coherent (u : Nat) (cache : Bytes) (is : List Nat) (j : Nat) (b : Bytes) :
    (syncLost u cache is j (b, b)).1 = (syncLost u cache is j (b, b)).2 := by
  induction is generalizing j b with
  | nil => rfl
  | cons i is ih =>
    simp only [syncLost]
    split
    · cases j with
      | zero => rfl
      | succ j => exact ih j _
    · exact ih j b

theorem set_set_same (m : Bytes) (a v : Nat) : (m.set a v).set a v = m.set a v := by
  simp

/-- **retry after a lost command**: the memory reader believes (correctly) that the tag holds `T`,
its cache holds `C`; both equal the original image in front of the length byte.  A further
`_write_ndef_data` of `data` on that object: after any prefix of its commands the tag still
holds `T`, or shows an empty message, or the new message; after all commands the new message. -/
theorem retry_safe (c : Cfg) (m T C : Bytes) (L : Layout) (data : Bytes)
    (hr : ReadsAs c m L) (hwf : WF c m L) (hcap : (data.length : Int) ≤ L.cap)
    (hTl : T.length = m.length) (hCl : C.length = m.length)
    (hTb : ∀ x, x < L.off + 1 → T[x]? = m[x]?) (hCb : ∀ x, x < L.off + 1 → C[x]? = m[x]?) :
    (writeCmdsFrom c T C L data).res = .ok ()
    ∧ ReadsAs c (apply T (writeCmdsFrom c T C L data).cmds) { L with ndef := data }
    ∧ ∀ k, apply T ((writeCmdsFrom c T C L data).cmds.take k) = T
        ∨ ReadsAs c (apply T ((writeCmdsFrom c T C L data).cmds.take k)) { L with ndef := [] }
        ∨ ReadsAs c (apply T ((writeCmdsFrom c T C L data).cmds.take k)) { L with ndef := data } := by
  obtain ⟨m1, m2, m3a, m3, w⟩ := write_spec c C L data hr.cap (by rw [hCl]; exact hwf.2.2.2.1) hcap
  have hnew := w.reads_new hr hwf ⟨hCl, hCb⟩
  refine ⟨by rw [writeCmdsFrom_eq w T], ?_, fun k => ?_⟩
  · rw [writeCmdsFrom_eq w T]; simp only
    rw [w.apply_from T (by omega) hwf.2.1]; exact hnew
  · rcases w.cut T hr hwf ⟨hTl, hTb⟩ ⟨hCl, hCb⟩ k with h | h | h
    · exact Or.inl h
    · exact Or.inr (Or.inl h)
    · rw [h]; exact Or.inr (Or.inr hnew)

/-- the state a lost command leaves behind satisfies the hypotheses of `retry_safe` -/
theorem failedWrite_state (c : Cfg) (m : Bytes) (L : Layout) (d1 : Bytes) (k : Nat) (T C : Bytes)
    (hr : ReadsAs c m L) (hwf : WF c m L) (hcap : (d1.length : Int) ≤ L.cap)
    (h : failedWrite c m L d1 k = some (T, C)) :
    T.length = m.length ∧ C.length = m.length
    ∧ (∀ x, x < L.off + 1 → T[x]? = m[x]?) ∧ (∀ x, x < L.off + 1 → C[x]? = m[x]?) := by
  obtain ⟨m1, m2, m3a, m3, w⟩ := write_spec c m L d1 hr.cap hwf.2.2.2.1 hcap
  obtain ⟨H1, H2, H3a, H3⟩ := w.heads (Head.refl m L)
  -- the tag after the lost command: a cut of the write
  have hT : Head m L (apply m ((writeCmdsFrom c m m L d1).cmds.take k)) :=
    w.cuts hwf.2.1 m rfl (Head m L) (fun _ t => Head.thr t (Head.refl m L) H1) (fun _ t => Head.thr t H1 H2)
      (fun _ t => Head.thr t H2 H3a) (fun _ t => Head.thr t H3a H3) k
  rw [writeCmdsFrom_eq w m] at hT
  unfold failedWrite at h
  rw [w.writeNdef_eq] at h
  simp only at h
  split at h
  · cases h; exact ⟨hT.1, H1.1, hT.2, H1.2⟩
  · split at h
    · cases h; exact ⟨hT.1, H2.1, hT.2, H2.2⟩
    · split at h
      · cases h; exact ⟨hT.1, H3a.1, hT.2, H3a.2⟩
      · split at h
        · cases h; exact ⟨hT.1, H3.1, hT.2, H3.2⟩
        · cases h

end NfcVerif.Tlv
