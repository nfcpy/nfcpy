import NfcVerif.Lemmas.AuthHist
/-!
# The reader methods against the stateful card: mutual authentication succeeds in EVERY card state

`Card.command` evaluated on the command frames the reader model sends, and the five exchanges of
`FelicaLiteS.authenticate` against a card that holds the key - whatever its write counter, its
challenge block, its external authentication status and its other blocks are, i.e. at every point
of every history.  `Holds` is the invariant on the card, `Runs` follows a method body exchange by
exchange; the histories of `Props/C20.lean` are put together from `authLiteS_card`, `writeMac_card`
and `protectLiteS_card`.
-/
namespace NfcVerif.AuthCard
open NfcVerif NfcVerif.Mac NfcVerif.Auth NfcVerif.AuthHist NfcVerif.AuthHist.RW

theorem parseBlocks_blockList (blocks : List Nat) (rest : Bytes) :
    Card.parseBlocks blocks.length (blockList blocks ++ rest) = some (blocks, rest) := by
  induction blocks with
  | nil => rfl
  | cons b t ih =>
    simp only [blockList, List.flatMap_cons, List.length_cons] at ih ⊢
    simp only [List.cons_append, List.nil_append, Card.parseBlocks]
    simp [ih]

theorem command_read (C : Cipher) (c : Card) (idm : Bytes) (blocks : List Nat) (cmd : Bytes) (hi : c.idm = idm)
    (hl : idm.length = 8) (h : readCmd idm blocks = .ok cmd) :
    c.command C cmd = (some (c.read C [0x0B, 0] blocks []), c) := by
  subst hi
  unfold readCmd t3Command at h
  simp only at h
  split at h
  · cases h
  · injection h with h
    subst h
    obtain ⟨i0, i1, i2, i3, i4, i5, i6, i7, hi⟩ := eq_of_length_eight hl
    have hp := parseBlocks_blockList blocks []
    simp only [List.append_nil] at hp
    simp [Card.command, hi, hp, blockList_length]
    rw [if_pos (by omega), if_neg (by omega)]

theorem command_write (C : Cipher) (c : Card) (idm : Bytes) (blocks : List Nat) (data cmd : Bytes) (hi : c.idm = idm)
    (hl : idm.length = 8) (h : writeCmd idm blocks data = .ok cmd) :
    c.command C cmd = c.write C [0x09, 0] blocks data := by
  subst hi
  unfold writeCmd t3Command at h
  simp only at h
  split at h
  · cases h
  · injection h with h
    subst h
    obtain ⟨i0, i1, i2, i3, i4, i5, i6, i7, hi⟩ := eq_of_length_eight hl
    have hp := parseBlocks_blockList blocks data
    simp [Card.command, hi, hp, blockList_length]
    rw [if_pos (by omega), if_neg (by omega)]

theorem write_one (C : Cipher) (c : Card) (n : Nat) (data : Bytes) (hd : data.length = 16) :
    c.write C [0x09, 0] [n] data = c.writePlain n data := by
  simp [Card.write, hd]

theorem write_two (C : Cipher) (c : Card) (n : Nat) (data : Bytes) (hd : data.length = 32) (hl : c.liteS = true) :
    c.write C [0x09, 0] [n, 0x91] data = c.writeMac C n data := by
  simp [Card.write, hd, hl]

theorem blk_of_mem {c : Card} {n : Nat} {b : Bytes} (h : c.mem n = some b) : c.blk n = b := by
  simp [Card.blk, h]

theorem set_mem_same (c : Card) (n : Nat) (v : Bytes) : (c.set n v).mem n = some v := by simp [Card.set]
theorem set_mem_other (c : Card) (n k : Nat) (v : Bytes) (h : k ≠ n) : (c.set n v).mem k = c.mem k := by
  simp [Card.set, h]

/-- the WCNT block after one more accepted write -/
def bumped (c : Card) : Bytes :=
  [min (c.wcntVal + 1) 0xFFFFFF % 256, min (c.wcntVal + 1) 0xFFFFFF / 256 % 256, min (c.wcntVal + 1) 0xFFFFFF / 65536 % 256]
    ++ (c.blk 0x90).drop 3

theorem bump_eq (c : Card) (h : c.liteS = true) : c.bump = c.set 0x90 (bumped c) := by
  simp [Card.bump, h, bumped]

theorem bumped_wf (c : Card) (b : Bytes) (hm : c.mem 0x90 = some b) (hl : b.length = 16) (hb : IsBytes b) :
    (bumped c).length = 16 ∧ IsBytes (bumped c) := by
  unfold bumped
  rw [blk_of_mem hm]
  refine ⟨by simp [hl], ?_⟩
  intro v hv
  rcases List.mem_append.mp hv with h | h
  · simp only [List.mem_cons, List.not_mem_nil, or_false] at h
    rcases h with rfl | rfl | rfl <;> omega
  · exact hb v (List.mem_of_mem_drop h)

theorem bump_fields (c : Card) :
    c.bump.liteS = c.liteS ∧ c.bump.idm = c.idm ∧ c.bump.rcWritten = c.rcWritten ∧ c.bump.extAuth = c.extAuth := by
  unfold Card.bump
  split <;> exact ⟨rfl, rfl, rfl, rfl⟩

theorem bump_mem (c : Card) (k : Nat) (hk : k ≠ 0x90) : c.bump.mem k = c.mem k := by
  unfold Card.bump
  split
  · exact set_mem_other _ _ _ _ hk
  · rfl

/-- counting a write leaves a well-formed WCNT block well-formed -/
theorem bump_wb (c : Card) (hl : c.liteS = true) (h : ∃ b, c.mem 0x90 = some b ∧ b.length = 16 ∧ IsBytes b) :
    ∃ b, c.bump.mem 0x90 = some b ∧ b.length = 16 ∧ IsBytes b := by
  obtain ⟨wb, hwb, hwl, hwB⟩ := h
  obtain ⟨bl, bB⟩ := bumped_wf c wb hwb hwl hwB
  exact ⟨_, by rw [bump_eq c hl, set_mem_same], bl, bB⟩

theorem mcBit_congr (c c' : Card) (o n : Nat) (h : c'.mem 0x88 = c.mem 0x88) : c'.mcBit o n = c.mcBit o n := by
  unfold Card.mcBit Card.mcField Card.blk
  rw [h]

theorem systemLocked_congr (c c' : Card) (h : c'.mem 0x88 = c.mem 0x88) : c'.systemLocked = c.systemLocked := by
  unfold Card.systemLocked Card.blk
  rw [h]

/-- a Lite-S card that holds the key `key` (in the layout `protect` writes) and has the blocks a
mutual authentication touches; nothing is said about WCNT's value, RC, STATE, MC or the user blocks -/
structure Holds (c : Card) (idm key : Bytes) : Prop where
  liteS : c.liteS = true
  idm_eq : c.idm = idm
  idm_len : idm.length = 8
  key_len : key.length = 16
  ck : c.mem 0x87 = some (revHalves key)
  idb : ∃ b, c.mem 0x82 = some b ∧ b.length = 16 ∧ IsBytes b
  wb : ∃ b, c.mem 0x90 = some b ∧ b.length = 16 ∧ IsBytes b
  rcp : (c.mem 0x80).isSome = true
  stp : (c.mem 0x92).isSome = true

/-! Every card state the methods below pass through is built from three steps - a change of the two status
flags, a write to a block other than ID, CK and WCNT, the counting of a write - and `Holds` survives each. -/

theorem Holds.flags {c : Card} {idm key : Bytes} (h : Holds c idm key) (a b : Bool) :
    Holds { c with rcWritten := a, extAuth := b } idm key :=
  ⟨h.liteS, h.idm_eq, h.idm_len, h.key_len, h.ck, h.idb, h.wb, h.rcp, h.stp⟩

theorem Holds.set {c : Card} {idm key : Bytes} (h : Holds c idm key) (n : Nat) (v : Bytes)
    (h82 : n ≠ 0x82) (h87 : n ≠ 0x87) (h90 : n ≠ 0x90) : Holds (c.set n v) idm key := by
  have hsome : ∀ k, (c.mem k).isSome = true → ((c.set n v).mem k).isSome = true := by
    intro k hk
    by_cases hkn : k = n
    · rw [hkn, set_mem_same]; rfl
    · rw [set_mem_other _ _ _ _ hkn]; exact hk
  refine ⟨h.liteS, h.idm_eq, h.idm_len, h.key_len, ?_, ?_, ?_, hsome _ h.rcp, hsome _ h.stp⟩
  · rw [set_mem_other _ _ _ _ (Ne.symm h87)]; exact h.ck
  · rw [set_mem_other _ _ _ _ (Ne.symm h82)]; exact h.idb
  · rw [set_mem_other _ _ _ _ (Ne.symm h90)]; exact h.wb

theorem Holds.bump {c : Card} {idm key : Bytes} (h : Holds c idm key) : Holds c.bump idm key := by
  obtain ⟨f1, f2, _, _⟩ := bump_fields c
  refine ⟨f1.trans h.liteS, f2.trans h.idm_eq, h.idm_len, h.key_len, ?_, ?_, ?_, ?_, ?_⟩
  · rw [bump_mem c _ (by decide)]; exact h.ck
  · rw [bump_mem c _ (by decide)]; exact h.idb
  · exact bump_wb c h.liteS h.wb
  · rw [bump_mem c _ (by decide)]; exact h.rcp
  · rw [bump_mem c _ (by decide)]; exact h.stp

theorem holds_tag (c : Card) (idm key rc wb : Bytes) (h : Holds c idm key) (hrcm : c.mem 0x80 = some (revHalves rc))
    (hwb : c.mem 0x90 = some wb) : c.tag = ⟨revHalves key, revHalves rc, wb⟩ := by
  simp [Card.tag, blk_of_mem h.ck, blk_of_mem hrcm, blk_of_mem hwb]

/-- the card after the challenge block was written -/
def afterRc (c : Card) (rcb : Bytes) : Card :=
  ({ (c.set 0x80 rcb) with rcWritten := true, extAuth := false } : Card).bump

/-- the card after an accepted write of block `n`, with or without MAC -/
def afterWrite (c : Card) (n : Nat) (data : Bytes) : Card := (c.set n data).bump

/-- the card after the MAC'ed write of 01h to STATE was accepted -/
def afterState (c : Card) : Card := ({ c with extAuth := true } : Card).bump

/-- the card after one complete mutual authentication with challenge `rc` -/
def afterAuth (c : Card) (rc : Bytes) : Card := afterState (afterRc c (revHalves rc))

theorem afterRc_mem (c : Card) (rcb : Bytes) (k : Nat) (h80 : k ≠ 0x80) (h90 : k ≠ 0x90) :
    (afterRc c rcb).mem k = c.mem k :=
  (bump_mem { (c.set 0x80 rcb) with rcWritten := true, extAuth := false } _ h90).trans (set_mem_other c 0x80 k rcb h80)

theorem afterState_mem (c : Card) (k : Nat) (h90 : k ≠ 0x90) : (afterState c).mem k = c.mem k :=
  bump_mem { c with extAuth := true } _ h90

theorem afterRc_holds (c : Card) (idm key rcb : Bytes) (h : Holds c idm key) :
    Holds (afterRc c rcb) idm key ∧ (afterRc c rcb).mem 0x80 = some rcb ∧ (afterRc c rcb).rcWritten = true
      ∧ (afterRc c rcb).mem 0x82 = c.mem 0x82 := by
  refine ⟨((h.set 0x80 rcb (by decide) (by decide) (by decide)).flags true false).bump, ?_, (bump_fields _).2.2.1, ?_⟩
  · exact (bump_mem { (c.set 0x80 rcb) with rcWritten := true, extAuth := false } _ (by decide)).trans
      (set_mem_same c 0x80 rcb)
  · exact afterRc_mem c rcb 0x82 (by decide) (by decide)

theorem afterState_holds (c : Card) (idm key : Bytes) (h : Holds c idm key) :
    Holds (afterState c) idm key ∧ (afterState c).mem 0x80 = c.mem 0x80 ∧ (afterState c).extAuth = true
      ∧ (afterState c).rcWritten = c.rcWritten :=
  ⟨(h.flags c.rcWritten true).bump, afterState_mem c 0x80 (by decide), (bump_fields _).2.2.2, (bump_fields _).2.2.1⟩

theorem afterWrite_mem (c : Card) (n k : Nat) (data : Bytes) (hk : k ≠ n) (h90 : k ≠ 0x90) :
    (afterWrite c n data).mem k = c.mem k :=
  (bump_mem (c.set n data) _ h90).trans (set_mem_other c _ _ _ hk)

theorem afterWrite_mem_same (c : Card) (n : Nat) (data : Bytes) (h90 : n ≠ 0x90) :
    (afterWrite c n data).mem n = some data :=
  (bump_mem (c.set n data) _ h90).trans (set_mem_same c _ _)

theorem afterWrite_holds (c : Card) (idm key data : Bytes) (n : Nat) (h : Holds c idm key)
    (h82 : n ≠ 0x82) (h87 : n ≠ 0x87) (h90 : n ≠ 0x90) : Holds (afterWrite c n data) idm key :=
  (h.set n data h82 h87 h90).bump

theorem afterAuth_mem (c : Card) (rc : Bytes) (k : Nat) (h80 : k ≠ 0x80) (h90 : k ≠ 0x90) :
    (afterAuth c rc).mem k = c.mem k :=
  (afterState_mem _ k h90).trans (afterRc_mem c _ k h80 h90)

/-- block `n` (a system block other than MAC / MAC_A) read together with the MAC block -/
theorem read_n_mac (C : Cipher) (c : Card) (n : Nat) (hn : 15 ≤ n) (hn1 : n ≠ 0x81) (hn2 : n ≠ 0x91)
    (hp : c.present n = true) :
    c.read C [0x0B, 0] [n, 0x81] [] = LiteTag.readFrame C c.tag c.idm 2 (c.readBlock C n []) := by
  have hlt : ¬ n < 15 := by omega
  simp [Card.read, Card.readLoop, Card.readable, hp, hn1, hn2, hlt, LiteTag.readFrame, Card.readBlock]

/-- a system block other than MAC, CK, MAC_A, STATE read on its own -/
theorem read_single (C : Cipher) (c : Card) (n : Nat) (b : Bytes) (hm : c.mem n = some b) (hl : b.length = 16)
    (hn : 15 ≤ n) (h81 : n ≠ 0x81) (h87 : n ≠ 0x87) (h91 : n ≠ 0x91) (h92 : n ≠ 0x92) :
    c.read C [0x0B, 0] [n] [] = rspFrame c.idm 6 ([1] ++ b) := by
  have hp : c.present n = true := by simp [Card.present, hm]
  have hlt : ¬ n < 15 := by omega
  simp [Card.read, Card.readLoop, Card.readable, hp, Card.readBlock, blk_of_mem hm, rspFrame, hl, h81, h87, h91, h92, hlt]

theorem write_rc (c : Card) (idm key rcb : Bytes) (h : Holds c idm key) :
    c.writePlain 0x80 rcb = (some (writeOk idm), afterRc c rcb) := by
  have hp : c.present 0x80 = true := by simpa [Card.present] using h.rcp
  simp [Card.writePlain, hp, afterRc, Card.okRsp, writeOk, h.idm_eq]

/-- the card after a MAC'ed write of block `n` was accepted: STATE takes the EXT_AUTH bit, every
other block the data -/
def afterMacWrite (c : Card) (n : Nat) (data : Bytes) : Card :=
  (if n = 0x92 then { c with extAuth := decide (data.take 1 = [1]) } else c.set n data).bump

theorem card_writeMac (C : Cipher) (hC : BlockCipher C) (c : Card) (idm key rc wb data : Bytes) (n : Nat) (h : Holds c idm key)
    (hn : n = 0x92 ∨ (n < 14 ∧ c.present n = true ∧ c.mcBit 0 n = true ∧ c.extAuth = true))
    (hrcw : c.rcWritten = true) (hrcm : c.mem 0x80 = some (revHalves rc)) (hrc : rc.length = 16) (hrcB : IsBytes rc)
    (hwb : c.mem 0x90 = some wb) (hwl : wb.length = 16) (hwB : IsBytes wb) (hd : data.length = 16) (hdB : IsBytes data) :
    c.writeMac C n (data ++ (LiteTag.macA C ⟨revHalves key, revHalves rc, wb⟩ n data ++ wb.take 3 ++ zeros 5))
      = (some (writeOk idm), afterMacWrite c n data) := by
  have htag := holds_tag c idm key rc wb h hrcm hwb
  have hn255 : n ≤ 255 := by omega
  have hmB := macA_block C hC key rc wb n data h.key_len hrc hrcB hwB hwl hn255 hdB
  have hwc : c.wcnt = wb.take 3 := by simp [Card.wcnt, blk_of_mem hwb]
  unfold Card.writeMac
  simp only [htag, hwc, hrcw]
  generalize hM : LiteTag.macA C ⟨revHalves key, revHalves rc, wb⟩ n data = M at hmB ⊢
  have hml : M.length = 8 := hmB.1
  -- the fields of the 32 data octets as the card takes them apart
  have hd16 : (data ++ (M ++ wb.take 3 ++ zeros 5)).take 16 = data := by
    rw [List.take_append_of_le_length (by omega), List.take_of_length_le (by omega)]
  have hmaca : ((data ++ (M ++ wb.take 3 ++ zeros 5)).drop 16).take 16 = M ++ wb.take 3 ++ zeros 5 := by
    rw [List.drop_append_of_le_length (by omega), List.drop_of_length_le (by omega), List.nil_append,
      List.take_of_length_le (by simp [hml, hwl, zeros])]
  have hw3 : ((M ++ wb.take 3 ++ zeros 5).drop 8).take 3 = wb.take 3 := by
    rw [List.append_assoc, List.drop_append_of_le_length (by omega), List.drop_of_length_le (by omega), List.nil_append,
      List.take_append_of_le_length (by simp [hwl]), List.take_of_length_le (by simp [hwl])]
  have hm8 : (M ++ wb.take 3 ++ zeros 5).take 8 = M := by
    rw [List.append_assoc, List.take_append_of_le_length (by omega), List.take_of_length_le (by omega)]
  simp only [hd16, hmaca, hw3, hm8, hM]
  rcases hn with rfl | ⟨hn, hpn, hrw, hext⟩
  · have hp : c.present 0x92 = true := by simpa [Card.present] using h.stp
    simp [afterMacWrite, Card.okRsp, writeOk, h.idm_eq, hp, hrcw]
  · have h80 : ¬ n = 0x80 := by omega
    have h90 : ¬ n = 0x90 := by omega
    have h92 : ¬ n = 0x92 := by omega
    have h82 : ¬ (0x82 ≤ n) := by omega
    have h15 : n < 15 := by omega
    simp [afterMacWrite, Card.okRsp, writeOk, h.idm_eq, h80, h90, h92, h82, h15, hrw, hext, hpn]

theorem afterMacWrite_user (c : Card) (n : Nat) (data : Bytes) (hn : n ≠ 0x92) : afterMacWrite c n data = afterWrite c n data := by
  rw [afterMacWrite, if_neg hn, afterWrite]

/-! ## the reader methods against the card

`Runs m rd c a rd' c'`: run from the tag object `rd` and the card `c`, whatever was exchanged
before, the method body `m` returns `a` and leaves the tag object `rd'` and the card `c'`. -/

def Runs {σ α : Type} (m : RW σ α) (rd : Reader) (w : σ) (a : α) (rd' : Reader) (w' : σ) : Prop :=
  ∀ tr, ∃ tr', m ⟨rd, w, tr⟩ = (.ok a, ⟨rd', w', tr'⟩)

section Runs
variable {σ α β : Type} {rd rd1 rd2 : Reader} {w w1 w2 : σ}

theorem Runs.bind {m : RW σ α} {f : α → RW σ β} {a : α} {b : β} (hm : Runs m rd w a rd1 w1) (hf : Runs (f a) rd1 w1 b rd2 w2) :
    Runs (m >>= f) rd w b rd2 w2 := by
  intro tr
  obtain ⟨tr1, h1⟩ := hm tr
  obtain ⟨tr2, h2⟩ := hf tr1
  exact ⟨tr2, by rw [bind_of_ok h1, h2]⟩

theorem Runs.pure (a : α) : Runs (pure a : RW σ α) rd w a rd w := fun _ => ⟨_, rfl⟩

theorem Runs.lift {v : Py α} {a : α} (h : v = .ok a) : Runs (lift v : RW σ α) rd w a rd w := fun _ => ⟨_, by rw [h]; rfl⟩

theorem Runs.getRd : Runs (getRd : RW σ Reader) rd w rd rd w := fun _ => ⟨_, rfl⟩

theorem Runs.setAuthed (b : Bool) : Runs (setAuthed b : RW σ Unit) rd w () { rd with authed := b } w := fun _ => ⟨_, rfl⟩

theorem Runs.setSess (v : Option Session) : Runs (setSess v : RW σ Unit) rd w () { rd with sess := v } w := fun _ => ⟨_, rfl⟩

theorem Runs.ite_pos {c : Prop} [Decidable c] {m1 m2 : RW σ α} {a : α} (hc : c) (h : Runs m1 rd w a rd1 w1) :
    Runs (if c then m1 else m2) rd w a rd1 w1 := by rw [if_pos hc]; exact h

theorem Runs.ite_neg {c : Prop} [Decidable c] {m1 m2 : RW σ α} {a : α} (hc : ¬ c) (h : Runs m2 rd w a rd1 w1) :
    Runs (if c then m1 else m2) rd w a rd1 w1 := by rw [if_neg hc]; exact h

theorem sendRecv_answered (x : Air σ) (cmd r : Bytes) (s : St σ) (w' : σ) (h : x s.w cmd = (some r, w')) :
    sendRecv x cmd s = (.ok r, { s with w := w', tr := s.tr ++ [(cmd, some r)] }) := by
  unfold RW.sendRecv
  rw [bind_apply, exch_eq, h]
  rfl

theorem Runs.sendRecv {x : Air σ} {cmd r : Bytes} (h : x w cmd = (some r, w1)) : Runs (sendRecv x cmd) rd w r rd w1 :=
  fun tr => ⟨_, sendRecv_answered x cmd r ⟨rd, w, tr⟩ w1 h⟩

end Runs

section
variable {C : Cipher} {c c1 c2 : Card} {idm : Bytes} {blocks : List Nat} {β : Type} {K : Bytes → RW Card β}
  {rd rd2 : Reader} {b : β}

/-- Over the untouched channel the Type 3 frame codec cancels: a command the tag object builds is the card's
`read` / `write` of the same block list, and the method body goes on (`K`) with the card's response frame. -/
theorem Runs.read (hi : c.idm = idm) (hl : idm.length = 8) (hb : blocks.length ≤ 100)
    (h : Runs (K (c.read C [0x0B, 0] blocks [])) rd c b rd2 c2) :
    Runs (RW.lift (readCmd idm blocks) >>= fun cmd => RW.sendRecv (honest C) cmd >>= K) rd c b rd2 c2 := by
  obtain ⟨cmd, hc⟩ := readCmd_ok idm blocks hl hb
  exact .bind (.lift hc) (.bind (.sendRecv (command_read C c idm blocks cmd hi hl hc)) h)

theorem Runs.write {data r : Bytes} (hi : c.idm = idm) (hl : idm.length = 8) (hlen : 2 * blocks.length + data.length ≤ 200)
    (hw : c.write C [0x09, 0] blocks data = (some r, c1)) (h : Runs (K r) rd c1 b rd2 c2) :
    Runs (RW.lift (writeCmd idm blocks data) >>= fun cmd => RW.sendRecv (honest C) cmd >>= K) rd c b rd2 c2 :=
  .bind (.lift (writeCmd_ok idm blocks data hl hlen))
    (.bind (.sendRecv ((command_write C c idm blocks data _ hi hl (writeCmd_ok idm blocks data hl hlen)).trans hw)) h)

end

theorem readPlain_card (C : Cipher) (c : Card) (idm : Bytes) (n : Nat) (b : Bytes) (rd : Reader)
    (hidm : c.idm = idm) (hil : idm.length = 8) (hm : c.mem n = some b) (hl : b.length = 16)
    (hn : 15 ≤ n) (h81 : n ≠ 0x81) (h87 : n ≠ 0x87) (h91 : n ≠ 0x91) (h92 : n ≠ 0x92) :
    Runs (readPlain (honest C) idm [n]) rd c b rd c := by
  refine .read hidm hil (by simp) ?_
  rw [read_single C c n b hm hl hn h81 h87 h91 h92, hidm]
  exact .lift (readRsp_frame idm b [n] 1 hil (by simp [hl]))

/-- a plain write of a system block while the system blocks are not locked -/
theorem writePlain_card (C : Cipher) (c : Card) (idm : Bytes) (n : Nat) (data : Bytes) (rd : Reader)
    (hidm : c.idm = idm) (hil : idm.length = 8) (hp : c.present n = true) (hn : 0x82 ≤ n) (hn8 : n ≤ 0x88)
    (hul : c.systemLocked = false) (hd : data.length = 16) :
    Runs (writePlain (honest C) idm data n) rd c () rd (afterWrite c n data) := by
  have h90 : ¬ n = 0x90 := by omega
  have h92 : ¬ n = 0x92 := by omega
  have h80 : ¬ n = 0x80 := by omega
  have h15 : ¬ n < 15 := by omega
  have hw : c.write C [0x09, 0] [n] data = (some (writeOk idm), afterWrite c n data) := by
    rw [write_one C c n data hd]
    simp [Card.writePlain, hp, h90, h92, h80, h15, hul, afterWrite, Card.okRsp, writeOk, hidm]
  exact .ite_neg (by simp [hd]) (.write hidm hil (by simp [hd]) hw (.lift (writeRsp_ok idm hil)))

/-- internal authentication against the card that holds the key: True, in every state of card and
tag object; the card ends with the new challenge and one more write counted -/
theorem authLite_card (C : Cipher) (hC : BlockCipher C) (forget : Bool) (c : Card) (idm pw key rc : Bytes) (rd : Reader)
    (h : Holds c idm key) (hkey : liteKey pw = .ok key) (hrc : rc.length = 16) (hrcB : IsBytes rc) :
    ∃ sk, sessionKey C key rc = .ok sk ∧
      Runs (authLite C forget (honest C) idm pw rc) rd c true ⟨some ⟨sk, rc.take 8⟩, true⟩ (afterRc c (revHalves rc)) := by
  obtain ⟨h1, hrcm, hrcw, h82⟩ := afterRc_holds c idm key (revHalves rc) h
  obtain ⟨idb, hidb, hidl, hidB⟩ := h.idb
  obtain ⟨wb1, hwb1, hwl1, hwB1⟩ := h1.wb
  obtain ⟨sk, hsk, _, hla⟩ := lite_auth_complete C hC idm pw key rc idb wb1 h.idm_len hkey hrc hrcB hidl hidB
  refine ⟨sk, hsk, ?_⟩
  have hforget : ∃ rd3 : Reader, Runs ((if forget = true then setSess none else pure ()) : RW Card Unit)
      { rd with authed := false } c () rd3 c := by
    cases forget
    · exact ⟨_, .pure ()⟩
    · exact ⟨_, .setSess none⟩
  obtain ⟨rd3, hf⟩ := hforget
  have hrl := revHalves_length rc hrc
  refine .bind (.lift hkey) (.bind (.setAuthed false) (.bind hf (.write h.idm_eq h.idm_len (by simp [hrl])
    ((write_one C c 0x80 _ hrl).trans (write_rc c idm key _ h))
    (.bind (.lift (writeRsp_ok idm h.idm_len)) (.bind (.lift hsk) (.read h1.idm_eq h.idm_len (by simp) ?_))))))
  rw [read_n_mac C _ 0x82 (by decide) (by decide) (by decide) (by simp [Card.present, h82, hidb]),
    holds_tag _ idm key rc wb1 h1 hrcm hwb1, h1.idm_eq,
    show (afterRc c (revHalves rc)).readBlock C 0x82 [] = idb by simp [Card.readBlock, blk_of_mem (h82.trans hidb)]]
  exact .bind (.lift hla) (.bind (.setSess _) (.bind (.setAuthed true) (.pure true)))

/-- `write_with_mac(data, n)` against the card that holds the key, in a session on the card's current
challenge: accepted for STATE and, once mutually authenticated, for a writable user block - WCNT is
whatever the card says it is -/
theorem writeMac_card (C : Cipher) (hC : BlockCipher C) (c : Card) (idm key rc sk data : Bytes) (n : Nat) (rd : Reader)
    (h : Holds c idm key) (hn : n = 0x92 ∨ (n < 14 ∧ c.present n = true ∧ c.mcBit 0 n = true ∧ c.extAuth = true))
    (hrcw : c.rcWritten = true) (hrcm : c.mem 0x80 = some (revHalves rc)) (hrc : rc.length = 16) (hrcB : IsBytes rc)
    (hsk : sessionKey C key rc = .ok sk) (hsess : rd.sess = some ⟨sk, rc.take 8⟩) (hd : data.length = 16) (hdB : IsBytes data) :
    Runs (writeMac C (honest C) idm data n) rd c () rd (afterMacWrite c n data) := by
  obtain ⟨wb, hwb, hwl, hwB⟩ := h.wb
  have hn255 : n ≤ 255 := by omega
  have hml := (macA_block C hC key rc wb n data h.key_len hrc hrcB hwB hwl hn255 hdB).1
  have hXl : (data ++ (LiteTag.macA C ⟨revHalves key, revHalves rc, wb⟩ n data ++ wb.take 3 ++ zeros 5)).length = 32 := by
    simp only [List.length_append, hml, List.length_take, hwl, hd, zeros, List.length_replicate]
    omega
  unfold writeMac
  refine .ite_neg (by simp [hd]) (.bind .getRd ?_)
  simp only [hsess]
  refine .read h.idm_eq h.idm_len (by simp) ?_
  rw [read_single C c 0x90 wb hwb hwl (by decide) (by decide) (by decide) (by decide) (by decide), h.idm_eq,
    writeWithMacCmd_tag C hC idm key rc wb data n sk h.idm_len h.key_len hrc hrcB hsk hwl hd hn255]
  exact .write h.idm_eq h.idm_len (by rw [hXl]; simp)
    ((write_two C c n _ hXl h.liteS).trans (card_writeMac C hC c idm key rc wb data n h hn hrcw hrcm hrc hrcB hwb hwl hwB hd hdB))
    (.lift (writeRsp_ok idm h.idm_len))

/-- the MAC'ed read of STATE against the card that holds the key and is externally authenticated,
in a session on the card's current challenge: the state block with EXT_AUTH = 1 is returned -/
theorem readMac_card (C : Cipher) (hC : BlockCipher C) (c : Card) (idm key rc sk : Bytes) (rd : Reader)
    (h : Holds c idm key) (hext : c.extAuth = true)
    (hrcm : c.mem 0x80 = some (revHalves rc)) (hrc : rc.length = 16) (hrcB : IsBytes rc)
    (hsk : sessionKey C key rc = .ok sk) (hsess : rd.sess = some ⟨sk, rc.take 8⟩) :
    Runs (readMac C (honest C) idm [0x92]) rd c (some ([1] ++ zeros 15)) rd c := by
  obtain ⟨wb, hwb, hwl, hwB⟩ := h.wb
  unfold readMac
  refine .bind .getRd ?_
  simp only [hsess]
  refine .read h.idm_eq h.idm_len (by simp) ?_
  rw [show [0x92] ++ [0x81] = [0x92, 0x81] from rfl, read_n_mac C c 0x92 (by decide) (by decide) (by decide) h.stp,
    holds_tag c idm key rc wb h hrcm hwb, h.idm_eq, show c.readBlock C 0x92 [] = [1] ++ zeros 15 by simp [Card.readBlock, hext]]
  exact .lift (readWithMac_readFrame C hC idm key rc wb sk _ [0x92] 2 h.idm_len h.key_len
    hrc hrcB hsk (by simp) (by simp) (by simp [zeros]) (by decide))

/-- `FelicaLiteS.authenticate(pw)` against the card that holds the key of `pw`: True - in EVERY
state of the card (any write counter, any earlier challenge, authenticated before or not, any
content of the other blocks) and EVERY state of the tag object.  The card holds the key afterwards
as before, so the statement applies again to whatever call comes next. -/
theorem authLiteS_card (C : Cipher) (hC : BlockCipher C) (forget : Bool) (c : Card) (idm pw key rc : Bytes) (rd : Reader)
    (h : Holds c idm key) (hkey : liteKey pw = .ok key) (hrc : rc.length = 16) (hrcB : IsBytes rc) :
    (∃ sk, sessionKey C key rc = .ok sk ∧
      Runs (authLiteS C forget (honest C) idm pw rc) rd c true ⟨some ⟨sk, rc.take 8⟩, true⟩ (afterAuth c rc))
    ∧ Holds (afterAuth c rc) idm key ∧ (afterAuth c rc).extAuth = true
    ∧ (afterAuth c rc).rcWritten = true ∧ (afterAuth c rc).mem 0x80 = some (revHalves rc) := by
  obtain ⟨h1, hrcm1, hrcw1, _⟩ := afterRc_holds c idm key (revHalves rc) h
  obtain ⟨h2, hrcm2, hext2, hrcw2⟩ := afterState_holds (afterRc c (revHalves rc)) idm key h1
  refine ⟨?_, h2, hext2, hrcw2.trans hrcw1, hrcm2.trans hrcm1⟩
  obtain ⟨sk, hsk, ha⟩ := authLite_card C hC forget c idm pw key rc rd h hkey hrc hrcB
  have hw := writeMac_card C hC (afterRc c (revHalves rc)) idm key rc sk ([1] ++ zeros 15) 0x92 ⟨some ⟨sk, rc.take 8⟩, false⟩
    h1 (Or.inl rfl) hrcw1 hrcm1 hrc hrcB hsk rfl (by simp [zeros]) (by decide)
  have hr := readMac_card C hC (afterAuth c rc) idm key rc sk ⟨some ⟨sk, rc.take 8⟩, false⟩ h2 hext2
    (hrcm2.trans hrcm1) hrc hrcB hsk rfl
  refine ⟨sk, hsk, ?_⟩
  unfold authLiteS extAuthS
  exact .bind ha (.ite_neg (by simp) (.bind (.setAuthed false) (.bind hw (.bind hr
    (.bind (.lift (by rfl : idx ([1] ++ zeros 15) 0 = .ok 1)) (.ite_pos rfl (.bind (.setAuthed true) (.pure true))))))))

theorem step_of_runs {σ : Type} (C : Cipher) (forget : Bool) (x : Air σ) (idm : Bytes) (liteS : Bool) (op : Op σ)
    {α : Type} (m : RW σ α) (g : α → Res) (hstep : step C forget x idm liteS op = m >>= fun a => pure (g a))
    {rd rd' : Reader} {w w' : σ} {a : α} (h : Runs m rd w a rd' w') :
    Runs (step C forget x idm liteS op) rd w (g a) rd' w' := by
  rw [hstep]
  exact .bind h (.pure _)

/-- a Lite-S card whose system blocks are not locked yet (as it leaves the factory, or with any
key whatever), with the blocks `protect` and `authenticate` touch -/
structure Unlocked (c : Card) (idm : Bytes) : Prop where
  liteS : c.liteS = true
  idm_eq : c.idm = idm
  idm_len : idm.length = 8
  mc : ∃ m0 m1 m3 m4 m5 rest, c.mem 0x88 = some ([m0, m1, 0xFF, m3, m4, m5] ++ rest) ∧ rest.length = 10
  ckv : ∃ v0 v1 rest, c.mem 0x86 = some ([v0, v1] ++ rest) ∧ rest.length = 14
  ckp : (c.mem 0x87).isSome = true
  idb : ∃ b, c.mem 0x82 = some b ∧ b.length = 16 ∧ IsBytes b
  wb : ∃ b, c.mem 0x90 = some b ∧ b.length = 16 ∧ IsBytes b
  rcp : (c.mem 0x80).isSome = true
  stp : (c.mem 0x92).isSome = true

theorem liteKey_keyOf (p : Bytes) (h : p = [] ∨ 16 ≤ p.length) : liteKey p = .ok (keyOf p) := by
  unfold liteKey keyOf
  have : ¬ (p ≠ [] ∧ p.length < 16) := by
    rcases h with h | h
    · simp [h]
    · intro hc; omega
  rw [if_neg this]

theorem keyOf_length (p : Bytes) (h : p = [] ∨ 16 ≤ p.length) : (keyOf p).length = 16 :=
  liteKey_length p _ (liteKey_keyOf p h)

theorem liteKey_of_key (k : Bytes) (h : k.length = 16) : liteKey k = .ok k := by
  unfold liteKey
  have h1 : ¬ (k ≠ [] ∧ k.length < 16) := by intro hc; omega
  have h2 : k ≠ [] := by intro hc; rw [hc] at h; cases h
  rw [if_neg h1, if_neg h2, List.take_of_length_le (by omega)]

theorem setSlice_length (b v : Bytes) (i : Nat) (h : i + v.length ≤ b.length) : (setSlice b i v).length = b.length := by
  simp [setSlice]; omega

theorem systemLocked_false (c : Card) (m0 m1 m3 : Nat) (rest : Bytes) (h : c.mem 0x88 = some ([m0, m1, 0xFF, m3] ++ rest)) :
    c.systemLocked = false := by
  simp [Card.systemLocked, blk_of_mem h]

theorem holds_after_key (c : Card) (idm d key : Bytes) (h : Unlocked c idm) (hk : key.length = 16) :
    Holds (afterWrite (afterWrite c 0x86 d) 0x87 (revHalves key)) idm key := by
  have hl1 : (afterWrite c 0x86 d).liteS = true := (bump_fields _).1.trans h.liteS
  have hm : ∀ k, k ≠ 0x87 → k ≠ 0x86 → k ≠ 0x90 → ((afterWrite c 0x86 d).set 0x87 (revHalves key)).mem k = c.mem k :=
    fun k h87 h86 h90 => (set_mem_other _ _ _ _ h87).trans (afterWrite_mem c 0x86 k d h86 h90)
  have hH : Holds ((afterWrite c 0x86 d).set 0x87 (revHalves key)) idm key := by
    refine ⟨hl1, (bump_fields _).2.1.trans h.idm_eq, h.idm_len, hk, set_mem_same _ _ _, ?_, ?_, ?_, ?_⟩
    · rw [hm _ (by decide) (by decide) (by decide)]; exact h.idb
    · rw [set_mem_other _ _ _ _ (by decide)]
      exact bump_wb (c.set 0x86 d) h.liteS (by rw [set_mem_other c _ _ _ (by decide)]; exact h.wb)
    · rw [hm _ (by decide) (by decide) (by decide)]; exact h.rcp
    · rw [hm _ (by decide) (by decide) (by decide)]; exact h.stp
  exact hH.bump

/-- `FelicaLiteS.protect(pw, read_protect, protect_from)` against a card whose system blocks are not locked yet, through
all its commands: MC and CKV are read, CKV and the key block written, the tag object authenticates mutually with the new
key (its own challenge `rc0`), MC is written.  True, and the card `Holds` the key of `pw` afterwards, so that
`authLiteS_card` applies to whatever authentication follows. -/
theorem protectLiteS_card (C : Cipher) (hC : BlockCipher C) (forget : Bool) (c : Card) (idm p rc0 : Bytes) (rp : Bool) (pf : Nat)
    (rd : Reader) (h : Unlocked c idm) (hp : p = [] ∨ 16 ≤ p.length) (hrc0 : rc0.length = 16) (hrc0B : IsBytes rc0) :
    ∃ sk cF, Runs (protectLiteS C forget (honest C) idm (some p) rp pf rc0) rd c true ⟨some ⟨sk, rc0.take 8⟩, true⟩ cF
      ∧ Holds cF idm (keyOf p) := by
  obtain ⟨m0, m1, m3, m4, m5, mrest, hmc, hmrl⟩ := h.mc
  obtain ⟨v0, v1, vrest, hckv, hvrl⟩ := h.ckv
  have hkl := keyOf_length p hp
  have hul : c.systemLocked = false := systemLocked_false c m0 m1 m3 ([m4, m5] ++ mrest) (by simpa using hmc)
  have hmcl : ([m0, m1, 0xFF, m3, m4, m5] ++ mrest).length = 16 := by simp [hmrl]
  have hidx2 : idx ([m0, m1, 0xFF, m3, m4, m5] ++ mrest) 2 = .ok 0xFF := rfl
  have hidx5 : idx ([m0, m1, 0xFF, m3, m4, m5] ++ mrest) 5 = .ok m5 := rfl
  generalize [m0, m1, 0xFF, m3, m4, m5] ++ mrest = mc at *
  -- 1. read MC, read CKV
  have hr1 := readPlain_card C c idm 0x88 mc rd h.idm_eq h.idm_len hmc hmcl (by decide) (by decide)
    (by decide) (by decide) (by decide)
  have hr2 := readPlain_card C c idm 0x86 _ rd h.idm_eq h.idm_len hckv (by simp [hvrl]) (by decide) (by decide)
    (by decide) (by decide) (by decide)
  -- 2. write CKV
  obtain ⟨d86, hd86⟩ : ∃ d, d = le16 (min (v0 + 256 * v1 + 1) 0xFFFF) ++ zeros 14 := ⟨_, rfl⟩
  have hp86 : c.present 0x86 = true := by simp [Card.present, hckv]
  have hw3 := writePlain_card C c idm 0x86 d86 rd h.idm_eq h.idm_len hp86 (by decide) (by decide) hul
    (by rw [hd86]; simp [le16, zeros])
  -- 3. write the key: the card now holds it
  have hp87 : (afterWrite c 0x86 d86).present 0x87 = true := by
    simp only [Card.present, afterWrite_mem c 0x86 0x87 d86 (by decide) (by decide)]; exact h.ckp
  have hmc1 : (afterWrite c 0x86 d86).mem 0x88 = some mc :=
    (afterWrite_mem c 0x86 0x88 d86 (by decide) (by decide)).trans hmc
  have hw4 := writePlain_card C (afterWrite c 0x86 d86) idm 0x87 (revHalves (keyOf p)) rd
    ((bump_fields _).2.1.trans h.idm_eq) h.idm_len hp87 (by decide) (by decide)
    ((systemLocked_congr c _ (hmc1.trans hmc.symm)).trans hul) (revHalves_length _ hkl)
  have hH := holds_after_key c idm d86 (keyOf p) h hkl
  generalize hc2 : afterWrite (afterWrite c 0x86 d86) 0x87 (revHalves (keyOf p)) = c2 at hw4 hH
  have hmc2 : c2.mem 0x88 = some mc := by
    rw [← hc2, afterWrite_mem _ 0x87 0x88 _ (by decide) (by decide)]; exact hmc1
  -- 4. mutual authentication with the new key
  obtain ⟨⟨sk, _, ha5⟩, hH3, _⟩ := authLiteS_card C hC forget c2 idm (keyOf p) (keyOf p) rc0 rd hH (liteKey_of_key _ hkl) hrc0 hrc0B
  have hmc3 : (afterAuth c2 rc0).mem 0x88 = some mc :=
    (afterAuth_mem c2 rc0 0x88 (by decide) (by decide)).trans hmc2
  have hp88 : (afterAuth c2 rc0).present 0x88 = true := by simp [Card.present, hmc3]
  -- 5. write MC
  have hle : ∀ v : Nat, (le16 v).length = 2 := fun v => rfl
  obtain ⟨mcF, hmcF, hmcFl⟩ : ∃ mcF : Bytes, mcF = (((if pf < 14 then setSlice (setSlice (if rp = true ∧ pf < 14 then setSlice mc 6 (le16 (2 ^ 14 - 2 ^ pf)) else mc) 8 (le16 (2 ^ 14 - 2 ^ pf))) 10 (le16 (2 ^ 14 - 2 ^ pf))
      else (if rp = true ∧ pf < 14 then setSlice mc 6 (le16 (2 ^ 14 - 2 ^ pf)) else mc)).set 2 0).set 5 1) ∧ mcF.length = 16 := by
    refine ⟨_, rfl, ?_⟩
    have h6 : (if rp = true ∧ pf < 14 then setSlice mc 6 (le16 (2 ^ 14 - 2 ^ pf)) else mc).length = 16 := by
      split
      · rw [setSlice_length _ _ _ (by rw [hle, hmcl]; omega)]; exact hmcl
      · exact hmcl
    rw [List.length_set, List.length_set]
    split
    · rw [setSlice_length _ _ _ (by rw [hle, setSlice_length _ _ _ (by rw [hle, h6]; omega), h6]; omega),
        setSlice_length _ _ _ (by rw [hle, h6]; omega), h6]
    · exact h6
  have hw6 := writePlain_card C (afterAuth c2 rc0) idm 0x88 mcF ⟨some ⟨sk, rc0.take 8⟩, true⟩ hH3.idm_eq h.idm_len hp88
    (by decide) (by decide) ((systemLocked_congr c _ (hmc3.trans hmc.symm)).trans hul) hmcFl
  have hH4 := afterWrite_holds _ idm _ mcF 0x88 hH3 (by decide) (by decide) (by decide)
  -- `protect` is these steps one after the other
  have hpw : pwCheck (some p) = .ok () := by
    show (if p ≠ [] ∧ p.length < 16 then Except.error Exc.value else Except.ok ()) = Except.ok ()
    rw [if_neg]
    rcases hp with hp | hp
    · simp [hp]
    · intro hc; omega
  have hi0 : idx ([v0, v1] ++ vrest) 0 = .ok v0 := rfl
  have hi1 : idx ([v0, v1] ++ vrest) 1 = .ok v1 := rfl
  subst hd86 hmcF
  refine ⟨sk, _, ?_, hH4⟩
  unfold protectLiteS protectLiteSA protectLiteSB
  exact .bind (.bind (.lift hpw) (.bind hr1 (.bind
    (.bind (.lift hidx2) (.bind (.lift hidx5) (.bind .getRd (.ite_neg (by simp) (.bind hr2 (.bind (.lift hi0) (.bind (.lift hi1)
      (.bind hw3 (.bind hw4 (.bind ha5 (.ite_neg (by simp) (.pure _)))))))))))) (.pure _)))) (.bind hw6 (.pure true))

end NfcVerif.AuthCard
