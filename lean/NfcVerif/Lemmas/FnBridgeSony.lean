import NfcVerif.Gen.FnSony
import NfcVerif.Model.FnSonyRef
import NfcVerif.Lemmas.FnBridgeVendor
/-!
# Helper lemmas for the bridge theorems of group Sony (`Props/FnBridgeSony.lean`)
-/
namespace NfcVerif.FnBridge.Sony
open NfcVerif NfcVerif.PyFn NfcVerif.FnBridge.TagCmd NfcVerif.FnBridge.Vendor

/-- `revHalves_gen` with the right side folded to `Auth.revHalves`, the form `simp` needs to put the model's name in -/
theorem revHalves_gen' (x : Bytes) :
    sliceRev x (some 7) none ++ sliceRev x (some 15) (some 7) = Auth.revHalves x := revHalves_gen x

/-- the session guard: the generated `match` is the disjunction -/
theorem guard_cond (sk iv : Option Bytes) :
    ((match sk with | none => true | some _ => decide (iv = none)) = true) ↔ (sk = none ∨ iv = none) := by
  cases sk <;> simp

end NfcVerif.FnBridge.Sony
