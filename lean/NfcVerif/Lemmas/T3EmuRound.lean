import NfcVerif.Lemmas.T3Emu
import NfcVerif.Lemmas.PyPrims
/-! Emulated Type 3 Tag: what `process_command` does with the frames a reader builds (always a response; status 0000h
and the block store's octets when the blocks exist). -/
namespace NfcVerif.T3Emu
open NfcVerif.T34

/-- service 000Bh is left out: its write callback raises `TypeError` (`writeLoop`) -/
theorem writeLoop_run (sc : Nat) (hsc : sc ≠ 11) (n : Int) (data : Bytes) :
    ∀ (bl : List Nat) (i : Nat) (cur : Int) (store : Bytes) (log : List Call),
    ∃ rsp st lg, writeLoop [sc] [(sc, n)] data (bl.map fun b => (0, b)) i [(sc, cur)] store log = .ok (rsp, st, lg)
      ∧ rsp.length = 2
      ∧ ((∀ b ∈ bl, b * 16 + 16 ≤ store.length) → (i + bl.length) * 16 ≤ data.length →
          rsp = [0, 0] ∧ st = writeAll data bl i store) := by
  intro bl
  induction bl with
  | nil => intro i cur store log; exact ⟨[0, 0], store, log, rfl, rfl, fun _ _ => ⟨rfl, rfl⟩⟩
  | cons b bs ih =>
    intro i cur store log
    simp only [List.map_cons, writeLoop, idxN_cons_zero, Py.bind_ok, dictGet, List.find?, decide_true]
    rw [if_neg hsc]
    cases hw : storeWrite store b (sliceN data (i * 16) ((i + 1) * 16)) with
    | none =>
      refine ⟨_, _, _, rfl, rfl, fun hb hd => ?_⟩
      rw [List.length_cons] at hd
      cases (storeWrite_splice store b (blkSlice data i) (hb b List.mem_cons_self)
        (blkSlice_length data i (by omega))).symm.trans hw
    | some s' =>
      simp only [dictSet, List.any_cons, List.any_nil, decide_true, Bool.or_false, if_true, List.map_cons, List.map_nil]
      obtain ⟨rsp, st, lg, h1, h2, h3⟩ := ih (i + 1) (cur - 1) s' (log ++ [⟨true, b, decide (n = cur), decide (cur - 1 = 0)⟩])
      refine ⟨rsp, st, lg, h1, h2, fun hb hd => ?_⟩
      rw [List.length_cons] at hd
      have hl := blkSlice_length data i (by omega)
      have hx := hb b List.mem_cons_self
      cases (storeWrite_splice store b (blkSlice data i) hx hl).symm.trans hw
      exact h3 (fun y hy => by rw [splice_length _ _ _ (by rw [hl]; exact hx)]; exact hb y (List.mem_cons_of_mem _ hy))
        (by omega)

theorem readLoop_run (sc : Nat) (n : Int) (store : Bytes) :
    ∀ (bl : List Nat) (i : Nat) (cur : Int) (acc : Bytes) (log : List Call),
    ∃ rsp lg, readLoop store [sc] [(sc, n)] (bl.map fun b => (0, b)) i [(sc, cur)] acc log = .ok (rsp, lg)
      ∧ rsp.length ≤ 3 + acc.length + 16 * bl.length
      ∧ ((∀ b ∈ bl, b * 16 + 16 ≤ store.length) →
          rsp = [0, 0, (acc ++ readAll store bl).length / 16] ++ (acc ++ readAll store bl)) := by
  intro bl
  induction bl with
  | nil =>
    intro i cur acc log
    exact ⟨_, log, rfl, by simp only [List.length_append, List.length_cons, List.length_nil]; omega,
      fun _ => by simp [readAll]⟩
  | cons b bs ih =>
    intro i cur acc log
    simp only [List.map_cons, readLoop, idxN_cons_zero, Py.bind_ok, dictGet, List.find?, decide_true]
    by_cases hx : b * 16 < store.length
    · simp only [storeRead, if_pos hx, dictSet, List.any_cons, List.any_nil, decide_true, Bool.or_false, if_true,
        List.map_cons, List.map_nil]
      obtain ⟨rsp, lg, h1, h2, h3⟩ := ih (i + 1) (cur - 1) (acc ++ sliceN store (b * 16) ((b + 1) * 16))
        (log ++ [⟨false, b, decide (n = cur), decide (cur - 1 = 0)⟩])
      refine ⟨rsp, lg, h1, ?_, fun hb => ?_⟩
      · rw [List.length_append, length_sliceN] at h2
        rw [List.length_cons]; omega
      · rw [h3 fun y hy => hb y (List.mem_cons_of_mem _ hy)]
        simp [readAll, List.append_assoc]
    · simp only [storeRead, if_neg hx]
      exact ⟨_, _, rfl, by simp only [List.length_cons, List.length_nil]; omega,
        fun hb => absurd (hb b List.mem_cons_self) (by omega)⟩

theorem countDict_single (sc : Nat) (bl : List Nat) :
    countDict [sc] (bl.map fun b => (0, b)) = [(sc, (bl.length : Int))] := by
  have hf : ∀ l : List Nat, (l.filter fun _ => true) = l := by
    intro l; induction l <;> simp [List.filter, *]
  simp [countDict, List.zipIdx, dictSet, List.filter_map, Function.comp_def, hf]

/-- `write_without_encryption` on the body the reader encodes for one service -/
theorem emuWrite_run (e : Emu) (sc : Nat) (bl : List Nat) (d : Bytes) (h65 : ∀ b ∈ bl, b < 65536)
    (hsc : sc / 256 % 256 * 256 + sc % 256 ≠ 11) :
    ∃ rsp st lg, emuWrite e ([1] ++ serviceCode sc ++ [bl.length] ++ bl.flatMap codeOf ++ d) = .ok (rsp, st, lg)
      ∧ rsp.length = 2
      ∧ (hasService (sc / 256 % 256 * 256 + sc % 256) = true → (∀ b ∈ bl, b * 16 + 16 ≤ e.store.length) →
          d.length = 16 * bl.length → rsp = [0, 0] ∧ st = writeAll d bl 0 e.store) := by
  have hp := parseBlocks_enc bl h65 d 0 []
  simp only [List.nil_append] at hp
  by_cases hs : hasService (sc / 256 % 256 * 256 + sc % 256) = false
  · exact ⟨[0xFF, 0xA1], e.store, [], by simp [emuWrite, serviceCode, parseServices, hs], rfl,
      fun h => by rw [hs] at h; cases h⟩
  · obtain ⟨rsp, st, lg, hw, hl, h3⟩ := writeLoop_run _ hsc (bl.length : Int) d bl 0 (bl.length : Int) e.store []
    by_cases hm : d.length % 16 = 0
    · exact ⟨rsp, st, lg, by simp [emuWrite, serviceCode, parseServices, hs, hp, hm, countDict_single, hw], hl,
        fun _ hb hd => h3 hb (by omega)⟩
    · exact ⟨[0xFF, 0xA2], e.store, [], by simp [emuWrite, serviceCode, parseServices, hs, hp, hm], rfl,
        fun _ _ hd => by omega⟩

/-- `read_without_encryption` on the body the reader encodes for one service; 243 = 3 + 16·15 -/
theorem emuRead_run (e : Emu) (sc : Nat) (bl : List Nat) (h65 : ∀ b ∈ bl, b < 65536) :
    ∃ rsp lg, emuRead e ([1] ++ serviceCode sc ++ [bl.length] ++ bl.flatMap codeOf) = .ok (rsp, lg)
      ∧ rsp.length ≤ 243
      ∧ (hasService (sc / 256 % 256 * 256 + sc % 256) = true → bl.length ≤ 15 →
          (∀ b ∈ bl, b * 16 + 16 ≤ e.store.length) →
          rsp = [0, 0, (readAll e.store bl).length / 16] ++ readAll e.store bl) := by
  have hp := parseBlocks_enc bl h65 [] 0 []
  simp only [List.nil_append, List.append_nil] at hp
  by_cases hs : hasService (sc / 256 % 256 * 256 + sc % 256) = false
  · exact ⟨[0xFF, 0xA1], [], by simp [emuRead, serviceCode, parseServices, hs], by decide,
      fun h => by rw [hs] at h; cases h⟩
  · by_cases hn : bl.length > 15
    · exact ⟨[0xFF, 0xA2], [], by simp [emuRead, serviceCode, parseServices, hs, hn], by decide, fun _ h => by omega⟩
    · obtain ⟨rsp, lg, hr, hl, h3⟩ := readLoop_run (sc / 256 % 256 * 256 + sc % 256) (bl.length : Int) e.store bl 0
        (bl.length : Int) [] []
      refine ⟨rsp, lg, by simp [emuRead, serviceCode, parseServices, hs, hn, hp, countDict_single, hr], ?_,
        fun _ _ hb => h3 hb⟩
      simp only [List.length_nil] at hl; omega

theorem len8 (l : Bytes) (h : l.length = 8) : ∃ a b c d e f g i, l = [a, b, c, d, e, f, g, i] :=
  eq_of_length_eight h

theorem frame_ok (code : Nat) (idm body : Bytes) (h : 2 + idm.length + body.length ≤ 255) :
    ∃ w, frame code idm body = .ok w := by
  unfold frame; rw [if_neg (by omega)]; exact ⟨_, rfl⟩

/-- `process_command` on the frame `send_cmd_recv_rsp` builds from the tag's IDm and `body`: the frame is neither
a polling command (its length octet is at least 10) nor addressed to another tag, so codes 06h / 08h reach
`read_without_encryption` / `write_without_encryption` with `body` -/
theorem processCommand_frame (e : Emu) (code : Nat) (body w : Bytes) (hidm : e.idm.length = 8)
    (hf : frame code e.idm body = .ok w) (hc : code = 6 ∨ code = 8) :
    processCommand e w =
      if code = 6 then emuRead e body >>= fun (rsp, log) => respond e 0x07 rsp >>= fun r => .ok (some r, e.store, log)
      else emuWrite e body >>= fun (rsp, store, log) => respond e 0x09 rsp >>= fun r => .ok (some r, store, log) := by
  unfold frame at hf
  by_cases hL : 2 + e.idm.length + body.length > 255
  · rw [if_pos hL] at hf; cases hf
  rw [if_neg hL] at hf; cases hf
  obtain ⟨a, b, c, d, f, g, h, i, hi⟩ := len8 e.idm hidm
  rcases hc with rfl | rfl <;> simp [processCommand, hi, sliceN] <;> omega

theorem processCommand_write (e : Emu) (body w : Bytes) (hidm : e.idm.length = 8) (hf : frame 8 e.idm body = .ok w)
    (rsp store : Bytes) (log : List Call) (hw : emuWrite e body = .ok (rsp, store, log)) (hr : 10 + rsp.length ≤ 255) :
    processCommand e w = .ok (some ([10 + rsp.length, 9] ++ e.idm ++ rsp), store, log) := by
  rw [processCommand_frame e 8 body w hidm hf (Or.inr rfl), if_neg (by decide), hw]
  simp only [respond, Py.bind_ok]
  rw [if_neg (by omega)]; rfl

theorem processCommand_read (e : Emu) (body r : Bytes) (hidm : e.idm.length = 8) (hf : frame 6 e.idm body = .ok r)
    (rsp : Bytes) (log : List Call) (hw : emuRead e body = .ok (rsp, log)) (hr : 10 + rsp.length ≤ 255) :
    processCommand e r = .ok (some ([10 + rsp.length, 7] ++ e.idm ++ rsp), e.store, log) := by
  rw [processCommand_frame e 6 body r hidm hf (Or.inl rfl), if_pos rfl, hw]
  simp only [respond, Py.bind_ok]
  rw [if_neg (by omega)]; rfl

theorem codes_length_ge (bl : List Nat) : 2 * bl.length ≤ (bl.flatMap codeOf).length := by
  induction bl with
  | nil => simp
  | cons b bs ih => simp only [List.flatMap_cons, List.length_append, List.length_cons, codeOf_length]; split <;> omega

theorem write_frame (e : Emu) (bl : List Nat) (d : Bytes) (hidm : e.idm.length = 8)
    (hb : ∀ b ∈ bl, b * 16 + 16 ≤ e.store.length) (h65 : ∀ b ∈ bl, b < 65536)
    (hd : d.length = 16 * bl.length) (hfit : 14 + (bl.flatMap codeOf).length + d.length ≤ 255) :
    ∃ w log, encWrite e.idm 9 bl d = .ok w ∧
      processCommand e w = .ok (some ([12, 9] ++ e.idm ++ [0, 0]), writeAll d bl 0 e.store, log) := by
  have hcl := codes_length_ge bl
  obtain ⟨rsp, st, log, hw, _, h3⟩ := emuWrite_run e 9 bl d h65 (by decide)
  obtain ⟨rfl, rfl⟩ := h3 (by decide) hb hd
  have hbc := blockCodes_ok bl h65
  generalize bl.flatMap codeOf = C at *
  obtain ⟨w, hf⟩ := frame_ok 8 e.idm ([1] ++ serviceCode 9 ++ [bl.length] ++ C ++ d) (by simp [serviceCode]; omega)
  refine ⟨w, log, ?_, by simpa using processCommand_write e _ _ hidm hf _ _ _ hw (by simp)⟩
  simp only [encWrite, hbc, Py.bind_ok]
  rw [if_neg (by omega), hf]

theorem read_frame (e : Emu) (bl : List Nat) (hidm : e.idm.length = 8)
    (hb : ∀ b ∈ bl, b * 16 + 16 ≤ e.store.length) (h65 : ∀ b ∈ bl, b < 65536) (hn : bl.length ≤ 15)
    (hfit : 14 + (bl.flatMap codeOf).length ≤ 255) :
    ∃ r log, encRead e.idm 11 bl = .ok r ∧
      processCommand e r
        = .ok (some ([13 + 16 * bl.length, 7] ++ e.idm ++ [0, 0, bl.length] ++ readAll e.store bl), e.store, log) := by
  have hl := readAll_length e.store bl hb
  obtain ⟨rsp, log, hr, _, h3⟩ := emuRead_run e 11 bl h65
  rw [h3 (by decide) hn hb] at hr
  rw [hl, Nat.mul_div_cancel_left _ (by omega)] at hr
  have hbc := blockCodes_ok bl h65
  generalize bl.flatMap codeOf = C at *
  obtain ⟨r, hf⟩ := frame_ok 6 e.idm ([1] ++ serviceCode 11 ++ [bl.length] ++ C) (by simp [serviceCode]; omega)
  refine ⟨r, log, ?_, ?_⟩
  · simp only [encRead, hbc, Py.bind_ok]
    rw [if_neg (by omega), hf]
  · rw [processCommand_read e _ _ hidm hf _ _ hr (by simp [hl]; omega)]; simp [hl, List.append_assoc]; omega

end NfcVerif.T3Emu
