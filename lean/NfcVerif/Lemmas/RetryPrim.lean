import NfcVerif.Model.Retry
/-!
# C16 - the retry primitives

What one call of `loop` (Type 1/2/3), `dep` (ISO-DEP) and `rawx` does.  Each loop of the model is walked
once, against a relation that lists what one round can do (`Tries`, `Frames`); the state between rounds
changes only by exchanges over the air (`Air`).  Everything else about the primitives is an induction on
these relations.
-/
namespace NfcVerif.Retry

@[simp] theorem nextAtt_log (w : World) : (nextAtt w).2.log = w.log := by
  unfold nextAtt; split <;> rfl
@[simp] theorem exec_log (w : World) (c : Cmd) (a : Rsp) : (w.exec c a).log = w.log := by
  unfold World.exec World.apply; split <;> rfl
@[simp] theorem push_log (w : World) (c : Cmd) (l) : (w.push c l).log = w.log ++ [⟨c, l⟩] := rfl
@[simp] theorem sense_log (w : World) : w.sense.2.log = w.log := by
  unfold World.sense; split <;> rfl
@[simp] theorem reactivate_log (w : World) : w.reactivate.2.log = w.log := by
  simp [World.reactivate]
@[simp] theorem stick_log (w : World) (e : Exc) : (w.stick e).log = w.log := by
  unfold World.stick; split <;> rfl
@[simp] theorem answered_log (c : Cmd) (a : Rsp) (x) (acc) (w : World) :
    (answered c a x acc w).2.log = w.log ++ [⟨c, acc ++ [x]⟩] := by
  unfold answered; split <;> simp

/-- the attempt was answered by the tag (a cut answer is an answer) -/
def isAnswered : Att × Bool → Bool
  | (.ans, mute) => !mute
  | (.short _, mute) => !mute
  | (.flt _ _, _) => false

/-- a script that starts with `n` failures of class `f` (whether or not the tag got the command) -/
def startsWith (f : Fault) : Nat → List Att → Prop
  | 0, _ => True
  | n+1, .flt g _ :: rest => g = f ∧ startsWith f n rest
  | _+1, _ => False

theorem startsWith_next {f : Fault} {n : Nat} {w : World} (hs : startsWith f (n + 1) w.script) :
    ∃ r w1, nextAtt w = (.flt f r, w1) ∧
      ∀ (b : Bool) (c : Cmd) (a : Rsp), startsWith f n (if b = true then w1.exec c a else w1).script := by
  cases hsc : w.script with
  | nil => rw [hsc] at hs; exact absurd hs (by simp [startsWith])
  | cons x rest =>
    rw [hsc] at hs
    cases x with
    | ans | short _ => exact absurd hs (by simp [startsWith])
    | flt g r =>
      obtain ⟨rfl, hrest⟩ := hs
      refine ⟨r, { w with script := rest }, by simp [nextAtt, hsc], fun b c a => ?_⟩
      split <;> simp [World.exec, World.apply] <;> (try split) <;> exact hrest

/-- the script only contains the three error classes the tag layer knows -/
def Benign (w : World) : Prop := ∀ f r, Att.flt f r ∈ w.script → f.errno ≠ none

/-- the tag object knows when the frontend has lost its target: `clf.exchange` is never called
without one (`tag.target` is the result of the last `clf.sense`) -/
def Sound (w : World) : Prop := w.lost = true → w.gone = true

theorem nextAtt_cases (w : World) :
    (w.script = [] ∧ nextAtt w = (.ans, w)) ∨
    (∃ x rest, w.script = x :: rest ∧ nextAtt w = (x, { w with script := rest })) := by
  unfold nextAtt
  cases h : w.script with
  | nil => left; simp
  | cons x rest => right; exact ⟨x, rest, rfl, by simp⟩

theorem benign_push {w : World} (c : Cmd) (l) (hb : Benign w) : Benign (w.push c l) := hb

@[simp] theorem sense_script (w : World) : w.sense.2.script = w.script := by
  unfold World.sense; split <;> rfl
@[simp] theorem reactivate_script (w : World) : w.reactivate.2.script = w.script := by
  simp [World.reactivate]
theorem benign_reactivate {w : World} (hb : Benign w) : Benign w.reactivate.2 := by
  unfold Benign; rw [reactivate_script]; exact hb
theorem benign_stick {w : World} (e : Exc) (hb : Benign w) : Benign (w.stick e) := by
  unfold World.stick; split <;> exact hb

theorem sound_push {w : World} (c : Cmd) (l) (hs : Sound w) : Sound (w.push c l) := hs
theorem sound_stick {w : World} (e : Exc) (hs : Sound w) : Sound (w.stick e) := by
  unfold World.stick; split <;> exact hs
/-- the result of `clf.sense` is stored in `tag._target`: afterwards the tag object is right about the target -/
theorem sound_reactivate (w : World) : Sound w.reactivate.2 := by
  unfold Sound World.reactivate World.sense
  split <;> simp

/-- the fields of the state that only `clf.sense` and the ISO-DEP error memory touch -/
structure Flags where
  gone : Bool
  lost : Bool
  senses : List Bool
  sticky : Option Int
  deriving DecidableEq

def World.flags (w : World) : Flags := ⟨w.gone, w.lost, w.senses, w.sticky⟩

@[simp] theorem nextAtt_flags (w : World) : (nextAtt w).2.flags = w.flags := by
  unfold nextAtt; split <;> rfl
@[simp] theorem exec_flags (w : World) (c : Cmd) (a : Rsp) : (w.exec c a).flags = w.flags := by
  unfold World.exec World.apply; split <;> rfl
@[simp] theorem apply_flags (w : World) (c : Cmd) : (w.apply c).flags = w.flags := rfl
@[simp] theorem push_flags (w : World) (c : Cmd) (l) : (w.push c l).flags = w.flags := rfl
@[simp] theorem ite_exec_flags (b : Bool) (w : World) (c : Cmd) (a : Rsp) :
    (if b = true then w.exec c a else w).flags = w.flags := by split <;> simp

/-- `w'` comes from `w` by exchanges over the air alone -/
def Air (w w' : World) : Prop :=
  ∃ s ap, w' = { w with script := s, applied := ap } ∧ ∃ pre, w.script = pre ++ s

theorem Air.refl (w : World) : Air w w := ⟨w.script, w.applied, rfl, [], rfl⟩

theorem Air.trans {w w1 w2 : World} (h1 : Air w w1) (h2 : Air w1 w2) : Air w w2 := by
  obtain ⟨s, ap, rfl, pre, hp⟩ := h1
  obtain ⟨s2, ap2, rfl, pre2, hp2⟩ := h2
  exact ⟨s2, ap2, rfl, pre ++ pre2, by rw [hp, List.append_assoc]; exact congrArg _ hp2⟩

theorem Air.exec (w : World) (c : Cmd) (a : Rsp) : Air w (w.exec c a) := by
  unfold World.exec World.apply
  split
  · exact ⟨w.script, _, rfl, [], rfl⟩
  · exact Air.refl w

theorem Air.ite (b : Bool) (w : World) (c : Cmd) (a : Rsp) : Air w (if b = true then w.exec c a else w) := by
  split
  · exact Air.exec w c a
  · exact Air.refl w

theorem Air.next {w w1 : World} {att : Att} (h : nextAtt w = (att, w1)) :
    Air w w1 ∧ ∀ f r, att = .flt f r → Att.flt f r ∈ w.script := by
  rcases nextAtt_cases w with ⟨_, he⟩ | ⟨x, rest, hs, he⟩ <;> (rw [he] at h; cases h)
  · exact ⟨Air.refl w, fun f r h => by cases h⟩
  · exact ⟨⟨rest, w.applied, rfl, [att], hs⟩, fun f r hx => by rw [hs, hx]; exact List.mem_cons_self⟩

theorem Air.log {w w' : World} (h : Air w w') : w'.log = w.log := by obtain ⟨s, ap, rfl, _⟩ := h; rfl
theorem Air.flags {w w' : World} (h : Air w w') : w'.flags = w.flags := by obtain ⟨s, ap, rfl, _⟩ := h; rfl
theorem Air.benign {w w' : World} (h : Air w w') (hb : Benign w) : Benign w' := by
  obtain ⟨s, ap, rfl, pre, hp⟩ := h
  exact fun f r hm => hb f r (by rw [hp]; exact List.mem_append_right _ hm)
theorem Air.sound {w w' : World} (h : Air w w') (hs : Sound w) : Sound w' := by
  obtain ⟨s, ap, rfl, _⟩ := h; exact hs

theorem shortExc_repaired (idm : Bool) (k : Nat) : ∃ m, shortExc Cfg.repaired idm k = .tagCmd m := by
  unfold shortExc Cfg.repaired; simp only [if_true]; split <;> exact ⟨_, rfl⟩

theorem exhausted_ok (k : PrimKind) (f : Fault) (h : k = .t3 ∨ f.errno ≠ none) :
    ∃ m, exhausted Cfg.repaired k f = .tagCmd m := by
  unfold exhausted
  cases hf : f.errno with
  | some n => exact ⟨n, rfl⟩
  | none =>
    rcases h with h | h
    · subst h; exact ⟨-1, by simp [Cfg.repaired]⟩
    · exact absurd hf h

/-- what the repaired primitives guarantee about a call started in `w` -/
abbrev Safe (w : World) (r : Py Unit × World) : Prop :=
  (∀ e, r.1 = .error e → ∃ m, e = .tagCmd m) ∧ (Benign w → Benign r.2) ∧ (Sound w → Sound r.2)

theorem answered_safe (c : Cmd) (a : Rsp) (x) (acc) (w : World) : Safe w (answered c a x acc w) := by
  unfold answered
  split
  · exact ⟨(by intro e he; cases he; exact ⟨_, rfl⟩), fun hb => benign_push _ _ hb, fun hs => sound_push _ _ hs⟩
  · exact ⟨(by intro e he; cases he; exact ⟨_, rfl⟩), fun hb => benign_push _ _ (benign_reactivate hb),
      fun _ => sound_push _ _ (sound_reactivate w)⟩
  · exact ⟨(by intro e he; cases he), fun hb => benign_push _ _ hb, fun hs => sound_push _ _ hs⟩

theorem answered_sticky (c : Cmd) (a : Rsp) (x) (acc) (w : World) :
    (answered c a x acc w).2.sticky = w.sticky := by
  unfold answered World.reactivate World.sense
  split <;> (try rfl)
  split <;> rfl

/-- what the retry loop does, attempt by attempt; `fail`: the exchange fails with a class `f` that the script holds,
or the tag is mute (`f = .timeout`) -/
inductive Tries (cfg : Cfg) (k : PrimKind) (idm : Bool) (c : Cmd) :
    Nat → Option Fault → List (Att × Bool) → World → Py Unit × World → Prop
  | out {last acc w} : Tries cfg k idm c 0 last acc w
      (.error (match last with | some f => exhausted cfg k f | none => .unbound), w.push c acc)
  | fail {n last acc w x f w2 r} : isAnswered x = false → Air w w2 → (f = .timeout ∨ ∃ b, Att.flt f b ∈ w.script) →
      Tries cfg k idm c n (some f) (acc ++ [x]) w2 r → Tries cfg k idm c (n+1) last acc w r
  | ans {n last acc w a x w2} : Air w w2 → Tries cfg k idm c (n+1) last acc w (answered c a x acc w2)
  | cut {n last acc w s w2} : k = .t3 → Air w w2 →
      Tries cfg k idm c (n+1) last acc w (.error (shortExc cfg idm s), w2.push c (acc ++ [(.short s, false)]))

theorem loop_tries (cfg : Cfg) (k : PrimKind) (idm : Bool) (c : Cmd) (a0 : Ans) :
    ∀ (n : Nat) (last : Option Fault) (acc : List (Att × Bool)) (w : World),
    Tries cfg k idm c n last acc w (loop cfg k idm c a0 n last acc w) := by
  intro n
  induction n with
  | zero => intro last acc w; exact .out
  | succ n ih =>
    intro last acc w
    unfold loop
    generalize a0.eff (executed acc) = a
    generalize hp : nextAtt w = p
    obtain ⟨att, w1⟩ := p
    obtain ⟨h1, hf⟩ := Air.next hp
    have hx := h1.trans (Air.exec w1 c a)
    cases att with
    | ans =>
      cases a with
      | mute => exact .fail rfl hx (Or.inl rfl) (ih _ _ _)
      | ok | refuse _ | nak => exact .ans hx
    | flt f r => exact .fail rfl (h1.trans (Air.ite r w1 c a)) (Or.inr ⟨r, hf f r rfl⟩) (ih _ _ _)
    | short s =>
      cases a with
      | mute => exact .fail rfl hx (Or.inl rfl) (ih _ _ _)
      | ok | refuse _ | nak =>
        simp only []
        split
        · exact .cut ‹_› hx
        · exact .ans hx

section
variable {cfg : Cfg} {k : PrimKind} {idm : Bool} {c : Cmd} {n : Nat} {last : Option Fault}
  {acc : List (Att × Bool)} {w : World} {r : Py Unit × World}

theorem Tries.log (h : Tries cfg k idm c n last acc w r) :
    ∃ fails tail, r.2.log = w.log ++ [⟨c, acc ++ fails ++ tail⟩]
      ∧ (∀ x ∈ fails, isAnswered x = false) ∧ tail.length ≤ 1 ∧ fails.length + tail.length ≤ n := by
  induction h with
  | out => exact ⟨[], [], by simp, by simp, by simp, by simp⟩
  | @fail n last acc w x f w2 r hx ha _ _ ih =>
    obtain ⟨fl, t, h1, h2, h3, h4⟩ := ih
    refine ⟨x :: fl, t, by simp [h1, ha.log], ?_, h3, by simp; omega⟩
    intro y hy
    cases hy with
    | head => exact hx
    | tail _ h => exact h2 y h
  | @ans _ _ _ _ _ x _ ha => exact ⟨[], [x], by simp [ha.log], by simp, by simp, by simp⟩
  | @cut _ _ _ _ s _ _ ha => exact ⟨[], [(.short s, false)], by simp [ha.log], by simp, by simp, by simp⟩

theorem Tries.sticky (h : Tries cfg k idm c n last acc w r) : r.2.sticky = w.sticky := by
  induction h with
  | out => rfl
  | fail _ ha _ _ ih => exact ih.trans (congrArg Flags.sticky ha.flags)
  | ans ha => exact (answered_sticky ..).trans (congrArg Flags.sticky ha.flags)
  | cut _ ha => exact congrArg Flags.sticky ha.flags

/-- repaired code: the retry loop is safe (Type 3: for every script; Type 1/2: as long as `exchange`
raises one of the three known classes) -/
theorem Tries.safe (h : Tries Cfg.repaired k idm c n last acc w r)
    (h0 : n = 0 → ∃ f, last = some f ∧ (k = .t3 ∨ f.errno ≠ none))
    (hk : k = .t3 ∨ Benign w) : Safe w r := by
  induction h with
  | @out last acc w =>
    obtain ⟨f, rfl, hf⟩ := h0 rfl
    obtain ⟨m, hm⟩ := exhausted_ok k f hf
    exact ⟨fun e he => ⟨m, by simp only [hm] at he; cases he; rfl⟩, id, id⟩
  | @fail n last acc w x f w2 r _ ha hf _ ih =>
    have hf' : k = .t3 ∨ f.errno ≠ none := by
      rcases hf with rfl | ⟨b, hm⟩
      · exact Or.inr (by simp [Fault.errno])
      · exact hk.imp id fun hb => hb f b hm
    have := ih (fun _ => ⟨f, rfl, hf'⟩) (hk.imp id ha.benign)
    exact ⟨this.1, fun hb => this.2.1 (ha.benign hb), fun hs => this.2.2 (ha.sound hs)⟩
  | @ans _ _ acc _ a x w2 ha =>
    have := answered_safe c a x acc w2
    exact ⟨this.1, fun hb => this.2.1 (ha.benign hb), fun hs => this.2.2 (ha.sound hs)⟩
  | @cut n last acc w s w2 _ ha =>
    obtain ⟨m, hm⟩ := shortExc_repaired idm s
    exact ⟨fun e he => ⟨m, by simp only [hm] at he; cases he; rfl⟩,
      fun hb => benign_push _ _ (ha.benign hb), fun hs => sound_push _ _ (ha.sound hs)⟩
end

/-- the retry loop does not touch the ISO-DEP error memory -/
theorem loop_sticky (cfg : Cfg) (k : PrimKind) (idm : Bool) (c : Cmd) (a0 : Ans) :
    ∀ (n : Nat) (last : Option Fault) (acc : List (Att × Bool)) (w : World),
    (loop cfg k idm c a0 n last acc w).2.sticky = w.sticky :=
  fun n last acc w => (loop_tries cfg k idm c a0 n last acc w).sticky

theorem loop_exhausted (cfg : Cfg) (k : PrimKind) (idm : Bool) (c : Cmd) (a : Ans) (f : Fault) :
    ∀ (n : Nat) (last : Option Fault) (acc : List (Att × Bool)) (w : World),
    startsWith f n w.script → (n = 0 → last = some f) →
    (loop cfg k idm c a n last acc w).1 = .error (exhausted cfg k f) := by
  intro n
  induction n with
  | zero => intro last acc w _ h; simp [loop, h rfl]
  | succ n ih =>
    intro last acc w hs _
    obtain ⟨r, w1, hn, hrest⟩ := startsWith_next hs
    unfold loop
    rw [hn]
    exact ih _ _ _ (hrest _ _ _) (fun _ => rfl)

theorem depFail_cases (cfg : Cfg) (budget i : Nat) (f : Fault) :
    (depFail cfg budget i f = none ∧ i ≤ budget) ∨
    (∃ m, depFail cfg budget i f = some (.tagCmd m)) ∨
    (cfg.fixT4 = false ∧ depFail cfg budget i f = some f.exc) := by
  unfold depFail
  cases f with
  | protocol => right; left; exact ⟨_, rfl⟩
  | timeout | transmission =>
    by_cases h : i ≤ budget
    · left; simp [h]
    · right; left; simp [h]
  | brokenLink | base =>
    cases hc : cfg.fixT4
    · right; right; simp
    · right; left; simp

theorem depDone_spec (c : Cmd) (a : Rsp) (w : World) (acc) :
    (∀ e, (depDone c a w acc).1 = .error e → ∃ m, e = .tagCmd m) ∧ (depDone c a w acc).2 = w.push c acc := by
  unfold depDone; cases a <;> simp

/-- what the ISO-DEP block loop does from frame `i` on: the frame fails for good and a TagCommandError is
remembered (as found: or the unknown CommunicationError leaves); the exchange is complete; the loop goes
on with frame `i + 1` (R(NAK), or the I-block again after R(ACK)) -/
inductive Frames (cfg : Cfg) (budget : Nat) (c : Cmd) (a : Rsp) :
    Nat → List (Att × Bool) → World → Py Unit × World → Prop
  | stop {i acc w x w2 e} : i ≤ budget + 2 → Air w w2 →
      ((∃ m, e = .tagCmd m) ∨ (cfg.fixT4 = false ∧ ∃ f, e = Fault.exc f)) →
      Frames cfg budget c a i acc w (.error e, (w2.push c (acc ++ [x])).stick e)
  | done {i acc w x w2} : i ≤ budget + 2 → Air w w2 → Frames cfg budget c a i acc w (depDone c a w2 (acc ++ [x]))
  | cont {i acc w x w2 r} : Air w w2 → i ≤ budget + 1 → Frames cfg budget c a (i+1) (acc ++ [x]) w2 r →
      Frames cfg budget c a i acc w r

/-- `fuel = budget + 3` is never used up -/
theorem dep_frames (cfg : Cfg) (budget : Nat) (c : Cmd) (a : Rsp) :
    ∀ (fuel i : Nat) (nak has : Bool) (acc : List (Att × Bool)) (w : World),
    fuel + i = budget + 4 → (nak = true → i ≤ budget + 1) → i ≤ budget + 2 →
    Frames cfg budget c a i acc w (dep cfg budget c a fuel i nak has acc w) := by
  intro fuel
  induction fuel with
  | zero => intro i nak has acc w h1 _ h3; omega
  | succ fuel ih =>
    intro i nak has acc w h1 h2 h3
    unfold dep
    generalize hp : nextAtt w = p
    obtain ⟨att, w1⟩ := p
    have ha := (Air.next hp).1
    -- the `except` clauses after the attempt `x`
    have failcase : ∀ (f : Fault) (has' : Bool) (x : Att × Bool) (w2 : World), Air w w2 →
        Frames cfg budget c a i acc w (match depFail cfg budget i f with
          | some e => ((Except.error e : Py Unit), (w2.push c (acc ++ [x])).stick e)
          | none => dep cfg budget c a fuel (i+1) true has' (acc ++ [x]) w2) := by
      intro f has' x w2 h2'
      rcases depFail_cases cfg budget i f with ⟨h, hi⟩ | ⟨m, h⟩ | ⟨hc, h⟩ <;> rw [h]
      · exact .cont h2' (by omega) (ih _ _ _ _ _ (by omega) (fun _ => by omega) (by omega))
      · exact .stop h3 h2' (Or.inl ⟨m, rfl⟩)
      · exact .stop h3 h2' (Or.inr ⟨hc, f, rfl⟩)
    cases att with
    | flt f r => exact failcase f _ _ _ (ha.trans (Air.ite ..))
    | ans | short _ =>
      simp only []
      split
      · exact failcase .timeout _ _ _ ha
      · split
        · rename_i hn
          split
          · exact .done h3 ha
          · exact .cont ha (h2 hn) (ih _ _ _ _ _ (by omega) (fun h => by cases h) (by have := h2 hn; omega))
        · exact .done h3 (ha.trans (Air.exec ..))

/-- the answer of the card (not the link) makes the command fail with `n` -/
def Rsp.refuses (a : Rsp) (n : Int) : Prop := a = .refuse n ∨ (a = .nak ∧ n = 2)

section
variable {cfg : Cfg} {budget : Nat} {c : Cmd} {a : Rsp} {i : Nat} {acc : List (Att × Bool)} {w : World}
  {r : Py Unit × World}

theorem Frames.safe (h : Frames cfg budget c a i acc w r) :
    (∀ e, r.1 = .error e → (∃ m, e = .tagCmd m) ∨ (cfg.fixT4 = false ∧ ∃ f, e = Fault.exc f))
    ∧ (Benign w → Benign r.2) ∧ (Sound w → Sound r.2) := by
  induction h with
  | stop _ ha he =>
    exact ⟨fun e h => by cases h; exact he, fun hb => benign_stick _ (benign_push _ _ (ha.benign hb)),
      fun hs => sound_stick _ (sound_push _ _ (ha.sound hs))⟩
  | @done i acc w x w2 _ ha =>
    obtain ⟨d1, d2⟩ := depDone_spec c a w2 (acc ++ [x])
    rw [d2]
    exact ⟨fun e h => Or.inl (d1 e h), fun hb => benign_push _ _ (ha.benign hb), fun hs => sound_push _ _ (ha.sound hs)⟩
  | cont ha _ _ ih => exact ⟨ih.1, fun hb => ih.2.1 (ha.benign hb), fun hs => ih.2.2 (ha.sound hs)⟩

theorem Frames.log (h : Frames cfg budget c a i acc w r) (hi : acc.length + 1 = i) :
    ∃ more, r.2.log = w.log ++ [⟨c, acc ++ more⟩] ∧ acc.length + more.length ≤ budget + 2 := by
  induction h with
  | @stop i acc w x w2 e _ ha _ => exact ⟨[x], by simp [ha.log], by simp; omega⟩
  | @done i acc w x w2 _ ha =>
    rw [(depDone_spec c a w2 (acc ++ [x])).2]
    exact ⟨[x], by simp [ha.log], by simp; omega⟩
  | @cont i acc w x w2 r ha _ _ ih =>
    obtain ⟨more, e3, e4⟩ := ih (by simp; omega)
    exact ⟨x :: more, by rw [e3, ha.log]; simp, by simp at e4 ⊢; omega⟩

/-- **the error memory of the ISO-DEP initiator**: an exchange that ends normally or with the card's own
refusal leaves everything but script and logs alone; every other error end is a TagCommandError whose
reason code is stored in `sticky` (as found: or the unknown CommunicationError itself, which is not stored) -/
theorem Frames.remembered (h : Frames cfg budget c a i acc w r) :
    (r.2.flags = w.flags
      ∧ (r.1 = .ok () ∨ (∃ n, r.1 = .error (.tagCmd n) ∧ a.refuses n)
         ∨ (cfg.fixT4 = false ∧ ∃ f, r.1 = .error (Fault.exc f))))
    ∨ (∃ n, r.1 = .error (.tagCmd n) ∧ r.2.flags = { w.flags with sticky := some n }) := by
  induction h with
  | @stop i acc w x w2 e _ ha he =>
    rcases he with ⟨m, rfl⟩ | ⟨hc, f, rfl⟩
    · exact Or.inr ⟨m, rfl, by rw [← ha.flags]; rfl⟩
    · refine Or.inl ⟨?_, Or.inr (Or.inr ⟨hc, f, rfl⟩)⟩
      rw [← ha.flags]; cases f <;> rfl
  | @done i acc w x w2 _ ha =>
    left
    unfold depDone
    cases a with
    | ok | mute => exact ⟨ha.flags, Or.inl rfl⟩
    | refuse e => exact ⟨ha.flags, Or.inr (Or.inl ⟨e, rfl, Or.inl rfl⟩)⟩
    | nak => exact ⟨ha.flags, Or.inr (Or.inl ⟨2, rfl, Or.inr ⟨rfl, rfl⟩⟩)⟩
  | cont ha _ _ ih => rw [← ha.flags]; exact ih
end

/-- a persisting timeout / transmission error: frames `i .. budget+1` all fail with class `f` -/
theorem dep_exhausted (cfg : Cfg) (budget : Nat) (c : Cmd) (a : Rsp) (f : Fault) (e : Int)
    (hf : (f = .timeout ∧ e = 0) ∨ (f = .transmission ∧ e = -1)) :
    ∀ (fuel i : Nat) (nak has : Bool) (acc : List (Att × Bool)) (w : World),
    fuel + i = budget + 4 → i ≤ budget + 1 → startsWith f (budget + 2 - i) w.script →
    (dep cfg budget c a fuel i nak has acc w).1 = .error (.tagCmd e) := by
  intro fuel
  induction fuel with
  | zero => intro i _ _ _ _ h1 h2 _; omega
  | succ fuel ih =>
    intro i nak has acc w h1 h2 hs
    have hn : budget + 2 - i = (budget + 1 - i) + 1 := by omega
    rw [hn] at hs
    obtain ⟨r, w1, hnx, hrest⟩ := startsWith_next hs
    unfold dep
    rw [hnx]
    simp only []
    by_cases hi : i ≤ budget
    · have hd : depFail cfg budget i f = none := by
        rcases hf with ⟨h, _⟩ | ⟨h, _⟩ <;> subst h <;> simp [depFail, hi]
      rw [hd]
      simp only []
      apply ih (i+1) true _ _ _ (by omega) (by omega)
      have : budget + 2 - (i + 1) = budget + 1 - i := by omega
      rw [this]
      exact hrest _ _ _
    · have hd : depFail cfg budget i f = some (.tagCmd e) := by
        rcases hf with ⟨h, he⟩ | ⟨h, he⟩ <;> subst h <;> subst he <;> simp [depFail, hi]
      rw [hd]

theorem rawx_air (c : Cmd) (a : Rsp) (w : World) : ∃ w2 atts, Air w w2 ∧ (rawx c a w).2 = w2.push c atts := by
  unfold rawx
  generalize hp : nextAtt w = p
  obtain ⟨att, w1⟩ := p
  have h1 := (Air.next hp).1
  cases att with
  | flt f r => exact ⟨_, _, h1.trans (Air.ite r w1 c a), rfl⟩
  | ans | short _ =>
    cases a with
    | ok => exact ⟨w1.apply c, _, h1.trans ⟨w1.script, _, rfl, [], rfl⟩, rfl⟩
    | refuse _ | nak | mute => exact ⟨w1, _, h1, rfl⟩

theorem rawx_err (c : Cmd) (a : Rsp) (w : World) (e : Exc) (he : (rawx c a w).1 = .error e) :
    (∃ m, e = .tagCmd m) ∨ ∃ n, Catch.commErr.catches e = some n := by
  unfold rawx at he
  generalize nextAtt w = p at he
  obtain ⟨att, w1⟩ := p
  cases att with
  | flt f r => cases he; right; cases f <;> exact ⟨_, rfl⟩
  | ans | short _ =>
    cases a with
    | ok => cases he
    | refuse _ | nak => cases he; exact Or.inl ⟨_, rfl⟩
    | mute => cases he; exact Or.inr ⟨_, rfl⟩

/-- the retry loops of Type 1/2 and Type 3 -/
def LoopKind (k : PrimKind) : Prop := k = .t12 ∨ k = .t3

theorem prim_loop (cfg : Cfg) (p : Prim) (c : Cmd) (a : Ans) (w : World) (hk : LoopKind p.kind)
    (hw : p.kind = .t12 → w.gone = false ∧ w.lost = false) :
    prim cfg p c a w = loop cfg p.kind p.idm c a p.budget none [] w := by
  unfold prim
  rcases hk with h | h <;> rw [h]
  simp only [(hw h).1, (hw h).2]; rfl

theorem prim_dep (cfg : Cfg) (p : Prim) (c : Cmd) (a : Ans) (w : World) (hk : p.kind = .t4) (hw : w.sticky = none) :
    prim cfg p c a w = dep cfg p.budget c (a.eff false) (p.budget + 3) 1 false false [] w := by
  unfold prim; rw [hk]; simp only [hw]

theorem prim_frames (cfg : Cfg) (p : Prim) (c : Cmd) (a : Ans) (w : World) (hk : p.kind = .t4) (hw : w.sticky = none) :
    Frames cfg p.budget c (a.eff false) 1 [] w (prim cfg p c a w) := by
  rw [prim_dep cfg p c a w hk hw]
  exact dep_frames cfg p.budget c (a.eff false) (p.budget + 3) 1 false false [] w (by omega) (by intro h; cases h) (by omega)

end NfcVerif.Retry
