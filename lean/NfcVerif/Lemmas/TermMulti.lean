import NfcVerif.Model.TermMulti
import NfcVerif.Lemmas.Term
/-!
Proofs for C09 on a terminated link.  `StepGood`: a step of a call ends with a value or nfc.llcp.Error or stands
at a lock acquisition of lower rank, never at a wait (`fresh_step`, `ready_step`, `parked_step`, by scheduling point
and call).  From it `run_stepGood` for one thread (`Term.run`) and, with the invariant `Inv` and the progress
relation `Prog`, `runThreads_spec` for any number of threads under any schedule (`NfcVerif.TermMulti`).
`inv_linkStep`: the link thread's `terminate()` establishes `Inv` in a state whose threads satisfy `preB`.
-/
namespace NfcVerif.TermMulti
open NfcVerif NfcVerif.Term

/-- what `notify_all` on each of `cvs` makes of thread `t` -/
def wakeIf (cvs : List Cv) (t : Thread) : Thread :=
  match waitsOn t with
  | some cv => if cvs.contains cv then wake t else t
  | none => t

theorem wakeIf_cons (cv : Cv) (cvs : List Cv) (t : Thread) :
    wakeIf (cv :: cvs) t = wakeIf cvs (if waitsOn t == some cv then wake t else t) := by
  have hwake : waitsOn (wake t) = none := by
    unfold wake waitsOn
    cases h : t.stat <;> simp [h]
  unfold wakeIf
  cases h : waitsOn t with
  | none => simp [h]
  | some c =>
    by_cases hc : c = cv
    · subst hc; simp [hwake]
    · have : (cv == c) = false := by simp; exact fun h => hc h.symm
      simp [hc, h]

theorem applyNotes_all (cvs : List Cv) (ths : List Thread) (order : List Nat) :
    (applyNotes (cvs.map fun cv => (cv, Nk.all)) (ths, order)).1 = ths.map (wakeIf cvs) := by
  induction cvs generalizing ths order with
  | nil =>
    have : wakeIf [] = id := funext fun t => by unfold wakeIf; cases waitsOn t <;> simp
    simp [applyNotes, this]
  | cons cv rest ih =>
    simp only [List.map_cons, applyNotes, notifyAll]
    rw [ih]
    simp [List.map_map, Function.comp_def, wakeIf_cons]

def shutB (w : World) : Bool := w.s.st == .shutdown && w.s.recvQ.isEmpty
theorem shutB_iff (w : World) : shutB w = true ↔ w.s.st = .shutdown ∧ w.s.recvQ = [] := by
  simp [shutB]

/-- what a step of a thread may change on a terminated link -/
def stableB (w w' : World) : Bool :=
  w'.s.kind == w.s.kind && w'.s.bound == w.s.bound && (!shutB w || shutB w')

theorem stableB_refl (w : World) : stableB w w = true := by
  cases h : shutB w <;> simp [stableB, h]

/-- a call takes its locks in the order bind, socket, llc, and a woken waiter may still have to take the llc lock
    (`closeFinish`): `rankS` bounds the turns a thread still needs on a terminated link, since there each turn ends
    the call or leads to a lock of lower rank (`StepGood`, `Prog.done`) -/
def rankP : Pt → Nat
  | .bindAcq => 3 | .sockAcq => 2 | .llcAcq => 1 | _ => 2
def rankS : TStat → Nat
  | .fresh => 4 | .ready p => rankP p | .parked _ _ => 2 | .done _ => 0

/-- per-thread invariant on a terminated link -/
def postB (w : World) (t : Thread) : Bool :=
  match t.stat with
  | .fresh => allowed t.call w
  | .ready p => validAcq t.call p && allowed t.call w && (p != .sockAcq || shutB w || acqInv t.call p w)
  | .parked p n => n && validWait t.call p && allowed t.call w && kindOK w p && (p == .wResolve || shutB w)
  | .done _ => true

def StepGood (c : Call) (rk : Nat) (w : World) : Step → Prop
  | .done r w' => good r = true ∧ After w' ∧ stableB w w' = true
  | .at p w' => p.isWait = false ∧ After w' ∧ stableB w w' = true ∧ rankP p < rk ∧ postB w' ⟨c, .ready p, false⟩ = true

theorem stepGood_raise {c : Call} {rk : Nat} {w : World} (hA : After w) (n : Nat) : StepGood c rk w (raise n w) :=
  ⟨rfl, hA, stableB_refl w⟩

theorem stepGood_ret {c : Call} {rk : Nat} {w : World} (hA : After w) (v : Val) : StepGood c rk w (ret v w) :=
  ⟨rfl, hA, stableB_refl w⟩

theorem closeFinish_step (w : World) (hA : After w) : StepGood .close 2 w (closeFinish w) := by
  obtain ⟨ht, hr, hsa, hsd, _⟩ := hA
  have ha : After (withS w (tcoClose w.s)) := ⟨ht, hr, hsa, hsd, Or.inl ⟨rfl, rfl⟩⟩
  have hs : stableB w (withS w (tcoClose w.s)) = true := by simp [stableB, shutB, withS, tcoClose]
  unfold closeFinish
  split
  · exact ⟨rfl, ha, hs, by decide, by simp [postB, validAcq, allowed]⟩
  · exact ⟨rfl, ha, hs⟩

theorem fresh_step (c : Call) (w : World) (hA : After w) (hal : allowed c w = true) :
    StepGood c 4 w (start c w) := by
  have h := start_spec c w
  cases hs : start c w with
  | done r w' =>
    rw [hs] at h
    obtain ⟨rfl, hg⟩ := h
    exact ⟨hg hal, hA, stableB_refl _⟩
  | «at» p w' =>
    rw [hs] at h
    obtain ⟨hv, hi, m, v, rfl⟩ := h
    exact ⟨validAcq_isAcq c p hv, hA, stableB_refl w, by cases p <;> decide,
      by simp only [postB, hv, hi, Bool.or_true, Bool.and_true, Bool.true_and]; exact hal⟩

theorem body_step (c : Call) (w : World) (hA : After w) (hv : validAcq c .sockAcq = true)
    (hal : allowed c w = true) (hi : shutB w = true ∨ acqInv c .sockAcq w = true) :
    StepGood c 2 w (body c w) := by
  have hsf := hA.2.2.2.2
  have R := @stepGood_raise c 2 w hA
  have hsf' : (w.s.st = .shutdown ∧ w.s.recvQ = []) ∨ (w.s.bound = false ∧
      (if w.s.kind = .dlc then w.s.st = .closed else w.s.st = .established) ∧ acqInv c .sockAcq w = true) := by
    rcases hsf with h | ⟨hb, hf⟩
    · exact Or.inl h
    · rcases hi with h | h
      · exact Or.inl ((shutB_iff w).mp h)
      · exact Or.inr ⟨hb, hf, h⟩
  cases c with
  | bind | resolve => cases hv
  | close =>
    have : bodyClose w = closeFinish w := by
      rcases hsf with ⟨hst, _⟩ | ⟨hb, _⟩
      · simp [bodyClose, Sock.isEst, hst]
      · simp [bodyClose, hb]
    simp only [body, this]
    exact closeFinish_step w hA
  | connect =>
    rcases hsf' with ⟨hst, _⟩ | ⟨hb, _, h⟩
    · cases hk : w.s.kind with
      | raw => simp [allowed, hk] at hal
      | ldl => simp [body, bodyConnect, hk, stepGood_ret hA]
      | dlc => simp [body, bodyConnect, hk, hst, R]
    · simp [acqInv, hb] at h
  | recv =>
    rcases hsf' with ⟨hst, _⟩ | ⟨hb, _, h⟩
    · -- a connection tests whether it is connected, the other kinds test for SHUTDOWN
      by_cases hk : w.s.kind = .dlc
      · simp [body, bodyRecv, hk, Sock.estOrCw, hst, R]
      · simp [body, bodyRecv, hk, hst, R]
    · simp [acqInv, hb] at h
  | _ =>
    -- `listen`, `poll` come here bound, a datagram `send` too: not on a fresh socket
    rcases hsf' with ⟨hst, _⟩ | ⟨hb, hf, h⟩ <;> by_cases hk : w.s.kind = .dlc <;>
      simp_all [body, bodySend, bodyAccept, bodyListen, bodyPoll, Sock.isEst, acqInv]

theorem ready_step (c : Call) (p : Pt) (w : World) (hA : After w)
    (hP : postB w ⟨c, .ready p, false⟩ = true) : StepGood c (rankP p) w (exec c p w) := by
  have ⟨ht, _, hsa, hsd, hsf⟩ := hA
  simp only [postB, Bool.and_eq_true, Bool.or_eq_true] at hP
  obtain ⟨⟨hv, hal⟩, hi⟩ := hP
  cases p with
  | bindAcq =>
    have : exec c .bindAcq w = raise ESHUTDOWN w := by simp [exec, doBind, ht, raise]
    rw [this]; exact stepGood_raise hA _
  | sockAcq => exact body_step c w hA hv hal (hi.imp_left (fun h => h.resolve_left (by decide)))
  | llcAcq =>
    cases c with
    | resolve => simp [exec, hsd, rankP, stepGood_ret hA]
    | accept => simp [exec, hsa, rankP, stepGood_raise hA]
    | close =>
      exact ⟨rfl, ⟨ht, rfl, by simp [hsa], hsd, hsf⟩, stableB_refl w⟩
    | _ => cases hv
  | _ => exact absurd (validAcq_isAcq c _ hv) (by decide)

theorem parked_step (c : Call) (p : Pt) (w : World) (hA : After w) (hv : validWait c p = true)
    (hd : p = .wResolve ∨ shutB w = true) : StepGood c 2 w (exec c p w) := by
  have hsd := hA.2.2.2.1
  have R := @stepGood_raise c 2 w hA
  have V := @stepGood_ret c 2 w hA
  have S : p ≠ .wResolve → w.s.st = .shutdown ∧ w.s.recvQ = [] := fun h => (shutB_iff w).mp (hd.resolve_left h)
  cases p with
  | bindAcq | sockAcq | llcAcq => exact absurd (validWait_isWait c _ hv) (by decide)
  | wResolve => simp [exec, resolveLoop, hsd, V]
  | wTcoSend => exact V _
  | wPollSend => simp only [exec]; split <;> (try split) <;> exact V _
  | wPollAcks =>
    simp only [exec]; split
    · exact ⟨rfl, hA, stableB_refl w⟩
    · exact V _
  | wWindow =>
    simp [exec, dlcSendLoop, dlcSendTail, Sock.isEst, (S (by decide)).1, V]
  | wPollRecv =>
    simp only [exec]; split
    · simp [Sock.estOrCw, (S (by decide)).1, V]
    · exact V _
  | wTcoRecv =>
    have hq := (S (by decide)).2
    cases c with
    | recv => by_cases hk : w.s.kind = .dlc <;> simp [exec, hq, hk, R, V]
    | accept => simp [exec, hq, R]
    | connect => simp [exec, hq, R]
    | close => simp only [exec, hq]; exact closeFinish_step w hA
    | _ => simp [validWait] at hv

theorem stableB_viaSap (w w' : World) (b : Bool) : stableB { w with viaSap := b } w' = stableB w w' := rfl

theorem postB_irrel (w : World) (c : Call) (st : TStat) (b b' : Bool) : postB w ⟨c, st, b⟩ = postB w ⟨c, st, b'⟩ := by
  unfold postB; cases st <;> rfl

theorem thread_step (t : Thread) (w : World) (hA : After w) (hP : postB w t = true) :
    match stepOf t w with
    | none => rankS t.stat = 0
    | some s => StepGood t.call (rankS t.stat) { w with viaSap := t.viaSap } s := by
  obtain ⟨c, st, vs⟩ := t
  cases st with
  | fresh => exact fresh_step c _ hA hP
  | ready p => exact ready_step c p _ hA hP
  | parked p n =>
    simp only [postB, Bool.and_eq_true, Bool.or_eq_true, beq_iff_eq] at hP
    obtain ⟨⟨⟨⟨rfl, hv⟩, _⟩, _⟩, hd⟩ := hP
    exact parked_step c p _ hA hv hd
  | done r => rfl

theorem settle_spec {c : Call} {rk : Nat} {w : World} {s : Step} (vs : Bool) (h : StepGood c rk w s) :
    After (settle s).2 ∧ stableB w (settle s).2 = true ∧ postB (settle s).2 ⟨c, (settle s).1, vs⟩ = true ∧
    rankS (settle s).1 ≤ rk - 1 ∧ ∀ r, (settle s).1 = .done r → good r = true := by
  cases s with
  | done r w' =>
    exact ⟨h.2.1, h.2.2, rfl, Nat.zero_le _, fun r' hr => by cases hr; exact h.1⟩
  | «at» p w' =>
    obtain ⟨hp, ha, hs, hrk, hP⟩ := h
    simp only [settle, hp]
    exact ⟨ha, hs, hP, by show rankP p ≤ rk - 1; omega, fun r hr => by cases hr⟩

theorem postB_stable (w w' : World) (t : Thread) (hs : stableB w w' = true) (h : postB w t = true) :
    postB w' t = true := by
  obtain ⟨c, st, vs⟩ := t
  simp only [stableB, Bool.and_eq_true, beq_iff_eq, Bool.or_eq_true, Bool.not_eq_true'] at hs
  obtain ⟨⟨hk, hb⟩, hs⟩ := hs
  have hsh : shutB w = true → shutB w' = true := fun h1 => hs.resolve_left (by simp [h1])
  -- `allowed` and `kindOK` read the kind of the socket only, `acqInv` its kind and whether it is bound
  cases st with
  | fresh => simpa [postB, allowed, hk] using h
  | done r => rfl
  | ready p =>
    simp only [postB, Bool.and_eq_true, Bool.or_eq_true] at h ⊢
    obtain ⟨⟨h1, h2⟩, h3⟩ := h
    refine ⟨⟨h1, by simpa [allowed, hk] using h2⟩, ?_⟩
    rcases h3 with (h3 | h3) | h3
    · exact Or.inl (Or.inl h3)
    · exact Or.inl (Or.inr (hsh h3))
    · exact Or.inr (by simpa [acqInv, hk, hb] using h3)
  | parked p n =>
    simp only [postB, Bool.and_eq_true, Bool.or_eq_true] at h ⊢
    obtain ⟨⟨⟨⟨h1, h2⟩, h3⟩, h4⟩, h5⟩ := h
    refine ⟨⟨⟨⟨h1, h2⟩, by simpa [allowed, hk] using h3⟩, by simpa [kindOK, hk] using h4⟩, ?_⟩
    rcases h5 with h5 | h5
    · exact Or.inl h5
    · exact Or.inr (hsh h5)

theorem quiet_after (a : Act) (w : World) (hq : quiet a = true) (hA : After w) :
    After (applyAct a w).1 ∧ stableB w (applyAct a w).1 = true := by
  cases a with
  | none | spurious => exact ⟨hA, stableB_refl w⟩
  | term =>
    -- nothing is registered any more: `terminate` finds nothing to shut down
    obtain ⟨_, hr, _, _, hsf⟩ := hA
    have hs : (terminate w).1.s = w.s := by simp [terminate, hr]
    constructor
    · refine ⟨rfl, rfl, rfl, rfl, ?_⟩
      simp only [applyAct, hs]; exact hsf
    · simp only [applyAct, stableB, shutB, hs]; exact stableB_refl w
  | _ => cases hq

theorem run_stepGood (c : Call) (n : Nat) : ∀ (s : Step) (w0 : World) (rk : Nat) (script : List Act),
    (∀ a ∈ script, quiet a = true) → StepGood c rk w0 s → rk ≤ n + 1 →
    finishesGood (run c n s script) = true := by
  induction n with
  | zero =>
    intro s w0 rk script _ hs hn
    cases s with
    | done r w => simpa [run, finishesGood] using hs.1
    | «at» p w =>
      have := hs.2.2.2.1
      have : 0 < rankP p := by cases p <;> decide
      omega
  | succ n ih =>
    intro s w0 rk script hq hs hn
    cases s with
    | done r w => simpa [run, finishesGood] using hs.1
    | «at» p w =>
      obtain ⟨hw, hA, _, hrk, hP⟩ := hs
      have hqa : quiet (script.headD .none) = true := by
        cases script with
        | nil => rfl
        | cons a _ => exact hq a (by simp)
      obtain ⟨hA1, hs1⟩ := quiet_after _ w hqa hA
      have hrun : run c (n + 1) (.at p w) script =
          run c n (exec c p (applyAct (script.headD .none) w).1) script.tail := by
        simp [run, hw]
      rw [hrun]
      exact ih _ _ _ _ (fun a ha => hq a (List.mem_of_mem_tail ha))
        (ready_step c p _ hA1 (postB_stable w _ _ hs1 hP)) (by omega)

theorem waitsOn_of_postB (w : World) (t : Thread) (h : postB w t = true) : waitsOn t = none := by
  unfold waitsOn; unfold postB at h
  cases hs : t.stat with
  | parked p n => cases n <;> simp_all
  | _ => rfl

theorem applyNotes_noWaiters (notes : List (Cv × Nk)) (ths : List Thread) (h : ∀ t ∈ ths, waitsOn t = none)
    (order : List Nat) : (applyNotes notes (ths, order)).1 = ths := by
  have hw : ∀ cv i, isWaiter ths cv i = false := fun cv i => by
    unfold isWaiter
    cases hi : ths[i]? with
    | none => rfl
    | some t => simp [h t (List.mem_of_getElem? hi)]
  have h1 : ∀ cv order, notifyOne cv ths order = (ths, (notifyOne cv ths order).2) := fun cv order =>
    Prod.ext (by induction order with
      | nil => rfl
      | cons i rest ih => simp [notifyOne, hw, ih]) rfl
  have hA : ∀ cv order, notifyAll cv ths order = (ths, (notifyAll cv ths order).2) := fun cv order =>
    Prod.ext ((List.map_congr_left fun t ht => by simp [h t ht]).trans (List.map_id _)) rfl
  induction notes generalizing order with
  | nil => rfl
  | cons n rest ih =>
    obtain ⟨cv, k⟩ := n
    cases k <;> simp only [applyNotes]
    · rw [h1]; exact ih _
    · rw [hA]; exact ih _

/-- the invariant of a terminated link -/
structure Inv (m : MState) : Prop where
  after : After m.w
  post : ∀ t ∈ m.ths, postB m.w t = true

/-- how a thread may change in `k` turns of its own: same call, rank down by `k`, and a result it did not have
    before is a value or nfc.llcp.Error -/
def Prog (k : Nat) (t t' : Thread) : Prop :=
  t'.call = t.call ∧ rankS t'.stat ≤ rankS t.stat - k ∧ ∀ r, t'.stat = .done r → good r = true ∨ t.stat = .done r

theorem Prog.refl (t : Thread) : Prog 0 t t := ⟨rfl, Nat.le_refl _, fun _ h => Or.inr h⟩

theorem Prog.trans {a b c : Thread} {j k : Nat} (h1 : Prog j a b) (h2 : Prog k b c) : Prog (j + k) a c :=
  ⟨h2.1.trans h1.1, by have := h1.2.1; have := h2.2.1; omega, fun r hr => (h2.2.2 r hr).elim Or.inl (h1.2.2 r)⟩

/-- the rank is at most 4 and only a thread that has ended has rank 0: four turns suffice -/
theorem Prog.done {t t' : Thread} {k : Nat} (h : Prog k t t') (hk : 4 ≤ k) : ∃ r, t'.stat = .done r := by
  have h4 : rankS t.stat ≤ 4 := by
    cases t.stat with
    | ready p => cases p <;> simp [rankS, rankP]
    | _ => simp [rankS]
  have h0 : rankS t'.stat = 0 := by have := h.2.1; omega
  cases hs : t'.stat with
  | ready p => rw [hs] at h0; cases p <;> simp [rankS, rankP] at h0
  | done r => exact ⟨r, rfl⟩
  | _ => simp [hs, rankS] at h0

theorem rankS_settle_done (r : Py Val) (w : World) : (settle (.done r w)) = (.done r, w) := rfl

theorem stepThread_spec (m : MState) (hI : Inv m) (i : Nat) :
    Inv (stepThread m i) ∧
    ∀ j t, m.ths[j]? = some t → ∃ t', (stepThread m i).ths[j]? = some t' ∧ Prog (if j = i then 1 else 0) t t' := by
  have idle : (∀ t, m.ths[i]? = some t → rankS t.stat = 0) → Inv m ∧
      ∀ j t, m.ths[j]? = some t → ∃ t', m.ths[j]? = some t' ∧ Prog (if j = i then 1 else 0) t t' :=
    fun h0 => ⟨hI, fun j t hj => ⟨t, hj, rfl, by
      split
      · rw [h0 t (by subst j; exact hj)]; exact Nat.zero_le _
      · exact Nat.le_refl _, fun _ h => Or.inr h⟩⟩
  unfold stepThread
  cases hi : m.ths[i]? with
  | none => exact idle fun t ht => by rw [hi] at ht; cases ht
  | some t =>
    have hstep := thread_step t m.w hI.after (hI.post t (List.mem_of_getElem? hi))
    dsimp only
    cases hso : stepOf t m.w with
    | none =>
      rw [hso] at hstep
      exact idle fun t' ht' => by rw [hi] at ht'; cases ht'; exact hstep
    | some s =>
      rw [hso] at hstep
      obtain ⟨ha, hst, hpo, hrk, hg⟩ := settle_spec (settle s).2.viaSap hstep
      have hnotes := applyNotes_noWaiters (threadNotes t m.w) m.ths
        (fun t ht => waitsOn_of_postB m.w t (hI.post t ht)) (m.order.filter (fun j => j != i))
      simp only [hnotes]
      refine ⟨⟨ha, fun t2 ht2 => ?_⟩, fun j t0 hj => ?_⟩
      · rcases List.mem_or_eq_of_mem_set ht2 with h | rfl
        · exact postB_stable m.w _ t2 hst (hI.post t2 h)
        · exact hpo
      · by_cases hji : j = i
        · subst hji
          obtain rfl : t = t0 := by rw [hi] at hj; exact Option.some.inj hj
          rw [if_pos rfl]
          exact ⟨_, List.getElem?_set_self (List.getElem?_eq_some_iff.mp hi).1, rfl, hrk,
            fun r hr => Or.inl (hg r hr)⟩
        · rw [if_neg hji]
          exact ⟨t0, by rw [List.getElem?_set_ne (Ne.symm hji)]; exact hj, Prog.refl _⟩

theorem runThreads_spec (m : MState) (hI : Inv m) (ds : List Nat) :
    Inv (runThreads m ds) ∧
    ∀ j t, m.ths[j]? = some t → ∃ t', (runThreads m ds).ths[j]? = some t' ∧ Prog (ds.count j) t t' := by
  induction ds generalizing m with
  | nil => exact ⟨hI, fun j t hj => ⟨t, hj, Prog.refl t⟩⟩
  | cons d ds ih =>
    obtain ⟨hI1, h1⟩ := stepThread_spec m hI d
    obtain ⟨hI2, h2⟩ := ih (stepThread m d) hI1
    refine ⟨hI2, fun j t hj => ?_⟩
    obtain ⟨t1, hj1, hp1⟩ := h1 j t hj
    obtain ⟨t2, hj2, hp2⟩ := h2 j t1 hj1
    refine ⟨t2, hj2, ?_⟩
    have hc : (d :: ds).count j = (if j = d then 1 else 0) + ds.count j := by
      by_cases hjd : j = d
      · simp [hjd, Nat.add_comm]
      · simp [hjd, List.count_cons_of_ne (Ne.symm hjd)]
    rw [hc]; exact hp1.trans hp2

theorem runM_eq_runThreads (m : MState) (h : m.script = []) (ds : List Nat) : runM m ds = runThreads m ds := by
  induction ds generalizing m with
  | nil => rfl
  | cons d ds ih =>
    have hd : decide1 m d = stepThread m d := by
      unfold decide1
      by_cases hlt : d < m.ths.length
      · simp [hlt]
      · simp [hlt, linkStep, linkStepG, h, stepThread]
    have hs : (stepThread m d).script = [] := by
      unfold stepThread
      cases m.ths[d]? with
      | none => exact h
      | some t => dsimp only; split <;> simp [h]
    simp only [runM, runThreads, hd]
    exact ih _ hs

/-- the state of a thread when the link terminates (the hypotheses of `blocked_calls_return`,
    `no_lost_wakeup`, `later_calls_return` of Props/C09, per thread) -/
def preB (w : World) (t : Thread) : Bool :=
  match t.stat with
  | .fresh => allowed t.call w
  | .ready p => validAcq t.call p && acqInv t.call p w && allowed t.call w
  | .parked p _ => validWait t.call p && waiter w p && kindOK w p && allowed t.call w
  | .done _ => true

theorem linkStep_term (m : MState) (rest : List Act) (hs : m.script = .term :: rest) :
    (linkStep m).w = (terminate m.w).1 ∧ (linkStep m).ths = m.ths.map (wakeIf (terminate m.w).2) ∧
    (linkStep m).script = rest := by
  unfold linkStep linkStepG
  simp only [hs, applyActN, terminateN, true_and, and_true]
  rw [applyNotes_all]

theorem shutB_terminate_of_registered (w : World) (h : w.registered = true) : shutB (terminate w).1 = true := by
  simp [terminate, h, tcoClose, shutB]

theorem post_of_pre (w : World) (hwf : WF w) (t : Thread) (h : preB w t = true) :
    postB (terminate w).1 (wakeIf (terminate w).2 t) = true := by
  obtain ⟨c, st, vs⟩ := t
  have hk : (terminate w).1.s.kind = w.s.kind := by unfold terminate; cases w.registered <;> simp [tcoClose]
  cases st with
  | fresh => simpa [wakeIf, waitsOn, postB, preB, allowed, hk] using h
  | done r => simp [wakeIf, waitsOn, postB]
  | ready p =>
    simp only [preB, Bool.and_eq_true] at h
    obtain ⟨⟨h1, h2⟩, h3⟩ := h
    have hal : allowed c (terminate w).1 = true := by simpa [allowed, hk] using h3
    simp only [wakeIf, waitsOn, postB, Bool.and_eq_true, Bool.or_eq_true]
    refine ⟨⟨h1, hal⟩, ?_⟩
    -- a registered socket is shut down by `terminate`; any other is left as it is: shut down already, or `acqInv` as before
    rcases hwf with ⟨hr, _, _⟩ | ⟨hr, ⟨hs1, hs2⟩ | ⟨hb, hf⟩⟩
    · exact Or.inl (Or.inr (shutB_terminate_of_registered w hr))
    · exact Or.inl (Or.inr (by simp [terminate, hr, shutB, hs1, hs2]))
    · exact Or.inr (by simpa [terminate, hr, acqInv] using h2)
  | parked p n =>
    simp only [preB, Bool.and_eq_true] at h
    have hnot := terminate_notifies w p (validWait_isWait c p h.1.1.1) h.1.1.2 h.1.2
    have hres : (p == .wResolve || shutB (terminate w).1) = true := by
      by_cases hp : p = .wResolve
      · simp [hp]
      · simp [shutB_terminate_of_registered w (by simpa [waiter, hp] using h.1.1.2)]
    cases n <;> simp_all [wakeIf, waitsOn, wake, postB, allowed, kindOK]

theorem wakeIf_prog (cvs : List Cv) (t : Thread) : Prog 0 t (wakeIf cvs t) := by
  obtain ⟨c, st, vs⟩ := t
  unfold wakeIf waitsOn
  cases st with
  | parked p n =>
    cases n
    · by_cases h : p.cv ∈ cvs <;> simp [h, wake, Prog, rankS]
    · simp [Prog]
  | _ => simp [Prog]

theorem inv_linkStep (m : MState) (rest : List Act) (hs : m.script = .term :: rest) (hwf : WF m.w)
    (hpre : ∀ t ∈ m.ths, preB m.w t = true) : Inv (linkStep m) := by
  obtain ⟨hw, hths, _⟩ := linkStep_term m rest hs
  refine ⟨?_, ?_⟩
  · rw [hw]; exact wf_terminate_after m.w hwf
  · intro t' ht'
    rw [hths] at ht'
    obtain ⟨t, ht, rfl⟩ := List.mem_map.mp ht'
    rw [hw]; exact post_of_pre m.w hwf t (hpre t ht)

/-! ### `notify()` instead of `notify_all()` (C09-r2m1): the model tells the difference -/

def stillWaiting (t : Thread) : Bool :=
  match t.stat with
  | .parked _ false => true
  | _ => false

def resolver : Thread := { call := .resolve, stat := .parked .wResolve false }

/-- two threads in resolve() on a controller whose link is up -/
def twoResolvers : MState :=
  { w := { s := ⟨.dlc, .closed, false, [], [], 1, 1, 128, 1, 0, 0, 0, 0, 1⟩, registered := false, sapAlive := false,
           sapOthers := false, terminated := false, sdAlive := true, resolved := false, viaSap := false },
    ths := [resolver, resolver], order := [0, 1], script := [.term] }

theorem notify_one_leaves_a_waiter :
    (linkStepG applyActNotifyOne twoResolvers).ths.map stillWaiting = [false, true] ∧
    (linkStep twoResolvers).ths.map stillWaiting = [false, false] := by decide

end NfcVerif.TermMulti
