import NfcVerif.Lemmas.DlcSapInv
/-!
# Every step of a controller keeps `CInv`

The application calls through their moves (`App.cinv`), the link side through `Link` and `collect_ind` (what every
`sdeq` / `sack` maintains, `collect()` maintains), `dispatch` given a disciplined inbound stream.  Also here: the two
logs `seen` / `out`, and the routing theorem `CInv.route`.
-/
namespace NfcVerif.DlcSap
open NfcVerif NfcVerif.Dlc

theorem insertFront_split (A : Nat) (d : Sock) (pre post : List Sap) (a : Sap) (ha : a.addr = A)
    (hpre : ∀ b ∈ pre, b.addr ≠ A) (hpost : ∀ b ∈ post, b.addr ≠ A) :
    insertFront A d (pre ++ a :: post) = pre ++ a.insert d :: post :=
  updSap_at A (·.insert d) pre post a ha hpre hpost

/-- the new socket goes to the front of the listener's list -/
theorem SInv.accept {hi : Nat → Nat} {A : Nat} {t1 t2 : List Tag} {x : Tag} (h : SInv hi A (t1 ++ x :: t2))
    (hl : x.lst = true) (hal : x.alone = false) (p k : Nat) (rest : List (Nat × Nat)) (hcq : x.cq = (p, k) :: rest) :
    SInv hi A ({ acc := true, peer := some p, cid := k, lst := false, alone := false, cq := [], addr := some A } ::
      (t1 ++ { x with cq := rest } :: t2)) := by
  obtain ⟨e2, x1, x2, x3, x4, x5, x6, x7, x8⟩ := h.listener hl
  subst e2
  have hk := x7 (p, k) (by rw [hcq]; exact List.mem_cons_self ..)
  rw [hcq] at x4
  have hcq' := List.pairwise_cons.1 x4
  refine ⟨⟨_ :: t1, some { x with cq := rest }, rfl, ?_, ?_, ?_⟩, ?_⟩
  · intro y hy
    rcases List.mem_cons.1 hy with rfl | hy
    · exact ⟨rfl, rfl, rfl, rfl, p, rfl, hk.1⟩
    · exact x6 y hy
  · refine List.pairwise_cons.2 ⟨?_, x5⟩
    intro y hy hpe
    exact hk.2 y hy hpe.symm
  · intro y hy
    have : y = { x with cq := rest } := by simpa using hy.symm
    subst this
    refine ⟨x1, fun _ => x2, ?_, ?_, hcq'.2, ?_⟩
    · intro hc; rw [hl] at hc; cases hc
    · intro hc
      exfalso
      rcases hc with hc | hc
      · rw [hal] at hc; cases hc
      · exact hc x2
    · intro e he
      have he' : e ∈ x.cq := by rw [hcq]; exact List.mem_cons_of_mem _ he
      refine ⟨(x7 e he').1, ?_⟩
      intro y hy hpe
      rcases List.mem_cons.1 hy with rfl | hy
      · have hpe' : p = e.1 := by simpa using hpe
        have := hcq'.1 e he hpe'
        exact this
      · exact (x7 e he').2 y hy hpe
  · intro y hy
    rcases List.mem_cons.1 hy with rfl | hy
    · rfl
    · rcases List.mem_append.1 hy with hy | hy
      · exact h.addr y (List.mem_append_left _ hy)
      · rcases List.mem_cons.1 hy with rfl | hy
        · exact x3
        · cases hy

section collect
variable (P : Ctl → List WPdu → Prop)
  (hd : ∀ c l a b, P c l → P (c.sdeq a b).1 (l ++ (c.sdeq a b).2.toList))
  (ha : ∀ c l a, P c l → P (c.sack a).1 (l ++ (c.sack a).2.toList))
include hd

theorem firstDeq_ind (b : Int) (l : List Nat) (c : Ctl) (f : List WPdu) (h : P c f) :
    P (firstDeq b l c).1 (f ++ (firstDeq b l c).2.toList) := by
  induction l generalizing c with
  | nil => simpa [firstDeq] using h
  | cons a r ih =>
    have h1 := hd c f a b h
    simp only [firstDeq]
    cases hr : (c.sdeq a b).2 with
    | some w => rw [hr] at h1; exact h1
    | none => rw [hr] at h1; exact ih _ (by simpa using h1)

theorem aggPass_ind (link : Nat) (l : List Nat) (g : Agg) (h : P g.c g.frame) :
    P (aggPass link l g).c (aggPass link l g).frame := by
  induction l generalizing g with
  | nil => exact h
  | cons a r ih =>
    have h1 := hd g.c g.frame a g.budget h
    simp only [aggPass]
    cases hr : (g.c.sdeq a g.budget).2 with
    | none => rw [hr] at h1; exact ih _ (by simpa using h1)
    | some w =>
      rw [hr] at h1
      dsimp only
      split
      · exact h1
      · exact ih _ h1

theorem aggLoopW_ind (link : Nat) (l : List Nat) (fuel : Nat) (g : Agg) (h : P g.c g.frame) :
    P (aggLoopW link l fuel g).c (aggLoopW link l fuel g).frame := by
  induction fuel generalizing g with
  | zero => exact h
  | succ n ih =>
    simp only [aggLoopW]
    split
    · exact h
    · split
      · exact aggPass_ind P hd link l _ h
      · exact ih _ (aggPass_ind P hd link l _ h)

omit hd
include ha

theorem firstAck_ind (l : List Nat) (c : Ctl) (f : List WPdu) (h : P c f) :
    P (firstAck l c).1 (f ++ (firstAck l c).2.toList) := by
  induction l generalizing c with
  | nil => simpa [firstAck] using h
  | cons a r ih =>
    have h1 := ha c f a h
    simp only [firstAck]
    cases hr : (c.sack a).2 with
    | some w => rw [hr] at h1; exact h1
    | none => rw [hr] at h1; exact ih _ (by simpa using h1)

theorem ackPass_ind (link : Nat) (l : List Nat) (g : Agg) (h : P g.c g.frame) :
    P (ackPass link l g).c (ackPass link l g).frame := by
  induction l generalizing g with
  | nil => exact h
  | cons a r ih =>
    have h1 := ha g.c g.frame a h
    simp only [ackPass]
    cases hr : (g.c.sack a).2 with
    | none => rw [hr] at h1; exact ih _ (by simpa using h1)
    | some w =>
      rw [hr] at h1
      dsimp only
      split
      · exact h1
      · exact ih _ h1

include hd

/-- A relation `P` between the controller and the PDUs it has handed out so far that every single `sdeq` and
`sack` maintains holds between the result of `collect()` and its frame. -/
theorem collect_ind (c : Ctl) (fuel : Nat) (h : P c []) : P (c.collect fuel).1 (c.collect fuel).2 := by
  have hf : P c.collectFirst.1 c.collectFirst.2.1.toList := by
    have h1 := firstDeq_ind P hd c.link (1 :: c.saps.map (·.addr)) c [] h
    unfold Ctl.collectFirst
    dsimp only
    cases hr : (firstDeq c.link (1 :: c.saps.map (·.addr)) c).2 with
    | some w => rw [hr] at h1; exact h1
    | none => rw [hr] at h1; exact firstAck_ind P ha _ _ _ h1
  unfold Ctl.collect
  dsimp only
  cases hw : c.collectFirst.2.1 with
  | none => rw [hw] at hf; exact hf
  | some w =>
    rw [hw] at hf
    dsimp only
    split
    · exact hf
    · split
      · exact hf
      · have h1 := aggLoopW_ind P hd c.link (1 :: c.saps.map (·.addr)) fuel
          { c := c.collectFirst.1, frame := [w], budget := (c.link : Int) - agfLenW [w] - 3, deqNone := false } hf
        unfold collectAgg
        dsimp only
        split
        · exact ackPass_ind P ha _ _ _ h1
        · exact h1

end collect

/-! ### the link side leaves tags and the log of inbound PDUs alone -/

/-- What `CInv` and the logs need to know of a step of the link side that hands out the PDUs `l`; `sdeq`, `sack` and hence
`collect()` are such steps. -/
def Link (c c' : Ctl) (l : List WPdu) : Prop :=
  skel c'.saps = skel c.saps ∧ c'.seen = c.seen ∧ c'.out = c.out ++ l

theorem Link.trans {a b c : Ctl} {l1 l2 : List WPdu} (h1 : Link a b l1) (h2 : Link b c l2) : Link a c (l1 ++ l2) :=
  ⟨h2.1.trans h1.1, h2.2.1.trans h1.2.1, by rw [h2.2.2, h1.2.2, List.append_assoc]⟩

theorem CInv.link {c c' : Ctl} {l : List WPdu} (h : CInv c) (hs : Link c c' l) : CInv c' := h.of_eq hs.1 hs.2.1

theorem sdeq_link (c : Ctl) (addr : Nat) (b : Int) : Link c (c.sdeq addr b).1 (c.sdeq addr b).2.toList := by
  unfold Ctl.sdeq
  split
  · split
    · exact ⟨rfl, rfl, by simp⟩
    · split <;> exact ⟨rfl, rfl, by simp⟩
  · split
    · exact ⟨rfl, rfl, by simp⟩
    · exact ⟨updSap_skel _ _ (fun a => dequeue_sap a b) _, rfl, rfl⟩

theorem sack_link (c : Ctl) (addr : Nat) : Link c (c.sack addr).1 (c.sack addr).2.toList := by
  unfold Ctl.sack
  split
  · exact ⟨rfl, rfl, by simp⟩
  · exact ⟨updSap_skel _ _ (fun a => sendack_sap a) _, rfl, rfl⟩

theorem collect_link (c : Ctl) (fuel : Nat) : Link c (c.collect fuel).1 (c.collect fuel).2 :=
  collect_ind (Link c) (fun c' _ a b h => h.trans (sdeq_link c' a b)) (fun c' _ a h => h.trans (sack_link c' a)) c fuel
    ⟨rfl, rfl, (List.append_nil _).symm⟩

theorem updFirst_split (p : Sock → Bool) (f : Sock → Sock) (l l' : List Sock) (h : updFirst p f l = some l') :
    ∃ l1 s l2, l = l1 ++ s :: l2 ∧ p s = true ∧ l' = l1 ++ f s :: l2 := by
  rcases updFirst_cases p f l with ⟨pre, s, post, h1, _, h3, h4⟩ | ⟨_, h2⟩
  · rw [h4] at h; cases h
    exact ⟨pre, s, post, h1, h3, rfl⟩
  · rw [h2] at h; cases h

/-- a CONNECT with a connection number above everything seen so far joins the backlog of the listener -/
theorem SInv.cqPush {hi hi' : Nat → Nat} {A : Nat} {t1 t2 : List Tag} {x : Tag} (h : SInv hi A (t1 ++ x :: t2))
    (hl : x.lst = true) (hle : ∀ q, hi q ≤ hi' q) (p k : Nat) (hlt : hi p < k) (hk : k ≤ hi' p) :
    SInv hi' A (t1 ++ { x with cq := x.cq ++ [(p, k)] } :: t2) := by
  obtain ⟨e2, x1, x2, x3, x4, x5, x6, x7, x8⟩ := h.listener hl
  subst e2
  refine ⟨⟨t1, some { x with cq := x.cq ++ [(p, k)] }, rfl, ?_, x5, ?_⟩, ?_⟩
  · intro y hy
    obtain ⟨a1, a2, a3, a4, q, a5, a6⟩ := x6 y hy
    exact ⟨a1, a2, a3, a4, q, a5, Nat.le_trans a6 (hle q)⟩
  · intro y hy
    have : y = { x with cq := x.cq ++ [(p, k)] } := by simpa using hy.symm
    subst this
    refine ⟨x1, fun _ => x2, ?_, ?_, ?_, ?_⟩
    · intro hc; rw [hl] at hc; cases hc
    · intro hc
      rcases hc with hc | hc
      · exact x8 hc
      · exact absurd x2 hc
    · show CqOrd (x.cq ++ [(p, k)])
      unfold CqOrd
      rw [List.pairwise_append]
      refine ⟨x4, List.pairwise_singleton _ _, ?_⟩
      intro e he e' he' hpe
      have : e' = (p, k) := by simpa using he'
      subst this
      have := (x7 e he).1
      rw [hpe] at this
      exact Nat.lt_of_le_of_lt this hlt
    · intro e he
      rcases List.mem_append.1 he with he | he
      · exact ⟨Nat.le_trans (x7 e he).1 (hle e.1), (x7 e he).2⟩
      · have : e = (p, k) := by simpa using he
        subst this
        refine ⟨hk, ?_⟩
        intro y hy hpe
        obtain ⟨_, _, _, _, q, a5, a6⟩ := x6 y hy
        rw [a5] at hpe
        have hq : q = p := by simpa using hpe
        subst hq
        exact Nat.lt_of_le_of_lt a6 hlt
  · intro y hy
    rcases List.mem_append.1 hy with hy | hy
    · exact h.addr y (List.mem_append_left _ hy)
    · rcases List.mem_cons.1 hy with rfl | hy
      · exact x3
      · cases hy

theorem enqueue_addr (a : Sap) (w : WPdu) : (a.enqueue w).addr = a.addr := by
  unfold Sap.enqueue; split <;> split <;> rfl

theorem enqueue_conn_sinv {hi hi' : Nat → Nat} (a : Sap) (w : WPdu) (h : SInv hi a.addr (tags a.socks))
    (hc : w.isConn = true) (hle : ∀ q, hi q ≤ hi' q) (hlt : hi w.ssap < w.cid) (hk : w.cid ≤ hi' w.ssap) :
    SInv hi' a.addr (tags (a.enqueue w).socks) := by
  unfold Sap.enqueue
  rw [if_pos hc]
  split
  · rename_i l' hl'
    obtain ⟨l1, s, l2, h1, h2, h3⟩ := updFirst_split _ _ _ _ hl'
    have hcs : s.cs = .listen := by simpa [isListen] using h2
    rw [h1, tags_append, tags_cons] at h
    show SInv hi' a.addr (tags l')
    rw [h3, tags_append, tags_cons]
    have he : s.enqueue w = if s.cq.length < s.buf then { s with cq := s.cq ++ [w] }
        else { s with lq := s.lq ++ [dmReply w 0x20] } := by
      unfold Sock.enqueue; simp [hcs, hc]
    rw [he]
    split
    · have := h.cqPush (by simp [Sock.tag, hcs]) hle w.ssap w.cid hlt hk
      simpa [Sock.tag, hcs] using this
    · have : ({ s with lq := s.lq ++ [dmReply w 32] } : Sock).tag = s.tag := by simp [Sock.tag]
      rw [this]
      exact h.mono hle
  · exact h.mono hle

theorem dispatch_seen (c : Ctl) (w : WPdu) : (c.dispatch w).seen = c.seen ++ [w] := by
  unfold Ctl.dispatch
  dsimp only
  split
  · rfl
  · split <;> rfl

theorem dispatch_inv (c : Ctl) (w : WPdu) (h : CInv c) (hok : StepOk c.seen w) : CInv (c.dispatch w) := by
  have hle : ∀ q, hiOf c.seen q ≤ hiOf (c.seen ++ [w]) q := fun q => hiOf_le_append c.seen w q
  have hm : SkInv (hiOf (c.seen ++ [w])) (skel c.saps) := SkInv.mono h hle
  unfold Ctl.dispatch
  dsimp only
  split
  · exact hm
  · rename_i w' hr
    split
    · exact hm
    · show SkInv (hiOf (c.seen ++ [w])) (skel (updSap w'.dsap (fun a => a.enqueue w') c.saps))
      have hw' : w'.isConn = w.isConn ∧ w'.ssap = w.ssap ∧ w'.cid = w.cid := by
        revert hr
        cases hb : w.body with
        | conn miu rw sn =>
          dsimp only
          split
          · cases sn with
            | none => intro hr; cases hr
            | some n =>
              dsimp only
              split
              · intro hr; cases hr
              · split
                · intro hr; cases hr; simp [WPdu.isConn, hb]
                · intro hr; cases hr
          · intro hr; cases hr; exact ⟨rfl, rfl, rfl⟩
        | cc miu rw => intro hr; cases hr; exact ⟨rfl, rfl, rfl⟩
        | dlc p => intro hr; cases hr; exact ⟨rfl, rfl, rfl⟩
      cases hc : w'.isConn with
      | false =>
        have := updSap_skel w'.dsap (fun a => a.enqueue w') (fun a => enqueue_sap a w' hc) c.saps
        rw [this]; exact hm
      | true =>
        have hcw : w.isConn = true := by rw [← hw'.1]; exact hc
        have hlt : hiOf c.seen w'.ssap < w'.cid := by rw [hw'.2.1, hw'.2.2]; exact hok.1 hcw
        have hk : w'.cid ≤ hiOf (c.seen ++ [w]) w'.ssap := by
          rw [hiOf_append, hw'.2.1, hw'.2.2, if_pos ⟨hcw, rfl⟩]
          exact Nat.le_max_left _ _
        rename_i a hf
        have ht := cinv_iff.1 h
        obtain ⟨_, pre, post, h1, h2⟩ := updSap_split c.saps w'.dsap a ht.2 hf
        rw [h2, skinv_iff]
        rw [h1] at ht
        exact ht.replace (enqueue_addr a w') (fun ha => by rw [enqueue_addr]; exact enqueue_conn_sinv a w' ha hc hle hlt hk)
          fun _ _ hb => hb.mono hle

theorem dispatchAll_seen (c : Ctl) (frame : List WPdu) : (c.dispatchAll frame).seen = c.seen ++ frame := by
  induction frame generalizing c with
  | nil => simp [Ctl.dispatchAll]
  | cons w r ih => simp only [Ctl.dispatchAll]; rw [ih, dispatch_seen]; simp

theorem dispatchAll_inv (c : Ctl) (frame : List WPdu) (h : CInv c) (hd : Disc (c.seen ++ frame)) :
    CInv (c.dispatchAll frame) := by
  induction frame generalizing c with
  | nil => exact h
  | cons w r ih =>
    simp only [Ctl.dispatchAll]
    apply ih _ (dispatch_inv c w h hd.last)
    rw [dispatch_seen]
    simpa using hd

theorem dispatch_out (c : Ctl) (w : WPdu) : (c.dispatch w).out = c.out := by
  unfold Ctl.dispatch
  dsimp only
  split
  · rfl
  · split <;> rfl

theorem dispatchAll_out (c : Ctl) (f : List WPdu) : (c.dispatchAll f).out = c.out := by
  induction f generalizing c with
  | nil => rfl
  | cons w r ih => simp only [Ctl.dispatchAll]; rw [ih, dispatch_out]

/-- Neither log moves: so it is with every application call (`App.logs`), which is what `Flow` needs of them. -/
def Logs (c c' : Ctl) : Prop := c'.seen = c.seen ∧ c'.out = c.out

theorem Logs.trans {a b c : Ctl} (h1 : Logs a b) (h2 : Logs b c) : Logs a c := ⟨h2.1.trans h1.1, h2.2.trans h1.2⟩

theorem unlist_logs (c : Ctl) (sid : Nat) : Logs c (c.unlist sid) := by
  unfold Ctl.unlist; split <;> exact ⟨rfl, rfl⟩

theorem App.logs {l : Bool} {c c' : Ctl} (h : App l c c') : Logs c c' := by
  induction h with
  | frame h => exact ⟨h.seen, h.out⟩
  | upd _ _ _ _ _ h => exact ⟨h.seen, h.out⟩
  | unlist c sid => exact unlist_logs c sid
  | addSap _ _ _ _ _ h => exact ⟨h.seen, h.out⟩
  | accept _ _ _ _ _ _ _ _ _ _ h => exact ⟨h.seen, h.out⟩
  | trans _ _ ih1 ih2 => exact ih1.trans ih2

theorem App.cinv {l : Bool} {c c' : Ctl} (h : App l c c') (hc : CInv c) : CInv c' := by
  induction h with
  | frame h => exact hc.of_eq (by rw [h.saps]) h.seen
  | upd sid s f hs hm h =>
    exact (hc.upd sid f s hs fun _ _ _ => hm.sinv).of_eq (by rw [h.saps]) (h.seen.trans (upd_with _ sid f).seen.symm)
  | unlist c sid => exact unlist_inv c sid hc
  | addSap i rw miu a hn h => exact hc.addSap _ a hn (SInv.single _ _ _ rfl rfl (fun _ => rfl) rfl) _ h
  | @accept c c' sid s w rest cc c1 saps' hf hcs hcq h hc1 hs =>
    obtain ⟨pre, a, post, l1, l2, h1, h2, h3⟩ := sapsFind_split sid c.saps s hf
    have ht := cinv_iff.1 hc
    rw [h1] at ht
    have hsa : SInv (hiOf c.seen) a.addr (tags l1 ++ s.tag :: tags l2) := by
      have := ht.1 a (List.mem_append_right _ (List.mem_cons_self ..))
      simp only [h2, tags_append, tags_cons] at this
      exact this
    have hlst : s.tag.lst = true := by simp [Sock.tag, hcs]
    have hal : s.tag.alone = false := by simp [Sock.tag, hcs]
    have haddr : s.addr = some a.addr := (hsa.listener hlst).2.2.2.1
    obtain ⟨hpre, hpost⟩ := ht.addrs
    have hupd : ∀ f, (c.upd sid f).saps = pre ++ { a with socks := l1 ++ f s :: l2 } :: post := by
      intro f; unfold Ctl.upd; rw [hf]; exact h3 f
    -- the access point of a listening socket exists, so the new socket is inserted in front of it
    have hsome : ∀ f, ((c.upd sid f).sap? (s.addr.getD 0)).isSome = true := by
      intro f
      unfold Ctl.sap?
      rw [List.find?_isSome]
      refine ⟨{ a with socks := l1 ++ f s :: l2 }, ?_, ?_⟩
      · rw [hupd]; exact List.mem_append_right _ (List.mem_cons_self ..)
      · simp [haddr]
    subst hc1
    obtain ⟨_, d, hs, hd⟩ := hs.resolve_right fun hno => by rw [hsome] at hno; cases hno.1
    rw [hupd, insertFront_split (s.addr.getD 0) _ pre post _ (by simp [haddr])
      (by intro b hb; simpa [haddr] using hpre b hb) (by intro b hb; simpa [haddr] using hpost b hb)] at hs
    rw [cinv_iff, h.saps, hs, h.seen]
    refine ht.replace rfl (fun _ => ?_) (fun _ _ hb => hb)
    have := hsa.accept hlst hal w.ssap w.cid (rest.map fun w => (w.ssap, w.cid)) (by simp [Sock.tag, hcq])
    show SInv _ a.addr (tags (d :: (l1 ++ _ :: l2)))
    rw [tags_cons, tags_append, tags_cons,
      accepted_tag d w.ssap w.cid a.addr hd.1 hd.2.1 hd.2.2.1 hd.2.2.2.1 hd.2.2.2.2.1 (hd.2.2.2.2.2.trans haddr)]
    -- the tag of the listener with the tail of its backlog is `{ s.tag with cq := .. }` by computation
    exact this
  | trans _ _ ih1 ih2 => exact ih2 (ih1 hc)

/-- only `dispatch` extends the log of inbound PDUs -/
theorem step_seen_eq (c : Ctl) (o : COp) (h : isDlv o = false) : (c.step o).1.seen = c.seen := by
  cases hl : isLink o with
  | false => exact (step_app c o hl).logs.1
  | true =>
    cases o with
    | dlv f => cases h
    | sdeq addr b => exact (sdeq_link c addr b).2.1
    | sack addr => exact (sack_link c addr).2.1
    | collect => exact (collect_link c 600).2.1
    | _ => cases hl

theorem step_out (c : Ctl) (o : COp) : (c.step o).1.out = c.out ++ (c.step o).2.2 := by
  cases hl : isLink o with
  | false =>
    have h2 : (c.step o).2.2 = [] := by cases o <;> first | rfl | cases hl
    rw [h2, List.append_nil]; exact (step_app c o hl).logs.2
  | true =>
    cases o with
    | dlv f => simp [Ctl.step, dispatchAll_out]
    | sdeq addr b => exact (sdeq_link c addr b).2.2
    | sack addr => exact (sack_link c addr).2.2
    | collect => exact (collect_link c 600).2.2
    | _ => cases hl

theorem step_seen (c : Ctl) (o : COp) : ∃ ext, (c.step o).1.seen = c.seen ++ ext := by
  cases hd : isDlv o with
  | false => exact ⟨[], by rw [step_seen_eq c o hd]; simp⟩
  | true =>
    cases o with
    | dlv f => exact ⟨f, dispatchAll_seen c f⟩
    | _ => simp [isDlv] at hd

theorem step_inv (c : Ctl) (o : COp) (h : CInv c) (hd : Disc (c.step o).1.seen) : CInv (c.step o).1 := by
  cases hl : isLink o with
  | false => exact (step_app c o hl).cinv h
  | true =>
    cases o with
    | dlv f =>
      have : (c.step (.dlv f)).1.seen = c.seen ++ f := dispatchAll_seen c f
      rw [this] at hd
      exact dispatchAll_inv c f h hd
    | sdeq addr b => exact h.link (sdeq_link c addr b)
    | sack addr => exact h.link (sack_link c addr)
    | collect => exact h.link (collect_link c 600)
    | _ => cases hl

theorem run_cons (c : Ctl) (o : COp) (ops : List COp) : c.run (o :: ops) = (c.step o).1.run ops := rfl

theorem run_seen (c : Ctl) (ops : List COp) : ∃ ext, (c.run ops).seen = c.seen ++ ext := by
  induction ops generalizing c with
  | nil => exact ⟨[], by simp [Ctl.run]⟩
  | cons o r ih =>
    obtain ⟨e1, h1⟩ := step_seen c o
    obtain ⟨e2, h2⟩ := ih (c.step o).1
    exact ⟨e1 ++ e2, by rw [run_cons, h2, h1]; simp⟩

/-- every history of a controller whose inbound stream is disciplined keeps the invariant -/
theorem run_inv (c : Ctl) (ops : List COp) (h : CInv c) (hd : Disc (c.run ops).seen) : CInv (c.run ops) := by
  induction ops generalizing c with
  | nil => exact h
  | cons o r ih =>
    rw [run_cons] at hd ⊢
    obtain ⟨e2, h2⟩ := run_seen (c.step o).1 r
    apply ih _ (step_inv c o h (by rw [h2] at hd; exact hd.prefix)) hd

theorem init_inv (link : Nat) (agf : Bool) : CInv (Ctl.init link agf) :=
  ⟨fun e he => (by cases he), List.Pairwise.nil⟩

/-- `dispatch` of an I / RR / RNR / DISC / DM / FRMR PDU applies `ServiceAccessPoint.enqueue` at the destination -/
theorem dispatch_dlc (c : Ctl) (w : WPdu) (p : Pdu) (hb : w.body = .dlc p) (hs : (c.sap? w.dsap).isSome = true) :
    (c.dispatch w).saps = updSap w.dsap (fun a => a.enqueue w) c.saps := by
  have h1 : ∀ l : List WPdu, ({ c with seen := l } : Ctl).sap? w.dsap = c.sap? w.dsap := fun _ => rfl
  unfold Ctl.dispatch
  simp only [hb, h1]
  cases h : c.sap? w.dsap with
  | none => rw [h] at hs; cases hs
  | some a => rfl

/-- **Routing** in any controller state that satisfies the invariant, for a numbered PDU `w` that a disciplined peer
may send next -/
theorem CInv.route {c : Ctl} (h : CInv c) (w : WPdu) (hok : StepOk c.seen w) (hw : w.isData = true)
    (a : Sap) (ha : a ∈ c.saps) (hda : a.addr = w.dsap)
    (σ : Sock) (hσ : σ ∈ a.socks) (hp : σ.peer = some w.ssap) (hc : σ.cid = w.cid) :
    ∃ pre post, a.socks = pre ++ σ :: post ∧ (∀ τ ∈ pre, matchPeer w.ssap τ = false) ∧
      { a with socks := pre ++ σ.enqueue w :: post } ∈ (c.dispatch w).saps := by
  have hsa : SInv (hiOf c.seen) a.addr (tags a.socks) := (cinv_iff.1 h).1 a ha
  obtain ⟨pre, post, h1, h2⟩ := hsa.route σ hσ w.ssap hp (by rw [hc]; exact hok.2 hw)
  refine ⟨pre, post, h1, h2, ?_⟩
  obtain ⟨p, hb⟩ : ∃ p, w.body = .dlc p := by
    unfold WPdu.isData at hw
    cases hb : w.body with
    | dlc p => exact ⟨p, rfl⟩
    | conn _ _ _ => simp [hb] at hw
    | cc _ _ => simp [hb] at hw
  have henq : a.enqueue w = { a with socks := pre ++ σ.enqueue w :: post } := by
    unfold Sap.enqueue
    rw [if_neg (by simp [WPdu.isConn, hb]), h1, updFirst_of_route _ _ pre post σ h2 (by simp [matchPeer, hp])]
  have hfind : (c.sap? w.dsap).isSome = true := by
    unfold Ctl.sap?
    rw [List.find?_isSome]
    exact ⟨a, ha, by simp [hda]⟩
  rw [dispatch_dlc _ w p hb hfind, ← henq]
  exact List.mem_map.2 ⟨a, ha, by simp [hda]⟩

end NfcVerif.DlcSap
