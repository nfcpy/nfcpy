import NfcVerif.Lemmas.DlcSap
/-!
# The controller invariant `CInv`, and what one application call does to a controller

`CInv` holds `SInv` of every `sock_list` relative to the log `seen` of everything that was dispatched to the
controller.  It has the shape `Table Φ`: the access points have distinct addresses and each satisfies `Φ`; what the
three operations on the table (replace one access point, insert one, remove a socket) do to such a statement is proved
once, for any `Φ`.  `App` lists the moves an application call consists of (`step_app`: one walk through each call); that
the moves keep `CInv` is in `DlcSapStep`, together with the link side and `dispatch`.
-/
namespace NfcVerif.DlcSap
open NfcVerif NfcVerif.Dlc

/-- `CInv` on the skeleton of a controller (`skel`: address and tags of each access point), with the highest numbers `hi`
left open, so that transitions which keep the skeleton keep it by rewriting -/
def SkInv (hi : Nat → Nat) (sk : List (Nat × List Tag)) : Prop :=
  (∀ e ∈ sk, SInv hi e.1 e.2) ∧ sk.Pairwise (fun a b => a.1 ≠ b.1)

/-- invariant of a controller: every `sock_list` satisfies `SInv` relative to what was dispatched so far, and
no two access points have the same address -/
def CInv (c : Ctl) : Prop := SkInv (hiOf c.seen) (skel c.saps)

theorem SkInv.mono {hi hi' : Nat → Nat} {sk : List (Nat × List Tag)} (h : SkInv hi sk) (hle : ∀ p, hi p ≤ hi' p) :
    SkInv hi' sk := ⟨fun e he => (h.1 e he).mono hle, h.2⟩

theorem CInv.of_eq {c c' : Ctl} (h : CInv c) (h1 : skel c'.saps = skel c.saps) (h2 : c'.seen = c.seen) : CInv c' := by
  unfold CInv; rw [h1, h2]; exact h

theorem insertSap_perm (a : Sap) (l : List Sap) : (insertSap a l).Perm (a :: l) := by
  induction l with
  | nil => exact .refl _
  | cons b r ih =>
    simp only [insertSap]
    split
    · exact .refl _
    · exact (ih.cons b).trans (.swap a b r)

theorem insertSap_distinct (a : Sap) (l : List Sap) (h : l.Pairwise (fun x y => x.addr ≠ y.addr))
    (hn : ∀ b ∈ l, b.addr ≠ a.addr) : (insertSap a l).Pairwise (fun x y => x.addr ≠ y.addr) :=
  ((insertSap_perm a l).pairwise_iff (fun h => h.symm)).2 (List.pairwise_cons.2 ⟨fun b hb => (hn b hb).symm, h⟩)

theorem unlist_addrs (sid : Nat) (saps : List Sap) :
    (((saps.map fun a => ({ a with socks := removeSid sid a.socks } : Sap)).filter (!·.socks.isEmpty)).map (·.addr)).Sublist
      (saps.map (·.addr)) := by
  have : (saps.map fun a => ({ a with socks := removeSid sid a.socks } : Sap)).map (·.addr) = saps.map (·.addr) := by
    simp [List.map_map, Function.comp_def]
  rw [← this]
  exact (List.filter_sublist).map _

theorem unlist_distinct (sid : Nat) (saps : List Sap) (h : saps.Pairwise (fun a b => a.addr ≠ b.addr)) :
    ((saps.map fun a => ({ a with socks := removeSid sid a.socks } : Sap)).filter (!·.socks.isEmpty)).Pairwise
      (fun a b => a.addr ≠ b.addr) :=
  List.pairwise_map.1 ((List.pairwise_map.2 h).sublist (unlist_addrs sid saps))

theorem updSap_at (A : Nat) (f : Sap → Sap) (pre post : List Sap) (a : Sap) (ha : a.addr = A)
    (hpre : ∀ b ∈ pre, b.addr ≠ A) (hpost : ∀ b ∈ post, b.addr ≠ A) :
    updSap A f (pre ++ a :: post) = pre ++ f a :: post := by
  have hid : ∀ l : List Sap, (∀ b ∈ l, b.addr ≠ A) → l.map (fun a => if a.addr = A then f a else a) = l := by
    intro l hl
    rw [List.map_congr_left (g := id)]
    · simp
    · intro b hb; simp [hl b hb]
  unfold updSap
  rw [List.map_append, List.map_cons, if_pos ha, hid pre hpre, hid post hpost]

theorem updSap_split (saps : List Sap) (addr : Nat) (a : Sap) (hd : saps.Pairwise (fun a b => a.addr ≠ b.addr))
    (hf : saps.find? (·.addr == addr) = some a) :
    a.addr = addr ∧ ∃ pre post, saps = pre ++ a :: post ∧ ∀ f, updSap addr f saps = pre ++ f a :: post := by
  obtain ⟨h1, pre, post, h2, h3⟩ := List.find?_eq_some_iff_append.1 hf
  have ha : a.addr = addr := by simpa using h1
  refine ⟨ha, pre, post, h2, ?_⟩
  intro f
  rw [h2] at hd ⊢
  rw [List.pairwise_append, List.pairwise_cons] at hd
  exact updSap_at addr f pre post a ha (fun x hx => by simpa using h3 x hx)
    (fun x hx => by rw [← ha]; exact Ne.symm (hd.2.1.1 x hx))

def Table (Φ : Sap → Prop) (saps : List Sap) : Prop :=
  (∀ a ∈ saps, Φ a) ∧ saps.Pairwise (fun a b => a.addr ≠ b.addr)

theorem Table.addrs {Φ : Sap → Prop} {pre post : List Sap} {a : Sap} (h : Table Φ (pre ++ a :: post)) :
    (∀ b ∈ pre, b.addr ≠ a.addr) ∧ ∀ b ∈ post, b.addr ≠ a.addr := by
  have hd := h.2
  rw [List.pairwise_append, List.pairwise_cons] at hd
  exact ⟨fun b hb => hd.2.2 b hb a (List.mem_cons_self ..), fun b hb he => hd.2.1.1 b hb he.symm⟩

/-- the condition may change with the step (`Φ'`: the logs it speaks of have grown) -/
theorem Table.replace {Φ Φ' : Sap → Prop} {pre post : List Sap} {a a' : Sap} (h : Table Φ (pre ++ a :: post))
    (ha : a'.addr = a.addr) (h' : Φ a → Φ' a') (ho : ∀ b, b.addr ≠ a.addr → Φ b → Φ' b) : Table Φ' (pre ++ a' :: post) := by
  obtain ⟨hpre, hpost⟩ := h.addrs
  refine ⟨fun b hb => ?_, List.pairwise_map.1 ?_⟩
  · rcases List.mem_append.1 hb with hb | hb
    · exact ho b (hpre b hb) (h.1 b (List.mem_append_left _ hb))
    · rcases List.mem_cons.1 hb with rfl | hb
      · exact h' (h.1 a (List.mem_append_right _ (List.mem_cons_self ..)))
      · exact ho b (hpost b hb) (h.1 b (List.mem_append_right _ (List.mem_cons_of_mem _ hb)))
  · have := List.pairwise_map.2 h.2
    simpa [ha] using this

theorem Table.insert {Φ : Sap → Prop} {saps : List Sap} (h : Table Φ saps) (a : Sap) (hn : ∀ b ∈ saps, b.addr ≠ a.addr)
    (ha : Φ a) : Table Φ (insertSap a saps) :=
  ⟨fun b hb => by
      rcases List.mem_cons.1 ((insertSap_perm a saps).mem_iff.1 hb) with rfl | hb
      · exact ha
      · exact h.1 b hb,
    insertSap_distinct a saps h.2 hn⟩

theorem Table.unlist {Φ : Sap → Prop} {saps : List Sap} (h : Table Φ saps) (sid : Nat)
    (hΦ : ∀ a, Φ a → (removeSid sid a.socks).isEmpty = false → Φ { a with socks := removeSid sid a.socks }) :
    Table Φ ((saps.map fun a => { a with socks := removeSid sid a.socks }).filter (!·.socks.isEmpty)) := by
  refine ⟨fun a ha => ?_, unlist_distinct sid saps h.2⟩
  obtain ⟨ha1, ha2⟩ := List.mem_filter.1 ha
  obtain ⟨b, hb, rfl⟩ := List.mem_map.1 ha1
  exact hΦ b (h.1 b hb) (by simpa using ha2)

theorem skinv_iff {hi : Nat → Nat} {saps : List Sap} :
    SkInv hi (skel saps) ↔ Table (fun a => SInv hi a.addr (tags a.socks)) saps := by
  unfold SkInv skel Table
  rw [List.forall_mem_map, List.pairwise_map]

theorem cinv_iff {c : Ctl} : CInv c ↔ Table (fun a => SInv (hiOf c.seen) a.addr (tags a.socks)) c.saps := skinv_iff

theorem findSock_split (sid : Nat) (l : List Sock) (s : Sock) (h : findSock sid l = some s) :
    ∃ l1 l2, l = l1 ++ s :: l2 ∧ ∀ f, updSid sid f l = l1 ++ f s :: l2 := by
  induction l with
  | nil => simp [findSock] at h
  | cons y r ih =>
    simp only [findSock] at h
    split at h
    · rename_i hy
      cases h
      exact ⟨[], r, rfl, fun f => by simp [updSid, hy]⟩
    · rename_i hy
      obtain ⟨l1, l2, h1, h2⟩ := ih h
      exact ⟨y :: l1, l2, by rw [h1]; rfl, fun f => by simp [updSid, hy, h2]⟩

theorem sapsFind_split (sid : Nat) (saps : List Sap) (s : Sock) (h : sapsFind sid saps = some s) :
    ∃ pre a post l1 l2, saps = pre ++ a :: post ∧ a.socks = l1 ++ s :: l2 ∧
      ∀ f, sapsUpd sid f saps = pre ++ { a with socks := l1 ++ f s :: l2 } :: post := by
  induction saps with
  | nil => simp [sapsFind] at h
  | cons a r ih =>
    simp only [sapsFind] at h
    cases hf : findSock sid a.socks with
    | some s' =>
      rw [hf] at h
      cases h
      obtain ⟨l1, l2, h1, h2⟩ := findSock_split sid a.socks s hf
      exact ⟨[], a, r, l1, l2, rfl, h1, fun f => by simp [sapsUpd, hf, h2]⟩
    | none =>
      rw [hf] at h
      obtain ⟨pre, b, post, l1, l2, h1, h2, h3⟩ := ih h
      exact ⟨a :: pre, b, post, l1, l2, by rw [h1]; rfl, h2, fun f => by simp [sapsUpd, hf, h3]⟩

theorem sock?_cases (c : Ctl) (sid : Nat) (s : Sock) (h : c.sock? sid = some s) :
    sapsFind sid c.saps = some s ∨ (sapsFind sid c.saps = none ∧ findSock sid c.free = some s) := by
  unfold Ctl.sock? at h
  cases hf : sapsFind sid c.saps with
  | some s' => rw [hf] at h; cases h; exact Or.inl rfl
  | none => rw [hf] at h; exact Or.inr ⟨rfl, h⟩

/-- The frame of an application call: of what the invariants and the logs read, `c'` differs from `c` at most in the
access points, now `saps`, and the connection counter, now `n`.  (`free`, `names`, `nsock` are left open: nothing reads
them.) -/
structure Ctl.With (c c' : Ctl) (saps : List Sap) (n : Nat) : Prop where
  saps : c'.saps = saps
  ncid : c'.ncid = n
  seen : c'.seen = c.seen
  out : c'.out = c.out
  dmq : c'.dmq = c.dmq

/-- a further change that keeps the counter -/
theorem Ctl.With.trans {a b c : Ctl} {s s' : List Sap} {n : Nat} (h1 : a.With b s n) (h2 : b.With c s' b.ncid) :
    a.With c s' n :=
  ⟨h2.saps, h2.ncid.trans h1.ncid, h2.seen.trans h1.seen, h2.out.trans h1.out, h2.dmq.trans h1.dmq⟩

theorem Ctl.With.setNcid {c c' : Ctl} {s : List Sap} {n : Nat} (h : c.With c' s n) (n' : Nat) :
    c.With { c' with ncid := n' } s n' :=
  ⟨h.saps, rfl, h.seen, h.out, h.dmq⟩

theorem upd_with (c : Ctl) (sid : Nat) (f : Sock → Sock) : c.With (c.upd sid f) (c.upd sid f).saps c.ncid := by
  unfold Ctl.upd; split <;> exact ⟨rfl, rfl, rfl, rfl, rfl⟩

theorem upd_free_with (c : Ctl) (sid : Nat) (f : Sock → Sock) (hn : sapsFind sid c.saps = none) :
    c.With (c.upd sid f) c.saps c.ncid := by
  have := upd_with c sid f
  unfold Ctl.upd at this ⊢
  rw [hn] at this ⊢
  exact this

/-- updating the socket found by `sock?`: the invariant survives when the new tag is as good as the old one
in every list position -/
theorem CInv.upd {c : Ctl} (h : CInv c) (sid : Nat) (f : Sock → Sock) (s : Sock) (hs : c.sock? sid = some s)
    (hx : ∀ A t1 t2, SInv (hiOf c.seen) A (t1 ++ s.tag :: t2) → SInv (hiOf c.seen) A (t1 ++ (f s).tag :: t2)) :
    CInv (c.upd sid f) := by
  unfold Ctl.upd
  rcases sock?_cases c sid s hs with hf | ⟨hf, _⟩
  · rw [hf]
    obtain ⟨pre, a, post, l1, l2, h1, h2, h3⟩ := sapsFind_split sid c.saps s hf
    rw [cinv_iff] at h ⊢
    show Table _ (sapsUpd sid f c.saps)
    rw [h3 f]
    rw [h1] at h
    refine h.replace rfl (fun ha => ?_) (fun _ _ hb => hb)
    rw [h2, tags_append, tags_cons] at ha
    rw [tags_append, tags_cons]
    exact hx _ _ _ ha
  · rw [hf]; exact h

/-- a socket in state CLOSED or CONNECT is the only one in its list -/
theorem SInv.alone {hi : Nat → Nat} {A : Nat} {t1 t2 : List Tag} {x : Tag} (h : SInv hi A (t1 ++ x :: t2))
    (ha : x.alone = true) : t1 = [] ∧ t2 = [] ∧ x.acc = false ∧ x.peer = none ∧ (x.lst = false → x.cq = []) ∧
      x.addr = some A := by
  obtain ⟨⟨accs, o, ht, hacc, _, ho⟩, haddr⟩ := h
  have hxa := haddr x (List.mem_append_right _ (List.mem_cons_self ..))
  rcases shape_cases ht.symm with ⟨a2, h1, _⟩ | ⟨h1, h2, h3⟩
  · have := (hacc x (by rw [h1]; exact List.mem_append_right _ (List.mem_cons_self ..))).2.2.1
    rw [ha] at this; cases this
  · obtain ⟨o1, o2, o3, o4, _, _⟩ := ho x (by rw [h1]; rfl)
    have := o4 (Or.inl ha)
    rw [this] at h2
    exact ⟨h2.symm, h3, o1, o2 (Or.inr ha), o3, hxa⟩

/-- being alone, a socket in state CLOSED or CONNECT may turn into any socket that `SInv.single` admits -/
theorem SInv.alone_single {hi : Nat → Nat} {A : Nat} {t1 t2 : List Tag} {x : Tag} (h : SInv hi A (t1 ++ x :: t2))
    (ha : x.alone = true) (hl : x.lst = false) (x' : Tag) (h1 : x'.acc = x.acc) (h2 : x'.cq = x.cq)
    (h3 : x'.lst = true ∨ x'.alone = true → x'.peer = x.peer) (h4 : x'.addr = x.addr) : SInv hi A (t1 ++ x' :: t2) := by
  obtain ⟨e1, e2, a1, a2, a3, a4⟩ := h.alone ha
  subst e1 e2
  exact SInv.single _ _ _ (h1.trans a1) (h2.trans (a3 hl)) (fun hc => (h3 hc).trans a2) (h4.trans a4)

/-- a listening socket is the last of its list, everything to its left was accepted -/
theorem SInv.listener {hi : Nat → Nat} {A : Nat} {t1 t2 : List Tag} {x : Tag} (h : SInv hi A (t1 ++ x :: t2))
    (hl : x.lst = true) : t2 = [] ∧ x.acc = false ∧ x.peer = none ∧ x.addr = some A ∧ CqOrd x.cq ∧ AccOrd t1 ∧
      (∀ y ∈ t1, y.acc = true ∧ y.lst = false ∧ y.alone = false ∧ y.cq = [] ∧ ∃ p, y.peer = some p ∧ y.cid ≤ hi p) ∧
      (∀ e ∈ x.cq, e.2 ≤ hi e.1 ∧ ∀ y ∈ t1, y.peer = some e.1 → y.cid < e.2) ∧
      (x.alone = true → t1 = []) := by
  obtain ⟨⟨accs, o, ht, hacc, hord, ho⟩, haddr⟩ := h
  have hxa := haddr x (List.mem_append_right _ (List.mem_cons_self ..))
  rcases shape_cases ht.symm with ⟨a2, h1, _⟩ | ⟨h1, h2, h3⟩
  · have := (hacc x (by rw [h1]; exact List.mem_append_right _ (List.mem_cons_self ..))).2.1
    rw [hl] at this; cases this
  · obtain ⟨o1, o2, _, o4, o5, o6⟩ := ho x (by rw [h1]; rfl)
    subst h2
    exact ⟨h3, o1, o2 (Or.inl hl), hxa, o5, hord, hacc, o6, fun ha => o4 (Or.inl ha)⟩

theorem newSock_tag (sid rw miu a : Nat) : ({ Sock.new sid rw miu with addr := some a } : Sock).tag =
    { acc := false, peer := none, cid := 0, lst := false, alone := true, cq := [], addr := some a } := rfl

theorem sap?_none (c : Ctl) (a : Nat) (h : (c.sap? a).isSome = false) : ∀ b ∈ c.saps, b.addr ≠ a := by
  intro b hb heq
  unfold Ctl.sap? at h
  have := List.find?_eq_none.1 (by simpa using h : c.saps.find? (·.addr == a) = none) b hb
  simp [heq] at this

theorem CInv.addSap {c : Ctl} (h : CInv c) (s : Sock) (a : Nat) (hn : ∀ b ∈ c.saps, b.addr ≠ a)
    (hs : SInv (hiOf c.seen) a [s.tag]) (c' : Ctl) (hw : c.With c' (insertSap ⟨a, [s], []⟩ c.saps) c.ncid) : CInv c' := by
  rw [cinv_iff] at h ⊢
  rw [hw.saps, hw.seen]
  exact h.insert _ hn hs

theorem firstFree_spec (c : Ctl) (lo n a : Nat) (h : firstFree c lo n = some a) : (c.sap? a).isSome = false := by
  induction n generalizing lo with
  | zero => simp [firstFree] at h
  | succ n ih =>
    simp only [firstFree] at h
    split at h
    · rename_i hf
      cases h
      simpa using hf
    · exact ih _ h

theorem removeSid_tags_sublist (sid : Nat) (l : List Sock) : (tags (removeSid sid l)).Sublist (tags l) :=
  (List.filter_sublist).map _

theorem unlist_inv (c : Ctl) (sid : Nat) (h : CInv c) : CInv (c.unlist sid) := by
  unfold Ctl.unlist
  split
  · exact h
  · rw [cinv_iff] at h ⊢
    exact h.unlist sid fun a ha _ => ha.sublist (removeSid_tags_sublist sid a.socks)

/-- `Sock.dead` forgets the backlog and leaves LISTEN / CLOSED -/
theorem SInv.dead {hi : Nat → Nat} {A : Nat} {t1 t2 : List Tag} {x : Tag} (h : SInv hi A (t1 ++ x :: t2)) :
    SInv hi A (t1 ++ { x with lst := false, alone := false, cq := [] } :: t2) := by
  obtain ⟨⟨accs, o, ht, hacc, hord, ho⟩, haddr⟩ := h
  have haddr' : ∀ y ∈ t1 ++ { x with lst := false, alone := false, cq := [] } :: t2, y.addr = some A := by
    intro y hy
    rcases List.mem_append.1 hy with hy | hy
    · exact haddr y (List.mem_append_left _ hy)
    · rcases List.mem_cons.1 hy with rfl | hy
      · exact haddr x (List.mem_append_right _ (List.mem_cons_self ..))
      · exact haddr y (List.mem_append_right _ (List.mem_cons_of_mem _ hy))
  rcases shape_cases ht.symm with ⟨a2, h1, h2⟩ | ⟨h1, h2, h3⟩
  · -- an accepted socket: nothing changes
    obtain ⟨_, x2, x3, x4, _⟩ := hacc x (by rw [h1]; exact List.mem_append_right _ (List.mem_cons_self ..))
    have : ({ x with lst := false, alone := false, cq := [] } : Tag) = x := by
      cases x; cases x2; cases x3; cases x4; rfl
    rw [this]
    exact ⟨⟨accs, o, ht, hacc, hord, ho⟩, haddr⟩
  · subst h1 h2 h3
    obtain ⟨o1, o2, o3, o4, o5, o6⟩ := ho x rfl
    refine ⟨⟨accs, some { x with lst := false, alone := false, cq := [] }, rfl, hacc, hord, ?_⟩, haddr'⟩
    intro y hy
    have : y = { x with lst := false, alone := false, cq := [] } := by simpa using hy.symm
    subst this
    refine ⟨o1, ?_, fun _ => rfl, ?_, List.Pairwise.nil, ?_⟩
    · intro hc; simp at hc
    · intro hc
      rcases hc with hc | hc
      · simp at hc
      · exact o4 (Or.inr hc)
    · intro e he; cases he

theorem dead_tag (s : Sock) : s.dead.tag = { s.tag with lst := false, alone := false, cq := [] } := by
  simp [Sock.dead, Sock.tag]

/-- the tag of a socket as `accept()` makes it: ESTABLISHED, with the peer and the connection number of the CONNECT -/
theorem accepted_tag (d : Sock) (p k A : Nat) (h1 : d.acc = true) (h2 : d.peer = some p) (h3 : d.cid = k) (h4 : d.cs = .run)
    (h5 : d.cq = []) (h6 : d.addr = some A) :
    d.tag = { acc := true, peer := some p, cid := k, lst := false, alone := false, cq := [], addr := some A } := by
  simp [Sock.tag, h1, h2, h3, h4, h5, h6]

theorem findSock_removeSid (sid : Nat) (l : List Sock) : findSock sid (removeSid sid l) = none := by
  induction l with
  | nil => rfl
  | cons y r ih =>
    unfold removeSid at ih ⊢
    rw [List.filter_cons]
    split
    · rename_i hy
      have : y.sid ≠ sid := by simpa using hy
      simp only [findSock, this, if_false]
      exact ih
    · exact ih

theorem sapsFind_none_of (sid : Nat) (saps : List Sap) (h : ∀ a ∈ saps, findSock sid a.socks = none) :
    sapsFind sid saps = none := by
  induction saps with
  | nil => rfl
  | cons a r ih =>
    simp only [sapsFind, h a (List.mem_cons_self ..)]
    exact ih (fun b hb => h b (List.mem_cons_of_mem _ hb))

theorem sapsFind_unlist (c : Ctl) (sid : Nat) : sapsFind sid (c.unlist sid).saps = none := by
  unfold Ctl.unlist
  split
  · rename_i h; exact h
  · apply sapsFind_none_of
    intro a ha
    obtain ⟨ha1, _⟩ := List.mem_filter.1 ha
    obtain ⟨b, _, rfl⟩ := List.mem_map.1 ha1
    exact findSock_removeSid sid b.socks

/-! Every application call leaves the controller as it is or changes it by a few moves: the socket it addresses is updated
(`SockMove` lists how), a socket leaves its access point, a new access point appears, a connection is accepted.  What an
invariant needs is proved once per move. -/

/-- how an application call changes the socket it addresses; `n`, `n'` are the connection counter of the controller
before and after, the flag says whether the socket begins to listen -/
inductive SockMove (n : Nat) : Nat → Bool → Sock → Sock → Prop
  | ep (s : Sock) (e : Ep) : SockMove n n false s { s with ep := e }
  | listen (s : Sock) (b : Nat) (h : s.cs = .closed) : SockMove n n true s { s with cs := .listen, buf := b }
  | connect (s : Sock) (w : WPdu) (h : s.cs = .closed) (h1 : w.isConn = true) (h2 : w.ssap = s.addr.getD 0) (h3 : w.cid = n) :
      SockMove n (n + 1) false s { s with cs := .connect, cid := n, lq := s.lq ++ [w] }
  | connected (s : Sock) (p b : Nat) (e : Ep) (h : s.cs = .connect) :
      SockMove n n false s { s with cs := .run, peer := some p, buf := b, ans := none, ep := e }
  | refused (s : Sock) (h : s.cs = .connect) : SockMove n n false s { s with cs := .closed, ans := none }

theorem SockMove.le {n n' : Nat} {l : Bool} {s s' : Sock} (hm : SockMove n n' l s s') : n ≤ n' := by
  cases hm with
  | connect => exact Nat.le_succ _
  | _ => exact Nat.le_refl _

/-- the moves of an application call (flag: a socket begins to listen).  `accept` records both outcomes of the model's
test whether the access point of the listening socket exists; in a state that satisfies `CInv` it does. -/
inductive App : Bool → Ctl → Ctl → Prop
  | frame {l c c'} (h : c.With c' c.saps c.ncid) : App l c c'
  | upd {l c c' n'} (sid : Nat) (s : Sock) (f : Sock → Sock) (hs : c.sock? sid = some s) (hm : SockMove c.ncid n' l s (f s))
      (h : c.With c' (c.upd sid f).saps n') : App l c c'
  | unlist {l} (c : Ctl) (sid : Nat) : App l c (c.unlist sid)
  | addSap {l c c'} (i rw miu a : Nat) (hn : ∀ b ∈ c.saps, b.addr ≠ a)
      (h : c.With c' (insertSap ⟨a, [{ Sock.new i rw miu with addr := some a }], []⟩ c.saps) c.ncid) : App l c c'
  | accept {l c c'} (sid : Nat) (s : Sock) (w : WPdu) (rest : List WPdu) (cc : WPdu) (c1 : Ctl) (saps' : List Sap)
      (hf : sapsFind sid c.saps = some s) (hcs : s.cs = .listen) (hcq : s.cq = w :: rest) (h : c.With c' saps' c.ncid)
      (h1 : c1 = c.upd sid fun s => { s with cq := rest, lq := s.lq ++ [cc] })
      (hs : ((c1.sap? (s.addr.getD 0)).isSome = true ∧ ∃ d : Sock, saps' = insertFront (s.addr.getD 0) d c1.saps ∧
          d.acc = true ∧ d.peer = some w.ssap ∧ d.cid = w.cid ∧ d.cs = .run ∧ d.cq = [] ∧ d.addr = s.addr) ∨
        (c1.sap? (s.addr.getD 0)).isSome = false ∧ saps' = c1.saps) : App l c c'
  | trans {l a b c} (h1 : App l a b) (h2 : App l b c) : App l a c

theorem App.rfl' {l : Bool} (c : Ctl) : App l c c := .frame ⟨rfl, rfl, rfl, rfl, rfl⟩

/-- operations of the link side: they hand PDUs to the link or take a frame from it -/
def isLink : COp → Bool
  | .sdeq .. | .sack .. | .collect | .dlv .. => true
  | _ => false

def isListenOp : COp → Bool
  | .listen .. => true
  | _ => false

theorem listen_app (c : Ctl) (sid b : Nat) : App true c (c.listen sid b).1 := by
  unfold Ctl.listen
  split
  · exact .rfl' c
  rename_i s hs
  split
  · exact .rfl' c
  split
  · exact .rfl' c
  split
  · exact .rfl' c
  rename_i _ hcs _
  exact .upd sid s _ hs (.listen s _ (Decidable.of_not_not hcs)) (upd_with ..)

theorem connect_app (c : Ctl) (sid : Nat) (to : Dest) : App false c (c.connect sid to).1 := by
  unfold Ctl.connect
  split
  · exact .rfl' c
  rename_i s hs
  split
  · rename_i hcs
    split
    · exact .rfl' c
    · dsimp only
      refine .upd sid s _ hs ?_ ((upd_with c sid _).setNcid _)
      exact .connect s _ hcs rfl rfl rfl
  all_goals exact .rfl' c

theorem connFin_app (c : Ctl) (sid : Nat) : App false c (c.connFin sid).1 := by
  unfold Ctl.connFin
  split
  · exact .rfl' c
  rename_i s hs
  split
  · exact .rfl' c
  rename_i hcs
  have hcs : s.cs = .connect := Decidable.of_not_not hcs
  split
  · exact .rfl' c
  split
  · exact .upd sid s _ hs (.connected s _ _ _ hcs) (upd_with ..)
  · exact .upd sid s _ hs (.refused s hcs) (upd_with ..)
  · exact .rfl' c

theorem epOp_app (c : Ctl) (sid : Nat) (f : Ep → Ep × Res) (other : Sock → NRes) : App false c (c.epOp sid f other).1 := by
  unfold Ctl.epOp
  split
  · exact .rfl' c
  rename_i s hs
  split
  · exact .upd sid s _ hs (.ep s _) (upd_with ..)
  · exact .rfl' c

theorem recv_app (c : Ctl) (sid : Nat) : App false c (c.recv sid).1 := by
  unfold Ctl.recv
  split
  · exact .rfl' c
  split
  · exact .rfl' c
  · exact epOp_app ..

theorem poll_app (c : Ctl) (sid : Nat) (k : PollKind) : App false c (c.poll sid k).1 := by
  unfold Ctl.poll
  split
  · exact .rfl' c
  split
  · exact .rfl' c
  · exact epOp_app ..

theorem setBusy_app (c : Ctl) (sid : Nat) (b : Bool) : App false c (c.setBusy sid b).1 := by
  unfold Ctl.setBusy
  split
  · exact .rfl' c
  · rename_i s hs
    exact .upd sid s _ hs (.ep s _) (upd_with ..)

theorem close_app (c : Ctl) (sid : Nat) : App false c (c.close sid).1 := by
  unfold Ctl.close
  split
  · exact .rfl' c
  rename_i s hs
  split
  · exact .rfl' c
  split
  · exact .rfl' c
  · dsimp only
    have h1 : App false c (c.upd sid fun s' => { s' with ep := ({ s.ep with bound := true }).close.1 }) :=
      .upd sid s _ hs (.ep s _) (upd_with ..)
    split
    · exact h1.trans (.unlist _ sid)
    · exact h1
  · exact (App.unlist c sid).trans (.frame (upd_free_with _ sid _ (sapsFind_unlist c sid)))

theorem closeFin_app (c : Ctl) (sid : Nat) : App false c (c.closeFin sid).1 := by
  unfold Ctl.closeFin
  split
  · exact .rfl' c
  rename_i s hs
  split
  · exact .rfl' c
  · exact (App.upd sid s _ hs (.ep s _) (upd_with ..)).trans (.unlist _ sid)

theorem newSock_app (c : Ctl) (rw miu : Nat) (to : Dest) : App false c (c.newSock rw miu to).1 := by
  unfold Ctl.newSock
  dsimp only
  cases to with
  | addr a =>
    dsimp only
    split
    · exact .frame ⟨rfl, rfl, rfl, rfl, rfl⟩
    split
    · exact .frame ⟨rfl, rfl, rfl, rfl, rfl⟩
    split
    · exact .frame ⟨rfl, rfl, rfl, rfl, rfl⟩
    · rename_i hf
      exact .addSap _ _ _ a (sap?_none c a (by simpa using hf)) ⟨rfl, rfl, rfl, rfl, rfl⟩
  | name n =>
    dsimp only
    split
    · exact .frame ⟨rfl, rfl, rfl, rfl, rfl⟩
    split
    · exact .frame ⟨rfl, rfl, rfl, rfl, rfl⟩
    · rename_i a hf
      exact .addSap _ _ _ a (sap?_none c a (firstFree_spec c 16 16 a hf)) ⟨rfl, rfl, rfl, rfl, rfl⟩

theorem accept_app (c : Ctl) (sid : Nat) : App false c (c.accept sid).1 := by
  unfold Ctl.accept
  split
  · exact .rfl' c
  rename_i s hs
  split
  · exact .rfl' c
  split
  · exact .rfl' c
  rename_i _ hcs
  split
  · exact .rfl' c
  rename_i hlisted
  have hf : sapsFind sid c.saps = some s := by
    rcases sock?_cases c sid s hs with hf | ⟨hf, _⟩
    · exact hf
    · simp [Ctl.listed, hf] at hlisted
  split
  · exact .rfl' c
  rename_i w rest hcq
  split
  · dsimp only
    split
    · rename_i h
      exact .accept sid s w rest _ _ _ hf (Decidable.of_not_not hcs) hcq
        ((upd_with c sid _).trans ⟨rfl, rfl, rfl, rfl, rfl⟩) rfl
        (Or.inl ⟨h, _, rfl, rfl, rfl, rfl, rfl, rfl, rfl⟩)
    · rename_i h
      exact .accept sid s w rest _ _ _ hf (Decidable.of_not_not hcs) hcq
        ((upd_with c sid _).trans ⟨rfl, rfl, rfl, rfl, rfl⟩) rfl
        (Or.inr ⟨Bool.eq_false_iff.2 h, rfl⟩)
  · exact .rfl' c

theorem step_app (c : Ctl) (o : COp) (h : isLink o = false) : App (isListenOp o) c (c.step o).1 := by
  cases o with
  | dlv _ | sdeq _ _ | sack _ | collect => cases h
  | sock rw miu to => exact newSock_app ..
  | listen sid b => exact listen_app ..
  | connect sid to => exact connect_app ..
  | connFin sid => exact connFin_app ..
  | accept sid => exact accept_app ..
  | send sid m => exact epOp_app ..
  | recv sid => exact recv_app ..
  | busy sid b => exact setBusy_app ..
  | poll sid k => exact poll_app ..
  | close sid => exact close_app ..
  | closeFin sid => exact closeFin_app ..

theorem SockMove.sinv {n n' : Nat} {l : Bool} {s s' : Sock} (hm : SockMove n n' l s s') {hi : Nat → Nat} {A : Nat}
    {t1 t2 : List Tag} (h : SInv hi A (t1 ++ s.tag :: t2)) : SInv hi A (t1 ++ s'.tag :: t2) := by
  cases hm with
  | ep _ e => exact h
  | listen _ b hcs =>
    exact h.alone_single (by simp [Sock.tag, hcs]) (by simp [Sock.tag, hcs]) _ rfl rfl (fun _ => rfl) rfl
  | connect _ w hcs =>
    exact h.alone_single (by simp [Sock.tag, hcs]) (by simp [Sock.tag, hcs]) _ rfl rfl (fun _ => rfl) rfl
  | connected _ p b e hcs =>
    -- ESTABLISHED is neither LISTEN nor CLOSED / CONNECT: the new peer is not constrained
    exact h.alone_single (by simp [Sock.tag, hcs]) (by simp [Sock.tag, hcs]) _ rfl rfl (fun hc => by simp [Sock.tag] at hc) rfl
  | refused _ hcs =>
    have : ({ s with cs := CSt.closed, ans := none } : Sock).tag = s.tag := by simp [Sock.tag, hcs]; decide
    rw [this]; exact h

end NfcVerif.DlcSap
