import NfcVerif.Lemmas.SnepChannel
import NfcVerif.Model.Snep
/-! Proofs about the SNEP client/server model (C06): what either receiver does with a first fragment, said
over `hdr` (`srv_first`, `cli_first`), request and response delivery, one whole exchange (`exchange_run`)
and its instances for Put and Get. -/
namespace NfcVerif.Snep
open NfcVerif NfcVerif.Chan

theorem hdr_take (code n : Nat) (body : Bytes) {miu : Nat} (h6 : 6 ≤ miu) :
    (hdr code n ++ body).take miu = hdr code n ++ body.take (miu - 6) := by
  rw [List.take_append]
  simp [hdr, toBE4, List.take_of_length_le, h6]

/-- `_serve` from the first `recv()` of a request up to the reassembly loop -/
theorem srv_first (cfg : SCfg) (code n : Nat) (hn : n < 2 ^ 32) (t : Bytes) :
    srvOnRecv cfg .idle (hdr code n ++ t) =
      if n > cfg.maxAcc then (.idle, [rejectRsp], [])
      else if t.length < n then (.reasm (hdr code n ++ t) n, [contRsp], [])
      else srvFinish cfg (hdr code n ++ t) := by
  simp [hdr, toBE4, srvOnRecv, beNat4 n hn]

/-- `recv_response` from its first `recv()` up to the reassembly loop -/
theorem cli_first (op : Op) (acc st n : Nat) (hn : n < 2 ^ 32) (t : Bytes) :
    cliOnRecv (.awaitResp op acc) (hdr st n ++ t) =
      if n > acc then (.done (noResponse op), [])
      else if t.length < n then (.reasm op (hdr st n ++ t) n, [contReq])
      else (.done (cliFinish op (hdr st n ++ t)), []) := by
  simp [hdr, toBE4, cliOnRecv, beNat4 n hn]

/-- A request `req = 10 code <be32 |body|> body` is fragmented by the client with
send MIU `miu ≥ 6`, the server answers the first fragment with Continue, collects the rest and
calls `process_snep_request` on exactly `req`. -/
theorem deliver_req (cfg : SCfg) (miu : Nat) (op : Op) (acc code : Nat) (body : Bytes)
    (lc ls : List Bytes) (dl0 : List (Op × Bytes))
    (hc : 6 ≤ miu) (hbl : body.length < 2 ^ 32) (hacc : body.length ≤ cfg.maxAcc) :
    let req := hdr code body.length ++ body
    ∃ N, pump (proto cfg) N
        { cst := (cliSend miu acc op req).1, sst := .idle, c2s := (cliSend miu acc op req).2, s2c := [],
          logC := lc ++ (cliSend miu acc op req).2, logS := ls, dl := dl0 } =
      { cst := .awaitResp op (respAcc acc op), sst := (srvFinish cfg req).1, c2s := [],
        s2c := (srvFinish cfg req).2.1,
        logC := lc ++ fragments miu req,
        logS := ls ++ (if req.length ≤ miu then [] else [contRsp]) ++ (srvFinish cfg req).2.1,
        dl := dl0 ++ (srvFinish cfg req).2.2 } := by
  intro req
  have hrl : req.length = 6 + body.length := by simp [req, hdr, toBE4]; omega
  by_cases hsingle : req.length ≤ miu
  · refine ⟨1, ?_⟩
    rw [fragments_single hsingle]
    have hsrv : srvOnRecv cfg .idle req = srvFinish cfg req := by
      rw [srv_first cfg code _ hbl, if_neg (by omega), if_neg (by omega)]
    simp [cliSend, hsingle, pump, step, proto, swait, hsrv]
  · obtain ⟨hrest_ne, hrest_b, hcat, hmore, hfin⟩ := frag_split (h := 6) hrl (by decide) hc (by omega)
    have hsrv1 : srvOnRecv cfg .idle (req.take miu) = (.reasm (req.take miu) body.length, [contRsp], []) := by
      rw [hdr_take code _ body hc, srv_first cfg code _ hbl, if_neg (by omega), if_pos (by rw [List.length_take]; omega)]
    have hre := pump_srv_collect (proto cfg) (.reasm · body.length) (fun b => decide (b.length - 6 < body.length))
      (srvFinish cfg) (fun _ => rfl) (fun b m => by simp only [proto, srvOnRecv, decide_eq_true_eq]) _ (req.take miu)
      hrest_ne hrest_b (hcat.symm ▸ hmore) (hcat.symm ▸ hfin)
      (.awaitResp op (respAcc acc op)) [] (lc ++ fragments miu req) (ls ++ [contRsp]) dl0
    rw [hcat] at hre
    refine ⟨2 + (chunks miu (req.drop miu)).length, ?_⟩
    simp only [cliSend, hsingle, if_false]
    rw [pump_add]
    have h2 : pump (proto cfg) 2
        { cst := .awaitCont op (respAcc acc op) (chunks miu (req.drop miu)), sst := .idle,
          c2s := [req.take miu], s2c := [], logC := lc ++ [req.take miu], logS := ls, dl := dl0 } =
        { cst := .awaitResp op (respAcc acc op), sst := .reasm (req.take miu) body.length,
          c2s := chunks miu (req.drop miu), s2c := [],
          logC := lc ++ fragments miu req, logS := ls ++ [contRsp], dl := dl0 } := by
      simp [pump, step, proto, swait, cwait, hsrv1, cliOnRecv, fragments]
    rw [h2, hre]
    simp

/-- A response `resp = 10 status <be32 |rd|> rd` with `|rd|` acceptable to the client
is fragmented by the server with send MIU `smiu ≥ 6`; the client asks for the rest with
Continue, collects it and ends with exactly `resp`. -/
theorem deliver_resp (cfg : SCfg) (op : Op) (racc st : Nat) (rd : Bytes)
    (lc ls : List Bytes) (dl0 : List (Op × Bytes))
    (hs : 6 ≤ cfg.smiu) (hrl : rd.length < 2 ^ 32) (hacc : rd.length ≤ racc) :
    let resp := hdr st rd.length ++ rd
    ∃ N, pump (proto cfg) N
        { cst := .awaitResp op racc, sst := (respond cfg.smiu resp).1, c2s := [], s2c := (respond cfg.smiu resp).2,
          logC := lc, logS := ls ++ (respond cfg.smiu resp).2, dl := dl0 } =
      { cst := .done (cliFinish op resp), sst := .idle, c2s := [], s2c := [],
        logC := lc ++ (if resp.length ≤ cfg.smiu then [] else [contReq]),
        logS := ls ++ fragments cfg.smiu resp, dl := dl0 } := by
  intro resp
  have hrl' : resp.length = 6 + rd.length := by simp [resp, hdr, toBE4]; omega
  by_cases hsingle : resp.length ≤ cfg.smiu
  · refine ⟨1, ?_⟩
    rw [fragments_single hsingle]
    have hcli : cliOnRecv (.awaitResp op racc) resp = (.done (cliFinish op resp), []) := by
      rw [cli_first op racc st _ hrl, if_neg (by omega), if_neg (by omega)]
    simp [respond, hsingle, pump, step, proto, cwait, hcli]
  · obtain ⟨hrest_ne, hrest_b, hcat, hmore, hfin⟩ := frag_split (h := 6) hrl' (by decide) hs (by omega)
    have hcli1 : cliOnRecv (.awaitResp op racc) (resp.take cfg.smiu) =
        (.reasm op (resp.take cfg.smiu) rd.length, [contReq]) := by
      rw [hdr_take st _ rd hs, cli_first op racc st _ hrl, if_neg (by omega), if_pos (by rw [List.length_take]; omega)]
    have hre := pump_cli_collect (proto cfg) (.reasm op · rd.length) (fun b => decide (b.length - 6 < rd.length))
      (fun b => .done (cliFinish op b)) (fun _ => rfl) (fun b m => by simp only [proto, cliOnRecv, decide_eq_true_eq]; split <;> rfl) _
      (resp.take cfg.smiu) hrest_ne hrest_b (hcat.symm ▸ hmore) (hcat.symm ▸ hfin)
      .idle (lc ++ [contReq]) (ls ++ fragments cfg.smiu resp) dl0
    rw [hcat] at hre
    refine ⟨2 + (chunks cfg.smiu (resp.drop cfg.smiu)).length, ?_⟩
    simp only [respond, hsingle, if_false]
    rw [pump_add]
    have h2 : pump (proto cfg) 2
        { cst := .awaitResp op racc, sst := .awaitCont (chunks cfg.smiu (resp.drop cfg.smiu)),
          c2s := [], s2c := [resp.take cfg.smiu], logC := lc, logS := ls ++ [resp.take cfg.smiu], dl := dl0 } =
        { cst := .reasm op (resp.take cfg.smiu) rd.length, sst := .idle,
          c2s := [], s2c := chunks cfg.smiu (resp.drop cfg.smiu),
          logC := lc ++ [contReq], logS := ls ++ fragments cfg.smiu resp, dl := dl0 } := by
      simp [pump, step, proto, swait, cwait, hcli1, srvOnRecv, fragments]
    rw [h2, hre]

/-- request octets of `put_octets` -/
def putReq (msg : Bytes) : Bytes := [0x10, 0x02] ++ toBE 4 msg.length ++ msg
/-- request octets of `get_octets` -/
def getReq (acc : Nat) (msg : Bytes) : Bytes := [0x10, 0x01] ++ toBE 4 (4 + msg.length) ++ toBE 4 acc ++ msg

/-- outcome of `put_octets` for the response code the application returned -/
def putRes (code : Nat) : CRes := if code = 0x81 then .okTrue else .snepError code

/-- `process_snep_request` on a Put the decoder accepts -/
theorem process_put (h : Handlers) (msg : Bytes) (hv : h.valid msg = true) :
    process h (hdr 0x02 msg.length ++ msg) = .ok (hdr (h.put msg) 0, [(Op.put, msg)]) := by
  simp [process, hdr, toBE4, hv]

/-- what `process_snep_request` answers to a Get whose handler returned the message `rd` -/
def getAnswer (acc : Nat) (rd : Bytes) : Nat × Bytes := if rd.length > acc then (0xC1, []) else (0x81, rd)

theorem getAnswer_fits {acc : Nat} {rd : Bytes} (h : rd.length ≤ acc) : getAnswer acc rd = (0x81, rd) :=
  if_neg (Nat.not_lt.mpr h)

theorem getAnswer_excess {acc : Nat} {rd : Bytes} (h : acc < rd.length) : getAnswer acc rd = (0xC1, []) :=
  if_pos h

theorem getAnswer_length (acc : Nat) (rd : Bytes) : (getAnswer acc rd).2.length ≤ acc := by
  rcases Nat.lt_or_ge acc rd.length with h | h
  · rw [getAnswer_excess h]; exact Nat.zero_le _
  · rw [getAnswer_fits h]; exact h

/-- `process_snep_request` on a Get the decoder accepts: the length field `n` of the request is not looked at,
the acceptable length is read from the four octets behind the header -/
theorem process_get (h : Handlers) (n acc : Nat) (hacc : acc < 2 ^ 32) (msg rd : Bytes) (hv : h.valid msg = true)
    (hget : h.get msg = .inr rd) :
    process h (hdr 0x01 n ++ (toBE 4 acc ++ msg)) =
      .ok (hdr (getAnswer acc rd).1 (getAnswer acc rd).2.length ++ (getAnswer acc rd).2, [(Op.get, msg)]) := by
  simp [process, hdr, toBE4, hv, hget, beNat4 _ hacc, getAnswer]

/-- one exchange, for any request the server accepts by length (`hacc`) and any response of `process_snep_request`
(`hproc`) the client accepts by length (`hracc`) -/
theorem exchange_run (cfg : SCfg) (cc : CCfg) (op : Op) (octets : Bytes) (code st : Nat) (body rd : Bytes)
    (dlv : List (Op × Bytes)) (n : SNet) (hn : n.sst = .idle ∧ n.c2s = [] ∧ n.s2c = [])
    (hc : 6 ≤ cc.miu) (hs : 6 ≤ cfg.smiu)
    (hreq : request cc.acc op octets = .ok (hdr code body.length ++ body))
    (hbl : body.length < 2 ^ 32) (hacc : body.length ≤ cfg.maxAcc)
    (hproc : process cfg.h (hdr code body.length ++ body) = .ok (hdr st rd.length ++ rd, dlv))
    (hrl : rd.length < 2 ^ 32) (hracc : rd.length ≤ respAcc cc.acc op) :
    ∃ N, ∀ fuel, N ≤ fuel →
      runOp cfg cc fuel n op octets =
      { cst := .done (cliFinish op (hdr st rd.length ++ rd)), sst := .idle, c2s := [], s2c := [],
        logC := n.logC ++ fragments cc.miu (hdr code body.length ++ body) ++
          (if (hdr st rd.length ++ rd).length ≤ cfg.smiu then [] else [contReq]),
        logS := n.logS ++ (if (hdr code body.length ++ body).length ≤ cc.miu then [] else [contRsp]) ++
          fragments cfg.smiu (hdr st rd.length ++ rd),
        dl := n.dl ++ dlv } := by
  obtain ⟨c0, _, _, _, lc, ls, dl0⟩ := n
  obtain ⟨rfl, rfl, rfl⟩ := hn
  obtain ⟨N, hN⟩ := deliver_req cfg cc.miu op cc.acc code body lc ls dl0 hc hbl hacc
  obtain ⟨M, hM⟩ := deliver_resp cfg op (respAcc cc.acc op) st rd (lc ++ fragments cc.miu (hdr code body.length ++ body))
    (ls ++ (if (hdr code body.length ++ body).length ≤ cc.miu then [] else [contRsp])) (dl0 ++ dlv) hs hrl hracc
  simp only [srvFinish, hproc] at hN
  refine ⟨N + M, pump_stable _ _ _ _ ?_ (by simp [quiet])⟩
  simp only [startOp, cliStart, hreq, List.nil_append]
  rw [pump_add, hN]
  exact hM

theorem put_run (cfg : SCfg) (cc : CCfg) (msg : Bytes) (n : SNet) (hn : n.sst = .idle ∧ n.c2s = [] ∧ n.s2c = [])
    (hc : 6 ≤ cc.miu) (hs : 6 ≤ cfg.smiu) (hlen : msg.length < 2 ^ 32) (hacc : msg.length ≤ cfg.maxAcc)
    (hv : cfg.h.valid msg = true) :
    ∃ N, ∀ fuel, N ≤ fuel →
      runOp cfg cc fuel n .put msg =
      { cst := .done (putRes (cfg.h.put msg)), sst := .idle, c2s := [], s2c := [],
        logC := n.logC ++ fragments cc.miu (putReq msg),
        logS := n.logS ++ (if (putReq msg).length ≤ cc.miu then [] else [contRsp]) ++ [hdr (cfg.h.put msg) 0],
        dl := n.dl ++ [(Op.put, msg)] } := by
  have hreq : request cc.acc .put msg = .ok (hdr 0x02 msg.length ++ msg) := by
    simp only [request]; rw [if_neg (by omega)]; rfl
  obtain ⟨N, hN⟩ := exchange_run cfg cc .put msg (code := 0x02) (body := msg) (st := cfg.h.put msg) (rd := [])
    (dlv := [(Op.put, msg)]) n hn hc hs (hreq := hreq) (hbl := hlen) (hacc := hacc)
    (hproc := process_put cfg.h msg hv) (hrl := by decide) (hracc := Nat.zero_le _)
  refine ⟨N, fun fuel hf => (hN fuel hf).trans ?_⟩
  rw [List.length_nil, List.append_nil, fragments_single (show (hdr (cfg.h.put msg) 0).length ≤ cfg.smiu from hs)]
  simp [putReq, hdr, toBE4, cliFinish, putRes, hs]

/-- the server rejects on the announced length alone, so neither the request code nor what follows the
first fragment matters -/
theorem oversize_run (cfg : SCfg) (cc : CCfg) (op : Op) (octets : Bytes) (code : Nat) (body : Bytes)
    (n : SNet) (hn : n.sst = .idle ∧ n.c2s = [] ∧ n.s2c = []) (hc : 6 ≤ cc.miu)
    (hreq : request cc.acc op octets = .ok (hdr code body.length ++ body))
    (hbl : body.length < 2 ^ 32) (hacc : cfg.maxAcc < body.length) :
    let req := hdr code body.length ++ body
    ∃ N, ∀ fuel, N ≤ fuel →
      runOp cfg cc fuel n op octets =
      { cst := .done (if req.length ≤ cc.miu then .snepError 0xFF else sendFailed op), sst := .idle,
        c2s := [], s2c := [],
        logC := n.logC ++ [req.take cc.miu], logS := n.logS ++ [rejectRsp], dl := n.dl } := by
  intro req
  obtain ⟨c0, _, _, _, lc, ls, dl0⟩ := n
  obtain ⟨rfl, rfl, rfl⟩ := hn
  change request cc.acc op octets = .ok req at hreq
  have hsrv : srvOnRecv cfg .idle (req.take cc.miu) = (.idle, [rejectRsp], []) := by
    rw [hdr_take _ _ _ hc, srv_first cfg _ _ hbl, if_pos hacc]
  refine ⟨2, pump_stable _ _ _ _ ?_ (by simp [quiet])⟩
  simp only [startOp, cliStart, hreq, List.nil_append, cliSend]
  by_cases hsingle : req.length ≤ cc.miu
  · have ht : req.take cc.miu = req := List.take_of_length_le hsingle
    rw [ht] at hsrv
    simp [hsingle, ht, pump, step, proto, swait, cwait, hsrv, cliOnRecv, rejectRsp, beNat, cliFinish]
  · simp [hsingle, pump, step, proto, swait, cwait, hsrv, cliOnRecv, rejectRsp, contRsp]

theorem get_run (cfg : SCfg) (cc : CCfg) (msg rd : Bytes) (n : SNet) (hn : n.sst = .idle ∧ n.c2s = [] ∧ n.s2c = [])
    (hc : 6 ≤ cc.miu) (hs : 6 ≤ cfg.smiu) (hlen : 4 + msg.length < 2 ^ 32) (hcacc : cc.acc < 2 ^ 32)
    (hacc : 4 + msg.length ≤ cfg.maxAcc) (hv : cfg.h.valid msg = true)
    (hget : cfg.h.get msg = .inr rd) :
    let ans := getAnswer cc.acc rd
    let resp := hdr ans.1 ans.2.length ++ ans.2
    ∃ N, ∀ fuel, N ≤ fuel →
      runOp cfg cc fuel n .get msg =
      { cst := .done (if ans.1 = 0x81 then .okData ans.2 else .snepError ans.1), sst := .idle, c2s := [], s2c := [],
        logC := n.logC ++ fragments cc.miu (getReq cc.acc msg) ++ (if resp.length ≤ cfg.smiu then [] else [contReq]),
        logS := n.logS ++ (if (getReq cc.acc msg).length ≤ cc.miu then [] else [contRsp]) ++ fragments cfg.smiu resp,
        dl := n.dl ++ [(Op.get, msg)] } := by
  intro ans resp
  have hal : ans.2.length ≤ cc.acc := getAnswer_length cc.acc rd
  have hbody : (toBE 4 cc.acc ++ msg).length = 4 + msg.length := by simp [toBE4]; omega
  have hgr : getReq cc.acc msg = hdr 0x01 (toBE 4 cc.acc ++ msg).length ++ (toBE 4 cc.acc ++ msg) := by
    simp [getReq, hdr, hbody]
  have hreq : request cc.acc .get msg = .ok (hdr 0x01 (toBE 4 cc.acc ++ msg).length ++ (toBE 4 cc.acc ++ msg)) := by
    simp only [request, ← hgr, getReq]; rw [if_neg (by omega)]
  obtain ⟨N, hN⟩ := exchange_run cfg cc .get msg (code := 0x01) (body := toBE 4 cc.acc ++ msg) (st := ans.1) (rd := ans.2)
    (dlv := [(Op.get, msg)]) n hn hc hs (hreq := hreq) (hbl := by omega) (hacc := by omega)
    (hproc := process_get cfg.h _ cc.acc hcacc msg rd hv hget) (hrl := by omega) (hracc := hal)
  refine ⟨N, fun fuel hf => (hN fuel hf).trans ?_⟩
  rw [← hgr]
  simp [cliFinish, hdr, toBE4, resp]

end NfcVerif.Snep
