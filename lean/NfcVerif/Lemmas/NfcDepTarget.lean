import NfcVerif.Lemmas.NfcDepTx
/-!
# NFC-DEP: phases of the Target machine

`PData` / `PSend`: the Target waits for the information PDU / the ACK numbered `pniI`;
`PPost`, `PB`: it accepted that PDU and keeps the answer.  What one accepted PDU does to the
Target (`tRx_more`, `tRx_inf`, `tRx_ack`; `PDone`: it stopped, or stored its answer), closure of the phases under
ATN, retransmission and NAK, and how a phase after a transaction is the phase before the next (`PPost.recv`, `PPost.next`).
-/
namespace NfcVerif.NfcDep
open NfcVerif

def ackPdu (c : Cfg) (pni : Nat) : Pdu := .dep fACK pni c.tdid none []

/-- the negated condition is the test in the receive loop of `Initiator.exchange` -/
theorem chunkFmt_data (b : Prop) [Decidable b] :
    ¬ ((if b then fMORE else fINF) ≠ fINF ∧ (if b then fMORE else fINF) ≠ fMORE) := by split <;> decide

theorem chunkFmt_ne_ack (b : Prop) [Decidable b] : (if b then fMORE else fINF) ≠ fACK := by split <;> decide

/-- the Target waits for an information PDU with number `pniI`; `acc` = chunks of the current payload so far -/
def PData (c : Cfg) (pniI : Nat) (acc : Bytes) (g ts : List Bytes) (t : TState) : Prop :=
  t.status = .running ∧ t.got = g ∧ t.tosend = ts ∧
  ( (t.pni = none ∧ (t.loc = .listen ∨ t.loc = .first) ∧ acc = [] ∧ pniI = 0)
  ∨ (∃ q d, t.pni = some q ∧ q < 4 ∧ pniI = (q + 1) % 4 ∧ t.loc = .sending d ∧ d.length ≤ c.tmiu ∧ acc = [])
  ∨ (∃ q, t.pni = some q ∧ q < 4 ∧ pniI = (q + 1) % 4 ∧ t.loc = .receiving acc) )

/-- the Target has a non-final chunk of `d` in flight and waits for the ACK with number `pniI` -/
def PSend (c : Cfg) (pniI : Nat) (d : Bytes) (g ts : List Bytes) (t : TState) : Prop :=
  t.status = .running ∧ t.got = g ∧ t.tosend = ts ∧
  ∃ q, t.pni = some q ∧ q < 4 ∧ pniI = (q + 1) % 4 ∧ t.loc = .sending d ∧ d.length > c.tmiu

/-- the Target accepted request `pniI`, answered `res` and keeps it for retransmission -/
def PPost (pniI : Nat) (loc : TLoc) (res : Pdu) (g ts : List Bytes) (t : TState) : Prop :=
  t.status = .running ∧ t.got = g ∧ t.tosend = ts ∧ t.pni = some pniI ∧ t.loc = loc ∧ t.depRes = some res

section
variable {c : Cfg} {pniI : Nat} {acc d : Bytes} {loc : TLoc} {res : Pdu} {g ts : List Bytes} {t : TState}

theorem PData.running (h : PData c pniI acc g ts t) : t.status = .running := h.1
theorem PData.got (h : PData c pniI acc g ts t) : t.got = g := h.2.1

theorem PSend.running (h : PSend c pniI d g ts t) : t.status = .running := h.1
theorem PSend.got (h : PSend c pniI d g ts t) : t.got = g := h.2.1
theorem PSend.loc_eq (h : PSend c pniI d g ts t) : t.loc = .sending d := by
  obtain ⟨_, _, _, _, _, _, _, hl, _⟩ := h
  exact hl
theorem PSend.long (h : PSend c pniI d g ts t) : d.length > c.tmiu := by
  obtain ⟨_, _, _, _, _, _, _, _, hd⟩ := h
  exact hd

theorem PPost.running (h : PPost pniI loc res g ts t) : t.status = .running := h.1
theorem PPost.got (h : PPost pniI loc res g ts t) : t.got = g := h.2.1
theorem PPost.tosend_eq (h : PPost pniI loc res g ts t) : t.tosend = ts := h.2.2.1
theorem PPost.pni_eq (h : PPost pniI loc res g ts t) : t.pni = some pniI := h.2.2.2.1
theorem PPost.loc_eq (h : PPost pniI loc res g ts t) : t.loc = loc := h.2.2.2.2.1
theorem PPost.res_eq (h : PPost pniI loc res g ts t) : t.depRes = some res := h.2.2.2.2.2
end

theorem tRx_data_eq (c : Cfg) (hdid : c.tdid = c.idid) {pniI : Nat} {acc : Bytes} {g ts : List Bytes} {t : TState}
    (h : PData c pniI acc g ts t) (fmt : Nat) (nad : Option Nat) (data : Bytes) (hf : fmt = fMORE ∨ fmt = fINF) :
    ∃ t', tRx c t (.frame (.dep fmt pniI c.idid nad data)) = tRecv c t' pniI acc fmt data
      ∧ t'.got = g ∧ t'.tosend = ts ∧ t'.status = .running := by
  obtain ⟨pni, loc, depRes, tosend, got, status⟩ := t
  obtain ⟨hrun, hg, hts, hcase⟩ := h
  simp only at hrun hg hts hcase
  subst hrun hg hts
  have hfa : fmt ≠ fATN ∧ fmt ≠ fNAK ∧ fmt ≠ fTOX := by
    rcases hf with rfl | rfl <;> decide
  rcases hcase with ⟨hp, hl, ha, h0⟩ | ⟨q, d, hp, hq, hpi, hl, hd, ha⟩ | ⟨q, hp, hq, hpi, hl⟩
  · subst hp ha h0
    rcases hl with rfl | rfl <;>
    · refine ⟨⟨none, .first, depRes, tosend, got, .running⟩, ?_, rfl, rfl, rfl⟩
      simp [tRx, tRx.tRxActive, Pdu.didAttr, hdid, hfa, tAccept]
  · subst hp ha hl
    have hne : q ≠ pniI := by omega
    have hdrop : List.drop c.tmiu d = [] := List.drop_eq_nil_of_le hd
    refine ⟨⟨some q, .sending d, depRes, tosend, got, .running⟩, ?_, rfl, rfl, rfl⟩
    have hle : ¬ d.length > c.tmiu := by omega
    simp [tRx, tRx.tRxActive, Pdu.didAttr, hdid, hfa, tAccept, hne, hle, ← hpi, hdrop]
  · subst hp hl
    have hne : q ≠ pniI := by omega
    refine ⟨⟨some q, .receiving acc, depRes, tosend, got, .running⟩, ?_, rfl, rfl, rfl⟩
    simp [tRx, tRx.tRxActive, Pdu.didAttr, hdid, hfa, tAccept, hne, ← hpi]

theorem tRx_more (c : Cfg) (hdid : c.tdid = c.idid) {pniI : Nat} {acc : Bytes} {g ts : List Bytes} {t : TState}
    (h : PData c pniI acc g ts t) (nad : Option Nat) (data : Bytes) :
    PPost pniI (.receiving (acc ++ data)) (ackPdu c pniI) g ts (tRx c t (.frame (.dep fMORE pniI c.idid nad data))).1
    ∧ (tRx c t (.frame (.dep fMORE pniI c.idid nad data))).2 = some (ackPdu c pniI) := by
  obtain ⟨t', he, hg, hts, hrun⟩ := tRx_data_eq c hdid h fMORE nad data (Or.inl rfl)
  rw [he]
  simp [tRecv, ackPdu, PPost, hrun, hg, hts]

/-- the Target's answer when `rest` is what it sends next (to the ACK of a non-final chunk: what is left of the
payload; to the last chunk of a payload: its next payload): the first chunk of `rest`, unless the frame does not
fit the length byte -/
def ackResp (c : Cfg) (pni : Nat) (rest : Bytes) : Option Pdu :=
  if (chunkPdu c pni rest).tlen + 1 > 255 then none else some (chunkPdu c pni rest)

theorem ackResp_some {c : Cfg} {pni : Nat} {rest : Bytes} {res : Pdu} (h : ackResp c pni rest = some res) :
    res = chunkPdu c pni rest := by
  unfold ackResp at h; split at h <;> cases h; rfl

/-- the Target's answer to the last chunk of a payload: the first chunk of its next payload, if any -/
def infResp (c : Cfg) (pni : Nat) (ts : List Bytes) : Option Pdu :=
  match ts with
  | [] => none
  | p' :: _ => if p' = [] then none else ackResp c pni p'

theorem infResp_some {c : Cfg} {pni : Nat} {ts : List Bytes} {res : Pdu} (h : infResp c pni ts = some res) :
    ∃ p' ts', ts = p' :: ts' ∧ res = chunkPdu c pni p' := by
  unfold infResp at h
  cases ts with
  | nil => cases h
  | cons p' ts' =>
    dsimp only at h
    split at h
    · cases h
    · exact ⟨p', ts', rfl, ackResp_some h⟩

/-- the Target has dealt with request `pniI` and delivered `g`: it stopped without an answer, or it stored the
answer `r1` and goes on at `loc` -/
def PDone (pniI : Nat) (loc : TLoc) (r1 : Option Pdu) (g ts : List Bytes) (t : TState) : Prop :=
  t.got = g ∧ ((t.status ≠ .running ∧ r1 = none) ∨ ∃ res, r1 = some res ∧ PPost pniI loc res g ts t)

/-- a running Target that sends the next chunk of `rest` has dealt with the request: it raised `struct.error`
without an answer, or stored and sent the chunk -/
theorem tSendChunk_done (c : Cfg) (t : TState) (hrun : t.status = .running) (pni : Nat) (rest : Bytes) :
    (tSendChunk c t pni rest).2 = ackResp c pni rest
    ∧ PDone pni (.sending rest) (ackResp c pni rest) t.got t.tosend (tSendChunk c t pni rest).1 := by
  unfold tSendChunk ackResp
  dsimp only
  rw [← chunkPdu]
  split
  · exact ⟨rfl, rfl, Or.inl ⟨nofun, rfl⟩⟩
  · exact ⟨rfl, rfl, Or.inr ⟨_, rfl, hrun, rfl, rfl, rfl, rfl, rfl⟩⟩

theorem tRx_inf (c : Cfg) (hdid : c.tdid = c.idid) {pni : Nat} {acc : Bytes} {g ts : List Bytes} {t0 : TState}
    (h : PData c pni acc g ts t0) (nad : Option Nat) (data : Bytes) :
    (tRx c t0 (.frame (.dep fINF pni c.idid nad data))).2 = infResp c pni ts
    ∧ PDone pni (.sending (ts.headD [])) (infResp c pni ts) (g ++ [acc ++ data]) ts.tail
        (tRx c t0 (.frame (.dep fINF pni c.idid nad data))).1 := by
  obtain ⟨t, he, hg, hts, hrun⟩ := tRx_data_eq c hdid h fINF nad data (Or.inr rfl)
  rw [he]
  have hne : fINF ≠ fMORE := by decide
  unfold tRecv
  simp only [hne, if_false]
  cases ts with
  | nil => simp [infResp, PDone, hts, hg]
  | cons p' ts' =>
    simp only [hts]
    by_cases hp : p' = []
    · simp [infResp, PDone, hp, TState.die, hg]
    · simp only [hp, if_false, infResp, List.headD_cons, List.tail_cons]
      subst hg
      exact tSendChunk_done c { t with pni := some pni, got := t.got ++ [acc ++ data], tosend := ts' } hrun pni p'

theorem tRx_ack (c : Cfg) (hdid : c.tdid = c.idid) {pniI : Nat} {d : Bytes} {g ts : List Bytes} {t : TState}
    (h : PSend c pniI d g ts t) (nad : Option Nat) :
    (tRx c t (.frame (.dep fACK pniI c.idid nad []))).2 = ackResp c pniI (d.drop c.tmiu)
    ∧ PDone pniI (.sending (d.drop c.tmiu)) (ackResp c pniI (d.drop c.tmiu)) g ts
        (tRx c t (.frame (.dep fACK pniI c.idid nad []))).1 := by
  obtain ⟨pni, loc, depRes, tosend, got, status⟩ := t
  obtain ⟨hrun, hg, hts, q, hp, hq, hpi, hl, hd⟩ := h
  simp only at hrun hg hts hp hl
  subst hrun hg hts hp hl
  have hne : q ≠ pniI := by omega
  have hrest : List.drop c.tmiu d ≠ [] := by
    intro h0
    have := List.drop_eq_nil_iff.mp h0
    omega
  have hfa : fACK ≠ fATN ∧ fACK ≠ fNAK ∧ fACK ≠ fTOX := by decide
  have key : tRx c ⟨some q, .sending d, depRes, tosend, got, .running⟩ (.frame (.dep fACK pniI c.idid nad []))
      = tSendChunk c ⟨some q, .sending d, depRes, tosend, got, .running⟩ pniI (d.drop c.tmiu) := by
    simp [tRx, tRx.tRxActive, Pdu.didAttr, hdid, hfa, tAccept, hne, ← hpi, hrest]
  rw [key]
  exact tSendChunk_done c _ rfl pniI (d.drop c.tmiu)

theorem atn_cases (c : Cfg) : atnPdu c = .dep fATN 0 c.idid none [] ∨ atnPdu c = .dep fATN 0 none none [] := by
  unfold atnPdu; split <;> simp

theorem tRx_atn_state (c : Cfg) (t : TState) (did : Option Nat) :
    (tRx c t (.frame (.dep fATN 0 did none []))).1 = t
    ∨ (t.loc = .listen ∧ (tRx c t (.frame (.dep fATN 0 did none []))).1 = { t with loc := .first }) := by
  obtain ⟨pni, loc, depRes, tosend, got, status⟩ := t
  by_cases hr : status = .running
  · subst hr
    by_cases hd : did = c.tdid <;> cases loc <;> simp [tRx, tRx.tRxActive, Pdu.didAttr, hd]
  · left; simp [tRx, hr]

theorem PData_atn (c : Cfg) {pniI : Nat} {acc : Bytes} {g ts : List Bytes} {t : TState}
    (h : PData c pniI acc g ts t) : PData c pniI acc g ts (tRx c t (.frame (atnPdu c))).1 := by
  have key : ∀ did, PData c pniI acc g ts (tRx c t (.frame (.dep fATN 0 did none []))).1 := by
    intro did
    rcases tRx_atn_state c t did with h1 | ⟨hl, h1⟩
    · rw [h1]; exact h
    · rw [h1]
      obtain ⟨hrun, hg, hts, hcase⟩ := h
      refine ⟨hrun, hg, hts, ?_⟩
      rcases hcase with ⟨hp, _, ha, h0⟩ | ⟨q, d, _, _, _, hl', _⟩ | ⟨q, _, _, _, hl'⟩
      · exact Or.inl ⟨hp, Or.inr rfl, ha, h0⟩
      · rw [hl] at hl'; cases hl'
      · rw [hl] at hl'; cases hl'
  rcases atn_cases c with h1 | h1 <;> rw [h1] <;> exact key _

theorem PSend_atn (c : Cfg) {pniI : Nat} {d : Bytes} {g ts : List Bytes} {t : TState}
    (h : PSend c pniI d g ts t) : PSend c pniI d g ts (tRx c t (.frame (atnPdu c))).1 := by
  have key : ∀ did, (tRx c t (.frame (.dep fATN 0 did none []))).1 = t := by
    intro did
    rcases tRx_atn_state c t did with h1 | ⟨hl, _⟩
    · exact h1
    · have hl' := h.loc_eq
      rw [hl] at hl'; cases hl'
  rcases atn_cases c with h1 | h1 <;> rw [h1, key] <;> exact h

/-- after the request `pniI` was accepted: either the answer `r1` is stored, or the Target stopped -/
def PB (pniI : Nat) (r1 : Option Pdu) (t : TState) : Prop :=
  (t.status = .running ∧ t.loc ≠ .listen ∧ t.pni = some pniI ∧ t.depRes = r1) ∨ (t.status ≠ .running ∧ r1 = none)

theorem PB_dep (c : Cfg) (hdid : c.tdid = c.idid) {pniI : Nat} {r1 : Option Pdu} {t : TState} (h : PB pniI r1 t)
    (fmt : Nat) (hf : fmt ≠ fATN ∧ fmt ≠ fTOX) (nad : Option Nat) (data : Bytes) :
    tRx c t (.frame (.dep fmt pniI c.idid nad data)) = (t, r1) := by
  obtain ⟨pni, loc, depRes, tosend, got, status⟩ := t
  rcases h with ⟨hrun, hl, hp, hd⟩ | ⟨hrun, hr⟩
  · simp only at hrun hl hp hd
    subst hrun hp hd
    by_cases hn : fmt = fNAK
    · subst hn
      have h1 : fNAK ≠ fATN := by decide
      cases loc <;> simp [tRx, tRx.tRxActive, Pdu.didAttr, hdid, h1] at hl ⊢
    · cases loc <;> simp [tRx, tRx.tRxActive, Pdu.didAttr, hdid, hf, hn] at hl ⊢
  · simp only at hrun
    subst hr
    simp [tRx, hrun]

theorem PB_atn (c : Cfg) {pniI : Nat} {r1 : Option Pdu} {t : TState} (h : PB pniI r1 t) :
    (tRx c t (.frame (atnPdu c))).1 = t := by
  have key : ∀ did, (tRx c t (.frame (.dep fATN 0 did none []))).1 = t := by
    intro did
    rcases tRx_atn_state c t did with h1 | ⟨hl, _⟩
    · exact h1
    · rcases h with ⟨_, hl', _⟩ | ⟨hrun, _⟩
      · exact absurd hl hl'
      · obtain ⟨pni, loc, depRes, tosend, got, status⟩ := t
        simp [tRx, hrun]
  rcases atn_cases c with h1 | h1 <;> rw [h1] <;> exact key _

theorem PDone.got {pniI : Nat} {loc : TLoc} {r1 : Option Pdu} {g ts : List Bytes} {t : TState}
    (h : PDone pniI loc r1 g ts t) : t.got = g := h.1

/-- before the first frame the Target waits, in `listen`, for the information PDU numbered 0 -/
theorem PData.init (c : Cfg) (pt : List Bytes) : PData c 0 [] [] pt (TState.init pt) :=
  ⟨rfl, rfl, rfl, Or.inl ⟨rfl, Or.inl rfl, rfl, rfl⟩⟩

theorem PPost.toPB {pniI : Nat} {loc : TLoc} {res : Pdu} {g ts : List Bytes} {t : TState}
    (h : PPost pniI loc res g ts t) (hl : loc ≠ .listen) : PB pniI (some res) t :=
  Or.inl ⟨h.running, by rw [h.loc_eq]; exact hl, h.pni_eq, h.res_eq⟩

theorem PPost.recv (c : Cfg) {pl : Nat} {acc : Bytes} {res : Pdu} {g ts : List Bytes} {t : TState} (hl : pl < 4)
    (h : PPost pl (.receiving acc) res g ts t) : PData c ((pl + 1) % 4) acc g ts t :=
  ⟨h.running, h.got, h.tosend_eq, Or.inr (Or.inr ⟨pl, h.pni_eq, hl, rfl, h.loc_eq⟩)⟩

theorem PDone.ok {pniI : Nat} {loc : TLoc} {r1 : Option Pdu} {res : Pdu} {g ts : List Bytes} {t : TState}
    (h : PDone pniI loc r1 g ts t) (hr : r1 = some res) : PPost pniI loc res g ts t := by
  rcases h.2 with ⟨_, hn⟩ | ⟨res', hr', hp⟩
  · cases hn.symm.trans hr
  · cases hr'.symm.trans hr; exact hp

theorem PDone.toPB {pniI : Nat} {loc : TLoc} {r1 : Option Pdu} {g ts : List Bytes} {t : TState}
    (h : PDone pniI loc r1 g ts t) (hl : loc ≠ .listen) : PB pniI r1 t := by
  rcases h.2 with hd | ⟨res, rfl, hp⟩
  · exact Or.inr hd
  · exact hp.toPB hl

theorem PPost.next (c : Cfg) {pl : Nat} {p' : Bytes} {g ts : List Bytes} {t : TState} (hl : pl < 4)
    (h : PPost pl (.sending p') (chunkPdu c pl p') g ts t) (acc : Bytes) (hacc : acc = p'.take c.tmiu) :
    ((if p'.length > c.tmiu then fMORE else fINF) = fMORE ∧ PSend c ((pl + 1) % 4) p' g ts t ∧ acc ++ p'.drop c.tmiu = p')
    ∨ ((if p'.length > c.tmiu then fMORE else fINF) = fINF ∧ PData c ((pl + 1) % 4) [] g ts t ∧ acc = p') := by
  obtain ⟨hrun, hg, hts, hp, hloc, _⟩ := h
  by_cases hlen : p'.length > c.tmiu
  · left
    simp only [hlen, if_true, true_and]
    exact ⟨⟨hrun, hg, hts, pl, hp, hl, rfl, hloc, hlen⟩, by rw [hacc, List.take_append_drop]⟩
  · right
    simp only [hlen, if_false, true_and]
    exact ⟨⟨hrun, hg, hts, Or.inr (Or.inl ⟨pl, p', hp, hl, rfl, hloc, by omega, rfl⟩)⟩,
      by rw [hacc]; exact List.take_of_length_le (by omega)⟩
end NfcVerif.NfcDep
