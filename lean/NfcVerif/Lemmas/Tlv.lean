import NfcVerif.Model.Tlv
/-!
Reader and writer of `Model/Tlv.lean` on one image.  Skip-set arithmetic (`nextFree s a` is the least free address
from `a` on, and is `a` or `nextFree s (a + 1)`; `endAddr_le_of_cfree`: the capacity is real); `walkPre_found` (a walk
that finds the NDEF TLV depends only on the reads it made); `ReadsAs` (= `readNdef` returns the layout).  Every
statement of the form "this image differs from that one only there" is `Chg m m' P`, defined here with its rules: the
copy loop (`place_chg`), phase 2, and the steps of a write, `WriteSpec.steps : Steps ..`, from which `WriteSpec.heads`
and (in `TlvSync`) `WriteSpec.chg` are read off.  What the last step stores in the length field is `m3_eq`,
`lenField3`, `lenByte`, `readLen_written`.
-/
namespace NfcVerif.Tlv
open NfcVerif

theorem nf_ge (s : Skip) (f a : Nat) : a ≤ nf s f a := by
  induction f generalizing a with
  | zero => simp [nf]
  | succ f ih =>
    simp only [nf]; split
    · have := ih (a+1); omega
    · omega

theorem inSkip_single (r : Nat × Nat) (a : Nat) : inSkip [r] a = true ↔ r.1 ≤ a ∧ a < r.2 := by
  simp [inSkip]

theorem inSkip_append (s1 s2 : Skip) (a : Nat) : inSkip (s1 ++ s2) a = (inSkip s1 a || inSkip s2 a) := by
  simp [inSkip, List.any_append]

theorem inSkip_append_false (s1 s2 : Skip) (a : Nat) (h : inSkip (s1 ++ s2) a = false) :
    inSkip s1 a = false ∧ inSkip s2 a = false := by
  rw [inSkip_append] at h; simpa using h

theorem inSkip_lt_skipMax (s : Skip) (a : Nat) (h : inSkip s a = true) : a < skipMax s := by
  induction s with
  | nil => simp [inSkip] at h
  | cons r rs ih =>
    simp only [inSkip, List.any_cons, Bool.or_eq_true, Bool.and_eq_true, decide_eq_true_eq] at h
    simp only [skipMax]
    rcases h with h | h
    · omega
    · have := ih (by simpa [inSkip] using h); omega

theorem nf_not_skip (s : Skip) (f a : Nat) (h : skipMax s - a ≤ f) : inSkip s (nf s f a) = false := by
  induction f generalizing a with
  | zero =>
    simp only [nf]
    cases hs : inSkip s a with
    | false => rfl
    | true => have := inSkip_lt_skipMax s a hs; omega
  | succ f ih =>
    simp only [nf]; split
    · exact ih (a+1) (by omega)
    · rename_i hn; simpa using hn

theorem nf_between (s : Skip) (f a x : Nat) (h1 : a ≤ x) (h2 : x < nf s f a) : inSkip s x = true := by
  induction f generalizing a with
  | zero => simp [nf] at h2; omega
  | succ f ih =>
    simp only [nf] at h2; split at h2
    · rename_i hs
      by_cases hx : x = a
      · subst hx; exact hs
      · exact ih (a+1) (by omega) h2
    · omega

theorem nextFree_ge (s : Skip) (a : Nat) : a ≤ nextFree s a := nf_ge _ _ _
theorem nextFree_not_skip (s : Skip) (a : Nat) : inSkip s (nextFree s a) = false := nf_not_skip _ _ _ (Nat.le_refl _)
theorem nextFree_between (s : Skip) (a x : Nat) (h1 : a ≤ x) (h2 : x < nextFree s a) : inSkip s x = true :=
  nf_between _ _ _ _ h1 h2
theorem nextFree_least (s : Skip) (a x : Nat) (h1 : a ≤ x) (h2 : inSkip s x = false) : nextFree s a ≤ x := by
  apply Nat.le_of_not_lt
  intro hlt
  have := nextFree_between s a x h1 hlt
  rw [this] at h2; cases h2

theorem nextFree_mono (s : Skip) (a b : Nat) (h : a ≤ b) : nextFree s a ≤ nextFree s b :=
  nextFree_least s a _ (Nat.le_trans h (nextFree_ge s b)) (nextFree_not_skip s b)

theorem nextFree_eq_self (s : Skip) (a : Nat) (h : inSkip s a = false) : nextFree s a = a :=
  Nat.le_antisymm (nextFree_least s a a (Nat.le_refl _) h) (nextFree_ge s a)

theorem nextFree_nil (a : Nat) : nextFree [] a = a := nextFree_eq_self [] a rfl

/-- address after `n` value bytes placed from `a` -/
def endAddr (s : Skip) : Nat → Nat → Nat
  | 0, a => a
  | n+1, a => endAddr s n (nextFree s a + 1)

theorem endAddr_ge (s : Skip) (n a : Nat) : a + n ≤ endAddr s n a := by
  induction n generalizing a with
  | zero => simp [endAddr]
  | succ n ih =>
    simp only [endAddr]
    have := ih (nextFree s a + 1); have := nextFree_ge s a; omega

theorem endAddr_mono (s : Skip) (n : Nat) : ∀ a b, a ≤ b → endAddr s n a ≤ endAddr s n b := by
  induction n with
  | zero => intro a b h; simpa [endAddr] using h
  | succ n ih =>
    intro a b h
    simp only [endAddr]
    exact ih _ _ (by have := nextFree_mono s a b h; omega)

theorem endAddr_add (s : Skip) (m n : Nat) : ∀ a, endAddr s (m + n) a = endAddr s n (endAddr s m a) := by
  induction m with
  | zero => intro a; simp [endAddr]
  | succ m ih =>
    intro a
    have : m + 1 + n = (m + n) + 1 := by omega
    rw [this]
    simp only [endAddr]
    exact ih _

theorem endAddr_succ_gt (s : Skip) (n a : Nat) : nextFree s a < endAddr s (n + 1) a := by
  simp only [endAddr]
  have := endAddr_ge s n (nextFree s a + 1)
  omega

theorem endAddr_le_add (s : Skip) (m n a : Nat) : endAddr s m a ≤ endAddr s (m + n) a := by
  rw [endAddr_add]
  have := endAddr_ge s n (endAddr s m a)
  omega

theorem cfree_le (s : Skip) (a k : Nat) : cfree s a k ≤ k := by
  induction k generalizing a with
  | zero => simp [cfree]
  | succ k ih => simp only [cfree]; have := ih (a+1); split <;> omega

theorem nextFree_skip (s : Skip) (a : Nat) (h : inSkip s a = true) : nextFree s a = nextFree s (a + 1) := by
  have := inSkip_lt_skipMax s a h
  unfold nextFree
  rw [show skipMax s - a = (skipMax s - (a + 1)) + 1 by omega, nf, if_pos h]

/-- the window is walked in step with `cfree`, by the two equations of `nextFree` (`nextFree_eq_self`, `nextFree_skip`) -/
theorem endAddr_le_of_cfree (s : Skip) (n a k : Nat) (h : n ≤ cfree s a k) : endAddr s n a ≤ a + k := by
  induction k generalizing a n with
  | zero =>
    simp only [cfree] at h
    have : n = 0 := by omega
    subst this; exact Nat.le_refl _
  | succ k ih =>
    cases n with
    | zero => simp only [endAddr]; omega
    | succ n =>
      simp only [cfree] at h
      by_cases hs : inSkip s a = true
      · rw [if_pos hs] at h
        have := ih (n + 1) (a + 1) (by omega)
        simp only [endAddr] at this ⊢
        rw [nextFree_skip s a hs]; omega
      · rw [if_neg hs] at h
        simp only [endAddr]
        rw [nextFree_eq_self s a (by simpa using hs)]
        have := ih n (a + 1) (by omega); omega

theorem cfree_split (s : Skip) (a j k : Nat) : cfree s a (j + k) = cfree s a j + cfree s (a + j) k := by
  induction j generalizing a with
  | zero => simp [cfree]
  | succ j ih =>
    have : j + 1 + k = (j + k) + 1 := by omega
    rw [this]; simp only [cfree]
    rw [ih (a+1)]
    have : a + 1 + j = a + (j + 1) := by omega
    rw [this]; omega

theorem rd_ok_iff (c : Cfg) (m : Bytes) (a v : Nat) : rd c m a = .ok v ↔ m[a]? = some v := by
  unfold rd; split <;> simp_all

theorem rd_congr (c : Cfg) (m m' : Bytes) (a : Nat) (h : m'[a]? = m[a]?) : rd c m' a = rd c m a := by
  unfold rd; rw [h]

theorem rd_of_lt (c : Cfg) (m : Bytes) (a : Nat) (h : a < m.length) : rd c m a = .ok m[a] := by
  unfold rd; simp [h]

theorem wr_ok (c : Cfg) (m : Bytes) (a v : Nat) (h : a < m.length) : wr c m a v = .ok (m.set a v) := by
  simp [wr, h]

theorem wr_inv (c : Cfg) (m m' : Bytes) (a v : Nat) (h : wr c m a v = .ok m') : a < m.length ∧ m' = m.set a v := by
  unfold wr at h; split at h
  · rename_i hl; cases h; exact ⟨hl, rfl⟩
  · cases h

theorem get_set_ne (m : Bytes) (a v x : Nat) (h : a ≠ x) : (m.set a v)[x]? = m[x]? := by
  simp [h]

theorem get_set_eq (m : Bytes) (a v : Nat) (h : a < m.length) : (m.set a v)[a]? = some v := by
  simp [h]

def Chg (m m' : Bytes) (P : Nat → Prop) : Prop := m'.length = m.length ∧ ∀ x, m'[x]? ≠ m[x]? → P x

theorem Chg.refl (m : Bytes) (P : Nat → Prop) : Chg m m P := ⟨rfl, fun _ h => absurd rfl h⟩

theorem Chg.symm {m m' : Bytes} {P : Nat → Prop} (h : Chg m m' P) : Chg m' m P :=
  ⟨h.1.symm, fun x hx => h.2 x fun e => hx e.symm⟩

theorem Chg.mono {m m' : Bytes} {P Q : Nat → Prop} (h : Chg m m' P) (hPQ : ∀ x, P x → Q x) : Chg m m' Q :=
  ⟨h.1, fun x hx => hPQ x (h.2 x hx)⟩

theorem Chg.trans {m m1 m2 : Bytes} {P : Nat → Prop} (h1 : Chg m m1 P) (h2 : Chg m1 m2 P) : Chg m m2 P := by
  refine ⟨h2.1.trans h1.1, fun x hx => ?_⟩
  by_cases e : m2[x]? = m1[x]?
  · exact h1.2 x (e ▸ hx)
  · exact h2.2 x e

theorem Chg.set (m : Bytes) (a v : Nat) : Chg m (m.set a v) (· = a) :=
  ⟨List.length_set, fun x hx => Classical.byContradiction fun hne => hx (get_set_ne m a v x fun e => hne e.symm)⟩

theorem Chg.length {m m' : Bytes} {P : Nat → Prop} (h : Chg m m' P) : m'.length = m.length := h.1

theorem Chg.of_ne {m m' : Bytes} {P : Nat → Prop} (h : Chg m m' P) {x : Nat} (hx : m'[x]? ≠ m[x]?) : P x := h.2 x hx

theorem Chg.outside {m m' : Bytes} {P : Nat → Prop} (h : Chg m m' P) (x : Nat) (hx : ¬ P x) : m'[x]? = m[x]? :=
  Classical.byContradiction fun hne => hx (h.2 x hne)

theorem fetch_congr (c : Cfg) (s : Skip) (m m' : Bytes) (n a : Nat)
    (h : ∀ x, a ≤ x → x < endAddr s n a → m'[x]? = m[x]?) :
    fetch (rd c m') s n a = fetch (rd c m) s n a := by
  induction n generalizing a with
  | zero => simp [fetch]
  | succ n ih =>
    simp only [fetch]
    have hb := nextFree_ge s a
    have he := endAddr_ge s n (nextFree s a + 1)
    rw [rd_congr c m m' _ (h _ hb (by simp only [endAddr]; omega))]
    rw [ih (nextFree s a + 1) (fun x h1 h2 => h x (by omega) (by simpa [endAddr] using h2))]

theorem place_chg (c : Cfg) (s : Skip) (ds : Bytes) (m : Bytes) (a : Nat)
    (hfit : endAddr s ds.length a ≤ m.length) :
    ∃ m', place c s m a ds = .ok (m', endAddr s ds.length a)
      ∧ Chg m m' (fun x => a ≤ x ∧ x < endAddr s ds.length a ∧ inSkip s x = false)
      ∧ fetch (rd c m') s ds.length a = .ok ds := by
  induction ds generalizing m a with
  | nil => exact ⟨m, by simp [place, endAddr], Chg.refl _ _, by simp [fetch]⟩
  | cons d ds ih =>
    simp only [List.length_cons, endAddr] at hfit ⊢
    have hb := nextFree_ge s a
    have he := endAddr_ge s ds.length (nextFree s a + 1)
    have hlt : nextFree s a < m.length := by omega
    obtain ⟨m', hp, hc, hf⟩ := ih (m.set (nextFree s a) d) (nextFree s a + 1) (by simpa using hfit)
    refine ⟨m', by simp only [place, wr_ok c m _ d hlt, Py.bind_ok, hp], ?_, ?_⟩
    · exact ((Chg.set m _ d).mono fun x e => ⟨by omega, by omega, by rw [e]; exact nextFree_not_skip s a⟩).trans
        (hc.mono fun x hx => ⟨by omega, hx.2.1, hx.2.2⟩)
    · simp only [fetch]
      have : m'[nextFree s a]? = some d := by
        rw [hc.outside _ fun h => absurd h.1 (by omega)]; exact get_set_eq m _ d hlt
      rw [(rd_ok_iff c m' _ d).2 this, Py.bind_ok, hf]; rfl

/-- the reader is monotone in this (`walkPre_found`), which takes a walk that stayed below a bound (`rdB`) to the whole
image -/
def RdLe (r r' : Rd) : Prop := ∀ a v, r a = .ok v → r' a = .ok v

theorem rdB_le (c : Cfg) (B : Nat) (m : Bytes) : RdLe (rdB c B m) (rd c m) := by
  intro a v h; unfold rdB at h; split at h
  · exact h
  · cases h

theorem rdB_congr (c : Cfg) (B : Nat) (m m' : Bytes) (h : ∀ x, x < B → m'[x]? = m[x]?) :
    rdB c B m' = rdB c B m := by
  funext a; unfold rdB; split
  · rename_i hl; exact rd_congr c m m' a (h a hl)
  · rfl

theorem readLen_mono {r r' : Rd} (h : RdLe r r') (a : Nat) (x : Nat × Nat) (hx : readLen r a = .ok x) :
    readLen r' a = .ok x := by
  unfold readLen at hx ⊢
  obtain ⟨l, hl, hx⟩ := Py.bind_eq_ok.1 hx
  rw [h _ _ hl, Py.bind_ok]
  split at hx
  · rename_i h255
    obtain ⟨hi, hhi, hx⟩ := Py.bind_eq_ok.1 hx
    obtain ⟨lo, hlo, hx⟩ := Py.bind_eq_ok.1 hx
    rw [if_pos h255, h _ _ hhi, Py.bind_ok, h _ _ hlo, Py.bind_ok]; exact hx
  · rename_i h255; rw [if_neg h255]; exact hx

theorem fetch_mono {r r' : Rd} (h : RdLe r r') (s : Skip) (n a : Nat) (x : Bytes) (hx : fetch r s n a = .ok x) :
    fetch r' s n a = .ok x := by
  induction n generalizing a x with
  | zero => simpa [fetch] using hx
  | succ n ih =>
    simp only [fetch] at hx ⊢
    obtain ⟨b, hb, hx⟩ := Py.bind_eq_ok.1 hx
    obtain ⟨xs, hxs, hx⟩ := Py.bind_eq_ok.1 hx
    rw [h _ _ hb, Py.bind_ok, ih _ _ hxs, Py.bind_ok]; exact hx

theorem fetch_length (r : Rd) (s : Skip) : ∀ (n a : Nat) (v : Bytes), fetch r s n a = .ok v → v.length = n := by
  intro n
  induction n with
  | zero => intro a v h; simp only [fetch] at h; cases h; rfl
  | succ n ih =>
    intro a v h
    simp only [fetch] at h
    obtain ⟨x, _, h⟩ := Py.bind_eq_ok.1 h
    obtain ⟨xs, hxs, h⟩ := Py.bind_eq_ok.1 h
    cases h
    simp [ih _ _ hxs]

/-- A walk that arrives at an NDEF TLV made only successful reads, so a reader that repeats them arrives
there too. -/
theorem walkPre_found (c : Cfg) {r r' : Rd} (h : RdLe r r') {e fuel off : Nat} {skip : Skip} {o : Nat} {sk : Skip}
    (hx : walkPre c r e fuel off skip = .ok (.found o sk)) :
    walkPre c r' e fuel off skip = .ok (.found o sk) ∧ off ≤ o ∧
      ∀ a, inSkip skip a = true → inSkip sk a = true := by
  induction fuel generalizing off skip with
  | zero => cases hx
  | succ fuel ih =>
    unfold walkPre at hx ⊢
    by_cases h1 : e ≤ off
    · rw [if_pos h1] at hx; cases hx
    rw [if_neg h1] at hx ⊢
    by_cases h2 : (c.t1 && inSkip skip off) = true
    · rw [if_pos h2] at hx ⊢
      obtain ⟨i1, i2, i3⟩ := ih hx
      exact ⟨i1, by omega, i3⟩
    rw [if_neg h2] at hx ⊢
    have ho : off ≤ (if c.t1 = true then off else nextFree skip off) := by
      split
      · exact Nat.le_refl _
      · exact nextFree_ge _ _
    dsimp only at hx ⊢
    generalize (if c.t1 = true then off else nextFree skip off) = oo at hx ho ⊢
    cases hr : r oo with
    | error ex => rw [hr] at hx; dsimp only at hx; split at hx <;> cases hx
    | ok t =>
      rw [hr] at hx; rw [h _ _ hr]; dsimp only at hx ⊢
      by_cases h3 : t = 0
      · rw [if_pos h3] at hx ⊢
        obtain ⟨i1, i2, i3⟩ := ih hx
        exact ⟨i1, by omega, i3⟩
      rw [if_neg h3] at hx ⊢
      by_cases h4 : t = 0xFE
      · rw [if_pos h4] at hx; cases hx
      rw [if_neg h4] at hx ⊢
      by_cases h5 : t = 3
      · rw [if_pos h5] at hx ⊢
        cases hx
        exact ⟨rfl, ho, fun _ ha => ha⟩
      rw [if_neg h5] at hx ⊢
      obtain ⟨lv, hlv, hx⟩ := Py.bind_eq_ok.1 hx
      obtain ⟨v, hv, hx⟩ := Py.bind_eq_ok.1 hx
      rw [readLen_mono h _ _ hlv, Py.bind_ok, fetch_mono h _ _ _ _ hv, Py.bind_ok]
      -- every continuation is the walk from a later offset with a skip set that is no smaller
      have step : ∀ skip', (∀ a, inSkip skip a = true → inSkip skip' a = true) →
          walkPre c r e fuel (oo + lv.1 + 1 + if lv.1 < 255 then 1 else 3) skip' = .ok (.found o sk) →
          walkPre c r' e fuel (oo + lv.1 + 1 + if lv.1 < 255 then 1 else 3) skip' = .ok (.found o sk) ∧ off ≤ o ∧
            ∀ a, inSkip skip a = true → inSkip sk a = true := by
        intro skip' hs hw
        obtain ⟨i1, i2, i3⟩ := ih hw
        exact ⟨i1, by omega, fun a ha => i3 a (hs a ha)⟩
      by_cases h6 : t = 1 ∨ t = 2
      · rw [if_pos h6] at hx ⊢
        by_cases h7 : c.t1 = true ∨ lv.1 = 3
        · rw [if_pos h7] at hx ⊢
          obtain ⟨rg, hrg, hx⟩ := Py.bind_eq_ok.1 hx
          rw [hrg, Py.bind_ok]
          exact step _ (fun a ha => by rw [inSkip_append, ha]; rfl) hx
        · rw [if_neg h7] at hx ⊢
          exact step _ (fun _ ha => ha) hx
      · rw [if_neg h6] at hx ⊢
        exact step _ (fun _ ha => ha) hx

/-! ### what `_read_ndef_data` returning `L` means -/
structure ReadsAs (c : Cfg) (m : Bytes) (L : Layout) : Prop where
  magic : rd c m c.ccBase = .ok 0xE1
  ver : ∃ v, rd c m (c.ccBase + 1) = .ok v ∧ v / 16 = 1
  acc : ∃ a, rd c m (c.ccBase + 3) = .ok a ∧ L.readable = decide (a / 16 = 0) ∧ L.writeable = decide (a % 16 = 0)
  size : ∃ sz, rd c m (c.ccBase + 2) = .ok sz ∧ L.areaEnd = c.areaEnd sz
  pre : walkPre c (rd c m) L.areaEnd (L.areaEnd + 1) c.dataStart (c.initSkip L.areaEnd) = .ok (.found L.off L.skip)
  value : ∃ lv, readLen (rd c m) (L.off + 1) = .ok lv ∧ fetch (rd c m) L.skip lv.1 lv.2 = .ok L.ndef
  cap : L.cap = capacity L.skip L.off L.areaEnd

theorem readNdefRaw_iff (c : Cfg) (m : Bytes) (L : Layout) :
    readNdefRaw c m = .ok (some L) ↔ ReadsAs c m L := by
  constructor
  · intro h
    unfold readNdefRaw at h
    obtain ⟨magic, hmagic, h⟩ := Py.bind_eq_ok.1 h
    split at h
    · cases h
    rename_i hm
    obtain ⟨ver, hver, h⟩ := Py.bind_eq_ok.1 h
    split at h
    · cases h
    rename_i hv
    obtain ⟨acc, hacc, h⟩ := Py.bind_eq_ok.1 h
    obtain ⟨sz, hsz, h⟩ := Py.bind_eq_ok.1 h
    obtain ⟨p, hp, h⟩ := Py.bind_eq_ok.1 h
    cases p with
    | absent o s => cases h
    | found off skip =>
      simp only at h
      obtain ⟨lv, hlv, h⟩ := Py.bind_eq_ok.1 h
      obtain ⟨v, hv', h⟩ := Py.bind_eq_ok.1 h
      injection h with h; injection h with h; subst h
      simp only [Decidable.not_not] at hm hv
      exact ⟨by rw [hmagic, hm], ⟨ver, hver, hv⟩, ⟨acc, hacc, rfl, rfl⟩, ⟨sz, hsz, rfl⟩, hp, ⟨lv, hlv, hv'⟩, rfl⟩
  · intro ⟨hmagic, ⟨ver, hver, hv⟩, ⟨acc, hacc, hr, hw⟩, ⟨sz, hsz, he⟩, hp, ⟨lv, hlv, hv'⟩, hc⟩
    unfold readNdefRaw
    rw [hmagic, Py.bind_ok, if_neg (by simp), hver, Py.bind_ok, if_neg (by simp [hv]), hacc, Py.bind_ok, hsz, Py.bind_ok]
    simp only
    rw [← he, hp, Py.bind_ok]
    simp only
    rw [hlv, Py.bind_ok, hv', Py.bind_ok]
    cases L; simp_all

theorem readNdef_some (c : Cfg) (m : Bytes) (L : Layout) :
    readNdef c m = .ok (some L) ↔ ReadsAs c m L := by
  rw [← readNdefRaw_iff]
  unfold readNdef
  constructor
  · intro h; split at h
    · split at h <;> cases h
    · exact h
  · intro h; rw [h]

theorem countFree_le (s : Skip) (a b : Nat) : countFree s a b ≤ b - a := cfree_le _ _ _

theorem hdrLen_ge (n : Nat) : 2 ≤ hdrLen n := by unfold hdrLen; split <;> omega

theorem hdrLen_short {n : Nat} (h : n < 255) : hdrLen n = 2 := if_pos h

theorem hdrLen_long {n : Nat} (h : ¬ n < 255) : hdrLen n = 4 := if_neg h

/-- arithmetic content of `get_capacity`: a message that respects the capacity fits with its header -/
theorem cap_fits (s : Skip) (off e n : Nat) (h : (n : Int) ≤ capacity s off e) :
    n + hdrLen n ≤ countFree s off e := by
  have hc : capacity s off e = if countFree s off e > 256 then (countFree s off e : Int) - 4
      else (countFree s off e : Int) - 2 := rfl
  rw [hc] at h
  unfold hdrLen
  split at h <;> split <;> omega

theorem countFree_head (s : Skip) (off e n : Nat) (h : (n : Int) ≤ capacity s off e)
    (hfit : off + hdrLen n ≤ e) : n ≤ countFree s (off + hdrLen n) e := by
  have h1 := cap_fits s off e n h
  unfold countFree at h1 ⊢
  have e1 : e - off = hdrLen n + (e - (off + hdrLen n)) := by omega
  rw [e1, cfree_split] at h1
  have := cfree_le s off (hdrLen n)
  omega

theorem endAddr_le_area (s : Skip) (off e n : Nat) (h : (n : Int) ≤ capacity s off e) :
    off + hdrLen n + n ≤ e ∧ endAddr s n (off + hdrLen n) ≤ e := by
  have h1 := cap_fits s off e n h
  have h2 := countFree_le s off e
  have hh := hdrLen_ge n
  have := endAddr_le_of_cfree s n (off + hdrLen n) (e - (off + hdrLen n)) (countFree_head s off e n h (by omega))
  omega

/-- the image after the preparation step `phase3a`, as a pure function -/
def pre3 (u : Nat) (m2 : Bytes) (off n : Nat) : Bytes :=
  if n < 255 then m2
  else if (off + 1) / u ≠ (off + 2) / u ∧ (off + 2) / u = (off + 3) / u then (m2.set (off + 2) 0).set (off + 3) 0
  else
    let x := if (off + 2) / u ≠ (off + 1) / u then m2.set (off + 2) (n / 256) else m2
    if (off + 3) / u ≠ (off + 1) / u then x.set (off + 3) (n % 256) else x

theorem pre3_length (u : Nat) (m2 : Bytes) (off n : Nat) : (pre3 u m2 off n).length = m2.length := by
  unfold pre3; split
  · rfl
  · split
    · simp
    · simp only; split <;> split <;> simp

/-- the preparation step touches only the two extra bytes of the 3-byte length field -/
theorem pre3_get (u : Nat) (m2 : Bytes) (off n x : Nat) (h2 : x ≠ off + 2) (h3 : x ≠ off + 3) :
    (pre3 u m2 off n)[x]? = m2[x]? := by
  unfold pre3; split
  · rfl
  · split
    · rw [get_set_ne _ _ _ _ (fun e => h3 e.symm), get_set_ne _ _ _ _ (fun e => h2 e.symm)]
    · simp only; split <;> split <;>
        simp only [get_set_ne _ _ _ _ (fun e => h3 e.symm), get_set_ne _ _ _ _ (fun e => h2 e.symm)]

/-- the final length field overwrites whatever the preparation step stored -/
theorem final_over_pre3 (u : Nat) (m2 : Bytes) (off n : Nat) (a b c : Nat) :
    (((pre3 u m2 off n).set (off + 1) a).set (off + 2) b).set (off + 3) c
      = ((m2.set (off + 1) a).set (off + 2) b).set (off + 3) c := by
  apply List.ext_getElem?
  intro x
  simp only [List.getElem?_set, List.length_set, pre3_length]
  by_cases h3 : off + 3 = x
  · simp [h3]
  · by_cases h2 : off + 2 = x
    · simp [h2, h3]
    · by_cases h1 : off + 1 = x
      · simp [h1, h2, h3]
      · simp only [if_neg h3, if_neg h2, if_neg h1]
        exact pre3_get u m2 off n x (Ne.symm h2) (Ne.symm h3)

theorem phase3a_ok (c : Cfg) (m2 : Bytes) (off n : Nat) (h : 255 ≤ n → off + 3 < m2.length) :
    phase3a c m2 off n = .ok (pre3 c.unit m2 off n) := by
  unfold phase3a pre3
  split
  · rfl
  · rename_i hn
    have hl := h (by omega)
    split
    · rw [wr_ok c m2 _ _ (by omega), Py.bind_ok, wr_ok c _ _ _ (by simp; omega)]
    · split
      · rw [wr_ok c m2 _ _ (by omega), Py.bind_ok]
        simp only
        split
        · rw [wr_ok c _ _ _ (by simp; omega)]
        · rfl
      · rw [Py.bind_ok]
        simp only
        split
        · rw [wr_ok c _ _ _ (by omega)]
        · rfl

/-- everything later proofs need to know about the four images of a write -/
structure WriteSpec (c : Cfg) (m : Bytes) (L : Layout) (data : Bytes) (m1 m2 m3a m3 : Bytes) : Prop where
  p1 : phase1 c m L.off = .ok m1
  p2 : phase2 c m1 L.off L.skip L.areaEnd data = .ok m2
  p3a : phase3a c m2 L.off data.length = .ok m3a
  p3 : phase3 c m3a L.off data.length = .ok m3
  m3a_eq : m3a = pre3 c.unit m2 L.off data.length
  m1_eq : m1 = m.set (L.off + 1) 0
  len2 : m2.length = m.length
  /-- phase 2 changes only free bytes of the area behind the length field -/
  m2_same : ∀ x, m2[x]? ≠ m1[x]? → L.off + hdrLen data.length ≤ x ∧ x < L.areaEnd ∧ inSkip L.skip x = false
  m2_val : fetch (rd c m2) L.skip data.length (L.off + hdrLen data.length) = .ok data
  m3_eq : m3 = if data.length < 255 then m2.set (L.off + 1) data.length
               else ((m2.set (L.off + 1) 0xFF).set (L.off + 2) (data.length / 256)).set (L.off + 3) (data.length % 256)
  fits : L.off + hdrLen data.length + data.length ≤ L.areaEnd
  endv : endAddr L.skip data.length (L.off + hdrLen data.length) ≤ L.areaEnd
  area : L.areaEnd ≤ m.length

theorem phase2_chg (c : Cfg) (s : Skip) (m1 : Bytes) (off e : Nat) (data : Bytes)
    (hend : endAddr s data.length (off + hdrLen data.length) ≤ e) (he : e ≤ m1.length) :
    ∃ m2, phase2 c m1 off s e data = .ok m2
      ∧ Chg m1 m2 (fun x => off + hdrLen data.length ≤ x ∧ x < e ∧ inSkip s x = false)
      ∧ fetch (rd c m2) s data.length (off + hdrLen data.length) = .ok data := by
  obtain ⟨m2', hp, hc, hf⟩ := place_chg c s data m1 (off + hdrLen data.length) (by omega)
  have hc' : Chg m1 m2' (fun x => off + hdrLen data.length ≤ x ∧ x < e ∧ inSkip s x = false) :=
    hc.mono fun x hx => ⟨hx.1, by omega, hx.2.2⟩
  have htge := nextFree_ge s (endAddr s data.length (off + hdrLen data.length))
  have hege := endAddr_ge s data.length (off + hdrLen data.length)
  unfold phase2
  rw [hp, Py.bind_ok]
  simp only
  split
  · rename_i ht
    rw [wr_ok c m2' _ _ (by rw [hc.length]; omega)]
    refine ⟨_, rfl, hc'.trans ((Chg.set _ _ _).mono fun x e => ?_), ?_⟩
    · subst e; exact ⟨by omega, ht, nextFree_not_skip _ _⟩
    · rw [fetch_congr c s m2' _ _ _ (fun x h1 h2 => get_set_ne _ _ _ _ (by omega))]; exact hf
  · exact ⟨m2', rfl, hc', hf⟩

theorem write_spec (c : Cfg) (m : Bytes) (L : Layout) (data : Bytes)
    (hcapEq : L.cap = capacity L.skip L.off L.areaEnd) (harea : L.areaEnd ≤ m.length)
    (hcap : (data.length : Int) ≤ L.cap) :
    ∃ m1 m2 m3a m3, WriteSpec c m L data m1 m2 m3a m3 := by
  rw [hcapEq] at hcap
  obtain ⟨hfit, hend⟩ := endAddr_le_area L.skip L.off L.areaEnd data.length hcap
  have hh2 := hdrLen_ge data.length
  obtain ⟨m2, hp2, hc2, hm2val⟩ := phase2_chg c L.skip (m.set (L.off + 1) 0) L.off L.areaEnd data hend
    (by simpa using harea)
  have hlen2 : m2.length = m.length := by simpa using hc2.length
  have hl3a := pre3_length c.unit m2 L.off data.length
  refine ⟨_, m2, _, _, wr_ok c m _ _ (by omega), hp2,
    phase3a_ok c m2 L.off data.length fun h => by have := hdrLen_long (n := data.length) (by omega); omega,
    ?_, rfl, rfl, hlen2, fun x => hc2.of_ne, hm2val, rfl, hfit, hend, harea⟩
  unfold phase3
  by_cases hn : data.length < 255
  · rw [if_pos hn, if_pos hn, show pre3 c.unit m2 L.off data.length = m2 by unfold pre3; rw [if_pos hn]]
    exact wr_ok c m2 _ _ (by omega)
  · have h4 := hdrLen_long hn
    rw [if_neg hn, if_neg hn, wr_ok c _ _ _ (by omega), Py.bind_ok, wr_ok c _ _ _ (by simp; omega), Py.bind_ok,
      wr_ok c _ _ _ (by simp; omega), final_over_pre3]

/-- where the images of a write differ: each step is confined to its stretch; `s23` is the length field written over
phase 2's image (`m3_eq`), with the prepared image `m3a` between the two -/
structure Steps (L : Layout) (n : Nat) (m m1 m2 m3a m3 : Bytes) : Prop where
  s1 : Chg m m1 (· = L.off + 1)
  s2 : Chg m1 m2 (fun x => L.off + hdrLen n ≤ x ∧ x < L.areaEnd ∧ inSkip L.skip x = false)
  s3a : Chg m2 m3a (fun x => L.off + 1 ≤ x ∧ x < L.off + hdrLen n)
  s3 : Chg m3a m3 (fun x => L.off + 1 ≤ x ∧ x < L.off + hdrLen n)
  s23 : Chg m2 m3 (fun x => L.off + 1 ≤ x ∧ x < L.off + hdrLen n)

theorem WriteSpec.len1 {c m L data m1 m2 m3a m3} (w : WriteSpec c m L data m1 m2 m3a m3) : m1.length = m.length := by
  rw [w.m1_eq, List.length_set]

theorem WriteSpec.len3a {c m L data m1 m2 m3a m3} (w : WriteSpec c m L data m1 m2 m3a m3) :
    m3a.length = m.length := by
  rw [w.m3a_eq, pre3_length, w.len2]

theorem WriteSpec.steps {c m L data m1 m2 m3a m3} (w : WriteSpec c m L data m1 m2 m3a m3) :
    Steps L data.length m m1 m2 m3a m3 := by
  -- the preparation step touches only the two extra bytes of a 3-byte field (`pre3_get`)
  have s3a : Chg m2 m3a (fun x => L.off + 1 ≤ x ∧ x < L.off + hdrLen data.length) := by
    refine ⟨w.len3a.trans w.len2.symm, fun x hx => ?_⟩
    rw [w.m3a_eq] at hx
    by_cases hn : data.length < 255
    · exact absurd (by unfold pre3; rw [if_pos hn]) hx
    · have h4 := hdrLen_long hn
      exact Classical.byContradiction fun hcon => hx (pre3_get _ _ _ _ x (by omega) (by omega))
  have s23 : Chg m2 m3 (fun x => L.off + 1 ≤ x ∧ x < L.off + hdrLen data.length) := by
    rw [w.m3_eq]
    split
    · rename_i hn
      have := hdrLen_short hn
      exact (Chg.set _ _ _).mono fun x e => by omega
    · rename_i hn
      have := hdrLen_long hn
      exact (((Chg.set _ _ _).mono fun x e => by omega).trans ((Chg.set _ _ _).mono fun x e => by omega)).trans
        ((Chg.set _ _ _).mono fun x e => by omega)
  exact ⟨w.m1_eq ▸ Chg.set m _ 0, ⟨w.len2.trans w.len1.symm, w.m2_same⟩, s3a, s3a.symm.trans s23, s23⟩

theorem WriteSpec.len3 {c m L data m1 m2 m3a m3} (w : WriteSpec c m L data m1 m2 m3a m3) : m3.length = m.length :=
  w.steps.s23.length.trans w.len2

/-- what every write, whole or cut short, through an object that read its layout from `m` leaves of `m` -/
def Head (m : Bytes) (L : Layout) (img : Bytes) : Prop :=
  img.length = m.length ∧ ∀ x, x < L.off + 1 → img[x]? = m[x]?

theorem Head.refl (m : Bytes) (L : Layout) : Head m L m := ⟨rfl, fun _ _ => rfl⟩

theorem Head.chg {m : Bytes} {L : Layout} {A B : Bytes} {P : Nat → Prop} (h : Head m L A) (hc : Chg A B P)
    (hP : ∀ x, P x → L.off < x) : Head m L B :=
  ⟨hc.length.trans h.1, fun x hx => (hc.outside x fun p => by have := hP x p; omega).trans (h.2 x hx)⟩

theorem WriteSpec.heads {c C L data m1 m2 m3a m3} (w : WriteSpec c C L data m1 m2 m3a m3) {m : Bytes}
    (hC : Head m L C) : Head m L m1 ∧ Head m L m2 ∧ Head m L m3a ∧ Head m L m3 := by
  have hh := hdrLen_ge data.length
  have H1 := hC.chg w.steps.s1 fun x e => by omega
  have H2 := H1.chg w.steps.s2 fun x e => by omega
  have H3a := H2.chg w.steps.s3a fun x e => by omega
  exact ⟨H1, H2, H3a, H3a.chg w.steps.s3 fun x e => by omega⟩

/-- the header of the walk (everything in front of the NDEF TLV's length field) is stable
under changes behind it -/
theorem pre_stable (c : Cfg) (m m' : Bytes) (L : Layout) (hwf : WF c m L)
    (h : ∀ x, x < L.off + 1 → m'[x]? = m[x]?) :
    walkPre c (rd c m') L.areaEnd (L.areaEnd + 1) c.dataStart (c.initSkip L.areaEnd) = .ok (.found L.off L.skip) := by
  obtain ⟨_, _, _, _, hdr, _⟩ := hwf
  rw [← rdB_congr c (L.off + 1) m m' h] at hdr
  exact (walkPre_found c (rdB_le c _ m') hdr).1

theorem ReadsAs.of_head {c : Cfg} {m img : Bytes} {L : Layout} (hr : ReadsAs c m L) (hwf : WF c m L)
    (hb : ∀ x, x < L.off + 1 → img[x]? = m[x]?) (nd : Bytes)
    (hv : ∃ lv, readLen (rd c img) (L.off + 1) = .ok lv ∧ fetch (rd c img) L.skip lv.1 lv.2 = .ok nd) :
    ReadsAs c img { L with ndef := nd } := by
  have hcc := hwf.1
  have hst := hwf.2.2.1
  have hrd : ∀ x, x < L.off + 1 → rd c img x = rd c m x := fun x hx => rd_congr c m img x (hb x hx)
  refine ⟨by rw [hrd _ (by omega)]; exact hr.magic, ?_, ?_, ?_, pre_stable c m img L hwf hb, hv, hr.cap⟩
  · rw [hrd _ (by omega)]; exact hr.ver
  · rw [hrd _ (by omega)]; exact hr.acc
  · rw [hrd _ (by omega)]; exact hr.size

/-- the 3-byte length field of the final image -/
theorem WriteSpec.lenField3 {c m L data m1 m2 m3a m3} (w : WriteSpec c m L data m1 m2 m3a m3)
    (hn : ¬ data.length < 255) :
    m3[L.off + 1]? = some 255 ∧ m3[L.off + 2]? = some (data.length / 256)
      ∧ m3[L.off + 3]? = some (data.length % 256) := by
  have hfit := w.fits
  have hl2 := w.len2
  have har := w.area
  have h4 := hdrLen_long hn
  rw [w.m3_eq, if_neg hn]
  refine ⟨?_, ?_, get_set_eq _ _ _ (by simp; omega)⟩
  · rw [get_set_ne _ _ _ _ (by omega), get_set_ne _ _ _ _ (by omega)]; exact get_set_eq _ _ _ (by omega)
  · rw [get_set_ne _ _ _ _ (by omega)]; exact get_set_eq _ _ _ (by simp; omega)

theorem WriteSpec.lenByte {c m L data m1 m2 m3a m3} (w : WriteSpec c m L data m1 m2 m3a m3) :
    m3[L.off + 1]? = some (if data.length < 255 then data.length else 255) := by
  have hfit := w.fits
  have hl2 := w.len2
  have har := w.area
  have hh := hdrLen_ge data.length
  by_cases hn : data.length < 255
  · rw [w.m3_eq, if_pos hn, if_pos hn]; exact get_set_eq _ _ _ (by omega)
  · rw [if_neg hn]; exact (w.lenField3 hn).1

/-- the reader's "inside the data area" test (tt2.py:219-221, `head > raw_capacity + 16 or len(ndef) > len(room)`)
computes the header length of the written message from the first byte of the length field -/
theorem WriteSpec.head_eq {c m L data m1 m2 m3a m3} (w : WriteSpec c m L data m1 m2 m3a m3) :
    (if m3[L.off + 1]? = some 0xFF then 4 else 2) = hdrLen data.length := by
  rw [w.lenByte]
  by_cases hn : data.length < 255
  · rw [if_pos hn, hdrLen_short hn, if_neg (fun e => by have := Option.some.inj e; omega)]
  · rw [if_neg hn, hdrLen_long hn, if_pos rfl]

theorem WriteSpec.inside {c m L data m1 m2 m3a m3} (w : WriteSpec c m L data m1 m2 m3a m3)
    (hcap : (data.length : Int) ≤ capacity L.skip L.off L.areaEnd) :
    L.off + hdrLen data.length ≤ L.areaEnd ∧ data.length ≤ countFree L.skip (L.off + hdrLen data.length) L.areaEnd := by
  have hfit := w.fits
  exact ⟨by omega, countFree_head _ _ _ _ hcap (by omega)⟩

theorem readLen_written {c m L data m1 m2 m3a m3} (w : WriteSpec c m L data m1 m2 m3a m3) :
    readLen (rd c m3) (L.off + 1) = .ok (data.length, L.off + hdrLen data.length) := by
  have hfit := w.fits
  have hl2 := w.len2
  have har := w.area
  unfold readLen
  by_cases hn : data.length < 255
  · have : m3[L.off + 1]? = some data.length := by rw [w.lenByte, if_pos hn]
    rw [(rd_ok_iff c m3 _ _).2 this, Py.bind_ok, if_neg (by omega), hdrLen_short hn]
  · have h4 : hdrLen data.length = 4 := hdrLen_long hn
    obtain ⟨e1, e2, e3⟩ := w.lenField3 hn
    rw [(rd_ok_iff c m3 _ _).2 e1, Py.bind_ok, if_pos rfl, (rd_ok_iff c m3 _ _).2 e2, Py.bind_ok,
      (rd_ok_iff c m3 _ _).2 e3, Py.bind_ok, h4]
    have := Nat.div_add_mod data.length 256
    congr 2 <;> omega

theorem WriteSpec.reads_new {c C L data m1 m2 m3a m3} (w : WriteSpec c C L data m1 m2 m3a m3) {m : Bytes}
    (hr : ReadsAs c m L) (hwf : WF c m L) (hC : Head m L C) : ReadsAs c m3 { L with ndef := data } := by
  refine hr.of_head hwf (w.heads hC).2.2.2.2 data ⟨(data.length, L.off + hdrLen data.length), readLen_written w, ?_⟩
  show fetch (rd c m3) L.skip data.length (L.off + hdrLen data.length) = .ok data
  -- the length field lies in front of the value
  rw [fetch_congr c L.skip m2 m3 _ _ fun x h1 _ => w.steps.s23.outside x fun h => by omega]
  exact w.m2_val

theorem roundtrip (c : Cfg) (m : Bytes) (L : Layout) (data : Bytes)
    (hr : ReadsAs c m L) (hwf : WF c m L) (hcap : (data.length : Int) ≤ L.cap) :
    ∃ m1 m2 m3a m3, WriteSpec c m L data m1 m2 m3a m3 ∧ ReadsAs c m3 { L with ndef := data } := by
  obtain ⟨m1, m2, m3a, m3, w⟩ := write_spec c m L data hr.cap hwf.2.2.2.1 hcap
  exact ⟨m1, m2, m3a, m3, w, w.reads_new hr hwf (Head.refl m L)⟩

end NfcVerif.Tlv
