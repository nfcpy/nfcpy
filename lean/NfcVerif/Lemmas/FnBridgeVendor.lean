import NfcVerif.Gen.FnVendor
import NfcVerif.Model.FnVendorRef
import NfcVerif.Model.AuthHist
import NfcVerif.Model.CtlC03
import NfcVerif.Lemmas.FnBridgeTagCmdPrelude
/-!
Helper lemmas for `Props/FnBridgeVendor.lean` (and the groups Nxp, Sony built on it): slices of keys, the
permission masks of the FeliCa Lite memory configuration block, the `for .. break` loop of `FelicaLite._format`,
the Topaz wipe data, and the tag's `Tlv.setSlice` as Python slice assignment (`setSlice_tlv`, `setSlice_adj`).
-/
namespace NfcVerif.FnBridge.Vendor
open NfcVerif NfcVerif.PyFn NfcVerif.FnBridge.TagCmd NfcVerif.VendorRef

/-- `slice_zero_cast` for a literal bound -/
theorem slice0_lit {α} (l : List α) (n : Nat) : slice l 0 (no_index (OfNat.ofNat n) : Int) = l.take (OfNat.ofNat n) :=
  slice_zero_cast l n

/-- the key `authenticate` derives from a password it accepts is the key `protect` provisions for it -/
theorem keyOf_of_liteKey {pw key : Bytes} (h : Auth.liteKey pw = .ok key) : AuthHist.keyOf pw = key := by
  unfold Auth.liteKey at h
  unfold AuthHist.keyOf
  split at h
  · cases h
  · cases h; rfl

/-- AUTH0 octet of the Ultralight C as the generated text has it -/
theorem ulc_auth0_gen (pf : Int) : mkBytes [imax 3 (imin pf 48)] = .ok ((ulcAuth0 pf).take 1) ∧ (ulcAuth0 pf).take 1 ++ [0, 0, 0] = ulcAuth0 pf := by
  refine ⟨?_, rfl⟩
  have e : imax 3 (imin pf 48) = (((max 3 (min pf 48)).toNat : Nat) : Int) := by rw [imax_eq_max, imin_eq_min]; omega
  rw [e]
  exact mkBytes_isBytes [_] (by intro x hx; rw [List.mem_singleton.mp hx]; omega)

/-- the card key of `FelicaLite._protect` as the generated text has it -/
theorem keyOf_gen (p : Bytes) : (if p ≠ [] then slice p 0 16 else repeatL [0] 16) = AuthHist.keyOf p := by
  unfold AuthHist.keyOf Auth.zeros
  rw [slice0_lit]
  by_cases hp : p = [] <;> simp [hp, repeatL]

/-- `2**14 - 2**pf` for `pf ≤ 14` -/
theorem mask_sub (pf : Nat) (h : pf ≤ 14) :
    pow 2 14 - pow 2 (pf : Int) = ((2 ^ 14 - 2 ^ pf : Nat) : Int) := by
  have h1 : pow 2 14 = ((2 ^ 14 : Nat) : Int) := pow_ofNat 2 14
  have h2 : pow 2 (pf : Int) = ((2 ^ pf : Nat) : Int) := pow_ofNat 2 pf
  have h3 : 2 ^ pf ≤ 2 ^ 14 := Nat.pow_le_pow_right (by omega) h
  rw [h1, h2]; omega

theorem mask_sub_neg (pf : Nat) (h : 14 < pf) : pow 2 14 - pow 2 (pf : Int) < 0 := by
  have h1 : pow 2 14 = ((2 ^ 14 : Nat) : Int) := pow_ofNat 2 14
  have h2 : pow 2 (pf : Int) = ((2 ^ pf : Nat) : Int) := pow_ofNat 2 pf
  have h3 : 2 ^ 15 ≤ 2 ^ pf := Nat.pow_le_pow_right (by omega) h
  rw [h1, h2]; omega

/-- `0x7FFF ^ x` for a negative `x` is negative -/
theorem bxor_neg (m : Nat) (x : Int) (h : x < 0) : bxor (m : Int) x < 0 := by
  obtain ⟨k, rfl⟩ := Int.eq_negSucc_of_lt_zero h
  show Int.negSucc (m ^^^ k) < 0
  exact Int.negSucc_lt_zero _

/-- the loop of `FelicaLite._format` over the candidates `l` -/
theorem forC_firstClear (rw : Nat) : ∀ (l : List Nat) (last : Nat),
    forC (ρ := Empty) (l.map fun (n : Nat) => (n : Int)) (last : Int) (fun (_ : Int) (n : Int) =>
      Except.ok (if band (shr (rw : Int) (n + 1)) 1 = 0 then Ctl.brk n else Ctl.next n))
      = .ok (.inl ((firstClear rw l last : Nat) : Int))
  | [], last => rfl
  | n :: ns, last => by
    simp only [List.map_cons, forC, firstClear]
    have e : band (shr (rw : Int) ((n : Int) + 1)) 1 = (((rw >>> (n + 1)) % 2 : Nat) : Int) := by
      rw [show ((n : Int) + 1) = ((n + 1 : Nat) : Int) from by omega, shr_ofNat, show (1 : Int) = ((1 : Nat) : Int) from rfl,
        band_ofNat, and1]
    rw [e]
    by_cases h : (rw >>> (n + 1)) % 2 = 0
    · simp [h]
    · have : ¬ (((rw >>> (n + 1)) % 2 : Nat) : Int) = 0 := by omega
      simp only [h, this, if_false]
      exact forC_firstClear rw ns n

theorem range14 : PyFn.range 0 14 = (List.range 14).map fun (n : Nat) => (n : Int) := by decide

theorem mkBytes_wipe (w : Nat) : PyFn.mkBytes [PyFn.band (w : Int) ((255 : Nat) : Int)] = .ok [w % 256] := by
  rw [band_ofNat, and255]
  exact mkBytes_isBytes [w % 256] (by intro x hx; simp at hx; omega)

/-- wipe data of `Topaz._format` (`Tlv.formatTopaz`: `List.replicate 90 (w % 256)`) -/
theorem topaz_wipe_gen (n : Nat) (w : Nat) :
    (PyFn.mkBytes [PyFn.band (w : Int) 255] >>= fun t1 => Except.ok (PyFn.repeatL t1 (n : Int)))
      = .ok (List.replicate n (w % 256)) := by
  rw [lit_cast, mkBytes_wipe, Py.bind_ok, repeatL_one, Int.toNat_natCast]

theorem writeAt_splice : ∀ (v m : Bytes) (a : Nat), a + v.length ≤ m.length →
    Tlv.writeAt m a v = m.take a ++ v ++ m.drop (a + v.length)
  | [], m, a, _ => by simp [Tlv.writeAt]
  | d :: ds, m, a, h => by
    simp only [List.length_cons] at h
    simp only [Tlv.writeAt]
    rw [writeAt_splice ds (m.set a d) (a + 1) (by simp; omega)]
    have e1 : (m.set a d).take (a + 1) = m.take a ++ [d] := by
      rw [List.take_add_one, List.take_set_of_le (Nat.le_refl a)]
      simp [List.getElem?_set_self (by omega : a < m.length)]
    have e2 : (m.set a d).drop (a + 1 + ds.length) = m.drop (a + (ds.length + 1)) := by
      rw [List.drop_set_of_lt (by omega)]; congr 1; omega
    rw [e1, e2]
    simp

theorem setSlice_tlv (c : Tlv.Cfg) (m : Bytes) (a b : Nat) (v : Bytes) (hv : b = a + v.length) (hb : b ≤ m.length) :
    Tlv.setSlice c m a v = .ok (PyFn.setSlice m (a : Int) (b : Int) v)
    ∧ (PyFn.setSlice m (a : Int) (b : Int) v).length = m.length := by
  subst hv
  rw [Tlv.setSlice, if_pos hb, writeAt_splice v m a hb, setSlice_nat m a _ v (by omega) hb]
  refine ⟨rfl, ?_⟩
  simp only [List.length_append, List.length_take, List.length_drop]
  omega

theorem setSlice_adj {α} (m v1 v2 : List α) (a b c : Nat) (h1 : b = a + v1.length) (h2 : c = b + v2.length) (hc : c ≤ m.length) :
    PyFn.setSlice (PyFn.setSlice m (a : Int) (b : Int) v1) (b : Int) (c : Int) v2 = PyFn.setSlice m (a : Int) (c : Int) (v1 ++ v2) := by
  subst h1 h2
  rw [setSlice_nat m a _ v1 (by omega) (by omega), setSlice_nat m a _ (v1 ++ v2) (by omega) hc,
    setSlice_nat _ _ _ v2 (by omega) (by simp; omega)]
  have e1 : List.take (a + v1.length) (List.take a m ++ v1 ++ List.drop (a + v1.length) m) = List.take a m ++ v1 := by
    rw [List.take_append_of_le_length (by simp; omega), List.take_of_length_le (by simp; omega)]
  have e2 : List.drop (a + v1.length + v2.length) (List.take a m ++ v1 ++ List.drop (a + v1.length) m)
      = List.drop (a + v1.length + v2.length) m := by
    rw [List.drop_append, List.drop_of_length_le (by simp; omega), List.nil_append, List.drop_drop]
    congr 1
    simp
    omega
  rw [e1, e2, List.append_assoc (List.take a m)]

end NfcVerif.FnBridge.Vendor
