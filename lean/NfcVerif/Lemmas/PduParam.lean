import NfcVerif.Lemmas.Pdu
/-!
# `Parameter.decode` is the format reading `Spec.param` of the value octets, with `DecodeError` where that
rejects them: for every list of numbers (`paramDecode_param`)
-/
namespace NfcVerif.Pdu
open NfcVerif

/-- forget which exception was raised -/
def toOpt {α : Type} : Py α → Option α
  | .ok a => some a
  | .error _ => none

@[simp] theorem toOpt_ok {α : Type} (a : α) : toOpt (Except.ok a : Py α) = some a := rfl
@[simp] theorem toOpt_error {α : Type} (e : Exc) : toOpt (Except.error e : Py α) = none := rfl

theorem toOpt_bind {α β : Type} (x : Py α) (f : α → Py β) :
    toOpt (x >>= f) = (toOpt x).bind (fun a => toOpt (f a)) := by
  cases x <;> rfl

theorem toOpt_eq_some {α : Type} {x : Py α} {a : α} (h : toOpt x = some a) : x = .ok a := by
  cases x with
  | ok b => simp at h; rw [h]
  | error e => simp at h

/-- the verdict of the format reading as a decoder gives it: what the reading rejects is a `DecodeError` -/
def ofOpt {α : Type} : Option α → Py α
  | some a => .ok a
  | none => .error .decodeError

theorem ofOpt_some {α : Type} (a : α) : ofOpt (some a) = .ok a := rfl
theorem ofOpt_none {α : Type} : ofOpt (none : Option α) = .error .decodeError := rfl

/-- `(T, V)` of `Parameter.decode` for a parameter of the format reading -/
def tlvOf : Spec.Param → Nat × TlvV
  | .version v => (1, .num v) | .miux v => (2, .num v) | .wks v => (3, .num v) | .lto v => (4, .num v)
  | .rw v => (5, .num v) | .sn v => (6, .raw v) | .opt v => (7, .num v) | .sdreq t n => (8, .sdreq t n)
  | .sdres t s => (9, .sdres t s) | .ecpk v => (10, .raw v) | .rn v => (11, .raw v)
  | .other t v => (if 1 ≤ t ∧ t ≤ 11 then 0 else t, .raw v)

namespace Impl

/-- the raw read of `Parameter.decode`: `T, L` and `L` value octets -/
def paramRaw (d : Bytes) (off : Nat) : Py (Nat × Nat × Bytes) :=
  structToDecode (unpackBB d off >>= fun (t, l) => unpackS l d (off + 2) >>= fun v => pure (t, l, v))

theorem paramRaw_ok {d : Bytes} {off t l : Nat} {v : Bytes} (h : paramRaw d off = .ok (t, l, v)) :
    v.length = l ∧ off + 2 + l ≤ d.length ∧ v = (d.drop (off + 2)).take l := by
  unfold paramRaw structToDecode wrapExc at h
  split at h
  · split at h <;> cases h
  · rename_i a ha
    cases h
    obtain ⟨⟨t', l'⟩, e1, e2⟩ := Py.bind_eq_ok.mp ha
    obtain ⟨v', e3, e4⟩ := Py.bind_eq_ok.mp e2
    cases e4
    refine ⟨unpackS_ok_length e3, ?_⟩
    unfold unpackS at e3
    split at e3
    · cases e3; exact ⟨‹_›, rfl⟩
    · cases e3

theorem paramRaw_cons (t l : Nat) (rest : Bytes) :
    paramRaw (t :: l :: rest) 0 = if rest.length < l then .error .decodeError else .ok (t, l, rest.take l) := by
  by_cases hl : rest.length < l
  · have c : ¬ (2 + l ≤ rest.length + 1 + 1) := by omega
    simp [paramRaw, structToDecode, wrapExc, unpackBB, unpackS, c, hl]
  · have c : 2 + l ≤ rest.length + 1 + 1 := by omega
    simp [paramRaw, structToDecode, wrapExc, unpackBB, unpackS, c, hl]

/-- `paramDecode` with its raw read named, so that `Py.bind_congr_ok` can work under the raw read with what it has
made sure of (`paramRaw_ok`) -/
theorem paramDecode_eq (d : Bytes) (off : Nat) :
    paramDecode d off = (paramRaw d off >>= fun (t, l, v) =>
      if t = 1 then
        if l ≠ 1 then throw .decodeError else unpackB v 0 >>= fun x => pure (t, l, .num x)
      else if t = 2 then
        if l ≠ 2 then throw .decodeError else unpackH v 0 >>= fun x => pure (t, l, .num (x % 2048))
      else if t = 3 then
        if l ≠ 2 then throw .decodeError else unpackH v 0 >>= fun x => pure (t, l, .num x)
      else if t = 4 then
        if l ≠ 1 then throw .decodeError else unpackB v 0 >>= fun x => pure (t, l, .num x)
      else if t = 5 then
        if l ≠ 1 then throw .decodeError else unpackB v 0 >>= fun x => pure (t, l, .num (x % 16))
      else if t = 7 then
        if l ≠ 1 then throw .decodeError else unpackB v 0 >>= fun x => pure (t, l, .num (x % 8))
      else if t = 8 then
        if l = 0 then throw .decodeError else
        unpackB v 0 >>= fun tid => unpackS (l - 1) v 1 >>= fun sn => pure (t, l, .sdreq tid sn)
      else if t = 9 then
        if l ≠ 2 then throw .decodeError else unpackBB v 0 >>= fun (tid, sap) => pure (t, l, .sdres tid sap)
      else pure (t, l, .raw v)) := rfl

theorem param_other {t : Nat} (v : Bytes) (ht : ¬ (1 ≤ t ∧ t ≤ 11)) : Spec.param t v = some (.other t v) := by
  unfold Spec.param
  rw [if_neg (by omega), if_neg (by omega), if_neg (by omega), if_neg (by omega), if_neg (by omega), if_neg (by omega),
    if_neg (by omega), if_neg (by omega), if_neg (by omega), if_neg (by omega), if_neg (by omega)]

/-! The values the encoders write for the masked parameters, as the format reading takes them back. -/

theorem param_miux {x : Nat} (h : x ≤ 0x7FF) : Spec.param 2 [x / 256, x % 256] = some (.miux x) := by
  show some (Spec.Param.miux ((x / 256 * 256 + x % 256) % 2048)) = _
  rw [show (x / 256 * 256 + x % 256) % 2048 = x by omega]

theorem param_wks (x : Nat) : Spec.param 3 [x / 256, x % 256] = some (.wks x) := by
  show some (Spec.Param.wks (x / 256 * 256 + x % 256)) = _
  rw [show x / 256 * 256 + x % 256 = x by omega]

theorem param_rw {x : Nat} (h : x ≤ 15) : Spec.param 5 [x] = some (.rw x) := by
  show some (Spec.Param.rw (x % 16)) = _
  rw [show x % 16 = x by omega]

theorem param_opt {x : Nat} (h : x ≤ 7) : Spec.param 7 [x] = some (.opt x) := by
  show some (Spec.Param.opt (x % 8)) = _
  rw [show x % 8 = x by omega]

/-- The raw read has made sure that there are `L` value octets, so no unpacking fails; no octet is assumed to be
below 256. -/
theorem paramDecode_param (d : Bytes) (off : Nat) :
    paramDecode d off = paramRaw d off >>= fun (t, l, v) =>
      ofOpt ((Spec.param t v).map fun p => ((tlvOf p).1, l, (tlvOf p).2)) := by
  rw [paramDecode_eq]
  refine Py.bind_congr_ok fun ⟨t, l, v⟩ h => ?_
  obtain ⟨rfl, -⟩ := paramRaw_ok h
  dsimp only
  by_cases ht : 1 ≤ t ∧ t ≤ 11
  · obtain h | h | h | rfl | rfl :
        (t = 1 ∨ t = 4 ∨ t = 5 ∨ t = 7) ∨ (t = 2 ∨ t = 3) ∨ (t = 6 ∨ t = 10 ∨ t = 11) ∨ t = 8 ∨ t = 9 := by omega
    · -- VERSION, LTO, RW, OPT: exactly one octet, the last two masked
      rcases h with rfl | rfl | rfl | rfl <;> rcases v with _ | ⟨x, _ | ⟨y, zs⟩⟩ <;>
        simp [Spec.param, tlvOf, unpackB, ofOpt_some, ofOpt_none]
    · -- MIUX (masked), WKS: exactly two octets
      rcases h with rfl | rfl <;> rcases v with _ | ⟨x, _ | ⟨y, _ | ⟨z, zs⟩⟩⟩ <;>
        simp [Spec.param, tlvOf, unpackH, ofOpt_some, ofOpt_none]
    · -- SN, ECPK, RN: any octet string
      rcases h with rfl | rfl | rfl <;> simp [Spec.param, tlvOf, ofOpt_some]
    · -- SDREQ: a TID and a name
      rcases v with _ | ⟨x, zs⟩
      · simp [Spec.param, ofOpt_none]
      · have c : 1 + zs.length ≤ zs.length + 1 := by omega
        simp [Spec.param, tlvOf, unpackB, unpackS, c, ofOpt_some]
    · -- SDRES: TID and SAP
      rcases v with _ | ⟨x, _ | ⟨y, _ | ⟨z, zs⟩⟩⟩ <;> simp [Spec.param, tlvOf, unpackBB, ofOpt_some, ofOpt_none]
  · have h : ∀ k, 1 ≤ k → k ≤ 11 → ¬ t = k := by omega
    simp [param_other v ht, tlvOf, ht, h, ofOpt_some]

theorem paramDecode_of_param {t : Nat} {v : Bytes} {p : Spec.Param} (h : Spec.param t v = some p) (rest : Bytes) :
    paramDecode (t :: v.length :: (v ++ rest)) 0 = .ok ((tlvOf p).1, v.length, (tlvOf p).2) := by
  rw [paramDecode_param, paramRaw_cons, if_neg (by simp), List.take_left' rfl]
  simp only [Py.bind_ok, h]
  rfl

end Impl
end NfcVerif.Pdu
