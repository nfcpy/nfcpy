import NfcVerif.Py
/-!
`Yields P x`: whatever `x` returns satisfies `P`; nothing is said about the exceptions it may raise
(that is `Safe`).  `Tri S P x` says both at once.  With the rules below a property of the results of
a `Py` program, or that it returns at all, is proved along the structure of the program, without
taking a hypothesis `program = .ok r` apart.  Besides: `Safe.of_bind`, `Py.bind_congr_ok`, and at the end the rule
for the one primitive that is read everywhere, `idxN` (`idxN_tri`, `idxN_ix`, `idxN_safe`); what the sequence
primitives compute is in `Lemmas/PyPrims.lean`.
-/
namespace NfcVerif

def Yields {α} (P : α → Prop) (x : Py α) : Prop := ∀ a, x = .ok a → P a

namespace Yields
variable {α β : Type} {P : α → Prop} {Q : β → Prop}

theorem ok {a : α} (h : P a) : Yields P (.ok a : Py α) := by intro b hb; cases hb; exact h
theorem error (e : Exc) : Yields P (.error e : Py α) := by intro b hb; cases hb
theorem bind {x : Py α} {f : α → Py β} (hf : ∀ a, x = .ok a → Yields Q (f a)) : Yields Q (x >>= f) := by
  intro b hb
  cases x with
  | error e => cases hb
  | ok a => exact hf a rfl b hb
theorem bind' {x : Py α} {f : α → Py β} (hf : ∀ a, Yields Q (f a)) : Yields Q (x >>= f) :=
  bind fun a _ => hf a
theorem bind_of {x : Py α} {f : α → Py β} (hx : Yields P x) (hf : ∀ a, P a → Yields Q (f a)) : Yields Q (x >>= f) :=
  bind fun a ha => hf a (hx a ha)
theorem mono {P' : α → Prop} {x : Py α} (hx : Yields P x) (h : ∀ a, P a → P' a) : Yields P' x :=
  fun a e => h a (hx a e)
theorem ite {c : Prop} [Decidable c] {x y : Py α} (hx : Yields P x) (hy : Yields P y) :
    Yields P (if c then x else y) := by split <;> assumption
theorem ite' {c : Prop} [Decidable c] {x y : Py α} (hx : c → Yields P x) (hy : ¬c → Yields P y) :
    Yields P (if c then x else y) := by
  split
  · exact hx ‹_›
  · exact hy ‹_›
end Yields

theorem Safe.of_bind {α β : Type} {S : Exc → Prop} {x : Py α} {f : α → Py β} (h : Safe S (x >>= f)) : Safe S x :=
  fun e he => h e (by rw [he]; rfl)

theorem Safe.ite' {α : Type} {S : Exc → Prop} {c : Prop} [Decidable c] {x y : Py α}
    (hx : c → Safe S x) (hy : ¬c → Safe S y) : Safe S (if c then x else y) := by
  split
  · exact hx ‹_›
  · exact hy ‹_›

/-- `Safe S` is `Tri S ⊤`, `Yields P` is `Tri ⊤ P`, and "`x` returns, and `P` holds of what it returns" is
`Tri ⊥ P`: a program is walked once for all three, and `S` may say under which condition an exception is
possible at all. -/
def Tri {α} (S : Exc → Prop) (P : α → Prop) : Py α → Prop
  | .ok a => P a
  | .error e => S e

namespace Tri
variable {α β : Type} {S S' : Exc → Prop} {P P' : α → Prop} {Q : β → Prop}

theorem ok {a : α} (h : P a) : Tri S P (.ok a) := h
theorem throw {e : Exc} (h : S e) : Tri S P (.error e) := h

theorem bind {x : Py α} {f : α → Py β} (hx : Tri S P x) (hf : ∀ a, P a → Tri S Q (f a)) : Tri S Q (x >>= f) := by
  cases x with
  | error e => exact hx
  | ok a => exact hf a hx

theorem ite {c : Prop} [Decidable c] {x y : Py α} (hx : c → Tri S P x) (hy : ¬c → Tri S P y) :
    Tri S P (if c then x else y) := by
  split
  · exact hx ‹_›
  · exact hy ‹_›

theorem mono {x : Py α} (hx : Tri S P x) (hS : ∀ e, S e → S' e) (hP : ∀ a, P a → P' a) : Tri S' P' x := by
  cases x with
  | error e => exact hS e hx
  | ok a => exact hP a hx

theorem safe {x : Py α} (hx : Tri S P x) : Safe S x := by
  intro e h; subst h; exact hx

theorem yields {x : Py α} (hx : Tri S P x) : Yields P x := by
  intro a h; subst h; exact hx

theorem returns {x : Py α} (hx : Tri (fun _ => False) P x) : ∃ a, x = .ok a ∧ P a := by
  cases x with
  | error e => exact hx.elim
  | ok a => exact ⟨a, rfl, hx⟩

theorem of_returns {x : Py α} (hx : ∃ a, x = .ok a ∧ P a) : Tri S P x := by
  obtain ⟨a, rfl, h⟩ := hx; exact h

end Tri

theorem Py.bind_congr_ok {α β : Type} {x : Py α} {f g : α → Py β} (h : ∀ a, x = .ok a → f a = g a) :
    (x >>= f) = (x >>= g) := by
  cases x with
  | error e => rfl
  | ok a => exact h a rfl

theorem idxN_tri {α : Type} (l : List α) (i : Nat) :
    Tri (fun e => e = .index ∧ l.length ≤ i) (fun a => l[i]? = some a) (idxN l i) := by
  unfold idxN
  split
  · exact Tri.ok ‹_›
  · exact Tri.throw ⟨rfl, List.getElem?_eq_none_iff.mp ‹_›⟩

theorem idxN_ix {α : Type} {S : Exc → Prop} (hS : S .index) (l : List α) (i : Nat) :
    Tri S (fun a => l[i]? = some a) (idxN l i) :=
  (idxN_tri l i).mono (fun _ h => h.1 ▸ hS) fun _ h => h

theorem idxN_safe {α : Type} {S : Exc → Prop} (hS : S .index) (l : List α) (i : Nat) : Safe S (idxN l i) :=
  (idxN_ix hS l i).safe

end NfcVerif
