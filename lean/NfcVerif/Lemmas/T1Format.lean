import NfcVerif.Lemmas.TlvSync
import NfcVerif.Model.CtlC03
/-!
`Topaz._format` / `Topaz512._format` (`tt1_broadcom.py`), with a `version` argument (`formatTopazV`, `formatTopaz512V` of
`Model/CtlC03`) and without (`formatTopaz`, `formatTopaz512` of `Model/T1Format`).  Both classes hand `synchronize()` an image of
one shape, `fmtImage` (`formatTopazV_inv`, `formatTopaz512V_inv`): what a format changes on a tag that holds the management
data already, and the header it leaves, are proved for that shape (`fmtImage_spec`, `fmtImage_hdr`) and read off for each
class; `version=None` is the case in which byte 9 does not change either.
-/
namespace NfcVerif.Tlv
open NfcVerif

theorem setSlice_inv (c : Cfg) (m m' : Bytes) (a : Nat) (v : Bytes) (h : setSlice c m a v = .ok m') :
    a + v.length ≤ m.length ∧ m' = writeAt m a v := by
  unfold setSlice at h; split at h
  · rename_i hl; cases h; exact ⟨hl, rfl⟩
  · cases h

theorem writeAt_inside (m : Bytes) (a : Nat) (v : Bytes) (x : Nat) (h1 : a ≤ x) (h2 : x < a + v.length)
    (h3 : a + v.length ≤ m.length) : (writeAt m a v)[x]? = v[x - a]? := by
  rw [writeAt_get, if_pos ⟨h1, h2, by omega⟩]

theorem writeAt_outside (m : Bytes) (a : Nat) (v : Bytes) (x : Nat) (h : x < a) : (writeAt m a v)[x]? = m[x]? := by
  rw [writeAt_get, if_neg (by omega)]

theorem area_topaz (x : Nat) (h1 : 13 ≤ x) (h2 : x < 104) : Area topazLayout x := by
  refine ⟨by simp [topazLayout]; omega, by simp [topazLayout]; omega, ?_⟩
  simp [topazLayout, inSkip]; omega

theorem area_topaz512 (x : Nat) (h1 : 23 ≤ x) (h2 : x < 104 ∨ (128 ≤ x ∧ x < 512)) : Area topaz512Layout x := by
  refine ⟨by simp [topaz512Layout]; omega, by simp [topaz512Layout]; omega, ?_⟩
  simp [topaz512Layout, inSkip]; omega

theorem set_same (m : Bytes) (a v : Nat) (h : m[a]? = some v) : m.set a v = m := by
  apply List.ext_getElem?
  intro x
  by_cases hx : a = x
  · subst hx
    have hl : a < m.length := Nat.lt_of_not_le fun hge => by
      rw [List.getElem?_eq_none hge] at h; cases h
    rw [get_set_eq _ _ _ hl, h]
  · exact get_set_ne _ _ _ _ hx

/-- The image a Topaz `_format` hands to `synchronize()`: NDEF management data `hdr` from byte 8 with version
byte `b`, then the wiped stretches (`[]` where nothing is wiped). -/
def fmtImage (m hdr : Bytes) (b a2 : Nat) (v2 : Bytes) (a3 : Nat) (v3 : Bytes) : Bytes :=
  writeAt (writeAt ((writeAt m 8 hdr).set 9 b) a2 v2) a3 v3

theorem fmtImage_length (m hdr : Bytes) (b a2 : Nat) (v2 : Bytes) (a3 : Nat) (v3 : Bytes) :
    (fmtImage m hdr b a2 v2 a3 v3).length = m.length := by
  simp [fmtImage, writeAt_length]

theorem fmtImage_hdr (m hdr : Bytes) (b a2 : Nat) (v2 : Bytes) (a3 : Nat) (v3 : Bytes)
    (hl : 8 + hdr.length ≤ m.length) (h2 : 8 + hdr.length ≤ a2) (h3 : 8 + hdr.length ≤ a3)
    (i : Nat) (hi : i < hdr.length) :
    (fmtImage m hdr b a2 v2 a3 v3)[8 + i]? = if i = 1 then some b else hdr[i]? := by
  unfold fmtImage
  rw [writeAt_outside _ _ _ _ (by omega), writeAt_outside _ _ _ _ (by omega)]
  by_cases h1 : i = 1
  · subst h1; rw [if_pos rfl]; exact get_set_eq _ _ _ (by rw [writeAt_length]; omega)
  · rw [if_neg h1, get_set_ne _ _ _ _ (by omega), writeAt_inside m 8 hdr _ (by omega) (by omega) hl,
      Nat.add_sub_cancel_left]

theorem fmtImage_ver (m hdr : Bytes) (b a2 : Nat) (v2 : Bytes) (a3 : Nat) (v3 : Bytes)
    (hl : 8 + hdr.length ≤ m.length) (h2 : 8 + hdr.length ≤ a2) (h3 : 8 + hdr.length ≤ a3) (hh : 2 ≤ hdr.length) :
    (fmtImage m hdr b a2 v2 a3 v3)[9]? = some b :=
  fmtImage_hdr m hdr b a2 v2 a3 v3 hl h2 h3 1 (by omega)

/-- `hfac`: the tag holds the management data already, all but the version byte and the NDEF length byte (the last
byte of `hdr`, at `7 + hdr.length`) -/
theorem fmtImage_spec (m hdr : Bytes) (b a2 : Nat) (v2 : Bytes) (a3 : Nat) (v3 : Bytes)
    (hl : 8 + hdr.length ≤ m.length) (h2 : 8 + hdr.length ≤ a2) (h3 : 8 + hdr.length ≤ a3) (hh : 2 ≤ hdr.length)
    (hfac : ∀ i, i + 1 < hdr.length → i ≠ 1 → m[8 + i]? = hdr[i]?) (x : Nat)
    (hx : (fmtImage m hdr b a2 v2 a3 v3)[x]? ≠ m[x]?) :
    (x = 9 ∧ m[9]? ≠ some b) ∨ x = 7 + hdr.length ∨ (a2 ≤ x ∧ x < a2 + v2.length)
      ∨ (a3 ≤ x ∧ x < a3 + v3.length) := by
  have hc : Chg m (fmtImage m hdr b a2 v2 a3 v3) fun x =>
      (8 ≤ x ∧ x < 8 + hdr.length) ∨ (a2 ≤ x ∧ x < a2 + v2.length) ∨ (a3 ≤ x ∧ x < a3 + v3.length) :=
    ((((Chg.writeAt m 8 hdr).mono fun x h => Or.inl h).trans
      ((Chg.set _ 9 b).mono fun x e => Or.inl ⟨by omega, by omega⟩)).trans
      ((Chg.writeAt _ a2 v2).mono fun x h => Or.inr (Or.inl h))).trans
      ((Chg.writeAt _ a3 v3).mono fun x h => Or.inr (Or.inr h))
  rcases hc.2 x hx with ⟨p, q⟩ | h | h
  · by_cases h9 : x = 9
    · subst h9
      rw [fmtImage_ver m hdr b a2 v2 a3 v3 hl h2 h3 hh] at hx
      exact Or.inl ⟨rfl, fun e => hx e.symm⟩
    · -- a header byte that is neither the version nor the last one is on the tag already
      by_cases hne : x = 7 + hdr.length
      · exact Or.inr (Or.inl hne)
      · have := fmtImage_hdr m hdr b a2 v2 a3 v3 hl h2 h3 (x - 8) (by omega)
        rw [if_neg (by omega), ← hfac (x - 8) (by omega) (by omega), show 8 + (x - 8) = x by omega] at this
        exact absurd this hx
  · exact Or.inr (Or.inr (Or.inl h))
  · exact Or.inr (Or.inr (Or.inr h))

theorem formatTopazV_inv {m : Bytes} {version wipe : Option Nat} {r : Option Bytes}
    (h : formatTopazV m version wipe = .ok r) :
    match (generalizing := false) r with
    | none => ∃ v, version = some v ∧ v / 16 ≠ 1
    | some m' => 14 ≤ m.length ∧ version.getD 0x10 / 16 = 1 ∧
        ∃ v2, v2.length ≤ 90 ∧ m' = fmtImage m topazHdr (version.getD 0x10) 14 v2 14 [] := by
  unfold formatTopazV at h
  obtain ⟨x1, h1, h⟩ := Py.bind_eq_ok.1 h
  obtain ⟨hl1, e⟩ := setSlice_inv _ _ _ _ _ h1
  subst e
  have wipeStep : ∀ (y : Bytes) (r : Option Bytes),
      (match wipe with
         | none => (Except.ok (some y) : Py (Option Bytes))
         | some w => setSlice (t1Cfg 1) y 14 (List.replicate 90 (w % 256)) >>= fun z => .ok (some z)) = .ok r →
      ∃ v2, v2.length ≤ 90 ∧ r = some (writeAt y 14 v2) := by
    intro y r hr
    cases wipe with
    | none => cases hr; exact ⟨[], Nat.zero_le _, rfl⟩
    | some w =>
      simp only at hr
      generalize hv : List.replicate 90 (w % 256) = v2 at hr
      obtain ⟨z, hz, hr⟩ := Py.bind_eq_ok.1 hr
      obtain ⟨_, e⟩ := setSlice_inv _ _ _ _ _ hz
      subst e
      cases hr
      exact ⟨v2, by rw [← hv, List.length_replicate]; exact Nat.le_refl _, rfl⟩
  cases version with
  | none =>
    obtain ⟨v2, hv2, rfl⟩ := wipeStep _ _ h
    have h9 : (writeAt m 8 topazHdr)[9]? = some 0x10 := by
      rw [writeAt_inside m 8 topazHdr 9 (by omega) (by decide) hl1]; rfl
    refine ⟨hl1, by decide, v2, hv2, ?_⟩
    unfold fmtImage
    rw [Option.getD_none, set_same _ _ _ h9]; rfl
  | some v =>
    simp only at h
    by_cases hv : v / 16 = 1
    · rw [if_pos hv] at h
      obtain ⟨y, hy, h⟩ := Py.bind_eq_ok.1 h
      obtain ⟨_, e⟩ := wr_inv _ _ _ _ _ hy
      subst e
      obtain ⟨v2, hv2, rfl⟩ := wipeStep _ _ h
      exact ⟨hl1, hv, v2, hv2, rfl⟩
    · rw [if_neg hv] at h; cases h; exact ⟨v, rfl, hv⟩

theorem formatTopaz512V_inv {m : Bytes} {version wipe : Option Nat} {r : Option Bytes}
    (h : formatTopaz512V m version wipe = .ok r) :
    match (generalizing := false) r with
    | none => ∃ v, version = some v ∧ v / 16 ≠ 1
    | some m' => 24 ≤ m.length ∧ version.getD 0x10 / 16 = 1 ∧
        ∃ v2 v3, v2.length ≤ 80 ∧ v3.length ≤ 384 ∧
          m' = fmtImage m topaz512Hdr (version.getD 0x10) 24 v2 128 v3 := by
  unfold formatTopaz512V at h
  -- only length and version byte of the header matter; as a variable it keeps `subst` from evaluating `writeAt`
  generalize hh : topaz512Hdr = hdr at h
  have hlen : hdr.length = 16 := by rw [← hh]; rfl
  have hver : hdr[1]? = some 0x10 := by rw [← hh]; rfl
  obtain ⟨x1, h1, h⟩ := Py.bind_eq_ok.1 h
  obtain ⟨hl1, rfl⟩ := setSlice_inv _ _ _ _ _ h1
  rw [hlen] at hl1
  obtain ⟨oy, hoy, h⟩ := Py.bind_eq_ok.1 h
  have vstep : match oy with
      | none => ∃ v, version = some v ∧ v / 16 ≠ 1
      | some y => version.getD 0x10 / 16 = 1 ∧ y = (writeAt m 8 hdr).set 9 (version.getD 0x10) := by
    cases version with
    | none =>
      cases hoy
      have h9 : (writeAt m 8 hdr)[9]? = some 0x10 := by
        rw [writeAt_inside m 8 hdr 9 (by omega) (by omega) (by omega)]; exact hver
      exact ⟨by decide, (set_same _ _ _ h9).symm⟩
    | some v =>
      simp only at hoy
      by_cases hv : v / 16 = 1
      · rw [if_pos hv] at hoy
        obtain ⟨y, hy, hoy⟩ := Py.bind_eq_ok.1 hoy
        obtain ⟨_, rfl⟩ := wr_inv _ _ _ _ _ hy
        cases hoy; exact ⟨hv, rfl⟩
      · rw [if_neg hv] at hoy; cases hoy; exact ⟨v, rfl, hv⟩
  cases oy with
  | none => cases h; exact vstep
  | some y =>
    obtain ⟨hb, rfl⟩ := vstep
    cases wipe with
    | none => cases h; exact ⟨hl1, hb, [], [], Nat.zero_le _, Nat.zero_le _, rfl⟩
    | some w =>
      simp only at h
      generalize hv2 : List.replicate 80 (w % 256) = v2 at h
      generalize hv3 : List.replicate 384 (w % 256) = v3 at h
      obtain ⟨z, hz, h⟩ := Py.bind_eq_ok.1 h
      obtain ⟨_, rfl⟩ := setSlice_inv _ _ _ _ _ hz
      obtain ⟨z', hz', h⟩ := Py.bind_eq_ok.1 h
      obtain ⟨_, e⟩ := setSlice_inv _ _ _ _ _ hz'
      subst e
      cases h
      exact ⟨hl1, hb, v2, v3, by rw [← hv2, List.length_replicate]; exact Nat.le_refl _,
        by rw [← hv3, List.length_replicate]; exact Nat.le_refl _, rfl⟩

theorem formatTopazV_spec (m : Bytes) (version wipe : Option Nat) (r : Option Bytes)
    (hfac : ∀ i, i < 5 → i ≠ 1 → m[8 + i]? = topazHdr[i]?)
    (hver : version = none → m[9]? = some 0x10)
    (h : formatTopazV m version wipe = .ok r) :
    match r with
    | none => ∃ v, version = some v ∧ v / 16 ≠ 1
    | some m' => m'.length = m.length ∧
        (∀ x, m'[x]? ≠ m[x]? → (x = 9 ∧ version ≠ none) ∨ Area topazLayout x) ∧
        (∀ v, version = some v → m'[9]? = some v) := by
  have hi := formatTopazV_inv h
  cases r with
  | none => exact hi
  | some m' =>
    obtain ⟨hl, _, v2, hv2, e⟩ := hi
    -- for the `omega` steps below: `fmtImage_spec` speaks of `topazHdr.length`
    have hlen : topazHdr.length = 6 := rfl
    refine ⟨by rw [e]; exact fmtImage_length _ _ _ _ _ _ _, fun x hx => ?_, fun v hv => ?_⟩
    · rw [e] at hx
      rcases fmtImage_spec m topazHdr _ 14 v2 14 [] hl (by decide) (by decide) (by decide)
          (fun i hi => hfac i (by omega)) x hx with ⟨h9, hne⟩ | h13 | ⟨p, q⟩ | ⟨p, q⟩
      · exact Or.inl ⟨h9, fun hv => hne (by rw [hver hv, hv]; rfl)⟩
      · exact Or.inr (area_topaz x (by omega) (by omega))
      · exact Or.inr (area_topaz x (by omega) (by omega))
      · rw [List.length_nil] at q; omega
    · rw [e, fmtImage_ver m topazHdr _ 14 v2 14 [] hl (by decide) (by decide) (by decide), hv]; rfl

theorem formatTopaz512V_spec (m : Bytes) (version wipe : Option Nat) (r : Option Bytes)
    (hfac : ∀ i, i < 15 → i ≠ 1 → m[8 + i]? = topaz512Hdr[i]?)
    (hver : version = none → m[9]? = some 0x10)
    (h : formatTopaz512V m version wipe = .ok r) :
    match r with
    | none => ∃ v, version = some v ∧ v / 16 ≠ 1
    | some m' => m'.length = m.length ∧
        (∀ x, m'[x]? ≠ m[x]? → (x = 9 ∧ version ≠ none) ∨ Area topaz512Layout x) ∧
        (∀ v, version = some v → m'[9]? = some v) := by
  have hi := formatTopaz512V_inv h
  cases r with
  | none => exact hi
  | some m' =>
    obtain ⟨hl, _, v2, v3, hv2, hv3, e⟩ := hi
    -- for the `omega` steps below: `fmtImage_spec` speaks of `topaz512Hdr.length`
    have hlen : topaz512Hdr.length = 16 := rfl
    refine ⟨by rw [e]; exact fmtImage_length _ _ _ _ _ _ _, fun x hx => ?_, fun v hv => ?_⟩
    · rw [e] at hx
      rcases fmtImage_spec m topaz512Hdr _ 24 v2 128 v3 hl (by decide) (by decide) (by decide)
          (fun i hi => hfac i (by omega)) x hx with ⟨h9, hne⟩ | h23 | ⟨p, q⟩ | ⟨p, q⟩
      · exact Or.inl ⟨h9, fun hv => hne (by rw [hver hv, hv]; rfl)⟩
      · exact Or.inr (area_topaz512 x (by omega) (Or.inl (by omega)))
      · exact Or.inr (area_topaz512 x (by omega) (Or.inl (by omega)))
      · exact Or.inr (area_topaz512 x (by omega) (Or.inr ⟨p, by omega⟩))
    · rw [e, fmtImage_ver m topaz512Hdr _ 24 v2 128 v3 hl (by decide) (by decide) (by decide), hv]; rfl

theorem formatTopazV_hdr (m m' : Bytes) (version wipe : Option Nat) (h : formatTopazV m version wipe = .ok (some m')) :
    m'.length = m.length ∧ ∃ b, b / 16 = 1 ∧
      ∀ i, i < 6 → m'[8 + i]? = if i = 1 then some b else topazHdr[i]? := by
  obtain ⟨hl, hb, v2, _, e⟩ := formatTopazV_inv h
  rw [e]
  exact ⟨fmtImage_length _ _ _ _ _ _ _, _, hb, fmtImage_hdr m topazHdr _ 14 v2 14 [] hl (by decide) (by decide)⟩

theorem formatTopaz512V_hdr (m m' : Bytes) (version wipe : Option Nat)
    (h : formatTopaz512V m version wipe = .ok (some m')) :
    m'.length = m.length ∧ ∃ b, b / 16 = 1 ∧
      ∀ i, i < 16 → m'[8 + i]? = if i = 1 then some b else topaz512Hdr[i]? := by
  obtain ⟨hl, hb, v2, v3, _, _, e⟩ := formatTopaz512V_inv h
  rw [e]
  exact ⟨fmtImage_length _ _ _ _ _ _ _, _, hb,
    fmtImage_hdr m topaz512Hdr _ 24 v2 128 v3 hl (by decide) (by decide)⟩

theorem formatTopazV_none (m : Bytes) (wipe : Option Nat) :
    formatTopazV m none wipe = formatTopaz m wipe >>= fun z => .ok (some z) := by
  unfold formatTopazV formatTopaz
  cases setSlice (t1Cfg 1) m 8 topazHdr with
  | error e => rfl
  | ok x => cases wipe <;> rfl

theorem formatTopaz512V_none (m : Bytes) (wipe : Option Nat) :
    formatTopaz512V m none wipe = formatTopaz512 m wipe >>= fun z => .ok (some z) := by
  unfold formatTopaz512V formatTopaz512
  cases setSlice (t1Cfg 8) m 8 topaz512Hdr with
  | error e => rfl
  | ok x =>
    cases wipe with
    | none => rfl
    | some w =>
      simp only [Py.bind_ok]
      cases setSlice (t1Cfg 8) x 24 (List.replicate 80 (w % 256)) <;> rfl

theorem formatTopaz_spec (m m' : Bytes) (wipe : Option Nat)
    (hfac : ∀ i, i < 5 → m[8 + i]? = topazHdr[i]?) (h : formatTopaz m wipe = .ok m') :
    Chg m m' (Area topazLayout) := by
  obtain ⟨hl, hc, _⟩ := formatTopazV_spec m none wipe (some m') (fun i hi _ => hfac i hi)
    (fun _ => hfac 1 (by decide)) (by rw [formatTopazV_none, h]; rfl)
  exact ⟨hl, fun x hx => (hc x hx).resolve_left fun h9 => h9.2 rfl⟩

theorem formatTopaz512_spec (m m' : Bytes) (wipe : Option Nat)
    (hfac : ∀ i, i < 15 → m[8 + i]? = topaz512Hdr[i]?) (h : formatTopaz512 m wipe = .ok m') :
    Chg m m' (Area topaz512Layout) := by
  obtain ⟨hl, hc, _⟩ := formatTopaz512V_spec m none wipe (some m') (fun i hi _ => hfac i hi)
    (fun _ => hfac 1 (by decide)) (by rw [formatTopaz512V_none, h]; rfl)
  exact ⟨hl, fun x hx => (hc x hx).resolve_left fun h9 => h9.2 rfl⟩

end NfcVerif.Tlv
