import NfcVerif.Gen.FnDep
import NfcVerif.Model.NfcDep
import NfcVerif.Lemmas.FnBridgeBase
/-!
The dispatch that follows the translated `decode_frame`, and the two stages of the translated checks
(`encode_frame` / `decode_frame` of `nfc/dep.py`), stated once for both roles.
-/
namespace NfcVerif.FnBridge.Dep
open NfcVerif NfcVerif.PyFn NfcVerif.NfcDep

/-- the dispatch `res_name = {1: 'ATR', ..}; return eval(res_name[frame[1]] + "_RES").decode(frame)` that
follows the translated checks.  It does not look at `frame[0]` and raises `KeyError` for a code that is not in
the table (the translated checks exclude both; were one of them weakened in the source, the bridge theorem
would fail on such a frame).  The PDU decoders are the model's. -/
def tail (req : Bool) (f2 : Bytes) : Py Pdu :=
  match f2 with
  | _ :: c1 :: d =>
    let k := if req then c1 else c1 - 1
    if ¬ req ∧ c1 = 0 then .error .key else
    if k = 6 then decodeDep d
    else if k = 8 then decodeDsl .dsl d
    else if k = 10 then decodeDsl .rls d
    else if k = 0 then
      if d.length < (if req then 14 else 15) then .error .protocol else .ok (.atr d)
    else if k = 4 then
      if d.length ≠ (if req then 3 else 1) then .error .protocol else .ok (.psl d)
    else .error .key
  | _ => .error .index

/-- `encode_frame` behind `frame = packet.encode()`, the same text in both classes -/
theorem encode_frame (brty : String) (body : Bytes) :
    (PyFn.pack [.B] [PyFn.len body + 1] >>= fun t1 =>
      .ok (if brty = "106A" then [240] ++ (t1 ++ body) else t1 ++ body)) =
    if body.length + 1 > 255 then .error .struct
    else .ok ((if decide (brty = "106A") then [0xF0] else []) ++ [body.length + 1] ++ body) := by
  py_nat
  rw [packField_B_nat, ite_ok_bind]
  -- the source raises behind `> 255`, the field guard succeeds on `< 256`
  refine ite_flip (by omega) (fun _ => ?_) fun _ => rfl
  by_cases hb : brty = "106A" <;> simp [hb]

/-- The model's dispatch and `tail` differ only where `bad` holds (`ProtocolError` against `KeyError`), so the
two agree on what the checks of `decode_frame` behind the start byte let through. -/
theorem frame_checks (req : Bool) (code : Nat) (bad : Int → Bool)
    (hc : code = if req then 0xD4 else 0xD5)
    (hb : ∀ c1 : Nat, bad c1 = true ↔ (¬ req ∧ c1 = 0) ∨ (if req then c1 else c1 - 1) ∉ [0, 4, 6, 8, 10])
    (f1 : Bytes) :
    decodeFrameAux false req f1 =
      (pop0 f1 >>= fun (t2, f2) =>
        if len f1 ≠ t2 then .error .protocol else
        if len f2 < 2 then .error .transmission else
        getB f2 0 >>= fun t3 =>
        (if t3 ≠ code then .ok true else getB f2 1 >>= fun t5 => .ok (bad t5)) >>= fun t6 =>
        if t6 = true then .error .protocol else .ok f2) >>= tail req := by
  unfold decodeFrameAux
  match f1 with
  | [] => rfl
  | l :: f2 =>
    simp only [Bool.false_eq_true, if_false, Py.bind_ok, pop0, len_eq, Int.natCast_inj, ne_eq]
    by_cases hl : (l :: f2).length = l
    · simp only [hl, not_true, if_false]
      match f2 with
      | [] => rfl
      | [_] => rfl
      | c0 :: c1 :: d =>
        have h2 : ¬ (c0 :: c1 :: d).length < 2 := by simp
        have h2' : ¬ (((c0 :: c1 :: d).length : Nat) : Int) < 2 := by simp; omega
        simp only [h2, h2', if_false, getB_zero, getB_one, Py.bind_ok, Int.natCast_inj, ← hc]
        by_cases h0 : c0 = code
        · simp only [h0, not_true, if_false, Py.bind_ok]
          by_cases hk : bad c1 = true
          · simp only [hk, if_true, Py.bind_error]
            rw [hb] at hk
            generalize (if req = true then c1 else c1 - 1) = k at hk ⊢
            rcases hk with hz | hk
            · exact if_pos hz
            · simp only [List.mem_cons, List.not_mem_nil, or_false, not_or] at hk
              simp only [hk, if_false, ite_self]
          · simp only [hk, Bool.false_eq_true, if_false, Py.bind_ok, tail]
            rw [hb, not_or, Decidable.not_not] at hk
            generalize (if req = true then c1 else c1 - 1) = k at hk ⊢
            simp only [List.mem_cons, List.not_mem_nil, or_false] at hk
            simp only [hk.1, if_false]
            rcases hk.2 with h | h | h | h | h <;> simp only [h] <;> rfl
        · simp only [h0, not_false_iff, if_true]; rfl
    · simp only [hl, not_false_iff, if_true]; rfl

/-- the start-byte stage (`F0` in front of the length octet at 106 kbps), `k` being the checks that follow -/
theorem start_byte (p : Prop) [Decidable p] (req : Bool) (k : Bytes → Py Bytes)
    (hk : ∀ f1, decodeFrameAux false req f1 = k f1 >>= tail req) (frame : Bytes) :
    decodeFrame (decide p) req frame =
      (if len frame < (if p then 2 else 1) then .error .transmission else
        (if p then pop0 frame >>= fun (t1, f1) => if t1 ≠ 240 then .error .protocol else .ok f1
          else .ok frame) >>= k) >>= tail req := by
  unfold decodeFrame
  by_cases hp : p
  · simp only [hp, decide_true, if_true]
    match frame with
    | [] => rfl
    | [_] => rfl
    | a :: l :: f =>
      have h2 : ¬ (a :: l :: f).length < 2 := by simp
      have h2' : ¬ len (a :: l :: f) < 2 := by simp [len_eq]; omega
      simp only [h2, h2', if_false, pop0, Py.bind_ok, cast_eq_lit, ne_eq]
      unfold decodeFrameAux
      by_cases ha : a = 240
      · simp only [ha, not_true, if_true, if_false, Py.bind_ok, ← hk]; rfl
      · simp only [ha, not_false_iff, ne_eq, if_true]; rfl
  · simp only [hp, decide_false, if_false, Bool.false_eq_true]
    match frame with
    | [] => rfl
    | a :: f =>
      have h2 : ¬ (a :: f).length < 1 := by simp
      have h2' : ¬ len (a :: f) < 1 := by simp [len_eq]; omega
      simp only [h2, h2', if_false, Py.bind_ok, ← hk]

end NfcVerif.FnBridge.Dep
