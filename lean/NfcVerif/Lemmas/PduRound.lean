import NfcVerif.Lemmas.PduSpec
/-!
# Round trip: decoding the encoding of a valid PDU gives the PDU back (field equality)

Class by class the encoding is `hdr t d s ++ info` and the format reading `Spec.decodeS` of these octets is the PDU;
`nested_refines` carries that to the decoder, whose class methods are not opened here.  A parameter list is put
together from encoder pieces (`Piece`), each of which adds its parameters in front of what the reading finds behind it;
what a class keeps of the assembled list follows from `lastSome_append` (the last occurrence wins, piece by piece).
-/
namespace NfcVerif.Pdu
open NfcVerif

/-- valid field values of a PDU that is not an aggregate -/
def ValidS : SPdu → Prop
  | .symm d s => d = 0 ∧ s = 0
  | .pax d s ver miux wks lto opt =>
    d = 0 ∧ s = 0 ∧ (∀ v, ver = some v → v ≤ 255) ∧ (∀ v, miux = some v → v ≤ 0x7FF) ∧
    (∀ v, wks = some v → v ≤ 0xFFFF) ∧ (∀ v, lto = some v → v ≤ 255) ∧ (∀ v, opt = some v → v ≤ 7)
  | .ui d s _ => d ≤ 63 ∧ s ≤ 63
  | .connect d s miu rw sn =>
    d ≤ 63 ∧ s ≤ 63 ∧ 128 ≤ miu ∧ miu ≤ 128 + 0x7FF ∧ rw ≤ 15 ∧ (∀ v, sn = some v → v ≠ [] ∧ v.length ≤ 255)
  | .disc d s => d ≤ 63 ∧ s ≤ 63
  | .cc d s miu rw => d ≤ 63 ∧ s ≤ 63 ∧ 128 ≤ miu ∧ miu ≤ 128 + 0x7FF ∧ rw ≤ 15
  | .dm d s reason => d ≤ 63 ∧ s ≤ 63 ∧ reason ≤ 255
  | .frmr d s flags ptype ns nr vs vr vsa vra =>
    d ≤ 63 ∧ s ≤ 63 ∧ flags ≤ 15 ∧ ptype ≤ 15 ∧ ns ≤ 15 ∧ nr ≤ 15 ∧ vs ≤ 15 ∧ vr ≤ 15 ∧ vsa ≤ 15 ∧ vra ≤ 15
  | .snl d s sdreq sdres =>
    d = 1 ∧ s = 1 ∧ (∀ x ∈ sdreq, x.1 ≤ 255 ∧ x.2.length ≤ 254) ∧ (∀ x ∈ sdres, x.1 ≤ 255 ∧ x.2 ≤ 255)
  | .dps d s ecpk rn =>
    d = 0 ∧ s = 0 ∧ (∀ v, ecpk = some v → v ≠ [] ∧ v.length ≤ 255) ∧ (∀ v, rn = some v → v ≠ [] ∧ v.length ≤ 255)
  | .info d s ns nr _ => d ≤ 63 ∧ s ≤ 63 ∧ ns ≤ 15 ∧ nr ≤ 15
  | .rr d s nr => d ≤ 63 ∧ s ≤ 63 ∧ nr ≤ 15
  | .rnr d s nr => d ≤ 63 ∧ s ≤ 63 ∧ nr ≤ 15
  | .unknown t d s _ => (t = 11 ∨ t = 15) ∧ d ≤ 63 ∧ s ≤ 63

/-- valid PDU: valid fields; an aggregate holds valid PDUs of at most 65535 octets -/
def Valid : Pdu → Prop
  | .simple p => ValidS p
  | .agf d s items => d = 0 ∧ s = 0 ∧ ∀ p ∈ items, ValidS p ∧ Impl.lenS p ≤ 65535

namespace Impl

theorem encodeHeader_eq {t d s : Nat} (ht : t ≤ 15) (hd : d ≤ 63) (hs : s ≤ 63) :
    encodeHeader t d s = .ok (hdr t d s) := by
  unfold encodeHeader
  have h1 : orShl t 6 s = t * 64 + s := by rw [orShl_eq _ _ _ (by omega)]
  have h2 : orShl d 10 (t * 64 + s) = d * 1024 + (t * 64 + s) := by rw [orShl_eq _ _ _ (by omega)]
  have c1 : ¬ (d > 63 ∨ s > 63) := by omega
  have c2 : ¬ (d * 1024 + (t * 64 + s) > 65535) := by omega
  simp only [c1, if_false, h1, h2, c2, hdr, Py.pure_eq]
  congr 2
  · omega
  · congr 1; omega

theorem encodeHeaderN_eq {t d s ns nr : Nat} (ht : t ≤ 15) (hd : d ≤ 63) (hs : s ≤ 63) (h1 : ns ≤ 15) (h2 : nr ≤ 15) :
    encodeHeaderN t d s ns nr = .ok (hdr t d s ++ [ns * 16 + nr]) := by
  unfold encodeHeaderN
  have c : ¬ (ns > 15 ∨ nr > 15) := by omega
  have h : orShl ns 4 nr = ns * 16 + nr := by rw [orShl_eq _ _ _ (by omega)]
  simp only [encodeHeader_eq ht hd hs, Py.bind_ok, c, if_false, h, Py.pure_eq]

theorem encB_ok (t : Nat) {v : Nat} (h : v ≤ 255) : encB t v = .ok [t, 1, v] := by
  rw [encB, if_neg (by omega)]; rfl

theorem encH_ok (t : Nat) {v : Nat} (h : v ≤ 65535) : encH t v = .ok [t, 2, v / 256, v % 256] := by
  rw [encH, if_neg (by omega)]; rfl

theorem encS_ok (t : Nat) {v : Bytes} (h : v.length ≤ 255) : encS t v = .ok (t :: v.length :: v) := by
  rw [encS, if_neg (by omega)]; rfl

/-- `if v: data += Parameter.encode(T, v)` is the same for an octet string that is absent or not empty -/
theorem truthyTlv_eq (t : Nat) {o : Option Bytes} (ho : ∀ v, o = some v → v ≠ [] ∧ v.length ≤ 255) :
    truthyTlv t o = optTlv (encS t) o := by
  rcases o with _ | ⟨_ | ⟨x, xs⟩⟩
  · rfl
  · exact absurd rfl (ho [] rfl).1
  · rfl

/-- What a class proof of `roundtripS` has to show, on the side of the format reading.  The header is handed over as two
unknown octets with the three fields `Spec.decodeS` computes from them, not as `hdr t d s`: a class proof then rewrites
`Spec.decodeS` with `h0 hp h1` and never meets the arithmetic of `hdr`, which is done once here. -/
theorem nested_of_spec {t d s : Nat} {p : SPdu} (ht : t ≤ 15) (hs : s ≤ 63) (info : Bytes)
    (h : ∀ b0 b1, b0 / 4 = d → b0 % 4 * 4 + b1 / 64 = t → b1 % 64 = s →
      Spec.decodeS (b0 :: b1 :: info) = some p) :
    decodeNested (hdr t d s ++ info) 0 (hdr t d s ++ info).length = .ok p := by
  apply toOpt_eq_some
  rw [show (hdr t d s ++ info).length = info.length + 2 by simp [hdr]]
  exact (nested_refines _ _ info (by omega)).trans (h _ _ (by omega) (by omega) (by omega))

/-- the format reading finds the parameters `ps` in `info`, whatever the fuel -/
def Params (info : Bytes) (ps : List Spec.Param) : Prop := ∀ n, info.length ≤ n → Spec.params n info = some ps

theorem Params.nil : Params [] [] := fun n _ => params_nil n

theorem Params.spec {info : Bytes} {ps : List Spec.Param} (h : Params info ps) :
    Spec.params info.length info = some ps :=
  h _ (Nat.le_refl _)

theorem Params.cons {t : Nat} {v R : Bytes} {p : Spec.Param} {ps : List Spec.Param} (h : Spec.param t v = some p)
    (hR : Params R ps) : Params (t :: v.length :: (v ++ R)) (p :: ps) := by
  intro n hn
  obtain ⟨k, rfl⟩ : ∃ k, n = k + 1 := ⟨n - 1, by simp at hn; omega⟩
  rw [params_cons, if_neg (by simp), List.take_left' rfl, List.drop_left' rfl, h, hR k (by simp at hn; omega)]

/-- the encoder piece `x` returns octets in which the format reading finds the parameters `P`, in front of whatever
it finds behind them -/
def Piece (x : Py Bytes) (P : List Spec.Param) : Prop :=
  ∃ A, x = .ok A ∧ ∀ {R ps}, Params R ps → Params (A ++ R) (P ++ ps)

theorem Piece.nil : Piece (.ok []) [] := ⟨[], rfl, fun h => h⟩

/-- one TLV whose value the format reading accepts -/
theorem Piece.one {x : Py Bytes} {t : Nat} {w : Bytes} {p : Spec.Param} (he : x = .ok (t :: w.length :: w))
    (hp : Spec.param t w = some p) : Piece x [p] :=
  ⟨_, he, fun hR => hR.cons hp⟩

theorem Piece.append {x y : Py Bytes} {P Q : List Spec.Param} (hx : Piece x P) (hy : Piece y Q) :
    Piece (x >>= fun a => y >>= fun b => pure (a ++ b)) (P ++ Q) := by
  obtain ⟨A, rfl, rA⟩ := hx
  obtain ⟨B, rfl, rB⟩ := hy
  refine ⟨A ++ B, rfl, fun hR => ?_⟩
  rw [List.append_assoc, List.append_assoc]
  exact rA (rB hR)

theorem piece_opt {α : Type} (enc : α → Py Bytes) {t : Nat} (val : α → Spec.Param) (o : Option α)
    (h : ∀ x, o = some x → ∃ w, enc x = .ok (t :: w.length :: w) ∧ Spec.param t w = some (val x)) :
    Piece (optTlv enc o) (o.toList.map val) := by
  cases o with
  | none => exact Piece.nil
  | some x =>
    obtain ⟨w, he, hp⟩ := h x rfl
    exact Piece.one he hp

theorem piece_list {α : Type} (enc : α → Py Bytes) {t : Nat} (val : α → Spec.Param) (q : List α)
    (h : ∀ x ∈ q, ∃ w, enc x = .ok (t :: w.length :: w) ∧ Spec.param t w = some (val x)) :
    Piece (encList enc q) (q.map val) := by
  induction q with
  | nil => exact Piece.nil
  | cons x xs ih =>
    obtain ⟨w, he, hp⟩ := h x (by simp)
    exact (Piece.one he hp).append (ih fun y hy => h y (by simp [hy]))

theorem piece_miux (miu : Nat) (h1 : 128 ≤ miu) (h2 : miu ≤ 128 + 0x7FF) :
    Piece (if miu ≠ 0 ∧ miu > 128 then encH 2 (miu - 128) else pure [])
      (if miu > 128 then [.miux (miu - 128)] else []) := by
  by_cases hm : miu > 128
  · rw [if_pos ⟨by omega, hm⟩, if_pos hm]
    exact Piece.one (encH_ok 2 (by omega)) (param_miux (by omega))
  · rw [if_neg (by omega), if_neg hm]
    exact Piece.nil

theorem piece_rw (rw : Nat) (h1 : rw ≤ 15) :
    Piece (if rw ≠ 1 then encB 5 rw else pure []) (if rw ≠ 1 then [.rw rw] else []) := by
  by_cases hm : rw ≠ 1
  · rw [if_pos hm, if_pos hm]
    exact Piece.one (encB_ok 5 (by omega)) (param_rw h1)
  · rw [if_neg hm, if_neg hm]
    exact Piece.nil

theorem filterMap_map_some {α β : Type} {f : β → Option α} {g : α → β} (h : ∀ x, f (g x) = some x) (l : List α) :
    (l.map g).filterMap f = l := by
  induction l with
  | nil => rfl
  | cons x xs ih => simp [h, ih]

theorem filterMap_map_none {α β γ : Type} {f : β → Option γ} {g : α → β} (h : ∀ x, f (g x) = none) (l : List α) :
    (l.map g).filterMap f = [] := by
  induction l with
  | nil => rfl
  | cons x xs ih => simp [h, ih]

/-- MIUX is left out exactly when the MIU is the default 128, so the default of the format reading restores it -/
theorem miux_default {miu : Nat} (h : 128 ≤ miu) :
    128 + (if miu > 128 then some (miu - 128) else none).getD 0 = miu := by
  by_cases hm : miu > 128
  · rw [if_pos hm]
    show 128 + (miu - 128) = miu
    omega
  · rw [if_neg hm]
    show 128 + 0 = miu
    omega

/-- RW is left out exactly when it is the default 1 -/
theorem rw_default (rw : Nat) : (if rw = 1 then none else some rw).getD 1 = rw := by
  by_cases hm : rw = 1
  · rw [if_pos hm]
    exact hm.symm
  · rw [if_neg hm]
    rfl

/-- the two halves of a sequence octet `N(S) N(R)` -/
theorem nib_div {a b : Nat} (h : b ≤ 15) : (a * 16 + b) / 16 = a := by omega
theorem nib_mod {a b : Nat} (h : b ≤ 15) : (a * 16 + b) % 16 = b := by omega

theorem roundtripS (p : SPdu) (hv : ValidS p) :
    ∃ b, encodeS p = .ok b ∧ decodeNested b 0 b.length = .ok p := by
  cases p with
  | symm d s =>
    obtain ⟨rfl, rfl⟩ := hv
    exact ⟨[0, 0], by decide, by decide⟩
  | pax d s ver miux wks lto opt =>
    obtain ⟨rfl, rfl, h1, h2, h3, h4, h5⟩ := hv
    obtain ⟨A, hA, rA⟩ := piece_opt (encB 1) .version ver fun x hx => ⟨[x], encB_ok 1 (h1 x hx), rfl⟩
    obtain ⟨B, hB, rB⟩ := piece_opt (encH 2) .miux miux fun x hx =>
      ⟨[x / 256, x % 256], encH_ok 2 (Nat.le_trans (h2 x hx) (by decide)), param_miux (h2 x hx)⟩
    obtain ⟨C, hC, rC⟩ := piece_opt (encH 3) .wks wks fun x hx =>
      ⟨[x / 256, x % 256], encH_ok 3 (h3 x hx), param_wks x⟩
    obtain ⟨D, hD, rD⟩ := piece_opt (encB 4) .lto lto fun x hx => ⟨[x], encB_ok 4 (h4 x hx), rfl⟩
    obtain ⟨E, hE, rE⟩ := piece_opt (encB 7) .opt opt fun x hx =>
      ⟨[x], encB_ok 7 (Nat.le_trans (h5 x hx) (by decide)), param_opt (h5 x hx)⟩
    have c : ¬ ((0 : Nat) ≠ 0 ∨ (0 : Nat) ≠ 0) := by decide
    refine ⟨hdr 1 0 0 ++ (A ++ (B ++ (C ++ (D ++ (E ++ []))))), ?_, ?_⟩
    · simp only [encodeS, if_neg c, encodeHeader_eq (by omega : 1 ≤ 15) (by omega : 0 ≤ 63) (by omega : 0 ≤ 63),
        Py.bind_ok, hA, hB, hC, hD, hE, Py.pure_eq, List.append_assoc, List.append_nil]
    · refine nested_of_spec (by omega) (by omega) _ fun b0 b1 h0 hp h1 => ?_
      simp only [Spec.decodeS, h0, hp, h1, (rA (rB (rC (rD (rE Params.nil))))).spec,
        Option.map_some, and_self, if_true]
      simp [lastSome_append, lastSome_opt, Spec.Param.getVersion, Spec.Param.getMiux, Spec.Param.getWks,
        Spec.Param.getLto, Spec.Param.getOpt]
  | ui d s data =>
    obtain ⟨hd, hs⟩ := hv
    refine ⟨hdr 3 d s ++ data, by simp [encodeS, encodeHeader_eq (by omega : 3 ≤ 15) hd hs], ?_⟩
    exact nested_of_spec (by omega) hs _ fun b0 b1 h0 hp h1 => by simp only [Spec.decodeS, h0, hp, h1]
  | connect d s miu rw sn =>
    obtain ⟨hd, hs, hmiu, h2, h3, h4⟩ := hv
    obtain ⟨C, hC, rC⟩ := piece_opt (encS 6) .sn sn fun v hv => ⟨v, encS_ok 6 (h4 v hv).2, rfl⟩
    obtain ⟨B, hB, rB⟩ := piece_rw rw h3
    obtain ⟨A, hA, rA⟩ := piece_miux miu hmiu h2
    simp only [Py.pure_eq] at hA hB
    refine ⟨hdr 4 d s ++ (A ++ (B ++ (C ++ []))), ?_, ?_⟩
    · simp only [encodeS, encodeHeader_eq (by omega : 4 ≤ 15) hd hs, Py.bind_ok, hA, hB, truthyTlv_eq 6 h4, hC,
        Py.pure_eq, List.append_assoc, List.append_nil]
    · refine nested_of_spec (by omega) hs _ fun b0 b1 h0 hp h1 => ?_
      simp only [Spec.decodeS, h0, hp, h1, (rA (rB (rC Params.nil))).spec, Option.map_some]
      simp [lastSome_append, lastSome_opt, lastSome_ite, lastSome_single, lastSome_nil, Spec.Param.getMiux,
        Spec.Param.getRw, Spec.Param.getSn]
      exact ⟨miux_default hmiu, rw_default rw⟩
  | disc d s =>
    obtain ⟨hd, hs⟩ := hv
    refine ⟨hdr 5 d s ++ [], by simp [encodeS, encodeHeader_eq (by omega : 5 ≤ 15) hd hs], ?_⟩
    exact nested_of_spec (by omega) hs _ fun b0 b1 h0 hp h1 => by simp only [Spec.decodeS, h0, hp, h1]
  | cc d s miu rw =>
    obtain ⟨hd, hs, hmiu, h2, h3⟩ := hv
    obtain ⟨B, hB, rB⟩ := piece_rw rw h3
    obtain ⟨A, hA, rA⟩ := piece_miux miu hmiu h2
    simp only [Py.pure_eq] at hA hB
    refine ⟨hdr 6 d s ++ (A ++ (B ++ [])), ?_, ?_⟩
    · simp only [encodeS, encodeHeader_eq (by omega : 6 ≤ 15) hd hs, Py.bind_ok, hA, hB, Py.pure_eq,
        List.append_assoc, List.append_nil]
    · refine nested_of_spec (by omega) hs _ fun b0 b1 h0 hp h1 => ?_
      simp only [Spec.decodeS, h0, hp, h1, (rA (rB Params.nil)).spec, Option.map_some]
      simp [lastSome_append, lastSome_ite, lastSome_single, lastSome_nil, Spec.Param.getMiux, Spec.Param.getRw]
      exact ⟨miux_default hmiu, rw_default rw⟩
  | dm d s reason =>
    obtain ⟨hd, hs, hr⟩ := hv
    have c : ¬ (reason > 255) := by omega
    refine ⟨hdr 7 d s ++ [reason], by simp [encodeS, encodeHeader_eq (by omega : 7 ≤ 15) hd hs, packB, c], ?_⟩
    exact nested_of_spec (by omega) hs _ fun b0 b1 h0 hp h1 => by simp only [Spec.decodeS, h0, hp, h1]
  | frmr d s flags ptype ns nr vs vr vsa vra =>
    obtain ⟨hd, hs, h1, h2, h3, h4, h5, h6, h7, h8⟩ := hv
    have e0 : orShl flags 4 ptype = flags * 16 + ptype := by rw [orShl_eq _ _ _ (by omega)]
    have e1 : orShl ns 4 nr = ns * 16 + nr := by rw [orShl_eq _ _ _ (by omega)]
    have e2 : orShl vs 4 vr = vs * 16 + vr := by rw [orShl_eq _ _ _ (by omega)]
    have e3 : orShl vsa 4 vra = vsa * 16 + vra := by rw [orShl_eq _ _ _ (by omega)]
    have c : ¬ (flags * 16 + ptype > 255 ∨ ns * 16 + nr > 255 ∨ vs * 16 + vr > 255 ∨ vsa * 16 + vra > 255) := by
      omega
    refine ⟨hdr 8 d s ++ [flags * 16 + ptype, ns * 16 + nr, vs * 16 + vr, vsa * 16 + vra], ?_, ?_⟩
    · simp only [encodeS, encodeHeader_eq (by omega : 8 ≤ 15) hd hs, Py.bind_ok, e0, e1, e2, e3, c, if_false,
        Py.pure_eq]
    · refine nested_of_spec (by omega) hs _ fun b0 b1 h0 hp h1 => ?_
      simp only [Spec.decodeS, h0, hp, h1, nib_div h2, nib_mod h2, nib_div h4, nib_mod h4, nib_div h6, nib_mod h6,
        nib_div h8, nib_mod h8]
  | snl d s sdreq sdres =>
    obtain ⟨rfl, rfl, h1, h2⟩ := hv
    obtain ⟨A, hA, rA⟩ := piece_list encSdreq (t := 8) (fun x => .sdreq x.1 x.2) sdreq fun x hx => by
      have := h1 x hx
      refine ⟨x.1 :: x.2, ?_, rfl⟩
      rw [encSdreq, if_neg (by omega), if_neg (by omega)]
      simp; omega
    obtain ⟨B, hB, rB⟩ := piece_list encSdres (t := 9) (fun x => .sdres x.1 x.2) sdres fun x hx => by
      have := h2 x hx
      exact ⟨[x.1, x.2], by rw [encSdres, if_neg (by omega)]; rfl, rfl⟩
    refine ⟨hdr 9 1 1 ++ (A ++ (B ++ [])), ?_, ?_⟩
    · simp [encodeS, encodeHeader_eq (by omega : 9 ≤ 15) (by omega : 1 ≤ 63) (by omega : 1 ≤ 63), hA, hB]
    · refine nested_of_spec (by omega) (by omega) _ fun b0 b1 h0 hp h1 => ?_
      simp only [Spec.decodeS, h0, hp, h1, (rA (rB Params.nil)).spec, Option.map_some, and_self,
        if_true]
      simp only [List.filterMap_append, List.append_nil,
        filterMap_map_some (f := Spec.Param.getSdreq) (g := fun x : Nat × Bytes => .sdreq x.1 x.2) fun _ => rfl,
        filterMap_map_none (f := Spec.Param.getSdres) (g := fun x : Nat × Bytes => .sdreq x.1 x.2) fun _ => rfl,
        filterMap_map_some (f := Spec.Param.getSdres) (g := fun x : Nat × Nat => .sdres x.1 x.2) fun _ => rfl,
        filterMap_map_none (f := Spec.Param.getSdreq) (g := fun x : Nat × Nat => .sdres x.1 x.2) fun _ => rfl,
        List.nil_append]
  | dps d s ecpk rn =>
    obtain ⟨rfl, rfl, h1, h2⟩ := hv
    obtain ⟨B, hB, rB⟩ := piece_opt (encS 11) .rn rn fun v hv => ⟨v, encS_ok 11 (h2 v hv).2, rfl⟩
    obtain ⟨A, hA, rA⟩ := piece_opt (encS 10) .ecpk ecpk fun v hv => ⟨v, encS_ok 10 (h1 v hv).2, rfl⟩
    have c : ¬ ((0 : Nat) ≠ 0 ∨ (0 : Nat) ≠ 0) := by decide
    refine ⟨hdr 10 0 0 ++ (A ++ (B ++ [])), ?_, ?_⟩
    · simp only [encodeS, if_neg c, encodeHeader_eq (by omega : 10 ≤ 15) (by omega : 0 ≤ 63) (by omega : 0 ≤ 63),
        Py.bind_ok, truthyTlv_eq 10 h1, truthyTlv_eq 11 h2, hA, hB, Py.pure_eq, List.append_assoc, List.append_nil]
    · refine nested_of_spec (by omega) (by omega) _ fun b0 b1 h0 hp h1 => ?_
      simp only [Spec.decodeS, h0, hp, h1, (rA (rB Params.nil)).spec, Option.map_some, and_self,
        if_true]
      simp [lastSome_append, lastSome_opt, Spec.Param.getEcpk, Spec.Param.getRn]
  | info d s ns nr data =>
    obtain ⟨hd, hs, h1, h2⟩ := hv
    refine ⟨hdr 12 d s ++ (ns * 16 + nr) :: data, ?_, ?_⟩
    · simp [encodeS, encodeHeaderN_eq (by omega : 12 ≤ 15) hd hs h1 h2]
    · refine nested_of_spec (by omega) hs _ fun b0 b1 h0 hp h1 => ?_
      simp only [Spec.decodeS, h0, hp, h1, nib_div h2, nib_mod h2]
  | rr d s nr | rnr d s nr =>
    obtain ⟨hd, hs, h2⟩ := hv
    refine ⟨_, encodeHeaderN_eq (by omega) hd hs (Nat.zero_le 15) h2, ?_⟩
    refine nested_of_spec (by omega) hs _ fun b0 b1 h0 hp h1 => ?_
    simp only [Spec.decodeS, h0, hp, h1, nib_mod h2]
  | unknown t d s payload =>
    obtain ⟨ht, hd, hs⟩ := hv
    refine ⟨hdr t d s ++ payload, by simp [encodeS, encodeHeader_eq (by omega : t ≤ 15) hd hs], ?_⟩
    refine nested_of_spec (by omega) hs _ fun b0 b1 h0 hp h1 => ?_
    rcases ht with rfl | rfl <;> simp only [Spec.decodeS, h0, hp, h1]

theorem agf_items (items : List SPdu) (hv : ∀ p ∈ items, ValidS p ∧ lenS p ≤ 65535) :
    ∃ es body, encodeAll items = .ok es ∧ agfJoin es = .ok body ∧
      ∀ (fuel : Nat) (acc : List SPdu), body.length ≤ fuel →
        agfLoop fuel body 0 body.length acc = .ok (acc ++ items) := by
  induction items with
  | nil => exact ⟨[], [], rfl, rfl, fun fuel acc _ => by simp [agfLoop_done]⟩
  | cons p ps ih =>
    obtain ⟨hp, hpl⟩ := hv p (by simp)
    obtain ⟨es, body, h1, h2, h3⟩ := ih (fun q hq => hv q (by simp [hq]))
    obtain ⟨e, he, hdec⟩ := roundtripS p hp
    have hlen : e.length ≤ 65535 := by rw [← lenS_eq he]; exact hpl
    have c : ¬ (e.length > 65535) := by omega
    refine ⟨e :: es, e.length / 256 :: e.length % 256 :: (e ++ body), ?_, ?_, ?_⟩
    · simp only [encodeAll, he, h1, Py.bind_ok, Py.pure_eq]
    · simp [agfJoin, c, h2]
    · intro fuel acc hf
      obtain ⟨k, rfl⟩ : ∃ k, fuel = k + 1 := ⟨fuel - 1, by simp at hf; omega⟩
      have hn : e.length / 256 * 256 + e.length % 256 = e.length := by omega
      rw [agfLoop_step _ _ _ _ _ (by simp; omega), hn, List.take_left' rfl, List.drop_left' rfl, hdec]
      simp only [Py.bind_ok]
      rw [h3 k (acc ++ [p]) (by simp at hf; omega)]
      simp

theorem roundtrip (p : Pdu) (hv : Valid p) : ∃ b, encode p = .ok b ∧ decode b = .ok p := by
  cases p with
  | simple p =>
    obtain ⟨b, he, hd⟩ := roundtripS p hv
    exact ⟨b, he, decodeAt_of_nested hd⟩
  | agf d s items =>
    obtain ⟨rfl, rfl, hitems⟩ := hv
    obtain ⟨es, body, h1, h2, h3⟩ := agf_items items hitems
    -- the header of an aggregate is `00 80`
    refine ⟨0 :: 128 :: body, by simp only [encode]; simp [encodeHeader, orShl, h1, h2], ?_⟩
    show decodeAt (0 :: 128 :: body) 0 (body.length + 2) = _
    rw [decodeAt_agf 0 128 body (by omega) rfl, if_neg (by decide), h3 body.length [] (Nat.le_refl _)]
    rfl

end Impl
end NfcVerif.Pdu
