import NfcVerif.Model.T3Emu
import NfcVerif.Lemmas.T34Base
/-! Emulated Type 3 Tag: block list encoding and parsing; the block store under the write and read callbacks. -/
namespace NfcVerif.T3Emu
open NfcVerif.T34

/-- octets of one block list element -/
def codeOf (b : Nat) : Bytes := if b < 256 then [0x80, b] else [0x00, b % 256, b / 256]

theorem blockCode_eq (b : Nat) : blockCode b = if b < 65536 then .ok (codeOf b) else .error .struct := by
  unfold blockCode codeOf
  by_cases h1 : b < 256
  · rw [if_pos h1, if_pos h1, if_pos (by omega)]
  · rw [if_neg h1, if_neg h1]

theorem blockCodes_ok (bl : List Nat) (h : ∀ b ∈ bl, b < 65536) : blockCodes bl = .ok (bl.flatMap codeOf) := by
  induction bl with
  | nil => rfl
  | cons b bs ih =>
    rw [blockCodes, blockCode_eq, if_pos (h b List.mem_cons_self), ih fun x hx => h x (List.mem_cons_of_mem _ hx)]
    rfl

theorem blockCodes_inv (bl : List Nat) (bc : Bytes) (h : blockCodes bl = .ok bc) :
    (∀ b ∈ bl, b < 65536) ∧ bc = bl.flatMap codeOf := by
  induction bl generalizing bc with
  | nil => cases h; exact ⟨fun _ hb => (nomatch hb), rfl⟩
  | cons b bs ih =>
    rw [blockCodes, blockCode_eq] at h
    by_cases hb : b < 65536
    · rw [if_pos hb, Py.bind_ok] at h
      cases hx : blockCodes bs with
      | error e => rw [hx] at h; cases h
      | ok xs =>
        rw [hx] at h; cases h
        obtain ⟨h65, rfl⟩ := ih xs hx
        exact ⟨List.forall_mem_cons.mpr ⟨hb, h65⟩, rfl⟩
    · rw [if_neg hb] at h; cases h

theorem codeOf_length (b : Nat) : (codeOf b).length = if b < 256 then 2 else 3 := by
  unfold codeOf; split <;> simp

theorem parseBlocks_enc (bl : List Nat) (h : ∀ b ∈ bl, b < 65536) (rest : Bytes) : ∀ i acc,
    parseBlocks 1 bl.length i (bl.flatMap codeOf ++ rest) acc = .ok (.cont (acc ++ bl.map (fun b => (0, b)), rest)) := by
  induction bl with
  | nil => intro i acc; simp [parseBlocks]
  | cons b bs ih =>
    intro i acc
    have hb := h b (by simp)
    have ih' := ih (fun x hx => h x (by simp [hx]))
    simp only [List.length_cons, List.flatMap_cons, List.append_assoc, List.map_cons]
    by_cases hlt : b < 256
    · simp [codeOf, hlt, parseBlocks, ih']
    · simp [codeOf, hlt, parseBlocks, ih']
      omega

def blkSlice (d : Bytes) (i : Nat) : Bytes := sliceN d (i * 16) ((i + 1) * 16)

/-- the block store after the write callbacks for blocks `bl` with data blocks `i, i+1, ..` of `d` -/
def writeAll (d : Bytes) : List Nat → Nat → Bytes → Bytes
  | [], _, s => s
  | b :: bs, i, s => writeAll d bs (i + 1) (splice s (b * 16) (blkSlice d i))

/-- what the read callbacks return for blocks `bl` -/
def readAll (s : Bytes) (bl : List Nat) : Bytes := bl.flatMap fun b => sliceN s (b * 16) ((b + 1) * 16)

theorem blkSlice_length (d : Bytes) (i : Nat) (h : (i + 1) * 16 ≤ d.length) : (blkSlice d i).length = 16 := by
  unfold blkSlice; rw [sliceN_length _ _ _ h]; omega

theorem readAll_length (s : Bytes) (bl : List Nat) (hb : ∀ b ∈ bl, b * 16 + 16 ≤ s.length) :
    (readAll s bl).length = 16 * bl.length := by
  induction bl with
  | nil => rfl
  | cons b bs ih =>
    have := hb b List.mem_cons_self
    simp only [readAll, List.flatMap_cons, List.length_append, List.length_cons] at ih ⊢
    rw [ih (fun x hx => hb x (List.mem_cons_of_mem _ hx)), sliceN_length _ _ _ (by omega)]; omega

theorem storeWrite_splice (s : Bytes) (b : Nat) (blk : Bytes) (hb : b * 16 + 16 ≤ s.length) (hl : blk.length = 16) :
    storeWrite s b blk = some (splice s (b * 16) blk) := by
  unfold storeWrite splice
  rw [if_pos (by omega), hl, show (b + 1) * 16 = b * 16 + 16 by omega]

theorem writeAll_length (d : Bytes) : ∀ (bl : List Nat) (i : Nat) (s : Bytes),
    (∀ b ∈ bl, b * 16 + 16 ≤ s.length) → (i + bl.length) * 16 ≤ d.length → (writeAll d bl i s).length = s.length := by
  intro bl
  induction bl with
  | nil => intro i s _ _; rfl
  | cons b bs ih =>
    intro i s hb hd
    simp only [List.length_cons] at hd
    have hl := blkSlice_length d i (by omega)
    have hs : (splice s (b * 16) (blkSlice d i)).length = s.length :=
      splice_length _ _ _ (by rw [hl]; exact hb b (by simp))
    simp only [writeAll]
    rw [ih (i + 1) _ (by intro x hx; rw [hs]; exact hb x (by simp [hx])) (by omega), hs]

theorem writeAll_other (d : Bytes) (b : Nat) : ∀ (bl : List Nat) (i : Nat) (s : Bytes), b ∉ bl →
    (∀ x ∈ bl, x * 16 + 16 ≤ s.length) → (i + bl.length) * 16 ≤ d.length →
    sliceN (writeAll d bl i s) (b * 16) ((b + 1) * 16) = sliceN s (b * 16) ((b + 1) * 16) := by
  intro bl
  induction bl with
  | nil => intro i s _ _ _; rfl
  | cons x xs ih =>
    intro i s hnm hb hd
    simp only [List.length_cons] at hd
    have hl := blkSlice_length d i (by omega)
    have hx := hb x (by simp)
    have hs : (splice s (x * 16) (blkSlice d i)).length = s.length := splice_length _ _ _ (by rw [hl]; exact hx)
    have hne : b ≠ x := fun h => hnm (by simp [h])
    simp only [writeAll]
    rw [ih (i + 1) _ (fun h => hnm (by simp [h])) (by intro y hy; rw [hs]; exact hb y (by simp [hy])) (by omega)]
    apply sliceN_splice_disjoint _ _ _ _ _ (by rw [hl]; exact hx)
    rw [hl]
    rcases Nat.lt_or_gt_of_ne hne with h | h
    · right; omega
    · left; omega

theorem readAll_writeAll (d : Bytes) : ∀ (bl : List Nat) (i : Nat) (s : Bytes), bl.Nodup →
    (∀ x ∈ bl, x * 16 + 16 ≤ s.length) → (i + bl.length) * 16 ≤ d.length →
    readAll (writeAll d bl i s) bl = sliceN d (i * 16) ((i + bl.length) * 16) := by
  intro bl
  induction bl with
  | nil => intro i s _ _ _; simp [readAll, sliceN]
  | cons x xs ih =>
    intro i s hnd hb hd
    simp only [List.length_cons] at hd
    have hl := blkSlice_length d i (by omega)
    have hx := hb x (by simp)
    have hs : (splice s (x * 16) (blkSlice d i)).length = s.length := splice_length _ _ _ (by rw [hl]; exact hx)
    have hnd' := List.nodup_cons.mp hnd
    have hb' : ∀ y ∈ xs, y * 16 + 16 ≤ (splice s (x * 16) (blkSlice d i)).length := by
      intro y hy; rw [hs]; exact hb y (by simp [hy])
    have h1 := writeAll_other d x xs (i + 1) _ hnd'.1 hb' (by omega)
    have h2 := ih (i + 1) _ hnd'.2 hb' (by omega)
    simp only [readAll, List.flatMap_cons, writeAll] at *
    rw [h1, h2]
    have := sliceN_splice_same s (x * 16) (blkSlice d i) (by rw [hl]; exact hx)
    rw [hl] at this
    rw [show (x + 1) * 16 = x * 16 + 16 by omega, this, List.length_cons]
    unfold blkSlice
    rw [show i + (xs.length + 1) = i + 1 + xs.length by omega]
    exact sliceN_append d _ _ _ (by omega) (by omega)

end NfcVerif.T3Emu
