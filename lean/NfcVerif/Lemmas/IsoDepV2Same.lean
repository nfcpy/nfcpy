import NfcVerif.Lemmas.IsoDepV2
import NfcVerif.Lemmas.IsoDepLive
/-!
# ISO-DEP: the termination repairs are invisible to a card that keeps to the rules

`Model/IsoDepV2.lean` (the repaired initiator, `fixes/C08/0010 - 0012`) against `Model/IsoDep.lean` (the loops as they
were before): for the ISO/IEC 14443-4 card that asks for waiting time with a multiplier in 1..59, at most `W` times per
block with `W * WTXM ≤ max_wtxm_sum`, whose chained blocks are not empty and whose response has at most 65539 octets,
under EVERY fault script, the two `exchange` functions do the same - block by block (`xchgW_same_*`: no multiplier is
refused and the granted sum stays within the limit because the card's outstanding requests do; `blockLoop_same`: a
retransmission after R(ACK) is only ever due at `i ≤ n + 1`, because the R(NAK) before it was sent at `i ≤ n`;
`recvChain_same`: the guard at the head of the response loop never fires; `exchangeCmd_same` puts them together, the
wrapper `exchange` is added in `C12.isodep_repairs_invisible`).  So a repair changes nothing for rule-abiding cards, and
everything `Props/C12AsFound.lean` states about the as-found loops holds for the repaired ones against such cards as well.
-/
namespace NfcVerif.IsoDep2
open NfcVerif NfcVerif.IsoDep

/-- the reader state without the S(WTX) limit: the state of the as-found initiator -/
def Pcd.base (p : Pcd) : IsoDep.Pcd := { pni := p.pni, miu := p.miu, nNak := p.nNak, nAck := p.nAck, failed := p.failed }

theorem wtxmOf_single (a : Nat) : wtxmOf [a] = none := rfl
theorem isWtx_single (a : Nat) : isWtx [a] = false := rfl

/-- the multiplier the reader reads from the card's S(WTX) request -/
def wtxmMask (cfg : CardCfg) : Nat := cfg.wtxm &&& 0x3F

theorem wtxmOf_wtxBlock' (cfg : CardCfg) : wtxmOf (wtxBlock cfg) = some (wtxmMask cfg) := wtxmOf_wtxBlock cfg

theorem pending_wl_pos {cfg : CardCfg} {k : Core} {B : Bytes} {c : Card} (h : Pending cfg k B c) : 1 ≤ wl c := by
  obtain ⟨_, _, n, hn⟩ := h
  simp [wl, hn]

theorem xchgW_succ {σ} (P : Peer σ) (L F sum : Nat) (w : World σ) (out : Bytes) :
    xchgW P L (F + 1) sum w out =
      match (w.xchg P out).2 with
      | .data d =>
        match wtxmOf d with
        | none => ((w.xchg P out).1, .data d)
        | some m =>
          if m = 0 ∨ m > 59 then ((w.xchg P out).1, .protocol)
          else if sum + m > L then ((w.xchg P out).1, .waited)
          else xchgW P L F (sum + m) (w.xchg P out).1 d
      | .timeout => ((w.xchg P out).1, .timeout)
      | .transmission => ((w.xchg P out).1, .transmission)
      | .protocol => ((w.xchg P out).1, .protocol)
      | .fuel => ((w.xchg P out).1, .fuel) := rfl

theorem xchgW_same_step (cfg : CardCfg) (L : Nat) (R : Round) (hR : R.Ok cfg) (F : Nat)
    (hM : 1 ≤ wtxmMask cfg ∧ wtxmMask cfg ≤ 59)
    (ihEcho : ∀ (w : World Card) (s : Nat), Pending cfg R.post R.B w.card → wl w.card ≤ F →
      s + wl w.card * wtxmMask cfg ≤ L + wtxmMask cfg →
      xchgW (isoPeer cfg) L F s w (wtxBlock cfg) = liftW (IsoDep.xchgW (isoPeer cfg) F w (wtxBlock cfg)))
    (w : World Card) (out : Bytes) (sum : Nat) (c' : Card) (o : Bytes) (hrx : Card.rx cfg w.card out = (c', some o))
    (hans : (Done R.post R.B c' ∧ o = R.B) ∨ (Pending cfg R.post R.B c' ∧ o = wtxBlock cfg) ∨ (∃ a, o = [a]))
    (hP : Pending cfg R.post R.B c' → wl c' ≤ F ∧ sum + wl c' * wtxmMask cfg ≤ L) :
    xchgW (isoPeer cfg) L (F + 1) sum w out = liftW (IsoDep.xchgW (isoPeer cfg) (F + 1) w out) := by
  obtain ⟨hlegs, _⟩ := xchg_faulty (isoPeer cfg) w out c' o hrx
  rw [xchgW_succ, IsoDep.xchgW_succ]
  rcases hlegs with ⟨_, hr, _⟩ | ⟨hc, hr, _⟩
  · rcases hr with hr | hr | hr | ⟨hr, _⟩ <;>
      simp only [hr, wtxmOf, isWtx, Bool.false_eq_true, if_false, liftW, RxW.ofRx]
  · simp only [hr]
    rcases hans with ⟨hd, rfl⟩ | ⟨hp, rfl⟩ | ⟨a, rfl⟩
    · obtain ⟨a, t, hB, _, hBw⟩ := hR.hB
      simp only [wtxmOf_none hBw, hBw, Bool.false_eq_true, if_false, liftW, RxW.ofRx]
    · obtain ⟨hwlF, hsum⟩ := hP hp
      have hpos := pending_wl_pos hp
      have hge : wtxmMask cfg ≤ wl c' * wtxmMask cfg := Nat.le_mul_of_pos_left _ hpos
      simp only [wtxmOf_wtxBlock', isWtx_wtxBlock, if_true]
      rw [if_neg (by omega), if_neg (by omega)]
      exact ihEcho (w.xchg (isoPeer cfg) out).1 (sum + wtxmMask cfg) (by rw [hc]; exact hp) (by rw [hc]; exact hwlF)
        (by rw [hc]; omega)
    · simp only [wtxmOf_single, isWtx_single, Bool.false_eq_true, if_false, liftW, RxW.ofRx]

theorem xchgW_same_echo (cfg : CardCfg) (L : Nat) (R : Round) (hR : R.Ok cfg)
    (hM : 1 ≤ wtxmMask cfg ∧ wtxmMask cfg ≤ 59) :
    ∀ (F : Nat) (w : World Card) (s : Nat), Pending cfg R.post R.B w.card → wl w.card ≤ F →
      s + wl w.card * wtxmMask cfg ≤ L + wtxmMask cfg →
      xchgW (isoPeer cfg) L F s w (wtxBlock cfg) = liftW (IsoDep.xchgW (isoPeer cfg) F w (wtxBlock cfg)) := by
  intro F
  induction F with
  | zero =>
    intro w s hp hF _
    have := pending_wl_pos hp
    omega
  | succ F ih =>
    intro w s hp hF hs
    obtain ⟨c', o, hrx, hdec, hans⟩ := rx_live_echo cfg R w.card hp
    have hmul : wl w.card * wtxmMask cfg = wl c' * wtxmMask cfg + wtxmMask cfg := by
      rw [← hdec, Nat.add_mul, Nat.one_mul]
    refine xchgW_same_step cfg L R hR F hM ih w (wtxBlock cfg) s c' o hrx ?_ (fun _ => ⟨by omega, by omega⟩)
    rcases hans with h | h
    · exact Or.inl h
    · exact Or.inr (Or.inl h)

theorem xchgW_same_first (cfg : CardCfg) (W L : Nat) (R : Round) (hR : R.Ok cfg) (hL : R.Live cfg W)
    (hM : 1 ≤ wtxmMask cfg ∧ wtxmMask cfg ≤ 59) (hWL : W * wtxmMask cfg ≤ L)
    (F : Nat) (hF : W + 1 ≤ F) (w : World Card) (out : Bytes) (h : First cfg R w.card out)
    (hw : Em cfg R.post R.B w.card → wl w.card ≤ W) :
    xchgW (isoPeer cfg) L F 0 w out = liftW (IsoDep.xchgW (isoPeer cfg) F w out) := by
  obtain ⟨F', rfl⟩ : ∃ F', F = F' + 1 := ⟨F - 1, by omega⟩
  obtain ⟨c', o, hrx, hwl', hans⟩ := rx_live_first cfg W R hR hL w.card out h hw
  have hP : Pending cfg R.post R.B c' → wl c' ≤ F' ∧ 0 + wl c' * wtxmMask cfg ≤ L := by
    intro hp
    have hle := hwl' (Or.inr hp)
    have := Nat.mul_le_mul_right (wtxmMask cfg) hle
    exact ⟨by omega, by omega⟩
  refine xchgW_same_step cfg L R hR F' hM (xchgW_same_echo cfg L R hR hM F') w out 0 c' o hrx ?_ hP
  rcases hans with hd | hp | ⟨hpre, hne, a, rfl, ha⟩
  · exact Or.inl hd
  · exact Or.inr (Or.inl hp)
  · exact Or.inr (Or.inr ⟨a, rfl⟩)

theorem blockLoop_same (cfg : CardCfg) (W L : Nat) (R : Round) (hR : R.Ok cfg) (hL : R.Live cfg W)
    (hM : 1 ≤ wtxmMask cfg ∧ wtxmMask cfg ≤ 59) (hWL : W * wtxmMask cfg ≤ L) (F n : Nat) (hF : W + 1 ≤ F) :
    ∀ (f i : Nat) (out : Bytes) (w : World Card), First cfg R w.card out →
      (Em cfg R.post R.B w.card → wl w.card ≤ W) → (out ≠ R.req → i ≤ n + 1) →
      blockLoop (isoPeer cfg) F L n R.resend R.req R.rty f i out w =
        IsoDep.blockLoop (isoPeer cfg) F n R.resend R.req R.rty f i out w := by
  intro f
  induction f with
  | zero => intro i out w _ _ _; rfl
  | succ f ih =>
    intro i out w hfirst hw hidx
    have hE := xchgW_same_first cfg W L R hR hL hM hWL F hF w out hfirst hw
    have hW := IsoDep.xchgW_live_first cfg W R hR hL F hF w out hfirst hw
    unfold blockLoop IsoDep.blockLoop
    rw [hE]
    generalize IsoDep.xchgW (isoPeer cfg) F w out = r1 at hW
    obtain ⟨w1, r⟩ := r1
    obtain ⟨_, hw1, alt⟩ := hW
    simp only [liftW] at hw1 alt ⊢
    have retry : ∀ (e : Exc), St cfg R w1.card →
        (if i ≤ n then blockLoop (isoPeer cfg) F L n R.resend R.req R.rty f (i + 1) R.rty w1 else (w1, Except.error e)) =
        (if i ≤ n then IsoDep.blockLoop (isoPeer cfg) F n R.resend R.req R.rty f (i + 1) R.rty w1 else (w1, Except.error e)) := by
      intro e hst
      by_cases hin : i ≤ n
      · rw [if_pos hin, if_pos hin]
        exact ih (i + 1) R.rty w1 hst.first hw1 (fun _ => by omega)
      · rw [if_neg hin, if_neg hin]
    rcases alt with ⟨_, ⟨rfl, hd⟩ | ⟨hne, hpre, a, rfl, ha⟩⟩ | ⟨_, hst, rfl | rfl | rfl | ⟨rfl, _⟩⟩
    · obtain ⟨a, t, hB, hres, _⟩ := hR.hB
      simp only [RxW.ofRx, hB, if_neg hres]
    · simp only [RxW.ofRx, if_pos ha]
      have hin : ¬ i > resendMax n := by
        have := hidx hne
        unfold resendMax
        omega
      rw [if_neg hin]
      exact ih (i + 1) R.req w1 (Or.inl ⟨hpre, Or.inl rfl⟩) hw1 (fun h => absurd rfl h)
    · exact retry _ hst
    · exact retry _ hst
    · exact retry _ hst
    · rfl

theorem sendChunks_same (cfg : CardCfg) (W F L nNak : Nat) (hF1 : W + 1 ≤ F)
    (hM : 1 ≤ wtxmMask cfg ∧ wtxmMask cfg ≤ 59) (hWL : W * wtxmMask cfg ≤ L)
    (hW1 : cfg.wtxAck ≤ W) (hW2 : cfg.wtxI ≤ W) (Lg : List Bytes) :
    ∀ (cs : List Bytes) (pni : Nat) (acc : Bytes) (w : World Card), cs ≠ [] → pni < 2 →
      w.card.bn = (pni + 1) % 2 → w.card.rxbuf = acc → w.card.log = Lg →
      sendChunks (isoPeer cfg) F L nNak cs pni w = IsoDep.sendChunks (isoPeer cfg) F nNak cs pni w := by
  intro cs
  induction cs with
  | nil => intro _ _ _ h; exact absurd rfl h
  | cons c rest ih =>
    intro pni acc w _ hp hb hr hl
    have hR := cmdRound_ok cfg hp acc Lg c (!rest.isEmpty)
    have hLv := cmdRound_live cfg W hW1 hW2 hp acc Lg c (!rest.isEmpty)
    have hsame := blockLoop_same cfg W L _ hR hLv hM hWL F nNak hF1 F 1 _ w
      (Or.inl ⟨⟨hb, hr, hl⟩, Or.inl rfl⟩) (pre_not_em hLv ⟨hb, hr, hl⟩) (fun h => absurd rfl h)
    have hpost := round_post cfg _ hR F nNak w ⟨hb, hr, hl⟩
    simp only at hsame hpost
    rw [sendChunks_cons, IsoDep.sendChunks_cons, hsame, sendStep_iso cfg hp acc Lg c _ _ _ hpost,
      sendStep_iso cfg hp acc Lg c _ _ _ hpost]
    generalize IsoDep.blockLoop _ _ _ _ _ _ _ _ _ _ = r1 at hpost ⊢
    obtain ⟨w1, res⟩ := r1
    cases res with
    | error e => rfl
    | ok d =>
      cases rest with
      | nil => rfl
      | cons c2 rest2 =>
        obtain ⟨h1, h2, h3⟩ := cmdRound_next hp hpost.1.core
        exact ih ((pni + 1) % 2) (acc ++ c) w1 (by simp) (tog_lt pni) h1 h2 h3

theorem recvChain_same (cfg : CardCfg) (W F L nAck : Nat) (hF1 : W + 1 ≤ F)
    (hM : 1 ≤ wtxmMask cfg ∧ wtxmMask cfg ≤ 59) (hWL : W * wtxmMask cfg ≤ L)
    (hW : cfg.wtxChain ≤ W) (hchunk : 1 ≤ cfg.chunk) (L' : List Bytes) :
    ∀ (f pni : Nat) (data resp : Bytes) (w : World Card) (T : Bytes), RecvAt L' pni data w.card T →
      (T ≠ [] → data.drop 1 ≠ []) → resp.length + T.length ≤ 65539 →
      recvChain (isoPeer cfg) F L nAck f pni data resp w = IsoDep.recvChain (isoPeer cfg) F nAck f pni data resp w := by
  intro f
  induction f with
  | zero => intro _ _ _ _ _ _ _ _; rfl
  | succ f ih =>
    intro pni data resp w T h hinf htot
    have hpost := fun hT => round_post cfg _ (ackRound_ok cfg h.pni_lt T hT L') F nAck w h.pre
    rw [recvChain_succ, IsoDep.recvChain_succ]
    by_cases hT : T = []
    · rw [recvStep_iso cfg L' _ resp _ _ h (fun hT' => absurd hT hT'), recvStep_iso cfg L' _ resp _ _ h (fun hT' => absurd hT hT'),
        if_pos hT, if_pos hT]
    · have hTl : 0 < T.length := List.length_pos_iff.mpr hT
      have hR := ackRound_ok cfg h.pni_lt T hT L'
      have hLv := ackRound_live cfg W hW h.pni_lt T hT L'
      have hsame := blockLoop_same cfg W L (ackRound cfg pni T L') hR hLv hM hWL F nAck hF1 F 1 [0xA2 ||| pni] w
        (Or.inl ⟨h.pre, Or.inl rfl⟩) (pre_not_em hLv h.pre) (fun h => absurd rfl h)
      simp only at hsame
      -- the guard of the repaired loop does not fire: the block carries INF and the response is within the limit
      rw [hsame, recvStep_iso cfg L' (fun inf => inf = [] ∨ resp.length > 65538) resp _ _ h hpost,
        recvStep_iso cfg L' (fun _ => False) resp _ _ h hpost, if_neg hT, if_neg hT, if_neg not_false,
        if_neg (fun hg => Or.elim hg (hinf hT) (by omega))]
      replace hpost := hpost hT
      simp only at hpost
      generalize IsoDep.blockLoop _ _ _ _ _ _ _ _ _ _ = r1 at hpost ⊢
      obtain ⟨w1, res⟩ := r1
      cases res with
      | error e => rfl
      | ok d =>
        refine ih ((pni + 1) % 2) d (resp ++ d.drop 1) w1 (T.drop cfg.chunk) (by rw [hpost.2]; exact h.next hpost.1) ?_ ?_
        · rw [hpost.2, iBlock_drop_one]
          exact take_ne_nil_of_drop_ne_nil hchunk
        · rw [hpost.2, iBlock_drop_one]
          simp only [List.length_append, List.length_take, List.length_drop]
          omega

/-- the state of the repaired initiator that belongs to a state of the as-found one -/
def Pcd.ofBase (b : IsoDep.Pcd) (wlim : Nat) : Pcd :=
  { pni := b.pni, miu := b.miu, nNak := b.nNak, nAck := b.nAck, wlim := wlim, failed := b.failed }

/-- the as-found result seen as a result of the repaired initiator -/
def liftX {σ} (wlim : Nat) (r : World σ × IsoDep.Pcd × Py Bytes) : World σ × Pcd × Py Bytes :=
  (r.1, Pcd.ofBase r.2.1 wlim, r.2.2)

theorem exchangeCmd_same (cfg : CardCfg) (W F : Nat) (pcd : Pcd) (cmd : Bytes) (w : World Card) (m : Nat)
    (hmiu : pcd.miu = (m : Int)) (hm : 1 ≤ m) (hcmd : cmd ≠ []) (hp : pcd.pni < 2) (hs : Sync pcd.pni w.card)
    (hchunk : 1 ≤ cfg.chunk) (hW1 : cfg.wtxAck ≤ W) (hW2 : cfg.wtxI ≤ W) (hW3 : cfg.wtxChain ≤ W)
    (hM : 1 ≤ wtxmMask cfg ∧ wtxmMask cfg ≤ 59) (hWL : W * wtxmMask cfg ≤ pcd.wlim)
    (hrsp : (cfg.app w.card.log.length cmd).length ≤ 65539) (hF1 : W + 1 ≤ F) :
    exchangeCmd (isoPeer cfg) F pcd cmd w = liftX pcd.wlim (IsoDep.exchangeCmd (isoPeer cfg) F pcd.base cmd w) := by
  have h0 : ¬ pcd.miu = 0 := by omega
  have h1 : ¬ (pcd.miu < 0 ∨ cmd = []) := by
    intro h; rcases h with h | h
    · omega
    · exact hcmd h
  have ht : pcd.miu.toNat = m := by omega
  obtain ⟨hfl, hne, hlen, _⟩ := chunks_spec m hm cmd hcmd
  have hsend := IsoDep.sendChunks_post cfg m F pcd.nNak hm w.card.log (fun _ => True) (fun _ _ => trivial)
    (chunks m cmd) pcd.pni [] w hne hp hs.1 hs.2 rfl hlen (fun _ _ => trivial)
  have hsame := sendChunks_same cfg W F pcd.wlim pcd.nNak hF1 hM hWL hW1 hW2 w.card.log (chunks m cmd) pcd.pni [] w hne hp
    hs.1 hs.2 rfl
  unfold exchangeCmd IsoDep.exchangeCmd
  simp only [Pcd.base, h0, h1, if_false, ht]
  rw [hsame]
  rw [hfl, List.nil_append] at hsend
  generalize IsoDep.sendChunks _ _ _ _ _ _ = r1 at hsend ⊢
  obtain ⟨w1, pni1, res⟩ := r1
  obtain ⟨_, hres⟩ := hsend
  cases res with
  | error e => rfl
  | ok d =>
    obtain ⟨hp1, hd, hdone⟩ := hres
    simp only at hp1 hd hdone ⊢
    have hrl := recvChain_same cfg W F pcd.wlim pcd.nAck hF1 hM hWL hW3 hchunk (w.card.log ++ [cmd])
      F pni1 d (d.drop 1) w1 _ (CmdDone.recvAt ⟨hp1, hd, hdone⟩)
      (by rw [hd, iBlock_drop_one]; exact take_ne_nil_of_drop_ne_nil hchunk)
      (by rw [hd, iBlock_drop_one]; simp only [List.length_take, List.length_drop]; omega)
    rw [hrl]
    rfl

end NfcVerif.IsoDep2
