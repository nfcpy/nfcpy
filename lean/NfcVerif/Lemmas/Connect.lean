import NfcVerif.Model.Connect
import NfcVerif.Lemmas.Sense
/-!
The callback discipline of `connect()` (C18) is a monitor automaton `step` over the event log; `mon log` is the
state the history ends in (`none`: the history is illegal).  The pieces of the model that only add driver calls
(`NExt`; `nfc.tag.activate` is one, `tagActivate_act`) leave the monitor where it is, a callback or `terminate()`
event moves it (`mon_discover`, `mon_connect`, `mon_release`, ..), and `StepPost` says which monitor state a step's
result stands for.  The steps and `connect_all`, the master statement, are in `Lemmas/ConnectSteps.lean`.
What is used of `Lemmas/Sense.lean`: `ask_spec`, `simpleCall_spec`, `exchange_spec`, `exchange_err`, `listen_spec`
(its log clause) and `sense_spec` through the fields `.log`, `.calls`, `.fresh` of its segment and `.err`.
-/
namespace NfcVerif.Clf

def codeTruthy (c : Nat) : Bool := c == 2 || c == 4 || c == 6

theorem codeTruthy_code (v : Val) : codeTruthy v.code = v.truthy := by cases v <;> rfl

/-- order of the on-startup calls: llcp, rdwr, card -/
def rank : Role → Nat | .llcp => 0 | .rdwr => 1 | .card => 2

/-- monitor states -/
inductive Q
  | su (k : Nat)              -- option preparation: roles of rank < k are done
  | idle (tt : Bool)          -- no activation open; tt: the last callback/terminate event was a true terminate()
  | disc (r : Role)           -- on-discover of r returned a true value
  | conn (r : Role)           -- on-connect of r returned a true value, on-release is owed
  | finObj (r : Role)         -- on-connect of r returned a false value: nothing may follow
  | finRel (r : Role) (c : Nat)  -- on-release of r returned the true value with code c: nothing may follow
  deriving DecidableEq, Repr

def Q.idleLike : Q → Bool
  | .su _ | .idle _ | .disc _ => true
  | _ => false

/-- transitions outside an activation; `d`: role whose on-discover just returned true -/
def stepIdle (d : Option Role) : Ev → Option Q
  | .term b => some (.idle b)
  | .cb r .discover c _ => if r = .llcp then none else some (if codeTruthy c then .disc r else .idle false)
  | .cb r .connect c _ =>
    if r = .llcp ∨ d = some r then some (if codeTruthy c then .conn r else .finObj r) else none
  | _ => none

def step : Q → Ev → Option Q
  | q, .call _ _ => some q
  | q, .sleep => some q
  | .su k, .cb r .startup _ _ => if k ≤ rank r then some (.su (rank r + 1)) else none
  | .su _, e => stepIdle none e
  | .idle _, e => stepIdle none e
  | .disc r, e => stepIdle (some r) e
  | .conn r, .term _ => some (.conn r)
  | .conn r, .cb r' .release c _ => if r = r' then some (if codeTruthy c then .finRel r c else .idle false) else none
  | _, _ => none

def runFrom : Q → List Ev → Option Q
  | q, [] => some q
  | q, e :: l => (step q e).bind (fun q' => runFrom q' l)

/-- the log is a legal history: on-startup first (llcp, rdwr, card), then activations
discover → connect → release, release only (and immediately) after a true on-connect of the same
role, nothing after the activation that ends connect() -/
def mon (l : List Ev) : Option Q := runFrom (.su 0) l

theorem runFrom_append (q : Q) (a b : List Ev) : runFrom q (a ++ b) = (runFrom q a).bind (fun q' => runFrom q' b) := by
  induction a generalizing q with
  | nil => simp [runFrom]
  | cons e r ih =>
    simp only [List.cons_append, runFrom]
    cases step q e with
    | none => simp
    | some q' => simp [ih]

theorem step_neutral (q : Q) (e : Ev) (h : e.neutral = true) : step q e = some q := by
  cases e <;> simp [Ev.neutral] at h <;> cases q <;> simp [step]

theorem runFrom_neutral (q : Q) (l : List Ev) (h : ∀ e ∈ l, e.neutral = true) : runFrom q l = some q := by
  induction l with
  | nil => rfl
  | cons e r ih =>
    simp only [runFrom, step_neutral q e (h e (by simp))]
    exact ih (fun e he => h e (by simp [he]))

/-- `s'` extends the log of `s` by driver/collaborator calls and sleeps only -/
def NExt (s s' : St) : Prop := ∃ seg, s'.log = s.log ++ seg ∧ ∀ e ∈ seg, e.neutral = true

theorem NExt.refl (s : St) : NExt s s := ⟨[], by simp, by simp⟩
theorem NExt.trans {a b c : St} (h1 : NExt a b) (h2 : NExt b c) : NExt a c := by
  obtain ⟨s1, l1, n1⟩ := h1
  obtain ⟨s2, l2, n2⟩ := h2
  exact ⟨s1 ++ s2, by rw [l2, l1, List.append_assoc], List.forall_mem_append.mpr ⟨n1, n2⟩⟩
theorem NExt.mon {s s' : St} (h : NExt s s') : mon s'.log = mon s.log := by
  obtain ⟨seg, hl, hn⟩ := h
  unfold Clf.mon
  rw [hl, runFrom_append]
  cases hq : runFrom (.su 0) s.log with
  | none => rfl
  | some q => simp [runFrom_neutral q seg hn]
theorem NExt.of_log {s s' : St} (h : s'.log = s.log) : NExt s s' := ⟨[], by simp [h], by simp⟩
/-- one driver call or sleep -/
theorem NExt.event {s s' : St} {e : Ev} (h : s'.log = s.log ++ [e]) (he : e.neutral = true) : NExt s s' :=
  ⟨[e], h, by simpa using he⟩

theorem mon_emit (s : St) (e : Ev) : mon (s.emit e).log = (mon s.log).bind (fun q => step q e) := by
  unfold Clf.mon St.emit
  simp only [runFrom_append]
  cases runFrom (.su 0) s.log with
  | none => rfl
  | some q => simp [runFrom]

theorem NExt.ask (s : St) (site : Site) : NExt s (s.ask site).2 := by
  obtain ⟨a, ha⟩ := ask_spec s site
  rw [ha]; exact .event rfl rfl

theorem NExt.emit_sleep (s : St) : NExt s (s.emit .sleep) := .event rfl rfl

theorem NExt.simpleCall (site : Site) (s : St) : NExt s (simpleCall site s).2 := by
  obtain ⟨a, h1, _⟩ := simpleCall_spec site s
  rw [h1]; exact .event rfl rfl

theorem NExt.exchange (s : St) : NExt s (exchange s).2 := by
  have := (exchange_spec s).2
  cases ht : s.target with
  | none => rw [ht] at this; simp only at this; rw [this]; exact NExt.refl s
  | remote id => rw [ht] at this; obtain ⟨a, ha⟩ := this; exact .event ha rfl
  | loc id => rw [ht] at this; obtain ⟨a, ha⟩ := this; exact .event ha rfl

theorem NExt.target {s : St} (t : Tgt) : NExt s { s with target := t } := NExt.of_log rfl

theorem NExt.sense (tl : List TgtSpec) (iters : Int) (s : St) : NExt s (sense tl iters s).2 := by
  by_cases hnt : tl.any (· == .notTarget) = true
  · unfold Clf.sense; rw [if_pos hnt]; exact NExt.refl s
  · obtain ⟨⟨seg, h⟩, _⟩ := sense_spec tl iters s ((Bool.not_eq_true _).mp hnt)
    exact ⟨seg, h.log, h.calls⟩

theorem NExt.listen (t : LtSpec) (s : St) : NExt s (listen t s).2 := by
  obtain ⟨⟨a, rest, hlog, hrest⟩, _⟩ := listen_spec t s
  refine ⟨_, hlog, ?_⟩
  rcases hrest with rfl | ⟨site, b, rfl⟩ <;> simp [Ev.neutral]

/-- the frontend holds a remote target (the one `sense()` just returned) -/
def HasT (s : St) : Prop := ∃ id, s.target = .remote id

/-- exceptions of the local device and of a single-target `sense()`: all end connect() with False -/
def DevErr (e : Exc) : Prop := e = .io 5 ∨ e = .keyboardInterrupt ∨ e = .unsupportedTarget

/-- the piece only appends driver/collaborator calls and sleeps; what it raises is a device error
or (when `c`) a CommunicationError -/
def ActPost {α : Type} (c : Bool) (s : St) (r : R α) : Prop :=
  NExt s r.2 ∧ ∀ e, r.1 = .error e → DevErr e ∨ (c = true ∧ isCommErr e = true)

theorem ActPost.devErr {α : Type} {s : St} {r : R α} (h : ActPost false s r) (e : Exc) (he : r.1 = .error e) : DevErr e :=
  (h.2 e he).resolve_right fun h => Bool.noConfusion h.1

theorem ActPost.weaken {α : Type} {c : Bool} {s : St} {r : R α} (h : ActPost false s r) : ActPost c s r :=
  ⟨h.1, fun e he => Or.inl (h.devErr e he)⟩

/-- the piece ended with a value after the calls up to `s1` -/
theorem ActPost.ok {α : Type} (c : Bool) {s s1 : St} (h : NExt s s1) (v : α) : ActPost c s ((.ok v, s1) : R α) :=
  ⟨h, by simp⟩

theorem ActPost.done {α : Type} (c : Bool) (s : St) (v : α) : ActPost c s ((.ok v, s) : R α) := .ok c (NExt.refl s) v

/-- calls first, then a piece -/
theorem ActPost.after {α : Type} {c : Bool} {s s1 : St} {r : R α} (h : NExt s s1) (hp : ActPost c s1 r) : ActPost c s r :=
  ⟨h.trans hp.1, hp.2⟩

/-- an error is handed on as it came -/
theorem ActPost.rethrow {α β : Type} {c : Bool} {s s1 : St} {e : Exc} (h : ActPost c s ((.error e, s1) : R α)) :
    ActPost c s ((.error e, s1) : R β) :=
  ⟨h.1, fun e' h' => by cases h'; exact h.2 e rfl⟩

/-- an error that is handed on only when it is no CommunicationError -/
theorem ActPost.not_comm {α β : Type} {s s1 : St} {e : Exc} (h : ActPost true s ((.error e, s1) : R α))
    (hc : ¬ isCommErr e = true) : ActPost false s ((.error e, s1) : R β) :=
  ⟨h.1, fun e' h' => by cases h'; exact Or.inl ((h.2 e rfl).resolve_right fun h => hc h.2)⟩

theorem xchgAnswer_ne_none (a : Ans) (s : St) : (xchgAnswer a s).1 ≠ .ok none := by
  cases a <;> simp [xchgAnswer]

/-- a command sent to the target the frontend holds: it is answered or fails, `None` is impossible -/
theorem exchange_act (s : St) (h : HasT s) :
    ∃ r1 s1, exchange s = (r1, s1) ∧ NExt s s1 ∧ r1 ≠ .ok none ∧ ActPost true s (r1, s1) := by
  obtain ⟨id, hid⟩ := h
  refine ⟨(exchange s).1, (exchange s).2, rfl, NExt.exchange s, ?_, NExt.exchange s, fun e he => ?_⟩
  · unfold exchange
    simp only [hid]
    exact xchgAnswer_ne_none _ _
  · rcases exchange_err s e he with h1 | h1 | h1
    · exact Or.inl (Or.inl h1)
    · exact Or.inl (Or.inr (Or.inl h1))
    · exact Or.inr ⟨rfl, h1⟩

/-- the re-selecting `sense()` of the tag activation: one target with valid arguments, so a ValueError is
impossible -/
theorem sense_a7_err (s : St) (e : Exc) (h : (sense [.a 7] 1 s).1 = .error e) : DevErr e := by
  rcases (sense_spec [.a 7] 1 s (by decide)).err e h with h | h | ⟨_, h | ⟨_, t, ht, hr⟩⟩
  · exact Or.inl h
  · exact Or.inr (Or.inl h)
  · exact Or.inr (Or.inr h)
  · cases List.mem_singleton.mp ht; simp [reach1] at hr

theorem sense_some_target (tl : List TgtSpec) (iters : Int) (s s1 : St) (x : Nat × Found)
    (h : sense tl iters s = (.ok (some x), s1)) : s1.target = .remote x.1 := by
  by_cases hnt : tl.any (· == .notTarget) = true
  · simp [sense, hnt] at h
  · obtain ⟨⟨seg, hs⟩, _⟩ := sense_spec tl iters s ((Bool.not_eq_true _).mp hnt)
    rw [h] at hs
    exact (hs.fresh x rfl).2.2

theorem reSense_act (s : St) :
    ActPost false s (reSense s) ∧ ((reSense s).1 = .ok true → HasT (reSense s).2) := by
  have hn := NExt.sense [.a 7] 1 s
  have he := sense_a7_err s
  unfold reSense
  rcases hr : sense [.a 7] 1 s with ⟨r1, s1⟩
  rw [hr] at hn he
  cases r1 with
  | error e => exact ⟨⟨hn, fun e' h' => by cases h'; exact Or.inl (he e rfl)⟩, by simp⟩
  | ok o =>
    cases o with
    | none => exact ⟨.ok false hn false, by simp⟩
    | some x => exact ⟨.ok false hn true, fun _ => ⟨x.1, sense_some_target _ _ _ _ _ hr⟩⟩

theorem stillThere_act (s : St) (k : St → R Bool) (c : Bool)
    (hk : ∀ s1, HasT s1 → ActPost c s1 (k s1)) : ActPost c s (stillThere s k) := by
  obtain ⟨hp, ht⟩ := reSense_act s
  unfold stillThere
  rcases hr : reSense s with ⟨r1, s1⟩
  rw [hr] at hp ht
  cases r1 with
  | error e => exact hp.rethrow.weaken
  | ok b =>
    cases b with
    | false => exact .ok c hp.1 false
    | true => exact .after hp.1 (hk s1 (ht rfl))

theorem nxpVersion_act (s : St) (h : HasT s) : ActPost false s (nxpVersion s) := by
  obtain ⟨r1, s1, hr, hn, hnn, hp⟩ := exchange_act s h
  unfold nxpVersion
  rw [hr]
  have still : ActPost false s (stillThere s1 (fun s2 => (.ok true, s2))) :=
    .after hn (stillThere_act s1 _ false fun s2 _ => ActPost.done false s2 true)
  cases r1 with
  | ok o =>
    cases o with
    | none => exact absurd rfl hnn
    | some d =>
      simp only
      split
      · exact .ok false hn true
      · split
        · exact still
        · exact .ok false hn false
  | error e =>
    simp only
    split
    · exact still
    · split
      · exact .ok false hn false
      · rename_i h2
        exact hp.not_comm h2

theorem nxpActivate_act (s : St) (h : HasT s) : ActPost false s (nxpActivate s) := by
  obtain ⟨r1, s1, hr, hn, hnn, hp⟩ := exchange_act s h
  unfold nxpActivate
  rw [hr]
  cases r1 with
  | ok o =>
    cases o with
    | none => exact absurd rfl hnn
    | some d =>
      simp only
      refine .after hn (stillThere_act s1 _ false fun s2 h2 => ?_)
      split
      · exact ActPost.done false s2 true
      · exact nxpVersion_act s2 h2
  | error e =>
    simp only
    split
    · exact .after hn (stillThere_act s1 nxpVersion false nxpVersion_act)
    · split
      · exact .ok false hn false
      · rename_i h2
        exact hp.not_comm h2

theorem tt2Activate_act (f : Found) (s : St) (h : HasT s) : ActPost false s (tt2Activate f s) := by
  unfold tt2Activate
  split
  · have hp := nxpActivate_act s h
    rcases hr : nxpActivate s with ⟨r1, s1⟩
    rw [hr] at hp
    cases r1 with
    | error e => exact hp.rethrow
    | ok b =>
      cases b with
      | true => exact .ok false hp.1 _
      | false =>
        simp only
        -- "make sure the tag is still alive"
        obtain ⟨hp2, _⟩ := reSense_act s1
        rcases hr2 : reSense s1 with ⟨r2, s2⟩
        rw [hr2] at hp2
        refine .after hp.1 ?_
        cases r2 with
        | error e => exact hp2.rethrow
        | ok b2 => cases b2 <;> exact .ok false hp2.1 _
  · exact ActPost.done false s _

theorem tt4Activate_act (t : TagType) (s : St) (h : HasT s) : ActPost true s (tt4Activate t s) := by
  obtain ⟨r1, s1, hr, hn, hnn, hp⟩ := exchange_act s h
  unfold tt4Activate
  rw [hr]
  cases r1 with
  | ok o =>
    cases o with
    | none => exact absurd rfl hnn
    | some d => exact .ok true hn _
  | error e => exact hp.rethrow

theorem activateBody_act (f : Found) (s : St) (h : HasT s) : ActPost true s (activateBody f s) := by
  unfold activateBody
  split
  · split
    · split <;> exact ActPost.done true s _
    · split
      · exact (tt2Activate_act f s h).weaken
      · split
        · exact tt4Activate_act .tt4a s h
        · exact ActPost.done true s _
  · split
    · exact tt4Activate_act .tt4b s h
    · split
      · split <;> exact ActPost.done true s _
      · exact ActPost.done true s _

/-- `nfc.tag.activate` appends only the `act` event and driver calls; it raises only device errors
(IOError, KeyboardInterrupt, the UnsupportedTargetError of a nested single-target `sense()`): every
CommunicationError of every activation command is absorbed, and (after the repairs fixes/C18/0003,
0004) no target data makes it raise anything else. -/
theorem tagActivate_act (f : Found) (s : St) (h : HasT s) :
    NExt s (tagActivate f s).2 ∧ ∀ e, (tagActivate f s).1 = .error e → DevErr e := by
  have hem : NExt s (s.emit (.call .activate (.found f))) := .event rfl rfl
  have hT : HasT (s.emit (.call .activate (.found f))) := h
  have hp := activateBody_act f (s.emit (.call .activate (.found f))) hT
  unfold tagActivate
  rcases hr : activateBody f (s.emit (.call .activate (.found f))) with ⟨r1, s1⟩
  rw [hr] at hp
  cases r1 with
  | ok v => exact ⟨hem.trans hp.1, by simp⟩
  | error e =>
    simp only
    by_cases hc : isCommErr e = true
    · simp only [hc, if_true]
      exact ⟨hem.trans hp.1, by simp⟩
    · simp only [hc]
      exact ⟨hem.trans hp.1, (hp.not_comm (β := Option TagType) hc).devErr⟩

theorem mon_discover {s : St} {q : Q} (h : mon s.log = some q) (hq : q.idleLike = true) (r : Role) (hr : r ≠ .llcp)
    (v : Val) (b : Bool) :
    mon (s.emit (.cb r .discover v.code b)).log = some (if v.truthy then .disc r else .idle false) := by
  rw [mon_emit, h, ← codeTruthy_code]
  cases q with
  | su _ | idle _ | disc _ => simp [step, stepIdle, hr]
  | _ => cases hq

/-- second alternative of `hc`: the llcp role has no on-discover -/
theorem mon_connect {s : St} {q : Q} {r : Role} (h : mon s.log = some q)
    (hc : q = .disc r ∨ r = .llcp ∧ q.idleLike = true) (v : Val) (b : Bool) :
    mon (s.emit (.cb r .connect v.code b)).log = some (if v.truthy then .conn r else .finObj r) := by
  rw [mon_emit, h, ← codeTruthy_code]
  rcases hc with rfl | ⟨rfl, hq⟩
  · simp [step, stepIdle]
  · cases q with
    | su _ | idle _ | disc _ => simp [step, stepIdle]
    | _ => cases hq

theorem mon_release {s : St} {r : Role} (h : mon s.log = some (.conn r)) (v : Val) (b : Bool) :
    mon (s.emit (.cb r .release v.code b)).log = some (if v.truthy then .finRel r v.code else .idle false) := by
  rw [mon_emit, h, ← codeTruthy_code]; simp [step]

theorem mon_term_idle {s : St} {q : Q} (h : mon s.log = some q) (hq : q.idleLike = true) (b : Bool) :
    mon (s.emit (.term b)).log = some (.idle b) := by
  rw [mon_emit, h]
  cases q with
  | su _ | idle _ | disc _ => simp [step, stepIdle]
  | _ => cases hq

theorem mon_term_conn {s : St} {r : Role} (h : mon s.log = some (.conn r)) (b : Bool) :
    mon (s.emit (.term b)).log = some (.conn r) := by
  rw [mon_emit, h]; simp [step]

theorem mon_startupEvent {s : St} {k : Nat} (h : mon s.log = some (.su k)) (r : Role) (hk : k ≤ rank r)
    (su : Option (StartRes × Nat)) : mon (startupEvent r su s).log = some (.su (rank r + 1)) := by
  cases su with
  | none => simp only [startupEvent]; rw [mon_emit, h]; simp [step, hk]
  | some x => obtain ⟨a, b⟩ := x; simp only [startupEvent]; rw [mon_emit, h]; simp [step, hk]

theorem Cb.run_eq (c : Cb) (d : Val) (r : Role) (k : CbKind) (s : St) :
    ∃ v b, c.run d r k s = (v, s.emit (.cb r k v.code b)) := by
  cases c <;> simp [Cb.run]

/-- the monitor state `q'` that the result `r` of a `_xxx_connect` step stands for -/
def StepPost (r : Py RetVal) (q' : Q) : Prop :=
  match r with
  | .ok .none => q'.idleLike = true
  | .ok (.obj ro) => q' = .finObj ro
  | .ok (.val ro v) => q' = (if v.truthy then .finRel ro v.code else .idle false)
  | .error _ => True

/-- the same for the result of connect()'s main loop, which only a true terminate(), an object or a true
on-release value ends -/
def MainPost (r : Py RetVal) (q' : Q) : Prop :=
  match r with
  | .ok .none => q' = .idle true
  | .ok (.obj ro) => q' = .finObj ro
  | .ok (.val ro v) => v.truthy = true ∧ q' = .finRel ro v.code
  | .error _ => True

/-- a step that returned a true value ends the main loop as `MainPost` says; otherwise the monitor is idle-like
and the round goes on -/
theorem StepPost.main {v : RetVal} {q' : Q} (h : StepPost (.ok v) q') :
    if v.truthy then MainPost (.ok v) q' else q'.idleLike = true := by
  cases v with
  | none => exact h
  | obj ro => exact h
  | val ro v =>
    show if v.truthy then MainPost (.ok (.val ro v)) q' else q'.idleLike = true
    cases hv : v.truthy with
    | false => simp only [StepPost, hv, Bool.false_eq_true, if_false] at h ⊢; rw [h]; rfl
    | true => simp only [StepPost, hv, if_true] at h ⊢; exact ⟨hv, h⟩


/-- the run loop asks `terminate()` once per turn, one turn more than the peer answers exchanges -
it is the bounded poll loop of the scripted stand-in, whatever the traffic (`busy` flags) is -/
theorem runLoop_eq (l : List Bool) (ts : List Bool) (s : St) : runLoop l ts s = runPolls (l.length + 1) ts s := by
  induction l generalizing ts s with
  | nil =>
    cases ts with
    | nil => rfl
    | cons b r => cases b <;> simp [runLoop, runPolls]
  | cons a l ih =>
    cases ts with
    | nil => rfl
    | cons b r =>
      cases b with
      | true => simp [runLoop, runPolls]
      | false => simp only [runLoop, List.length_cons, runPolls]; exact ih r _

/-! on-release is owed exactly once per true on-connect: a property of the monitor alone -/

def isConnTrue (r : Role) : Ev → Bool
  | .cb r' .connect c _ => r' == r && codeTruthy c
  | _ => false

def isRelease (r : Role) : Ev → Bool
  | .cb r' .release _ _ => r' == r
  | _ => false

/-- 1 while an on-release of role r is owed -/
def owed (r : Role) : Q → Nat
  | .conn r' => if r' = r then 1 else 0
  | _ => 0

theorem step_counts (r : Role) (q q' : Q) (e : Ev) (h : step q e = some q') :
    (if isConnTrue r e then 1 else 0) + owed r q = (if isRelease r e then 1 else 0) + owed r q' := by
  cases e with
  | call s a => rw [step_neutral q _ rfl] at h; cases h; rfl
  | sleep => rw [step_neutral q _ rfl] at h; cases h; rfl
  | term b => cases q <;> simp [step, stepIdle] at h <;> subst h <;> rfl
  | cb r' k c d =>
    -- only a true on-connect of `r` enters `.conn r` (both sides gain 1) and only its on-release leaves it
    -- (both sides lose the 1 owed); every other legal transition has neither event and keeps `owed`
    cases hct : codeTruthy c <;> cases k <;> cases q <;> simp [step, stepIdle, hct] at h <;>
      (first | (obtain ⟨hc, rfl⟩ := h) | subst h) <;>
      cases r <;> cases r' <;> simp_all [isConnTrue, isRelease, owed]

theorem runFrom_counts (r : Role) (l : List Ev) (q q' : Q) (h : runFrom q l = some q') :
    l.countP (isConnTrue r) + owed r q = l.countP (isRelease r) + owed r q' := by
  induction l generalizing q with
  | nil => simp [runFrom] at h; subst h; simp
  | cons e rest ih =>
    simp only [runFrom] at h
    cases hs : step q e with
    | none => simp [hs] at h
    | some q1 =>
      simp only [hs, Option.bind_some] at h
      have h1 := step_counts r q q1 e hs
      have h2 := ih q1 h
      simp only [List.countP_cons]
      by_cases hc : isConnTrue r e = true <;> by_cases hr : isRelease r e = true <;>
        simp only [hc, hr, if_true, if_false, Bool.false_eq_true] at h1 ⊢ <;> omega

end NfcVerif.Clf
