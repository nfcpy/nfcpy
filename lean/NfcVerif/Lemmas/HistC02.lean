import NfcVerif.Lemmas.HistC01R
/-!
# C02: cut safety over histories of assignments with faults (Type 1 / Type 2, repaired memory reader)

`Model/HistC01.lean` (`syncUnitsR`, `writeFromR`, `historyR`) is the memory reader with the repair of
`t12-empty-after-unacknowledged-length-write` (the unit of a write command that did not return is sent again).
This file proves what a FRESH reader sees on the tag after any history of attempts, each aborted at any
state-changing command by a fault of either kind (not executed / executed but unacknowledged) or completed:
the message found at activation, an empty message, or the complete message of one of the attempts.

Key step (`syncR_prefix`, from `syncR_threshold`): whatever the fault, the tag content after a `synchronize()` is the
content before it with a PREFIX of `diffUnits tag cache` applied - units the reader only believes to differ (or resends
because they are unconfirmed) do not change the tag.  An assignment is a list of such calls (`syncsR_prefix`), so the
tag holds a cut of the write a reader that knows the tag content would make: `WriteSpec.cut` (`Lemmas/TlvSync.lean`).
-/
namespace NfcVerif.Hist
open NfcVerif NfcVerif.Tlv

/-- the first `j` units of a write-back are a prefix of it -/
theorem filterMap_range_prefix {α} (f : Nat → Option α) (j N : Nat) (h : j ≤ N) :
    ∃ k, ((List.range N).filterMap f).take k = (List.range j).filterMap f := by
  refine ⟨((List.range j).filterMap f).length, ?_⟩
  obtain ⟨d, rfl⟩ := Nat.exists_eq_add_of_le h
  rw [List.range_add, List.filterMap_append, List.take_left']
  rfl

/-- **a `synchronize()` changes the tag by a prefix of the units in which tag and cache differ** - for every fault
position and kind, and also when unconfirmed units are sent again -/
theorem syncR_prefix (u : Nat) (hu : 0 < u) (st : RSR) (f : Option Fault) (n : Nat) (hl : LenR st n) (hs : UnitSync u st) :
    ∃ k, (syncR u st f).st.tag = apply st.tag ((diffUnits u st.tag st.cache).take k) := by
  obtain ⟨j, hj2, -, hj⟩ := syncR_threshold u hu st f n hl hs
  unfold diffUnits
  rw [hl.tag]
  obtain ⟨k, hk⟩ := filterMap_range_prefix (fun i =>
      if sliceN st.tag (i * u) (i * u + u) ≠ sliceN st.cache (i * u) (i * u + u)
      then some (i * u, sliceN st.cache (i * u) (i * u + u)) else none) j ((n + u - 1) / u) hj2
  refine ⟨k, ?_⟩
  rw [hk]
  apply List.ext_getElem?
  intro x
  rw [hj x]
  exact ((apply_diff_prefix u hu st.tag st.cache (by rw [hl.tag, hl.cache]) j).2 x).symm

theorem take_prefix_left {α} (a b : List α) (k : Nat) : ∃ k', a.take k = (a ++ b).take k' := by
  refine ⟨min k a.length, ?_⟩
  rw [List.take_append_of_le_length (Nat.min_le_right _ _)]
  by_cases h : k ≤ a.length
  · rw [Nat.min_eq_left h]
  · rw [Nat.min_eq_right (by omega), List.take_of_length_le (by omega), List.take_of_length_le (Nat.le_refl _)]

theorem take_prefix_right {α} (a b : List α) (k : Nat) : ∃ k', a ++ b.take k = (a ++ b).take k' := by
  refine ⟨a.length + k, ?_⟩
  rw [List.take_append, List.take_of_length_le (l := a) (by omega)]
  congr 2
  omega

/-- the commands of undisturbed write-backs that take the tag from `T` through the images `Cs` -/
def chain (u : Nat) : Bytes → List Bytes → List Cmd
  | _, [] => []
  | T, C :: Cs => diffUnits u T C ++ chain u C Cs

/-- whatever the fault, the `synchronize()` calls of an assignment change the tag by a prefix of those commands -/
theorem syncsR_prefix (u : Nat) (hu : 0 < u) (m : Bytes) (B : Nat) : ∀ (Cs : List Bytes) (st : RSR) (f : Option Fault),
    (∀ C ∈ Cs, C.length = m.length ∧ ∀ x, x < B → C[x]? = m[x]?) → InvR u m B st →
    ∃ k, (syncsR u Cs st f).st.tag = apply st.tag ((chain u st.tag Cs).take k)
  | [], st, f, _, _ => ⟨0, rfl⟩
  | C :: Cs, st, f, hC, hi => by
    have hi' := hi.withCache C (hC C List.mem_cons_self).1 (hC C List.mem_cons_self).2
    obtain ⟨i1, -, d1, -⟩ := syncR_step u hu m B _ f hi'
    obtain ⟨k1, q1⟩ := syncR_prefix u hu { st with cache := C } f m.length hi'.len hi'.sync
    obtain ⟨k2, q2⟩ := syncsR_prefix u hu m B Cs (syncR u { st with cache := C } f).st
      (syncR u { st with cache := C } f).fault (fun C' h => hC C' (List.mem_cons_of_mem _ h)) i1
    simp only [syncsR, chain]
    split
    · obtain ⟨k', hk'⟩ := take_prefix_left (diffUnits u st.tag C) (chain u C Cs) k1
      exact ⟨k', by rw [← hk']; exact q1⟩
    · rename_i hok
      obtain ⟨k', hk'⟩ := take_prefix_right (diffUnits u st.tag C) (chain u C Cs) k2
      refine ⟨k', ?_⟩
      rw [← hk', apply_append, apply_diff u hu st.tag C (by rw [hi.len.tag, (hC C List.mem_cons_self).1]), q2,
        d1 (by simpa using hok)]

/-- **one attempt, any fault**: whatever command of the assignment fails and however (or none), the tag afterwards
holds what it held before, or shows an empty message, or shows the complete new message - on every state a history
of attempts through the same object can reach (`InvR`).  The tag has executed a prefix of the commands a reader that
believes the tag content would send: a cut of a write (`WriteSpec.cut`). -/
theorem writeFromR_view (c : Cfg) (m : Bytes) (L : Layout) (data : Bytes) (st : RSR) (f : Option Fault)
    (hr : ReadsAs c m L) (hwf : WF c m L) (hcap : (data.length : Int) ≤ L.cap)
    (hi : InvR c.unit m (L.off + 1) st) :
    (writeFromR c L st data f).st.tag = st.tag
    ∨ ReadsAs c (writeFromR c L st data f).st.tag { L with ndef := [] }
    ∨ ReadsAs c (writeFromR c L st data f).st.tag { L with ndef := data } := by
  have hC : Head m L st.cache := ⟨hi.len.cache, hi.cache⟩
  obtain ⟨m1, m2, m3a, m3, w, hM⟩ := images c m L data st.cache hr hwf hcap hC
  obtain ⟨k, hk⟩ := syncsR_prefix c.unit hwf.2.1 m (L.off + 1) _ st f hM hi
  have hc : chain c.unit st.tag [m1, m2, m3a, m3] = (writeCmdsFrom c st.tag st.cache L data).cmds := by
    rw [writeCmdsFrom_eq w]; simp [chain]
  rw [writeFromR_eq w, hk, hc]
  rcases w.cut st.tag hr hwf ⟨hi.len.tag, hi.tag⟩ hC k with h | h | h
  · exact Or.inl h
  · exact Or.inr (Or.inl h)
  · rw [h]; exact Or.inr (Or.inr (w.reads_new hr hwf hC))

/-- the messages of a history whose assignment is not refused as oversize (only those send commands) -/
def sentMsgs (L : Layout) (hs : List (Bytes × Option Fault)) : List Bytes :=
  (hs.filter fun a => decide ((a.1.length : Int) ≤ L.cap)).map (·.1)

/-- messages of a Type 3 / Type 4 history that are not refused as oversize -/
def sentMsgs34 (cap : Int) (hs : List (Bytes × Option Fault)) : List Bytes :=
  (hs.filter fun x => decide ((x.1.length : Int) ≤ cap)).map (·.1)

theorem sentMsgs34_cons_sub (cap : Int) (x : Bytes × Option Fault) (rest : List (Bytes × Option Fault)) (y : Bytes)
    (h : y ∈ sentMsgs34 cap rest) : y ∈ sentMsgs34 cap (x :: rest) := by
  unfold sentMsgs34 at h ⊢
  rw [List.filter_cons]
  split
  · exact List.mem_cons_of_mem _ h
  · exact h

theorem sentMsgs34_head (cap : Int) (d : Bytes) (f : Option Fault) (rest : List (Bytes × Option Fault))
    (h : (d.length : Int) ≤ cap) : d ∈ sentMsgs34 cap ((d, f) :: rest) := by
  unfold sentMsgs34
  rw [List.filter_cons, if_pos (by simpa using h)]
  exact List.mem_cons_self

theorem attemptR_view (c : Cfg) (m : Bytes) (L : Layout) (data : Bytes) (st : RSR) (f : Option Fault)
    (hr : ReadsAs c m L) (hwf : WF c m L) (hi : InvR c.unit m (L.off + 1) st) :
    (attemptR c L st data f).st.tag = st.tag
    ∨ ReadsAs c (attemptR c L st data f).st.tag { L with ndef := [] }
    ∨ ((data.length : Int) ≤ L.cap ∧ ReadsAs c (attemptR c L st data f).st.tag { L with ndef := data }) := by
  unfold attemptR
  split
  · exact Or.inl rfl
  · split
    · exact Or.inl rfl
    · rename_i hc
      rcases writeFromR_view c m L data st f hr hwf (by omega) hi with h | h | h
      · exact Or.inl h
      · exact Or.inr (Or.inl h)
      · exact Or.inr (Or.inr ⟨by omega, h⟩)

/-- **cut safety over histories**: after any list of attempts through one object - each completed or aborted at any
command by a fault of either kind - the tag holds what it held before, or shows an empty message, or shows the
complete message of one of the attempts -/
theorem historyR_view (c : Cfg) (m : Bytes) (L : Layout) (hr : ReadsAs c m L) (hwf : WF c m L)
    (hs : List (Bytes × Option Fault)) (st : RSR) (hi : InvR c.unit m (L.off + 1) st) :
    (historyR c L st hs).1.tag = st.tag
    ∨ ∃ x, (x = [] ∨ x ∈ sentMsgs L hs) ∧ ReadsAs c (historyR c L st hs).1.tag { L with ndef := x } := by
  induction hs generalizing st with
  | nil => exact Or.inl rfl
  | cons a rest ih =>
    obtain ⟨d, f⟩ := a
    simp only [historyR]
    rcases ih _ (attemptR_spec c m L d st f hr hwf hi).1 with h | ⟨x, hx, h⟩
    · rw [h]
      rcases attemptR_view c m L d st f hr hwf hi with e | e | ⟨hc, e⟩
      · exact Or.inl e
      · exact Or.inr ⟨[], Or.inl rfl, e⟩
      -- `sentMsgs L hs` is `sentMsgs34 L.cap hs` by definition: the two membership lemmas are stated for the latter
      · exact Or.inr ⟨d, Or.inr (sentMsgs34_head L.cap d f rest hc), e⟩
    · rcases hx with hx | hx
      · exact Or.inr ⟨x, Or.inl hx, h⟩
      · exact Or.inr ⟨x, Or.inr (sentMsgs34_cons_sub L.cap _ rest x hx), h⟩

/-! ## a fault is a cut: the commands of a disturbed attempt are a prefix of the undisturbed attempt's -/

theorem syncUnitsR_tag_apply (u : Nat) (is : List Nat) : ∀ (st : RSR) (f : Option Fault),
    (syncUnitsR u is st f).st.tag = apply st.tag (syncUnitsR u is st f).cmds := by
  induction is with
  | nil => intro st f; rfl
  | cons i is ih =>
    intro st f
    by_cases hne : sliceN st.cache (i * u) (i * u + u) ≠ sliceN st.belief (i * u) (i * u + u) ∨ i ∈ st.dirty
    · rcases f with _ | ⟨k, late⟩
      · simp only [syncUnitsR, if_pos hne, Option.map_none]
        rw [ih]; simp [apply]
      · cases k with
        | zero =>
          simp only [syncUnitsR, if_pos hne]
          cases late <;> simp [apply]
        | succ k =>
          simp only [syncUnitsR, if_pos hne, Option.map_some]
          rw [ih]; simp [apply]
    · simp only [syncUnitsR, if_neg hne]
      exact ih st f

/-- a fault on command `k` of a write-back: the commands of the undisturbed write-back up to the failing one
(included when the tag executes it); when the write-back has fewer commands it runs undisturbed and hands the fault on -/
theorem syncUnitsR_fault (u : Nat) (is : List Nat) : ∀ (st : RSR) (k : Nat) (late : Bool),
    (k < (syncUnitsR u is st none).cmds.length →
      (syncUnitsR u is st (some ⟨k, late⟩)).cmds = (syncUnitsR u is st none).cmds.take (k + late.toNat) ∧
      (syncUnitsR u is st (some ⟨k, late⟩)).failed = true) ∧
    ((syncUnitsR u is st none).cmds.length ≤ k →
      syncUnitsR u is st (some ⟨k, late⟩) =
        ⟨(syncUnitsR u is st none).st, (syncUnitsR u is st none).cmds,
          some ⟨k - (syncUnitsR u is st none).cmds.length, late⟩, false⟩) := by
  induction is with
  | nil =>
    intro st k late
    simp [syncUnitsR]
  | cons i is ih =>
    intro st k late
    by_cases hne : sliceN st.cache (i * u) (i * u + u) ≠ sliceN st.belief (i * u) (i * u + u) ∨ i ∈ st.dirty
    · cases k with
      | zero =>
        simp only [syncUnitsR, if_pos hne, Option.map_none]
        constructor
        · intro _
          cases late <;> simp
        · intro h; simp at h
      | succ k =>
        simp only [syncUnitsR, if_pos hne, Option.map_none, Option.map_some, Nat.add_sub_cancel]
        obtain ⟨h1, h2⟩ := ih
          { tag := writeAt st.tag (i * u) (sliceN st.cache (i * u) (i * u + u)),
            belief := writeAt st.belief (i * u) (sliceN st.cache (i * u) (i * u + u)),
            cache := st.cache, dirty := st.dirty.filter (· ≠ i) } k late
        constructor
        · intro hk
          simp only [List.length_cons] at hk
          obtain ⟨e1, e2⟩ := h1 (by omega)
          rw [e1, e2]
          refine ⟨?_, rfl⟩
          rw [show k + 1 + late.toNat = (k + late.toNat) + 1 by omega, List.take_succ_cons]
        · intro hk
          simp only [List.length_cons] at hk
          rw [h2 (by omega)]
          simp only [List.length_cons, Nat.add_sub_add_right]
    · simp only [syncUnitsR, if_neg hne]
      exact ih st k late

theorem syncR_tag_apply (u : Nat) (st : RSR) (f : Option Fault) :
    (syncR u st f).st.tag = apply st.tag (syncR u st f).cmds := syncUnitsR_tag_apply u _ st f

theorem syncR_fault (u : Nat) (st : RSR) (k : Nat) (late : Bool) :
    (k < (syncR u st none).cmds.length →
      (syncR u st (some ⟨k, late⟩)).cmds = (syncR u st none).cmds.take (k + late.toNat) ∧
      (syncR u st (some ⟨k, late⟩)).failed = true) ∧
    ((syncR u st none).cmds.length ≤ k →
      syncR u st (some ⟨k, late⟩) =
        ⟨(syncR u st none).st, (syncR u st none).cmds, some ⟨k - (syncR u st none).cmds.length, late⟩, false⟩) :=
  syncUnitsR_fault u _ st k late

/-- **a fault is a cut**: the commands the tag executes during an assignment with a fault on command `k` are the first
`k` commands of the undisturbed assignment (`k + 1` when the tag executes the failing command) -/
theorem syncsR_fault (u : Nat) (late : Bool) : ∀ (Cs : List Bytes) (st : RSR) (k : Nat),
    (syncsR u Cs st (some ⟨k, late⟩)).cmds = (syncsR u Cs st none).cmds.take (k + late.toNat)
  | [], st, k => by simp [syncsR]
  | C :: Cs, st, k => by
    have n1 := syncR_none u { st with cache := C }
    have f1 := syncR_fault u { st with cache := C } k late
    simp only [syncsR]
    generalize syncR u { st with cache := C } none = N at n1 f1 ⊢
    simp only [n1.1, n1.2, Bool.false_eq_true, if_false]
    rcases Nat.lt_or_ge k N.cmds.length with h | h
    · obtain ⟨e1, e2⟩ := f1.1 h
      rw [e2]
      simp only [if_true]
      rw [e1, List.take_append_of_le_length (by cases late <;> simp <;> omega)]
    · rw [f1.2 h]
      simp only [Bool.false_eq_true, if_false]
      rw [syncsR_fault u late Cs N.st (k - N.cmds.length), List.take_append, List.take_of_length_le (l := N.cmds) (by omega)]
      congr 2
      omega

theorem syncsR_tag_apply (u : Nat) : ∀ (Cs : List Bytes) (st : RSR) (f : Option Fault),
    (syncsR u Cs st f).st.tag = apply st.tag (syncsR u Cs st f).cmds
  | [], st, f => rfl
  | C :: Cs, st, f => by
    have a1 := syncR_tag_apply u { st with cache := C } f
    simp only [syncsR]
    split
    · exact a1
    · rw [apply_append, ← a1]
      exact syncsR_tag_apply u Cs _ _

/-- **a fault is a cut**, on every state a history can reach: the tag executes the recorded commands, and those of an
assignment disturbed at command `k` are the first `k` of the undisturbed one (`k + 1` when the tag executes it) -/
theorem writeFromR_cut (c : Cfg) (m : Bytes) (L : Layout) (data : Bytes) (st : RSR) (hr : ReadsAs c m L) (hwf : WF c m L)
    (hcap : (data.length : Int) ≤ L.cap) (hi : InvR c.unit m (L.off + 1) st) :
    (∀ f, (writeFromR c L st data f).st.tag = apply st.tag (writeFromR c L st data f).cmds) ∧
    ∀ k late, (writeFromR c L st data (some ⟨k, late⟩)).cmds
      = (writeFromR c L st data none).cmds.take (k + late.toNat) := by
  obtain ⟨m1, m2, m3a, m3, w, -⟩ := images c m L data st.cache hr hwf hcap ⟨hi.len.cache, hi.cache⟩
  simp only [writeFromR_eq w]
  exact ⟨syncsR_tag_apply c.unit _ _, fun k late => syncsR_fault c.unit late _ _ k⟩

end NfcVerif.Hist
