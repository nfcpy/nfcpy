import NfcVerif.Lemmas.PduRun
/-!
# The decoder agrees with the independent reading `Spec.decode` of the frame formats,
for every octet string

Rests on `Lemmas/PduRun.lean` and what that imports: `toOpt`, `tlvOf`, `paramDecode_param` are in
`Lemmas/PduParam.lean`, `run`, `specStep`, `run_param`, `agfLoop_step` in `Lemmas/PduRun.lean`.  Here: the loop against
`Spec.params` (`run_spec`), what each class keeps of a parameter list (`*Fold`, the `lastSome` lemmas), the class
decoders against `Spec.decodeS` (`nested_refines`), the aggregate and `decode_refines`.
-/
namespace NfcVerif.Pdu
open NfcVerif

/-- PDU types whose information field is not a parameter list and not an aggregate -/
def plainType (t : Nat) : Prop :=
  t = 0 ∨ t = 3 ∨ t = 5 ∨ t = 7 ∨ t = 8 ∨ t = 11 ∨ t = 12 ∨ t = 13 ∨ t = 14 ∨ t = 15

namespace Impl

theorem params_nil (n : Nat) : Spec.params n [] = some [] := by cases n <;> rfl
theorem params_single (n x : Nat) : Spec.params n [x] = some [] := by cases n <;> rfl
theorem params_cons (k t l : Nat) (rest : Bytes) :
    Spec.params (k + 1) (t :: l :: rest) =
      if rest.length < l then none else
      match Spec.param t (rest.take l), Spec.params k (rest.drop l) with
      | some p, some ps => some (p :: ps)
      | _, _ => none := rfl

theorem run_single {σ : Type} (app : σ → Nat → TlvV → σ) (x : Nat) (st : σ) : run app [x] st = .ok st := by
  unfold run; exact tlvLoop_done (by simp)

theorem run_error {σ : Type} (app : σ → Nat → TlvV → σ) (t l : Nat) (rest : Bytes) (st : σ) (e : Exc)
    (h : paramDecode (t :: l :: rest) 0 = .error e) : run app (t :: l :: rest) st = .error e := by
  unfold run
  have hlen : (t :: l :: rest).length = (rest.length + 1) + 1 := by simp
  rw [hlen, tlvLoop_succ (by omega), h]
  rfl

theorem run_spec {σ : Type} (app : σ → Nat → TlvV → σ) (n : Nat) (info : Bytes) (st : σ) (hn : info.length ≤ n) :
    toOpt (run app info st) = (Spec.params n info).map (fun ps => ps.foldl (specStep app) st) := by
  induction n generalizing info st with
  | zero =>
    have : info = [] := List.eq_nil_of_length_eq_zero (Nat.le_zero.mp hn)
    subst this
    simp [run_nil, params_nil]
  | succ k ih =>
    match info, hn with
    | [], _ => simp [run_nil, params_nil]
    | [x], _ => simp [run_single, params_single]
    | t :: l :: rest, hn =>
      rw [params_cons]
      have hd := paramDecode_param (t :: l :: rest) 0
      rw [paramRaw_cons] at hd
      by_cases hl : rest.length < l
      · rw [if_pos hl] at hd
        rw [run_error app t l rest st _ hd, if_pos hl]; rfl
      · rw [if_neg hl] at hd ⊢
        simp only [Py.bind_ok] at hd
        cases hp : Spec.param t (rest.take l) with
        | none =>
          rw [hp] at hd
          rw [run_error app t l rest st _ hd]; rfl
        | some p =>
          have e1 : rest = rest.take l ++ rest.drop l := (List.take_append_drop l rest).symm
          have e2 : (rest.take l).length = l := by simp; omega
          have hrun := run_param app hp (rest.drop l) st
          rw [e2, ← e1] at hrun
          rw [hrun, ih (rest.drop l) _ (by simp at hn ⊢; omega)]
          cases Spec.params k (rest.drop l) <;> rfl

/-- `match o with | some v => h v | none => d` as a named function -/
def orElse {α β : Type} (o : Option α) (h : α → β) (d : β) : β :=
  match o with
  | some v => h v
  | none => d

theorem lastSome_eq {α : Type} (f : Spec.Param → Option α) (ps : List Spec.Param) :
    Spec.lastSome f ps = ps.foldl (fun acc p => orElse (f p) some acc) none := by
  unfold Spec.lastSome
  congr 1

/-- the last occurrence wins, whatever the start value -/
theorem foldl_orElse {α β : Type} (f : Spec.Param → Option α) (h : α → β) (d : β) (ps : List Spec.Param) :
    ps.foldl (fun b p => orElse (f p) h b) d = orElse (Spec.lastSome f ps) h d := by
  rw [lastSome_eq]
  have gen : ∀ (ps : List Spec.Param) (b : β) (a : Option α), b = orElse a h d →
      ps.foldl (fun b p => orElse (f p) h b) b = orElse (ps.foldl (fun acc p => orElse (f p) some acc) a) h d := by
    intro ps
    induction ps with
    | nil => intro b a hb; exact hb
    | cons p ps ih =>
      intro b a hb
      simp only [List.foldl_cons]
      apply ih
      rw [hb]
      cases f p <;> rfl
  exact gen ps d none rfl

/-- the last occurrence wins: a parameter list put together from pieces is searched from the back -/
theorem lastSome_append {α : Type} (f : Spec.Param → Option α) (P Q : List Spec.Param) :
    Spec.lastSome f (P ++ Q) = (Spec.lastSome f Q).or (Spec.lastSome f P) := by
  rw [lastSome_eq, List.foldl_append, ← lastSome_eq, foldl_orElse]
  cases Spec.lastSome f Q <;> rfl

theorem lastSome_nil {α : Type} (f : Spec.Param → Option α) : Spec.lastSome f [] = none := rfl

theorem lastSome_single {α : Type} (f : Spec.Param → Option α) (p : Spec.Param) : Spec.lastSome f [p] = f p := by
  show (match f p with | some v => some v | none => none) = f p
  cases f p <;> rfl

theorem lastSome_opt {α β : Type} (f : Spec.Param → Option α) (val : β → Spec.Param) (o : Option β) :
    Spec.lastSome f (o.toList.map val) = o.bind fun x => f (val x) := by
  cases o
  · rfl
  · exact lastSome_single f _

theorem lastSome_ite {α : Type} (f : Spec.Param → Option α) (c : Prop) [Decidable c] (P Q : List Spec.Param) :
    Spec.lastSome f (if c then P else Q) = if c then Spec.lastSome f P else Spec.lastSome f Q := by
  split <;> rfl

theorem foldl_snoc {α : Type} (f : Spec.Param → Option α) (l : List α) (ps : List Spec.Param) :
    ps.foldl (fun l p => orElse (f p) (fun v => l ++ [v]) l) l = l ++ ps.filterMap f := by
  induction ps generalizing l with
  | nil => simp
  | cons p ps ih =>
    simp only [List.foldl_cons, List.filterMap_cons, ih]
    cases f p <;> simp [orElse]

theorem orElse_some {α : Type} (o : Option α) : orElse o some none = o := by cases o <;> rfl

theorem paxApp_raw (s : PaxSt) (t : Nat) (v : Bytes) : paxApp s t (.raw v) = s := by
  unfold paxApp; split <;> first | rfl | contradiction
theorem paxApp_sdreq (s : PaxSt) (t a : Nat) (v : Bytes) : paxApp s t (.sdreq a v) = s := by
  unfold paxApp; split <;> first | rfl | contradiction
theorem paxApp_sdres (s : PaxSt) (t a b : Nat) : paxApp s t (.sdres a b) = s := by
  unfold paxApp; split <;> first | rfl | contradiction

theorem connApp_other (s : ConnSt) (t : Nat) (v : Bytes) (h : t ≠ 6) : connApp s t (.raw v) = s := by
  unfold connApp; split <;> first | rfl | contradiction
theorem ccApp_raw (s : ConnSt) (t : Nat) (v : Bytes) : ccApp s t (.raw v) = s := by
  unfold ccApp; split <;> first | rfl | contradiction
theorem snlApp_raw (s : SnlSt) (t : Nat) (v : Bytes) : snlApp s t (.raw v) = s := by
  unfold snlApp; split <;> first | rfl | contradiction
theorem dpsApp_other (s : DpsSt) (t : Nat) (v : Bytes) (h : t ≠ 10) (h' : t ≠ 11) : dpsApp s t (.raw v) = s := by
  unfold dpsApp; split <;> first | rfl | contradiction

theorem other_ne (t k : Nat) (hk : 1 ≤ k ∧ k ≤ 11) : (if 1 ≤ t ∧ t ≤ 11 then 0 else t) ≠ k := by
  split <;> omega

/-! Each class decoder folds every field separately; the parameter types it does not know leave the state alone. -/

theorem paxFold (ps : List Spec.Param) (st : PaxSt) :
    ps.foldl (specStep paxApp) st =
      { version := ps.foldl (fun b p => orElse p.getVersion some b) st.version
        miux := ps.foldl (fun b p => orElse p.getMiux some b) st.miux
        wks := ps.foldl (fun b p => orElse p.getWks some b) st.wks
        lto := ps.foldl (fun b p => orElse p.getLto some b) st.lto
        opt := ps.foldl (fun b p => orElse p.getOpt some b) st.opt } := by
  induction ps generalizing st with
  | nil => rfl
  | cons p ps ih =>
    simp only [List.foldl_cons, ih]
    cases p with
    | other t v => simp only [specStep, tlvOf, paxApp_raw]; rfl
    | _ => rfl

theorem connFold (ps : List Spec.Param) (st : ConnSt) :
    ps.foldl (specStep connApp) st =
      { miu := ps.foldl (fun b p => orElse p.getMiux (fun v => 128 + v) b) st.miu
        rw := ps.foldl (fun b p => orElse p.getRw id b) st.rw
        sn := ps.foldl (fun b p => orElse p.getSn some b) st.sn } := by
  induction ps generalizing st with
  | nil => rfl
  | cons p ps ih =>
    simp only [List.foldl_cons, ih]
    cases p with
    | other t v => simp only [specStep, tlvOf, connApp_other _ _ _ (other_ne _ 6 (by omega))]; rfl
    | _ => rfl

theorem ccFold (ps : List Spec.Param) (st : ConnSt) :
    ps.foldl (specStep ccApp) st =
      { st with miu := ps.foldl (fun b p => orElse p.getMiux (fun v => 128 + v) b) st.miu
                rw := ps.foldl (fun b p => orElse p.getRw id b) st.rw } := by
  induction ps generalizing st with
  | nil => rfl
  | cons p ps ih =>
    simp only [List.foldl_cons, ih]
    cases p with
    | other t v => simp only [specStep, tlvOf, ccApp_raw]; rfl
    | _ => rfl

theorem snlFold (ps : List Spec.Param) (st : SnlSt) :
    ps.foldl (specStep snlApp) st =
      { sdreq := ps.foldl (fun l p => orElse p.getSdreq (fun v => l ++ [v]) l) st.sdreq
        sdres := ps.foldl (fun l p => orElse p.getSdres (fun v => l ++ [v]) l) st.sdres } := by
  induction ps generalizing st with
  | nil => rfl
  | cons p ps ih =>
    simp only [List.foldl_cons, ih]
    cases p with
    | other t v => simp only [specStep, tlvOf, snlApp_raw]; rfl
    | _ => rfl

theorem dpsFold (ps : List Spec.Param) (st : DpsSt) :
    ps.foldl (specStep dpsApp) st =
      { ecpk := ps.foldl (fun b p => orElse p.getEcpk some b) st.ecpk
        rn := ps.foldl (fun b p => orElse p.getRn some b) st.rn } := by
  induction ps generalizing st with
  | nil => rfl
  | cons p ps ih =>
    simp only [List.foldl_cons, ih]
    cases p with
    | other t v =>
      simp only [specStep, tlvOf, dpsApp_other _ _ _ (other_ne _ 10 (by omega)) (other_ne _ 11 (by omega))]; rfl
    | _ => rfl

theorem decodePre_cons2 (b0 b1 : Nat) (info : Bytes) (h1 : b1 < 256) :
    decodePre (b0 :: b1 :: info) 0 (info.length + 2) = .ok (b0 :: b1 :: info, (b0 % 4) * 4 + b1 / 64) := by
  unfold decodePre
  have c1 : ¬ (0 + (info.length + 2) > (b0 :: b1 :: info).length) := by simp
  have c2 : ¬ (info.length + 2 < 2) := by omega
  have e : (b0 * 256 + b1) / 64 % 16 = (b0 % 4) * 4 + b1 / 64 := by omega
  have sl : sliceN (b0 :: b1 :: info) 0 (0 + (info.length + 2)) = b0 :: b1 :: info := by
    simpa using sliceN_all (b0 :: b1 :: info)
  simp only [c1, c2, if_false, sl]
  simp [unpackH, e]

theorem decodeHeader_cons2 (b0 b1 : Nat) (info : Bytes) :
    decodeHeader (b0 :: b1 :: info) 0 (info.length + 2) = .ok (b0 / 4, b1 % 64) := by
  simp [decodeHeader, unpackBB]

/-- the two header octets `DSAP(6) PTYPE(4) SSAP(6)` -/
def hdr (t d s : Nat) : Bytes := [d * 4 + t / 4, t % 4 * 64 + s]

theorem decodeHeader_hdr {t d s : Nat} (ht : t ≤ 15) (hs : s ≤ 63) (body : Bytes) (n : Nat) :
    decodeHeader (hdr t d s ++ body) 0 (2 + n) = .ok (d, s) := by
  unfold decodeHeader
  have c : ¬ (2 + n < 2) := by omega
  have h1 : (d * 4 + t / 4) / 4 = d := by omega
  have h2 : (t % 4 * 64 + s) % 64 = s := by omega
  simp [c, hdr, unpackBB, h1, h2]

theorem getD_orElse (o : Option Nat) (d : Nat) : o.getD d = orElse o id d := by cases o <;> rfl
theorem add_getD_orElse (o : Option Nat) : 128 + o.getD 0 = orElse o (fun v => 128 + v) 128 := by cases o <;> rfl

/-- the TLV loop of a class decoder against the parameter list of the format reading -/
theorem tlvLoop_spec {σ : Type} (app : σ → Nat → TlvV → σ) (mk : σ → SPdu) (b0 b1 : Nat) (info : Bytes) (st : σ) :
    toOpt (tlvLoop app (info.length + 2 - 2) (b0 :: b1 :: info) (0 + 2) (info.length + 2 - 2) st >>= fun st =>
      pure (mk st)) = (Spec.params info.length info).map fun ps => mk (ps.foldl (specStep app) st) := by
  rw [show info.length + 2 - 2 = info.length by omega, toOpt_bind,
    show tlvLoop app info.length (b0 :: b1 :: info) (0 + 2) info.length st = run app info st from
      tlvLoop_shift app info.length [b0, b1] info 0 info.length st,
    run_spec app info.length info st (Nat.le_refl _)]
  cases Spec.params info.length info <;> rfl

theorem lt16_cases {t : Nat} (h : t < 16) :
    t = 0 ∨ t = 1 ∨ t = 2 ∨ t = 3 ∨ t = 4 ∨ t = 5 ∨ t = 6 ∨ t = 7 ∨ t = 8 ∨ t = 9 ∨ t = 10 ∨ t = 11 ∨ t = 12 ∨
      t = 13 ∨ t = 14 ∨ t = 15 := by omega

theorem nested_refines (b0 b1 : Nat) (info : Bytes) (h1 : b1 < 256) :
    toOpt (decodeNested (b0 :: b1 :: info) 0 (info.length + 2)) = Spec.decodeS (b0 :: b1 :: info) := by
  unfold decodeNested
  rw [decodePre_cons2 b0 b1 info h1]
  simp only [Py.bind_ok]
  have hdrE := decodeHeader_cons2 b0 b1 info
  rcases lt16_cases (show (b0 % 4) * 4 + b1 / 64 < 16 by omega) with
    hp | hp | hp | hp | hp | hp | hp | hp | hp | hp | hp | hp | hp | hp | hp | hp
  all_goals simp only [hp, kindOf, Spec.decodeS]
  · -- SYMM
    simp only [decSymm, hdrE, Py.bind_ok]
    rcases info with _ | ⟨x, xs⟩ <;> by_cases c1 : b0 / 4 = 0 <;> by_cases c2 : b1 % 64 = 0 <;> simp [c1, c2]
  · -- PAX
    simp only [decPax, hdrE, Py.bind_ok]
    by_cases c : b0 / 4 = 0 ∧ b1 % 64 = 0
    · rw [if_neg (by omega), if_pos c, tlvLoop_spec paxApp, c.1, c.2]
      simp only [paxFold, foldl_orElse, orElse_some]
    · rw [if_pos (by omega), if_neg c]; rfl
  · -- AGF inside an aggregate is refused
    rfl
  · -- UI
    simp [decUi, hdrE, sliceN]
  · -- CONNECT
    simp only [decConnect, hdrE, Py.bind_ok]
    rw [tlvLoop_spec connApp]
    simp only [connFold, foldl_orElse, orElse_some, add_getD_orElse]
    simp only [getD_orElse]
  · -- DISC
    simp [decDisc, hdrE]
  · -- CC
    simp only [decCc, hdrE, Py.bind_ok]
    rw [tlvLoop_spec ccApp]
    simp only [ccFold, foldl_orElse, add_getD_orElse]
    simp only [getD_orElse]
  · -- DM
    rcases info with _ | ⟨r, _ | ⟨x, xs⟩⟩ <;> simp [decDm, decodeHeader, unpackBB, unpackB]
  · -- FRMR
    rcases info with _ | ⟨x0, _ | ⟨x1, _ | ⟨x2, _ | ⟨x3, _ | ⟨x4, xs⟩⟩⟩⟩⟩ <;>
      simp [decFrmr, decodeHeader, unpackBB, unpackBBBB]
  · -- SNL
    simp only [decSnl, hdrE, Py.bind_ok]
    by_cases c : b0 / 4 = 1 ∧ b1 % 64 = 1
    · rw [if_neg (by omega), if_pos c, tlvLoop_spec snlApp, c.1, c.2]
      simp only [snlFold, foldl_snoc, List.nil_append]
    · rw [if_pos (by omega), if_neg c]; rfl
  · -- DPS
    simp only [decDps, hdrE, Py.bind_ok]
    by_cases c : b0 / 4 = 0 ∧ b1 % 64 = 0
    · rw [if_neg (by omega), if_pos c, tlvLoop_spec dpsApp, c.1, c.2]
      simp only [dpsFold, foldl_orElse, orElse_some]
    · rw [if_pos (by omega), if_neg c]; rfl
  · -- unknown 1011
    have e : (b0 * 4 + b1 / 64) % 16 = 11 := by omega
    simp [decUnknown, hdrE, idxN, sliceN, e]
  · -- I
    rcases info with _ | ⟨sq, sdu⟩
    · simp [decInfo, decodeHeaderN]
    · have c : ¬ (sdu.length + 1 + 2 < 3) := by omega
      simp [decInfo, decodeHeaderN, unpackBBB, sliceN, c]
  · -- RR
    rcases info with _ | ⟨sq, sdu⟩
    · simp [decRr, decodeHeaderN]
    · have c : ¬ (sdu.length + 1 + 2 < 3) := by omega
      simp [decRr, decodeHeaderN, unpackBBB, c]
  · -- RNR
    rcases info with _ | ⟨sq, sdu⟩
    · simp [decRnr, decodeHeaderN]
    · have c : ¬ (sdu.length + 1 + 2 < 3) := by omega
      simp [decRnr, decodeHeaderN, unpackBBB, c]
  · -- unknown 1111
    have e : (b0 * 4 + b1 / 64) % 16 = 15 := by omega
    simp [decUnknown, hdrE, idxN, sliceN, e]

theorem nested_refines' (e : Bytes) (he : IsBytes e) :
    toOpt (decodeNested e 0 e.length) = Spec.decodeS e := by
  match e, he with
  | [], _ => rfl
  | [_], _ => rfl
  | b0 :: b1 :: info, he => exact nested_refines b0 b1 info (he b1 (by simp))

theorem aggregate_nil (sub : Bytes → Option SPdu) (n : Nat) : Spec.aggregate sub n [] = some [] := by
  cases n <;> rfl
theorem aggregate_single (sub : Bytes → Option SPdu) (n x : Nat) : Spec.aggregate sub n [x] = none := by
  cases n <;> rfl
theorem aggregate_cons (sub : Bytes → Option SPdu) (k a b : Nat) (rest : Bytes) :
    Spec.aggregate sub (k + 1) (a :: b :: rest) =
      if rest.length < a * 256 + b then none else
      match sub (rest.take (a * 256 + b)), Spec.aggregate sub k (rest.drop (a * 256 + b)) with
      | some p, some ps => some (p :: ps)
      | _, _ => none := rfl

theorem agfLoop_spec (n : Nat) (info : Bytes) (acc : List SPdu) (hn : info.length ≤ n) (hb : IsBytes info) :
    toOpt (agfLoop n info 0 info.length acc) = (Spec.aggregate Spec.decodeS n info).map (fun ps => acc ++ ps) := by
  induction n generalizing info acc with
  | zero =>
    have : info = [] := List.eq_nil_of_length_eq_zero (Nat.le_zero.mp hn)
    subst this
    simp [agfLoop_done, aggregate_nil]
  | succ k ih =>
    match info, hn, hb with
    | [], _, _ => simp [agfLoop_done, aggregate_nil]
    | [x], _, _ =>
      rw [aggregate_single]
      have : agfLoop (k + 1) [x] 0 [x].length acc = .error .decodeError := by
        rw [agfLoop_succ (by simp)]
        simp [structToDecode, wrapExc, unpackH]
      rw [this]; rfl
    | a :: b :: rest, hn, hb =>
      rw [aggregate_cons]
      by_cases hl : rest.length < a * 256 + b
      · have c : 0 + 2 + (a * 256 + b) > (a :: b :: rest).length := by simp; omega
        have : decodeNested (a :: b :: rest) (0 + 2) (a * 256 + b) = .error .decodeError := by
          unfold decodeNested decodePre
          rw [if_pos c]; rfl
        rw [agfLoop_succ (by simp)]
        simp [structToDecode, wrapExc, unpackH, this, hl]
      · have hbr : IsBytes rest := fun x hx => hb x (by simp [hx])
        rw [if_neg hl, agfLoop_step k a b rest acc (by omega), toOpt_bind,
          nested_refines' _ (isBytes_take hbr _)]
        cases Spec.decodeS (rest.take (a * 256 + b)) with
        | none => rfl
        | some p =>
          rw [Option.bind_some, ih _ _ (by simp at hn ⊢; omega) (isBytes_drop hbr _)]
          cases Spec.aggregate Spec.decodeS k (rest.drop (a * 256 + b)) <;> simp

theorem kindOf_agf {t : Nat} (h : kindOf t = .agf) : t = 2 := by
  unfold kindOf at h
  split at h <;> first | rfl | cases h

/-- `decode` on an aggregate header is the loop over the information field -/
theorem decodeAt_agf (b0 b1 : Nat) (info : Bytes) (h1 : b1 < 256) (ht : b0 % 4 * 4 + b1 / 64 = 2) :
    decodeAt (b0 :: b1 :: info) 0 (info.length + 2) =
      if b0 / 4 ≠ 0 ∨ b1 % 64 ≠ 0 then throw .decodeError else
        agfLoop info.length info 0 info.length [] >>= fun items => pure (.agf (b0 / 4) (b1 % 64) items) := by
  unfold decodeAt
  rw [decodePre_cons2 b0 b1 info h1, ht]
  have hdrE := decodeHeader_cons2 b0 b1 info
  simp only [Py.bind_ok, show kindOf 2 = Kind.agf from rfl, decAgf, hdrE,
    show info.length + 2 - 2 = info.length by omega]
  rw [show agfLoop info.length (b0 :: b1 :: info) (0 + 2) info.length [] = agfLoop info.length info 0 info.length []
    from agfLoop_shift info.length [b0, b1] info 0 info.length []]

/-- for every octet string the decoder returns what the reading of the frame formats returns -/
theorem decode_refines (b : Bytes) (hb : IsBytes b) : toOpt (decode b) = Spec.decode b := by
  match b, hb with
  | [], _ => rfl
  | [_], _ => rfl
  | b0 :: b1 :: info, hb =>
    have h1 : b1 < 256 := hb b1 (by simp)
    change toOpt (decodeAt (b0 :: b1 :: info) 0 (info.length + 2)) = _
    by_cases ht : (b0 % 4) * 4 + b1 / 64 = 2
    · rw [decodeAt_agf b0 b1 info h1 ht]
      simp only [Spec.decode, ht, if_true]
      by_cases c : b0 / 4 = 0 ∧ b1 % 64 = 0
      · rw [if_neg (by omega), if_pos c, toOpt_bind,
          agfLoop_spec _ _ _ (Nat.le_refl _) fun x hx => hb x (by simp [hx]), c.1, c.2]
        cases Spec.aggregate Spec.decodeS info.length info <;> simp
      · rw [if_pos (by omega), if_neg c]; rfl
    · have hn := nested_refines b0 b1 info h1
      unfold decodeNested at hn
      unfold decodeAt
      rw [decodePre_cons2 b0 b1 info h1] at hn ⊢
      simp only [Py.bind_ok] at hn ⊢
      simp only [Spec.decode, ht, if_false]
      rw [← hn]
      cases hk : kindOf ((b0 % 4) * 4 + b1 / 64) with
      | agf => exact absurd (kindOf_agf hk) ht
      | simple dec =>
        simp only [toOpt_bind]
        cases dec (b0 :: b1 :: info) 0 (info.length + 2) <;> rfl

end Impl
end NfcVerif.Pdu
