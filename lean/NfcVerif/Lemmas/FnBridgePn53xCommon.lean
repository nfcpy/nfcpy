import NfcVerif.Model.HostFrame
import NfcVerif.Lemmas.FnBridgeBase
/-!
Lemmas about the prelude `PyFn.lean` shared by the driver-side bridge groups (`Props/FnBridge{Pn53x,Pn53xRf,Acr122,Rcs380,
Rcs380Rf,ErrMap,Udp}.lean`): `struct.pack("<I", ..)`, `bytearray([..])` displays that fail or carry the checksum
octet, `sum(..)`, octet reads, negative indices and slices in terms of the model's `HostFrame.sum` / `idxN` / `at0`, and
`struct.unpack("<I", ..)` as `HostFrame.unLe32`.  Literal arguments are in the form `((k : Nat) : Int)` that `lit_cast`
leaves behind, so that the lemmas fire after it; `delSlice_zero`, `sliceFrom_neg_two`, `band_255`, `idx_neg` are the
lemmas of `Lemmas/FnBridgeBase.lean` at such a literal.
-/
namespace NfcVerif.FnBridge.HostLink
open NfcVerif NfcVerif.PyFn NfcVerif.HostFrame

/-- `<I`: the four octets of `HostFrame.le32` -/
theorem packField_Ile (n : Nat) :
    packField .Ile (n : Int) = if n < 4294967296 then .ok (le32 n) else .error .struct := by
  rw [packField_Ile_nat]; simp [toLE, le32, Nat.div_div_eq_div_mul]

theorem pack_nil : pack [] [] = .ok [] := rfl
theorem mkBytes_nil : mkBytes [] = .ok [] := rfl

/-- a first element outside `range(256)` is a `ValueError`, whatever follows -/
theorem mkBytes_bad (x : Int) (xs : List Int) (h : x < 0 ∨ x > 255) : mkBytes (x :: xs) = .error .value := by
  rw [mkBytes]; simp [h]

/-- `bytearray([0xD4, cmd_code, ..])` with a command code outside `range(256)` -/
theorem mkBytes_code_bad (cmd : Int) (xs : List Int) (h : cmd < 0 ∨ cmd > 255) :
    mkBytes (212 :: cmd :: xs) = .error .value := by
  show mkBytes (((212 : Nat) : Int) :: cmd :: xs) = _
  rw [mkBytes_cons, if_pos (by decide), mkBytes_bad cmd xs h]; rfl

/-- `d and f(d[0])` -/
theorem first_octet {α} (b : Nat) (l : Bytes) (f : Int → Py α) (z : Py α) :
    (if b :: l ≠ [] then getB (b :: l) ((0 : Nat) : Int) >>= f else z) = f (b : Int) := by
  rw [if_pos (List.cons_ne_nil b l), getB_idxN]; rfl

theorem idxN_ge {α} {l : List α} {n : Nat} (h : l.length ≤ n) : idxN l n = .error .index :=
  NfcVerif.idxN_ge h

/-- `l[-k]` on a list with at least `k` elements -/
theorem idx_neg {l : Bytes} (k : Nat) (hk : 0 < k) (h : k ≤ l.length) :
    idx l (-((k : Nat) : Int)) = .ok (at0 l (l.length - k)) := by
  rw [idx_neg_idxN l k hk h, idxN_eq_at0 (by omega)]

/-- `del l[0:n]` -/
theorem delSlice_zero {α} (l : List α) (n : Nat) : delSlice l ((0 : Nat) : Int) (n : Int) = l.drop n :=
  delSlice_zero_cast l n

/-- `x[-2:]` of a string that ends in two known octets -/
theorem sliceFrom_neg_two (a b : Nat) (p : Bytes) : PyFn.sliceFrom (p ++ [a, b]) (-((2 : Nat) : Int)) = [a, b] :=
  sliceFrom_neg_append p [a, b] (Nat.succ_pos 1)

/-- `a & 0xFF` for every int (two's complement): the residue modulo 256 -/
theorem band_255 (a : Int) : band a ((255 : Nat) : Int) = a % 256 := band_mask 8 a

/-- `(256 - s) & 0xFF`, the checksum octet of the PN53x / RC-S380 frames -/
theorem band_256_sub (s : Nat) :
    band (((256 : Nat) : Int) - (s : Int)) ((255 : Nat) : Int) = (((256 - s % 256) % 256 : Nat) : Int) := by
  rw [band_255]; omega

/-- the checksum octet is an octet: the `bytearray([..])` display does not fail on it -/
theorem mkBytes_cksum (x : Bytes) (xs : List Int) :
    mkBytes (band (((256 : Nat) : Int) - PyFn.sum (ints x)) ((255 : Nat) : Int) :: xs)
      = (mkBytes xs >>= fun r => .ok ((256 - HostFrame.sum x % 256) % 256 :: r)) := by
  unfold HostFrame.sum
  rw [PyFn.sum_ints, band_256_sub, mkBytes_cons, if_pos (Nat.mod_lt _ (by decide))]

/-- the source's `(256 - sum(..)) & 0xFF` over the two length octets of an extended frame is the models'
`(512 - (a + b)) % 256`, in either octet order (PN53x `LENM LENL`, RC-S380 `LENL LENM`) -/
theorem cksum_pair (a b : Nat) (h : a + b ≤ 512) :
    (256 - HostFrame.sum [a, b] % 256) % 256 = (512 - (a + b)) % 256 := by
  have : HostFrame.sum [a, b] = a + b := by simp [HostFrame.sum]
  rw [this]; omega

/-- `x == len(frame) - k` on naturals -/
theorem cast_eq_sub (l n k : Nat) : ((l : Int) = (n : Int) - ((k : Nat) : Int)) = (l + k = n) := by
  apply propext; omega

theorem len4 {l : Bytes} (h : l.length = 4) : ∃ a b c d, l = [a, b, c, d] := by
  match l, h with
  | [a, b, c, d], _ => exact ⟨a, b, c, d, rfl⟩

/-- `struct.unpack("<I", x)[0]` on four octets (in the form `ule_nat` gives it) is the model's `HostFrame.unLe32` -/
theorem beNat_reverse_unLe32 {l : Bytes} (h : l.length = 4) : beNat l.reverse = unLe32 l := by
  obtain ⟨a, b, c, d, rfl⟩ := len4 h
  simp [beNat, unLe32]; omega

end NfcVerif.FnBridge.HostLink
