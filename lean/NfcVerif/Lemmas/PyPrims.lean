import NfcVerif.Lemmas.PyYields
/-!
What the sequence primitives of `Py.lean` do on natural and on negative arguments (Python's `l[i]`, `l[a:b]`
with `int` arguments, against the `List` functions), and that the list operations keep octet strings.
At the end what several regions need besides: a guard before a `Py` program, a list of known length written out.
-/
namespace NfcVerif

theorem isBytes_nil : IsBytes [] := nofun

theorem isBytes_cons_iff {a : Nat} {l : Bytes} : IsBytes (a :: l) ↔ a < 256 ∧ IsBytes l := by
  simp [IsBytes]

theorem isBytes_cons {a : Nat} {l : Bytes} (ha : a < 256) (hl : IsBytes l) : IsBytes (a :: l) :=
  isBytes_cons_iff.mpr ⟨ha, hl⟩

theorem isBytes_append {a b : Bytes} (ha : IsBytes a) (hb : IsBytes b) : IsBytes (a ++ b) :=
  fun x hx => (List.mem_append.mp hx).elim (ha x) (hb x)

theorem isBytes_take {l : Bytes} (h : IsBytes l) (n : Nat) : IsBytes (l.take n) :=
  fun b hb => h b (List.mem_of_mem_take hb)

theorem isBytes_drop {l : Bytes} (h : IsBytes l) (n : Nat) : IsBytes (l.drop n) :=
  fun b hb => h b (List.mem_of_mem_drop hb)

theorem isBytes_sliceN {l : Bytes} (h : IsBytes l) (a b : Nat) : IsBytes (sliceN l a b) :=
  isBytes_take (isBytes_drop h a) _

theorem idxN_mem {α} {l : List α} {i : Nat} {a : α} (h : idxN l i = .ok a) : a ∈ l := by
  unfold idxN at h
  split at h
  · cases h; exact List.mem_of_getElem? ‹_›
  · cases h

theorem idxN_ge {α} {l : List α} {n : Nat} (h : l.length ≤ n) : idxN l n = .error .index := by
  unfold idxN; simp [List.getElem?_eq_none h]

theorem idxN_error {α} {l : List α} {n : Nat} {e : Exc} (h : idxN l n = .error e) : e = .index := by
  unfold idxN at h
  split at h <;> cases h
  rfl

theorem idx_ofNat {α} (l : List α) (n : Nat) : idx l (n : Int) = idxN l n := by
  unfold idx idxN
  have h0 : ¬ ((n : Int) < 0) := by omega
  simp only [h0, if_false, false_or, Int.toNat_natCast]
  by_cases h : n < l.length
  · have : ¬ ((n : Int) ≥ (l.length : Int)) := by omega
    simp [this]
  · have : ((n : Int) ≥ (l.length : Int)) := by omega
    simp [this, List.getElem?_eq_none (by omega : l.length ≤ n)]

theorem clampBound_ofNat (n i : Nat) : clampBound n (i : Int) = min i n := by
  unfold clampBound
  have h0 : ¬ ((i : Int) < 0) := by omega
  simp only [h0, if_false]
  by_cases h : i ≤ n
  · have : ¬ ((i : Int) > (n : Int)) := by omega
    simp [this]; omega
  · have : ((i : Int) > (n : Int)) := by omega
    simp [this]; omega

theorem clampBound_neg (n k : Nat) (hk : 0 < k) : clampBound n (-(k : Int)) = n - k := by
  unfold clampBound
  have h0 : (-(k : Int) < 0) := by omega
  simp only [h0, if_true]
  by_cases h1 : -(k : Int) + (n : Int) < 0
  · rw [if_pos h1]; omega
  · rw [if_neg h1, if_neg (by omega)]; omega

theorem slice_cast {α} (l : List α) (a b : Nat) : slice l (a : Int) (b : Int) = (l.drop a).take (b - a) := by
  unfold slice
  simp only [clampBound_ofNat, ← List.drop_eq_drop_min]
  rw [List.take_eq_take_min (i := b - a), List.take_eq_take_min (i := min b l.length - min a l.length), List.length_drop]
  congr 1; omega

theorem slice_ofNat {α} (l : List α) (a b : Nat) : slice l (a : Int) (b : Int) = sliceN l a b := slice_cast l a b

theorem slice_zero_cast {α} (l : List α) (n : Nat) : slice l 0 (n : Int) = l.take n :=
  slice_cast l 0 n

theorem slice_neg {α} (l : List α) (j k : Nat) (hj : 0 < j) (hk : 0 < k) :
    slice l (-(j : Int)) (-(k : Int)) = sliceN l (l.length - j) (l.length - k) := by
  unfold slice sliceN; rw [clampBound_neg _ _ hj, clampBound_neg _ _ hk]

theorem slice_pos_neg {α} (l : List α) (j k : Nat) (hk : 0 < k) :
    slice l (j : Int) (-(k : Int)) = sliceN l (min j l.length) (l.length - k) := by
  unfold slice sliceN; rw [clampBound_ofNat, clampBound_neg _ _ hk]

theorem slice_zero_neg {α} (l : List α) (k : Nat) (hk : 0 < k) : slice l 0 (-(k : Int)) = l.take (l.length - k) := by
  unfold slice; rw [clampBound_neg _ _ hk, show (0 : Int) = ((0 : Nat) : Int) from rfl, clampBound_ofNat]; simp

theorem getD_of_lt (d : Bytes) (i : Nat) (h : i < d.length) : d[i]? = some ((d[i]?).getD 0) := by
  rw [List.getElem?_eq_getElem h]; rfl

theorem ite_branch_congr {α} {c : Prop} [Decidable c] {a a' b b' : α} (ha : a = a') (hb : ¬ c → b = b') :
    (if c then a else b) = if c then a' else b' := by
  by_cases hc : c
  · rw [if_pos hc, if_pos hc, ha]
  · rw [if_neg hc, if_neg hc, hb hc]

/-- a guard `if c: raise e` before `x`: the whole returns exactly when the guard passes and `x` returns -/
theorem Py.guard_eq_ok {α} {c : Prop} [Decidable c] {e : Exc} {x : Py α} {v : α} :
    (if c then throw e else x) = .ok v ↔ ¬ c ∧ x = .ok v := by
  split <;> simp [*]

/-- a list of known length written out, for the proofs that evaluate a frame octet by octet -/
theorem eq_of_length_eight {α} {l : List α} (h : l.length = 8) : ∃ a b c d e f g i, l = [a, b, c, d, e, f, g, i] :=
  match l, h with
  | [a, b, c, d, e, f, g, i], _ => ⟨a, b, c, d, e, f, g, i, rfl⟩

theorem eq_of_length_sixteen {α} {l : List α} (h : l.length = 16) :
    ∃ b0 b1 b2 b3 b4 b5 b6 b7 b8 b9 b10 b11 b12 b13 b14 b15,
      l = [b0, b1, b2, b3, b4, b5, b6, b7, b8, b9, b10, b11, b12, b13, b14, b15] :=
  match l, h with
  | [b0, b1, b2, b3, b4, b5, b6, b7, b8, b9, b10, b11, b12, b13, b14, b15], _ =>
    ⟨b0, b1, b2, b3, b4, b5, b6, b7, b8, b9, b10, b11, b12, b13, b14, b15, rfl⟩

/-! ## sizes and reads in range -/

theorem toBE_length (k n : Nat) : (toBE k n).length = k := by
  induction k generalizing n with
  | zero => rfl
  | succ k ih => simp [toBE, ih]

theorem length_sliceN {α} (l : List α) (a b : Nat) : (sliceN l a b).length = min (b - a) (l.length - a) := by
  simp [sliceN]

theorem idxN_lt {α} (l : List α) (i : Nat) (h : i < l.length) : ∃ a, idxN l i = .ok a ∧ l[i]? = some a := by
  unfold idxN; rw [List.getElem?_eq_getElem h]; exact ⟨_, rfl, rfl⟩

theorem idx_neg_idxN {α} (l : List α) (k : Nat) (h1 : 0 < k) (h2 : k ≤ l.length) :
    idx l (-(k : Int)) = idxN l (l.length - k) := by
  have h : (-(k : Int) + (l.length : Int)).toNat = l.length - k := by omega
  unfold idx idxN
  simp only [show -(k : Int) < 0 by omega, if_true, h]
  rw [if_neg (by omega)]

theorem idx_neg_ok {α} (l : List α) (k : Nat) (h1 : 0 < k) (h2 : k ≤ l.length) : ∃ a, idx l (-(k : Int)) = .ok a := by
  rw [idx_neg_idxN l k h1 h2]; exact (idxN_lt l _ (by omega)).imp fun _ h => h.1

end NfcVerif
