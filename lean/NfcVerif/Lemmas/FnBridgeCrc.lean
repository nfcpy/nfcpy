import NfcVerif.Model.Crc
import NfcVerif.Lemmas.FnBridgeBase
/-!
Helper lemmas for `Props/FnBridgeCrc.lean`: the regenerated `calculate_crc` (Python ints, `Int`)
against `Crc.crcOf` (`BitVec 16` register, `BitVec 8` octets).

Encoding: a register value `r : BitVec 16` is the Python int `r.toNat`, an octet string
`d : List (BitVec 8)` is the byte string `enc d = d.map BitVec.toNat`.
-/
namespace NfcVerif.FnBridge.Crc
open NfcVerif NfcVerif.PyFn

/-- the Nat/BitVec encoding of octet strings -/
def enc (d : List (BitVec 8)) : Bytes := d.map BitVec.toNat
/-- its inverse on byte strings -/
def dec (d : Bytes) : List (BitVec 8) := d.map (BitVec.ofNat 8)

theorem enc_isBytes (d : List (BitVec 8)) : IsBytes (enc d) := by
  intro b hb
  simp only [enc, List.mem_map] at hb
  obtain ⟨x, _, rfl⟩ := hb
  exact x.isLt

theorem enc_dec (d : Bytes) (h : IsBytes d) : enc (dec d) = d := by
  induction d with
  | nil => rfl
  | cons a t ih =>
    have := isBytes_cons_iff.mp h
    simp only [enc, dec, List.map_cons, BitVec.toNat_ofNat] at ih ⊢
    rw [ih this.2, Nat.mod_eq_of_lt this.1]

theorem enc_length (d : List (BitVec 8)) : (enc d).length = d.length := by simp [enc]
theorem enc_take (d : List (BitVec 8)) (n : Nat) : (enc d).take n = enc (d.take n) := by simp [enc, List.map_take]
theorem enc_drop (d : List (BitVec 8)) (n : Nat) : (enc d).drop n = enc (d.drop n) := by simp [enc, List.map_drop]
theorem enc_append (a b : List (BitVec 8)) : enc (a ++ b) = enc a ++ enc b := by simp [enc]
theorem enc_inj {a b : List (BitVec 8)} (h : enc a = enc b) : a = b := by
  induction a generalizing b with
  | nil => cases b <;> simp_all [enc]
  | cons x t ih =>
    cases b with
    | nil => simp [enc] at h
    | cons y u =>
      simp only [enc, List.map_cons, List.cons.injEq] at h
      rw [BitVec.toNat_inj.mp h.1, ih h.2]

theorem bit_eq (reg o pos : Nat) :
    ((reg ^^^ ((o >>> pos) &&& 1)) &&& 1) = if (reg.testBit 0 != o.testBit pos) then 1 else 0 := by
  have h1 : ((reg ^^^ ((o >>> pos) &&& 1)) &&& 1) < 2 := by rw [Nat.and_one_is_mod]; omega
  have h2 : ((reg ^^^ ((o >>> pos) &&& 1)) &&& 1) = 1 ↔ (reg.testBit 0 != o.testBit pos) = true := by
    rw [Nat.and_one_is_mod, Nat.xor_mod_two_eq_one, Nat.and_one_is_mod, Nat.testBit_zero,
      Nat.testBit_eq_decide_div_mod_eq, Nat.shiftRight_eq_div_pow]
    have : o / 2 ^ pos % 2 % 2 = o / 2 ^ pos % 2 := by omega
    rw [this]
    by_cases a : reg % 2 = 1 <;> by_cases b : o / 2 ^ pos % 2 = 1 <;> simp [a, b]
  split
  · rename_i h; exact h2.mpr h
  · rename_i h; have := mt h2.mp h; omega

/-- one iteration of the bit loop on naturals -/
def natBitStep (reg : Nat) (b : Bool) : Nat :=
  if (reg.testBit 0 != b) then (reg >>> 1) ^^^ 0x8408 else reg >>> 1

theorem bitStep_toNat (r : BitVec 16) (b : Bool) : (Crc.bitStep r b).toNat = natBitStep r.toNat b := by
  unfold Crc.bitStep natBitStep
  have : r.getLsbD 0 = r.toNat.testBit 0 := rfl
  simp only [this]
  split <;> simp

theorem range8_cast : PyFn.range 0 8 = ([0, 1, 2, 3, 4, 5, 6, 7] : List Nat).map (fun (n : Nat) => (n : Int)) := by decide

/-- the inner `for pos in range(8)` loop, on naturals -/
theorem foldl_bits (f : Int → Int → Int) (o : Nat)
    (hf : ∀ reg p : Nat, f reg p = ((natBitStep reg (o.testBit p) : Nat) : Int)) (ps : List Nat) :
    ∀ reg : Nat, List.foldl f (reg : Int) (ps.map (fun (n : Nat) => (n : Int)))
      = ((ps.foldl (fun r p => natBitStep r (o.testBit p)) reg : Nat) : Int) := by
  induction ps with
  | nil => intro reg; rfl
  | cons a t ih => intro reg; simp only [List.map_cons, List.foldl_cons, hf, ih]

theorem byteStep_toNat (r : BitVec 16) (o : BitVec 8) :
    (Crc.byteStep r o).toNat
      = List.foldl (fun r p => natBitStep r (o.toNat.testBit p)) r.toNat [0, 1, 2, 3, 4, 5, 6, 7] := by
  have : ∀ k, o.getLsbD k = o.toNat.testBit k := fun _ => rfl
  simp only [Crc.byteStep, bitStep_toNat, List.foldl_cons, List.foldl_nil, this]

theorem lo_toNat (c : BitVec 16) : (Crc.lo c).toNat = c.toNat &&& 255 := by
  simp [Crc.lo, Nat.and_two_pow_sub_one_eq_mod _ 8]
theorem hi_toNat (c : BitVec 16) : (Crc.hi c).toNat = c.toNat >>> 8 := by
  have := c.isLt
  simp [Crc.hi, Nat.shiftRight_eq_div_pow]; omega
theorem not_toNat (c : BitVec 16) : (~~~ c).toNat = 65535 - c.toNat % 65536 := by
  have := c.isLt
  simp [BitVec.toNat_not]; omega

/-- the generic shape of the outer loop -/
theorem foldl_enc (f : Int → Int → Int) (g : BitVec 16 → BitVec 8 → BitVec 16)
    (h : ∀ r o, f (r.toNat : Int) (o.toNat : Int) = ((g r o).toNat : Int)) (d : List (BitVec 8)) :
    ∀ r : BitVec 16, List.foldl f (r.toNat : Int) (PyFn.ints (enc d)) = ((List.foldl g r d).toNat : Int) := by
  induction d with
  | nil => intro r; rfl
  | cons a t ih =>
    intro r
    simp only [enc, List.map_cons, ints_cons, List.foldl_cons] at ih ⊢
    rw [h, ih]

theorem drop_two {α} (l : List α) (h : 2 ≤ l.length) :
    l.drop (l.length - 2) = [l[l.length - 2]'(by omega), l[l.length - 1]'(by omega)] := by
  apply List.ext_getElem
  · simp; omega
  · intro i h1 h2
    simp at h2
    have : i = 0 ∨ i = 1 := by omega
    rcases this with rfl | rfl
    · simp
    · simp; congr 1; omega

open NfcVerif.Crc in
theorem check_common (d : List (BitVec 8)) (c : BitVec 16) (crc : Int) (hc : crc = (c.toNat : Int)) :
    (PyFn.getB (enc d) (-2) >>= fun t1 => PyFn.getB (enc d) (-1) >>= fun t2 =>
      (Except.ok (decide ((t1, t2) = (PyFn.band crc 255, PyFn.shr crc 8))) : Py Bool))
    = if d.length < 2 then .error .index else .ok (d.drop (d.length - 2) == [lo c, hi c]) := by
  have g2 := getB_neg (enc d) 2 (by omega)
  have g1 := getB_neg (enc d) 1 (by omega)
  simp only [show (-((2:Nat):Int)) = -2 from rfl, show (-((1:Nat):Int)) = -1 from rfl, enc_length] at g1 g2
  rw [g2, g1]
  by_cases h : d.length < 2
  · have : ¬ 2 ≤ d.length := by omega
    simp [this, h]
  · have h2 : 2 ≤ d.length := by omega
    have h1 : 1 ≤ d.length := by omega
    have a2 : (enc d)[d.length - 2]? = some (d[d.length - 2]'(by omega)).toNat := by
      rw [enc, List.getElem?_map, List.getElem?_eq_getElem (by omega)]; rfl
    have a1 : (enc d)[d.length - 1]? = some (d[d.length - 1]'(by omega)).toNat := by
      rw [enc, List.getElem?_map, List.getElem?_eq_getElem (by omega)]; rfl
    simp only [h2, h1, if_true, a2, a1, Py.bind_ok, h, if_false, hc]
    have e1 : (255 : Int) = ((255 : Nat) : Int) := rfl
    have e2 : (8 : Int) = ((8 : Nat) : Int) := rfl
    simp only [e1, e2, band_ofNat, shr_ofNat, ← lo_toNat, ← hi_toNat]
    rw [drop_two d h2]
    congr 1
    have k : ∀ (a b : BitVec 8), decide ((a.toNat : Int) = (b.toNat : Int)) = (a == b) := by
      intro a b
      by_cases hab : a = b
      · subst hab; simp
      · have : ¬ ((a.toNat : Int) = (b.toNat : Int)) := fun hh => hab (BitVec.toNat_inj.mp (Int.ofNat_inj.mp hh))
        simp [hab, this]
    simp [k]
end NfcVerif.FnBridge.Crc
