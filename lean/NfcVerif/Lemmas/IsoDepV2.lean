import NfcVerif.Lemmas.IsoDepV2Term
import NfcVerif.Lemmas.IsoDep
/-!
# ISO-DEP, repaired initiator (`Model/IsoDepV2.lean`): the invariant behind C12

The round machinery of `Lemmas/IsoDep.lean` (`Round`, `Round.Ok`, `St`, `Allowed`, `xchg_post`, the kinds of round and
their `_ok` lemmas) talks about the card and about ONE `clf.exchange`; it is reused as it is, and so is the loop
skeleton (`loopStep`, `sendStep`, `recvStep` with their `_post` lemmas): the repaired loops are the same bodies with a
cut-off for the retransmission after R(ACK) and a guard at the head of the response loop (`blockLoop_succ`,
`sendChunks_cons`, `recvChain_succ` in `Lemmas/IsoDepV2Term.lean`, all by unfolding).  What is proved here is `xchgW_post` -
the two further ways out of the repaired `_exchange` (RFU multiplier -> protocol error, too much waiting time ->
`waited`) leave the card before or after the single step of the round, which is what the error clause of `LPost` asks
for - and the inductions over the loops.
-/
namespace NfcVerif.IsoDep2
open NfcVerif NfcVerif.IsoDep

theorem wtxmOf_none {d : Bytes} (h : isWtx d = false) : wtxmOf d = none := by
  rw [← wtxmOf_isSome] at h
  cases hw : wtxmOf d with
  | none => rfl
  | some m => rw [hw] at h; cases h

theorem wtxmOf_wtxBlock (cfg : CardCfg) : wtxmOf (wtxBlock cfg) = some (cfg.wtxm &&& 0x3F) := by
  simp [wtxmOf, wtxBlock]

/-- `_exchange` in a round: S(WTX) requests are granted or refused, the outcome is final -/
theorem xchgW_post (cfg : CardCfg) (R : Round) (hR : R.Ok cfg) (L : Nat) (Q : Bytes → Prop)
    (hQ : Q R.req ∧ Q R.rty ∧ Q (wtxBlock cfg)) :
    ∀ (F sum : Nat) (w : World Card) (out : Bytes), Allowed cfg R w.card out → (∀ b ∈ w.trace, Q b) →
      WPost cfg R (xchgW (isoPeer cfg) L F sum w out).1.card (xchgW (isoPeer cfg) L F sum w out).2 ∧
      (∀ b ∈ (xchgW (isoPeer cfg) L F sum w out).1.trace, Q b) := by
  intro F
  induction F with
  | zero =>
    intro sum w out h hq
    simp only [xchgW]
    exact ⟨WPost.of_st (allowed_st h) nofun, hq⟩
  | succ F ih =>
    intro sum w out h hq
    have hA := xchg_post cfg R hR w out h
    have hq1 := xchg_fits (isoPeer cfg) Q w out (allowed_fits h hQ) hq
    unfold xchgW
    generalize w.xchg (isoPeer cfg) out = r1 at hA hq1
    obtain ⟨w1, r⟩ := r1
    simp only at hA hq1 ⊢
    rcases hA with ⟨rfl, hp⟩ | ⟨hnw, hw⟩
    · have hst : St cfg R w1.card := Or.inr (Or.inr hp)
      simp only [wtxmOf_wtxBlock]
      split
      · exact ⟨WPost.of_st hst nofun, hq1⟩
      · split
        · exact ⟨WPost.of_st hst nofun, hq1⟩
        · exact ih _ w1 (wtxBlock cfg) (Or.inr (Or.inr ⟨hp, rfl⟩)) hq1
    · cases r with
      | data d => simp only [wtxmOf_none (hnw d rfl)]; exact ⟨hw, hq1⟩
      | timeout | transmission | protocol | fuel => exact ⟨hw, hq1⟩

theorem blockLoop_post (cfg : CardCfg) (R : Round) (hR : R.Ok cfg) (Q : Bytes → Prop)
    (hQ : Q R.req ∧ Q R.rty ∧ Q (wtxBlock cfg)) (F L n : Nat) :
    ∀ (f i : Nat) (out : Bytes) (w : World Card), First cfg R w.card out → (∀ b ∈ w.trace, Q b) →
      LoopOk cfg R Q (blockLoop (isoPeer cfg) F L n R.resend R.req R.rty f i out w) := by
  intro f
  induction f with
  | zero => intro i out w h hq; exact ⟨⟨h.st, Or.inl rfl⟩, hq⟩
  | succ f ih =>
    intro i out w h hq
    obtain ⟨hw, hq1⟩ := xchgW_post cfg R hR L Q hQ F 0 w out h.allowed hq
    rw [blockLoop_succ]
    exact loopStep_post cfg R hR Q n i _ _ _ hw hq1 (fun o ho => ih (i + 1) o _ ho hq1)

theorem sendChunks_post (cfg : CardCfg) (m F L nNak : Nat) (hm : 1 ≤ m) (Lg : List Bytes) (Q : Bytes → Prop)
    (hQ : ∀ b : Bytes, b.length ≤ m + 1 → Q b) :
    ∀ (cs : List Bytes) (pni : Nat) (acc : Bytes) (w : World Card), cs ≠ [] → pni < 2 →
      w.card.bn = (pni + 1) % 2 → w.card.rxbuf = acc → w.card.log = Lg →
      (∀ c ∈ cs, c.length ≤ m) → (∀ b ∈ w.trace, Q b) →
      SendPost cfg Lg (acc ++ cs.flatten) Q (sendChunks (isoPeer cfg) F L nNak cs pni w) := by
  intro cs
  induction cs with
  | nil => intro _ _ _ h; exact absurd rfl h
  | cons c rest ih =>
    intro pni acc w _ hp hb hr hl hcs hq
    have hc : c.length ≤ m := hcs c (by simp)
    rw [sendChunks_cons]
    refine sendStep_post cfg Lg Q hp acc c _ (!rest.isEmpty) _ _
      (blockLoop_post cfg _ (cmdRound_ok cfg hp acc Lg c _) Q
        ⟨hQ _ (by simp; omega), hQ _ (by simp), hQ _ (by simp [wtxBlock]; omega)⟩ F L nNak F 1 _ w
        (Or.inl ⟨⟨hb, hr, hl⟩, Or.inl rfl⟩) hq) ?_ ?_
    · intro hm'
      cases rest with
      | nil => simp
      | cons _ _ => simp at hm'
    · intro hm' w' h1 h2 h3 hq'
      have := ih ((pni + 1) % 2) (acc ++ c) w' (by intro h; simp [h] at hm') (tog_lt pni)
        (by rw [tog_tog hp]; exact h1) h2 h3 (fun x hx => hcs x (List.mem_cons_of_mem _ hx)) hq'
      simpa [List.append_assoc] using this

theorem recvChain_post (cfg : CardCfg) (m F L nAck : Nat) (hm : 1 ≤ m) (L' : List Bytes) (rsp : Bytes) (Q : Bytes → Prop)
    (hQ : ∀ b : Bytes, b.length ≤ m + 1 → Q b) :
    ∀ (f pni : Nat) (data resp : Bytes) (w : World Card) (T : Bytes), RecvPre L' rsp Q pni data resp w T →
      RecvPost L' rsp Q (recvChain (isoPeer cfg) F L nAck f pni data resp w) := by
  intro f
  induction f with
  | zero =>
    intro pni data resp w T h
    simp only [recvChain, RecvPost]
    exact ⟨h.trace, h.head.log, Or.inl rfl⟩
  | succ f ih =>
    intro pni data resp w T h
    rw [recvChain_succ]
    exact recvStep_post cfg L' rsp Q _ pni data resp _ w _ T h
      (fun hT => blockLoop_post cfg _ (ackRound_ok cfg h.head.pni_lt T hT L') Q
        ⟨hQ _ (by simp), hQ _ (by simp), hQ _ (by simp [wtxBlock]; omega)⟩ F L nAck F 1 _ w
        (Or.inl ⟨h.head.pre, Or.inl rfl⟩) h.trace)
      (fun d rs w' h' => ih _ d rs w' _ h')

/-- everything `exchange` guarantees against the ISO/IEC 14443-4 card, for every fault script -/
def ExchPost (cfg : CardCfg) (cmd : Bytes) (Q : Bytes → Prop) (w : World Card) (r : World Card × Pcd × Py Bytes) : Prop :=
  (∀ b ∈ r.1.trace, Q b) ∧
  match r.2.2 with
  | .ok x => r.1.card.log = w.card.log ++ [cmd] ∧ x = cfg.app w.card.log.length cmd ∧
             r.2.1.pni < 2 ∧ Sync r.2.1.pni r.1.card
  | .error e => ErrKind e ∧ (r.1.card.log = w.card.log ∨ r.1.card.log = w.card.log ++ [cmd])

theorem exchangeCmd_post (cfg : CardCfg) (F : Nat) (pcd : Pcd) (cmd : Bytes) (w : World Card) (m : Nat)
    (hmiu : pcd.miu = (m : Int)) (hm : 1 ≤ m) (hcmd : cmd ≠ []) (hp : pcd.pni < 2)
    (hs : Sync pcd.pni w.card) (Q : Bytes → Prop) (hQ : ∀ b : Bytes, b.length ≤ m + 1 → Q b) (hq : ∀ b ∈ w.trace, Q b) :
    ExchPost cfg cmd Q w (exchangeCmd (isoPeer cfg) F pcd cmd w) := by
  have h0 : ¬ pcd.miu = 0 := by omega
  have h1 : ¬ (pcd.miu < 0 ∨ cmd = []) := by
    intro h; rcases h with h | h
    · omega
    · exact hcmd h
  have ht : pcd.miu.toNat = m := by omega
  obtain ⟨hfl, hne, hlen, _⟩ := chunks_spec m hm cmd hcmd
  have hsend := sendChunks_post cfg m F pcd.wlim pcd.nNak hm w.card.log Q hQ (chunks m cmd) pcd.pni [] w hne hp hs.1 hs.2 rfl hlen hq
  unfold exchangeCmd
  simp only [h0, h1, if_false, ht]
  rw [hfl, List.nil_append] at hsend
  generalize sendChunks _ _ _ _ _ _ _ = r1 at hsend ⊢
  obtain ⟨w1, pni1, res⟩ := r1
  obtain ⟨hq1, hres⟩ := hsend
  cases res with
  | error e => exact ⟨hq1, hres⟩
  | ok d =>
    obtain ⟨hp1, hd, hdone⟩ := hres
    simp only at hp1 hd hdone hq1 ⊢
    have hrecv := recvChain_post cfg m F pcd.wlim pcd.nAck hm (w.card.log ++ [cmd]) (cfg.app w.card.log.length cmd) Q hQ
      F pni1 d (d.drop 1) w1 ((cfg.app w.card.log.length cmd).drop cfg.chunk)
      ⟨CmdDone.recvAt ⟨hp1, hd, hdone⟩, by rw [hd]; simp [iBlock_cons], hq1⟩
    generalize recvChain _ _ _ _ _ _ _ _ _ = r2 at hrecv ⊢
    obtain ⟨w2, pni2, res2⟩ := r2
    obtain ⟨hq2, hlog2, hres2⟩ := hrecv
    cases res2 with
    | error e => exact ⟨hq2, hres2, Or.inr hlog2⟩
    | ok x =>
      obtain ⟨hx, hp2, hb2, hr2⟩ := hres2
      exact ⟨hq2, hlog2, hx, hp2, hb2, hr2⟩

end NfcVerif.IsoDep2
