import NfcVerif.Lemmas.Handover
/-!
NDEF messages as record lists (`Model/Handover.lean`: `Rec`, `encRec`, `encMsg`): the structural
reading `ndefWalk` accepts the encoding of every non-empty list of well-formed records and none of
its proper non-empty prefixes (`prefixFree_encMsg`) - wherever a fragment boundary falls, also
exactly between two records.  Property C06.
-/
namespace NfcVerif.Handover
open NfcVerif NfcVerif.Chan

theorem ite_toNat (b : Bool) (k : Nat) : (if b then k else 0) = k * b.toNat := by
  cases b <;> simp

theorem flags_bits (mb me : Bool) (r : Rec) (h : r.tnf < 8) :
    flagsOf mb me r / 16 % 2 = r.sr.toNat ∧ flagsOf mb me r / 8 % 2 = r.id.isSome.toNat ∧
    flagsOf mb me r / 64 % 2 = me.toNat := by
  simp only [flagsOf, ite_toNat]
  have := mb.toNat_lt
  have := me.toNat_lt
  have := r.cf.toNat_lt
  have := r.sr.toNat_lt
  have := r.id.isSome.toNat_lt
  omega

def recHdr (r : Rec) : Bytes :=
  r.typ.length :: ((if r.sr then [r.payload.length] else toBE 4 r.payload.length) ++
    (match r.id with | some i => [i.length] | none => []))

def recBody (r : Rec) : Bytes := r.typ ++ ((r.id.getD []) ++ r.payload)

theorem encRec_eq (mb me : Bool) (r : Rec) : encRec mb me r = flagsOf mb me r :: (recHdr r ++ recBody r) := rfl

theorem recHdr_length (r : Rec) :
    (recHdr r).length = 1 + (if r.sr then 1 else 4) + (if r.id.isSome then 1 else 0) := by
  obtain ⟨tnf, cf, sr, typ, id, payload⟩ := r
  cases sr <;> cases id <;> simp [recHdr, toBE4]

theorem encRec_length (mb me : Bool) (r : Rec) :
    (encRec mb me r).length = 2 + (if r.sr then 1 else 4) + (if r.id.isSome then 1 else 0) +
      r.typ.length + (r.id.getD []).length + r.payload.length := by
  rw [encRec_eq, List.length_cons, List.length_append, recHdr_length]
  simp only [recBody, List.length_append]
  omega

/-- one step of the walk, with the numbers it reads from the length fields given names -/
theorem ndefWalk_step (fuel flags : Nat) (rest : Bytes) {sr il : Bool} {nlen tl pl idl : Nat}
    (hsr : flags / 16 % 2 = sr.toNat) (hil : flags / 8 % 2 = il.toNat)
    (hn : nlen = 1 + (if sr then 1 else 4) + (if il then 1 else 0)) (htl : rest.headD 0 = tl)
    (hpl : (if sr then (rest.drop 1).headD 0 else beNat ((rest.drop 1).take 4)) = pl)
    (hidl : (if il then (rest.drop (if sr then 2 else 5)).headD 0 else 0) = idl) :
    ndefWalk (fuel + 1) (flags :: rest) =
      if rest.length < nlen then false else if rest.length < nlen + tl + pl + idl then false
      else if flags / 64 % 2 = 1 then true else ndefWalk fuel (rest.drop (nlen + tl + pl + idl)) := by
  subst hn htl hpl hidl
  cases sr <;> cases il <;> simp [ndefWalk, hsr, hil]

theorem walk_hdr (fuel : Nat) (mb me : Bool) (r : Rec) (hr : r.wf) (x : Bytes) :
    ndefWalk (fuel + 1) (flagsOf mb me r :: (recHdr r ++ x)) =
      if x.length < (recBody r).length then false else if me then true
      else ndefWalk fuel (x.drop (recBody r).length) := by
  obtain ⟨F1, F2, F3⟩ := flags_bits mb me r hr.1
  have hb : (recBody r).length = r.typ.length + r.payload.length + (r.id.getD []).length := by
    simp only [recBody, List.length_append]; omega
  have hd : (recHdr r ++ x).drop ((recHdr r).length + r.typ.length + r.payload.length + (r.id.getD []).length) =
      x.drop (recBody r).length := by
    rw [List.drop_append, List.drop_eq_nil_of_le (by omega), List.nil_append]; congr 1; omega
  have hlt : (recHdr r).length + x.length < (recHdr r).length + r.typ.length + r.payload.length +
      (r.id.getD []).length ↔ x.length < (recBody r).length := by omega
  -- the three length fields hold what the walk reads at their positions
  have htl : (recHdr r ++ x).headD 0 = r.typ.length := rfl
  have hpl : (if r.sr then ((recHdr r ++ x).drop 1).headD 0 else beNat (((recHdr r ++ x).drop 1).take 4)) =
      r.payload.length := by
    obtain ⟨tnf, cf, sr, typ, id, payload⟩ := r
    obtain ⟨-, -, -, h4⟩ := hr
    cases sr
    · simp only [recHdr, toBE4, Bool.false_eq_true, if_false, List.cons_append, List.drop_succ_cons, List.drop_zero,
        List.take_succ_cons, List.take_zero]
      exact beNat4 _ h4
    · rfl
  have hidl : (if r.id.isSome then ((recHdr r ++ x).drop (if r.sr then 2 else 5)).headD 0 else 0) =
      (r.id.getD []).length := by
    obtain ⟨tnf, cf, sr, typ, id, payload⟩ := r
    cases sr <;> cases id <;> simp [recHdr, toBE4]
  rw [ndefWalk_step fuel _ _ F1 F2 (recHdr_length r) htl hpl hidl, F3, List.length_append, hd,
    if_neg (Nat.not_lt.mpr (Nat.le_add_right _ _))]
  simp only [hlt, Bool.toNat_eq_one]

theorem walk_rec (fuel : Nat) (mb me : Bool) (r : Rec) (hr : r.wf) (tail : Bytes) :
    ndefWalk (fuel + 1) (encRec mb me r ++ tail) = if me then true else ndefWalk fuel tail := by
  rw [encRec_eq, List.cons_append, List.append_assoc, walk_hdr _ _ _ _ hr, if_neg (by simp), List.drop_left]

/-- a record that is cut short stops the walk: inside the length fields the walk misses a field,
after them it misses part of what they announce -/
theorem walk_cut (fuel : Nat) (mb me : Bool) (r : Rec) (hr : r.wf) (k : Nat) (hk : k < (encRec mb me r).length) :
    ndefWalk fuel ((encRec mb me r).take k) = false := by
  rw [encRec_eq] at hk ⊢
  match fuel, k with
  | 0, _ => rfl
  | _ + 1, 0 => rfl
  | fuel + 1, j + 1 =>
    rw [List.take_succ_cons]
    simp only [List.length_cons, List.length_append] at hk
    by_cases hj : j < (recHdr r).length
    · obtain ⟨F1, F2, -⟩ := flags_bits mb me r hr.1
      rw [ndefWalk_step fuel _ _ F1 F2 (recHdr_length r) rfl rfl rfl, if_pos]
      rw [List.length_take]; omega
    · rw [List.take_append, List.take_of_length_le (by omega), walk_hdr _ _ _ _ hr, if_pos]
      rw [List.length_take]; omega

theorem encMsgAux_cons (mb : Bool) (r : Rec) (rs : List Rec) :
    encMsgAux mb (r :: rs) = encRec mb rs.isEmpty r ++ encMsgAux false rs := by
  cases rs <;> simp [encMsgAux]

theorem length_le_encMsgAux (mb : Bool) (rs : List Rec) : rs.length ≤ (encMsgAux mb rs).length := by
  induction rs generalizing mb with
  | nil => exact Nat.zero_le _
  | cons r rs ih =>
    rw [encMsgAux_cons, encRec_eq, List.length_append, List.length_cons, List.length_cons]
    have := ih false
    omega

/-- a complete message is accepted (enough fuel: one unit per record) -/
theorem walk_msg : ∀ (rs : List Rec) (mb : Bool) (fuel : Nat), rs ≠ [] → (∀ r ∈ rs, r.wf) → rs.length ≤ fuel →
    ndefWalk fuel (encMsgAux mb rs) = true
  | [], _, _, h, _, _ => absurd rfl h
  -- no case for `r :: rs` with fuel 0: its hypothesis `rs.length + 1 ≤ 0` has no constructor
  | r :: rs, mb, fuel + 1, _, hwf, hf => by
    rw [encMsgAux_cons, walk_rec fuel mb _ r (hwf r List.mem_cons_self)]
    cases rs with
    | nil => rfl
    | cons r' rs' =>
      exact walk_msg (r' :: rs') false fuel (List.cons_ne_nil _ _) (fun x hx => hwf x (List.mem_cons_of_mem _ hx))
        (Nat.le_of_succ_le_succ hf)

/-- no proper prefix of a message is accepted, whatever the fuel: the cut falls inside some record,
the ones before it do not carry the ME flag -/
theorem walk_msg_prefix : ∀ (rs : List Rec) (mb : Bool) (fuel k : Nat), (∀ r ∈ rs, r.wf) →
    k < (encMsgAux mb rs).length → ndefWalk fuel ((encMsgAux mb rs).take k) = false
  | [], _, _, _, _, hk => absurd hk (Nat.not_lt_zero _)
  | r :: rs, mb, fuel, k, hwf, hk => by
    have hr := hwf r List.mem_cons_self
    rw [encMsgAux_cons] at hk ⊢
    by_cases hlt : k < (encRec mb rs.isEmpty r).length
    · rw [List.take_append_of_le_length (Nat.le_of_lt hlt)]
      exact walk_cut fuel mb _ r hr k hlt
    · rw [List.length_append] at hk
      cases rs with
      | nil => exact absurd hk (by simpa [encMsgAux] using hlt)
      | cons r' rs' =>
        rw [List.take_append, List.take_of_length_le (Nat.le_of_not_lt hlt)]
        cases fuel with
        | zero => rfl
        | succ f =>
          rw [walk_rec f mb _ r hr]
          exact walk_msg_prefix (r' :: rs') false f _ (fun x hx => hwf x (List.mem_cons_of_mem _ hx)) (by omega)

/-- **ndeflib-shaped messages are self-delimiting**: the structural reading accepts the encoding of
a non-empty list of well-formed records and none of its proper non-empty prefixes -/
theorem prefixFree_encMsg (rs : List Rec) (hne : rs ≠ []) (hwf : ∀ r ∈ rs, r.wf) :
    PrefixFree ndefComplete (encMsg rs) := by
  have hlen : rs.length ≤ (encMsg rs).length := length_le_encMsgAux true rs
  have hpos : 0 < rs.length := List.length_pos_iff.mpr hne
  refine ⟨fun h => ?_, ?_, fun k h0 hk => ?_⟩
  · rw [h] at hlen; exact absurd hlen (Nat.not_le.mpr hpos)
  · simp only [ndefComplete, Bool.or_eq_true]
    exact Or.inr (walk_msg rs true _ hne hwf hlen)
  · simp only [ndefComplete, Bool.or_eq_false_iff]
    refine ⟨decide_eq_false fun h => ?_, walk_msg_prefix rs true _ k hwf hk⟩
    have := congrArg List.length h
    rw [List.length_take, List.length_nil] at this
    omega

end NfcVerif.Handover
