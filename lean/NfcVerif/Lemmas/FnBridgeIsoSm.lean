import NfcVerif.Gen.FnIsoSm
import NfcVerif.Gen.FnT4
import NfcVerif.Model.Retry
import NfcVerif.Model.AdvT34
import NfcVerif.Model.T4
/-!
Auxiliary definitions for `Props/FnBridgeIsoSm.lean`: the functions of `Model/IsoDepC08.lean` (ISO-DEP initiator `IsoDepR`
with all repairs on: the source has fixes/C08/0010-0012 applied), `Model/AdvT34.lean` (Type 4 Tag NDEF read against an
arbitrary card) and `Model/T4.lean` (NDEF write plan) rebuilt from regenerated pieces (`Gen/FnIsoSm.lean`, `Gen/FnT4.lean`).

In the `..Gen` functions every condition, block, counter comparison, error reason and every arithmetic expression is a
call of a regenerated definition.  Hand-written remain

* `clf.exchange` (`World.xchg`, `Xp.run`) and the mapping of its outcome to the exception class that enters the `try`
  statement (`Rx.timeout` -> `TimeoutError`, `Rx.transmission` -> `TransmissionError`, `Rx.protocol` -> `ProtocolError`);
* the `try` statement itself: `tried` is the body as a `Py` computation, the `match` behind it selects the handler by
  exception class in the order of the source (`TransmissionError`, `TimeoutError`, `ProtocolError`);
* the order of the pieces, and what follows a check that passed.
-/
namespace NfcVerif.FnBridge.IsoSm
open NfcVerif NfcVerif.PyFn NfcVerif.IsoDep

/-- the exception that leaves `_exchange` for an outcome of the air (`.fuel` is an artefact of the model's fuel; `.waited`:
`_exchange` itself raised Type4TagCommandError(TIMEOUT_ERROR) for too many waiting time extensions) -/
def rxTry : IsoDepR.RxW → Py Bytes
  | .data d => .ok d
  | .timeout => .error .timeout
  | .transmission => .error .transmission
  | .protocol => .error .protocol
  | .fuel => .error .outOfFuel
  | .waited => .error (.tagCmd TIMEOUT_ERROR)

/-- `clf.exchange` of the presence check (no S(WTX) handling there) -/
def rxTry0 : Rx → Py Bytes
  | .data d => .ok d
  | .timeout => .error .timeout
  | .transmission => .error .transmission
  | .protocol => .error .protocol
  | .fuel => .error .outOfFuel

/-- a handler that ends in `raise`: the exception it raises -/
def raised {α} (x : Py Unit) : Py α :=
  match x with
  | .error e => .error e
  | .ok _ => .error .runtime

section isodep
variable {σ : Type} (P : Peer σ)

/-- `IsoDepInitiator._exchange`: loop condition, WTXM range check and the sum of the granted multipliers regenerated;
`lim` is `self.max_wtxm_sum`, `sum` is `wtxm_sum`.  A ProtocolError leaves `_exchange` as such (`.protocol`), the
Type4TagCommandError as `.waited`; the index expression cannot raise behind the loop condition. -/
def xchgWGen (lim : Nat) : Nat → Nat → World σ → Bytes → World σ × IsoDepR.RxW
  | 0, _, w, _ => (w, .fuel)
  | f+1, sum, w, out =>
    match w.xchg P out with
    | (w', .data d) =>
      (match Gen.Fn.iso_wtx_test d with
       | .ok true =>
         (match Gen.Fn.iso_wtx_step d (sum : Int) (lim : Int) with
          | .ok st => xchgWGen lim f st.2.toNat w' d
          | .error (.tagCmd _) => (w', .waited)
          | .error _ => (w', .protocol))
       | _ => (w', .data d))
    | (w', .timeout) => (w', .timeout)
    | (w', .transmission) => (w', .transmission)
    | (w', .protocol) => (w', .protocol)
    | (w', .fuel) => (w', .fuel)

/-- the retry loop of the command phase for the I-block `pfb + command[offset:offset+miu]` -/
def cmdLoopGen (lim F n pni : Nat) (pfb cmd : Bytes) (offset miu : Int) : Nat → Nat → Bytes → World σ → World σ × Py Bytes
  | 0, _, _, w => (w, .error .outOfFuel)
  | f+1, i, out, w =>
    let r := xchgWGen P lim F 0 w out
    let tried : Py (Bool × Bytes) :=
      rxTry r.2 >>= fun d =>
      Gen.Fn.iso_empty_chk d >>= fun _ =>
      Gen.Fn.iso_resend_test d (pni : Int) >>= fun again =>
      if again = true then Gen.Fn.iso_resend_budget (i : Int) (n : Int) >>= fun _ => .ok (true, d) else .ok (false, d)
    match tried with
    | .ok (true, _) => cmdLoopGen lim F n pni pfb cmd offset miu f (i+1) (Gen.Fn.iso_resend_blk pfb cmd offset miu) r.1
    | .ok (false, d) => (r.1, .ok d)
    | .error .transmission =>
      (match Gen.Fn.iso_nak_on_transmission (i : Int) (n : Int) (pni : Int) with
       | .ok blk => cmdLoopGen lim F n pni pfb cmd offset miu f (i+1) blk r.1
       | .error e => (r.1, .error e))
    | .error .timeout =>
      (match Gen.Fn.iso_nak_on_timeout (i : Int) (n : Int) (pni : Int) with
       | .ok blk => cmdLoopGen lim F n pni pfb cmd offset miu f (i+1) blk r.1
       | .error e => (r.1, .error e))
    | .error .protocol => (r.1, raised Gen.Fn.iso_cmd_on_protocol)
    | .error e => (r.1, .error e)

/-- the retry loop of the response phase (R(ACK) sent, the next block awaited) -/
def rspLoopGen (lim F n pni : Nat) : Nat → Nat → Bytes → World σ → World σ × Py Bytes
  | 0, _, _, w => (w, .error .outOfFuel)
  | f+1, i, out, w =>
    let r := xchgWGen P lim F 0 w out
    let tried : Py Bytes := rxTry r.2 >>= fun d => Gen.Fn.iso_empty_chk_r d >>= fun _ => .ok d
    match tried with
    | .ok d => (r.1, .ok d)
    | .error .transmission =>
      (match Gen.Fn.iso_ack_on_transmission (i : Int) (n : Int) (pni : Int) with
       | .ok blk => rspLoopGen lim F n pni f (i+1) blk r.1
       | .error e => (r.1, .error e))
    | .error .timeout =>
      (match Gen.Fn.iso_ack_on_timeout (i : Int) (n : Int) (pni : Int) with
       | .ok blk => rspLoopGen lim F n pni f (i+1) blk r.1
       | .error e => (r.1, .error e))
    | .error .protocol => (r.1, raised Gen.Fn.iso_rsp_on_protocol)
    | .error e => (r.1, .error e)

/-- the loop over the command blocks, by offsets; returns the last answer and `response = data[1:]`.  The source leaves
the loop when the offsets are used up; `more` is false exactly at the last offset (`gen_more_false_last`). -/
def sendOffsetsGen (lim F nNak : Nat) (cmd : Bytes) (miu : Int) : List Int → Nat → World σ → World σ × Nat × Py (Bytes × Bytes)
  | [], pni, w => (w, pni, .error .unbound)
  | o :: os, pni, w =>
    match Gen.Fn.iso_iblock cmd o miu (pni : Int) with
    | .error e => (w, pni, .error e)
    | .ok (more, pfb, blk) =>
      let r := cmdLoopGen P lim F nNak pni pfb cmd o miu F 1 blk w
      match r.2 with
      | .error e => (r.1, pni, .error e)
      | .ok d =>
        match Gen.Fn.iso_bn_chk_cmd d (pni : Int) with
        | .error e => (r.1, pni, .error e)
        | .ok _ =>
          if more = true then
            (match Gen.Fn.iso_ack_step d (pni : Int) with
             | .error e => (r.1, pni, .error e)
             | .ok pni' => sendOffsetsGen lim F nNak cmd miu os pni'.toNat r.1)
          else
            (match Gen.Fn.iso_inf_step d (pni : Int) with
             | .error e => (r.1, pni, .error e)
             | .ok (pni', response) => (r.1, pni'.toNat, .ok (d, response)))

/-- `while bool(data[0] & 0x10)` -/
def recvChainGen (lim F nAck : Nat) : Nat → Nat → Bytes → Bytes → World σ → World σ × Nat × Py Bytes
  | 0, pni, _, _, w => (w, pni, .error .outOfFuel)
  | f+1, pni, data, resp, w =>
    match Gen.Fn.iso_chain_test data with
    | .error e => (w, pni, .error e)
    | .ok false => (w, pni, .ok resp)
    | .ok true =>
      match Gen.Fn.iso_chain_chk data resp with
      | .error e => (w, pni, .error e)
      | .ok _ =>
      match Gen.Fn.iso_ack_blk (pni : Int) with
      | .error e => (w, pni, .error e)
      | .ok ack =>
        let r := rspLoopGen P lim F nAck pni F 1 ack w
        match r.2 with
        | .error e => (r.1, pni, .error e)
        | .ok d =>
          match Gen.Fn.iso_bn_chk_rsp d (pni : Int) with
          | .error e => (r.1, pni, .error e)
          | .ok _ =>
            let acc := Gen.Fn.iso_chain_acc resp d (pni : Int)
            recvChainGen lim F nAck f acc.2.toNat d acc.1 r.1

/-- `IsoDepInitiator._exchange_command(command)` for `command is not None`; an empty offset list leaves `data` unbound -/
def exchangeCmdGen (lim F : Nat) (pcd : Pcd) (cmd : Bytes) (w : World σ) : World σ × Pcd × Py Bytes :=
  match Gen.Fn.iso_offsets cmd pcd.miu with
  | .error e => (w, pcd, .error e)
  | .ok [] => (w, pcd, .error .unbound)
  | .ok offs =>
    let r := sendOffsetsGen P lim F pcd.nNak cmd pcd.miu offs pcd.pni w
    match r.2.2 with
    | .error e => (r.1, { pcd with pni := r.2.1 }, .error e)
    | .ok (d, response) =>
      let q := recvChainGen P lim F pcd.nAck F r.2.1 d response r.1
      (q.1, { pcd with pni := q.2.1 }, q.2.2)

/-- `IsoDepInitiator.exchange(command)` for `command is not None`: the error latch -/
def exchangeGen (lim F : Nat) (pcd : Pcd) (cmd : Bytes) (w : World σ) : World σ × Pcd × Py Bytes :=
  match Gen.Fn.iso_latch_chk (some cmd) pcd.failed.isSome (pcd.failed.getD 0) with
  | .error e => (w, pcd, .error e)
  | .ok _ =>
    let r := exchangeCmdGen P lim F pcd cmd w
    match r.2.2 with
    | .error (.tagCmd e) => (r.1, { r.2.1 with failed := some (Gen.Fn.iso_latch_set e) }, .error (.tagCmd e))
    | _ => r

/-- `exchange(None)`: the presence check -/
def presenceGen (pcd : Pcd) (w : World σ) : World σ × Py Unit :=
  match Gen.Fn.iso_presence_blk (pcd.pni : Int) with
  | .error e => (w, .error e)
  | .ok blk =>
    let r := w.xchg P blk
    (r.1, rxTry0 r.2 >>= fun _ => .ok ())

end isodep

/-! ## the `except` clauses against `Model/Retry.lean` (C16) -/

/-- the handler of the command phase entered for a fault class: `.ok` = the block sent next -/
def cmdHandlerGen (i n pni : Nat) : Retry.Fault → Py Bytes
  | .transmission => Gen.Fn.iso_nak_on_transmission (i : Int) (n : Int) (pni : Int)
  | .timeout => Gen.Fn.iso_nak_on_timeout (i : Int) (n : Int) (pni : Int)
  | .protocol => raised Gen.Fn.iso_cmd_on_protocol
  | _ => raised Gen.Fn.iso_cmd_on_other

/-- the same for the response phase -/
def rspHandlerGen (i n pni : Nat) : Retry.Fault → Py Bytes
  | .transmission => Gen.Fn.iso_ack_on_transmission (i : Int) (n : Int) (pni : Int)
  | .timeout => Gen.Fn.iso_ack_on_timeout (i : Int) (n : Int) (pni : Int)
  | .protocol => raised Gen.Fn.iso_rsp_on_protocol
  | _ => raised Gen.Fn.iso_rsp_on_other

/-! ## Type 4 Tag NDEF read (`Model/AdvT34.lean`) -/

section ndef
open NfcVerif.Adv
variable {σ : Type} (X : Xp σ)

/-- `_read_binary(offset, size)`: the regenerated argument slice of group T4, `send_apdu`, the regenerated surplus check -/
def readBinGen (maxLe : Nat) (off : Nat) (size : Int) (s : σ) : σ × Py Bytes :=
  match Gen.Fn.t4_read_binary_args (off : Int) size (maxLe : Int) with
  | .error e => (s, .error e)
  | .ok (p1, p2, max_data) =>
    let r := apdu4 X 0xB0 p1.toNat p2.toNat [] max_data s
    (r.1, r.2 >>= fun d => Gen.Fn.iso_read_surplus d max_data >>= fun _ => .ok d)

/-- `_select_fid(fid)`: P2 regenerated -/
def selectFidGen (v1 : Bool) (fid : Bytes) (s : σ) : σ × Py Bool :=
  match apdu4 X 0xA4 0x00 (Gen.Fn.iso_sel_fid_p2 (if v1 then aidV1 else aidV2)).toNat fid 0 s with
  | (s1, .ok _) => (s1, .ok true)
  | (s1, .error (.tagCmd _)) => (s1, .ok false)
  | (s1, .error e) => (s1, .error e)

/-- `_select_ndef_application`: the (AID, Le) table and the stop rule regenerated -/
def selectAppGen (s : σ) : σ × Py (Option Bool) :=
  let tbl := Gen.Fn.iso_sel_app_table
  match apdu4 X 0xA4 0x04 0x00 tbl.1.1 tbl.1.2 s with
  | (s1, .ok _) => (s1, .ok (some false))
  | (s1, .error (.tagCmd e)) =>
    if Gen.Fn.iso_sel_app_stop e = true then (s1, .ok none)
    else
      match apdu4 X 0xA4 0x04 0x00 tbl.2.1 tbl.2.2 s1 with
      | (s2, .ok _) => (s2, .ok (some true))
      | (s2, .error (.tagCmd _)) => (s2, .ok none)
      | (s2, .error e) => (s2, .error e)
  | (s1, .error e) => (s1, .error e)

/-- `_discover_ndef`: limits, CCLEN checks and the size of the capability read regenerated; the evaluation of the
capability container is `parseCC` (group T4 bridges it for `Model/T4.lean`) -/
def discover4Gen (s : σ) : σ × Py (Option Info) :=
  match selectAppGen X s with
  | (s1, .error e) => (s1, .error e)
  | (s1, .ok none) => (s1, .ok none)
  | (s1, .ok (some v1)) =>
    match selectFidGen X v1 [0xE1, 0x03] s1 with
    | (s2, .error e) => (s2, .error e)
    | (s2, .ok false) => (s2, .ok none)
    | (s2, .ok true) =>
      match readBinGen X Gen.Fn.iso_disc_init.2.toNat 0 2 s2 with
      | (s3, .error e) => (s3, .error e)
      | (s3, .ok cclen) =>
        if Gen.Fn.iso_disc_cclen_bad cclen = true then (s3, .ok none)
        else
          match Gen.Fn.iso_disc_cclen cclen with
          | .error e => (s3, .error e)
          | .ok n =>
            match readBinGen X Gen.Fn.iso_disc_init.2.toNat 2 (Gen.Fn.iso_disc_cc_size n) s3 with
            | (s4, .error e) => (s4, .error e)
            | (s4, .ok caps) => (s4, parseCC v1 caps)

/-- the read loop of `_read_ndef_data` -/
def readLoop4Gen (i : Info) (nlen : Nat) : Nat → Bytes → σ → σ × Py (Option Bytes)
  | 0, _, s => (s, .error .outOfFuel)
  | f+1, acc, s =>
    if Gen.Fn.iso_read_more acc (nlen : Int) = false then (s, .ok (some acc))
    else
      let args := Gen.Fn.iso_read_args acc (nlen : Int) (i.nlenSize : Int) (fun o n => (o, n))
      match readBinGen X i.maxLe args.1.toNat args.2 s with
      | (s1, .error e) => (s1, .error e)
      | (s1, .ok more) =>
        if Gen.Fn.iso_read_stuck more = true then (s1, .ok none)
        else readLoop4Gen i nlen f (Gen.Fn.iso_read_acc acc more) s1

/-- `_read_ndef_data` behind the discovery: select the file, read and check NLEN, read the message -/
def readFile4Gen (i : Info) (s1 : σ) : σ × Py (Option (Ndef × Info)) :=
  match selectFidGen X i.v1 i.fid s1 with
  | (s2, .error e) => (s2, .error e)
  | (s2, .ok false) => (s2, .ok none)
  | (s2, .ok true) =>
    match readBinGen X i.maxLe 0 i.nlenSize s2 with
    | (s3, .error e) => (s3, .error e)
    | (s3, .ok nl) =>
      if Gen.Fn.iso_nlen_len_bad nl (i.nlenSize : Int) = true then (s3, .ok none)
      else
        match Gen.Fn.iso_nlen_parse nl (i.nlenSize : Int) with
        | .error e => (s3, .error e)
        | .ok nlen =>
          if Gen.Fn.iso_nlen_limit nlen i.capacity (i.nlenSize : Int) = true then (s3, .ok none)
          else
            match readLoop4Gen X i nlen.toNat (nlen.toNat + 1) Gen.Fn.iso_read_init s3 with
            | (s4, .error e) => (s4, .error e)
            | (s4, .ok none) => (s4, .ok none)
            | (s4, .ok (some data)) =>
              (s4, .ok (some ({ length := data.length, cap := i.capacity, readable := i.readable,
                                writeable := i.writeable, octets := data,
                                addrs := List.range' i.nlenSize data.length,
                                lo := i.nlenSize, hi := i.nlenSize + i.capacity.toNat }, i)))

/-- the `try` block of `_read_ndef_data`: `hasattr(self, "_ndef_file") or self._discover_ndef()` first -/
def readNdef4BodyGen (known : Option Info) (s : σ) : σ × Py (Option (Ndef × Info)) :=
  match known with
  | some i => readFile4Gen X i s
  | none =>
    match discover4Gen X s with
    | (s1, .error e) => (s1, .error e)
    | (s1, .ok none) => (s1, .ok none)
    | (s1, .ok (some i)) => readFile4Gen X i s1

/-- `Type4Tag.NDEF._read_ndef_data()`; hand-written: `except Type4TagCommandError: return None` (`catch4`) -/
def readNdef4Gen (known : Option Info) (s : σ) : σ × Py (Option (Ndef × Info)) :=
  catch4 (readNdef4BodyGen X known s)

end ndef

/-! ## Type 4 Tag NDEF write plan (`Model/T4.lean`) -/

section write
open NfcVerif.T4

/-- what `_update_binary(offset, data)` returns: `max_data` of the regenerated argument slice of group T4 (0 when the
offset does not fit P1-P2 and `pack` raises; `chunkCmds_bridge` assumes a buffer a 16 bit offset can address) -/
def ubGen (lc : Nat) (o : Int) (d : Bytes) : Int :=
  match Gen.Fn.t4_update_binary_args o d (lc : Int) with
  | .ok r => r.2.2
  | .error _ => 0

/-- the pieces of one of the two update loops of `_write_ndef_data` -/
structure WriteCut where
  more : Int → Bytes → Bool
  step : Int → Bytes → (Int → Bytes → Int) → Int

def cutData : WriteCut := ⟨Gen.Fn.iso_write_more, Gen.Fn.iso_write_step⟩
def cutNlen : WriteCut := ⟨Gen.Fn.iso_write_nlen_more, Gen.Fn.iso_write_nlen_step⟩

/-- `while offset < len(buf): offset += self._update_binary(offset, buf[offset:])`: the UPDATE BINARY commands sent -/
def chunkCmdsGen (q : WriteCut) (lc : Nat) (buf : Bytes) : Nat → Nat → List UCmd
  | 0, _ => []
  | fuel + 1, off =>
    if q.more (off : Int) buf = false then []
    else
      ⟨off, Gen.Fn.iso_update_chunk (PyFn.sliceFrom buf (off : Int)) (ubGen lc (off : Int) (PyFn.sliceFrom buf (off : Int)))⟩
        :: chunkCmdsGen q lc buf fuel (q.step (off : Int) buf (ubGen lc)).toNat

/-- `_write_ndef_data`: the plan of the regenerated layout decision, then the two update loops -/
def planWriteGen (i : Info) (data : Bytes) : Py (List UCmd) :=
  Gen.Fn.iso_write_plan data (i.nlenSize : Int) (i.maxLc : Int) >>= fun pl =>
  let first := chunkCmdsGen cutData i.maxLc pl.1 (pl.1.length + 1) pl.2.2.toNat
  if Gen.Fn.iso_write_nlen_test pl.2.1 = true then
    .ok (first ++ chunkCmdsGen cutNlen i.maxLc (pl.2.1.getD []) ((pl.2.1.getD []).length + 1) 0)
  else .ok first

end write

end NfcVerif.FnBridge.IsoSm
