import NfcVerif.Gen.FnT12Ops
import NfcVerif.Gen.FnTagCmd
import NfcVerif.Model.FnT12OpsRef
import NfcVerif.Lemmas.FnBridgeBase
/-!
Glue definitions (`genSectorSelect`, `genReadNak`) and one helper lemma for `Props/FnBridgeT12Ops.lean`.

`Type2Tag.sector_select` contains a `try / except .. as error: if ..: raise / else:` statement that the function
translator refuses as a whole.  The method is therefore translated in slices (guard, packet 1 + `transceive`,
the ACK test [group TagCmd], the test inside the handler and the `_current_sector = None` behind it, the two `raise`
branches, the statements behind the `if` = the assignment of `_current_sector`, the `return`), each addressed by its
position in the statement tree, and `genSectorSelect` puts the slices together the way the statement tree nests them.
The nesting itself (which slice sits in which branch) is fixed by the `path=` of every slice: a slice that moves to
another branch is no longer found at its path and the regenerated definition is refused.
-/
namespace NfcVerif.FnBridge.T12Ops
open NfcVerif NfcVerif.PyFn

/-- the slices of `Type2Tag.sector_select`, nested as in the source; `cur` is `_current_sector` (`none` = Python
`None`: the guard slice is translated for an int, and `sector != None` is true); `p2` is the outcome of the
`transceive` of packet 2 (keyword arguments `timeout=0.001, retries=0`: not translatable).  Result: value /
exception and `_current_sector` afterwards.  `genSelectSend` is the body of `if sector != self._current_sector:`. -/
def genSelectSend (cur : Option Int) (sector : Int) (tx1 : Bytes → Py Bytes) (p2 : Py Bytes) :
    Py (Option Int) × Option Int :=
  match Gen.Fn.t2o_ss_send1 tx1 with
  | .error e => (.error e, cur)
  | .ok rsp =>
    match Gen.Fn.t2_sector_ack rsp with
    | .error e => (.error e, cur)
    | .ok true =>
      (match p2 with
       | .error (.tagCmd code) =>
         -- `except Type2TagCommandError as error: if int(error) != TIMEOUT_ERROR: self._current_sector = None; raise`
         if Gen.Fn.t2o_ss_p2_passive code = true then (.error (.tagCmd code), Gen.Fn.t2o_ss_p2_forget)
         else (.ok (Gen.Fn.t2o_ss_ret (some (Gen.Fn.t2o_ss_commit sector))), some (Gen.Fn.t2o_ss_commit sector))
       | .error e => (.error e, cur)
       | .ok _ =>
         -- `else:` of the try statement
         match Gen.Fn.t2o_ss_no_sector sector with
         | .error e => (.error e, cur)
         | .ok _ => (.ok (Gen.Fn.t2o_ss_ret (some (Gen.Fn.t2o_ss_commit sector))), some (Gen.Fn.t2o_ss_commit sector)))
    | .ok false =>
      match Gen.Fn.t2o_ss_unsupported with
      | .error e => (.error e, cur)
      | .ok _ => (.ok (Gen.Fn.t2o_ss_ret (some (Gen.Fn.t2o_ss_commit sector))), some (Gen.Fn.t2o_ss_commit sector))

/-- the whole method: the guard (for `None` the Python test `sector != None` is true), then the body of the `if`
(`genSelectSend`: the slices nested as in the source) or the plain `return` -/
def genSectorSelect (cur : Option Int) (sector : Int) (tx1 : Bytes → Py Bytes) (p2 : Py Bytes) :
    Py (Option Int) × Option Int :=
  match cur with
  | none => genSelectSend cur sector tx1 p2
  | some c =>
    if Gen.Fn.t2o_ss_guard sector c = true then genSelectSend cur sector tx1 p2
    else (.ok (Gen.Fn.t2o_ss_ret cur), cur)

/-- the two slices of the NAK branch of `Type2Tag.read` behind the re-activation (`self._target = self.clf.sense(..)`,
not translated): statement 3 assigns `_current_sector`, statement 4 raises.  Result: exception, `_current_sector`. -/
def genReadNak (alive : Bool) : Py Unit × Int :=
  (Gen.Fn.t2o_read_nak_exc alive, Gen.Fn.t2o_read_nak_reset)

/-- a whole method `check; cmd = build(..); rest(cmd)` is its command slice followed by the rest -/
theorem check_build_then {α β γ} {c : Prop} [Decidable c] (e : Exc) (m : Py α) (k : α → β) (g : β → Py γ) :
    ((if c then .error e else m >>= fun t => .ok (k t)) >>= g) = if c then .error e else m >>= fun t => g (k t) := by
  by_cases h : c
  · rw [if_pos h, if_pos h]; rfl
  · rw [if_neg h, if_neg h, bind_assoc]; rfl

end NfcVerif.FnBridge.T12Ops
