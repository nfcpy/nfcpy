import NfcVerif.Gen.FnNxp
import NfcVerif.Model.FnNxpRef
import NfcVerif.Lemmas.FnBridgeVendor
/-!
# Helper lemmas for the bridge theorems of group Nxp (`Props/FnBridgeNxp.lean`)
-/
namespace NfcVerif.FnBridge.Nxp
open NfcVerif NfcVerif.PyFn NfcVerif.FnBridge.TagCmd NfcVerif.FnBridge.Vendor NfcVerif.VendorRef NfcVerif.NxpRef

/-! the bridges of whole methods normalise both sides (binds nested to the right, `if` pushed into the continuation,
loops over literal ranges and WRITE lists unrolled) and compare -/

/-- a WRITE list in front of a continuation is the chain of WRITE commands in front of it -/
theorem runWrites_cons {β} (wr : Wr) (p : Int) (d : Bytes) (l : List (Int × Bytes)) (k : Unit → Py β) :
    (runWrites wr ((p, d) :: l) >>= k) = (wr p d >>= fun _ => runWrites wr l >>= k) := by
  show ((wr p d >>= fun _ => runWrites wr l) >>= k) = _
  cases wr p d <;> rfl

theorem runWrites_nil {β} (wr : Wr) (k : Unit → Py β) : (runWrites wr [] >>= k) = k () := rfl

end NfcVerif.FnBridge.Nxp
