import NfcVerif.Model.Monitor
/-!
Soundness of the monitor-discipline checker, once for all programs (`monitor_sound`), and the
`notify` vs `notify_all` counter-example.
Two halves meet in the per-thread monitor `mstep`. `chk_sound`, by induction on `Runs`: a statement
that `chk` accepts from the abstract state `st` takes any monitor state that is `Le st` (same lock
depth, owes no more, has notified no less) along its trace to one that is `Le` what `chk` returns,
on completion and on abort (`Post`); `chk_loop` gives the loop invariant, and `post_depth0` is why
`reenter` and every further entry point start from `A.empty`. `J cfg g ms` ties the global state
to one ghost monitor per thread; its clause `lost` is the property (a blocked thread whose guard
has changed is owed a notification by the lock holder, hence none when the lock is free: `J.good`).
Every event but an unowed write preserves `J` by the frame lemma `J.step`, which asks of the threads
that do not step only `Woken`, so `notify` and `notify_all` (`step_notify_gen`) go through it like
the lock events; a write that owes nothing may come from a thread outside the lock, moves no monitor
and leaves only `lost` to show (`step_wr`). `Single` is needed in `step_ntf` alone. `run_good` walks
a schedule with `J` and `Acc` per thread.
-/
namespace NfcVerif.Monitor

/-! ## the checker is sound for the per-thread monitor -/

theorem mrun_append (cfg : Cfg) (m : Mon) (a b : List Ev) :
    mrun cfg m (a ++ b) = (mrun cfg m a).bind (fun m' => mrun cfg m' b) := by
  induction a generalizing m with
  | nil => simp [mrun]
  | cons e es ih => simp only [List.cons_append, mrun]; cases mstep cfg m e <;> simp [ih]

theorem mrun_cons {cfg : Cfg} {m m' : Mon} {e : Ev} (es : List Ev) (h : mstep cfg m e = some m') :
    mrun cfg m (e :: es) = mrun cfg m' es := by rw [mrun, h]

theorem mrun_single {cfg : Cfg} {m m' : Mon} {e : Ev} (h : mstep cfg m e = some m') :
    mrun cfg m [e] = some m' := by rw [mrun, h]; rfl

/-- the monitor state `m` (at lock depth `d`) is at least as good as the abstract state `st` -/
def Le (st : A) (m : Mon) (d : Nat) : Prop :=
  m.depth = d ∧ m.waiting = false ∧ (∀ cv ∈ m.need, cv ∈ st.need) ∧ (∀ cv ∈ st.ntf, cv ∈ m.ntf)

def LeO (o : Option A) (m : Mon) (d : Nat) : Prop := ∃ st, o = some st ∧ Le st m d

theorem Le.mono {x y : A} {m : Mon} {d : Nat} (h : Le x m d) (hxy : x.le y = true) : Le y m d := by
  obtain ⟨h1, h2, h3, h4⟩ := h
  simp only [A.le, Bool.and_eq_true, List.all_eq_true, List.contains_iff_mem] at hxy
  exact ⟨h1, h2, fun cv hc => hxy.1 cv (h3 cv hc), fun cv hc => h4 cv (hxy.2 cv hc)⟩

theorem Le.joinL {x : A} (y : A) {m : Mon} {d : Nat} (h : Le x m d) : Le (x.join y) m d := by
  obtain ⟨h1, h2, h3, h4⟩ := h
  refine ⟨h1, h2, fun cv hc => ?_, fun cv hc => ?_⟩
  · simp only [A.join, List.mem_append]; exact Or.inl (h3 cv hc)
  · simp only [A.join, List.mem_filter] at hc; exact h4 cv hc.1

theorem Le.joinR (x : A) {y : A} {m : Mon} {d : Nat} (h : Le y m d) : Le (x.join y) m d := by
  obtain ⟨h1, h2, h3, h4⟩ := h
  refine ⟨h1, h2, fun cv hc => ?_, fun cv hc => ?_⟩
  · simp only [A.join, List.mem_append]; exact Or.inr (h3 cv hc)
  · simp only [A.join, List.mem_filter, List.contains_iff_mem] at hc; exact h4 cv hc.2

theorem LeO.joinL {x : Option A} (y : Option A) {m : Mon} {d : Nat} (h : LeO x m d) : LeO (joinO x y) m d := by
  obtain ⟨st, rfl, hl⟩ := h
  cases y with
  | none => exact ⟨st, rfl, hl⟩
  | some y => exact ⟨st.join y, rfl, hl.joinL y⟩

theorem LeO.joinR (x : Option A) {y : Option A} {m : Mon} {d : Nat} (h : LeO y m d) : LeO (joinO x y) m d := by
  obtain ⟨st, rfl, hl⟩ := h
  cases x with
  | none => exact ⟨st, rfl, hl⟩
  | some x => exact ⟨x.join st, rfl, hl.joinR x⟩

theorem Le.discharged {st : A} {m : Mon} {d : Nat} (h : Le st m d) (hd : st.discharged = true) :
    m.need.isEmpty = true := by
  obtain ⟨_, _, h3, _⟩ := h
  simp only [A.discharged, List.isEmpty_iff] at hd
  cases hn : m.need with
  | nil => rfl
  | cons c cs => have := h3 c (by simp [hn]); rw [hd] at this; cases this

theorem Le_filter {x y : List Cv} {cv : Cv} (h : ∀ c ∈ x, c ∈ y) :
    ∀ c ∈ x.filter (fun c => c != cv), c ∈ y.filter (fun c => c != cv) := by
  intro c hc
  simp only [List.mem_filter] at hc ⊢
  exact ⟨h c hc.1, hc.2⟩

theorem Le_cons {x y : List Cv} {cv : Cv} (h : ∀ c ∈ x, c ∈ y) : ∀ c ∈ cv :: x, c ∈ cv :: y := by
  intro c hc
  simp only [List.mem_cons] at hc ⊢
  rcases hc with hc | hc
  · exact Or.inl hc
  · exact Or.inr (h c hc)

/-- result of running a checked statement under the monitor -/
def Post (cfg : Cfg) (d : Nat) (r : R) (m : Mon) (tr : List Ev) (c : Bool) : Prop :=
  ∃ m', mrun cfg m tr = some m' ∧ (c = true → LeO r.1 m' d) ∧ (c = false → LeO r.2 m' d)

/-- outside the lock the monitor owes nothing -/
theorem mstep_inv0 {cfg : Cfg} {m m' : Mon} {e : Ev} (h : mstep cfg m e = some m')
    (hi : m.depth = 0 → m.need = []) : m'.depth = 0 → m'.need = [] := by
  cases e with
  | acq =>
    simp only [mstep] at h
    split at h
    · cases h
    split at h <;> (cases h; intro hd; simp at hd)
  | rel =>
    simp only [mstep] at h
    split at h
    · cases h
    rename_i hc
    simp only [Bool.or_eq_true, beq_iff_eq, not_or, Bool.not_eq_true] at hc
    split at h
    · split at h
      · cases h; intro _; rfl
      · cases h
    · rename_i h1; cases h; intro hd; simp at hd; omega
  | waitB _ _ _ | wake =>
    simp only [mstep] at h
    split at h
    · cases h; intro _; rfl
    · cases h
  | ntfAll cv =>
    simp only [mstep] at h
    split at h
    · cases h; intro hd; simp [hi hd]
    · cases h
  | ntf mt cv =>
    simp only [mstep] at h
    split at h
    · cases h
      split
      · intro hd; simp [hi hd]
      · exact hi
    · cases h
  | wr mt a =>
    simp only [mstep] at h
    split at h
    · cases h
    split at h
    · cases h; exact hi
    · split at h
      · cases h
      · rename_i hd; cases h; intro hd'; exact absurd hd' hd

theorem mrun_inv0 {cfg : Cfg} {m m' : Mon} {l : List Ev} (h : mrun cfg m l = some m')
    (hi : m.depth = 0 → m.need = []) : m'.depth = 0 → m'.need = [] := by
  induction l generalizing m with
  | nil => simp only [mrun, Option.some.injEq] at h; subst h; exact hi
  | cons e es ih =>
    simp only [mrun] at h
    split at h
    · rename_i m1 h1; exact ih h (mstep_inv0 h1 hi)
    · cases h

theorem Le.need_nil {m : Mon} {d : Nat} (h : Le A.empty m d) : m.need = [] :=
  List.isEmpty_iff.mp (h.discharged rfl)

/-- back at depth 0 nothing is owed (`mrun_inv0`) and `A.empty` asks for no notification: whatever state
`chk` returned, the monitor is at `A.empty` again -/
theorem post_depth0 {cfg : Cfg} {r : R} {m : Mon} {tr : List Ev} {c : Bool} (h : Post cfg 0 r m tr c)
    (hm : m.need = []) : ∃ m', mrun cfg m tr = some m' ∧ Le A.empty m' 0 := by
  obtain ⟨m', hrun, hT, hF⟩ := h
  have : ∃ st, Le st m' 0 := by
    cases c with
    | true => obtain ⟨st, _, h⟩ := hT rfl; exact ⟨st, h⟩
    | false => obtain ⟨st, _, h⟩ := hF rfl; exact ⟨st, h⟩
  obtain ⟨st, h1, h2, _, _⟩ := this
  exact ⟨m', hrun, h1, h2, by simp [mrun_inv0 hrun (fun _ => hm) h1], by simp [A.empty]⟩

theorem chk_call_some {cfg : Cfg} {P : List Stmt} {E : List Meth} {f d : Nat} {st : A} {m : Meth} {s : Stmt}
    (hp : P[m]? = some s) : chk cfg P E (f + 1) d st (.call m) = chk cfg P E f d st s := by
  simp only [chk, hp]

/-- what `chk` guarantees for a loop: an invariant abstract state from which the body checks, and
from which the loop statement itself checks again with the same result -/
theorem chk_loop {cfg : Cfg} {P : List Stmt} {E : List Meth} {f d : Nat} {st : A} {s : Stmt} {r : R}
    (h : chk cfg P E (f + 1) d st (.loop s) = some r) :
    ∃ inv n2 a2, r = (some inv, a2) ∧ chk cfg P E f d inv s = some (n2, a2) ∧ stable n2 inv = true
      ∧ chk cfg P E (f + 1) d inv (.loop s) = some (some inv, a2)
      ∧ (∀ m, Le st m d → Le inv m d) := by
  simp only [chk] at h
  split at h
  · cases h
  rename_i n1 a1 h1
  split at h
  · rename_i hs
    cases h
    exact ⟨st, n1, a1, rfl, h1, hs, by simp [chk, h1, hs], fun _ hm => hm⟩
  · split at h
    · cases h
    rename_i n2 a2 h2
    split at h
    · rename_i hs
      cases h
      refine ⟨_, n2, a2, rfl, h2, hs, by simp [chk, h2, hs], ?_⟩
      intro m hm
      cases n1 with
      | none => exact hm
      | some x => exact hm.joinL x
    · cases h

theorem chk_pos {cfg : Cfg} {P : List Stmt} {E : List Meth} {f d : Nat} {st : A} {s : Stmt} {r : R}
    (h : chk cfg P E f d st s = some r) : ∃ f', f = f' + 1 := by
  cases f with
  | zero => simp [chk] at h
  | succ f => exact ⟨f, rfl⟩

theorem chk_sound (cfg : Cfg) (P : List Stmt) (E : List Meth) (hE : ∀ m ∈ E, entryOk cfg P E m = true) :
    ∀ s tr c, Runs P s tr c → ∀ f d st r m, chk cfg P E f d st s = some r → Le st m d → Post cfg d r m tr c := by
  intro s tr c hr
  induction hr
  all_goals
    intro f d st r m h hle
    obtain ⟨f, rfl⟩ := chk_pos h
  case withLock l s0 tr0 c0 hr ih =>
    simp only [chk] at h
    split at h
    · cases h
    split at h
    · cases h
    rename_i hre
    split at h
    · cases h
    rename_i n a hin
    obtain ⟨hd, hw, hn, hf⟩ := hle
    by_cases hd0 : d = 0
    · subst hd0
      simp only [if_true] at h hin
      split at h
      · rename_i hok
        cases h
        simp only [Bool.and_eq_true] at hok
        have e1 : mstep cfg m .acq = some ⟨1, false, [], []⟩ := by simp [mstep, hw, hd]
        obtain ⟨m1, hrun, hT, hF⟩ := ih f 1 A.empty (n, a) ⟨1, false, [], []⟩ hin
          ⟨rfl, rfl, by simp, by simp [A.empty]⟩
        have key : ∀ o : Option A, okO o = true → LeO o m1 1 →
            mstep cfg m1 .rel = some ⟨0, false, [], []⟩ ∧ LeO (o.map (fun _ => A.empty)) ⟨0, false, [], []⟩ 0 := by
          intro o ho hl
          obtain ⟨st1, rfl, hl1⟩ := hl
          have hs := hl1.discharged ho
          obtain ⟨h1, h2, _, _⟩ := hl1
          refine ⟨by simp [mstep, h1, h2, hs], A.empty, rfl, rfl, rfl, by simp, by simp [A.empty]⟩
        have hrel : mstep cfg m1 .rel = some ⟨0, false, [], []⟩ := by
          cases c0 with
          | true => exact (key n hok.1 (hT rfl)).1
          | false => exact (key a hok.2 (hF rfl)).1
        refine ⟨⟨0, false, [], []⟩, ?_, ?_, ?_⟩
        · show mrun cfg m (Ev.acq :: (tr0 ++ [Ev.rel])) = _
          rw [mrun_cons _ e1, mrun_append, hrun]
          exact mrun_single hrel
        · intro hc; exact (key n hok.1 (hT hc)).2
        · intro hc; exact (key a hok.2 (hF hc)).2
      · cases h
    · simp only [hd0, if_false] at h hin
      cases h
      have e1 : mstep cfg m .acq = some { m with depth := m.depth + 1 } := by
        simp [mstep, hw, hd, hd0]
      obtain ⟨m1, hrun, hT, hF⟩ := ih f (d + 1) st (n, a) { m with depth := m.depth + 1 } hin
        ⟨by simp [hd], hw, hn, hf⟩
      have key : ∀ o : Option A, LeO o m1 (d + 1) →
          mstep cfg m1 .rel = some { m1 with depth := m1.depth - 1 } ∧ LeO o { m1 with depth := m1.depth - 1 } d := by
        intro o hl
        obtain ⟨st1, rfl, h1, h2, h3, h4⟩ := hl
        refine ⟨?_, st1, rfl, by simp [h1], h2, h3, h4⟩
        simp [mstep, h1, h2, hd0]
      have hrel : mstep cfg m1 .rel = some { m1 with depth := m1.depth - 1 } := by
        cases c0 with
        | true => exact (key n (hT rfl)).1
        | false => exact (key a (hF rfl)).1
      refine ⟨{ m1 with depth := m1.depth - 1 }, ?_, ?_, ?_⟩
      · show mrun cfg m (Ev.acq :: (tr0 ++ [Ev.rel])) = _
        rw [mrun_cons _ e1, mrun_append, hrun]
        exact mrun_single hrel
      · intro hc; exact (key n (hT hc)).2
      · intro hc; exact (key a (hF hc)).2
  case wait mt cv g reads t =>
    simp only [chk] at h
    split at h
    · cases h
    rename_i hd0
    split at h
    · cases h
    rename_i hwo
    split at h
    · cases h
    rename_i hdis
    cases h
    simp only [Bool.not_eq_false, Bool.not_eq_eq_eq_not, Bool.not_true] at hwo hdis
    have hs := hle.discharged hdis
    obtain ⟨hd, hw, hn, hf⟩ := hle
    simp only [Cfg.waitOk, Bool.and_eq_true] at hwo
    have e1 : mstep cfg m (.waitB mt cv reads) = some ⟨m.depth, true, [], []⟩ := by
      have : m.depth ≠ 0 := by omega
      simp [mstep, hw, this, hs, hwo.1.1, hwo.1.2]
    have e2 : mstep cfg ⟨m.depth, true, [], []⟩ .wake = some ⟨m.depth, false, [], []⟩ := by simp [mstep]
    refine ⟨⟨m.depth, false, [], []⟩, ?_, ?_, by simp⟩
    · rw [mrun_cons _ e1]; exact mrun_single e2
    · intro _; exact ⟨A.empty, rfl, hd, rfl, by simp, by simp [A.empty]⟩
  case notify mt cv =>
    simp only [chk] at h
    split at h
    · cases h
    rename_i hd0
    obtain ⟨hd, hw, hn, hf⟩ := hle
    have hne : m.depth ≠ 0 := by omega
    split at h
    · rename_i hex
      cases h
      refine ⟨{ m with need := m.need.filter (fun c => c != cv), ntf := cv :: m.ntf },
        mrun_single (by simp [mstep, hw, hne, hex]), ?_, by simp⟩
      intro _
      exact ⟨_, rfl, hd, hw, Le_filter hn, Le_cons hf⟩
    · rename_i hex
      cases h
      refine ⟨m, mrun_single (by simp [mstep, hw, hne, hex]), ?_, by simp⟩
      intro _; exact ⟨_, rfl, hd, hw, hn, hf⟩
  case notifyAll mt cv =>
    simp only [chk] at h
    split at h
    · cases h
    rename_i hd0
    cases h
    obtain ⟨hd, hw, hn, hf⟩ := hle
    have hne : m.depth ≠ 0 := by omega
    refine ⟨{ m with need := m.need.filter (fun c => c != cv), ntf := cv :: m.ntf },
      mrun_single (by simp [mstep, hw, hne]), ?_, by simp⟩
    intro _
    exact ⟨_, rfl, hd, hw, Le_filter hn, Le_cons hf⟩
  case write mt a =>
    simp only [chk] at h
    obtain ⟨hd, hw, hn, hf⟩ := hle
    split at h
    · rename_i ho
      cases h
      refine ⟨m, mrun_single (by simp [mstep, hw, ho]), ?_, by simp⟩
      intro _; exact ⟨_, rfl, hd, hw, hn, hf⟩
    · rename_i ho
      split at h
      · cases h
      rename_i hd0
      cases h
      have hne : m.depth ≠ 0 := by omega
      refine ⟨{ m with need := (cfg.owed mt a).filter (fun cv => !m.ntf.contains cv) ++ m.need },
        mrun_single (by simp [mstep, hw, ho, hne]), ?_, by simp⟩
      intro _
      refine ⟨_, rfl, hd, hw, ?_, hf⟩
      intro c hc
      simp only [List.mem_append, List.mem_filter, Bool.not_eq_true', List.contains_eq_mem,
        decide_eq_false_iff_not] at hc ⊢
      rcases hc with ⟨hc1, hc2⟩ | hc
      · exact Or.inl ⟨hc1, fun hx => hc2 (hf c hx)⟩
      · exact Or.inr (hn c hc)
  case call mt s0 tr0 c0 hp hr ih =>
    simp only [chk, hp] at h
    exact ih f d st r m h hle
  case reenter mt s0 tr0 c0 hp hr ih =>
    simp only [chk] at h
    split at h
    rotate_left
    · cases h
    rename_i hc
    cases h
    simp only [Bool.and_eq_true, decide_eq_true_eq, List.isEmpty_iff, List.contains_iff_mem] at hc
    obtain ⟨⟨rfl, hne⟩, hmem⟩ := hc
    have hok := hE mt hmem
    simp only [entryOk, Option.isSome_iff_exists] at hok
    obtain ⟨r0, hr0⟩ := hok
    rw [show fuel0 = 399 + 1 from rfl, chk_call_some hp] at hr0
    have hmn : m.need = [] := List.isEmpty_iff.mp (hle.discharged (List.isEmpty_iff.mpr hne))
    obtain ⟨hd, hw, hn, hf⟩ := hle
    obtain ⟨m1, hrun, hm1⟩ :=
      post_depth0 (ih _ 0 A.empty r0 m hr0 ⟨hd, hw, by simp [hmn], by simp [A.empty]⟩) hmn
    exact ⟨m1, hrun, fun _ => ⟨_, rfl, hm1⟩, fun _ => ⟨_, rfl, hm1⟩⟩
  case seqAbort a b ta hr ih =>
    simp only [chk] at h
    split at h
    · cases h
    · rename_i aa ha
      cases h
      obtain ⟨m1, hrun, hT, hF⟩ := ih f d st _ m ha hle
      exact ⟨m1, hrun, by simp, fun hc => hF hc⟩
    · rename_i sa aa ha
      split at h
      · cases h
      · rename_i nb ab hb
        cases h
        obtain ⟨m1, hrun, hT, hF⟩ := ih f d st _ m ha hle
        exact ⟨m1, hrun, by simp, fun hc => (hF hc).joinL ab⟩
  case seq a b ta tb c0 hra hrb iha ihb =>
    simp only [chk] at h
    split at h
    · cases h
    · rename_i aa ha
      obtain ⟨m1, hrun, hT, hF⟩ := iha f d st _ m ha hle
      obtain ⟨_, hx, _⟩ := hT rfl
      cases hx
    · rename_i sa aa ha
      split at h
      · cases h
      · rename_i nb ab hb
        cases h
        obtain ⟨m1, hrun, hT, hF⟩ := iha f d st _ m ha hle
        obtain ⟨s1, hx, hl1⟩ := hT rfl
        simp only [Option.some.injEq] at hx
        subst hx
        obtain ⟨m2, hrun2, hT2, hF2⟩ := ihb f d _ _ m1 hb hl1
        refine ⟨m2, ?_, hT2, fun hc => (hF2 hc).joinR aa⟩
        rw [mrun_append, hrun]; exact hrun2
  case brL a b t c0 hr ih =>
    simp only [chk] at h
    split at h
    · rename_i na aa nb ab ha hb
      cases h
      obtain ⟨m1, hrun, hT, hF⟩ := ih f d st _ m ha hle
      exact ⟨m1, hrun, fun hc => (hT hc).joinL nb, fun hc => (hF hc).joinL ab⟩
    · cases h
  case brR a b t c0 hr ih =>
    simp only [chk] at h
    split at h
    · rename_i na aa nb ab ha hb
      cases h
      obtain ⟨m1, hrun, hT, hF⟩ := ih f d st _ m hb hle
      exact ⟨m1, hrun, fun hc => (hT hc).joinR na, fun hc => (hF hc).joinR aa⟩
    · cases h
  case loop0 s0 =>
    obtain ⟨inv, n2, a2, rfl, h2, hst, hagain, hmono⟩ := chk_loop h
    exact ⟨m, rfl, fun _ => ⟨_, rfl, hmono m hle⟩, by simp⟩
  case loopAbort s0 t hr ih =>
    obtain ⟨inv, n2, a2, rfl, h2, hst, hagain, hmono⟩ := chk_loop h
    obtain ⟨m1, hrun, hT, hF⟩ := ih f d _ _ m h2 (hmono m hle)
    exact ⟨m1, hrun, by simp, hF⟩
  case loopS s0 t u c0 hrs hrl ihs ihl =>
    obtain ⟨inv, n2, a2, rfl, h2, hst, hagain, hmono⟩ := chk_loop h
    obtain ⟨m1, hrun, hT, hF⟩ := ihs f d _ _ m h2 (hmono m hle)
    obtain ⟨x, hx, hl1⟩ := hT rfl
    simp only at hx
    subst hx
    have hl1' : Le inv m1 d := hl1.mono (by simpa [stable] using hst)
    obtain ⟨m2, hrun2, hT2, hF2⟩ := ihl (f + 1) d inv _ m1 hagain hl1'
    refine ⟨m2, ?_, hT2, hF2⟩
    rw [mrun_append, hrun]; exact hrun2
  case tryOk a b t hr ih =>
    simp only [chk] at h
    split at h
    · cases h
    · rename_i na ha
      cases h
      obtain ⟨m1, hrun, hT, hF⟩ := ih f d st _ m ha hle
      exact ⟨m1, hrun, hT, by simp⟩
    · rename_i na sa ha
      split at h
      · cases h
      · rename_i nb ab hb
        cases h
        obtain ⟨m1, hrun, hT, hF⟩ := ih f d st _ m ha hle
        exact ⟨m1, hrun, fun hc => (hT hc).joinL nb, by simp⟩
  case tryUncaught a b t hr ih =>
    simp only [chk] at h
    split at h
    · cases h
    · rename_i na ha
      obtain ⟨m1, hrun, hT, hF⟩ := ih f d st _ m ha hle
      obtain ⟨_, hx, _⟩ := hF rfl
      cases hx
    · rename_i na sa ha
      split at h
      · cases h
      · rename_i nb ab hb
        cases h
        obtain ⟨m1, hrun, hT, hF⟩ := ih f d st _ m ha hle
        exact ⟨m1, hrun, by simp, fun hc => (hF hc).joinL ab⟩
  case tryCaught a b t u c0 hra hrb iha ihb =>
    simp only [chk] at h
    split at h
    · cases h
    · rename_i na ha
      obtain ⟨m1, hrun, hT, hF⟩ := iha f d st _ m ha hle
      obtain ⟨_, hx, _⟩ := hF rfl
      cases hx
    · rename_i na sa ha
      split at h
      · cases h
      · rename_i nb ab hb
        cases h
        obtain ⟨m1, hrun, hT, hF⟩ := iha f d st _ m ha hle
        obtain ⟨s1, hx, hl1⟩ := hF rfl
        simp only [Option.some.injEq] at hx
        subst hx
        obtain ⟨m2, hrun2, hT2, hF2⟩ := ihb f d _ _ m1 hb hl1
        refine ⟨m2, ?_, fun hc => (hT2 hc).joinR na, fun hc => (hF2 hc).joinR (some sa)⟩
        rw [mrun_append, hrun]; exact hrun2
  case exit =>
    simp only [chk] at h
    cases h
    exact ⟨m, rfl, by simp, fun _ => ⟨_, rfl, hle⟩⟩
  case skip =>
    simp only [chk] at h
    cases h
    exact ⟨m, rfl, fun _ => ⟨_, rfl, hle⟩, by simp⟩

/-! ## accepted monitors imply the global invariant -/

def upd {n} (ms : Fin n → Mon) (t : Fin n) (m : Mon) : Fin n → Mon := fun i => if i = t then m else ms i

@[simp] theorem upd_same {n} (ms : Fin n → Mon) (t : Fin n) (m : Mon) : upd ms t m t = m := by simp [upd]
theorem upd_other {n} (ms : Fin n → Mon) (t i : Fin n) (m : Mon) (h : i ≠ t) : upd ms t m i = ms i := by simp [upd, h]
theorem upd_self {n} (ms : Fin n → Mon) (t : Fin n) : upd ms t (ms t) = ms := by
  funext i; by_cases h : i = t <;> simp [upd, h]

theorem blockedOn_true {x : TS} {cv : Cv} (h : blockedOn x cv = true) : ∃ r s d, x = .blocked cv r s d := by
  cases x with
  | blocked c r s d => simp [blockedOn] at h; subst h; exact ⟨r, s, d, rfl⟩
  | run => simp [blockedOn] at h
  | notified d => simp [blockedOn] at h

theorem map_ne {α β} {f g : α → β} {l : List α} (h : l.map f ≠ l.map g) : ∃ a ∈ l, f a ≠ g a := by
  apply Classical.byContradiction
  intro hn
  apply h
  apply List.map_congr_left
  intro a ha
  apply Classical.byContradiction
  intro hne
  exact hn ⟨a, ha, hne⟩

/-- joint invariant of the global state and the ghost monitors -/
structure J {n} (cfg : Cfg) (g : G n) (ms : Fin n → Mon) : Prop where
  hold1 : ∀ i, (ms i).depth ≠ 0 → (ms i).waiting = false → g.holder = some i
  hold2 : ∀ i, g.holder = some i → (ms i).depth ≠ 0 ∧ (ms i).waiting = false ∧ g.depth = (ms i).depth
  run : ∀ i, (ms i).waiting = false → g.ts i = .run
  wait : ∀ i, (ms i).waiting = true →
    (ms i).depth ≠ 0 ∧ ((∃ cv r s, g.ts i = .blocked cv r s (ms i).depth) ∨ g.ts i = .notified (ms i).depth)
  lost : ∀ t cv reads snap d, g.ts t = .blocked cv reads snap d → reads.map (fun a => g.ver a cv) ≠ snap →
    ∃ h, g.holder = some h ∧ cv ∈ (ms h).need
  ntfd : ∀ h, g.holder = some h → ∀ cv ∈ (ms h).ntf, ∀ t, blockedOn (g.ts t) cv = false
  rds : ∀ t cv reads snap d, g.ts t = .blocked cv reads snap d →
    cfg.cvOk cv = true ∧ ∀ a ∈ reads, cfg.reads a cv = true

theorem J.good {n} {cfg : Cfg} {g : G n} {ms : Fin n → Mon} (hj : J cfg g ms) : Good g := by
  intro hfree t cv reads snap d hb
  apply Classical.byContradiction
  intro hne
  obtain ⟨h, hh, _⟩ := hj.lost t cv reads snap d hb hne
  rw [hfree] at hh; cases hh

theorem J.init {n} (cfg : Cfg) : J cfg (G.init n) (fun _ => Mon.init) := by
  refine ⟨?_, ?_, ?_, ?_, ?_, ?_, ?_⟩ <;> simp [G.init, Mon.init]

/-- in a monitor state that holds the lock nobody else can -/
theorem J.others {n} {cfg : Cfg} {g : G n} {ms : Fin n → Mon} (hj : J cfg g ms) {t i : Fin n}
    (ht : g.holder = some t) (hit : i ≠ t) : ¬ ((ms i).depth ≠ 0 ∧ (ms i).waiting = false) := by
  intro ⟨h1, h2⟩
  have := hj.hold1 i h1 h2
  rw [ht] at this
  exact hit (Option.some.inj this).symm

/-- while the lock is free no monitor is inside it -/
theorem J.nobody {n} {cfg : Cfg} {g : G n} {ms : Fin n → Mon} (hj : J cfg g ms) (hfree : g.holder = none)
    (i : Fin n) : ¬ ((ms i).depth ≠ 0 ∧ (ms i).waiting = false) := by
  intro ⟨h1, h2⟩
  have := hj.hold1 i h1 h2
  rw [hfree] at this
  cases this

theorem cv_mem_owed {cfg : Cfg} {m : Meth} {a : Attr} {cv : Cv}
    (hok : cfg.cvOk cv = true) (hr : cfg.reads a cv = true) (hx : cfg.wExempt m a cv = false) : cv ∈ cfg.owed m a := by
  simp only [Cfg.owed, List.mem_filter, List.mem_map, Bool.and_eq_true, hr, hx, Bool.not_false, and_self, and_true]
  simp only [Cfg.cvOk, List.any_eq_true, Bool.and_eq_true, beq_iff_eq] at hok
  obtain ⟨x, hx1, hx2, _⟩ := hok
  exact ⟨x, hx1, hx2⟩

theorem J.lost_at {n} {cfg : Cfg} {g : G n} {ms : Fin n → Mon} (hj : J cfg g ms) {t : Fin n}
    (hh : g.holder = some t) {t' : Fin n} {cv reads snap d} (hb : g.ts t' = .blocked cv reads snap d)
    (hne : reads.map (fun a => g.ver a cv) ≠ snap) : cv ∈ (ms t).need := by
  obtain ⟨h, hh', hc⟩ := hj.lost t' cv reads snap d hb hne
  obtain rfl : t = h := Option.some.inj (hh.symm.trans hh')
  exact hc

/-- `y` is `x`, or `x` after a notification.  A `notify` / `notify_all` of thread `t` changes the states of
OTHER threads, but only from blocked to notified, and no clause of `J` tells the two apart for a thread that
does not step; so the frame lemma `J.step` asks of the other threads only this. -/
def Woken (x y : TS) : Prop := y = x ∨ ∃ c r s d, x = .blocked c r s d ∧ y = .notified d

theorem Woken.of_eq {x y : TS} (h : y = x) : Woken x y := Or.inl h

theorem Woken.refl {x : TS} : Woken x x := Woken.of_eq rfl

theorem woken_wakeAll (cv : Cv) (x : TS) : Woken x (wakeAll cv x) := by
  cases x with
  | blocked c r s d =>
    simp only [wakeAll]
    split
    · exact Or.inr ⟨c, r, s, d, rfl, rfl⟩
    · exact Woken.refl
  | run => exact Woken.refl
  | notified d => exact Woken.refl

theorem Woken.run {x y : TS} (h : Woken x y) (hx : x = .run) : y = .run := by
  rcases h with rfl | ⟨c, r, s, d, rfl, _⟩
  · exact hx
  · cases hx

theorem Woken.waiting {x y : TS} {dep : Nat} (h : Woken x y)
    (hx : (∃ c r s, x = .blocked c r s dep) ∨ x = .notified dep) :
    (∃ c r s, y = .blocked c r s dep) ∨ y = .notified dep := by
  rcases h with rfl | ⟨c, r, s, d, rfl, rfl⟩
  · exact hx
  · rcases hx with ⟨c', r', s', h⟩ | h
    · cases h; exact Or.inr rfl
    · cases h

theorem Woken.blocked {x y : TS} {c r s d} (h : Woken x y) (hy : y = .blocked c r s d) : x = .blocked c r s d := by
  rcases h with rfl | ⟨_, _, _, _, _, rfl⟩
  · exact hy
  · cases hy

theorem wakeAll_run {cv : Cv} {x : TS} (h : x = .run) : wakeAll cv x = .run := (woken_wakeAll cv x).run h

theorem wakeAll_waiting {cv : Cv} {x : TS} {dep : Nat} (h : (∃ c r s, x = .blocked c r s dep) ∨ x = .notified dep) :
    (∃ c r s, wakeAll cv x = .blocked c r s dep) ∨ wakeAll cv x = .notified dep := (woken_wakeAll cv x).waiting h

/-- The frame lemma: thread `t` steps to the monitor state `m'`.  `others`, `woken`, `holder` say that no other
monitor is inside the lock, that the other threads are at most woken and that nobody but `t` can hold the lock
afterwards; the remaining premises are the clauses of `J` for `t` and `m'` in the new state. -/
theorem J.step {n} {cfg : Cfg} {g g' : G n} {ms : Fin n → Mon} {t : Fin n} {m' : Mon} (hj : J cfg g ms)
    (others : ∀ i, i ≠ t → ¬ ((ms i).depth ≠ 0 ∧ (ms i).waiting = false))
    (woken : ∀ i, i ≠ t → Woken (g.ts i) (g'.ts i))
    (holder : g'.holder = none ∨ g'.holder = some t)
    (hold1 : m'.depth ≠ 0 → m'.waiting = false → g'.holder = some t)
    (hold2 : g'.holder = some t → m'.depth ≠ 0 ∧ m'.waiting = false ∧ g'.depth = m'.depth)
    (run : m'.waiting = false → g'.ts t = .run)
    (wait : m'.waiting = true →
      m'.depth ≠ 0 ∧ ((∃ cv r s, g'.ts t = .blocked cv r s m'.depth) ∨ g'.ts t = .notified m'.depth))
    (lost : ∀ t' cv reads snap d, g'.ts t' = .blocked cv reads snap d → reads.map (fun a => g'.ver a cv) ≠ snap →
      g'.holder = some t ∧ cv ∈ m'.need)
    (ntfd : g'.holder = some t → ∀ cv ∈ m'.ntf, ∀ t', blockedOn (g'.ts t') cv = false)
    (rds : ∀ cv reads snap d, g'.ts t = .blocked cv reads snap d →
      cfg.cvOk cv = true ∧ ∀ a ∈ reads, cfg.reads a cv = true) :
    J cfg g' (upd ms t m') := by
  have only : ∀ i, g'.holder = some i → i = t := by
    intro i hi
    rcases holder with hh | hh <;> rw [hh] at hi
    · cases hi
    · exact (Option.some.inj hi).symm
  refine ⟨?_, ?_, ?_, ?_, ?_, ?_, ?_⟩
  · intro i h1 h2
    by_cases hit : i = t
    · subst hit; rw [upd_same] at h1 h2; exact hold1 h1 h2
    · rw [upd_other _ _ _ _ hit] at h1 h2; exact absurd ⟨h1, h2⟩ (others i hit)
  · intro i hi
    obtain rfl := only i hi
    rw [upd_same]; exact hold2 hi
  · intro i h2
    by_cases hit : i = t
    · subst hit; rw [upd_same] at h2; exact run h2
    · rw [upd_other _ _ _ _ hit] at h2; exact (woken i hit).run (hj.run i h2)
  · intro i h2
    by_cases hit : i = t
    · subst hit; rw [upd_same] at h2 ⊢; exact wait h2
    · rw [upd_other _ _ _ _ hit] at h2 ⊢
      exact ⟨(hj.wait i h2).1, (woken i hit).waiting (hj.wait i h2).2⟩
  · intro t' cv reads snap d hb hne
    obtain ⟨h1, h2⟩ := lost t' cv reads snap d hb hne
    exact ⟨t, h1, by rw [upd_same]; exact h2⟩
  · intro h hh' cv hc t'
    obtain rfl := only h hh'
    rw [upd_same] at hc; exact ntfd hh' cv hc t'
  · intro t' cv reads snap d hb
    by_cases hit : t' = t
    · subst hit; exact rds cv reads snap d hb
    · exact hj.rds t' cv reads snap d ((woken t' hit).blocked hb)

/-- `J.step` when `t` is running afterwards: its clauses `run`, `wait`, `rds` hold for that reason -/
theorem J.step_run {n} {cfg : Cfg} {g g' : G n} {ms : Fin n → Mon} {t : Fin n} {m' : Mon} (hj : J cfg g ms)
    (hw : m'.waiting = false) (hrun : g'.ts t = .run)
    (others : ∀ i, i ≠ t → ¬ ((ms i).depth ≠ 0 ∧ (ms i).waiting = false))
    (woken : ∀ i, i ≠ t → Woken (g.ts i) (g'.ts i))
    (holder : g'.holder = none ∨ g'.holder = some t)
    (hold1 : m'.depth ≠ 0 → m'.waiting = false → g'.holder = some t)
    (hold2 : g'.holder = some t → m'.depth ≠ 0 ∧ m'.waiting = false ∧ g'.depth = m'.depth)
    (lost : ∀ t' cv reads snap d, g'.ts t' = .blocked cv reads snap d → reads.map (fun a => g'.ver a cv) ≠ snap →
      g'.holder = some t ∧ cv ∈ m'.need)
    (ntfd : g'.holder = some t → ∀ cv ∈ m'.ntf, ∀ t', blockedOn (g'.ts t') cv = false) :
    J cfg g' (upd ms t m') :=
  hj.step others woken holder hold1 hold2
    (run := fun _ => hrun)
    (wait := fun h => by rw [hw] at h; cases h)
    (lost := lost) (ntfd := ntfd)
    (rds := fun _ _ _ _ hb => by rw [hrun] at hb; cases hb)

theorem step_acq {n} {cfg : Cfg} {g g' : G n} {ms : Fin n → Mon} {t w : Fin n} {m' : Mon}
    (hj : J cfg g ms) (hm : mstep cfg (ms t) .acq = some m') (hg : gstep cfg g t .acq w = some g') :
    J cfg g' (upd ms t m') := by
  simp only [mstep] at hm
  split at hm
  · cases hm
  rename_i hw
  simp only [Bool.not_eq_true] at hw
  simp only [gstep] at hg
  split at hg
  · cases hg
  rename_i hrun
  simp only [ne_eq, Decidable.not_not] at hrun
  by_cases hd : (ms t).depth = 0
  · simp only [hd, if_true] at hm
    cases hm
    have hnh : g.holder ≠ some t := fun hh => (hj.hold2 t hh).1 hd
    split at hg
    · rename_i hfree
      cases hg
      exact hj.step_run (hw := rfl) (hrun := hrun)
        (others := fun i _ => hj.nobody hfree i)
        (woken := fun _ _ => Woken.refl)
        (holder := Or.inr rfl)
        (hold1 := fun _ _ => rfl)
        (hold2 := fun _ => ⟨by simp, rfl, rfl⟩)
        (lost := fun t' cv reads snap d hb hne => absurd (hj.good hfree t' cv reads snap d hb) hne)
        (ntfd := fun _ _ hc => by cases hc)
    · cases hg
  · simp only [hd, if_false] at hm
    cases hm
    have hh := hj.hold1 t hd hw
    split at hg
    · rename_i hfree; rw [hh] at hfree; cases hfree
    cases hg
    obtain ⟨_, _, hdep⟩ := hj.hold2 t hh
    exact hj.step_run (hw := hw) (hrun := hrun)
      (others := fun _ => hj.others hh)
      (woken := fun _ _ => Woken.refl)
      (holder := Or.inr hh)
      (hold1 := fun _ _ => hh)
      (hold2 := fun _ => ⟨by simp, hw, by simp [hdep]⟩)
      (lost := fun _ _ _ _ _ hb hne => ⟨hh, hj.lost_at hh hb hne⟩)
      (ntfd := fun _ => hj.ntfd t hh)

/-- a thread whose obligations are discharged leaves no blocked thread with a changed guard -/
theorem J.no_lost {n} {cfg : Cfg} {g : G n} {ms : Fin n → Mon} (hj : J cfg g ms) {t : Fin n}
    (hh : g.holder = some t) (hs : (ms t).need.isEmpty = true)
    {t' : Fin n} {cv reads snap d} (hb : g.ts t' = .blocked cv reads snap d) :
    reads.map (fun a => g.ver a cv) = snap := by
  apply Classical.byContradiction
  intro hne
  have hc := hj.lost_at hh hb hne
  rw [List.isEmpty_iff.mp hs] at hc; cases hc

theorem step_rel {n} {cfg : Cfg} {g g' : G n} {ms : Fin n → Mon} {t w : Fin n} {m' : Mon}
    (hj : J cfg g ms) (hm : mstep cfg (ms t) .rel = some m') (hg : gstep cfg g t .rel w = some g') :
    J cfg g' (upd ms t m') := by
  simp only [mstep] at hm
  split at hm
  · cases hm
  rename_i hwd
  simp only [Bool.or_eq_true, beq_iff_eq, not_or, Bool.not_eq_true] at hwd
  obtain ⟨hw, hd⟩ := hwd
  have hh := hj.hold1 t hd hw
  obtain ⟨_, _, hdep⟩ := hj.hold2 t hh
  simp only [gstep] at hg
  split at hg
  · cases hg
  by_cases hd1 : (ms t).depth = 1
  · simp only [hd1, if_true] at hm
    split at hm
    rotate_left
    · cases hm
    rename_i hs
    cases hm
    have hle : g.depth ≤ 1 := by omega
    simp only [hle, if_true] at hg
    cases hg
    exact hj.step_run (hw := rfl) (hrun := hj.run t hw)
      (others := fun _ => hj.others hh)
      (woken := fun _ _ => Woken.refl)
      (holder := Or.inl rfl)
      (hold1 := fun h => absurd rfl h)
      (hold2 := fun h => by cases h)
      (lost := fun _ _ _ _ _ hb hne => absurd (hj.no_lost hh hs hb) hne)
      (ntfd := fun h => by cases h)
  · simp only [hd1, if_false] at hm
    cases hm
    have hle : ¬ g.depth ≤ 1 := by omega
    simp only [hle, if_false] at hg
    cases hg
    exact hj.step_run (hw := hw) (hrun := hj.run t hw)
      (others := fun _ => hj.others hh)
      (woken := fun _ _ => Woken.refl)
      (holder := Or.inr hh)
      (hold1 := fun _ _ => hh)
      (hold2 := fun _ => show (ms t).depth - 1 ≠ 0 ∧ (ms t).waiting = false ∧ g.depth - 1 = (ms t).depth - 1 from
        ⟨by omega, hw, by omega⟩)
      (lost := fun _ _ _ _ _ hb hne => ⟨hh, hj.lost_at hh hb hne⟩)
      (ntfd := fun _ => hj.ntfd t hh)

theorem step_waitB {n} {cfg : Cfg} {g g' : G n} {ms : Fin n → Mon} {t w : Fin n} {m' : Mon} {mt cv reads}
    (hj : J cfg g ms) (hm : mstep cfg (ms t) (.waitB mt cv reads) = some m')
    (hg : gstep cfg g t (.waitB mt cv reads) w = some g') :
    J cfg g' (upd ms t m') := by
  simp only [mstep] at hm
  split at hm
  rotate_left
  · cases hm
  rename_i hc
  cases hm
  simp only [Bool.and_eq_true, Bool.not_eq_true', bne_iff_ne, ne_eq] at hc
  obtain ⟨⟨⟨⟨hw, hd⟩, hs⟩, hok⟩, hrd⟩ := hc
  have hh := hj.hold1 t hd hw
  obtain ⟨_, _, hdep⟩ := hj.hold2 t hh
  simp only [gstep] at hg
  split at hg
  · cases hg
  cases hg
  refine hj.step
    (others := fun _ => hj.others hh)
    (woken := fun _ hit => Woken.of_eq (if_neg hit))
    (holder := Or.inl rfl)
    (hold1 := fun _ h => by cases h)
    (hold2 := fun h => by cases h)
    (run := fun h => by cases h)
    (wait := fun _ => ⟨hd, Or.inl ⟨cv, reads, reads.map (fun a => g.ver a cv), by simp [hdep]⟩⟩)
    (lost := ?_)
    (ntfd := fun h => by cases h)
    (rds := ?_)
  · intro t' cv' reads' snap d hb hne
    by_cases hit : t' = t
    · subst hit
      simp only [if_true, TS.blocked.injEq] at hb
      obtain ⟨rfl, rfl, rfl, _⟩ := hb
      exact absurd rfl hne
    · simp only [hit, if_false] at hb
      exact absurd (hj.no_lost hh hs hb) hne
  · intro cv' reads' snap d hb
    simp only [if_true, TS.blocked.injEq] at hb
    obtain ⟨rfl, rfl, rfl, _⟩ := hb
    simp only [List.all_eq_true] at hrd
    exact ⟨hok, hrd⟩

theorem step_wake {n} {cfg : Cfg} {g g' : G n} {ms : Fin n → Mon} {t w : Fin n} {m' : Mon}
    (hj : J cfg g ms) (hm : mstep cfg (ms t) .wake = some m') (hg : gstep cfg g t .wake w = some g') :
    J cfg g' (upd ms t m') := by
  simp only [mstep] at hm
  split at hm
  rotate_left
  · cases hm
  rename_i hw
  cases hm
  obtain ⟨hd, hts⟩ := hj.wait t hw
  simp only [gstep] at hg
  split at hg
  · cases hg
  rename_i hfree
  simp only [ne_eq, Decidable.not_not] at hfree
  -- in both cases (blocked / notified) the thread resumes at its saved depth
  have key : g' = { g with holder := some t, depth := (ms t).depth, ts := fun i => if i = t then .run else g.ts i } := by
    rcases hts with ⟨cv, r, s, hb⟩ | hb <;> (rw [hb] at hg; simp only [Option.some.injEq] at hg; exact hg.symm)
  subst key
  refine hj.step_run (hw := rfl) (hrun := if_pos rfl)
    (others := fun i _ => hj.nobody hfree i)
    (woken := fun _ hit => Woken.of_eq (if_neg hit))
    (holder := Or.inr rfl)
    (hold1 := fun _ _ => rfl)
    (hold2 := fun _ => ⟨hd, rfl, rfl⟩)
    (lost := ?_)
    (ntfd := fun _ _ hc => by cases hc)
  intro t' cv reads snap d hb hne
  by_cases hit : t' = t
  · subst hit; simp at hb
  · simp only [hit, if_false] at hb
    exact absurd (hj.good hfree t' cv reads snap d hb) hne

theorem wakeAll_blocked {cv : Cv} {x : TS} {c r s d} (h : wakeAll cv x = .blocked c r s d) :
    x = .blocked c r s d ∧ c ≠ cv := by
  cases x with
  | blocked c' r' s' d' =>
    simp only [wakeAll] at h
    split at h
    · cases h
    · rename_i hne; cases h; exact ⟨rfl, hne⟩
  | run => simp [wakeAll] at h
  | notified d => simp [wakeAll] at h

theorem blockedOn_wakeAll {cv cv' : Cv} {x : TS} (h : blockedOn (wakeAll cv x) cv' = true) :
    blockedOn x cv' = true ∧ cv' ≠ cv := by
  obtain ⟨r, s, d, hb⟩ := blockedOn_true h
  obtain ⟨rfl, hne⟩ := wakeAll_blocked hb
  exact ⟨by simp [blockedOn], hne⟩

/-- common part of `notify` / `notify_all`: some blocked threads become notified -/
theorem step_notify_gen {n} {cfg : Cfg} {g : G n} {ms : Fin n → Mon} {t : Fin n} {cv : Cv}
    (ts' : Fin n → TS) (nt' nd' : List Cv)
    (hj : J cfg g ms) (hw : (ms t).waiting = false) (hd : (ms t).depth ≠ 0)
    (hwk : ∀ i, Woken (g.ts i) (ts' i))
    (hnew : ∀ c ∈ nt', c ∈ (ms t).ntf ∨ (c = cv ∧ ∀ t', blockedOn (ts' t') cv = false))
    (hneed : ∀ c ∈ (ms t).need, c ∈ nd' ∨ (c = cv ∧ ∀ t', blockedOn (ts' t') cv = false)) :
    J cfg { g with ts := ts' } (upd ms t { ms t with need := nd', ntf := nt' }) := by
  have hh := hj.hold1 t hd hw
  refine hj.step_run (hw := hw) (hrun := (hwk t).run (hj.run t hw))
    (others := fun _ => hj.others hh)
    (woken := fun i _ => hwk i)
    (holder := Or.inr hh)
    (hold1 := fun _ _ => hh)
    (hold2 := fun _ => hj.hold2 t hh)
    (lost := ?_)
    (ntfd := ?_)
  · intro t' cv' reads snap d hb hne
    refine ⟨hh, ?_⟩
    rcases hneed cv' (hj.lost_at hh ((hwk t').blocked hb) hne) with hc' | ⟨rfl, hall⟩
    · exact hc'
    · have := hall t'
      rw [show ts' t' = _ from hb] at this
      simp [blockedOn] at this
  · intro _ cv' hc t'
    rcases hnew cv' hc with hc | ⟨rfl, hall⟩
    · cases hbo : blockedOn (ts' t') cv' with
      | false => rfl
      | true =>
        obtain ⟨r, s, d, hb⟩ := blockedOn_true hbo
        have := hj.ntfd _ hh cv' hc t'
        rw [(hwk t').blocked hb] at this
        simp [blockedOn] at this
    · exact hall t'

theorem anyBlocked_false {n} {g : G n} {cv : Cv} (h : anyBlocked g cv = false) (i : Fin n) :
    blockedOn (g.ts i) cv = false := by
  cases hb : blockedOn (g.ts i) cv with
  | false => rfl
  | true =>
    have : anyBlocked g cv = true := by
      simp only [anyBlocked, List.any_eq_true]
      exact ⟨i, List.mem_finRange i, hb⟩
    rw [h] at this; cases this

theorem all_woken (cv : Cv) (x : TS) : blockedOn (wakeAll cv x) cv = false := by
  cases hbo : blockedOn (wakeAll cv x) cv with
  | false => rfl
  | true => exact absurd rfl (blockedOn_wakeAll hbo).2

theorem need_filter {need : List Cv} {cv : Cv} {P : Prop} (hall : P) :
    ∀ c ∈ need, c ∈ need.filter (fun c => c != cv) ∨ (c = cv ∧ P) := by
  intro c hc
  by_cases hcv : c = cv
  · exact Or.inr ⟨hcv, hall⟩
  · exact Or.inl (by simp [List.mem_filter, hc, hcv])

theorem step_ntfAll {n} {cfg : Cfg} {g g' : G n} {ms : Fin n → Mon} {t w : Fin n} {m' : Mon} {cv}
    (hj : J cfg g ms) (hm : mstep cfg (ms t) (.ntfAll cv) = some m') (hg : gstep cfg g t (.ntfAll cv) w = some g') :
    J cfg g' (upd ms t m') := by
  simp only [mstep] at hm
  split at hm
  rotate_left
  · cases hm
  rename_i hc
  cases hm
  simp only [Bool.and_eq_true, Bool.not_eq_true', bne_iff_ne, ne_eq] at hc
  obtain ⟨hw, hd⟩ := hc
  simp only [gstep] at hg
  split at hg
  · cases hg
  cases hg
  have hall : ∀ t', blockedOn (wakeAll cv (g.ts t')) cv = false := fun t' => all_woken cv _
  apply step_notify_gen (cv := cv) _ _ _ hj hw hd (fun i => woken_wakeAll cv _)
  · intro c hc
    simp only [List.mem_cons] at hc
    rcases hc with rfl | hc
    · exact Or.inr ⟨rfl, hall⟩
    · exact Or.inl hc
  · exact need_filter hall

theorem step_ntf {n} {cfg : Cfg} {g g' : G n} {ms : Fin n → Mon} {t w : Fin n} {m' : Mon} {mt cv}
    (hj : J cfg g ms) (hsingle : Single cfg g)
    (hm : mstep cfg (ms t) (.ntf mt cv) = some m') (hg : gstep cfg g t (.ntf mt cv) w = some g') :
    J cfg g' (upd ms t m') := by
  simp only [mstep] at hm
  split at hm
  rotate_left
  · cases hm
  rename_i hc
  simp only [Bool.and_eq_true, Bool.not_eq_true', bne_iff_ne, ne_eq] at hc
  obtain ⟨hw, hd⟩ := hc
  simp only [Option.some.injEq] at hm
  simp only [gstep] at hg
  split at hg
  · cases hg
  -- the new thread states: at most the picked waiter changes
  obtain ⟨ts', rfl, hpt, hall⟩ : ∃ ts', g' = { g with ts := ts' } ∧ (∀ i, Woken (g.ts i) (ts' i)) ∧
      (cfg.nExempt mt cv = true → ∀ t', blockedOn (ts' t') cv = false) := by
    split at hg
    · rename_i hbw
      cases hg
      refine ⟨_, rfl, ?_, ?_⟩
      · intro i
        split
        · exact woken_wakeAll cv _
        · exact Woken.refl
      · intro hex t'
        by_cases htw : t' = w
        · subst htw
          simp only [if_true]
          exact all_woken cv _
        · simp only [htw, if_false]
          cases hbo : blockedOn (g.ts t') cv with
          | false => rfl
          | true => exact absurd (hsingle mt cv hex t' w hbo hbw) htw
    · split at hg
      · cases hg
      rename_i hnone
      simp only [Bool.not_eq_true] at hnone
      cases hg
      exact ⟨g.ts, rfl, fun i => Woken.refl, fun _ => anyBlocked_false hnone⟩
  by_cases hex : cfg.nExempt mt cv = true
  · simp only [hex, if_true] at hm
    subst hm
    apply step_notify_gen (cv := cv) _ _ _ hj hw hd hpt
    · intro c hc
      simp only [List.mem_cons] at hc
      rcases hc with rfl | hc
      · exact Or.inr ⟨rfl, hall hex⟩
      · exact Or.inl hc
    · exact need_filter (hall hex)
  · simp only [hex] at hm
    subst hm
    exact step_notify_gen (cv := cv) ts' (ms t).ntf (ms t).need hj hw hd hpt
      (fun c hc => Or.inl hc) (fun c hc => Or.inl hc)

/-- A thread blocked on `cv` whose guard was unchanged under `g.ver` and is changed under `ver'`, where the two
differ only at attribute `a` for the conditions that method `mt` is not exempt from notifying: the guard reads `a`,
so the write of `a` in `mt` owes `cv` a notification. -/
theorem stale_wr {n} {cfg : Cfg} {g : G n} {ms : Fin n → Mon} (hj : J cfg g ms) {t' : Fin n} {cv reads d}
    {mt : Meth} {a : Attr} (hb : g.ts t' = .blocked cv reads (reads.map (fun x => g.ver x cv)) d)
    {ver' : Attr → Cv → Nat} (hver : ∀ x, ver' x cv ≠ g.ver x cv → x = a ∧ cfg.wExempt mt a cv = false)
    (hne : reads.map (fun x => ver' x cv) ≠ reads.map (fun x => g.ver x cv)) : cv ∈ cfg.owed mt a := by
  obtain ⟨x, hx, hxne⟩ := map_ne hne
  obtain ⟨rfl, hex⟩ := hver x hxne
  obtain ⟨hok, hrd⟩ := hj.rds t' cv reads _ d hb
  exact cv_mem_owed hok (hrd x hx) hex

theorem step_wr {n} {cfg : Cfg} {g g' : G n} {ms : Fin n → Mon} {t w : Fin n} {m' : Mon} {mt a}
    (hj : J cfg g ms) (hm : mstep cfg (ms t) (.wr mt a) = some m') (hg : gstep cfg g t (.wr mt a) w = some g') :
    J cfg g' (upd ms t m') := by
  simp only [gstep] at hg
  split at hg
  · cases hg
  cases hg
  -- the version counters move only at `a`, for the conditions `mt` is not exempt from
  have hver : ∀ cv x, (if x = a ∧ cfg.wExempt mt a cv = false then g.ver x cv + 1 else g.ver x cv) ≠ g.ver x cv →
      x = a ∧ cfg.wExempt mt a cv = false :=
    fun cv x hx => Classical.byContradiction fun hcon => hx (if_neg hcon)
  simp only [mstep] at hm
  split at hm
  · cases hm
  rename_i hw
  simp only [Bool.not_eq_true] at hw
  split at hm
  · -- nothing owed: `t` need not hold the lock; the monitors stay as they are and no blocked thread sees a change
    rename_i he
    cases hm
    rw [upd_self]
    refine ⟨hj.hold1, hj.hold2, hj.run, hj.wait, ?_, hj.ntfd, hj.rds⟩
    intro t' cv reads snap d hb hne
    by_cases hold : reads.map (fun x => g.ver x cv) = snap
    · -- the guard was unchanged before this write: the write is relevant for `cv`, yet owes nothing
      subst hold
      have := stale_wr hj hb (hver cv) hne
      rw [List.isEmpty_iff.mp he] at this; cases this
    · exact hj.lost t' cv reads snap d hb hold
  · -- something owed: `t` holds the lock
    split at hm
    · cases hm
    rename_i hd
    cases hm
    have hh := hj.hold1 t hd hw
    refine hj.step_run (hw := hw) (hrun := hj.run t hw)
      (others := fun _ => hj.others hh)
      (woken := fun _ _ => Woken.refl)
      (holder := Or.inr hh)
      (hold1 := fun _ _ => hh)
      (hold2 := fun _ => hj.hold2 t hh)
      (lost := ?_)
      (ntfd := fun _ => hj.ntfd t hh)
    intro t' cv reads snap d hb hne
    refine ⟨hh, ?_⟩
    by_cases hold : reads.map (fun x => g.ver x cv) = snap
    · -- the guard was unchanged before this write: the write is relevant for `cv`, which is owed a notification
      subst hold
      have ho := stale_wr hj hb (hver cv) hne
      by_cases hn : cv ∈ (ms t).ntf
      · -- already notified in this region: nobody is blocked on it
        have := hj.ntfd t hh cv hn t'
        rw [show g.ts t' = _ from hb] at this
        simp [blockedOn] at this
      · exact List.mem_append_left _ (by simp [List.mem_filter, ho, hn])
    · exact List.mem_append_right _ (hj.lost_at hh hb hold)

theorem step_inv {n} {cfg : Cfg} {g g' : G n} {ms : Fin n → Mon} {t w : Fin n} {e : Ev} {m' : Mon}
    (hj : J cfg g ms) (hsingle : Single cfg g)
    (hm : mstep cfg (ms t) e = some m') (hg : gstep cfg g t e w = some g') : J cfg g' (upd ms t m') := by
  cases e with
  | acq => exact step_acq hj hm hg
  | rel => exact step_rel hj hm hg
  | waitB mt cv reads => exact step_waitB hj hm hg
  | wake => exact step_wake hj hm hg
  | ntf mt cv => exact step_ntf hj hsingle hm hg
  | ntfAll cv => exact step_ntfAll hj hm hg
  | wr mt a => exact step_wr hj hm hg

theorem lock_held {n} {cfg : Cfg} {g : G n} {ms : Fin n → Mon} {t : Fin n} {e : Ev} {m' : Mon}
    (hj : J cfg g ms) (hm : mstep cfg (ms t) e = some m') (hn : needsLock e = true) : g.holder = some t := by
  have key : (ms t).waiting = false ∧ (ms t).depth ≠ 0 := by
    cases e with
    | acq | wake | wr _ _ => simp [needsLock] at hn
    | rel =>
      simp only [mstep] at hm
      split at hm
      · cases hm
      rename_i h
      simp only [Bool.or_eq_true, beq_iff_eq, not_or, Bool.not_eq_true] at h
      exact h
    | waitB mt cv reads =>
      simp only [mstep] at hm
      split at hm
      · rename_i h
        simp only [Bool.and_eq_true, Bool.not_eq_true', bne_iff_ne, ne_eq] at h
        exact h.1.1.1
      · cases hm
    | ntf _ _ | ntfAll _ =>
      simp only [mstep] at hm
      split at hm
      · rename_i h
        simp only [Bool.and_eq_true, Bool.not_eq_true', bne_iff_ne, ne_eq] at h
        exact h
      · cases hm
  exact hj.hold1 t key.2 key.1

/-- the monitor accepts `l` followed by some continuation -/
def Acc (cfg : Cfg) (m : Mon) (l : List Ev) : Prop := ∃ ext m', mrun cfg m (l ++ ext) = some m'

theorem acc_cons {cfg : Cfg} {m : Mon} {e : Ev} {l : List Ev} (h : Acc cfg m (e :: l)) :
    ∃ m1, mstep cfg m e = some m1 ∧ Acc cfg m1 l := by
  obtain ⟨ext, m', h⟩ := h
  simp only [List.cons_append, mrun] at h
  split at h
  · rename_i m1 h1; exact ⟨m1, h1, ext, m', h⟩
  · cases h

theorem proj_cons_same {n} (t w : Fin n) (e : Ev) (rest : Sched n) :
    proj ((t, e, w) :: rest) t = e :: proj rest t := by simp [proj]

theorem proj_cons_other {n} (t i w : Fin n) (e : Ev) (rest : Sched n) (h : t ≠ i) :
    proj ((t, e, w) :: rest) i = proj rest i := by simp [proj, h]

theorem run_good {n} (cfg : Cfg) (σ : Sched n) : ∀ (g : G n) (ms : Fin n → Mon), J cfg g ms →
    (∀ i, Acc cfg (ms i) (proj σ i)) → runGood cfg g σ := by
  induction σ with
  | nil => intro g ms _ _; trivial
  | cons x rest ih =>
    obtain ⟨t, e, w⟩ := x
    intro g ms hj hacc
    have ht := hacc t
    rw [proj_cons_same] at ht
    obtain ⟨m1, hm1, hacc1⟩ := acc_cons ht
    simp only [runGood]
    refine ⟨lock_held hj hm1, ?_⟩
    split
    · trivial
    · rename_i g' hg
      intro hsingle
      have hj' := step_inv hj hsingle hm1 hg
      refine ⟨hj'.good, ih g' (upd ms t m1) hj' ?_⟩
      intro i
      by_cases hit : i = t
      · subst hit; simpa using hacc1
      · have := hacc i
        rw [proj_cons_other t i w e rest (fun h => hit h.symm)] at this
        rw [upd_other _ _ _ _ hit]; exact this

/-- a thread that runs entry points of a disciplined program is accepted by the monitor -/
theorem thread_accepted (cfg : Cfg) (P : List Stmt) (E : List Meth) (hP : disciplineOk cfg P E = true)
    {tr : List Ev} (h : ThreadRuns P E tr) : ∀ m, Le A.empty m 0 → ∃ m', mrun cfg m tr = some m' ∧ Le A.empty m' 0 := by
  induction h with
  | nil => intro m hm; exact ⟨m, rfl, hm⟩
  | @cons mt t c u hmem hr _ ih =>
    intro m hm
    have hok : entryOk cfg P E mt = true := by
      simp only [disciplineOk, List.all_eq_true] at hP
      exact hP mt hmem
    simp only [entryOk, Option.isSome_iff_exists] at hok
    obtain ⟨r, hr0⟩ := hok
    have hE : ∀ m ∈ E, entryOk cfg P E m = true := by
      simpa [disciplineOk, List.all_eq_true] using hP
    obtain ⟨m1, hrun, hm1⟩ := post_depth0 (chk_sound cfg P E hE _ _ _ hr _ _ _ _ m hr0 hm) hm.need_nil
    obtain ⟨m2, hrun2, hm2⟩ := ih m1 hm1
    exact ⟨m2, by rw [mrun_append, hrun]; exact hrun2, hm2⟩

/-- **Soundness of the monitor discipline, once for all programs.**  If every entry point of `E`
passes the syntactic check, then for any number of threads, each running any sequence of entry
points (early exits anywhere), under every interleaving with spurious wake-ups, as long as the
single-waiter assumption of the `notifyExempt` table holds: every `wait`/`notify`/`notify_all`/release
happens with the lock held, and whenever the lock is free, no thread blocked in `cv.wait()` has had
an attribute of its guard written (by a non-exempt write) since it started to wait - every change
that could make its guard true has notified it. -/
theorem monitor_sound (cfg : Cfg) (P : List Stmt) (E : List Meth) (hP : disciplineOk cfg P E = true)
    (n : Nat) (σ : Sched n)
    (hthreads : ∀ i, ∃ full, ThreadRuns P E full ∧ ∃ ext, proj σ i ++ ext = full) :
    runGood cfg (G.init n) σ := by
  apply run_good cfg σ _ (fun _ => Mon.init) (J.init cfg)
  intro i
  obtain ⟨full, hr, ext, hext⟩ := hthreads i
  obtain ⟨m', hrun, _⟩ := thread_accepted cfg P E hP hr Mon.init ⟨rfl, rfl, by simp [Mon.init], by simp [A.empty]⟩
  exact ⟨ext, m', by rw [hext]; exact hrun⟩

/-- `runGood` gives `Good` for the state reached by an executable run (under the single-waiter
assumption along the way) -/
theorem runGood_grun {n} (cfg : Cfg) (hS : ∀ g : G n, Single cfg g) :
    ∀ (σ : Sched n) (g g' : G n), runGood cfg g σ → Good g → grun cfg g σ = some g' → Good g' := by
  intro σ
  induction σ with
  | nil => intro g g' _ hg h; simp only [grun, Option.some.injEq] at h; subst h; exact hg
  | cons x rest ih =>
    obtain ⟨t, e, w⟩ := x
    intro g g' hr hg h
    simp only [grun] at h
    simp only [runGood] at hr
    split at h
    · cases h
    · rename_i g1 h1
      rw [h1] at hr
      obtain ⟨hg1, hr1⟩ := hr.2 (hS g)
      exact ih g1 g' hr1 hg1 h

theorem lostB_not_good {n} {g : G n} (h : lostB g = true) : ¬ Good g := by
  intro hg
  simp only [lostB, Bool.and_eq_true, Option.isNone_iff_eq_none, List.any_eq_true] at h
  obtain ⟨hfree, t, _, ht⟩ := h
  split at ht
  · rename_i cv reads snap d hb
    have := hg hfree t cv reads snap d hb
    simp [this] at ht
  · cases ht

theorem good_of_lostB_false {n} {g : G n} (h : lostB g = false) : Good g := by
  intro hfree t cv reads snap d hb
  apply Classical.byContradiction
  intro hne
  have : lostB g = true := by
    simp only [lostB, Bool.and_eq_true, Option.isNone_iff_eq_none, List.any_eq_true]
    refine ⟨hfree, t, List.mem_finRange t, ?_⟩
    rw [hb]
    simpa using hne
  rw [h] at this; cases this

/-! ## `notify` vs `notify_all`: the counter-example as a theorem -/
namespace Demo

/-- one lock 0, one condition 0 on it, whose waiters read attribute 0; no exemptions -/
def cfg : Cfg := ⟨0, true, [(0, 0)], [(0, [0])], [], [], []⟩

/-- method 0: `with lock: while <reads a0>: cv.wait()`; method 1: `with lock: a0 = ..; cv.notify()`;
method 2: the same with `notify_all()` -/
def waiter : Stmt := .withLock 0 (.loop (.tryc (.wait 0 0 .whileG [0] false) .skip))
def writerNotify : Stmt := .withLock 0 (.seq (.write 1 0) (.notify 1 0))
def writerNotifyAll : Stmt := .withLock 0 (.seq (.write 2 0) (.notifyAll 2 0))
def prog : List Stmt := [waiter, writerNotify, writerNotifyAll]

/-- threads 0 and 1 wait, thread 2 writes and wakes ONE waiter (thread 0) -/
def schedNotify : Sched 3 :=
  [(0, .acq, 0), (0, .waitB 0 0 [0], 0), (1, .acq, 0), (1, .waitB 0 0 [0], 0),
   (2, .acq, 0), (2, .wr 1 0, 0), (2, .ntf 1 0, 0), (2, .rel, 0)]

def schedNotifyAll : Sched 3 :=
  [(0, .acq, 0), (0, .waitB 0 0 [0], 0), (1, .acq, 0), (1, .waitB 0 0 [0], 0),
   (2, .acq, 0), (2, .wr 2 0, 0), (2, .ntfAll 0, 0), (2, .rel, 0)]

end Demo

/-- the discipline accepts the `notify_all` writer and rejects the plain `notify` writer -/
theorem demo_check : disciplineOk Demo.cfg Demo.prog [0, 2] = true ∧ disciplineOk Demo.cfg Demo.prog [0, 1] = false := by
  decide

/-- **`notify` with two waiters loses a wake-up**: after the schedule the lock is free, the
attribute has changed, one waiter was notified and the other is still blocked on the old value -/
theorem notify_two_waiters_lost :
    ∃ g, grun Demo.cfg (G.init 3) Demo.schedNotify = some g ∧ ¬ Good g ∧ nBlocked g 0 = 1 ∧ g.ts 0 = .notified 1 := by
  have h : ((grun Demo.cfg (G.init 3) Demo.schedNotify).map (fun g => (lostB g, nBlocked g 0, g.ts 0)))
      = some (true, 1, .notified 1) := by decide
  cases hg : grun Demo.cfg (G.init 3) Demo.schedNotify with
  | none => rw [hg] at h; cases h
  | some g =>
    rw [hg] at h
    simp only [Option.map_some, Option.some.injEq, Prod.mk.injEq] at h
    exact ⟨g, rfl, lostB_not_good h.1, h.2.1, h.2.2⟩

/-- the same schedule with `notify_all`: nobody stays blocked, `Good` holds -/
theorem notifyAll_two_waiters_woken :
    ∃ g, grun Demo.cfg (G.init 3) Demo.schedNotifyAll = some g ∧ Good g ∧ nBlocked g 0 = 0
      ∧ g.ts 0 = .notified 1 ∧ g.ts 1 = .notified 1 := by
  have h : ((grun Demo.cfg (G.init 3) Demo.schedNotifyAll).map (fun g => (lostB g, nBlocked g 0, g.ts 0, g.ts 1)))
      = some (false, 0, .notified 1, .notified 1) := by decide
  cases hg : grun Demo.cfg (G.init 3) Demo.schedNotifyAll with
  | none => rw [hg] at h; cases h
  | some g =>
    rw [hg] at h
    simp only [Option.map_some, Option.some.injEq, Prod.mk.injEq] at h
    exact ⟨g, rfl, good_of_lostB_false h.1, h.2.1, h.2.2.1, h.2.2.2⟩

end NfcVerif.Monitor
